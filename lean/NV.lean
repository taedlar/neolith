-- GENERATED by tools/gen_main.py: root of the NV library
import NV.C01.Builders
import NV.C01.Drive
import NV.C01.EfunCheck
import NV.C01.ErrBuf
import NV.C01.FunPtr
import NV.C01.Guards
import NV.C01.IndexOps
import NV.C01.PropsBuilders
import NV.C01.PropsEfun
import NV.C01.PropsIndex
import NV.C01.PropsLrange
import NV.C01.PropsMisc
import NV.C01.PropsNoUb
import NV.C01.PropsRange
import NV.C01.PropsSwitch
import NV.C01.PropsWrap
import NV.C01.Search
import NV.C01.Spec
import NV.C01.SpecProps
import NV.C01.Stack
import NV.C01.Switch
import NV.C01.Witness
import NV.C02.Blocks
import NV.C02.Drive
import NV.C02.Emit
import NV.C02.Idents
import NV.C02.LemmasBuf
import NV.C02.LexBuf
import NV.C02.Lexer
import NV.C02.Locals
import NV.C02.Model
import NV.C02.Oracle
import NV.C02.Props
import NV.C02.PropsReset
import NV.C02.PropsTie
import NV.C02.PropsWidth
import NV.C02.Scratchpad
import NV.C02.Spec
import NV.C02.Witness
import NV.C03.ArrayHeap
import NV.C03.Drive
import NV.C03.Frontend
import NV.C03.HashMap
import NV.C03.HashMapRefines
import NV.C03.Heap
import NV.C03.Int64
import NV.C03.Loops
import NV.C03.Lvalues
import NV.C03.Macro
import NV.C03.MacroDefine
import NV.C03.Model
import NV.C03.Operators
import NV.C03.Ranges
import NV.C03.Rewrites
import NV.C03.Spec
import NV.C03.StringSwitch
import NV.C03.Switch
import NV.C03.Witness
import NV.C04.Drive
import NV.C04.ExecInv
import NV.C04.ExecRule
import NV.C04.Handler
import NV.C04.Loop
import NV.C04.LoopInv
import NV.C04.MapBook
import NV.C04.MapBookInv
import NV.C04.Model
import NV.C04.Props
import NV.C04.Refill
import NV.C04.Save
import NV.C04.SaveDepth
import NV.C04.SizeBounds
import NV.C04.Sizes
import NV.C04.Spec
import NV.C04.SpecTests
import NV.C04.Top
import NV.C04.TopSizes
import NV.C04.Witness
import NV.C05.Backend
import NV.C05.Drive
import NV.C05.Exec
import NV.C05.Model
import NV.C05.Prims
import NV.C05.Props
import NV.C05.Raise
import NV.C05.Spec
import NV.C05.Tie
import NV.C05.Witness
import NV.C06.Drive
import NV.C06.Heap
import NV.C06.Holders
import NV.C06.Invariant
import NV.C06.Model
import NV.C06.Oracle
import NV.C06.Props
import NV.C06.Run
import NV.C06.Spec
import NV.C06.Stats
import NV.C06.Strings
import NV.C06.Witness
import NV.C07.Binary
import NV.C07.Build
import NV.C07.Compress
import NV.C07.Drive
import NV.C07.LemmasArgs
import NV.C07.LemmasBasic
import NV.C07.LemmasBinary
import NV.C07.LemmasBuild
import NV.C07.LemmasBuildInv
import NV.C07.LemmasCache
import NV.C07.LemmasChain
import NV.C07.LemmasCompress
import NV.C07.LemmasFind
import NV.C07.Model
import NV.C07.OracleTests
import NV.C07.Props
import NV.C07.Spec
import NV.C07.Tie
import NV.C07.WF
import NV.C07.Witness
import NV.C08.Anc
import NV.C08.Blocks
import NV.C08.Drive
import NV.C08.Exec
import NV.C08.Invariant
import NV.C08.Model
import NV.C08.Props
import NV.C08.Refine
import NV.C08.Spec
import NV.C08.Tie
import NV.C08.Valid
import NV.C09.BatchThms
import NV.C09.Bridge
import NV.C09.ConnLemmas
import NV.C09.CycleLemmas
import NV.C09.Drive
import NV.C09.ErrLemmas
import NV.C09.HookLemmas
import NV.C09.Inv
import NV.C09.Model
import NV.C09.PreloadThms
import NV.C09.Props
import NV.C09.Spec
import NV.C09.SpecNeg
import NV.C09.TickLemmas
import NV.C09.Total
import NV.C09.TraceThms
import NV.C09.Witness
import NV.C10.Drive
import NV.C10.LemmasArith
import NV.C10.LemmasCum
import NV.C10.LemmasFit
import NV.C10.LemmasInv
import NV.C10.LemmasJudge
import NV.C10.LemmasOps
import NV.C10.LemmasSim
import NV.C10.LemmasSimEfuns
import NV.C10.LemmasSimRun
import NV.C10.LemmasSkeleton
import NV.C10.LemmasSweep
import NV.C10.LemmasTie
import NV.C10.LemmasUsage
import NV.C10.Model
import NV.C10.Props
import NV.C10.PropsNeg
import NV.C10.Spec
import NV.C11.Branches
import NV.C11.Bridge
import NV.C11.Drive
import NV.C11.Lemmas
import NV.C11.Model
import NV.C11.Negative
import NV.C11.Period
import NV.C11.Props
import NV.C11.Search
import NV.C11.Sim
import NV.C11.Spec
import NV.C11.Trace
import NV.C11.Witness
import NV.C12.Basics
import NV.C12.CmdLoop
import NV.C12.Complete
import NV.C12.Drive
import NV.C12.Encoding
import NV.C12.Fifo
import NV.C12.Flag
import NV.C12.Io
import NV.C12.Live
import NV.C12.LiveOracle
import NV.C12.LiveStart
import NV.C12.LiveTable
import NV.C12.Model
import NV.C12.Neg
import NV.C12.NoErr
import NV.C12.Order
import NV.C12.OrderLoop
import NV.C12.OrderOracle
import NV.C12.Ovf
import NV.C12.Props
import NV.C12.Queue
import NV.C12.Run
import NV.C12.Scan
import NV.C12.Script
import NV.C12.Spec
import NV.C12.Trace
import NV.C12.WalkOrder
import NV.C12.Weight
import NV.C12.Witness
import NV.C13.Buffer
import NV.C13.Console
import NV.C13.Decoder
import NV.C13.Drive
import NV.C13.Extract
import NV.C13.Lines
import NV.C13.ModeSwitch
import NV.C13.Model
import NV.C13.Negative
import NV.C13.Props
import NV.C13.Read
import NV.C13.ReadAscii
import NV.C13.Run
import NV.C13.Schedule
import NV.C13.Spec
import NV.C13.SpecMode
import NV.C13.SpecStall
import NV.C13.Step
import NV.C13.Table
import NV.C13.TableTie
import NV.C13.Witness
import NV.C13.XTable
import NV.C14.Drive
import NV.C14.Fit
import NV.C14.Flush
import NV.C14.Model
import NV.C14.Multi
import NV.C14.Props
import NV.C14.PropsClose
import NV.C14.PropsFmt
import NV.C14.PropsHist
import NV.C14.PropsMulti
import NV.C14.PropsNeg
import NV.C14.Ring
import NV.C14.Sim
import NV.C14.Spec
import NV.C14.Telnet
import NV.C15.Drive
import NV.C15.Model
import NV.C15.Negative
import NV.C15.Paths
import NV.C15.Props
import NV.C15.PropsLen
import NV.C15.PropsSys
import NV.C15.Sites
import NV.C15.Spec
import NV.C15.Sys
import NV.C15.Witness
import NV.C16.Drive
import NV.C16.Equations
import NV.C16.Globals
import NV.C16.Hash
import NV.C16.LemmasRt
import NV.C16.Model
import NV.C16.ProofGlobals
import NV.C16.ProofHash
import NV.C16.ProofObject
import NV.C16.ProofRoundtrip
import NV.C16.ProofSave
import NV.C16.ProofTotal
import NV.C16.ProofTree
import NV.C16.Props
import NV.C16.RtDefs
import NV.C16.Spec
import NV.C16.SpecTests
import NV.C16.Tree
import NV.C16.Witness
import NV.C17.BinFile
import NV.C17.BinFileLemmas
import NV.C17.Decision
import NV.C17.Drive
import NV.C17.Model
import NV.C17.QSort
import NV.C17.QSortLemmas
import NV.C17.Relocate
import NV.C17.SortTable
import NV.C17.Spec
import NV.C17.SpecTests
import NV.C17.Top
import NV.C17.Witness
import NV.C18.Drive
import NV.C18.Lemmas
import NV.C18.LemmasFile
import NV.C18.LemmasFileN
import NV.C18.LemmasTrace
import NV.C18.Model
import NV.C18.OracleTests
import NV.C18.Props
import NV.C18.PropsAccept
import NV.C18.PropsBound
import NV.C18.PropsCompile
import NV.C18.PropsDump
import NV.C18.PropsInit
import NV.C18.PropsLex
import NV.C18.PropsOracle
import NV.C18.SourceTexts
import NV.C18.SourceTexts2
import NV.C18.Spec
import NV.C18.Witness
import NV.C19.Blocked
import NV.C19.BlockedCounters
import NV.C19.Drive
import NV.C19.Eventfd
import NV.C19.Global
import NV.C19.LemmasB
import NV.C19.LemmasQ
import NV.C19.LemmasRt
import NV.C19.LemmasWk
import NV.C19.Locks
import NV.C19.LocksProps
import NV.C19.Model
import NV.C19.Negative
import NV.C19.Props
import NV.C19.PropsExt
import NV.C19.Run
import NV.C19.Sched
import NV.C19.Shutdown
import NV.C19.Spec
import NV.C19.Witness
import NV.C19.WitnessPoll
import NV.C20.Consequences
import NV.C20.Drive
import NV.C20.Exec
import NV.C20.Model
import NV.C20.Negative
import NV.C20.Props
import NV.C20.Registry
import NV.C20.Segments
import NV.C20.Spec
import NV.C20.Tie
import NV.Common.Proto
import NV.Gen.C01
import NV.Gen.C02
import NV.Gen.C03
import NV.Gen.C04
import NV.Gen.C05
import NV.Gen.C06
import NV.Gen.C07
import NV.Gen.C08
import NV.Gen.C09
import NV.Gen.C10
import NV.Gen.C11
import NV.Gen.C12
import NV.Gen.C13
import NV.Gen.C14
import NV.Gen.C15
import NV.Gen.C16
import NV.Gen.C17
import NV.Gen.C18
import NV.Gen.C19
import NV.Gen.C20
