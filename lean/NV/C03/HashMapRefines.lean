/-
C03 — the mapping hash table refines the association list of the reference semantics.
For every hash function, fill factor, initial size and growth history (`unfilled` is arbitrary): every inserted
key is found with its value, every other key is unaffected — through assignment (`m[k] = v`), `+` / `+=`
(add_to_mapping = the same step for every pair) and map_delete.  A change that links a node into the wrong bucket
after growMap falsifies `insert_lookup_same`.
-/
import NV.C03.HashMap

namespace NV.C03.HT

variable {K V : Type} [DecidableEq K]

/-- every node is in the bucket its hash selects, and a chain holds a key at most once -/
structure WF (h : K → Nat) (m : Tbl K V) : Prop where
  place : ∀ i e, e ∈ m.tbl i → idx h m.bits e.1 = i
  nodup : ∀ i, ((m.tbl i).map (·.1)).Nodup

theorem chainFind_none_iff (k : K) (c : List (K × V)) : chainFind k c = none ↔ k ∉ c.map (·.1) := by
  induction c with
  | nil => simp [chainFind]
  | cons e es ih =>
    simp only [chainFind, List.map_cons, List.mem_cons, not_or]
    by_cases h : e.1 = k
    · simp [h]
    · rw [if_neg h, ih]
      constructor
      · intro hh; exact ⟨fun e' => h e'.symm, hh⟩
      · intro hh; exact hh.2

/-- `chainSet` replaces the value of `k` where the chain has one and touches no other key -/
theorem chainFind_set (k k' : K) (v : V) (c : List (K × V)) :
    chainFind k' (chainSet k v c) = if k' = k then (chainFind k c).map fun _ => v else chainFind k' c := by
  induction c with
  | nil => exact (ite_self _).symm
  | cons e es ih =>
    unfold chainSet
    by_cases he : e.1 = k
    · rw [if_pos he]
      unfold chainFind
      by_cases hk : k' = k
      · rw [if_pos hk, if_pos (he.trans hk.symm), if_pos he]; rfl
      · rw [if_neg hk, if_neg (fun e' => hk (e'.symm.trans he)), if_neg (fun e' => hk (e'.symm.trans he))]
    · rw [if_neg he]
      unfold chainFind
      rw [ih]
      by_cases hk : k' = k
      · rw [if_pos hk, if_pos hk, if_neg (hk ▸ he), if_neg he]
      · rw [if_neg hk, if_neg hk]

theorem chainSet_keys (k : K) (v : V) (c : List (K × V)) : (chainSet k v c).map (·.1) = c.map (·.1) := by
  induction c with
  | nil => rfl
  | cons e es ih =>
    simp only [chainSet]
    by_cases he : e.1 = k <;> simp [he, ih]

theorem chainFind_filter (k : K) (p : K × V → Bool) (c : List (K × V)) (hp : ∀ e ∈ c, e.1 = k → p e = true) :
    chainFind k (c.filter p) = chainFind k c := by
  induction c with
  | nil => rfl
  | cons e es ih =>
    have ih' := ih (fun e' he' => hp e' (List.mem_cons_of_mem _ he'))
    by_cases he : e.1 = k
    · have := hp e (List.mem_cons_self ..) he
      simp [List.filter, this, chainFind, he]
    · by_cases hpe : p e = true
      · simp [List.filter, hpe, chainFind, he, ih']
      · simp [List.filter, hpe, chainFind, he, ih']

/-- `chainDel` removes `k` from a chain that holds it once and touches no other key -/
theorem chainFind_del (k k' : K) (c : List (K × V)) (hn : k' = k → (c.map (·.1)).Nodup) :
    chainFind k' (chainDel k c) = if k' = k then none else chainFind k' c := by
  induction c with
  | nil => exact (ite_self _).symm
  | cons e es ih =>
    unfold chainDel
    by_cases he : e.1 = k
    · rw [if_pos he]
      by_cases hk : k' = k
      · rw [if_pos hk, chainFind_none_iff, hk, ← he]; exact (List.nodup_cons.mp (hn hk)).1
      · rw [if_neg hk, chainFind, if_neg (fun e' => hk (e'.symm.trans he))]
    · rw [if_neg he, chainFind, chainFind, ih fun hk => (List.nodup_cons.mp (hn hk)).2]
      by_cases hk : k' = k
      · rw [if_pos hk, if_pos hk, if_neg (hk ▸ he)]
      · rw [if_neg hk, if_neg hk]

/-- `chainDel` unlinks the first node with the key -/
theorem chainDel_eq_eraseP (k : K) (c : List (K × V)) : chainDel k c = c.eraseP (fun e => e.1 = k) := by
  induction c with
  | nil => rfl
  | cons a es ih =>
    unfold chainDel
    rw [List.eraseP_cons]
    by_cases he : a.1 = k
    · rw [if_pos he, decide_eq_true he]; rfl
    · rw [if_neg he, decide_eq_false he, ih]; rfl

theorem chainDel_sub (k : K) (c : List (K × V)) : ∀ e, e ∈ chainDel k c → e ∈ c := fun _ he =>
  List.mem_of_mem_eraseP (chainDel_eq_eraseP k c ▸ he)

theorem chainDel_nodup (k : K) (c : List (K × V)) (hn : (c.map (·.1)).Nodup) : ((chainDel k c).map (·.1)).Nodup :=
  chainDel_eq_eraseP k c ▸ hn.sublist (List.eraseP_sublist.map _)

theorem chainFind_some_iff (k : K) (v : V) (c : List (K × V)) (hn : (c.map (·.1)).Nodup) :
    chainFind k c = some v ↔ (k, v) ∈ c := by
  induction c with
  | nil => simp [chainFind]
  | cons e es ih =>
    simp only [List.map_cons, List.nodup_cons] at hn
    simp only [chainFind, List.mem_cons]
    by_cases he : e.1 = k
    · rw [if_pos he]
      constructor
      · intro h; left; cases e; simp at he h; rw [he, h]
      · rintro (h | h)
        · rw [← h]
        · exfalso; apply hn.1; rw [he]; exact List.mem_map.mpr ⟨(k, v), h, rfl⟩
    · rw [if_neg he, ih hn.2]
      constructor
      · intro h; right; exact h
      · rintro (h | h)
        · exfalso; apply he; rw [← h]
        · exact h

theorem chainFind_reverse (k : K) (c : List (K × V)) (hn : (c.map (·.1)).Nodup) :
    chainFind k c.reverse = chainFind k c := by
  have hn' : ((c.reverse).map (·.1)).Nodup := by rw [List.map_reverse]; exact (List.reverse_perm _).nodup_iff.mpr hn
  cases h : chainFind k c with
  | some v =>
    rw [chainFind_some_iff k v _ hn'] 
    exact List.mem_reverse.mpr ((chainFind_some_iff k v c hn).mp h)
  | none =>
    rw [chainFind_none_iff] at h ⊢
    rw [List.map_reverse]; exact fun hh => h (List.mem_reverse.mp hh)

omit [DecidableEq K] in
theorem hbit_lt (h : K → Nat) (b : Nat) (k : K) : hbit h b k = 0 ∨ hbit h b k = 1 := by
  unfold hbit; omega

omit [DecidableEq K] in
theorem idx_succ (h : K → Nat) (b : Nat) (k : K) : idx h (b + 1) k = idx h b k + 2 ^ b * hbit h b k := by
  unfold idx hbit
  exact Nat.mod_pow_succ

omit [DecidableEq K] in
theorem idx_lt (h : K → Nat) (b : Nat) (k : K) : idx h b k < 2 ^ b := by
  unfold idx; exact Nat.mod_lt _ (Nat.two_pow_pos b)

/-- growMap keeps every key reachable: no lookup changes -/
theorem grow_lookup (h : K → Nat) (fill : Nat) (m : Tbl K V) (hw : WF h m) (k : K) :
    lookup h (grow h fill m) k = lookup h m k := by
  unfold lookup
  simp only [grow]
  rw [idx_succ]
  have hlt := idx_lt h m.bits k
  rcases hbit_lt h m.bits k with hb | hb
  · rw [hb, Nat.mul_zero, Nat.add_zero, if_pos hlt]
    apply chainFind_filter
    intro e _ he; simp [he, hb]
  · rw [hb, Nat.mul_one, if_neg (by omega), Nat.add_sub_cancel]
    rw [chainFind_reverse _ _ ((hw.nodup _).sublist ((List.filter_sublist).map _))]
    apply chainFind_filter
    intro e _ he; simp [he, hb]

set_option linter.unusedSectionVars false in  -- `[DecidableEq K]` is not needed
theorem grow_wf (h : K → Nat) (fill : Nat) (m : Tbl K V) (hw : WF h m) : WF h (grow h fill m) := by
  constructor
  · intro i e he
    simp only [grow] at he ⊢
    rw [idx_succ]
    by_cases hi : i < 2 ^ m.bits
    · rw [if_pos hi] at he
      have hm := List.mem_filter.mp he
      have hp := hw.place i e hm.1
      have hb : hbit h m.bits e.1 = 0 := by simpa using hm.2
      rw [hb, hp]; omega
    · rw [if_neg hi] at he
      have hm := List.mem_filter.mp (List.mem_reverse.mp he)
      have hp := hw.place _ e hm.1
      have hb : hbit h m.bits e.1 = 1 := by simpa using hm.2
      rw [hb, hp]; omega
  · intro i
    simp only [grow]
    split
    · exact (hw.nodup i).sublist ((List.filter_sublist).map _)
    · rw [List.map_reverse]
      exact (List.reverse_perm _).nodup_iff.mpr ((hw.nodup _).sublist ((List.filter_sublist).map _))

theorem lookup_setTbl (h : K → Nat) (m : Tbl K V) (i : Nat) (c : List (K × V)) (k : K) :
    lookup h (setTbl m i c) k = if idx h m.bits k = i then chainFind k c else lookup h m k :=
  apply_ite (chainFind k) ..

theorem linkNew_lookup (h : K → Nat) (g : Tbl K V) (k k' : K) (v : V) (cnt : Nat) :
    lookup h (linkNew h g k v cnt) k' = if k' = k then some v else lookup h g k' := by
  show lookup h (setTbl g _ _) k' = _
  rw [lookup_setTbl]
  by_cases hk : k' = k
  · rw [hk, if_pos rfl, if_pos rfl, chainFind, if_pos rfl]
  · rw [if_neg hk]
    by_cases hik : idx h g.bits k' = idx h g.bits k
    · rw [if_pos hik, chainFind, if_neg (Ne.symm hk), ← hik]; rfl
    · rw [if_neg hik]

omit [DecidableEq K] in
/-- replacing one chain keeps the table well formed when the new chain belongs into that bucket and holds a key once -/
theorem setTbl_wf {h : K → Nat} {m : Tbl K V} (hw : WF h m) (i : Nat) (c : List (K × V))
    (hp : ∀ e ∈ c, idx h m.bits e.1 = i) (hn : (c.map (·.1)).Nodup) : WF h (setTbl m i c) := by
  constructor
  · intro j e he
    simp only [setTbl] at he ⊢
    by_cases hj : j = i
    · rw [if_pos hj] at he; rw [hj]; exact hp e he
    · rw [if_neg hj] at he; exact hw.place j e he
  · intro j
    simp only [setTbl]
    by_cases hj : j = i
    · rw [if_pos hj]; exact hn
    · rw [if_neg hj]; exact hw.nodup j

theorem linkNew_wf (h : K → Nat) (g : Tbl K V) (k : K) (v : V) (cnt : Nat) (hg : WF h g)
    (hn : chainFind k (g.tbl (idx h g.bits k)) = none) : WF h (linkNew h g k v cnt) :=
  have w := setTbl_wf hg (idx h g.bits k) ((k, v) :: g.tbl (idx h g.bits k))
    (fun e he => by
      rcases List.mem_cons.mp he with he | he
      · rw [he]
      · exact hg.place _ e he)
    (List.nodup_cons.mpr ⟨(chainFind_none_iff k _).mp hn, hg.nodup _⟩)
  ⟨w.place, w.nodup⟩

/-- find_for_insert on a key that is present: the value is replaced in its chain -/
theorem insert_some (h : K → Nat) (fill : Nat) (m : Tbl K V) (k : K) (v x : V)
    (hf : chainFind k (m.tbl (idx h m.bits k)) = some x) :
    insert h fill m k v = setTbl m (idx h m.bits k) (chainSet k v (m.tbl (idx h m.bits k))) := by
  unfold insert; simp only [hf]

/-- `unfilled` only steers growth.  (Stated with the counter as a variable: comparing `{ m with unfilled := dec16 .. }`
    with `m` directly makes the kernel unfold the 16-bit arithmetic.) -/
theorem lookup_unfilled (h : K → Nat) (m : Tbl K V) (u : Nat) (k : K) :
    lookup h { m with unfilled := u } k = lookup h m k := rfl

omit [DecidableEq K] in
theorem WF.unfilled {h : K → Nat} {m : Tbl K V} (hw : WF h m) (u : Nat) : WF h { m with unfilled := u } :=
  ⟨hw.place, hw.nodup⟩

/-- find_for_insert on a new key: a node is linked into a table `g` - the table itself, with `unfilled` counted down, or
    grown first - that is well formed and answers every lookup as before -/
theorem insert_none (h : K → Nat) (fill : Nat) (m : Tbl K V) (k : K) (v : V)
    (hf : chainFind k (m.tbl (idx h m.bits k)) = none) :
    ∃ g, insert h fill m k v = linkNew h g k v (m.count + 1) ∧
      (WF h m → WF h g ∧ ∀ k', lookup h g k' = lookup h m k') := by
  unfold insert
  simp only [hf]
  split
  · split
    · exact ⟨_, rfl, fun hw => ⟨grow_wf h fill _ (hw.unfilled _),
        fun k' => (grow_lookup h fill _ (hw.unfilled _) k').trans (lookup_unfilled h m _ k')⟩⟩
    · exact ⟨_, rfl, fun hw => ⟨hw.unfilled _, lookup_unfilled h m _⟩⟩
  · exact ⟨_, rfl, fun hw => ⟨hw, fun _ => rfl⟩⟩

/-- after `m[k] = v` the key `k` has the value `v` (in any table) and every other key what it had (in a well-formed one) -/
theorem insert_lookup (h : K → Nat) (fill : Nat) (m : Tbl K V) (k k' : K) (v : V) (hw : k' ≠ k → WF h m) :
    lookup h (insert h fill m k v) k' = if k' = k then some v else lookup h m k' := by
  cases hf : chainFind k (m.tbl (idx h m.bits k)) with
  | some x =>
    rw [insert_some h fill m k v x hf, lookup_setTbl]
    by_cases hik : idx h m.bits k' = idx h m.bits k
    · rw [if_pos hik, chainFind_set, hf, ← hik]; rfl
    · rw [if_neg hik, if_neg fun e : k' = k => hik (e ▸ rfl)]
  | none =>
    obtain ⟨g, hg, hgm⟩ := insert_none h fill m k v hf
    rw [hg, linkNew_lookup]
    exact ite_congr rfl (fun _ => rfl) fun hk => (hgm (hw hk)).2 k'

/-- the inserted key is found with the inserted value — whatever the table size, the fill state and whether this
    insertion makes the table grow -/
theorem insert_lookup_same (h : K → Nat) (fill : Nat) (m : Tbl K V) (k : K) (v : V) :
    lookup h (insert h fill m k v) k = some v :=
  (insert_lookup h fill m k k v (absurd rfl)).trans (if_pos rfl)

/-- every other key keeps its value -/
theorem insert_lookup_other (h : K → Nat) (fill : Nat) (m : Tbl K V) (hw : WF h m) (k k' : K) (v : V) (hk : k' ≠ k) :
    lookup h (insert h fill m k v) k' = lookup h m k' :=
  (insert_lookup h fill m k k' v fun _ => hw).trans (if_neg hk)

theorem insert_wf (h : K → Nat) (fill : Nat) (m : Tbl K V) (hw : WF h m) (k : K) (v : V) : WF h (insert h fill m k v) := by
  cases hf : chainFind k (m.tbl (idx h m.bits k)) with
  | some x =>
    rw [insert_some h fill m k v x hf]
    refine setTbl_wf hw _ _ (fun e he => ?_) (by rw [chainSet_keys]; exact hw.nodup _)
    have : e.1 ∈ (m.tbl (idx h m.bits k)).map (·.1) := by rw [← chainSet_keys k v]; exact List.mem_map_of_mem he
    obtain ⟨x', hx', hxe⟩ := List.mem_map.mp this
    rw [← hxe]; exact hw.place _ x' hx'
  | none =>
    obtain ⟨g, hg, hgm⟩ := insert_none h fill m k v hf
    rw [hg]
    exact linkNew_wf h g k v _ (hgm hw).1 (((hgm hw).2 k).trans hf)

/-- after `map_delete (m, k)` the key `k` is absent (from a well-formed table: a second node with the key would show) and
    every other key has what it had (in any table) -/
theorem delete_lookup (h : K → Nat) (m : Tbl K V) (k k' : K) (hw : k' = k → WF h m) :
    lookup h (delete h m k) k' = if k' = k then none else lookup h m k' := by
  unfold delete
  simp only
  cases hf : chainFind k (m.tbl (idx h m.bits k)) with
  | some x =>
    show lookup h (setTbl m _ _) k' = _
    rw [lookup_setTbl]
    by_cases hik : idx h m.bits k' = idx h m.bits k
    · rw [if_pos hik, chainFind_del k k' _ fun e => (hw e).nodup _, ← hik]; rfl
    · rw [if_neg hik, if_neg fun e : k' = k => hik (e ▸ rfl)]
  | none =>
    by_cases hk : k' = k
    · rw [if_pos hk, hk]; exact hf
    · rw [if_neg hk]

theorem delete_lookup_same (h : K → Nat) (m : Tbl K V) (hw : WF h m) (k : K) : lookup h (delete h m k) k = none :=
  (delete_lookup h m k k fun _ => hw).trans (if_pos rfl)

theorem delete_lookup_other (h : K → Nat) (m : Tbl K V) (k k' : K) (hk : k' ≠ k) :
    lookup h (delete h m k) k' = lookup h m k' :=
  (delete_lookup h m k k' fun e => absurd e hk).trans (if_neg hk)

theorem delete_wf (h : K → Nat) (m : Tbl K V) (hw : WF h m) (k : K) : WF h (delete h m k) := by
  unfold delete
  simp only
  cases hf : chainFind k (m.tbl (idx h m.bits k)) with
  | some x =>
    have w := setTbl_wf hw (idx h m.bits k) (chainDel k (m.tbl (idx h m.bits k)))
      (fun e he => hw.place _ e (chainDel_sub k _ e he)) (chainDel_nodup k _ (hw.nodup _))
    exact ⟨w.place, w.nodup⟩
  | none => exact hw

def keq : K → K → Bool := fun a b => decide (a = b)

theorem keq_iff {a b : K} : keq a b = true ↔ a = b := decide_eq_true_iff

theorem mapLookup_cons (e : K × V) (es : List (K × V)) (k : K) :
    mapLookup keq (e :: es) k = if e.1 = k then some e.2 else mapLookup keq es k := by
  unfold mapLookup
  rw [List.find?_cons]
  by_cases h : e.1 = k
  · rw [keq_iff.mpr h, if_pos h]
  · rw [Bool.eq_false_iff.mpr (mt keq_iff.mp h), if_neg h]

/-- `m[k] = v` on the association list: `k` now has the value `v`, every other key what it had -/
theorem mapLookup_insert (al : List (K × V)) (k k' : K) (v : V) :
    mapLookup keq (mapInsert keq al k v) k' = if k' = k then some v else mapLookup keq al k' := by
  induction al with
  | nil =>
    rw [mapInsert, mapLookup_cons]
    exact ite_congr (propext eq_comm) (fun _ => rfl) (fun _ => rfl)
  | cons e es ih =>
    rw [mapInsert]
    by_cases he : e.1 = k
    · rw [if_pos (keq_iff.mpr he), mapLookup_cons, mapLookup_cons, he]
      by_cases hk : k = k'
      · simp only [if_pos hk, if_pos hk.symm]
      · simp only [if_neg hk, if_neg (Ne.symm hk)]
    · rw [if_neg (mt keq_iff.mp he), mapLookup_cons, mapLookup_cons, ih]
      by_cases hk : k' = k
      · simp only [if_pos hk, if_neg (hk ▸ he)]
      · simp only [if_neg hk]

/-- map_delete on the association list -/
theorem mapLookup_delete (al : List (K × V)) (k k' : K) :
    mapLookup keq (mapDelete keq al k) k' = if k' = k then none else mapLookup keq al k' := by
  induction al with
  | nil => exact (ite_self _).symm
  | cons e es ih =>
    unfold mapDelete at ih ⊢
    rw [List.filter_cons]
    by_cases he : e.1 = k
    · rw [keq_iff.mpr he, if_neg (by decide), ih, mapLookup_cons, he]
      by_cases hk : k' = k
      · simp only [if_pos hk]
      · simp only [if_neg hk, if_neg (Ne.symm hk)]
    · rw [Bool.eq_false_iff.mpr (mt keq_iff.mp he), if_pos (by decide), mapLookup_cons, mapLookup_cons, ih]
      by_cases hk : k' = k
      · simp only [if_pos hk, if_neg (hk ▸ he)]
      · simp only [if_neg hk]

/-- the hash table and the association list answer every lookup alike -/
def Refines (h : K → Nat) (m : Tbl K V) (al : List (K × V)) : Prop := ∀ k, lookup h m k = mapLookup keq al k

inductive Op (K V : Type) where
  | ins (k : K) (v : V)
  | del (k : K)
  /-- `+=` / the copy-and-merge of `+`: add_to_mapping with these pairs -/
  | merge (pairs : List (K × V))

def runHT (h : K → Nat) (fill : Nat) : Tbl K V → List (Op K V) → Tbl K V
  | m, [] => m
  | m, .ins k v :: ops => runHT h fill (insert h fill m k v) ops
  | m, .del k :: ops => runHT h fill (delete h m k) ops
  | m, .merge ps :: ops => runHT h fill (merge h fill m ps) ops

def runAL : List (K × V) → List (Op K V) → List (K × V)
  | al, [] => al
  | al, .ins k v :: ops => runAL (mapInsert keq al k v) ops
  | al, .del k :: ops => runAL (mapDelete keq al k) ops
  | al, .merge ps :: ops => runAL (ps.foldl (fun acc e => mapInsert keq acc e.1 e.2) al) ops

theorem insert_refines (h : K → Nat) (fill : Nat) (m : Tbl K V) (al : List (K × V)) (hw : WF h m) (hr : Refines h m al)
    (k : K) (v : V) : Refines h (insert h fill m k v) (mapInsert keq al k v) := by
  intro k'
  rw [insert_lookup h fill m k k' v fun _ => hw, mapLookup_insert, hr]

theorem merge_refines (h : K → Nat) (fill : Nat) (ps : List (K × V)) :
    ∀ (m : Tbl K V) (al : List (K × V)), WF h m → Refines h m al →
      WF h (merge h fill m ps) ∧ Refines h (merge h fill m ps) (ps.foldl (fun acc e => mapInsert keq acc e.1 e.2) al) := by
  induction ps with
  | nil => intro m al hw hr; exact ⟨hw, hr⟩
  | cons e es ih =>
    intro m al hw hr
    simp only [merge, List.foldl] at ih ⊢
    exact ih _ _ (insert_wf h fill m hw e.1 e.2) (insert_refines h fill m al hw hr e.1 e.2)

/-- **mapping_lookup_after_insert**: for every hash function, fill factor, starting table (any size, any `unfilled`
    countdown — i.e. every growth history) and every sequence of `m[k] = v`, `map_delete`, `+=` / `+`, the hash
    table answers every lookup exactly like the association list of the reference semantics -/
theorem mapping_lookup_after_insert (h : K → Nat) (fill : Nat) (ops : List (Op K V)) :
    ∀ (m : Tbl K V) (al : List (K × V)), WF h m → Refines h m al →
      WF h (runHT h fill m ops) ∧ Refines h (runHT h fill m ops) (runAL al ops) := by
  induction ops with
  | nil => intro m al hw hr; exact ⟨hw, hr⟩
  | cons op ops ih =>
    intro m al hw hr
    cases op with
    | ins k v => exact ih _ _ (insert_wf h fill m hw k v) (insert_refines h fill m al hw hr k v)
    | del k =>
      apply ih _ _ (delete_wf h m hw k)
      intro k'
      rw [delete_lookup h m k k' fun _ => hw, mapLookup_delete, hr]
    | merge ps =>
      obtain ⟨hw', hr'⟩ := merge_refines h fill ps m al hw hr
      exact ih _ _ hw' hr'

/-- the empty table of allocate_mapping refines the empty mapping -/
theorem empty_refines (h : K → Nat) (bits fill : Nat) : WF h (empty bits fill : Tbl K V) ∧ Refines h (empty bits fill : Tbl K V) [] := by
  refine ⟨⟨?_, ?_⟩, ?_⟩
  · intro i e he; simp [empty] at he
  · intro i; simp [empty]
  · intro k; simp [lookup, empty, chainFind, mapLookup]

/-- non-vacuity: six keys in six different buckets make the 8-bucket table grow (unfilled 6 -> 0) while the 6th is
    inserted; that key (hash 13: the old-size bit is set) is found -/
example : let h : Nat → Nat := fun k => k
    let m := [0, 1, 2, 3, 4, 13].foldl (fun acc k => insert h 80 acc k (k + 100)) (empty 3 80 : Tbl Nat Nat)
    m.bits = 4 ∧ lookup h m 13 = some 113 ∧ lookup h m 4 = some 104 := by
  decide

end NV.C03.HT
