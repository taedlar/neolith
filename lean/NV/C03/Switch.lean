/-
C03 — f_switch on integer tables: the direct lookup table, and sorted tables (plain and with `case a..b` range markers).
The binary search of f_switch (power-of-two stepping with the fix-up for tables whose size is not a power of
two) returns, for EVERY strictly sorted table and every int64 value, the target of the unique entry / range
that contains the value and `default` otherwise.
-/
import NV.C03.Model

namespace NV.C03

/-- f_switch on a direct lookup table (consecutive keys from a 32-bit minimum) selects entry `s - min` exactly
    for min <= s < min + size, for every int64 s (the repaired range test) -/
theorem switch_direct_agrees (mn : Int) (targets : List Nat) (s : Int) (hpos : ∀ t ∈ targets, t ≠ 0) :
    LpcOps.switchLookup (.direct mn targets) s =
      if mn ≤ s ∧ s < mn + targets.length then some (targets.getD (s - mn).toNat 0) else none := by
  unfold LpcOps.switchLookup
  simp only
  by_cases h : s ≥ mn ∧ s - mn < targets.length
  · rw [if_pos h, if_pos (by omega)]
    have hlt : (s - mn).toNat < targets.length := by omega
    have hmem : targets.getD (s - mn).toNat 0 ∈ targets := by
      simp [List.getD, hlt]
    have := hpos _ hmem
    split
    · rename_i heq; exact absurd heq this
    · rfl
  · rw [if_neg h, if_neg (by omega)]

open LpcOps

/-- keys strictly ascending (prepare_cases sorts the labels; equal or overlapping labels are a compile error) -/
def SortedT (t : List (Int × Nat)) : Prop := ∀ i j, i < j → j < t.length → tkey t i < tkey t j

/-- complete description of the result of a lookup in a sorted table: an entry whose key equals `s` (the lower
    bound of a range yields the target stored with the upper bound), a range marker whose bounds enclose `s`,
    or nothing (`default`).  In a strictly sorted table at most one of the three applies, so this is the first
    (= only) matching arm of the if-chain. -/
structure Good (t : List (Int × Nat)) (s : Int) (r : Option Nat) : Prop where
  eq : ∀ i, i < t.length → tkey t i = s → r = some (if taddr t i ≤ 1 then taddr t (i + 1) else taddr t i)
  rng : ∀ i, i + 1 < t.length → taddr t i ≤ 1 → tkey t i < s → s < tkey t (i + 1) → r = some (taddr t (i + 1))
  dflt : (∀ i, i < t.length → tkey t i ≠ s) →
         (∀ i, i + 1 < t.length → taddr t i ≤ 1 → ¬ (tkey t i < s ∧ s < tkey t (i + 1))) → r = none

theorem sorted_le {t : List (Int × Nat)} (hs : SortedT t) {i j : Nat} (hj : j < t.length) (h : i ≤ j) :
    tkey t i ≤ tkey t j := by
  rcases Nat.lt_or_ge i j with h1 | h1
  · have := hs i j h1 hj; omega
  · have : i = j := by omega
    subst this; omega

/-- in a strictly sorted table the order of two keys is the order of their places -/
theorem sorted_lt {t : List (Int × Nat)} (hs : SortedT t) {i j : Nat} (hi : i < t.length) (h : tkey t i < tkey t j) : i < j :=
  Nat.lt_of_not_le fun hji => Int.not_le.mpr h (sorted_le hs hi hji)

theorem tkey_eq (t : List (Int × Nat)) (i : Nat) (h : i < t.length) : tkey t i = t[i].1 ∧ taddr t i = t[i].2 := by
  simp [tkey, taddr, List.getD, h]

theorem sortedT_of_pairwise (t : List (Int × Nat)) (hp : t.Pairwise (fun a b => a.1 < b.1)) : SortedT t := by
  intro i j hij hj
  have hi : i < t.length := by omega
  rw [(tkey_eq t i hi).1, (tkey_eq t j hj).1]
  exact (List.pairwise_iff_getElem.mp hp) i j hi hj hij

/-- cover width of a node with step `d`: the node at `l` represents the indices strictly between `l - w` and `l + w` -/
def width (d : Nat) : Nat := if d = 0 then 1 else 2 * d

theorem pow_succ_half (k : Nat) : 2 ^ (k + 1) / 2 = 2 ^ k := by rw [Nat.pow_succ]; omega

theorem width_half_pow (k : Nat) : width (2 ^ k / 2) = 2 ^ k := by
  cases k with
  | zero => simp [width]
  | succ k =>
    have hp : 0 < 2 ^ k := Nat.two_pow_pos _
    rw [pow_succ_half, Nat.pow_succ]; unfold width; split <;> omega

/-- the fix-up loop after `l += d`: either nothing is left on the right (`l + 1 = n` case) or it lands on
    `l + 2^k'` inside the table with the remaining right part covered -/
theorem fixup_spec (n l : Nat) : ∀ f k, 2 ^ k < f →
    (fixup n f (l + 2 ^ k) (2 ^ k) = (l + 1, 0) ∧ n ≤ l + 1) ∨
    (∃ k', k' ≤ k ∧ fixup n f (l + 2 ^ k) (2 ^ k) = (l + 2 ^ k', 2 ^ k') ∧ l + 2 ^ k' < n ∧
      (k' = k ∨ n ≤ l + 2 ^ (k' + 1))) := by
  intro f
  induction f with
  | zero => intro k h; have := Nat.two_pow_pos k; omega
  | succ f ih =>
    intro k hk
    unfold fixup
    by_cases hge : l + 2 ^ k ≥ n
    · rw [if_pos hge]
      cases k with
      | zero =>
        left
        simp
        simpa using hge
      | succ k' =>
        have hp : 0 < 2 ^ k' := Nat.two_pow_pos _
        rw [pow_succ_half, if_neg (by omega)]
        have hl : l + 2 ^ (k' + 1) - 2 ^ k' = l + 2 ^ k' := by rw [Nat.pow_succ]; omega
        rw [hl]
        have hk' : 2 ^ k' < f := by rw [Nat.pow_succ] at hk; omega
        rcases ih k' hk' with h | ⟨k'', hle, he, hlt, hor⟩
        · left; exact h
        · right
          refine ⟨k'', by omega, he, hlt, ?_⟩
          rcases hor with h | h
          · right; subst h; exact hge
          · right; exact h
    · rw [if_neg hge]
      right
      exact ⟨k, Nat.le_refl _, rfl, by omega, Or.inl rfl⟩

/-- where the search ends without having met `s`: `s` lies strictly between the keys of the entries `p - 1` and `p`
    (below all keys for `p = 0`, above all for `p = t.length`), so nothing equals it and only a range from `p - 1` to `p`
    can enclose it -/
theorem good_between {t : List (Int × Nat)} {s : Int} (p : Nat)
    (hlo : ∀ i, i < t.length → i < p → tkey t i < s) (hhi : ∀ i, i < t.length → p ≤ i → s < tkey t i)
    (c : Prop) [Decidable c] (hc : c ↔ 1 ≤ p ∧ p < t.length ∧ taddr t (p - 1) ≤ 1) :
    Good t s (if c then some (taddr t p) else none) := by
  constructor
  case eq =>
    intro i hi he
    rcases Nat.lt_or_ge i p with h | h
    · have := hlo i hi h; omega
    · have := hhi i hi h; omega
  case rng =>
    intro i hi hm hlt hgt
    have h1 : i < p := by
      rcases Nat.lt_or_ge i p with h | h
      · exact h
      · have := hhi i (by omega) h; omega
    have h2 : p ≤ i + 1 := by
      rcases Nat.lt_or_ge (i + 1) p with h | h
      · have := hlo (i + 1) hi h; omega
      · exact h
    have hp : p = i + 1 := by omega
    subst hp
    rw [if_pos (hc.mpr ⟨by omega, hi, hm⟩)]
  case dflt =>
    intro _ hnr
    rw [if_neg]
    intro h
    obtain ⟨h1, h2, hm⟩ := hc.mp h
    have hp : p - 1 + 1 = p := by omega
    exact hnr (p - 1) (by omega) hm ⟨hlo (p - 1) (by omega) (by omega), hp ▸ hhi p h2 (Nat.le_refl _)⟩

/-- the search invariant with the step written as `2 ^ k / 2` (0 at a leaf): the node at `l` stands for the indices strictly
    between `l - 2 ^ k` and `l + 2 ^ k`; every key left of them is below `s`, every key right of them above -/
theorem bsearch_inv (t : List (Int × Nat)) (s : Int) (hs : SortedT t) :
    ∀ fuel l k, l < t.length → 2 ^ k / 2 < fuel →
      (∀ i, i < t.length → i + 2 ^ k ≤ l → tkey t i < s) →
      (∀ i, i < t.length → l + 2 ^ k ≤ i → s < tkey t i) →
      Good t s (bsearch t s fuel l (2 ^ k / 2)) := by
  intro fuel
  induction fuel with
  | zero => intro l k _ h; exact absurd h (Nat.not_lt_zero _)
  | succ fuel ih =>
    intro l k hl hfuel hA hB
    unfold bsearch
    by_cases h1 : s < tkey t l
    · -- `s` below the key at `l`: a leaf ends the search between `l - 1` and `l`, otherwise on to the node one step to the left
      rw [if_pos h1]
      have hR : ∀ i, i < t.length → l ≤ i → s < tkey t i := fun i hi h => by
        have := sorted_le hs hi h; omega
      cases k with
      | zero =>
        have hA' : ∀ i, i < t.length → i < l → tkey t i < s := fun i hi h => hA i hi h
        rw [if_pos rfl]
        exact good_between l hA' hR _
          ⟨fun h => ⟨h.1, hl, h.2.1⟩, fun h => ⟨h.1, h.2.2, Int.le_of_lt (hA' _ (by omega) (by omega))⟩⟩
      | succ k =>
        have hp := Nat.two_pow_pos k
        rw [pow_succ_half] at hfuel ⊢
        rw [if_neg (by omega)]
        exact ih (l - 2 ^ k) k (by omega) (by omega) (fun i hi h => hA i hi (by rw [Nat.pow_succ]; omega))
          (fun i hi h => hR i hi (by omega))
    · rw [if_neg h1]
      by_cases h2 : s > tkey t l
      · -- `s` above the key at `l`: mirrored, except that `fixup` first shortens the step until the node lies in the table
        rw [if_pos h2]
        have hL : ∀ i, i ≤ l → tkey t i < s := fun i h => by
          have := sorted_le hs hl h; omega
        cases k with
        | zero =>
          have hB' : ∀ i, i < t.length → l + 1 ≤ i → s < tkey t i := fun i hi h => hB i hi h
          rw [if_pos rfl]
          exact good_between (l + 1) (fun i _ h => hL i (Nat.le_of_lt_succ h)) hB' _
            ⟨fun h => ⟨Nat.le_add_left .., h.2.1, h.1⟩, fun h => ⟨h.2.2, h.2.1, Int.le_of_lt (hB' _ h.2.1 (Nat.le_refl _))⟩⟩
        | succ k =>
          have hp := Nat.two_pow_pos k
          rw [pow_succ_half] at hfuel ⊢
          rw [if_neg (by omega)]
          rcases fixup_spec t.length l (2 ^ k + 1) k (by omega) with ⟨he, hn⟩ | ⟨k', hle, he, hlt, hor⟩
          · -- nothing right of l
            rw [he]
            have hn' : l + 1 = t.length := by omega
            rw [if_pos hn']
            constructor
            case eq => intro i hi hk; have := hL i (by omega); omega
            case rng => intro i hi hm hlo hhi; have := hL (i + 1) (by omega); omega
            case dflt => intro _ _; rfl
          · rw [he]
            simp only
            rw [if_neg (by omega)]
            have := Nat.pow_le_pow_right (by omega : 0 < 2) hle
            refine ih (l + 2 ^ k') k' hlt (by omega) (fun i _ h => hL i (by omega)) (fun i hi h => ?_)
            rcases hor with rfl | hn
            · exact hB i hi (by rw [Nat.pow_succ]; omega)
            · rw [Nat.pow_succ] at hn; omega
      · -- key found
        rw [if_neg h2]
        have he : tkey t l = s := by omega
        constructor
        case eq =>
          intro i hi hk
          have : i = l := by
            rcases Nat.lt_trichotomy i l with h | h | h
            · have := hs i l h hl; omega
            · exact h
            · have := hs l i h hi; omega
          subst this
          split <;> rfl
        case rng =>
          intro i hi hm hlo hhi
          have h1' : i < l := sorted_lt hs (by omega) (by omega)
          have h2' : l < i + 1 := sorted_lt hs hl (by omega)
          omega
        case dflt =>
          intro hne _
          exact absurd he (hne l hl)

/-- the same with the step `d` and its cover width as the code has them -/
theorem bsearch_good (t : List (Int × Nat)) (s : Int) (hs : SortedT t) :
    ∀ fuel l d, l < t.length → (d = 0 ∨ ∃ k, d = 2 ^ k) → d < fuel →
      (∀ i, i < t.length → i + width d ≤ l → tkey t i < s) →
      (∀ i, i < t.length → l + width d ≤ i → s < tkey t i) →
      Good t s (bsearch t s fuel l d) := by
  intro fuel l d hl hd hfuel hA hB
  rcases hd with rfl | ⟨k, rfl⟩
  · exact bsearch_inv t s hs fuel l 0 hl hfuel hA hB
  · rw [← pow_succ_half k] at hfuel hA hB ⊢
    rw [width_half_pow] at hA hB
    exact bsearch_inv t s hs fuel l (k + 1) hl hfuel hA hB

theorem log2floor_spec : ∀ fuel n, 1 ≤ n → n < 2 ^ fuel →
    2 ^ log2floor fuel n ≤ n ∧ n < 2 ^ (log2floor fuel n + 1) := by
  intro fuel
  induction fuel with
  | zero => intro n h1 h2; simp at h2; omega
  | succ f ih =>
    intro n h1 h2
    unfold log2floor
    by_cases hn : n ≤ 1
    · rw [if_pos hn]; have : n = 1 := by omega
      subst this; simp
    · rw [if_neg hn]
      have h := ih (n / 2) (by omega) (by rw [Nat.pow_succ] at h2; omega)
      rw [Nat.add_comm 1, Nat.pow_succ, Nat.pow_succ]
      omega

/-- f_switch on a sorted table (plain entries and `case a..b` range markers): for EVERY strictly sorted table
    and every value the binary search returns the target of the entry equal to the value, else of the range
    enclosing it, else `default` -/
theorem switch_sorted_agrees (t : List (Int × Nat)) (s : Int) (hs : SortedT t) (hn : t.length < 2 ^ 64) :
    Good t s (switchLookup (.sorted t) s) := by
  unfold switchLookup
  simp only
  by_cases he : t.isEmpty = true
  · rw [if_pos he]
    have : t.length = 0 := by simpa using he
    constructor
    case eq => intro i hi; omega
    case rng => intro i hi; omega
    case dflt => intro _ _; rfl
  · rw [if_neg he]
    have hlen : 1 ≤ t.length := by
      cases t with
      | nil => simp at he
      | cons a b => simp
    obtain ⟨hlo, hhi⟩ := log2floor_spec 64 t.length hlen hn
    generalize log2floor 64 t.length = k at hlo hhi
    have hp : 0 < 2 ^ k := Nat.two_pow_pos _
    exact bsearch_inv t s hs _ _ k (by omega) (by omega) (fun i hi h => by omega)
      (fun i hi h => by rw [Nat.pow_succ] at hhi; omega)

/-- a sorted table without range markers is an association list: the target stored with the key, `default` for a key
    that is not in the table -/
theorem plain_lookup {t : List (Int × Nat)} {s : Int} (hs : SortedT t) (hn : t.length < 2 ^ 64) (hp : ∀ e ∈ t, 2 ≤ e.2) :
    (∀ a, (s, a) ∈ t → switchLookup (.sorted t) s = some a) ∧
    ((∀ a, (s, a) ∉ t) → switchLookup (.sorted t) s = none) := by
  have hG := switch_sorted_agrees t s hs hn
  have hge : ∀ i (hi : i < t.length), ¬ taddr t i ≤ 1 := fun i hi => by
    rw [(tkey_eq t i hi).2]; exact Nat.not_le.mpr (hp _ (List.getElem_mem hi))
  refine ⟨fun a hm => ?_, fun hno => hG.dflt (fun i hi he => hno (taddr t i) ?_) fun i hi hm => absurd hm (hge i (by omega))⟩
  · obtain ⟨i, hi, hti⟩ := List.mem_iff_getElem.mp hm
    have hk := tkey_eq t i hi
    rw [hti] at hk
    rw [hG.eq i hi hk.1, if_neg (hge i hi), hk.2]
  · have hk := tkey_eq t i hi
    rw [← he, hk.1, hk.2]; exact List.getElem_mem hi

/-- `Good` determines the result: any other lookup procedure with the same description (in particular the if-chain
    over the table in ascending order) returns the same target -/
theorem good_unique {t : List (Int × Nat)} {s : Int} {r r' : Option Nat} (h1 : Good t s r) (h2 : Good t s r') :
    r = r' := by
  by_cases he : ∃ i, i < t.length ∧ tkey t i = s
  · obtain ⟨i, hi, hk⟩ := he
    rw [h1.eq i hi hk, h2.eq i hi hk]
  · by_cases hr : ∃ i, i + 1 < t.length ∧ taddr t i ≤ 1 ∧ tkey t i < s ∧ s < tkey t (i + 1)
    · obtain ⟨i, hi, hm, a, b⟩ := hr
      rw [h1.rng i hi hm a b, h2.rng i hi hm a b]
    · have hne : ∀ i, i < t.length → tkey t i ≠ s := fun i hi hk => he ⟨i, hi, hk⟩
      have hnr : ∀ i, i + 1 < t.length → taddr t i ≤ 1 → ¬ (tkey t i < s ∧ s < tkey t (i + 1)) :=
        fun i hi hm hh => hr ⟨i, hi, hm, hh.1, hh.2⟩
      rw [h1.dflt hne hnr, h2.dflt hne hnr]

/-- non-vacuity: the table of `case 1: case 5..9: case 20:` is sorted, and 7 is found through the range marker -/
example : SortedT [(1, 2), (5, 1), (9, 3), (20, 4)] ∧
    switchLookup (.sorted [(1, 2), (5, 1), (9, 3), (20, 4)]) 7 = some 3 :=
  ⟨sortedT_of_pairwise _ (by decide), by decide⟩

end NV.C03
