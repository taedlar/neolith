/-
C03 — operators: unary and binary opcodes, `op=`, `++` / `--`, indexing.

`LpcOps.*` is the transcription of eval_instruction / operator.c (after the fix commits), `Spec.*` the reference
semantics.  Every statement quantifies over ALL operands (all int64 values `I64`, every pair of operand types, every
`FloatOps` instance).  Where the code that exists deviates (open findings) the full statement lives in Witness.lean
as a refuted `def ..._Full` and the theorem here carries an explicit side condition naming the excluded operand region.
-/
import NV.C03.Int64

namespace NV.C03

variable {R : Type}

/-- integer payload (if any) is an int64 value -/
def VI64 : Value R → Prop
  | .int n => I64 n
  | _ => True

/-- a shift count the language defines (C leaves the others undefined; the driver inherits the x86 masking) -/
def ShiftOk (op : BinOp) (b : Value R) : Prop :=
  match op, b with
  | .lsh, .int n => 0 ≤ n ∧ n < 64
  | .rsh, .int n => 0 ≤ n ∧ n < 64
  | _, _ => True

/-- F_NOT / F_COMPL / F_NEGATE compute the reference result for every operand of every type -/
theorem unop_agrees (F : FloatOps R) (op : UnOp) (v : Value R) : LpcOps.unop F op v = Spec.unop F op v := by
  cases op <;> cases v <;> rfl

example (F : FloatOps R) : LpcOps.unop F .neg (.int (-(2 ^ 63))) = .ok (.int (-(2 ^ 63))) := by
  simp [LpcOps.unop, wrap]

/-! The transcription tests the operand types in the order of the C `switch`es, the reference by pairs of types: on every
    pair of constructors both sides compute the same term. -/

theorem add_agrees (F : FloatOps R) (a b : Value R) : LpcOps.add F a b = Spec.add F a b := by
  cases a <;> cases b <;> rfl

theorem sub_agrees (F : FloatOps R) (a b : Value R) : LpcOps.sub F a b = Spec.sub F a b := by
  cases a <;> cases b <;> rfl

theorem mul_agrees (F : FloatOps R) (a b : Value R) : LpcOps.mul F a b = Spec.mul F a b := by
  cases a <;> cases b <;> rfl

theorem eqv_agrees (F : FloatOps R) (a b : Value R) : LpcOps.eqv F a b = Spec.eqv F a b := by
  cases a <;> cases b <;> rfl

theorem cmp_agrees (F : FloatOps R) (op : BinOp) (a b : Value R) : LpcOps.cmp F op a b = Spec.cmp F op a b := by
  cases a <;> cases b <;> rfl

/-- F_DIVIDE: only INT64_MIN / -1 needs an argument -/
theorem div_agrees (F : FloatOps R) (a b : Value R) (ha : VI64 a) : LpcOps.div F a b = Spec.div F a b := by
  cases a <;> cases b <;> try rfl
  case int.int x y =>
    by_cases hy : y = 0
    · subst hy; rfl
    · simp only [LpcOps.div, Spec.div, beq_iff_eq, hy, if_false, idiv_eq ha hy]

/-- every binary opcode (F_ADD, F_SUBTRACT, F_MULTIPLY, F_DIVIDE, F_MOD, F_AND, F_OR, F_XOR, F_LSH, F_RSH,
    f_eq, f_ne, f_lt, f_le, f_gt, f_ge) computes the reference result on all int64 values and all 36 pairs of
    operand types; the only side condition is that a shift count is one the language defines (0..63) -/
theorem binop_agrees (F : FloatOps R) (op : BinOp) (a b : Value R) (ha : VI64 a) (hs : ShiftOk op b) :
    LpcOps.binop F op a b = Spec.binop F op a b := by
  cases op
  case add => exact add_agrees F a b
  case sub => exact sub_agrees F a b
  case mul => exact mul_agrees F a b
  case div => exact div_agrees F a b ha
  case mod =>
    cases a <;> try rfl
    cases b <;> try rfl
    rename_i x y
    by_cases hy : y = 0
    · subst hy; rfl
    · simp only [LpcOps.binop, LpcOps.intOp, Spec.binop, beq_iff_eq, hy, if_false, imod_eq ha]; rfl
  case band => cases a <;> first | rfl | (cases b <;> rfl)
  case bor => cases a <;> first | rfl | (cases b <;> rfl)
  case bxor => cases a <;> first | rfl | (cases b <;> rfl)
  case lsh =>
    cases a <;> try rfl
    cases b <;> try rfl
    rename_i x n
    have h : 0 ≤ n ∧ n < 64 := hs
    simp only [LpcOps.binop, LpcOps.intOp, Spec.binop, h, and_self, if_true, shl_eq h.1 h.2]; rfl
  case rsh =>
    cases a <;> try rfl
    cases b <;> try rfl
    rename_i x n
    have h : 0 ≤ n ∧ n < 64 := hs
    simp only [LpcOps.binop, LpcOps.intOp, Spec.binop, h, and_self, if_true, sar_eq h.1 h.2]; rfl
  case eq => exact congrArg (fun e => Res.ok (b2i e)) (eqv_agrees F a b)
  case ne => exact congrArg (fun e => Res.ok (b2i (!e))) (eqv_agrees F a b)
  case lt => exact cmp_agrees F .lt a b
  case le => exact cmp_agrees F .le a b
  case gt => exact cmp_agrees F .gt a b
  case ge => exact cmp_agrees F .ge a b

/-- non-vacuity: INT64_MIN / -1 (the operands of the repaired SIGFPE) satisfy the hypotheses -/
example : VI64 (R := Nat) (.int (-(2 ^ 63))) ∧ ShiftOk (R := Nat) .div (.int (-1)) := by
  constructor
  · unfold VI64 I64; omega
  · simp [ShiftOk]

/-- the branch opcodes test exactly the reference truth value -/
theorem truthy_agrees (v : Value R) : LpcOps.truthy v = Spec.truthy v := by
  cases v <;> rfl

def Assignable (op : BinOp) : Prop :=
  op = .add ∨ op = .sub ∨ op = .mul ∨ op = .div ∨ op = .mod ∨ op = .band ∨ op = .bor ∨ op = .bxor ∨ op = .lsh ∨ op = .rsh

/-- operand pairs on which F_ADD_EQ / f_sub_eq / f_mult_eq / f_div_eq still deviate (open findings
    num-opeq-real and addeq-num-str): integer lvalue with a real right side, number lvalue `+=` string -/
def OpEqExcluded (op : BinOp) (old rhs : Value R) : Prop :=
  match op, old, rhs with
  | .add, .int _, .real _ => True
  | .sub, .int _, .real _ => True
  | .mul, .int _, .real _ => True
  | .div, .int _, .real _ => True
  | .add, .int _, .str _ => True
  | .add, .real _, .str _ => True
  | _, _, _ => False

/-- F_ADD_EQ / f_sub_eq / ... compute `old op rhs` once and store / yield that value, unless one of the two deviations is
    switched on and the operand pair lies in its region -/
theorem assignop_eq (F : FloatOps R) (q : Quirks) (op : BinOp) (old rhs : Value R) (hop : Assignable op)
    (h : OpEqExcluded op old rhs → q.numOpEqReal = false ∧ q.addEqNumStr = false) :
    LpcOps.assignop F q op old rhs = (LpcOps.binop F op old rhs >>= fun v => pure (v, v)) := by
  rcases hop with rfl | rfl | rfl | rfl | rfl | rfl | rfl | rfl | rfl | rfl
  · -- F_ADD_EQ tests `numOpEqReal` on `int += real`, `addEqNumStr` on `int += str` and `real += str`
    cases old <;> cases rhs
    case int.real => simp only [LpcOps.assignop, (h trivial).1, Bool.false_eq_true, if_false]; rfl
    case int.str | real.str => simp only [LpcOps.assignop, (h trivial).2, Bool.false_eq_true, if_false]; rfl
    all_goals rfl
  -- f_sub_eq, f_mult_eq, f_div_eq test `numOpEqReal` on `int op= real`
  iterate 3
    · cases old
      case int =>
        cases rhs
        case real => simp only [LpcOps.assignop, (h trivial).1, Bool.false_eq_true, if_false]; rfl
        all_goals rfl
      all_goals rfl
  all_goals rfl

/-- outside the excluded region every `op=` opcode computes `old op rhs` once and stores / yields that value -/
theorem assignop_eq_binop (F : FloatOps R) (op : BinOp) (old rhs : Value R) (hop : Assignable op)
    (hx : ¬ OpEqExcluded op old rhs) :
    LpcOps.assignop F Quirks.real op old rhs = (LpcOps.binop F op old rhs >>= fun v => pure (v, v)) :=
  assignop_eq F _ op old rhs hop fun h => absurd h hx

/-- `x op= y` is `x = x op y` (new value of x and value of the expression) for every operator and operand pair
    outside the excluded region -/
theorem assignop_agrees_partial (F : FloatOps R) (op : BinOp) (old rhs : Value R) (hop : Assignable op)
    (ha : VI64 old) (hs : ShiftOk op rhs) (hx : ¬ OpEqExcluded op old rhs) :
    LpcOps.assignop F Quirks.real op old rhs = Spec.assignop F op old rhs := by
  rw [assignop_eq_binop F op old rhs hop hx, binop_agrees F op old rhs ha hs]
  rfl

/-- with the two deviations repaired (`Quirks.none`) the statement holds for ALL operand pairs: the excluded
    region of `assignop_agrees_partial` is exactly what the two findings cover -/
theorem assignop_agrees_repaired (F : FloatOps R) (op : BinOp) (old rhs : Value R) (hop : Assignable op)
    (ha : VI64 old) (hs : ShiftOk op rhs) :
    LpcOps.assignop F Quirks.none op old rhs = Spec.assignop F op old rhs := by
  rw [assignop_eq F _ op old rhs hop fun _ => ⟨rfl, rfl⟩, binop_agrees F op old rhs ha hs]
  rfl

example : ¬ OpEqExcluded (R := Nat) .add (.real 3) (.int 2) := by simp [OpEqExcluded]

/-- `++x` is `x = x + 1`, `--x` is `x = x - 1`, the post forms yield the old value: F_PRE_INC, F_PRE_DEC,
    F_POST_INC, F_POST_DEC (and F_INC / F_DEC) on every operand -/
theorem incdec_agrees (F : FloatOps R) (k : IncKind) (v : Value R) : LpcOps.incdec F k v = Spec.incdec F k v := by
  cases k <;> cases v <;> rfl

/-- sizes are C `int`s -/
def SizeOk : Value R → Prop
  | .arr l => (l.length : Int) < 2 ^ 31
  | .str s => (s.length : Int) < 2 ^ 31
  | .buf b => (b.length : Int) < 2 ^ 31
  | _ => True

theorem getD_len {α} (l : List α) (d : α) : l.getD l.length d = d := by
  simp [List.getD]

/-- the terminating NUL of a string is readable: it is the default of `getD` -/
theorem index_str (F : FloatOps R) (s : List UInt8) (i : Int) :
    Spec.index F (.str s) (.int i) = if 0 ≤ i ∧ i ≤ s.length then .ok (Spec.byteVal (s.getD i.toNat 0)) else .err := by
  simp only [Spec.index]
  by_cases h : 0 ≤ i ∧ i < s.length
  · rw [if_pos h, if_pos (by omega)]
  · rw [if_neg h]
    by_cases hn : i = s.length
    · rw [if_pos hn, if_pos (by omega), hn, Int.toNat_natCast, getD_len]; rfl
    · rw [if_neg hn, if_neg (by omega)]

/-- F_INDEX returns the reference element / error for every container and every int64 index (the 64-bit index
    is compared with the bounds before it is narrowed to `int`) -/
theorem index_agrees (F : FloatOps R) (c i : Value R) (hc : SizeOk c) : LpcOps.index F c i = Spec.index F c i := by
  -- per container: the C test is the negation of the reference's, and an index in bounds survives the `(int)` cast
  cases c <;> cases i <;> try rfl
  case arr.int l n =>
    have hc : (l.length : Int) < 2 ^ 31 := hc
    simp only [LpcOps.index]
    by_cases h1 : n < 0
    · rw [if_pos h1]; exact (if_neg (by omega)).symm
    · rw [if_neg h1]; exact guard_flip (by omega) fun h => by rw [wrap32_pos hc (by omega)]
  case str.int s n =>
    have hc : (s.length : Int) < 2 ^ 31 := hc
    rw [index_str]
    exact guard_flip (by omega) fun h => by rw [wrap32_pos hc (by omega)]
  case buf.int b n =>
    have hc : (b.length : Int) < 2 ^ 31 := hc
    exact guard_flip (by omega) fun h => by rw [wrap32_pos hc (by omega)]

/-- F_RINDEX: `c[<i]` is `c[sizeof(c) - i]` for every container and every int64 index -/
theorem rindex_agrees (F : FloatOps R) (c i : Value R) (hc : SizeOk c) : LpcOps.rindex c i = Spec.rindex F c i := by
  cases c <;> cases i <;> try rfl
  case arr.int l n =>
    have hc : (l.length : Int) < 2 ^ 31 := hc
    exact guard_flip (by omega) fun h => by rw [wrap32_pos hc (by omega)]
  case str.int s n =>
    have hc : (s.length : Int) < 2 ^ 31 := hc
    simp only [Spec.rindex]; rw [index_str]
    exact guard_flip (by omega) fun h => by rw [wrap32_pos hc (by omega)]
  case buf.int b n =>
    have hc : (b.length : Int) < 2 ^ 31 := hc
    exact guard_flip (by omega) fun h => by rw [wrap32_pos hc (by omega)]

/-! ## the bounds tests of F_INDEX as regenerated from src/interpret.c -/

/-- F_INDEX on a buffer raises exactly when the regenerated guard holds -/
theorem index_guard_buf (F : FloatOps R) (b : List UInt8) (n : Int) :
    LpcOps.index F (.buf b) (.int n) =
      if NV.Gen.C03.indexGuardBuf n b.length = true then .err else .ok (Spec.byteVal (b.getD (wrap32 n).toNat 0)) := by
  unfold LpcOps.index
  simp only [NV.Gen.C03.indexGuardBuf, Bool.or_eq_true, decide_eq_true_eq]

theorem index_guard_str (F : FloatOps R) (s : List UInt8) (n : Int) :
    LpcOps.index F (.str s) (.int n) =
      if NV.Gen.C03.indexGuardStr n s.length = true then .err else .ok (Spec.byteVal (s.getD (wrap32 n).toNat 0)) := by
  unfold LpcOps.index
  simp only [NV.Gen.C03.indexGuardStr, Bool.or_eq_true, decide_eq_true_eq]

/-- F_INDEX on an array: the two tests in the order of the source -/
theorem index_guard_arr (F : FloatOps R) (l : List (Value R)) (n : Int) :
    LpcOps.index F (.arr l) (.int n) =
      if NV.Gen.C03.indexGuardArrNeg n l.length = true then .err
      else if NV.Gen.C03.indexGuardArrHigh n l.length = true then .err
      else .ok (l.getD (wrap32 n).toNat (.int 0)) := by
  unfold LpcOps.index
  simp only [NV.Gen.C03.indexGuardArrNeg, NV.Gen.C03.indexGuardArrHigh, decide_eq_true_eq]

end NV.C03
