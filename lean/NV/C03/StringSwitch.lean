/-
C03 — string switches.  Labels are interned at compile time, the table is sorted by the
ADDRESS of the shared strings (any injective, non-zero assignment `addr`), `case 0:` is the entry with address 0, a key
that is not in the shared string table goes to `default` without a search.  For every such address assignment the
arm selected by f_switch is the first matching arm of the if-chain, where `0` matches only the integer 0.
-/
import NV.C03.Switch
import NV.C03.Frontend

namespace NV.C03
open LpcOps Frontend

theorem mem_insertSorted (e x : Int × Nat) (l : List (Int × Nat)) : x ∈ insertSorted e l ↔ x = e ∨ x ∈ l := by
  induction l with
  | nil => simp [insertSorted]
  | cons a as ih =>
    simp only [insertSorted]
    split
    · simp
    · simp only [List.mem_cons, ih]
      constructor
      · rintro (h | h | h)
        · right; left; exact h
        · left; exact h
        · right; right; exact h
      · rintro (h | h | h)
        · right; left; exact h
        · left; exact h
        · right; right; exact h

theorem mem_sortEntries (x : Int × Nat) (l : List (Int × Nat)) : x ∈ sortEntries l ↔ x ∈ l := by
  induction l with
  | nil => simp [sortEntries]
  | cons a as ih =>
    simp only [sortEntries, List.foldr] at ih ⊢
    rw [mem_insertSorted, ih, List.mem_cons]

theorem pairwise_insertSorted (e : Int × Nat) (l : List (Int × Nat)) (hl : l.Pairwise (fun a b => a.1 < b.1))
    (hne : ∀ x ∈ l, x.1 ≠ e.1) : (insertSorted e l).Pairwise (fun a b => a.1 < b.1) := by
  induction l with
  | nil => simp [insertSorted]
  | cons a as ih =>
    simp only [insertSorted]
    rw [List.pairwise_cons] at hl
    split
    · rename_i hle
      have hlt : e.1 < a.1 := by
        have := hne a (List.mem_cons_self ..)
        omega
      rw [List.pairwise_cons]
      refine ⟨?_, List.pairwise_cons.mpr hl⟩
      intro x hx
      rcases List.mem_cons.mp hx with h | h
      · rw [h]; exact hlt
      · have := hl.1 x h; omega
    · rename_i hle
      rw [List.pairwise_cons]
      refine ⟨?_, ih hl.2 (fun x hx => hne x (List.mem_cons_of_mem _ hx))⟩
      intro x hx
      rcases (mem_insertSorted e x as).mp hx with h | h
      · rw [h]; omega
      · exact hl.1 x h

/-- insertion sort by key yields strictly ascending keys when the keys are pairwise different -/
theorem pairwise_sortEntries (l : List (Int × Nat)) (hd : l.Pairwise (fun a b => a.1 ≠ b.1)) :
    (sortEntries l).Pairwise (fun a b => a.1 < b.1) := by
  induction l with
  | nil => simp [sortEntries]
  | cons a as ih =>
    rw [List.pairwise_cons] at hd
    simp only [sortEntries, List.foldr] at ih ⊢
    apply pairwise_insertSorted _ _ (ih hd.2)
    intro x hx
    have : x ∈ as := (mem_sortEntries x as).mp hx
    exact fun h => hd.1 x this h.symm

/-- the labels of a string switch: strings, `0`, default -/
def StrLabels (labels : List CaseLabel) : Prop :=
  ∀ l ∈ labels, (∃ s, l = .str s) ∨ l = .num 0 ∨ l = .dflt

theorem mem_strEntries (addr : List UInt8 → Int) (labels : List CaseLabel) (key : Int) (a : Nat) :
    (key, a) ∈ strEntries addr labels ↔ ∃ k, ∃ h : k < labels.length, strLabelKey addr labels[k] = some key ∧ a = k + 2 := by
  unfold strEntries
  rw [List.mem_filterMap]
  constructor
  · rintro ⟨⟨l, k⟩, hm, he⟩
    have := List.mem_zipIdx hm
    simp only [Nat.zero_le, Nat.zero_add, Nat.sub_zero, true_and] at this
    obtain ⟨hk, hl⟩ := this
    refine ⟨k, hk, ?_⟩
    simp only [Option.map_eq_some_iff] at he
    obtain ⟨key', hk', hpair⟩ := he
    simp only [Prod.mk.injEq] at hpair
    rw [← hl, hk', hpair.1]
    exact ⟨rfl, hpair.2.symm⟩
  · rintro ⟨k, hk, hkey, ha⟩
    refine ⟨(labels[k], k), ?_, ?_⟩
    · rw [List.mem_zipIdx_iff_getElem?]; simp [hk]
    · simp [hkey, ha]

/-- the table compiled for a string switch finds the first label whose key is the searched address -/
theorem strTable_lookup (addr : List UInt8 → Int) (labels : List CaseLabel)
    (hdist : (strEntries addr labels).Pairwise (fun a b => a.1 ≠ b.1))
    (hlen : (strTable addr labels).length < 2 ^ 64) (s : Int) (p : CaseLabel → Bool)
    (hp : ∀ l ∈ labels, p l = true ↔ strLabelKey addr l = some s) :
    switchLookup (.sorted (strTable addr labels)) s = (labels.findIdx? p).map (· + 2) := by
  have hP := plain_lookup (s := s) (sortedT_of_pairwise _ (pairwise_sortEntries _ hdist)) hlen fun e he => by
    obtain ⟨k, _, _, ha⟩ := (mem_strEntries addr labels e.1 e.2).mp ((mem_sortEntries _ _).mp he)
    omega
  cases hf : labels.findIdx? p with
  | some i =>
    -- the entry of label `i` is in the table; no other entry has its key
    obtain ⟨hi, hpi, _⟩ := List.findIdx?_eq_some_iff_getElem.mp hf
    exact hP.1 _ ((mem_sortEntries _ _).mpr
      ((mem_strEntries addr labels s (i + 2)).mpr ⟨i, hi, (hp _ (List.getElem_mem hi)).mp hpi, rfl⟩))
  | none =>
    refine hP.2 fun a hm => ?_
    obtain ⟨k, hk, hkey, _⟩ := (mem_strEntries addr labels s a).mp ((mem_sortEntries _ _).mp hm)
    exact absurd ((hp _ (List.getElem_mem hk)).mpr hkey)
      (Bool.eq_false_iff.mp (List.findIdx?_eq_none_iff.mp hf _ (List.getElem_mem hk)))

/-- **string_switch_agrees**: for every address assignment that is injective and non-zero on strings, every set of
    interned strings that contains the labels, every list of string-switch labels whose keys are pairwise different
    (duplicate labels are a compile error) and every value, f_switch selects the first matching arm of the if-chain;
    `case 0:` is selected by the integer 0 only — a string that is not interned goes to `default` -/
theorem string_switch_agrees {R : Type} (addr : List UInt8 → Int) (interned : List UInt8 → Bool) (labels : List CaseLabel)
    (v : Value R)
    (hinj : ∀ x y, addr x = addr y → x = y) (hnz : ∀ x, addr x ≠ 0)
    (hint : ∀ s, CaseLabel.str s ∈ labels → interned s = true)
    (hlab : StrLabels labels) (hstr : labels.any isStrLabel = true)
    (hdist : (strEntries addr labels).Pairwise (fun a b => a.1 ≠ b.1))
    (hlen : (strTable addr labels).length < 2 ^ 64) :
    strSwitchFind addr interned labels v = Spec.switchFind labels v := by
  -- a label matches the value iff its table key is the searched address
  have hmatch : ∀ (s : Int), ((∃ x, v = .str x ∧ s = addr x) ∨ (v = .int 0 ∧ s = 0)) →
      ∀ l ∈ labels, Spec.labelMatches l v = true ↔ strLabelKey addr l = some s := by
    intro s hv l hl
    rcases hlab l hl with ⟨y, rfl⟩ | rfl | rfl
    · rcases hv with ⟨x, rfl, rfl⟩ | ⟨rfl, rfl⟩
      · simp only [Spec.labelMatches, strLabelKey, beq_iff_eq, Option.some.injEq]
        exact ⟨fun h => by rw [h], fun h => hinj _ _ h⟩
      · simp only [Spec.labelMatches, strLabelKey, Option.some.injEq]
        exact ⟨fun h => by simp at h, fun h => absurd h (hnz y)⟩
    · rcases hv with ⟨x, rfl, rfl⟩ | ⟨rfl, rfl⟩
      · simp only [Spec.labelMatches, strLabelKey, beq_self_eq_true, if_true, Option.some.injEq]
        exact ⟨fun h => by simp at h, fun h => absurd h.symm (hnz x)⟩
      · simp [Spec.labelMatches, strLabelKey]
    · rcases hv with ⟨x, rfl, rfl⟩ | ⟨rfl, rfl⟩ <;> simp [Spec.labelMatches, strLabelKey]
  unfold strSwitchFind Spec.switchFind
  -- the table has a string label, so `Spec.switchFind` accepts every string and, of the integers, only 0
  rw [hstr]
  cases v with
  | int n =>
    by_cases hn : n = 0
    · subst hn
      dsimp only
      rw [strTable_lookup addr labels hdist hlen 0 _ (hmatch 0 (.inr ⟨rfl, rfl⟩))]
      cases labels.findIdx? _ <;> simp
    · simp [hn]
  | str x =>
    by_cases hx : interned x = true
    · dsimp only
      rw [strTable_lookup addr labels hdist hlen (addr x) _ (hmatch _ (.inl ⟨x, rfl, rfl⟩))]
      cases labels.findIdx? _ <;> simp [hx]
    · have hnone : labels.findIdx? (fun l => Spec.labelMatches l (Value.str x : Value R)) = none := by
        rw [List.findIdx?_eq_none_iff]
        intro l hl
        rcases hlab l hl with ⟨y, rfl⟩ | rfl | rfl
        · simp only [Spec.labelMatches, beq_eq_false_iff_ne]
          intro hyx
          rw [hyx] at hl
          exact hx (hint x hl)
        · rfl
        · rfl
      simp [hnone, hx]
  | real _ => rfl
  | arr _ => rfl
  | map _ => rfl
  | buf _ => rfl

/-- non-vacuity: `case "a": case 0: default:` with the addresses of `addrExec`; the hypotheses hold and the run-time
    built key (not interned) takes `default`, the integer 0 takes `case 0:` -/
example : strSwitchFind (R := Nat) addrExec (fun s => s == [97]) [.str [97], .num 0, .dflt] (.str [114, 116]) = .ok (some 2) ∧
    strSwitchFind (R := Nat) addrExec (fun s => s == [97]) [.str [97], .num 0, .dflt] (.int 0) = .ok (some 1) ∧
    strSwitchFind (R := Nat) addrExec (fun s => s == [97]) [.str [97], .num 0, .dflt] (.str [97]) = .ok (some 0) := by
  decide

end NV.C03
