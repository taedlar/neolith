/-
C03 — loops: the specialised loop-test opcodes, and loop forms over the statement evaluator `execS` (exact in result,
state and fuel).
-/
import NV.C03.Int64

namespace NV.C03
variable {R : Type}

/-- F_WHILE_DEC is `while (x--)`: it continues exactly when the old value is true and stores `x - 1` -/
theorem while_dec_agrees (F : FloatOps R) (v : Value R) :
    LpcOps.whileDec F v =
      (Spec.incdec F .postDec v >>= fun (p : Value R × Value R) => pure (Spec.truthy p.2, p.1)) := by
  cases v <;> rfl

/-- F_LOOP_COND_NUMBER is `x < c` whenever the front end selects it (the constant fits its 32-bit operand) -/
theorem loop_cond_num_agrees (F : FloatOps R) (v : Value R) (c : Int) (hc : inI32 c = true) :
    (LpcOps.loopCondNum F v c >>= fun b => pure (b2i (R := R) b)) = Spec.binop F .lt v (.int c) := by
  have hw : wrap32 c = c := by
    simp only [inI32, Bool.and_eq_true, decide_eq_true_eq] at hc
    exact wrap32_id hc.1 hc.2
  cases v <;> simp only [LpcOps.loopCondNum, hw] <;> rfl

/-- F_LOOP_COND_LOCAL is `x < y` -/
theorem loop_cond_local_agrees (F : FloatOps R) (a b : Value R) :
    (LpcOps.loopCondLocal F a b >>= fun r => pure (b2i (R := R) r)) = Spec.binop F .lt a b := by
  cases a <;> cases b <;> rfl

theorem execS_nop (S : Sem R) (P : Prog R) (f : Nat) (st : St R) :
    execS S P (f + 1) st .nop = .ok (.normal, st) := rfl

/-- `for (; c; ) body` runs exactly like `while (c) body`: same result, same state, same fuel -/
theorem for_eq_while (S : Sem R) (P : Prog R) (c : Expr R) (body : Stmt R) :
    ∀ fuel st, forLoop S P fuel st c .nop body = execS S P fuel st (.while c body) := by
  intro fuel
  induction fuel with
  | zero => intro st; rfl
  | succ f ih =>
    intro st
    rw [forLoop, execS]
    cases h1 : evalTest S P f st c with
    | ok p =>
      obtain ⟨go, st1⟩ := p
      cases go
      · rfl
      · show (execS S P f st1 body >>= _) = (execS S P f st1 body >>= _)
        cases h2 : execS S P f st1 body with
        | ok q =>
          obtain ⟨fl, st2⟩ := q
          cases fl with
          | brk => rfl
          | ret v => rfl
          | normal =>
            cases f with
            | zero => rfl
            | succ f' =>
              simp only [Res.ok_bind]
              rw [execS_nop]
              simp only [Res.ok_bind]
              exact ih st2
          | cont =>
            cases f with
            | zero => rfl
            | succ f' =>
              simp only [Res.ok_bind]
              rw [execS_nop]
              simp only [Res.ok_bind]
              exact ih st2
        | err => rfl
        | crash => rfl
        | fuel => rfl
    | err => rfl
    | crash => rfl
    | fuel => rfl

/-- `loop_forms_agree` (for / while): a `for` statement without init and step IS the `while` statement, for every
    semantics record (reference and LpcOps), program, condition, body, state and fuel -/
theorem loop_forms_agree (S : Sem R) (P : Prog R) (c : Expr R) (body : Stmt R) (f : Nat) (st : St R) :
    execS S P (f + 2) st (.for .nop c .nop body) = execS S P (f + 1) st (.while c body) :=
  -- the left side computes to `forLoop` once the empty init has run
  for_eq_while S P c body (f + 1) st

end NV.C03
