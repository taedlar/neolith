/-
C03 — macro definitions and expansion.  `handle_define` (as transcribed in Macro.lean, with
the identifier test regenerated from lib/lpc/lex.c into `NV.Gen.C03.macroParamMatch`) stores exactly the textbook
substitution template: an identifier token of the body is replaced iff it EQUALS a parameter name — for every
parameter list, every body and every argument list.  A change of the identifier test (e.g. comparing only a prefix)
changes `NV/Gen/C03.lean` and breaks `macroParamMatch_iff`.
-/
import NV.C03.Macro

namespace NV.C03.Macro

/-- bridging lemma for the regenerated guard: the C test accepts parameter `p` for identifier `id` iff `p = id` -/
theorem macroParamMatch_iff (p id : List Char) :
    NV.Gen.C03.macroParamMatch p.length id.length (fun n => decide (p.take n = id.take n)) = decide (p = id) := by
  unfold NV.Gen.C03.macroParamMatch
  by_cases h : p = id
  · subst h; simp
  · by_cases hl : p.length = id.length
    · have : ¬ (p = List.take p.length id) := by
        intro hh
        apply h
        rw [hh, hl, List.take_length]
      simp [h, this]
    · simp [h, hl]

/-- the parameter chosen by the C loop is the textbook one -/
theorem matchParam_eq_paramOf (params : List (List Char)) (id : List Char) : matchParam params id = paramOf params id := by
  unfold matchParam paramOf
  congr 1
  funext p
  exact macroParamMatch_iff p id

/-- the one-pass form of `tokenize` + `substTok` (pending identifier `cur`) -/
def specGo (params : List (List Char)) : List Char → List Char → List Item
  | [], cur => if cur.isEmpty then [] else substTok params (.ident cur)
  | c :: cs, cur =>
    if isAlunum c then specGo params cs (cur ++ [c])
    else (if cur.isEmpty then [] else substTok params (.ident cur)) ++ [.ch c] ++ specGo params cs []

theorem specGo_eq (params : List (List Char)) : ∀ (cs cur : List Char),
    specGo params cs cur = (tokenize cs cur).flatMap (substTok params) := by
  intro cs
  induction cs with
  | nil => intro cur; unfold specGo tokenize; split <;> simp
  | cons c cs ih =>
    intro cur
    unfold specGo tokenize
    split
    · exact ih _
    · rw [ih]
      split <;> simp [substTok]

/-- the loop without the final flush: a pending identifier at the end of the input is left as it is -/
def goRaw (params : List (List Char)) : List Char → List Char → List Item
  | [], cur => cur.map .ch
  | c :: cs, cur =>
    if isAlunum c then goRaw params cs (cur ++ [c])
    else (if cur.isEmpty then [] else substTok params (.ident cur)) ++ [.ch c] ++ goRaw params cs []

/-- invariant of the C loop: the text copied so far ends with the pending identifier (already copied, to be taken
    back by `q -= idlen` on a match); the final text is the part before it followed by the substitution of the rest -/
theorem scan_eq (params : List (List Char)) : ∀ (cs : List Char) (pre : List Item) (cur : List Char),
    scan params cs (pre ++ cur.map .ch) cur = pre ++ goRaw params cs cur := by
  intro cs
  induction cs with
  | nil => intro pre cur; simp [scan, goRaw]
  | cons c cs ih =>
    intro pre cur
    unfold scan goRaw
    by_cases hc : isAlunum c = true
    · rw [if_pos hc, if_pos hc]
      have h1 : pre ++ cur.map Item.ch ++ [Item.ch c] = pre ++ (cur ++ [c]).map Item.ch := by simp
      rw [h1, ih pre (cur ++ [c])]
    · rw [if_neg hc, if_neg hc]
      simp only
      by_cases he : cur.isEmpty = true
      · have hcur : cur = [] := by simpa using he
        subst hcur
        simp only [List.isEmpty_nil, if_true, List.map_nil, List.append_nil, List.nil_append]
        have := ih (pre ++ [Item.ch c]) []
        simp only [List.map_nil, List.append_nil] at this
        rw [this]; simp
      · rw [if_neg he, if_neg he, matchParam_eq_paramOf]
        simp only [substTok]
        cases paramOf params cur with
        | none =>
          simp only
          have := ih (pre ++ cur.map Item.ch ++ [Item.ch c]) []
          simp only [List.map_nil, List.append_nil] at this
          rw [this]; simp
        | some n =>
          simp only [List.length_append, List.length_map, Nat.add_sub_cancel]
          rw [List.take_left']
          · have := ih (pre ++ [Item.arg n] ++ [Item.ch c]) []
            simp only [List.map_nil, List.append_nil] at this
            rw [this]; simp
          · rfl

theorem goRaw_blank (params : List (List Char)) : ∀ (cs cur : List Char),
    goRaw params (cs ++ [' ']) cur = specGo params cs cur ++ [.ch ' '] := by
  intro cs
  induction cs with
  | nil =>
    intro cur
    have hb : isAlunum ' ' = false := by decide
    simp [goRaw, specGo, hb]
  | cons c cs ih =>
    intro cur
    simp only [List.cons_append, goRaw, specGo]
    split
    · exact ih _
    · rw [ih]; simp

/-- **macro_definition_agrees**: what handle_define stores for `#define NAME(params) body` is the textbook template —
    every identifier token of the body that EQUALS a parameter name (the first such parameter) is a reference to it,
    every other character is kept — for all parameter lists and bodies -/
theorem macro_definition_agrees (params : List (List Char)) (body : List Char) :
    handleDefine params body = specDefine params body := by
  unfold handleDefine specDefine
  have h := scan_eq params (body ++ [' ']) [Item.ch ' '] []
  simp only [List.map_nil, List.append_nil] at h
  rw [h, goRaw_blank, specGo_eq]
  rw [← List.append_assoc, List.dropLast_concat]
  rfl

/-- **macro_expansion_agrees**: the text that replaces a call of a function-like macro is the textbook substitution
    of the arguments into the body, for all macro definitions and all argument lists -/
theorem macro_expansion_agrees (params : List (List Char)) (body : List Char) (args : List (List Char)) :
    expandCall (handleDefine params body) args = expandCall (specDefine params body) args := by
  rw [macro_definition_agrees]

/-- with parameters `ab`, `a` the body `(a)` refers to the SECOND parameter (a comparison of prefixes would pick the first) -/
example : handleDefine ["ab".toList, "a".toList] " (a)".toList = [.ch ' ', .ch ' ', .ch '(', .arg 1, .ch ')'] := by
  rw [macro_definition_agrees]; decide

example : expandCall (specDefine ["a1".toList] " (a * (a1))".toList) ["5".toList] = "  (a * (5))".toList := by decide

end NV.C03.Macro
