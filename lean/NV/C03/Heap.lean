/-
C03 — `Heap`: arrays as heap cells with reference counts, and lib/lpc/array.c `add_array (p, r)` branch by branch
(`+`, `+=` on arrays).  The driver hands an operand back, extends it in place or moves its elements out when the
reference counts say that nobody else can see it; the tests are REGENERATED from the source
(`NV.Gen.C03.addArray*`).  `ArrayHeap.lean` proves that whatever branch is taken the result holds `p ++ r`, its
reference count is 1, every operand loses exactly the references the call consumed and every array that is still
referenced afterwards holds what it held before - i.e. the in-place paths refine the value semantics of `Spec`.

A reference count 0 stands for a freed block (`freed`); the allocator hands out the address `af` of a free block.
Not modelled: the allocation limit (`__MAX_ARRAY_SIZE__` error before anything is touched), the_null_array being
shared, ARRAY_STATS counters.
-/
import NV.Gen.C03

namespace NV.C03.Heap

structure Cell (V : Type) where
  ref : Nat
  items : List V

abbrev Heap (V : Type) := Nat → Cell V

variable {V : Type}

def upd (H : Heap V) (a : Nat) (c : Cell V) : Heap V := fun x => if x = a then c else H x

/-- `x->ref--` -/
def decRef (H : Heap V) (a : Nat) : Heap V := upd H a ⟨(H a).ref - 1, (H a).items⟩

/-- a block given back to the allocator -/
def freed : Cell V := ⟨0, []⟩

/-- add_array (p, r): `ap`, `ar` = addresses of the operands (equal for `x + x`), `af` = the block
    allocate_empty_array / copy_array would return.  Result: new heap and the address of the result. -/
def addArray (H : Heap V) (ap ar af : Nat) : Heap V × Nat :=
  let same := decide (ap = ar)
  if (H ap).items.length = 0 then
    -- p->ref--; return r->ref > 1 ? (r->ref--, copy_array (r)) : r;
    let H1 := decRef H ap
    if NV.Gen.C03.addArrayCopyWhenLeftEmpty same (H1 ap).ref (H1 ar).ref then
      (upd (decRef H1 ar) af ⟨1, (H1 ar).items⟩, af)
    else (H1, ar)
  else if (H ar).items.length = 0 then
    let H1 := decRef H ar
    if NV.Gen.C03.addArrayCopyWhenRightEmpty same (H1 ap).ref (H1 ar).ref then
      (upd (decRef H1 ap) af ⟨1, (H1 ap).items⟩, af)
    else (H1, ap)
  else if NV.Gen.C03.addArraySelf same (H ap).ref (H ar).ref then
    -- d = RESIZE_ARRAY (p, res); copy myself; d->ref = 1; d->size <<= 1
    (upd H ap ⟨1, (H ap).items ++ (H ap).items⟩, ap)
  else
    let res := (H ap).items ++ (H ar).items
    -- left operand: extended in place, or copied into a new block (p->ref--)
    let Hd : Heap V × Nat :=
      if NV.Gen.C03.addArrayReuseLeft same (H ap).ref (H ar).ref then (upd H ap ⟨(H ap).ref, res⟩, ap)
      else (upd (decRef H ap) af ⟨1, res⟩, af)
    -- right operand: elements moved out and the block freed, or copied (r->ref--)
    let H2 := if NV.Gen.C03.addArrayMoveRight same (Hd.1 ap).ref (Hd.1 ar).ref then upd Hd.1 ar freed else decRef Hd.1 ar
    (H2, Hd.2)

/-- number of references to `a` that the call consumes (the two operand slots on the stack) -/
def uses (ap ar a : Nat) : Nat := (if a = ap then 1 else 0) + (if a = ar then 1 else 0)

/-- the selection of slice_array once `from` / `to` are clamped (same as `LpcOps.sliceArray`, restated here because
    this file is below Model.lean) -/
def sliceItems (l : List V) (frm to : Int) : List V :=
  let f := if frm < 0 then 0 else frm
  let t := if to ≥ l.length then (l.length : Int) - 1 else to
  if f > t then [] else (l.drop f.toNat).take (t - f + 1).toNat

/-- slice_array (p, from, to) (lib/lpc/array.c; ranges `a[i..j]`, `a[i..]` on arrays): the caller's reference to p is consumed.
    Empty selection: free_array (p), the (shared) null array is the result - modelled as the fresh block `af` holding [].
    Otherwise `--p->ref`; the block is cut down in place only when that was the last reference (test regenerated:
    `NV.Gen.C03.sliceArrayReuse`), else a new block receives copies. -/
def sliceArray (H : Heap V) (ap af : Nat) (frm to : Int) : Heap V × Nat :=
  let f := if frm < 0 then 0 else frm
  let t := if to ≥ (H ap).items.length then ((H ap).items.length : Int) - 1 else to
  if f > t then
    -- free_array (p): the block goes back to the allocator when this was the last reference
    let H1 := if (H ap).ref - 1 = 0 then upd H ap freed else decRef H ap
    (upd H1 af ⟨1, []⟩, af)
  else if NV.Gen.C03.sliceArrayReuse ((H ap).ref - 1) then
    (upd H ap ⟨1, sliceItems (H ap).items frm to⟩, ap)
  else
    (upd (decRef H ap) af ⟨1, sliceItems (H ap).items frm to⟩, af)

end NV.C03.Heap
