/-
C03 — lvalues: reads and stores through index lvalues (`c[i]`, `c[<i]`, char lvalues of strings and buffers) and range
lvalues (`x[i..j] = v`, all `<` combinations).
-/
import NV.C03.Int64

namespace NV.C03
variable {R : Type}

/-- the opcodes test "out of bounds" and raise, the reference tests "in bounds" and proceeds -/
private theorem bounds_flip {α} (p len : Int) (a b : α) :
    (if p ≥ len ∨ p < 0 then a else b) = (if 0 ≤ p ∧ p < len then b else a) :=
  guard_flip (by omega) fun _ => rfl

/-- push_indexed_lvalue reads the reference element through `c[i]` / `c[<i]` on the left of an assignment
    operator, for every container, `<` flag and int64 index -/
theorem lvget_agrees (F : FloatOps R) (rev : Bool) (c i : Value R) :
    LpcOps.lvGet F rev c i = Spec.lvGet F rev c i := by
  cases c <;> cases i <;> first | rfl | exact bounds_flip ..

def NoBufZero (c v : Value R) : Prop :=
  match c, v with
  | .buf _, .int ch => Spec.lowByte ch ≠ 0
  | _, _ => True

/-- F_ASSIGN / F_VOID_ASSIGN through an index lvalue is the reference store for every container, index and value,
    unless the char-lvalue code refuses a zero byte for buffers too (`bufStoreZero`) and the store is one -/
theorem lvSet_eq (F : FloatOps R) (q : Quirks) (rev : Bool) (c i v : Value R)
    (hz : q.bufStoreZero = true → NoBufZero c v) :
    LpcOps.lvSet F q rev c i v = Spec.lvSet F rev c i v := by
  cases c <;> cases i <;> try rfl
  case arr.int => exact bounds_flip ..
  case str.int => cases v <;> first | exact bounds_flip .. | exact ite_self _
  case buf.int =>
    cases v <;> try exact ite_self _
    case int ch =>
      have h : (q.bufStoreZero && Spec.lowByte ch == 0) = false := by
        cases hq : q.bufStoreZero
        · rfl
        · exact beq_false_of_ne (hz hq)
      simp only [LpcOps.lvSet, h]
      exact bounds_flip ..

theorem lvset_agrees_repaired (F : FloatOps R) (rev : Bool) (c i v : Value R) :
    LpcOps.lvSet F Quirks.none rev c i v = Spec.lvSet F rev c i v :=
  lvSet_eq F _ rev c i v nofun

/-- the code BEFORE the repair of finding buf-store-zero (`bufStoreZero := true`) agreed outside a zero byte into a buffer -/
theorem lvset_agrees_partial (F : FloatOps R) (rev : Bool) (c i v : Value R) (hz : NoBufZero c v) :
    LpcOps.lvSet F { Quirks.real with bufStoreZero := true } rev c i v = Spec.lvSet F rev c i v :=
  lvSet_eq F _ rev c i v fun _ => hz

/-- FULL statement (finding buf-store-zero repaired): F_ASSIGN / F_VOID_ASSIGN through an index lvalue of the code that
    exists is the reference store for every container, index and value - a zero byte into a buffer included -/
theorem lvset_agrees (F : FloatOps R) (rev : Bool) (c i v : Value R) :
    LpcOps.lvSet F Quirks.real rev c i v = Spec.lvSet F rev c i v :=
  lvSet_eq F _ rev c i v nofun

example : LpcOps.lvSet (R := Nat) ⟨(· + ·), (· - ·), (· * ·), (· / ·), id, fun a b => decide (a < b), fun a b => decide (a ≤ b),
    fun a b => a == b, Int.toNat, Int.ofNat, fun _ => []⟩ Quirks.real false (.buf [65, 66]) (.int 1) (.int 256) = .ok (.buf [65, 0]) := by
  rfl

/-- push_lvalue_range + copy_lvalue_range / assign_lvalue_range on a container whose size + 1 is a C `int`: the bounds
    that pass the 64-bit tests are left alone by the `(int)` casts -/
theorem range_lvalue_agrees {α} (l v : List α) (fr tr : Bool) (i j : Int) (hs : (l.length : Int) + 1 < 2 ^ 31) :
    LpcOps.spliceC l fr tr i j v = Spec.splice l l.length fr tr i j v := by
  unfold LpcOps.spliceC Spec.splice
  dsimp only
  by_cases hj : j < -1 ∨ j > (l.length : Int) + 1
  · rw [if_pos hj, if_neg (show ¬(_ ∧ _) by omega)]
  rw [if_neg hj, wrap32_id (n := j) (by omega) (by omega)]
  by_cases hj2 : (if tr then (l.length : Int) - j else j) + 1 < 0 ∨ (if tr then (l.length : Int) - j else j) + 1 > l.length
  · rw [if_pos hj2, if_neg (show ¬(_ ∧ _) by omega)]
  rw [if_neg hj2]
  by_cases hi : i < 0 ∨ i > (l.length : Int)
  · rw [if_pos hi, if_neg (show ¬(_ ∧ _) by omega)]
  rw [if_neg hi, wrap32_id (n := i) (by omega) (by omega)]
  by_cases hi1 : (if fr then (l.length : Int) - i else i) < 0 ∨ (if fr then (l.length : Int) - i else i) > l.length
  · rw [if_pos hi1, if_neg (show ¬(_ ∧ _) by omega)]
  rw [if_neg hi1, if_pos (show _ ∧ _ by omega)]

/-- push_lvalue_range + copy_lvalue_range / assign_lvalue_range on values: `x[i..j] = v` (all `<` combinations) for
    strings, buffers and arrays and every int64 bound -/
theorem storeRange_agrees (fr tr : Bool) (c i j v : Value R)
    (hc : match c with | .arr l => (l.length : Int) + 1 < 2 ^ 31 | .str s => (s.length : Int) + 1 < 2 ^ 31
                       | .buf b => (b.length : Int) + 1 < 2 ^ 31 | _ => True) :
    LpcOps.storeRange fr tr c i j v = Spec.storeRange fr tr c i j v := by
  -- the opcode looks at the bounds first, the reference at the container
  cases c with
  | arr l => cases i with
    | int i => cases j with
      | int j => cases v with
        | arr x => exact congrArg (· >>= _) (range_lvalue_agrees l x fr tr i j hc)
        | _ => rfl
      | _ => rfl
    | _ => rfl
  | str l => cases i with
    | int i => cases j with
      | int j => cases v with
        | str x => exact congrArg (· >>= _) (range_lvalue_agrees l x fr tr i j hc)
        | _ => rfl
      | _ => rfl
    | _ => rfl
  | buf l => cases i with
    | int i => cases j with
      | int j => cases v with
        | buf x => exact congrArg (· >>= _) (range_lvalue_agrees l x fr tr i j hc)
        | _ => rfl
      | _ => rfl
    | _ => rfl
  | _ => cases i with
    | int i => cases j <;> rfl
    | _ => rfl

end NV.C03
