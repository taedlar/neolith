/-
C03 — `Frontend`: what the compiler does to an expression before any byte code runs, transcribed from the
actions of lib/lpc/grammar.y, lib/lpc/program/parse_trees.c (binary_int_op, optimize_loop_test),
lib/lpc/compiler.c (prepare_cases) and lib/lpc/program/icode.c (write_number, switch tables):

* the static result type the grammar attaches to a node (`typeOf`; optimistic: `mixed + int` is typed `int`);
* constant folding and the rewrites `0+X`, `X+0`, `0-X`, `X==0`, operand swaps, `!a?b:c`,
  `if (x != 0)`, `x[i..<1]`, `({..})[const]`;
* literal encodings F_CONST0 / F_CONST1 / F_BYTE / F_NBYTE / F_NUMBER / F_LONG and their decoding by
  eval_instruction;
* loop opcode selection (F_WHILE_DEC, F_LOOP_COND_NUMBER, F_LOOP_COND_LOCAL) — the conditions are those of
  `evalTest` in Spec.lean with `modelSem`;
* switch table construction (direct / sorted with range markers).
-/
import NV.C03.Model

namespace NV.C03

variable {R : Type}

namespace Frontend

/-! ## static types -/

def numTy (t : Ty) : Bool := t == .int || t == .real

/-- result type the grammar computes for `a op b` (exact_types on).  `opt` = as the grammar does it: a `mixed`
    operand takes the type of the other one; `opt = false` = the sound variant (mixed stays mixed). -/
def arithTy (opt : Bool) (op : BinOp) (t1 t3 : Ty) : Ty :=
  if t1 == t3 then (if op == .add || numTy t1 || t1 == .mixed then t1 else .mixed)
  else if t1 == .mixed then (if opt && (op == .add || numTy t3) then t3 else .mixed)
  else if t3 == .mixed then (if opt && (op == .add || numTy t1) then t1 else .mixed)
  else if numTy t1 && numTy t3 then .real
  else if op == .add && (t1 == .str || t3 == .str) then .str
  else .mixed

def typeOf (opt : Bool) (lt gt : List Ty) : Expr R → Ty
  | .lit (.int n) => if n == 0 then .mixed else .int      -- CREATE_NUMBER: the literal 0 is typed TYPE_ANY (it is also the null value)
  | .lit (.real _) => .real
  | .lit (.str _) => .str
  | .lit _ => .mixed
  | .loc k => lt.getD k .mixed
  | .glob k => gt.getD k .mixed
  | .un .neg e => typeOf opt lt gt e
  | .un _ _ => .int
  | .bin op a b =>
    match op with
    | .add | .sub | .mul | .div => arithTy opt op (typeOf opt lt gt a) (typeOf opt lt gt b)
    | _ => .int
  | .cond _ a b => if typeOf opt lt gt a == typeOf opt lt gt b then typeOf opt lt gt a else .mixed
  | .asg _ e => typeOf opt lt gt e
  | .aop _ _ e => typeOf opt lt gt e
  | .inc _ (.loc k) => lt.getD k .mixed
  | .inc _ (.glob k) => gt.getD k .mixed
  | _ => .mixed

/-! ## constant folding (grammar.y expr0 rules, binary_int_op) -/

/-- folding of `a op b` for two constant operands, exactly as the grammar computes it at compile time -/
def foldBin (F : FloatOps R) (op : BinOp) (a b : Value R) : Option (Value R) :=
  match op, a, b with
  | .add, .int x, .int y => some (.int (wrap (x + y)))
  | .add, .int x, .real y => some (.real (F.add y (F.ofInt x)))        -- $3->v.real += $1->v.number
  | .add, .real x, .int y => some (.real (F.add x (F.ofInt y)))
  | .add, .real x, .real y => some (.real (F.add x y))
  | .add, .str x, .str y => some (.str (x ++ y))
  | .sub, .int x, .int y => some (.int (wrap (x - y)))
  | .sub, .int x, .real y => some (.real (F.sub (F.ofInt x) y))
  | .sub, .real x, .int y => some (.real (F.sub x (F.ofInt y)))
  | .sub, .real x, .real y => some (.real (F.sub x y))
  | .mul, .int x, .int y => some (.int (wrap (x * y)))
  | .mul, .int x, .real y => some (.real (F.mul y (F.ofInt x)))        -- $3->v.real *= $1->v.number
  | .mul, .real x, .int y => some (.real (F.mul x (F.ofInt y)))
  | .mul, .real x, .real y => some (.real (F.mul x y))
  | .div, .int x, .int y => if y == 0 then none else some (.int (LpcOps.idiv x y))
  | .div, .int x, .real y => if F.eq y (F.ofInt 0) then none else some (.real (F.div (F.ofInt x) y))
  | .div, .real x, .int y => if y == 0 then none else some (.real (F.div x (F.ofInt y)))
  | .div, .real x, .real y => if F.eq y (F.ofInt 0) then none else some (.real (F.div x y))
  | .mod, .int x, .int y => if y == 0 then none else some (.int (LpcOps.imod x y))
  | .band, .int x, .int y => some (.int (Spec.bitop (· &&& ·) x y))
  | .bor, .int x, .int y => some (.int (Spec.bitop (· ||| ·) x y))
  | .bxor, .int x, .int y => some (.int (Spec.bitop (· ^^^ ·) x y))
  | .lsh, .int x, .int y => some (.int (LpcOps.shl x y))
  | .rsh, .int x, .int y => some (.int (LpcOps.sar x y))
  | _, _, _ => none

def foldUn (F : FloatOps R) (op : UnOp) (a : Value R) : Option (Value R) :=
  match op, a with
  | .not, .int x => some (.int (if x == 0 then 1 else 0))
  | .compl, .int x => some (.int (wrap (-x - 1)))
  | .neg, .int x => some (.int (wrap (-x)))
  | .neg, .real x => some (.real (F.neg x))
  | _, _ => none

def isLit : Expr R → Bool
  | .lit _ => true
  | _ => false

def isZeroLit : Expr R → Bool
  | .lit (.int 0) => true
  | _ => false

/-- the type code the grammar holds for a static type (`TYPE_*`, regenerated) -/
def tyCode : Ty → Nat
  | .int => NV.Gen.C03.typeNumber
  | .real => NV.Gen.C03.typeReal
  | .str => NV.Gen.C03.typeString
  | .mixed => NV.Gen.C03.typeAny

/-- root rewrite of a binary node whose children are already rewritten (the grammar action of `expr0 op expr0`) -/
def rwBin (F : FloatOps R) (q : Quirks) (lt gt : List Ty) (op : BinOp) (a b : Expr R) : Expr R :=
  let ty := fun e => typeOf q.optimisticTypes lt gt e
  let dflt : Expr R := .bin op a b
  match a, b with
  | .lit x, .lit y =>
    -- `0 + X` is tested before the constant case
    if op == .add && (NV.Gen.C03.rwAddZeroL (isZeroLit a) (tyCode (ty b)) || (isZeroLit a && ty b == .real && q.foldAddZeroReal)) then b
    else if op == .sub && ((isZeroLit a && q.zeroMinusNeg) || NV.Gen.C03.rwSubZeroL (isZeroLit a) (tyCode (ty b))) then
      (match foldUn F .neg y with | some v => .lit v | none => .un .neg b)
    else match foldBin F op x y with
      | some v => .lit v
      | none =>
        if op == .eq && NV.Gen.C03.rwEqZeroL (isZeroLit a) (tyCode (ty b)) then .un .not b
        else if op == .eq && NV.Gen.C03.rwEqZeroR (isZeroLit b) (tyCode (ty a)) then .un .not a
        else dflt
  | _, _ =>
    match op with
    | .add =>
      if NV.Gen.C03.rwAddZeroL (isZeroLit a) (tyCode (ty b)) || (isZeroLit a && ty b == .real && q.foldAddZeroReal) then b
      else if isLit a && (match a with | .lit (.int _) | .lit (.real _) => true | _ => false)
              && ty b != .str && ty b != .mixed then .bin .add b a          -- swap: constant to the right
      else if !(isLit a) && (NV.Gen.C03.rwAddZeroR (isZeroLit b) (tyCode (ty a)) || (isZeroLit b && ty a == .real && q.foldAddZeroReal)) then a
      else dflt
    | .sub => if (isZeroLit a && q.zeroMinusNeg) || NV.Gen.C03.rwSubZeroL (isZeroLit a) (tyCode (ty b)) then .un .neg b else dflt
    | .mul =>
      if (match a with | .lit (.int _) | .lit (.real _) => true | _ => false) then .bin .mul b a else dflt
    | .band | .bor | .bxor =>
      if (match a with | .lit (.int _) => true | _ => false) then .bin op b a else dflt
    | .eq =>
      if NV.Gen.C03.rwEqZeroL (isZeroLit a) (tyCode (ty b)) then .un .not b
      else if NV.Gen.C03.rwEqZeroR (isZeroLit b) (tyCode (ty a)) then .un .not a
      else dflt
    | _ => dflt

def rwUn (F : FloatOps R) (op : UnOp) (a : Expr R) : Expr R :=
  match a with
  | .lit v => match foldUn F op v with | some r => .lit r | none => .un op a
  | _ => .un op a

/-- `!a ? b : c  -->  a ? c : b` -/
def rwCond (c a b : Expr R) : Expr R :=
  match c with
  | .un .not x => .cond x b a
  | _ => .cond c a b

/-- `x[i..<1]` is compiled as `x[i..]` (before the fix fa775d5: every constant k <= 1) -/
def rwRng (q : Quirks) (fr tr : Bool) (a i j : Expr R) : Expr R :=
  match tr, j with
  | true, .lit (.int k) => if k = 1 ∨ (q.lvRangeConstRev = true ∧ k ≤ 1) then .rnge fr a i else .rng fr tr a i j
  | _, _ => .rng fr tr a i j

/-- `({ e0, e1, .. })[const]` is replaced by the element -/
def rwIdx (a i : Expr R) : Expr R :=
  match a, i with
  | .arr es, .lit (.int k) => if 0 ≤ k ∧ k < es.length then es.getD k.toNat (.lit (.int 0)) else .idx a i
  | _, _ => .idx a i

/-- condition of `if`: `x != 0 --> x` for int-typed x -/
def rwIfCond (q : Quirks) (lt gt : List Ty) (c : Expr R) : Expr R :=
  match c with
  | .bin .ne x (.lit (.int 0)) => if NV.Gen.C03.rwIfNeZeroR true (tyCode (typeOf q.optimisticTypes lt gt x)) then x else c
  | .bin .ne (.lit (.int 0)) x => if NV.Gen.C03.rwIfNeZeroL true (tyCode (typeOf q.optimisticTypes lt gt x)) then x else c
  | _ => c

/-- cond_get_exp: `#if` arithmetic in 32-bit `int` -/
def ppEval32 : Expr R → Option Int
  | .lit (.int n) => some (wrap32 n)
  | .un .neg a => do some (wrap32 (-(← ppEval32 a)))
  | .un .not a => do some (if (← ppEval32 a) == 0 then 1 else 0)
  | .un .compl a => do some (wrap32 (-(← ppEval32 a) - 1))
  | .bin op a b => do
    let x ← ppEval32 a
    let y ← ppEval32 b
    match op with
    | .add => some (wrap32 (x + y))
    | .sub => some (wrap32 (x - y))
    | .mul => some (wrap32 (x * y))
    | .lt => some (if x < y then 1 else 0)
    | .le => some (if x ≤ y then 1 else 0)
    | .gt => some (if x > y then 1 else 0)
    | .ge => some (if x ≥ y then 1 else 0)
    | .eq => some (if x == y then 1 else 0)
    | .ne => some (if x != y then 1 else 0)
    | _ => none
  | _ => none

mutual
  /-- the whole front end on an expression: children first, then the root action (fuel bounds the depth) -/
  def rwE (F : FloatOps R) (q : Quirks) (lt gt : List Ty) : Nat → Expr R → Expr R
    | 0, e => e
    | n + 1, e =>
      match e with
      | .un op a => rwUn F op (rwE F q lt gt n a)
      | .bin op a b => rwBin F q lt gt op (rwE F q lt gt n a) (rwE F q lt gt n b)
      | .land a b => .land (rwE F q lt gt n a) (rwE F q lt gt n b)
      | .lor a b => .lor (rwE F q lt gt n a) (rwE F q lt gt n b)
      | .cond c a b => rwCond (rwE F q lt gt n c) (rwE F q lt gt n a) (rwE F q lt gt n b)
      | .asg lv a => .asg (rwLV F q lt gt n lv) (rwE F q lt gt n a)
      | .aop op lv a => .aop op (rwLV F q lt gt n lv) (rwE F q lt gt n a)
      | .inc k lv => .inc k (rwLV F q lt gt n lv)
      | .idx a i => rwIdx (rwE F q lt gt n a) (rwE F q lt gt n i)
      | .ridx a i => .ridx (rwE F q lt gt n a) (rwE F q lt gt n i)
      | .rng fr tr a i j => rwRng q fr tr (rwE F q lt gt n a) (rwE F q lt gt n i) (rwE F q lt gt n j)
      | .rnge fr a i => .rnge fr (rwE F q lt gt n a) (rwE F q lt gt n i)
      | .arr es => .arr (rwL F q lt gt n es)
      | .map kvs => .map (rwP F q lt gt n kvs)
      | .call f args => .call f (rwL F q lt gt n args)
      | .efun f args =>
        -- `(efun #if e)`: the value the preprocessor computed for the condition of an `#if`
        match f, args with
        | "#if", [c] => (match (if q.ppIf32 then ppEval32 c else none) with
                          | some v => .lit (.int v)
                          | none => .efun f (rwL F q lt gt n args))
        | _, _ => .efun f (rwL F q lt gt n args)
      | other => other
  def rwL (F : FloatOps R) (q : Quirks) (lt gt : List Ty) : Nat → List (Expr R) → List (Expr R)
    | 0, es => es
    | _ + 1, [] => []
    | n + 1, e :: es => rwE F q lt gt n e :: rwL F q lt gt n es
  def rwP (F : FloatOps R) (q : Quirks) (lt gt : List Ty) : Nat → List (Expr R × Expr R) → List (Expr R × Expr R)
    | 0, es => es
    | _ + 1, [] => []
    | n + 1, (k, v) :: es => (rwE F q lt gt n k, rwE F q lt gt n v) :: rwP F q lt gt n es
  def rwLV (F : FloatOps R) (q : Quirks) (lt gt : List Ty) : Nat → LV R → LV R
    | 0, l => l
    | n + 1, l =>
      match l with
      | .idx lv i => .idx (rwLV F q lt gt n lv) (rwE F q lt gt n i)
      | .ridx lv i => .ridx (rwLV F q lt gt n lv) (rwE F q lt gt n i)
      | .rng fr tr lv i j =>
        let j' := rwE F q lt gt n j
        -- parsed as an rvalue first: `[i..<k]`, k constant <= 1, became `[i..]` and is re-expanded to `[i..<1]`
        let j'' := match tr, j' with
          | true, .lit (.int k) => if q.lvRangeConstRev && decide (k ≤ 1) then .lit (.int 1) else j'
          | _, _ => j'
        .rng fr tr (rwLV F q lt gt n lv) (rwE F q lt gt n i) j''
      | other => other
end

mutual
  def rwS (F : FloatOps R) (q : Quirks) (lt gt : List Ty) : Nat → Stmt R → Stmt R
    | 0, s => s
    | n + 1, s =>
      let re := rwE F q lt gt 100000
      match s with
      | .expr e => .expr (re e)
      | .ret e => .ret (re e)
      | .ite c t e =>
        let c' := rwIfCond q lt gt (re c)
        .ite c' (rwS F q lt gt n t) (rwS F q lt gt n e)
      | .while c b => .while (re c) (rwS F q lt gt n b)
      | .doWhile b c => .doWhile (rwS F q lt gt n b) (re c)
      | .for i c st b => .for (rwS F q lt gt n i) (re c) (rwS F q lt gt n st) (rwS F q lt gt n b)
      | .foreach lv e b => .foreach (rwLV F q lt gt 100000 lv) (re e) (rwS F q lt gt n b)
      | .foreach2 lk lv e b => .foreach2 (rwLV F q lt gt 100000 lk) (rwLV F q lt gt 100000 lv) (re e) (rwS F q lt gt n b)
      | .switch e arms => .switch (re e) (rwArms F q lt gt n arms)
      | .block ss => .block (rwSL F q lt gt n ss)
      | other => other
  def rwSL (F : FloatOps R) (q : Quirks) (lt gt : List Ty) : Nat → List (Stmt R) → List (Stmt R)
    | 0, ss => ss
    | _ + 1, [] => []
    | n + 1, s :: ss => rwS F q lt gt n s :: rwSL F q lt gt n ss
  def rwArms (F : FloatOps R) (q : Quirks) (lt gt : List Ty) :
      Nat → List (CaseLabel × List (Stmt R)) → List (CaseLabel × List (Stmt R))
    | 0, as => as
    | _ + 1, [] => []
    | n + 1, (l, ss) :: as => (l, rwSL F q lt gt n ss) :: rwArms F q lt gt n as
end

def rwProg (F : FloatOps R) (q : Quirks) (P : Prog R) : Prog R :=
  { P with fns := P.fns.map (fun fn =>
      { fn with body := rwS F q (List.replicate fn.nparams .mixed ++ fn.locals) P.globals 100000 fn.body }) }

/-! ## literal encodings (icode.c write_long_number / write_number, interpret.c F_CONST0 .. F_LONG) -/

inductive NumCode where
  | const0
  | const1
  | byte (b : Nat)          -- F_BYTE, operand 0..255
  | nbyte (b : Nat)         -- F_NBYTE, operand = -val, 1..255
  | number (lo32 : Nat)     -- F_NUMBER, 4 operand bytes (two's complement of the int)
  | long (lo64 : Nat)       -- F_LONG, 8 operand bytes
  deriving Repr, DecidableEq

/-- write_long_number: the encoding chosen for a 64-bit constant -/
def encodeNum (v : Int) : NumCode :=
  if -(2 ^ 31) ≤ v ∧ v < 2 ^ 31 then
    -- write_number ((int) val)
    if 0 ≤ v ∧ v ≤ 255 then (if v = 0 then .const0 else if v = 1 then .const1 else .byte v.toNat)
    else if v < 0 ∧ v > -256 then .nbyte (-v).toNat
    else .number (v % 2 ^ 32).toNat
  else .long (v % 2 ^ 64).toNat

/-- what eval_instruction pushes for each encoding -/
def decodeNum : NumCode → Int
  | .const0 => 0
  | .const1 => 1
  | .byte b => b                       -- push_number (EXTRACT_UCHAR (pc++))
  | .nbyte b => -(b : Int)             -- push_number (-((int) EXTRACT_UCHAR (pc++)))
  | .number lo => wrap32 lo            -- LOAD_INT (i, pc); push_number (i)
  | .long lo => wrap lo                -- LOAD_LONG

/-! ## switch tables (prepare_cases + i_generate_node) -/

def insertSorted (e : Int × Nat) : List (Int × Nat) → List (Int × Nat)
  | [] => [e]
  | x :: xs => if e.1 ≤ x.1 then e :: x :: xs else x :: insertSorted e xs

def sortEntries (l : List (Int × Nat)) : List (Int × Nat) := l.foldr insertSorted []

/-- are the keys consecutive? -/
def consecutive : List (Int × Nat) → Bool
  | [] => true
  | [_] => true
  | a :: b :: rest => (a.1 + 1 == b.1) && consecutive (b :: rest)

/-- integer switch table for the arm labels (in source order; arm k gets target k + 2); `none` when the
    labels are not integer labels.  Duplicate / overlapping labels are a compile error and not handled here. -/
def buildTable (labels : List CaseLabel) : Option LpcOps.SwTable :=
  let idx := labels.zipIdx
  if labels.any (fun l => match l with | .str _ => true | _ => false) then none else
  let hasRange := labels.any (fun l => match l with | .range _ _ => true | _ => false)
  -- one sort key per label: the lower bound
  let keyed : List (Int × (Int × Nat)) := idx.filterMap (fun (l, k) =>
    match l with
    | .num n => some (n, (n, k + 2))
    | .range lo hi => some (lo, (hi, k + 2))
    | _ => none)
  let sorted := (sortEntries (keyed.map (fun e => (e.1, e.2.2)))).map (fun e =>
    match keyed.find? (fun x => x.1 == e.1 && x.2.2 == e.2) with
    | some x => x
    | none => (e.1, (e.1, e.2)))
  if !hasRange && consecutive (sorted.map (fun e => (e.1, e.2.2))) && !sorted.isEmpty
     && inI32 (sorted.headD (0, (0, 0))).1 && inI32 (sorted.getLastD (0, (0, 0))).1 then
    some (.direct (sorted.headD (0, (0, 0))).1 (sorted.map (fun e => e.2.2)))
  else
    some (.sorted (sorted.flatMap (fun e => if e.1 == e.2.1 then [(e.1, e.2.2)] else [(e.1, 1), (e.2.1, e.2.2)])))

/-! ### string switches: labels are interned at compile time, the table holds their ADDRESSES in ascending order,
    `case 0:` is the entry with address 0 (ZERO_AS_STR_CASE_LABEL); ranges are not allowed -/

/-- table key of a label of a string switch (`addr` = address of the shared string) -/
def strLabelKey (addr : List UInt8 → Int) : CaseLabel → Option Int
  | .str s => some (addr s)
  | .num n => if n == 0 then some 0 else none
  | _ => none

def strEntries (addr : List UInt8 → Int) (labels : List CaseLabel) : List (Int × Nat) :=
  labels.zipIdx.filterMap (fun p => (strLabelKey addr p.1).map (fun k => (k, p.2 + 2)))

/-- prepare_cases (string_case_compare) + i_generate_node: entries sorted by address -/
def strTable (addr : List UInt8 → Int) (labels : List CaseLabel) : List (Int × Nat) := sortEntries (strEntries addr labels)

/-- f_switch on a string table: the int 0 searches address 0; a string is looked up in the shared string table first
    (`findstring`; a shared string is its own address) — NOT FOUND THERE means no label can be equal to it: `default`
    at once, WITHOUT searching (address 0 would hit `case 0:`); otherwise binary search for its address -/
def strSwitchFind (addr : List UInt8 → Int) (interned : List UInt8 → Bool) (labels : List CaseLabel) (v : Value R) :
    Res (Option Nat) :=
  let dflt := labels.findIdx? (fun l => l == .dflt)
  let go := fun (s : Int) => match LpcOps.switchLookup (.sorted (strTable addr labels)) s with
    | some a => some (a - 2)
    | none => dflt
  match v with
  | .int n => if n == 0 then .ok (go 0) else .err
  | .str x => if interned x then .ok (go (addr x)) else .ok dflt
  | _ => .err

/-- an injective, non-zero address assignment for execution (which one is irrelevant: `string_switch_agrees`) -/
def addrExec (s : List UInt8) : Int := (s.foldl (fun acc b => acc * 257 + b.toNat + 1) 0 : Nat) + 2

/-- f_switch through the compiled table: index of the selected arm -/
def switchFind (labels : List CaseLabel) (v : Value R) : Res (Option Nat) :=
  let dflt := labels.findIdx? (fun l => l == .dflt)
  match buildTable labels with
  | some tab =>
    match v with
    | .int s =>
      match LpcOps.switchLookup tab s with
      | some a => .ok (some (a - 2))
      | none => .ok dflt
    | _ => .err
  | none =>
    -- string table; interned = at least the labels (strings interned elsewhere are found but are in no table entry)
    strSwitchFind addrExec (fun s => labels.any (fun l => l == .str s)) labels v

end Frontend

/-- the interpreter's operator semantics (after the front end has rewritten the program) -/
def modelSem (F : FloatOps R) (q : Quirks) : Sem R where
  unop := LpcOps.unop F
  binop := LpcOps.binop F
  truthy := LpcOps.truthy
  assignop := LpcOps.assignop F q
  incdec := LpcOps.incdec F
  index := LpcOps.index F
  rindex := LpcOps.rindex
  range := LpcOps.range q Spec.oldRange
  extract := LpcOps.extract q Spec.oldRange
  lvGet := LpcOps.lvGet F
  lvSet := LpcOps.lvSet F q
  storeRange := LpcOps.storeRange
  foreachSeq := LpcOps.foreachSeq
  keyEq := keyEq F
  switchFind := Frontend.switchFind
  whileDec := some (LpcOps.whileDec F)
  loopCondNum := some (LpcOps.loopCondNum F)
  loopCondLocal := some (LpcOps.loopCondLocal F)

end NV.C03
