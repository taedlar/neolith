/-
C03 — ranges `c[i..j]` (all `<` combinations) and `c[i..]` on strings, buffers and arrays.

f_range / f_extract_range are parametrised by the function that turns a `<` bound into a position.  With the exact
difference `len - i` f_range is the reference range (`rangeWith_exact_agrees`).  The code uses the saturating
`range_from_end ()`; its result differs from `len - i` only where both lie at or beyond the end of the container, and such
positions select the same elements (`SamePos`, `rangeWith_samePos`).  f_extract_range is f_range with the second bound `<1`
(`extractWith_eq_rangeWith`), so what holds of f_range holds of it.
-/
import NV.C03.Operators

namespace NV.C03
variable {R : Type}

/-! ## selections: "nothing, or some elements from a position on" -/

/-- two such selections agree when they are empty together and otherwise start at the same place and take the same number
    of elements, or both all that is left -/
theorem ite_dropTake_eq {α} (l : List α) {c c' : Prop} [Decidable c] [Decidable c'] {a a' n n' : Int}
    (hc : c ↔ c') (h : ¬ c → a = a' ∧ (n = n' ∨ ((l.length : Int) - a ≤ n ∧ (l.length : Int) - a ≤ n'))) :
    (if c then [] else (l.drop a.toNat).take n.toNat) = (if c' then [] else (l.drop a'.toNat).take n'.toNat) := by
  by_cases hcc : c
  · rw [if_pos hcc, if_pos (hc.mp hcc)]
  · obtain ⟨rfl, h | ⟨h1, h2⟩⟩ := h hcc
    · rw [if_neg hcc, if_neg (mt hc.mpr hcc), h]
    · rw [if_neg hcc, if_neg (mt hc.mpr hcc), List.take_of_length_le (by simp only [List.length_drop]; omega),
        List.take_of_length_le (by simp only [List.length_drop]; omega)]

/-- f_range's selection on strings / buffers is the reference slice once `from` is clamped at 0 -/
theorem cut_eq_slice {α} (l : List α) (f t : Int) :
    LpcOps.cut l (if f < 0 then 0 else f) t = Spec.slice l f t := by
  unfold LpcOps.cut Spec.slice
  apply ite_dropTake_eq <;> omega

/-- slice_array is the reference slice for all bounds: its own clamps are those of the reference -/
theorem sliceArray_eq {α} (l : List α) (f t : Int) : LpcOps.sliceArray l f t = Spec.slice l f t := by
  unfold LpcOps.sliceArray Spec.slice
  apply ite_dropTake_eq <;> omega

/-- the clamps f_range applies to array bounds before it narrows them to `int` do not change the selection -/
theorem slice_clamp {α} (l : List α) (f t : Int) :
    Spec.slice l (if (if f < 0 then 0 else f) > (l.length : Int) then (l.length : Int) else (if f < 0 then 0 else f))
      (if (if t ≥ (l.length : Int) then (l.length : Int) - 1 else t) < -1 then -1
       else (if t ≥ (l.length : Int) then (l.length : Int) - 1 else t)) = Spec.slice l f t := by
  unfold Spec.slice
  apply ite_dropTake_eq <;> omega

/-- slice_array as f_range calls it on arrays, with the clamped bounds `f'`, `t'` given by equations: `sliceArray_eq` (all
    bounds) after `slice_clamp` -/
theorem sliceArray_eq_slice {α} (l : List α) (f t f' t' : Int)
    (hf : f' = (if (if f < 0 then 0 else f) > (l.length : Int) then (l.length : Int) else (if f < 0 then 0 else f)))
    (ht : t' = (if (if t ≥ (l.length : Int) then (l.length : Int) - 1 else t) < -1 then -1 else (if t ≥ (l.length : Int) then (l.length : Int) - 1 else t))) :
    LpcOps.sliceArray l f' t' = Spec.slice l f t := by
  rw [hf, ht, sliceArray_eq, slice_clamp]

/-- the position arithmetic of f_range on strings (without the repaired `else if`) is that of the reference -/
theorem rangePos_str (old : Bool) (len : Int) (rev : Bool) (x : Int) :
    (if rev = true then (if (old && decide (len - x < 0)) = true then len - x + len else len - x)
      else if (old && decide (x < 0)) = true then x + len else x) = Spec.rangePos old len rev x := by
  cases rev <;> rfl

/-- the `from` of f_range on buffers and of f_extract_range: OLD_RANGE_BEHAVIOR adjustment and clamp at 0 in one -/
theorem old_clamp (old : Bool) (p len : Int) :
    (if old = true then if p < 0 then (if p + len < 0 then 0 else p + len) else p else if p < 0 then 0 else p)
      = (if (if (old && decide (p < 0)) = true then p + len else p) < 0 then 0
         else (if (old && decide (p < 0)) = true then p + len else p)) := by
  cases old <;> simp only [Bool.false_and, Bool.true_and, Bool.false_eq_true, decide_eq_true_eq, if_false, if_true] <;> omega

/-- f_range with exact (unbounded) `len - i` is the reference range -/
theorem rangeWith_exact_agrees (fr tr : Bool) (c i j : Value R) (hc : SizeOk c) :
    LpcOps.rangeWith (fun a b => a - b) false Spec.oldRange fr tr c i j = Spec.range fr tr c i j := by
  -- the opcode looks at the bounds first, the reference at the container
  cases c with
  | str s =>
    cases i with
    | int i =>
      cases j with
      | int j =>
        simp only [LpcOps.rangeWith, Spec.range, Bool.false_eq_true, if_false]
        rw [rangePos_str, rangePos_str, cut_eq_slice]
      | _ => rfl
    | _ => rfl
  | buf b =>
    cases i with
    | int i =>
      cases j with
      | int j =>
        simp only [LpcOps.rangeWith, Spec.range, old_clamp]
        exact congrArg _ (congrArg _ (cut_eq_slice b _ _))
      | _ => rfl
    | _ => rfl
  | arr l =>
    cases i with
    | int i =>
      cases j with
      | int j =>
        simp only [SizeOk] at hc
        simp only [LpcOps.rangeWith, Spec.range]
        rw [wrap32_id (by omega) (by omega), wrap32_id (by omega) (by omega), sliceArray_eq, slice_clamp]
        rfl
      | _ => rfl
    | _ => rfl
  | _ =>
    cases i with
    | int i => cases j <;> rfl
    | _ => rfl

/-- a `to` at or beyond the last element: everything from `from` on -/
theorem cut_suffix {α} (l : List α) (f : Int) {t : Int} (ht : (l.length : Int) - 1 ≤ t) :
    LpcOps.cut l f t = if f ≥ (l.length : Int) then [] else l.drop f.toNat := by
  unfold LpcOps.cut
  by_cases h : f ≥ (l.length : Int)
  · rw [if_pos (.inr h), if_pos h]
  · rw [if_neg (not_or.mpr ⟨by omega, h⟩), if_neg h, List.take_of_length_le (by simp only [List.length_drop]; omega)]

/-- f_extract_range on buffers clamps `from` to the length instead of testing it -/
theorem drop_clampHi {α} (l : List α) (f : Int) :
    l.drop (if f > (l.length : Int) then (l.length : Int) else f).toNat = if f ≥ (l.length : Int) then [] else l.drop f.toNat := by
  by_cases h : f ≥ (l.length : Int)
  · rw [if_pos h]; exact List.drop_eq_nil_of_le (by omega)
  · rw [if_neg h, if_neg (by omega)]

/-- f_extract_range is f_range with the second bound `<1`, as `c[i..]` is `c[i..<1]` in the reference; `sb` has to resolve
    `<1` to the last position -/
theorem extractWith_eq_rangeWith {sb : Int → Int → Int} (old fr : Bool) (c i : Value R)
    (h1 : ∀ len : Nat, (len : Int) < 2 ^ 31 → sb len 1 = len - 1) (hc : SizeOk c) :
    LpcOps.extractWith sb old fr c i = LpcOps.rangeWith sb false old fr true c i (.int 1) := by
  cases i with
  | int i =>
    cases c with
    | str s =>
      -- f_range adjusts each kind of bound for OLD_RANGE_BEHAVIOR on its own, f_extract_range after the choice
      cases fr <;>
        simp only [LpcOps.extractWith, LpcOps.rangeWith, h1 _ hc, old_clamp, Bool.false_eq_true, if_false, if_true] <;>
        rw [cut_suffix s _ (by split <;> omega)] <;>
        exact (apply_ite (fun x : List UInt8 => (Res.ok (Value.str x) : Res (Value R))) _ _ _).symm
    | buf b =>
      simp only [LpcOps.extractWith, LpcOps.rangeWith, h1 _ hc, old_clamp, if_true]
      rw [cut_suffix b _ (by split <;> omega), drop_clampHi]
    | arr l =>
      have hc : (l.length : Int) < 2 ^ 31 := hc
      simp only [LpcOps.extractWith, LpcOps.rangeWith, h1 _ hc, if_true]
      exact congrArg _ (congrArg _ (congrArg _ (congrArg _ (by omega))))
    | _ => rfl
  | _ => rfl

/-- `c[i..]` / `c[<i..]` (f_extract_range) with exact `len - i` is the reference `c[i..<1]` -/
theorem extractWith_exact_agrees (fr : Bool) (c i : Value R) (hc : SizeOk c) :
    LpcOps.extractWith (fun a b => a - b) Spec.oldRange fr c i = Spec.extract fr c i :=
  (extractWith_eq_rangeWith _ fr c i (fun _ _ => rfl) hc).trans (rangeWith_exact_agrees fr true c i (.int 1) hc)

/-- two positions that select the same elements of a container of `len` elements: equal, or both at or beyond its end -/
def SamePos (len : Nat) (p q : Int) : Prop := p = q ∨ (len ≤ p ∧ len ≤ q)

namespace SamePos
variable {len : Nat} {p q p' q' : Int}

theorem ite (c : Prop) [Decidable c] (h : SamePos len p q) (h' : SamePos len p' q') :
    SamePos len (if c then p else p') (if c then q else q') := by
  split <;> assumption

/-- the OLD_RANGE_BEHAVIOR adjustment only moves negative positions -/
theorem oldPos (old : Bool) (h : SamePos len p q) :
    SamePos len (if old && decide (p < 0) then p + len else p) (if old && decide (q < 0) then q + len else q) := by
  rcases h with rfl | ⟨h1, h2⟩
  · exact .inl rfl
  · rw [if_neg (by simp; omega), if_neg (by simp; omega)]; exact .inr ⟨h1, h2⟩

theorem clamp0 (h : SamePos len p q) : SamePos len (if p < 0 then 0 else p) (if q < 0 then 0 else q) := by
  rcases h with rfl | ⟨h1, h2⟩
  · exact .inl rfl
  · rw [if_neg (by omega), if_neg (by omega)]; exact .inr ⟨h1, h2⟩

/-- clamped to the container the two positions are one -/
theorem clampHi (h : SamePos len p q) : (if p > len then (len : Int) else p) = (if q > len then (len : Int) else q) := by
  unfold SamePos at h; omega

theorem clampTop (h : SamePos len p q) :
    (if p ≥ len then (len : Int) - 1 else p) = (if q ≥ len then (len : Int) - 1 else q) := by
  unfold SamePos at h; omega

/-- a bound of f_range / f_extract_range as a position, for two ways of resolving `<` that agree up to `SamePos` -/
theorem bound {sb sb' : Int → Int → Int}
    (h : ∀ (len : Nat) x, (len : Int) < 2 ^ 31 → I64 x → SamePos len (sb len x) (sb' len x))
    (hl : (len : Int) < 2 ^ 31) {x : Int} (hx : I64 x) (rev : Bool) :
    SamePos len (if rev then sb len x else x) (if rev then sb' len x else x) :=
  .ite _ (h len x hl hx) (.inl rfl)

end SamePos

theorem cut_samePos {α} (l : List α) {f f' t t' : Int} (hf : SamePos l.length f f') (ht : SamePos l.length t t') :
    LpcOps.cut l f t = LpcOps.cut l f' t' := by
  rcases hf with rfl | ⟨hf, hf'⟩
  · rcases ht with rfl | ⟨ht, ht'⟩
    · rfl
    · rw [cut_suffix l f (by omega), cut_suffix l f (by omega)]
  · unfold LpcOps.cut; rw [if_pos (.inr hf), if_pos (.inr hf')]

/-- f_range looks at the positions of its `<` bounds only through the elements they select -/
theorem rangeWith_samePos {sb sb' : Int → Int → Int} (sr old fr tr : Bool) (c i j : Value R)
    (h : ∀ (len : Nat) x, (len : Int) < 2 ^ 31 → I64 x → SamePos len (sb len x) (sb' len x))
    (hc : SizeOk c) (hi : VI64 i) (hj : VI64 j) :
    LpcOps.rangeWith sb sr old fr tr c i j = LpcOps.rangeWith sb' sr old fr tr c i j := by
  cases i with
  | int i =>
    cases j with
    | int j =>
      cases c with
      | str s =>
        have pi := h _ i hc hi
        have pj := h _ j hc hj
        simp only [LpcOps.rangeWith]
        exact congrArg _ (congrArg _ (cut_samePos s
          (.clamp0 (.ite _ (.ite _ pi (.oldPos old pi)) (.inl rfl)))
          (.ite _ (.ite _ pj (.oldPos old pj)) (.inl rfl))))
      | buf b =>
        have pi := h _ i hc hi
        have pj := h _ j hc hj
        simp only [LpcOps.rangeWith, old_clamp]
        exact congrArg _ (congrArg _ (cut_samePos b
          (.clamp0 (.oldPos old (.ite _ pi (.inl rfl))))
          (.oldPos old (.ite _ pj (.inl rfl)))))
      | arr l =>
        simp only [LpcOps.rangeWith]
        rw [(SamePos.bound h hc hi fr).clamp0.clampHi, (SamePos.bound h hc hj tr).clampTop]
      | _ => rfl
    | _ => rfl
  | _ => rfl

/-! ## the `<` bound of the code: `range_from_end ()` of operator.c, regenerated as `NV.Gen.C03.rangeFromEnd` -/

theorem w64_eq_wrap (n : Int) : NV.Gen.C03.w64 n = wrap n := rfl

/-- bridging lemma: for a length the driver can have and every int64 bound, the regenerated helper (every C operation
    wrapping) computes `len - i` saturated at INT64_MAX - no C operation in it overflows -/
theorem rangeFromEnd_spec {len i : Int} (h0 : 0 ≤ len) (h1 : len < 2 ^ 31) (hi : I64 i) :
    NV.Gen.C03.rangeFromEnd len i = if len - i > 2 ^ 63 - 1 then 2 ^ 63 - 1 else len - i := by
  unfold NV.Gen.C03.rangeFromEnd NV.Gen.C03.w64
  unfold I64 at hi
  omega

/-- what the rest of f_range needs to know about a saturated position -/
theorem rangeFromEnd_cases {len i : Int} (h0 : 0 ≤ len) (h1 : len < 2 ^ 31) (hi : I64 i) :
    (NV.Gen.C03.rangeFromEnd len i = len - i ∧ len - i ≤ 2 ^ 63 - 1) ∨
      (NV.Gen.C03.rangeFromEnd len i = 2 ^ 63 - 1 ∧ len - i > 2 ^ 63 - 1) := by
  rw [rangeFromEnd_spec h0 h1 hi]; omega

/-- INT64_MAX lies beyond the end of every container -/
theorem samePos_rangeFromEnd {len : Nat} {i : Int} (h1 : (len : Int) < 2 ^ 31) (hi : I64 i) :
    SamePos len (NV.Gen.C03.rangeFromEnd len i) (len - i) := by
  have := rangeFromEnd_cases (Int.natCast_nonneg _) h1 hi
  unfold SamePos; omega

set_option linter.unusedVariables false in  -- `hfm` is not needed
/-- `cut` does not see the saturation: a `from` at or beyond the end selects nothing, a `to` at or beyond the last
    element selects up to the end -/
theorem cut_sat {α} (l : List α) (f f' t t' : Int) (hl : (l.length : Int) < 2 ^ 31)
    (hf : f' = f ∨ (f' = 2 ^ 63 - 1 ∧ f > 2 ^ 63 - 1)) (ht : t' = t ∨ (t' = 2 ^ 63 - 1 ∧ t > 2 ^ 63 - 1))
    (hfm : f' ≤ 2 ^ 63 - 1) :
    LpcOps.cut l f' t' = LpcOps.cut l f t := by
  have pf : SamePos l.length f' f := by unfold SamePos; omega
  have pt : SamePos l.length t' t := by unfold SamePos; omega
  exact cut_samePos l pf pt

/-- the saturating helper of the code and the exact subtraction give the same range for every container the driver can
    hold and all int64 bounds -/
theorem rangeWith_sat (sr old fr tr : Bool) (c i j : Value R) (hc : SizeOk c) (hi : VI64 i) (hj : VI64 j) :
    LpcOps.rangeWith NV.Gen.C03.rangeFromEnd sr old fr tr c i j = LpcOps.rangeWith (fun a b => a - b) sr old fr tr c i j :=
  rangeWith_samePos sr old fr tr c i j (fun _ _ => samePos_rangeFromEnd) hc hi hj

theorem extractWith_sat (old fr : Bool) (c i : Value R) (hc : SizeOk c) (hi : VI64 i) :
    LpcOps.extractWith NV.Gen.C03.rangeFromEnd old fr c i = LpcOps.extractWith (fun a b => a - b) old fr c i := by
  have one : VI64 (R := R) (.int 1) := by unfold VI64 I64; omega
  rw [extractWith_eq_rangeWith _ fr c i (fun _ _ => rfl) hc,
    extractWith_eq_rangeWith _ fr c i (fun len h => by rw [rangeFromEnd_spec (Int.natCast_nonneg _) h one]; omega) hc]
  exact rangeWith_sat false old fr true c i (.int 1) hc hi one

/-- whenever the wrapping subtraction of the unrepaired code is off (`revRangeWrap`), `<` bounds go through `range_from_end ()` -/
theorem revSub_eq {q : Quirks} (h : q.revRangeWrap = false) : LpcOps.revSub q = NV.Gen.C03.rangeFromEnd := by
  funext a b; simp only [LpcOps.revSub, h, Bool.false_eq_true, if_false]

/-- with the two deviations of f_range switched off it returns the reference range for ALL int64 bounds (all four `<`
    combinations; strings, buffers, arrays) -/
theorem range_eq (q : Quirks) (hw : q.revRangeWrap = false) (hn : q.strRangeRevNeg = false) (fr tr : Bool) (c i j : Value R)
    (hc : SizeOk c) (hi : VI64 i) (hj : VI64 j) : LpcOps.range q Spec.oldRange fr tr c i j = Spec.range fr tr c i j := by
  unfold LpcOps.range
  rw [revSub_eq hw, hn, rangeWith_sat _ _ _ _ _ _ _ hc hi hj, rangeWith_exact_agrees _ _ _ _ _ hc]

/-- FULL statement (finding rev-range-wrap repaired): f_range of the code that exists (all four `<` combinations) on
    strings, buffers and arrays returns the reference range for ALL int64 bounds -/
theorem range_agrees (fr tr : Bool) (c i j : Value R) (hc : SizeOk c) (hi : VI64 i) (hj : VI64 j) :
    LpcOps.range Quirks.real Spec.oldRange fr tr c i j = Spec.range fr tr c i j :=
  range_eq _ rfl rfl fr tr c i j hc hi hj

theorem range_agrees_repaired (fr tr : Bool) (c i j : Value R) (hc : SizeOk c) (hi : VI64 i) (hj : VI64 j) :
    LpcOps.range Quirks.none Spec.oldRange fr tr c i j = Spec.range fr tr c i j :=
  range_eq _ rfl rfl fr tr c i j hc hi hj

example : LpcOps.range (R := Nat) Quirks.real true true false (.arr [.int 10]) (.int (-(2 ^ 63))) (.int 5) = .ok (.arr []) := by
  simp [LpcOps.range, LpcOps.rangeWith, LpcOps.revSub, Quirks.real, NV.Gen.C03.rangeFromEnd, NV.Gen.C03.w64, LpcOps.sliceArray, wrap32]

theorem extract_eq (q : Quirks) (hw : q.revRangeWrap = false) (fr : Bool) (c i : Value R) (hc : SizeOk c) (hi : VI64 i) :
    LpcOps.extract q Spec.oldRange fr c i = Spec.extract fr c i := by
  unfold LpcOps.extract
  rw [revSub_eq hw, extractWith_sat _ _ _ _ hc hi, extractWith_exact_agrees _ _ _ hc]

/-- FULL statement (finding rev-range-wrap repaired): f_extract_range of the code that exists = reference `c[i..<1]`
    for ALL int64 bounds -/
theorem extract_agrees (fr : Bool) (c i : Value R) (hc : SizeOk c) (hi : VI64 i) :
    LpcOps.extract Quirks.real Spec.oldRange fr c i = Spec.extract fr c i :=
  extract_eq _ rfl fr c i hc hi

theorem extract_agrees_repaired (fr : Bool) (c i : Value R) (hc : SizeOk c) (hi : VI64 i) :
    LpcOps.extract Quirks.none Spec.oldRange fr c i = Spec.extract fr c i :=
  extract_eq _ rfl fr c i hc hi

end NV.C03
