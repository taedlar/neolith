/-
C03 — int64 arithmetic: wrap-around, truncating division and remainder, shifts.
-/
import NV.C03.Model

namespace NV.C03

/-- an int64 value as the theorems see it -/
def I64 (n : Int) : Prop := -(2 ^ 63) ≤ n ∧ n < 2 ^ 63

theorem wrap_id {n : Int} (h : I64 n) : wrap n = n := by
  unfold wrap; unfold I64 at h; omega

theorem wrap_range (n : Int) : I64 (wrap n) := by
  unfold wrap I64; omega

theorem wrap32_id {n : Int} (h1 : -(2 ^ 31) ≤ n) (h2 : n < 2 ^ 31) : wrap32 n = n := by
  unfold wrap32; omega

/-- a position that passed the bounds tests against a size that is a C `int` survives the `(int)` cast -/
theorem wrap32_pos {n len : Int} (hl : len < 2 ^ 31) (hn : 0 ≤ n ∧ n ≤ len) : wrap32 n = n :=
  wrap32_id (by omega) (by omega)

/-- truncating division of int64 operands stays in range unless it is INT64_MIN / -1 -/
theorem tdiv_range {x y : Int} (hx : I64 x) (hy0 : y ≠ 0) (hy1 : y ≠ -1) : I64 (x.tdiv y) := by
  unfold I64 at *
  have hle := Int.natAbs_tdiv_le_natAbs x y
  have heq := Int.natAbs_tdiv x y
  constructor
  · omega
  · by_cases hbig : x.tdiv y < 2 ^ 63
    · exact hbig
    · exfalso
      have hx' : x = -(2 ^ 63) := by omega
      by_cases h1 : y = 1
      · subst h1; rw [Int.tdiv_one] at hbig; omega
      · have h2 : 2 ≤ y.natAbs := by omega
        have h3 : x.natAbs.div y.natAbs ≤ x.natAbs / 2 := Nat.div_le_div_left h2 (by decide)
        have h4 : x.natAbs = 2 ^ 63 := by omega
        have h5 : (x.tdiv y).natAbs ≤ 2 ^ 63 / 2 := by rw [heq]; rw [h4] at h3 ⊢; exact h3
        omega

theorem tmod_range {x y : Int} (hx : I64 x) : I64 (x.tmod y) := by
  unfold I64 at *
  have h1 := Int.natAbs_tmod x y
  have h2 : x.natAbs % y.natAbs ≤ x.natAbs := Nat.mod_le _ _
  by_cases hpos : 0 ≤ x
  · have := Int.tmod_nonneg y hpos
    omega
  · have h3 : 0 ≤ (-x).tmod y := Int.tmod_nonneg y (by omega)
    rw [Int.neg_tmod] at h3
    omega

theorem idiv_eq {x y : Int} (hx : I64 x) (hy : y ≠ 0) : LpcOps.idiv x y = wrap (x.tdiv y) := by
  unfold LpcOps.idiv
  by_cases h : y = -1
  · subst h; simp
  · have : (y == -1) = false := by simp [h]
    rw [this]; simp
    exact (wrap_id (tdiv_range hx hy h)).symm

theorem imod_eq {x y : Int} (hx : I64 x) : LpcOps.imod x y = wrap (x.tmod y) := by
  unfold LpcOps.imod
  by_cases h : y = -1
  · subst h; simp [wrap]
  · have : (y == -1) = false := by simp [h]
    rw [this]; simp
    exact (wrap_id (tmod_range hx)).symm

theorem shl_eq {x n : Int} (h0 : 0 ≤ n) (h1 : n < 64) : LpcOps.shl x n = wrap (x * 2 ^ n.toNat) := by
  unfold LpcOps.shl
  have : n % 64 = n := by omega
  rw [this]

theorem sar_eq {x n : Int} (h0 : 0 ≤ n) (h1 : n < 64) : LpcOps.sar x n = x / 2 ^ n.toNat := by
  unfold LpcOps.sar
  have : n % 64 = n := by omega
  rw [this]

/-- the opcodes test "out of bounds" and raise, the reference tests "in bounds" and proceeds; what is computed in bounds may
    differ in form (`b`, `b'`: the position after and before the `(int)` cast) -/
theorem guard_flip {α} {e c : Prop} [Decidable e] [Decidable c] {a b b' : α} (he : e ↔ ¬ c) (hb : c → b = b') :
    (if e then a else b) = (if c then b' else a) := by
  by_cases h : c
  · rw [if_neg (fun x => he.mp x h), if_pos h, hb h]
  · rw [if_pos (he.mpr h), if_neg h]

end NV.C03
