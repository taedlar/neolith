/-
C03 — Lean-checked witnesses: operands on which the code as it exists and the reference differ (open known findings,
KNOWN_FINDINGS.jsonl).  For `op=` the statement without side condition is written out (`assignop_agrees_Full`) and
refuted; the other witnesses evaluate code and reference on one input (or show that a rewrite fires), no universal
statement is set against them.  Each witness is at the operator / rewrite level and holds for every `FloatOps` instance
(or exhibits one); the same inputs replay on the real driver through the `input` of the known finding.
`witness_buf_store_zero` and `witness_rev_range_wrap` are about findings that are repaired in the repository: they speak
about `Quirks.real` with the flag of the old code path switched on (inputs: `corpus/C03/fixed-*.case`).
-/
import NV.C03.Operators
import NV.C03.Frontend

namespace NV.C03

variable {R : Type}

/-- a trivial FloatOps instance (reals = integers) to instantiate universally quantified statements -/
def toyF : FloatOps Int :=
  { add := (· + ·), sub := (· - ·), mul := (· * ·), div := (· / ·), neg := fun x => -x, lt := fun a b => decide (a < b),
    le := fun a b => decide (a ≤ b), eq := fun a b => a == b, ofInt := id, toInt := id, fmt := fun _ => [] }

/-- full statement: `x op= y` is `x = x op y` for ALL operand pairs -/
def assignop_agrees_Full : Prop :=
  ∀ (R : Type) (F : FloatOps R) (op : BinOp) (old rhs : Value R), Assignable op → VI64 old → ShiftOk op rhs →
    LpcOps.assignop F Quirks.real op old rhs = Spec.assignop F op old rhs

/-- finding num-opeq-real: `x = 1; x += 1.5` stores (and yields) an integer -/
theorem witness_num_opeq_real (F : FloatOps R) (x : R) :
    LpcOps.assignop F Quirks.real .add (.int 1) (.real x) ≠ Spec.assignop F .add (.int 1) (.real x) := by
  simp [LpcOps.assignop, Spec.assignop, Spec.binop, Spec.add, Quirks.real]

/-- finding addeq-num-str: `x = 0; x += "s"` raises, `x = x + "s"` concatenates -/
theorem witness_addeq_num_str (F : FloatOps R) (s : List UInt8) :
    LpcOps.assignop F Quirks.real .add (.int 0) (.str s) = .err ∧
    Spec.assignop F .add (.int 0) (.str s) = .ok (.str (decBytes 0 ++ s), .str (decBytes 0 ++ s)) := ⟨rfl, rfl⟩

theorem assignop_agrees_Full_false : ¬ assignop_agrees_Full := by
  intro h
  have := h Int toyF .add (.int 1) (.real 0) (Or.inl rfl) (by unfold VI64 I64; omega) (by simp [ShiftOk])
  exact witness_num_opeq_real toyF 0 this

/-- finding buf-store-zero (REPAIRED in the repository; `bufStoreZero := true` is the code before the repair): a zero
    byte could not be stored through a buffer element lvalue -/
theorem witness_buf_store_zero (F : FloatOps R) :
    LpcOps.lvSet F { Quirks.real with bufStoreZero := true } false (.buf [65]) (.int 0) (.int 0) = .err ∧
    Spec.lvSet F false (.buf [65]) (.int 0) (.int 0) = .ok (.buf [0]) := ⟨rfl, rfl⟩

/-- findings behind the zero-comparison rewrite: for a real that compares equal to 0, `x == 0` is 1 but `!x` is 0 —
    the rewrite is only sound for integers (`rewrite_eq_zero_sound`); the grammar applies it whenever its
    optimistic static type is `int` (finding optimistic-types) -/
theorem witness_eq_zero_real (F : FloatOps R) (x : R) (hx : F.eq x (F.ofInt 0) = true) :
    Spec.binop F .eq (.real x) (.int 0) = .ok (.int 1) ∧ Spec.unop F .not (.real x) = .ok (.int 0) := by
  constructor <;> simp [Spec.binop, Spec.unop, Spec.eqv, b2i, hx]

/-- the grammar's result type of `mixed + int` is `int`, so `(m + 1) == 0` IS rewritten to `!(m + 1)` -/
theorem witness_optimistic_rewrite (F : FloatOps R) :
    Frontend.rwBin F Quirks.real [.mixed] [] .eq (.bin .add (.loc 0) (.lit (.int 1))) (.lit (.int 0))
      = .un .not (.bin .add (.loc 0) (.lit (.int 1))) := rfl

/-- finding rev-range-wrap (REPAIRED in the repository; `revRangeWrap := true` is the code before the repair):
    `a[<INT64_MIN..]` on a one-element array returned the whole array (`size - i` wraps), the reference result is empty -/
theorem witness_rev_range_wrap :
    LpcOps.extract (R := R) { Quirks.real with revRangeWrap := true } true true (.arr [.int 10]) (.int (-(2 ^ 63)))
      = .ok (.arr [.int 10]) := by
  simp [LpcOps.extract, LpcOps.extractWith, LpcOps.revSub, LpcOps.sliceArray, wrap, wrap32]

end NV.C03
