/-
C03 — the in-place paths of add_array and slice_array refine value semantics (heap model `Heap.lean`).

Both functions promise the same thing (`Contract`): a result cell with one reference that nobody else can see, and every
other block as it was but for the references the call consumed (`Drops`, which composes).  A branch of the C code is a
sequence of three kinds of step: the result goes into a new block (`fresh`), into a block all of whose references are
consumed (`inPlace`), or one more reference is released (`drop`).
-/
import NV.C03.Heap
import NV.C03.Model

namespace NV.C03.Heap

variable {V : Type}

theorem upd_same (H : Heap V) (a : Nat) (c : Cell V) : upd H a c a = c := if_pos rfl
theorem upd_other (H : Heap V) {a x : Nat} (c : Cell V) (h : x ≠ a) : upd H a c x = H x := if_neg h

theorem decRef_items (H : Heap V) (a x : Nat) : (decRef H a x).items = (H x).items := by
  unfold decRef
  by_cases h : x = a
  · rw [h, upd_same]
  · rw [upd_other _ _ h]

theorem decRef_ref (H : Heap V) (a x : Nat) : (decRef H a x).ref = (H x).ref - if x = a then 1 else 0 := by
  unfold decRef
  by_cases h : x = a
  · rw [h, upd_same, if_pos rfl]
  · rw [upd_other _ _ h, if_neg h]; rfl

/-- the references to `x` that are consumed with an operand slot holding `a` -/
def one (a x : Nat) : Nat := if x = a then 1 else 0

theorem one_self (a : Nat) : one a a = 1 := if_pos rfl
theorem one_ne {a x : Nat} (h : x ≠ a) : one a x = 0 := if_neg h

/-- block `x` of `G` is block `x` of `H` after `n` references to it were dropped: the count is `n` lower and, if the block
    is still referenced, it holds what it held -/
def Drops (H G : Heap V) (n x : Nat) : Prop :=
  (G x).ref = (H x).ref - n ∧ (0 < (H x).ref - n → (G x).items = (H x).items)

namespace Drops
variable {H G G' : Heap V} {n m x : Nat}

theorem rfl : Drops H H 0 x := ⟨.refl _, fun _ => .refl _⟩

theorem trans (h : Drops H G n x) (h' : Drops G G' m x) : Drops H G' (n + m) x := by
  unfold Drops at *
  rw [h.1] at h'
  rw [← Nat.sub_sub]
  exact ⟨h'.1, fun p => (h'.2 p).trans (h.2 (by omega))⟩

/-- a block written elsewhere -/
theorem frame (h : Drops H G n x) {a : Nat} (c : Cell V) (hx : x ≠ a) : Drops H (upd G a c) n x := by
  unfold Drops; rw [upd_other _ _ hx]; exact h

/-- `a->ref--` -/
theorem of_decRef (H : Heap V) (a x : Nat) : Drops H (decRef H a) (one a x) x :=
  ⟨decRef_ref .., fun _ => decRef_items ..⟩

/-- giving a block with one reference back to the allocator is `ref--` as far as the blocks still referenced go -/
theorem of_free (H : Heap V) (a : Nat) (c : Prop) [Decidable c] (hc : c → (H a).ref = 1) (x : Nat) :
    Drops H (if c then upd H a freed else decRef H a) (one a x) x := by
  split
  · next h =>
    by_cases e : x = a
    · rw [e, one_self]; unfold Drops; rw [upd_same, hc h]; exact ⟨.refl _, nofun⟩
    · rw [one_ne e]; exact rfl.frame _ e
  · exact of_decRef ..

end Drops

/-- what add_array and slice_array promise, `n x` being the references to `x` that the call consumes: the result cell holds `res`
    with one reference; it is the new block `af` or a block whose only references were the consumed ones (so nobody else
    sees it change); every other block has lost exactly the consumed references -/
structure Contract (H : Heap V) (n : Nat → Nat) (res : List V) (af : Nat) (R : Heap V × Nat) : Prop where
  items : (R.1 R.2).items = res
  ref : (R.1 R.2).ref = 1
  unseen : R.2 = af ∨ (H R.2).ref = n R.2
  others : ∀ x, x ≠ R.2 → x ≠ af → Drops H R.1 (n x) x

namespace Contract
variable {H G : Heap V} {n : Nat → Nat} {res : List V} {af : Nat}

/-- a new block receives the result -/
theorem fresh (res : List V) (af : Nat) (h : ∀ x, x ≠ af → Drops H G (n x) x) : Contract H n res af (upd G af ⟨1, res⟩, af) :=
  { items := congrArg Cell.items (upd_same ..), ref := congrArg Cell.ref (upd_same ..), unseen := .inl (.refl _),
    others := fun x _ hx => (h x hx).frame _ hx }

/-- a block whose references are all consumed receives the result -/
theorem inPlace (res : List V) (af a : Nat) (ha : (H a).ref = n a) (h : ∀ x, x ≠ a → Drops H G (n x) x) :
    Contract H n res af (upd G a ⟨1, res⟩, a) :=
  { items := congrArg Cell.items (upd_same ..), ref := congrArg Cell.ref (upd_same ..), unseen := .inr ha,
    others := fun x hx _ => (h x hx).frame _ hx }

/-- a further reference, to a block other than the result, is consumed -/
theorem drop {R : Heap V × Nat} (h : Contract H n res af R) {x : Nat} (hx : R.2 ≠ x) (c : Prop) [Decidable c]
    (hc : c → (R.1 x).ref = 1) :
    Contract H (fun y => n y + one x y) res af (if c then upd R.1 x freed else decRef R.1 x, R.2) := by
  have d := Drops.of_free R.1 x c hc
  have dr := d R.2
  rw [one_ne hx] at dr
  have href := h.ref
  refine { items := (dr.2 (by omega)).trans h.items, ref := dr.1.trans href, unseen := h.unseen.imp_right fun e => ?_,
           others := fun y hy hf => (h.others y hy hf).trans (d y) }
  show _ = _ + _
  rw [one_ne hx]; exact e

end Contract

/-- an operand goes into the result: its block is reused when the operand slot holds its only reference (`r` is what the code
    writes into the count then), else the result is copied into a new block and the slot's reference dropped.  add_array does
    this with its left operand, slice_array with its operand when the selection is not empty. -/
theorem reuseOrCopy (H : Heap V) (a af : Nat) (res : List V) (c : Prop) [Decidable c] (r : Nat) (hc : c ↔ (H a).ref = 1)
    (hr : c → r = 1) :
    Contract H (one a) res af (if c then (upd H a ⟨r, res⟩, a) else (upd (decRef H a) af ⟨1, res⟩, af)) := by
  split
  · next h =>
    rw [hr h]
    exact .inPlace _ _ _ ((hc.mp h).trans (one_self a).symm) fun x hx => by rw [one_ne hx]; exact .rfl
  · exact .fresh _ _ fun x _ => .of_decRef ..

/-- what the stack machine guarantees when it calls add_array: each operand slot holds a counted reference -/
structure Pre (H : Heap V) (ap ar af : Nat) : Prop where
  hp : 1 ≤ (H ap).ref
  hr : 1 ≤ (H ar).ref
  hs : ap = ar → 2 ≤ (H ap).ref
  f1 : af ≠ ap
  f2 : af ≠ ar

/-- the contract of add_array in terms of values: (1) the result cell holds the concatenation, (2) with reference
    count 1, (2') it is a new block or an operand whose ONLY references were the ones the call consumed (so nobody
    else can see it change), (3) every other array loses exactly the references the call consumed and, if it is still referenced
    afterwards, holds exactly what it held before -/
def Good (H : Heap V) (ap ar af : Nat) (R : Heap V × Nat) : Prop :=
  (R.1 R.2).items = (H ap).items ++ (H ar).items ∧
  (R.1 R.2).ref = 1 ∧
  (R.2 = af ∨ (H R.2).ref = uses ap ar R.2) ∧
  ∀ a, a ≠ R.2 → a ≠ af →
    (R.1 a).ref = (H a).ref - uses ap ar a ∧ (0 < (H a).ref - uses ap ar a → (R.1 a).items = (H a).items)

/-- `Good` is the contract for the two operand slots -/
theorem good_iff_contract {H : Heap V} {ap ar af : Nat} {R : Heap V × Nat} :
    Good H ap ar af R ↔ Contract H (uses ap ar) ((H ap).items ++ (H ar).items) af R :=
  ⟨fun ⟨h1, h2, h3, h4⟩ => ⟨h1, h2, h3, h4⟩, fun h => ⟨h.items, h.ref, h.unseen, h.others⟩⟩

theorem uses_comm (ap ar : Nat) : uses ap ar = uses ar ap := funext fun _ => Nat.add_comm _ _

/-- one operand (`ae`) is empty: the other one (`ao`) is handed back, or copied when somebody else holds it too -/
theorem emptyOperand (H : Heap V) (ae ao af : Nat) (ho : 1 ≤ (H ao).ref) (hs : ae = ao → 2 ≤ (H ae).ref) :
    Contract H (uses ae ao) (H ao).items af
      (if decide ((decRef H ae ao).ref > 1) then (upd (decRef (decRef H ae) ao) af ⟨1, (decRef H ae ao).items⟩, af)
       else (decRef H ae, ao)) := by
  have d1 := Drops.of_decRef H ae
  have hao := d1 ao
  by_cases hc : (decRef H ae ao).ref > 1
  · rw [if_pos (decide_eq_true hc), decRef_items]
    exact .fresh _ _ fun x _ => (d1 x).trans (.of_decRef _ ao x)
  · -- handed back: the operand slot held its only reference (both slots for `x + x`)
    rw [if_neg (by simpa using hc)]
    have hone : (H ao).ref = one ae ao + 1 := by
      rw [hao.1] at hc
      by_cases e : ao = ae
      · have := hs e.symm; rw [e, one_self] at hc ⊢; omega
      · rw [one_ne e] at hc ⊢; omega
    refine { items := decRef_items .., ref := by rw [hao.1]; omega, unseen := .inr (hone.trans (congrArg _ (one_self ao).symm)),
             others := fun x hx _ => ?_ }
    show Drops _ _ (one ae x + one ao x) x
    rw [one_ne hx]; exact d1 x

/-- **add_array refines `x ++ y`** for every heap, every pair of operands (also the same array twice) and every
    reference-count situation: no alias can observe an in-place update, nothing that is still referenced is freed or
    emptied, the reference counts stay exact. -/
theorem addArray_refines (H : Heap V) (ap ar af : Nat) (h : Pre H ap ar af) :
    Good H ap ar af (addArray H ap ar af) := by
  obtain ⟨hp, hr, hs, f1, f2⟩ := h
  rw [good_iff_contract]
  unfold addArray
  dsimp only
  by_cases h1 : (H ap).items.length = 0
  · rw [if_pos h1, List.eq_nil_of_length_eq_zero h1]
    exact emptyOperand H ap ar af hr hs
  rw [if_neg h1]
  by_cases h2 : (H ar).items.length = 0
  · rw [if_pos h2, List.eq_nil_of_length_eq_zero h2, List.append_nil, uses_comm]
    exact emptyOperand H ar ap af hp (fun e => e ▸ hs e.symm)
  rw [if_neg h2]
  by_cases h3 : NV.Gen.C03.addArraySelf (decide (ap = ar)) (H ap).ref (H ar).ref = true
  · -- `x + x` with the two operand slots as only references: the block doubles in place
    rw [if_pos h3]
    simp only [NV.Gen.C03.addArraySelf, Bool.and_eq_true, decide_eq_true_eq] at h3
    obtain ⟨rfl, h3⟩ := h3
    exact .inPlace _ _ _ (h3.trans (by unfold uses; rw [if_pos rfl])) fun x hx => by
      unfold uses; rw [if_neg hx]; exact .rfl
  rw [if_neg h3]
  -- the left operand goes into the result, then the right one is emptied and freed or loses a reference
  refine (reuseOrCopy H ap af _ _ _ decide_eq_true_iff of_decide_eq_true).drop ?_ _ of_decide_eq_true
  split
  · next h => intro e; have := hs e; have := of_decide_eq_true h; omega
  · exact f2

/-- non-vacuity: `x += x` with a sole holder (both operand slots are the only references) and with an alias -/
example : Pre (fun _ => (⟨2, [1, 2]⟩ : Cell Nat)) 0 0 1 := ⟨by decide, by decide, fun _ => by decide, by decide, by decide⟩
example : ((addArray (fun _ => (⟨2, [1, 2]⟩ : Cell Nat)) 0 0 1).2, ((addArray (fun _ => (⟨2, [1, 2]⟩ : Cell Nat)) 0 0 1).1 0).items)
    = (0, [1, 2, 1, 2]) := by decide
example : ((addArray (fun _ => (⟨3, [1, 2]⟩ : Cell Nat)) 0 0 1).2, ((addArray (fun _ => (⟨3, [1, 2]⟩ : Cell Nat)) 0 0 1).1 0).items,
    ((addArray (fun _ => (⟨3, [1, 2]⟩ : Cell Nat)) 0 0 1).1 0).ref) = (1, [1, 2], 1) := by decide

/-- the link to the operator level: what F_ADD / F_ADD_EQ leave in the result cell is `LpcOps.add` (= `Spec.add`, `binop_agrees`)
    of the operand VALUES, whatever the reference counts -/
theorem addArray_value {R : Type} (F : NV.C03.FloatOps R) (H : Heap (NV.C03.Value R)) (ap ar af : Nat) (h : Pre H ap ar af) :
    NV.C03.LpcOps.add F (.arr (H ap).items) (.arr (H ar).items)
      = .ok (.arr ((addArray H ap ar af).1 (addArray H ap ar af).2).items) := by
  rw [(addArray_refines H ap ar af h).1]; rfl

/-- the contract of slice_array in terms of values -/
def SliceGood (H : Heap V) (ap af : Nat) (frm to : Int) (R : Heap V × Nat) : Prop :=
  (R.1 R.2).items = sliceItems (H ap).items frm to ∧
  (R.1 R.2).ref = 1 ∧
  (R.2 = af ∨ (H ap).ref = 1) ∧
  ∀ a, a ≠ R.2 → a ≠ af →
    (R.1 a).ref = (H a).ref - (if a = ap then 1 else 0) ∧
    (0 < (H a).ref - (if a = ap then 1 else 0) → (R.1 a).items = (H a).items)

/-- `SliceGood` is the contract for the one operand slot, its third clause read at the operand -/
theorem Contract.slice {H : Heap V} {ap af : Nat} {frm to : Int} {res : List V} {R : Heap V × Nat}
    (h : Contract H (one ap) res af R) (hres : res = sliceItems (H ap).items frm to) (h3 : R.2 = af ∨ (H ap).ref = 1) :
    SliceGood H ap af frm to R :=
  ⟨h.items.trans hres, h.ref, h3, h.others⟩

set_option linter.unusedVariables false in  -- `hf` is not needed
/-- **slice_array refines the value-level range** for every heap, operand, reference count and pair of bounds (also the
    full-extent and the empty selection): the result holds the selected elements with one reference; it is a NEW block unless
    the consumed reference was the only one; the operand, when somebody still holds it, keeps its elements and loses exactly
    one reference.  (`a[0..]` of an array held in a variable is therefore never the array itself.) -/
theorem sliceArray_refines (H : Heap V) (ap af : Nat) (frm to : Int) (hp : 1 ≤ (H ap).ref) (hf : af ≠ ap) :
    SliceGood H ap af frm to (sliceArray H ap af frm to) := by
  unfold sliceArray
  dsimp only
  by_cases he : (if frm < 0 then 0 else frm) >
      (if to ≥ (H ap).items.length then ((H ap).items.length : Int) - 1 else to)
  · -- empty selection: free_array (p)
    rw [if_pos he]
    exact (Contract.fresh [] af fun x _ => Drops.of_free H ap ((H ap).ref - 1 = 0) (fun h => by omega) x).slice
      (by unfold sliceItems; rw [if_pos he]) (.inl rfl)
  -- otherwise the operand goes into the result as the left operand of add_array does
  rw [if_neg he]
  have hc : NV.Gen.C03.sliceArrayReuse ((H ap).ref - 1) = true ↔ (H ap).ref = 1 := by
    simp only [NV.Gen.C03.sliceArrayReuse, decide_eq_true_eq]; omega
  refine (reuseOrCopy H ap af _ _ 1 hc fun _ => rfl).slice rfl ?_
  split
  · next h => exact .inr (hc.mp h)
  · exact .inl rfl

/-- the selection of the heap model is the operator-level `LpcOps.sliceArray` (= `Spec.slice`: `sliceArray_eq` in Ranges.lean) -/
theorem sliceItems_eq {α : Type} (l : List α) (frm to : Int) : sliceItems l frm to = NV.C03.LpcOps.sliceArray l frm to := rfl

example : ((sliceArray (fun _ => (⟨2, [1, 2, 3]⟩ : Cell Nat)) 0 1 0 2).2, ((sliceArray (fun _ => (⟨2, [1, 2, 3]⟩ : Cell Nat)) 0 1 0 2).1 0).ref)
    = (1, 1) := by decide

end NV.C03.Heap
