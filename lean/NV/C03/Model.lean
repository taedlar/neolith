/-
C03 — `LpcOps`: what `eval_instruction` (src/interpret.c) and lib/lpc/operator.c DO per opcode and operand-type
pair, transcribed case by case from the C code as it is after the `fix:` commits listed in notes/C03.md.
C casts are explicit (`wrap32` = `(int)x`), the order of the type tests follows the C `switch`es.

Behaviour that still deviates from the reference semantics (open known findings, KNOWN_FINDINGS.jsonl) is guarded by
a flag of `Quirks`; `Quirks.real` is the code that exists.  Flags whose default is `false` are deviations that
have been repaired in the repository (fix commits of rounds 2 and 6, notes/C03.md); their code paths are kept so that a
revert of the fix is still explained.  Switching ONE flag off gives the code
with that single deviation repaired — the judge uses this to attribute a disagreement to exactly one finding.
-/
import NV.C03.Spec

namespace NV.C03

structure Quirks where
  /-- `int op= real` (+= -= *= /=) keeps an integer in the variable (f_*_eq: "implicit cast to number when
      assign back"); `+=` even yields the integer as the value of the expression -/
  numOpEqReal : Bool := true
  /-- `number += string` / `real += string` raise an error in F_ADD_EQ although `x = x + s` concatenates -/
  addEqNumStr : Bool := true
  /-- f_range on strings: with OLD_RANGE_BEHAVIOR a `<` bound that lands before the start is clamped, not
      counted from the end (`else if`), unlike f_extract_range, buffers and the documentation -/
  strRangeRevNeg : Bool := false
  /-- a zero byte cannot be stored through a buffer element lvalue (shares the char-lvalue code of strings) -/
  bufStoreZero : Bool := false
  /-- grammar.y folds `0 + X` / `X + 0` to `X` for real-typed X: the sign of a zero differs (-0.0 vs 0.0) -/
  foldAddZeroReal : Bool := false
  /-- the `x == 0 -> !x`, `if (x != 0) -> if (x)` and `0 + X -> X` rewrites trust the grammar's optimistic static
      type (`mixed + int` is typed `int`, `mixed + real` `real`) although the value may be of another type -/
  optimisticTypes : Bool := true
  /-- `size - i` for a `<i` range bound is computed in int64 and wraps for i near INT64_MIN (the bound lands
      inside the value instead of far outside); repaired: `range_from_end ()` saturates at INT64_MAX -/
  revRangeWrap : Bool := false
  /-- `#if` expressions are evaluated in 32-bit `int` (lib/lpc/preprocess.c cond_get_exp) although LPC integers
      have 64 bits -/
  ppIf32 : Bool := false
  /-- grammar.y turns `x[i..<k]` with a constant k <= 1 into `x[i..]`, also when it is an lvalue, where it then
      means `x[i..<1]`: `x[i..<0] = v` is accepted with the constant and an error with a variable 0 -/
  lvRangeConstRev : Bool := false
  /-- grammar.y rewrites `0 - X` to `-X`: for X = 0.0 the result is -0.0, the computed difference is +0.0 -/
  zeroMinusNeg : Bool := false
  deriving Repr, DecidableEq

def Quirks.real : Quirks := {}
def Quirks.none : Quirks :=
  { numOpEqReal := false, addEqNumStr := false, strRangeRevNeg := false, bufStoreZero := false, foldAddZeroReal := false,
    optimisticTypes := false, revRangeWrap := false, ppIf32 := false,
    lvRangeConstRev := false, zeroMinusNeg := false }

variable {R : Type}

namespace LpcOps

/-- F_NOT / F_COMPL / F_NEGATE -/
def unop (F : FloatOps R) (op : UnOp) (v : Value R) : Res (Value R) :=
  match op with
  | .not =>
    match v with
    | .int n => .ok (.int (if n == 0 then 1 else 0))      -- sp->u.number = !sp->u.number
    | _ => .ok (.int 0)                                    -- assign_svalue (sp, &const0)
  | .compl =>
    match v with
    | .int n => .ok (.int (wrap (-n - 1)))                 -- ~x
    | _ => .err
  | .neg =>
    match v with
    | .int n => .ok (.int (wrap (-n)))
    | .real x => .ok (.real (F.neg x))
    | _ => .err

/-- F_ADD: `switch (sp->type)` (right operand) then the left operand -/
def add (F : FloatOps R) (a b : Value R) : Res (Value R) :=
  match b with
  | .buf y => match a with | .buf x => .ok (.buf (x ++ y)) | _ => .err
  | .int y =>
    match a with
    | .int x => .ok (.int (wrap (x + y)))
    | .real x => .ok (.real (F.add x (F.ofInt y)))
    | .str x => .ok (.str (x ++ decBytes y))
    | _ => .err
  | .real y =>
    match a with
    | .int x => .ok (.real (F.add (F.ofInt x) y))
    | .real x => .ok (.real (F.add x y))
    | .str x => .ok (.str (x ++ F.fmt y))
    | _ => .err
  | .arr y => match a with | .arr x => .ok (.arr (x ++ y)) | _ => .err
  | .map y => match a with | .map x => .ok (.map (mapMerge (keyEq F) x y)) | _ => .err
  | .str y =>
    match a with
    | .int x => .ok (.str (decBytes x ++ y))
    | .real x => .ok (.str (F.fmt x ++ y))
    | .str x => .ok (.str (x ++ y))
    | _ => .err

/-- F_SUBTRACT: `switch (i | sp->type)` -/
def sub (F : FloatOps R) (a b : Value R) : Res (Value R) :=
  match a, b with
  | .int x, .int y => .ok (.int (wrap (x - y)))
  | .real x, .real y => .ok (.real (F.sub x y))
  | .real x, .int y => .ok (.real (F.sub x (F.ofInt y)))     -- sp->u.real -= (sp+1)->u.number
  | .int x, .real y => .ok (.real (F.sub (F.ofInt x) y))     -- sp->u.real = sp->u.number - (sp+1)->u.real
  | .arr x, .arr y => .ok (.arr (x.filter (fun e => !(y.any (fun z => sameVal F e z)))))
  | _, _ => .err

/-- F_MULTIPLY -/
def mul (F : FloatOps R) (a b : Value R) : Res (Value R) :=
  match a, b with
  | .int x, .int y => .ok (.int (wrap (x * y)))
  | .real x, .real y => .ok (.real (F.mul x y))
  | .int x, .real y => .ok (.real (F.mul (F.ofInt x) y))
  | .real x, .int y => .ok (.real (F.mul x (F.ofInt y)))
  | .map x, .map y => .ok (.map (mapCompose (keyEq F) x y))       -- compose_mapping
  | _, _ => .err

/-- 64-bit signed division as repaired: divisor -1 gives the wrapped negation (idiv would trap) -/
def idiv (x y : Int) : Int := if y == -1 then wrap (0 - x) else Int.tdiv x y
def imod (x y : Int) : Int := if y == -1 then 0 else Int.tmod x y

/-- F_DIVIDE -/
def div (F : FloatOps R) (a b : Value R) : Res (Value R) :=
  match a, b with
  | .int x, .int y => if y == 0 then .err else .ok (.int (idiv x y))
  | .real x, .real y => if F.eq y (F.ofInt 0) then .err else .ok (.real (F.div x y))
  | .real x, .int y => if y == 0 then .err else .ok (.real (F.div x (F.ofInt y)))
  | .int x, .real y => if F.eq y (F.ofInt 0) then .err else .ok (.real (F.div (F.ofInt x) y))
  | _, _ => .err

/-- x86 `shl`/`sar` use the low 6 bits of the count -/
def shl (x n : Int) : Int := wrap (x * 2 ^ (n % 64).toNat)
def sar (x n : Int) : Int := x / 2 ^ (n % 64).toNat

/-- f_lt / f_le / f_gt / f_ge -/
def cmp (F : FloatOps R) (op : BinOp) (a b : Value R) : Res (Value R) :=
  match a, b with
  | .int x, .int y => .ok (b2i (match op with | .lt => x < y | .le => x ≤ y | .gt => x > y | _ => x ≥ y))
  | .real x, .real y => .ok (b2i (match op with | .lt => F.lt x y | .le => F.le x y | .gt => F.lt y x | _ => F.le y x))
  | .real x, .int y => .ok (b2i (match op with
      | .lt => F.lt x (F.ofInt y) | .le => F.le x (F.ofInt y) | .gt => F.lt (F.ofInt y) x | _ => F.le (F.ofInt y) x))
  | .int x, .real y => .ok (b2i (match op with
      | .lt => F.lt (F.ofInt x) y | .le => F.le (F.ofInt x) y | .gt => F.lt y (F.ofInt x) | _ => F.le y (F.ofInt x)))
  | .str x, .str y => .ok (b2i (match op with
      | .lt => strCmp x y < 0 | .le => strCmp x y ≤ 0 | .gt => strCmp x y > 0 | _ => strCmp x y ≥ 0))
  | _, _ => .err

/-- f_eq: `switch (sp->type | (sp-1)->type)`; containers compare by address (not modelled: unequal) -/
def eqv (F : FloatOps R) (a b : Value R) : Bool :=
  match a, b with
  | .int x, .int y => x == y
  | .real x, .real y => F.eq x y
  | .int x, .real y => F.eq (F.ofInt x) y
  | .real x, .int y => F.eq x (F.ofInt y)
  | .str x, .str y => x == y
  | _, _ => false

def intOp (f : Int → Int → Res Int) (a b : Value R) : Res (Value R) :=
  match a, b with
  | .int x, .int y => do let r ← f x y; pure (.int r)
  | _, _ => .err

def binop (F : FloatOps R) (op : BinOp) (a b : Value R) : Res (Value R) :=
  match op with
  | .add => add F a b
  | .sub => sub F a b
  | .mul => mul F a b
  | .div => div F a b
  | .mod => intOp (fun x y => if y == 0 then .err else .ok (imod x y)) a b
  | .band => intOp (fun x y => .ok (Spec.bitop (· &&& ·) x y)) a b
  | .bor => intOp (fun x y => .ok (Spec.bitop (· ||| ·) x y)) a b
  | .bxor => intOp (fun x y => .ok (Spec.bitop (· ^^^ ·) x y)) a b
  | .lsh => intOp (fun x y => .ok (shl x y)) a b
  | .rsh => intOp (fun x y => .ok (sar x y)) a b
  | .eq => .ok (b2i (eqv F a b))
  | .ne => .ok (b2i (!(eqv F a b)))
  | .lt | .le | .gt | .ge => cmp F op a b

/-- every branch opcode: `sp->type == T_NUMBER && sp->u.number == 0` is false, anything else true -/
def truthy (v : Value R) : Bool :=
  match v with
  | .int n => !(n == 0)
  | _ => true

/-- F_ADD_EQ / f_sub_eq / f_mult_eq / f_div_eq / f_mod_eq / f_and_eq ... : (new value of the lvalue, value left
    on the stack) -/
def assignop (F : FloatOps R) (q : Quirks) (op : BinOp) (old rhs : Value R) : Res (Value R × Value R) :=
  let same (r : Res (Value R)) : Res (Value R × Value R) := do let v ← r; pure (v, v)
  match op with
  | .add =>
    match old with
    | .str x =>
      match rhs with
      | .str y => .ok (.str (x ++ y), .str (x ++ y))
      | .int y => .ok (.str (x ++ decBytes y), .str (x ++ decBytes y))
      | .real y => .ok (.str (x ++ F.fmt y), .str (x ++ F.fmt y))
      | _ => .err
    | .int x =>
      match rhs with
      | .int y => .ok (.int (wrap (x + y)), .int (wrap (x + y)))
      | .real y =>
        if q.numOpEqReal then .ok (.int (wrap (x + F.toInt y)), .int (wrap (x + F.toInt y)))  -- lval->u.number += (long)real
        else same (add F old rhs)
      | .str _ => if q.addEqNumStr then .err else same (add F old rhs)
      | _ => .err
    | .real x =>
      match rhs with
      | .int y => .ok (.real (F.add x (F.ofInt y)), .real (F.add x (F.ofInt y)))
      | .real y => .ok (.real (F.add x y), .real (F.add x y))
      | .str _ => if q.addEqNumStr then .err else same (add F old rhs)
      | _ => .err
    | .buf x => match rhs with | .buf y => .ok (.buf (x ++ y), .buf (x ++ y)) | _ => .err
    | .arr x => match rhs with | .arr y => .ok (.arr (x ++ y), .arr (x ++ y)) | _ => .err
    | .map x => match rhs with
      | .map y => .ok (.map (mapMerge (keyEq F) x y), .map (mapMerge (keyEq F) x y))   -- absorb_mapping
      | _ => .err
  | .sub =>
    match old, rhs with
    | .int x, .real y =>
      if q.numOpEqReal then
        let temp := F.sub (F.ofInt x) y
        .ok (.int (wrap (F.toInt temp)), .real temp)
      else same (sub F old rhs)
    | _, _ => same (sub F old rhs)
  | .mul =>
    match old, rhs with
    | .int x, .real y =>
      if q.numOpEqReal then
        let temp := F.mul (F.ofInt x) y
        .ok (.int (wrap (F.toInt temp)), .real temp)
      else same (mul F old rhs)
    | _, _ => same (mul F old rhs)
  | .div =>
    match old, rhs with
    | .int x, .real y =>
      if q.numOpEqReal then
        if F.eq y (F.ofInt 0) then .err
        else
          let n := wrap (F.toInt (F.div (F.ofInt x) y))
          .ok (.int n, .real (F.ofInt n))
      else same (div F old rhs)
    | _, _ => same (div F old rhs)
  | .mod | .band | .bor | .bxor | .lsh | .rsh => same (binop F op old rhs)
  | _ => .err

/-- F_PRE_INC / F_PRE_DEC / F_POST_INC / F_POST_DEC (and F_INC / F_DEC when the value is unused) -/
def incdec (F : FloatOps R) (k : IncKind) (old : Value R) : Res (Value R × Value R) :=
  match old with
  | .int n =>
    let v := if k.isInc then wrap (n + 1) else wrap (n - 1)
    .ok (.int v, if k.isPre then .int v else .int n)
  | .real x =>
    let v := if k.isInc then F.add x (F.ofInt 1) else F.sub x (F.ofInt 1)
    .ok (.real v, if k.isPre then .real v else .real x)
  | _ => .err

/-- F_INDEX: the 64-bit index is compared with the bounds, then narrowed with `(int)` -/
def index (F : FloatOps R) (c i : Value R) : Res (Value R) :=
  match c with
  | .map m => .ok ((mapLookup (keyEq F) m i).getD (.int 0))
  | .buf b =>
    match i with
    | .int n => if n ≥ b.length ∨ n < 0 then .err else .ok (Spec.byteVal (b.getD (wrap32 n).toNat 0))
    | _ => .err
  | .str s =>
    match i with
    | .int n =>
      if n > s.length ∨ n < 0 then .err
      else .ok (Spec.byteVal (s.getD (wrap32 n).toNat 0))    -- index == strlen reads the terminating NUL
    | _ => .err
  | .arr l =>
    match i with
    | .int n => if n < 0 then .err else if n ≥ l.length then .err else .ok (l.getD (wrap32 n).toNat (.int 0))
    | _ => .err
  | _ => .err

/-- F_RINDEX -/
def rindex (c i : Value R) : Res (Value R) :=
  match c with
  | .buf b =>
    match i with
    | .int n => if n > b.length ∨ n ≤ 0 then .err else .ok (Spec.byteVal (b.getD (b.length - wrap32 n).toNat 0))
    | _ => .err
  | .str s =>
    match i with
    | .int n => if n > s.length ∨ n < 0 then .err else .ok (Spec.byteVal (s.getD (wrap32 (s.length - n)).toNat 0))
    | _ => .err
  | .arr l =>
    match i with
    | .int n => if n ≤ 0 ∨ n > l.length then .err else .ok (l.getD (l.length - wrap32 n).toNat (.int 0))
    | _ => .err
  | _ => .err

/-- the selection common to f_range on strings and buffers once `from`/`to` are adjusted:
    `if (to < from || from >= len) empty; else copy from .. min(to, len-1)` -/
def cut {α} (l : List α) (frm to : Int) : List α :=
  if to < frm ∨ frm ≥ l.length then []
  else
    let t := if to ≥ (l.length : Int) - 1 then (l.length : Int) - 1 else to
    (l.drop frm.toNat).take (t - frm + 1).toNat

/-- slice_array (p, from, to) -/
def sliceArray {α} (l : List α) (frm to : Int) : List α :=
  let f := if frm < 0 then 0 else frm
  let t := if to ≥ l.length then (l.length : Int) - 1 else to
  if f > t then [] else (l.drop f.toNat).take (t - f + 1).toNat

/-- position of a `<i` bound in a value of `len` elements: operator.c `range_from_end (len, i)` (regenerated from the
    source as `NV.Gen.C03.rangeFromEnd`: saturates at INT64_MAX instead of overflowing); before the repair
    (`revRangeWrap`) a plain int64 subtraction that wraps -/
def revSub (q : Quirks) (a b : Int) : Int := if q.revRangeWrap then wrap (a - b) else NV.Gen.C03.rangeFromEnd a b

/-- f_range (code: 0x10 = `<` on the first bound, 0x01 on the second); `sb` = how a `<` bound becomes a position -/
def rangeWith (sb : Int → Int → Int) (strRevNeg : Bool) (old : Bool) (fr tr : Bool) (c i j : Value R) : Res (Value R) :=
  match i, j with
  | .int i, .int j =>
    match c with
    | .str s =>
      let len : Int := s.length
      let to := if tr then (if strRevNeg then sb len j else (if old && decide (sb len j < 0) then sb len j + len else sb len j))
                else if old && decide (j < 0) then j + len else j
      let frm := if fr then (if strRevNeg then sb len i else (if old && decide (sb len i < 0) then sb len i + len else sb len i))
                 else if old && decide (i < 0) then i + len else i
      let frm := if frm < 0 then 0 else frm
      .ok (.str (cut s frm to))
    | .buf b =>
      let len : Int := b.length
      let to := if tr then sb len j else j
      let to := if old && decide (to < 0) then to + len else to
      let frm := if fr then sb len i else i
      let frm := if old then (if frm < 0 then (if frm + len < 0 then 0 else frm + len) else frm) else (if frm < 0 then 0 else frm)
      .ok (.buf (cut b frm to))
    | .arr l =>
      let size : Int := l.length
      let to := if tr then sb size j else j
      let frm := if fr then sb size i else i
      -- clamps added by the fix, still 64 bits wide
      let frm := if frm < 0 then 0 else frm
      let to := if to ≥ size then size - 1 else to
      let to := if to < -1 then -1 else to
      let frm := if frm > size then size else frm
      .ok (.arr (sliceArray l (wrap32 frm) (wrap32 to)))
    | _ => .err
  | _, _ => .err

/-- f_extract_range -/
def extractWith (sb : Int → Int → Int) (old : Bool) (fr : Bool) (c i : Value R) : Res (Value R) :=
  match i with
  | .int i =>
    match c with
    | .str s =>
      let len : Int := s.length
      let frm := if fr then sb len i else i
      let frm := if old then (if frm < 0 then (if frm + len < 0 then 0 else frm + len) else frm) else (if frm < 0 then 0 else frm)
      if frm ≥ len then .ok (.str []) else .ok (.str (s.drop frm.toNat))
    | .buf b =>
      let len : Int := b.length
      let frm := if fr then sb len i else i
      let frm := if old then (if frm < 0 then (if frm + len < 0 then 0 else frm + len) else frm) else (if frm < 0 then 0 else frm)
      let frm := if frm > len then len else frm
      .ok (.buf (b.drop frm.toNat))
    | .arr l =>
      let size : Int := l.length
      let frm := if fr then sb size i else i
      let frm := if frm < 0 then 0 else frm
      let frm := if frm > size then size else frm
      .ok (.arr (sliceArray l (wrap32 frm) (wrap32 (size - 1))))
    | _ => .err
  | _ => .err

def range (q : Quirks) (old : Bool) (fr tr : Bool) (c i j : Value R) : Res (Value R) :=
  rangeWith (revSub q) q.strRangeRevNeg old fr tr c i j

def extract (q : Quirks) (old : Bool) (fr : Bool) (c i : Value R) : Res (Value R) :=
  extractWith (revSub q) old fr c i

/-- push_indexed_lvalue: the element an index lvalue designates (strict bounds, 64-bit comparison) -/
def lvGet (F : FloatOps R) (rev : Bool) (c i : Value R) : Res (Value R) :=
  match c with
  | .map m => if rev then .err else .ok ((mapLookup (keyEq F) m i).getD (.int 0))   -- find_for_insert
  | .str s =>
    match i with
    | .int n =>
      let ind := if rev then (s.length : Int) - n else n
      if ind ≥ s.length ∨ ind < 0 then .err else .ok (Spec.byteVal (s.getD ind.toNat 0))
    | _ => .err
  | .buf b =>
    match i with
    | .int n =>
      let ind := if rev then (b.length : Int) - n else n
      if ind ≥ b.length ∨ ind < 0 then .err else .ok (Spec.byteVal (b.getD ind.toNat 0))
    | _ => .err
  | .arr l =>
    match i with
    | .int n =>
      let ind := if rev then (l.length : Int) - n else n
      if ind ≥ l.length ∨ ind < 0 then .err else .ok (l.getD ind.toNat (.int 0))
    | _ => .err
  | _ => .err

/-- F_ASSIGN / F_VOID_ASSIGN through an index lvalue; T_LVALUE_BYTE: `c = number & 0xff;
    if (c == 0 && !lvalue_byte_in_buffer) error` (before the repair, `bufStoreZero`: for strings AND buffers) -/
def lvSet (F : FloatOps R) (q : Quirks) (rev : Bool) (c i v : Value R) : Res (Value R) :=
  match c with
  | .map m => if rev then .err else .ok (.map (mapInsert (keyEq F) m i v))
  | .str s =>
    match i with
    | .int n =>
      let ind := if rev then (s.length : Int) - n else n
      if ind ≥ s.length ∨ ind < 0 then .err
      else match v with
        | .int ch => if Spec.lowByte ch == 0 then .err else .ok (.str (Spec.listSet s ind.toNat (Spec.lowByte ch)))
        | _ => .err
    | _ => .err
  | .buf b =>
    match i with
    | .int n =>
      let ind := if rev then (b.length : Int) - n else n
      if ind ≥ b.length ∨ ind < 0 then .err
      else match v with
        | .int ch =>
          if q.bufStoreZero && Spec.lowByte ch == 0 then .err
          else .ok (.buf (Spec.listSet b ind.toNat (Spec.lowByte ch)))
        | _ => .err
    | _ => .err
  | .arr l =>
    match i with
    | .int n =>
      let ind := if rev then (l.length : Int) - n else n
      if ind ≥ l.length ∨ ind < 0 then .err else .ok (.arr (Spec.listSet l ind.toNat v))
    | _ => .err
  | _ => .err

/-- push_lvalue_range + copy_lvalue_range / assign_lvalue_range on a container of `size` elements -/
def spliceC {α} (l : List α) (fr tr : Bool) (i j : Int) (v : List α) : Res (List α) :=
  let size : Int := l.length
  -- 2nd index first (it is on top of the stack)
  if j < -1 ∨ j > size + 1 then .err else
  let ind2 := (if tr then size - wrap32 j else wrap32 j) + 1
  if ind2 < 0 ∨ ind2 > size then .err else
  if i < 0 ∨ i > size then .err else
  let ind1 := if fr then size - wrap32 i else wrap32 i
  if ind1 < 0 ∨ ind1 > size then .err else
  -- same size: overwrite in place; otherwise reallocate: first ind1 elements, the new ones, the rest from ind2
  .ok (l.take ind1.toNat ++ v ++ l.drop ind2.toNat)

def storeRange (fr tr : Bool) (c i j v : Value R) : Res (Value R) :=
  match i, j with
  | .int i, .int j =>
    match c, v with
    | .arr l, .arr x => do let r ← spliceC l fr tr i j x; pure (.arr r)
    | .str l, .str x => do let r ← spliceC l fr tr i j x; pure (.str r)
    | .buf l, .buf x => do let r ← spliceC l fr tr i j x; pure (.buf r)
    | _, _ => .err
  | _, _ => .err

/-- F_NEXT_FOREACH on a string: mbtowc in the C.UTF-8 locale; an invalid sequence yields one (unsigned) byte -/
def foreachSeq (v : Value R) : Res (List (Value R)) :=
  match v with
  | .str s => .ok ((Spec.utf8Chars s.length s).map (fun c => .int (Int.ofNat c)))
  | .arr l => .ok l
  | _ => .err

/-- F_WHILE_DEC on a local: (continue?, new value) -/
def whileDec (F : FloatOps R) (v : Value R) : Res (Bool × Value R) :=
  match v with
  | .int n => .ok (!(n == 0), .int (wrap (n - 1)))
  | .real x => .ok (true, .real (F.sub x (F.ofInt 1)))
  | _ => .err

/-- F_LOOP_COND_NUMBER: the constant is a 32-bit operand (LOAD_INT) -/
def loopCondNum (F : FloatOps R) (v : Value R) (c : Int) : Res Bool :=
  match v with
  | .int n => .ok (decide (n < wrap32 c))
  | .real x => .ok (F.lt x (F.ofInt (wrap32 c)))
  | _ => .err

/-- F_LOOP_COND_LOCAL -/
def loopCondLocal (F : FloatOps R) (a b : Value R) : Res Bool :=
  match a, b with
  | .int x, .int y => .ok (decide (x < y))
  | .real x, .real y => .ok (F.lt x y)
  | .str x, .str y => .ok (decide (strCmp x y < 0))
  | .int x, .real y => .ok (F.lt (F.ofInt x) y)
  | .real x, .int y => .ok (F.lt x (F.ofInt y))
  | _, _ => .err

/-! ### f_switch -/

/-- the switch table as laid out by i_generate_node: `direct` = one jump target per consecutive key starting at
    a 32-bit minimum; `sorted` = (key, address) pairs in ascending key order where address 1 marks the lower
    bound of a `case a..b` whose upper bound and target follow; targets are arm indices + 2 -/
inductive SwTable where
  | direct (min : Int) (targets : List Nat)
  | sorted (entries : List (Int × Nat))
  deriving Repr, DecidableEq

def log2floor : Nat → Nat → Nat
  | 0, _ => 0
  | fuel + 1, n => if n ≤ 1 then 0 else 1 + log2floor fuel (n / 2)

/-- `l += d; while (l >= end_tab) { d >>= 1; if (d < SWITCH_CASE_SIZE) { d = 0; break; } l -= d; }` in units of
    table entries (`n` = number of entries) -/
def fixup (n : Nat) : Nat → Nat → Nat → Nat × Nat
  | 0, l, d => (l, d)
  | f + 1, l, d => if l ≥ n then (if d / 2 = 0 then (l, 0) else fixup n f (l - d / 2) (d / 2)) else (l, d)

/-- key / address field of table entry `k` -/
def tkey (t : List (Int × Nat)) (k : Nat) : Int := (t.getD k (0, 0)).1
def taddr (t : List (Int × Nat)) (k : Nat) : Nat := (t.getD k (0, 0)).2

/-- the binary search of f_switch in units of table entries (`d` = 0 stands for `d < SWITCH_CASE_SIZE`);
    result: target address or `none` = default.  `l - d` is a C pointer subtraction: it never goes below the
    table start because `l + 1` is a multiple of `2 d` (not modelled as a crash; see notes) -/
def bsearch (t : List (Int × Nat)) (s : Int) : Nat → Nat → Nat → Option Nat
  | 0, _, _ => none
  | fuel + 1, l, d =>
    if s < tkey t l then
      if d = 0 then
        -- entry before l is the lower bound of a range ending at l?
        if l ≥ 1 ∧ taddr t (l - 1) ≤ 1 ∧ s ≥ tkey t (l - 1) then some (taddr t l) else none
      else bsearch t s fuel (l - d) (d / 2)
    else if s > tkey t l then
      if d = 0 then
        if taddr t l ≤ 1 ∧ l + 1 < t.length ∧ s ≤ tkey t (l + 1) then some (taddr t (l + 1)) else none
      else
        if (fixup t.length (d + 1) (l + d) d).1 = t.length then none
        else bsearch t s fuel (fixup t.length (d + 1) (l + d) d).1 ((fixup t.length (d + 1) (l + d) d).2 / 2)
    else
      -- found the key; it may be the lower bound of a range
      if taddr t l ≤ 1 then some (taddr t (l + 1)) else some (taddr t l)

/-- f_switch on an integer table -/
def switchLookup (tab : SwTable) (s : Int) : Option Nat :=
  match tab with
  | .direct min targets =>
    -- if (s >= d && (uint64)(s - d) < entries) offset = l[s - d]
    if s ≥ min ∧ s - min < targets.length then
      match targets.getD (s - min).toNat 0 with
      | 0 => none
      | a => some a
    else none
  | .sorted entries =>
    if entries.isEmpty then none else
    let i := log2floor 64 entries.length
    bsearch entries s (entries.length + 70) (2 ^ i - 1) (2 ^ i / 2)

end LpcOps

end NV.C03
