/-
C03 — the compiler's constant folding, rewrites and literal encodings (Frontend.lean) against the operators.
-/
import NV.C03.Operators
import NV.C03.Frontend

namespace NV.C03
variable {R : Type}

/-- laws of IEEE addition / multiplication the grammar relies on when it folds `int op real` with the operands
    swapped (`$3->v.real += $1->v.number`) -/
structure FloatComm (F : FloatOps R) : Prop where
  add_comm : ∀ a b, F.add a b = F.add b a
  mul_comm : ∀ a b, F.mul a b = F.mul b a

private theorem ite_none_some {α} {c : Prop} [Decidable c] {x v : α} (h : (if c then none else some x) = some v) :
    ¬ c ∧ x = v := by
  by_cases hc : c
  · rw [if_pos hc] at h; cases h
  · rw [if_neg hc] at h; exact ⟨hc, Option.some.inj h⟩

/-- constant folding = run-time evaluation: whenever the grammar folds `a op b` for two constants, the folded
    constant is what the opcode computes at run time (all foldable operators, all constants) -/
theorem fold_sound (F : FloatOps R) (hF : FloatComm F) (op : BinOp) (a b c : Value R)
    (h : Frontend.foldBin F op a b = some c) : LpcOps.binop F op a b = .ok c := by
  unfold Frontend.foldBin at h
  split at h
  -- a rule that folds unconditionally: `h` names the constant, and the opcode computes the same term - for all but two
  any_goals cases h
  any_goals rfl
  -- `int + real` and `int * real`: the grammar works in the real operand (`$3->v.real += $1->v.number`), the opcode
  -- converts the left operand and keeps the order
  · exact congrArg (fun r => Res.ok (Value.real r)) (hF.add_comm _ _)
  · exact congrArg (fun r => Res.ok (Value.real r)) (hF.mul_comm _ _)
  -- left: the four rules for `/` and the one for `%`, which fold only when the divisor is not zero - the test on which
  -- the opcode raises
  all_goals obtain ⟨hc, rfl⟩ := ite_none_some h
  iterate 4 exact if_neg hc
  simp only [LpcOps.binop, LpcOps.intOp, if_neg hc]; rfl

/-- ... and therefore the reference value -/
theorem fold_sound_spec (F : FloatOps R) (hF : FloatComm F) (op : BinOp) (a b c : Value R) (ha : VI64 a)
    (hs : ShiftOk op b) (h : Frontend.foldBin F op a b = some c) : Spec.binop F op a b = .ok c := by
  rw [← binop_agrees F op a b ha hs]; exact fold_sound F hF op a b c h

theorem fold_un_sound (F : FloatOps R) (op : UnOp) (a c : Value R) (h : Frontend.foldUn F op a = some c) :
    Spec.unop F op a = .ok c := by
  -- the folded constant is what the opcode computes
  rw [← unop_agrees]
  unfold Frontend.foldUn at h
  split at h <;> cases h <;> rfl

example (F : FloatOps R) : Frontend.foldBin F .mul (.int (2 ^ 32)) (.int (2 ^ 32)) = some (.int 0) := by
  simp [Frontend.foldBin, wrap]

/-! ## rewrites (value level: every grammar rewrite is an identity of the reference operators) -/

/-- `x == 0 --> !x` and `0 == x --> !x` are sound for every integer x -/
theorem rewrite_eq_zero_sound (F : FloatOps R) (n : Int) :
    Spec.binop F .eq (.int n) (.int 0) = Spec.unop F .not (.int n) ∧
    Spec.binop F .eq (.int 0) (.int n) = Spec.unop F .not (.int n) := by
  constructor
  · simp [Spec.binop, Spec.unop, Spec.eqv, b2i]
  · by_cases h : n = 0
    · subst h; simp [Spec.binop, Spec.unop, Spec.eqv, b2i]
    · have h' : ¬ (0 = n) := fun e => h e.symm
      simp [Spec.binop, Spec.unop, Spec.eqv, b2i, h, h']

/-- `0 + x --> x`, `x + 0 --> x` and `0 - x --> -x` are sound for every int64 x -/
theorem rewrite_add_zero_sound (F : FloatOps R) (n : Int) (h : I64 n) :
    Spec.binop F .add (.int 0) (.int n) = .ok (.int n) ∧ Spec.binop F .add (.int n) (.int 0) = .ok (.int n) ∧
    Spec.binop F .sub (.int 0) (.int n) = Spec.unop F .neg (.int n) := by
  refine ⟨?_, ?_, ?_⟩ <;> simp [Spec.binop, Spec.add, Spec.sub, Spec.unop, wrap_id h]

/-- `!a ? b : c --> a ? c : b`: the truth value of `!v` is the negation of the truth value of `v` -/
theorem rewrite_not_cond_sound (F : FloatOps R) (v r : Value R) (h : Spec.unop F .not v = .ok r) :
    Spec.truthy r = !Spec.truthy v := by
  cases v
  case int n =>
    simp [Spec.unop, b2i] at h
    subst h
    by_cases hn : n = 0 <;> simp [Spec.truthy, hn]
  all_goals
    simp [Spec.unop] at h
    subst h
    simp [Spec.truthy]

/-- `if (x != 0) --> if (x)` is sound for every integer x -/
theorem rewrite_ne_zero_sound (F : FloatOps R) (n : Int) (r : Value R)
    (h : Spec.binop F .ne (.int n) (.int 0) = .ok r) : Spec.truthy r = Spec.truthy (.int n : Value R) := by
  simp [Spec.binop, Spec.eqv, b2i] at h
  subst h
  by_cases hn : n = 0 <;> simp [Spec.truthy, hn]

/-- decode (encode n) = n for every int64 n and every encoding class (F_CONST0, F_CONST1, F_BYTE, F_NBYTE,
    F_NUMBER, F_LONG) -/
theorem literal_roundtrip (n : Int) (h : I64 n) : Frontend.decodeNum (Frontend.encodeNum n) = n := by
  unfold I64 at h
  unfold Frontend.encodeNum
  split
  · split
    · split
      · simp [Frontend.decodeNum]; omega
      · split
        · simp [Frontend.decodeNum]; omega
        · simp [Frontend.decodeNum]; omega
    · split
      · simp [Frontend.decodeNum]; omega
      · simp [Frontend.decodeNum, wrap32]; omega
  · simp [Frontend.decodeNum, wrap]; omega

example : Frontend.encodeNum (-255) = .nbyte 255 ∧ Frontend.encodeNum (2 ^ 31) = .long (2 ^ 31) ∧
    Frontend.encodeNum (-(2 ^ 31)) = .number (2 ^ 31) := by decide

/-- bridging lemma for the regenerated rewrite conditions of grammar.y: every typed peephole rewrite (`0 + X`, `X + 0`,
    `0 - X`, `x == 0` both ways, `if (x != 0)` both ways) fires only when the constant operand is the literal 0 AND the
    static type of the other operand is TYPE_NUMBER - the hypothesis under which `rewrite_add_zero_sound`,
    `rewrite_eq_zero_sound`, `rewrite_ne_zero_sound` show the rewrite to be an identity -/
theorem rw_guards_int (zero : Bool) (ty : Nat) :
    (NV.Gen.C03.rwAddZeroL zero ty = true → zero = true ∧ ty = NV.Gen.C03.typeNumber) ∧
    (NV.Gen.C03.rwAddZeroR zero ty = true → zero = true ∧ ty = NV.Gen.C03.typeNumber) ∧
    (NV.Gen.C03.rwSubZeroL zero ty = true → zero = true ∧ ty = NV.Gen.C03.typeNumber) ∧
    (NV.Gen.C03.rwEqZeroL zero ty = true → zero = true ∧ ty = NV.Gen.C03.typeNumber) ∧
    (NV.Gen.C03.rwEqZeroR zero ty = true → zero = true ∧ ty = NV.Gen.C03.typeNumber) ∧
    (NV.Gen.C03.rwIfNeZeroR zero ty = true → zero = true ∧ ty = NV.Gen.C03.typeNumber) ∧
    (NV.Gen.C03.rwIfNeZeroL zero ty = true → zero = true ∧ ty = NV.Gen.C03.typeNumber) := by
  simp only [NV.Gen.C03.rwAddZeroL, NV.Gen.C03.rwAddZeroR, NV.Gen.C03.rwSubZeroL, NV.Gen.C03.rwEqZeroL, NV.Gen.C03.rwEqZeroR,
    NV.Gen.C03.rwIfNeZeroR, NV.Gen.C03.rwIfNeZeroL, Bool.and_eq_true, decide_eq_true_eq]
  exact ⟨id, id, id, id, id, id, id⟩

/-- the type codes are pairwise distinct, so `tyCode t = typeNumber` means the grammar's static type IS `int` -/
theorem tyCode_int (t : Ty) : Frontend.tyCode t = NV.Gen.C03.typeNumber ↔ t = .int := by
  cases t <;> simp [Frontend.tyCode, NV.Gen.C03.typeNumber, NV.Gen.C03.typeReal, NV.Gen.C03.typeString, NV.Gen.C03.typeAny]

end NV.C03
