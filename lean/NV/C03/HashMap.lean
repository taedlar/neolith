/-
C03 — model of the mapping hash table of lib/lpc/mapping.c (the data structure behind every LPC mapping):

* `2^bits` buckets, bucket index = hash & table_size (`idx`), chains with insertion at the head;
* `growMap`: the table doubles, every chain is re-split by the next hash bit (no rehash);
* `find_for_insert` / the element step of `add_to_mapping` (`insert`): assign on an existing key, otherwise link a new
  node at the head of the bucket; if the bucket was empty and `--unfilled` reaches 0 the table grows FIRST and the
  bucket index is recomputed with the widened mask (`if (oi & size) i |= size`);
* `add_to_mapping` (`merge`) = that step for every pair of the right operand; `mapping_delete` (`delete`).

Generic in the key type (with decidable equality = msameval on one key type) and in the hash function, so the
theorems in HashMapRefines.lean hold for int, real and (address-hashed) string keys alike.  The order inside the chains is
modelled exactly (head insertion, growMap reverses the part it moves, copyMapping reverses every chain) and
`unfilled` is the 16-bit counter of the C code: `nvdrive C03 model` reproduces the bucket layout that the harness
command `maptrace` dumps from real `mapping_t` tables (int keys).
-/
import NV.C03.Spec

namespace NV.C03.HT

variable {K V : Type} [DecidableEq K]

structure Tbl (K V : Type) where
  /-- the table has `2^bits` buckets (`table_size = 2^bits - 1`) -/
  bits : Nat
  tbl : Nat → List (K × V)
  /-- countdown to the next growMap (mapping_t.unfilled) -/
  unfilled : Nat
  count : Nat

def chainFind (k : K) : List (K × V) → Option V
  | [] => none
  | e :: es => if e.1 = k then some e.2 else chainFind k es

def chainSet (k : K) (v : V) : List (K × V) → List (K × V)
  | [] => []
  | e :: es => if e.1 = k then (e.1, v) :: es else e :: chainSet k v es

def chainDel (k : K) : List (K × V) → List (K × V)
  | [] => []
  | e :: es => if e.1 = k then es else e :: chainDel k es

/-- `hash & table_size` -/
def idx (h : K → Nat) (bits : Nat) (k : K) : Nat := h k % 2 ^ bits

/-- `node_hash (elt) & oldsize` -/
def hbit (h : K → Nat) (bits : Nat) (k : K) : Nat := (h k / 2 ^ bits) % 2

/-- find_in_mapping -/
def lookup (h : K → Nat) (m : Tbl K V) (k : K) : Option V := chainFind k (m.tbl (idx h m.bits k))

/-- `--x` on an unsigned short -/
def dec16 (n : Nat) : Nat := (n + 65535) % 65536

/-- growMap -/
def grow (h : K → Nat) (fill : Nat) (m : Tbl K V) : Tbl K V :=
  let size := 2 ^ m.bits
  let lower := fun i => (m.tbl i).filter (fun e => hbit h m.bits e.1 = 0)
  -- moved nodes are pushed one by one onto the head of the upper chain
  let upper := fun i => ((m.tbl i).filter (fun e => hbit h m.bits e.1 = 1)).reverse
  let newUpper := ((List.range size).filter (fun i => !(upper i).isEmpty)).length
  let emptied := ((List.range size).filter (fun i => !(m.tbl i).isEmpty && (lower i).isEmpty)).length
  { bits := m.bits + 1
    tbl := fun i => if i < size then lower i else upper (i - size)
    unfilled := (size * fill / 100 + emptied + 65536 - newUpper % 65536) % 65536
    count := m.count }

def setTbl (m : Tbl K V) (i : Nat) (c : List (K × V)) : Tbl K V :=
  { m with tbl := fun j => if j = i then c else m.tbl j }

/-- a new node at the head of the bucket of `k` -/
def linkNew (h : K → Nat) (g : Tbl K V) (k : K) (v : V) (cnt : Nat) : Tbl K V :=
  { setTbl g (idx h g.bits k) ((k, v) :: g.tbl (idx h g.bits k)) with count := cnt }

/-- find_for_insert followed by the assignment; also the per-pair step of add_to_mapping -/
def insert (h : K → Nat) (fill : Nat) (m : Tbl K V) (k : K) (v : V) : Tbl K V :=
  let i := idx h m.bits k
  match chainFind k (m.tbl i) with
  | some _ => setTbl m i (chainSet k v (m.tbl i))
  | none =>
    if (m.tbl i).isEmpty then
      if dec16 m.unfilled = 0 then
        -- growMap first, then the bucket index with the widened mask (`if (oi & size) i |= size`)
        linkNew h (grow h fill { m with unfilled := dec16 m.unfilled }) k v (m.count + 1)
      else linkNew h { m with unfilled := dec16 m.unfilled } k v (m.count + 1)
    else linkNew h m k v (m.count + 1)

/-- mapping_delete -/
def delete (h : K → Nat) (m : Tbl K V) (k : K) : Tbl K V :=
  let i := idx h m.bits k
  match chainFind k (m.tbl i) with
  | some _ =>
    let c := chainDel k (m.tbl i)
    { setTbl m i c with count := m.count - 1, unfilled := if c.isEmpty then (m.unfilled + 1) % 65536 else m.unfilled }
  | none => m

/-- add_to_mapping: every pair of the right operand through the insert step -/
def merge (h : K → Nat) (fill : Nat) (m : Tbl K V) (pairs : List (K × V)) : Tbl K V :=
  pairs.foldl (fun acc e => insert h fill acc e.1 e.2) m

/-- the step of unique_add_to_mapping: an existing key keeps its value -/
def insertUnique (h : K → Nat) (fill : Nat) (m : Tbl K V) (k : K) (v : V) : Tbl K V :=
  match chainFind k (m.tbl (idx h m.bits k)) with
  | some _ => m
  | none => insert h fill m k v

/-- copyMapping: same table, every chain reversed -/
def copy (m : Tbl K V) : Tbl K V := { m with tbl := fun i => (m.tbl i).reverse }

/-- the pairs of a table in the order add_to_mapping walks them: buckets from the top down, chains from the head -/
def walk (m : Tbl K V) : List (K × V) := (List.range (2 ^ m.bits)).reverse.flatMap m.tbl

/-- add_mapping (`a + b`): the larger operand is copied and the other one merged into the copy; on common keys the
    value of `b` wins either way -/
def addMapping (h : K → Nat) (fill : Nat) (a b : Tbl K V) : Tbl K V :=
  if a.count ≥ b.count then (if b.count = 0 then copy a else merge h fill (copy a) (walk b))
  else if a.count = 0 then copy b
  else (walk a).foldl (fun acc e => insertUnique h fill acc e.1 e.2) (copy b)

/-- allocate_mapping: `2^bits` empty buckets -/
def empty (bits fill : Nat) : Tbl K V :=
  { bits := bits, tbl := fun _ => [], unfilled := 2 ^ bits * fill / 100, count := 0 }

/-- all pairs, bucket by bucket (mapTraverse order up to the order inside a chain) -/
def toList (m : Tbl K V) : List (K × V) := (List.range (2 ^ m.bits)).flatMap m.tbl

end NV.C03.HT
