/-
C06 — what a history can do to the heap and the statistics, whatever happens to roots and values in transit: `Eff`, the
closure of seven elementary changes (`run_eff`).  What only concerns cells and counters of the driver is proved once per
elementary change, by induction on `Eff`: here that cells keep their place and kind (`KExt`), in Stats.lean that the
statistics are exact (`ws_eff`), in Oracle.lean that deallocated cells are empty (`DE_eff`).
-/
import NV.C06.Run

namespace NV.C06

inductive Eff : List Cell → Stats → List Cell → Stats → Prop
  | refl {h : List Cell} {st : Stats} : Eff h st h st
  | trans {h1 h2 h3 : List Cell} {st1 st2 st3 : Stats} : Eff h1 st1 h2 st2 → Eff h2 st2 h3 st3 → Eff h1 st1 h3 st3
  | allocd {h : List Cell} {st : Stats} (x : Int) : Eff h st h { st with allocdStrings := x }
  | distinct {h : List Cell} {st : Stats} (x : Int) : Eff h st h { st with distinctStrings := x }
  /-- a live cell is rewritten, keeping its kind and its number of items -/
  | set {h : List Cell} {st : Stats} {d : Nat} {cell x : Cell} :
      h[d]? = some cell → cell.live = true → x.live = true → x.kind = cell.kind →
      x.items.length = cell.items.length → Eff h st (h.set d x) st
  | new {h : List Cell} {st : Stats} {x : Cell} {n : Nat} :
      x.live = true → x.items.length = n → Eff h st (h ++ [x]) (st.onAlloc x.kind n)
  /-- a live mapping gains (`grow`) or loses (`shrink`) one node = two items -/
  | grow {h : List Cell} {st : Stats} {d : Nat} {cell x : Cell} :
      h[d]? = some cell → cell.live = true → cell.kind = .map → x.live = true → x.kind = .map →
      x.items.length = cell.items.length + 2 → Eff h st (h.set d x) { st with mapNodes := st.mapNodes + 1 }
  | shrink {h : List Cell} {st : Stats} {d : Nat} {cell x : Cell} :
      h[d]? = some cell → cell.live = true → cell.kind = .map → x.live = true → x.kind = .map →
      x.items.length + 2 = cell.items.length → Eff h st (h.set d x) { st with mapNodes := st.mapNodes - 1 }
  | dealloc {h : List Cell} {st : Stats} {d : Nat} {cell x : Cell} :
      h[d]? = some cell → cell.live = true → x.live = false → x.kind = cell.kind → x.items = [] → x.ref = 0 →
      Eff h st (h.set d x) (st.onFree cell.kind cell.items.length)

theorem writeLoc_eff {s s' : St} {l : Loc} {v : Val} (h : writeLoc s l v = .ok s') :
    Eff s.heap s.stats s'.heap s'.stats := by
  rcases writeLoc_cases h with ⟨i, _, _, rfl⟩ | ⟨d, j, cell, _, hc, _, rfl⟩
  · exact .refl
  · exact .set hc.1 hc.2 hc.2 rfl (List.length_set ..)

theorem incVal_eff {s s' : St} {v : Val} {n : Nat} (h : incVal s v n = .ok s') :
    Eff s.heap s.stats s'.heap s'.stats := by
  cases v with
  | num x => rw [incVal_num s s' x n h]; exact .refl
  | ptr d =>
    obtain ⟨cell, hc, rfl⟩ := incVal_ptr s s' d n h
    exact .set hc.1 hc.2 hc.2 rfl rfl

/-- a decrement that reports "deallocate" has brought the counter to 0 -/
theorem decRef_zero {k : Kind} {r : Nat} (h : (decRef k r).2 = true) : (decRef k r).1 = 0 := by
  unfold decRef at h ⊢
  split
  · split
    · rfl
    · rename_i hk h0; rw [if_pos hk, if_neg h0] at h; simpa using h
  · rename_i hk; rw [if_neg hk] at h; simpa using h

theorem rel1_eff {s s' : St} (h : Rel1 s s') : Eff s.heap s.stats s'.heap s'.stats := by
  have hst : ∀ cell, Eff s.heap s.stats s.heap (decStats s cell) := by
    intro cell; unfold decStats; split
    · exact .allocd _
    · exact .refl
  cases h with
  | num => exact .refl
  | dec _ hc => exact .trans (hst _) (.set hc.1 hc.2 hc.2 rfl rfl)
  | dealloc _ hc hf => exact .trans (hst _) (.dealloc hc.1 hc.2 rfl rfl rfl (decRef_zero hf))

theorem length_erase_pair {l : List Val} {i : Nat} {b : Val} (h1 : l[i + 1]? = some b) :
    ((l.eraseIdx (i + 1)).eraseIdx i).length + 2 = l.length := by
  have := lt_of_getElem? h1
  rw [List.length_eraseIdx_of_lt (by rw [List.length_eraseIdx_of_lt this]; omega), List.length_eraseIdx_of_lt this]
  omega

theorem mstep_eff {s s' : St} {i : Mi} (h : MStep s i s') : Eff s.heap s.stats s'.heap s'.stats := by
  cases h with
  | take _ hw => exact (writeLoc_eff hw :)
  | put _ _ _ hw => exact (writeLoc_eff hw :)
  | dup _ hi => exact (incVal_eff hi :)
  | free _ h =>
    exact relLoop_lift (R := fun s s' => Eff s.heap s.stats s'.heap s'.stats) (fun _ => .refl) .trans rel1_eff _ h
  | alloc => exact .new rfl (List.length_replicate ..)
  | fillFrom _ hc _ hi =>
    refine .trans ?_ (incVal_eff hi)
    exact .set hc.1 hc.2 hc.2 rfl (List.length_replicate ..)
  | grow hc hk => exact .grow hc.1 hc.2 hk hc.2 hk (List.length_append ..)
  | shrink hc hk _ h1 => exact .shrink hc.1 hc.2 hk hc.2 hk (length_erase_pair h1)
  | mark hc => exact .set hc.1 hc.2 hc.2 rfl rfl
  | shareOld _ hi => exact .trans (incVal_eff hi :) (.allocd _)
  | shareNew => exact .new rfl rfl
  | allocd => exact .allocd _
  | distinct => exact .distinct _
  | settext hc => exact .set hc.1 hc.2 hc.2 rfl rfl
  | pushRoot | popRoot | unlist | swap | inplace => exact .refl

theorem run_eff {ops : List Op} {s s' : St} (h : run s ops = .ok s') : Eff s.heap s.stats s'.heap s'.stats :=
  run_lift (R := fun s s' => Eff s.heap s.stats s'.heap s'.stats) (fun _ => .refl) .trans mstep_eff ops h

/-- cells stay where they are and keep their kind -/
def KExt (h h' : List Cell) : Prop :=
  ∀ (c : Nat) (cell : Cell), h[c]? = some cell → ∃ cell' : Cell, h'[c]? = some cell' ∧ cell'.kind = cell.kind

theorem KExt_refl (h : List Cell) : KExt h h := fun _ cell hc => ⟨cell, hc, rfl⟩

theorem KExt_trans {a b c : List Cell} (h1 : KExt a b) (h2 : KExt b c) : KExt a c := by
  intro i cell hi
  rcases h1 i cell hi with ⟨x, hx, kx⟩
  rcases h2 i x hx with ⟨y, hy, ky⟩
  exact ⟨y, hy, by rw [ky, kx]⟩

theorem KExt_set {h : List Cell} {d : Nat} {cell x : Cell} (hd : h[d]? = some cell) (hk : x.kind = cell.kind) :
    KExt h (h.set d x) := by
  intro c y hy
  by_cases e : d = c
  · subst e
    rw [hd] at hy; cases hy
    exact ⟨x, by simp [lt_of_getElem? hd], hk⟩
  · exact ⟨y, by simp [e, hy], rfl⟩

theorem KExt_of_eff {h h' : List Cell} {st st' : Stats} (e : Eff h st h' st') : KExt h h' := by
  induction e with
  | refl | allocd | distinct => exact KExt_refl _
  | trans _ _ ih1 ih2 => exact KExt_trans ih1 ih2
  | set hd _ _ hk => exact KExt_set hd hk
  | new =>
    intro c y hy
    exact ⟨y, by rw [List.getElem?_append_left (lt_of_getElem? hy)]; exact hy, rfl⟩
  | grow hd _ hk _ hk' | shrink hd _ hk _ hk' => exact KExt_set hd (hk'.trans hk.symm)
  | dealloc hd _ _ hk => exact KExt_set hd hk

theorem run_KExt {ops : List Op} {s s' : St} (h : run s ops = .ok s') : KExt s.heap s'.heap := KExt_of_eff (run_eff h)

end NV.C06
