/-
C06 — property theorems (PARTIAL: they are about the reference-counting PRIMITIVES; that every efun and opcode
uses the primitives according to their contract is observed by the correspondence run, not proved).

The theorems about states quantify over every history of operations `ops : List Op` run from `St.init`, the state after
the harness has loaded its programs (and, through `runMi_ok`, over every sequence of micro-instructions, i.e. of
primitive calls); the obligations on the regenerated definitions of `NV.Gen.C06` (`*_matches`, `*_sole`, `*_agree`)
involve no state.

The side condition.  The counters have W bits (`NV.Gen.C06.refBits`, regenerated from the source).  `FitsRun`
says that in every state the history passes through no counted value has more than 2^W holders.  The task's
hypothesis `holders <= 2^W - 1` implies it (`Fits_of_le`); the condition is sharp: with 2^W + 1 holders the next
release frees the value (`Witness.wrap_uaf`).  Strings need no condition at all: their counter saturates.
-/
import NV.C06.Invariant
import NV.C06.Strings
import NV.C06.Stats
import NV.C06.Oracle

namespace NV.C06

/-- every reference-counted header has its counter at the same width as `refed_t.ref` through which
    free_svalue / assign_svalue_no_free access it (a partial widening would make them read a wrong field) -/
theorem widths_agree :
    NV.Gen.C06.arrRefBits = W ∧ NV.Gen.C06.mapRefBits = W ∧ NV.Gen.C06.bufRefBits = W ∧
    NV.Gen.C06.funRefBits = W ∧ NV.Gen.C06.objRefBits = W ∧ NV.Gen.C06.sharedRefBits = SW := by decide

/-! ### the counter updates of the model are the regenerated ones

`NV.Gen.C06.strInc / strDec` are translated from the bodies of INC_COUNTED_REF / DEC_COUNTED_REF (`gcc -E`),
`refedDec / refedInc` from the T_REFED branches of free_svalue / assign_svalue_no_free (the translator also insists
that the increment is unconditional and that assign_svalue frees before it copies).  A changed C line changes these
definitions and breaks the bridging lemmas below. -/

/-- the three spellings of "the counter has reached 0" in the model and in the regenerated C conditions -/
theorem beq_zero_forms (x : Nat) : (x == 0) = !(x != 0) ∧ (x == 0) = !decide (x > 0) := by
  cases x <;> simp

theorem incRef_str_matches (r : Nat) (h : r < 2 ^ SW) : incRef .str r 1 = NV.Gen.C06.strInc r := by
  rw [incRef_str rfl, NV.Gen.C06.strInc]
  by_cases h0 : r = 0
  · subst h0; rfl
  · rw [if_neg h0, if_pos (show (r != 0) = true by simpa using h0)]
    by_cases hlt : r + 1 < 2 ^ SW
    · rw [if_pos hlt]; exact (Nat.mod_eq_of_lt hlt).symm
    · rw [if_neg hlt, show r + 1 = 2 ^ SW by omega]; exact (Nat.mod_self _).symm

theorem decRef_str_matches (r : Nat) (h : r < 2 ^ SW) : decRef .str r = NV.Gen.C06.strDec r := by
  rw [decRef_str rfl, NV.Gen.C06.strDec]
  by_cases h0 : r = 0
  · subst h0; rfl
  · rw [if_neg h0, if_neg (show ¬(r == 0) = true by simpa using h0)]
    have e : (r + 2 ^ SW - 1) % 2 ^ SW = r - 1 := by
      rw [show r + 2 ^ SW - 1 = (r - 1) + 2 ^ SW by omega, Nat.add_mod_right, Nat.mod_eq_of_lt (by omega)]
    show (r - 1, r - 1 == 0) = ((r + 2 ^ SW - 1) % 2 ^ SW, !decide ((r + 2 ^ SW - 1) % 2 ^ SW > 0))
    rw [e, (beq_zero_forms _).2]

theorem decRef_refed_matches (k : Kind) (hk : k.isStr = false) (r : Nat) :
    decRef k r = NV.Gen.C06.refedDec r := by
  rw [decRef_refed hk, (beq_zero_forms _).1]
  rfl

theorem incRef_refed_matches (k : Kind) (hk : k.isStr = false) (r : Nat) :
    incRef k r 1 = NV.Gen.C06.refedInc r := incRef_refed hk r 1

/-! ### programs: `program_t.ref` is a cell of the heap model (kind `.prog`)

The model counts program references at the width `W` of `refed_t.ref`; `prog_widths_agree` is the obligation that
`program_t.ref` (and `func_ref`) really have that width (they had 16 bits until repo commit 0280873: see
`Witness.prog_wrap_uaf`), `incRef_prog_matches` / `decRef_prog_matches` tie the model's updates to the regenerated
bodies of reference_prog / free_prog.  `decRef_prog_matches` is the `func_ref = 0` instance of free_prog: `func_ref` is
counted by cells of its own (`cFProg`, `cFBase`), and that a program whose `ref` has reached 0 stays allocated while
`func_ref > 0` is not modelled. -/

theorem prog_widths_agree : NV.Gen.C06.progRefBits = W ∧ NV.Gen.C06.progFuncRefBits = W := by decide

theorem incRef_prog_matches (r : Nat) : incRef .prog r 1 = NV.Gen.C06.progInc r := by
  rw [incRef_refed rfl, NV.Gen.C06.progInc, prog_widths_agree.1]

theorem decRef_prog_matches (r : Nat) : decRef .prog r = NV.Gen.C06.progDec r 0 := by
  rw [decRef_refed rfl, (beq_zero_forms _).2, NV.Gen.C06.progDec, prog_widths_agree.1]
  exact congrArg _ (Bool.and_true _).symm

/-- **func_ref_sites_agree** (obligation on the regenerated site expressions): make_functional_funp increments func_ref
    of the very program it stores in the pointer, and dealloc_funp / f_bind address the program stored in the pointer —
    so every increment is undone on the same program (the model: one func_ref cell per program, held by the pointer). -/
theorem func_ref_sites_agree :
    NV.Gen.C06.funcRefIncProg = NV.Gen.C06.funcRefStoredProg ∧ NV.Gen.C06.funcRefDecProg = "f.functional.prog" ∧
    NV.Gen.C06.funcRefBindProg = "f.functional.prog" := by decide

/-- the byte count the model keeps per array (total_array_size) is the regenerated formula of allocate_array /
    allocate_empty_array / dealloc_array / free_empty_array -/
theorem arrBytes_matches (n : Nat) : arrBytes n = NV.Gen.C06.arrBytesOf n := by
  unfold arrBytes NV.Gen.C06.arrBytesOf NV.Gen.C06.sizeofArrayT NV.Gen.C06.sizeofSvalue
  omega

/-- the hypothesis of the task (`holders ≤ 2^W − 1` for every value) implies `Fits` -/
theorem Fits_of_le (s : St) (h : ∀ c, H s c ≤ 2 ^ W - 1) : Fits s := by
  intro c
  right
  have := h c
  have := two_pow_W_pos
  omega

/-- brings `∃ s cell, run … = .ok s ∧ s.heap[c]? = some cell ∧ …` into the form `decExistsOk` and `decExistsSome`
    (Run.lean) decide -/
theorem exists₂_of {α β : Type} {A : α → Prop} {B : α → β → Prop} (h : ∃ a, A a ∧ ∃ b, B a b) : ∃ a b, A a ∧ B a b :=
  let ⟨a, ha, b, hb⟩ := h; ⟨a, b, ha, hb⟩

/-- **ref_eq_holders.**  After any history in which the holders always fit the counters, the counter of every
    live array / mapping / class / buffer / function pointer / object / call record / sentence equals its number
    of holders modulo 2^W — hence equals it exactly, and is positive, when the holders fit in W bits. -/
theorem ref_eq_holders (ops : List Op) (s : St) (h : run St.init ops = .ok s) (fit : FitsRun St.init ops)
    (c : Nat) (cell : Cell) (hc : s.heap[c]? = some cell) (hl : cell.live = true) (hk : cell.kind.isStr = false) :
    cell.ref = H s c % 2 ^ W ∧ (H s c < 2 ^ W → cell.ref = H s c ∧ 0 < H s c) := by
  have inv := (RefOK_refed hk).mp ((CellOK_live hc hl).mp (run_ok ops St.init s h Inv_init fit c))
  exact ⟨inv.1, fun hlt => ⟨by rw [inv.1, Nat.mod_eq_of_lt hlt], inv.2 hlt⟩⟩

example : ∃ s cell, run St.init [.newarr 0 2, .assign 1 0, .newmap 2, .mset 2 0 0, .push 0] = .ok s ∧
    s.heap[c0]? = some cell ∧ cell.ref = 5 ∧ H s c0 = 5 := exists₂_of (by decide +kernel)

/-- **no_free_while_held.**  Under the same hypothesis a deallocated cell has no holder left: no variable, stack
    slot, container, pending call_out, sentence, function pointer or object variable refers to freed memory. -/
theorem no_free_while_held (ops : List Op) (s : St) (h : run St.init ops = .ok s) (fit : FitsRun St.init ops)
    (c : Nat) (cell : Cell) (hc : s.heap[c]? = some cell) (hl : cell.live = false) : H s c = 0 :=
  (CellOK_dead hc hl).mp (run_ok ops St.init s h Inv_init fit c)

example : ∃ s cell, run St.init [.newarr 0 2, .newarr 1 1, .aset 0 0 1, .free 1, .free 0] = .ok s ∧
    s.heap[c0 + 1]? = some cell ∧ cell.live = false := exists₂_of (by decide +kernel)

/-- **no_dangling_reference.**  After any history in which the holders always fit the counters, every pointer that
    is stored anywhere — a variable, a stack slot, a handle, the object list, a pending call_out, a sentence, a value
    in transit, an element of a container, a variable of an object, the program field of an object structure, the
    inherit table of a program — refers to a cell that is allocated and has not been deallocated. -/
theorem no_dangling_reference (ops : List Op) (s : St) (h : run St.init ops = .ok s) (fit : FitsRun St.init ops)
    (p : Nat) (held : 0 < H s p) : ∃ cell, s.heap[p]? = some cell ∧ cell.live = true := by
  have inv := run_ok ops St.init s h Inv_init fit p
  cases hc : s.heap[p]? with
  | none => have := (CellOK_none hc).mp inv; omega
  | some cell =>
    cases hl : cell.live with
    | true => exact ⟨cell, rfl, hl⟩
    | false => have := (CellOK_dead hc hl).mp inv; omega

/-- **program_alive_while_referenced.**  Under the same hypothesis, whatever a live cell stores a pointer to is live:
    in particular the program of every object structure that has not been deallocated (`ob->prog`, item `nVars` of an
    object cell; the object may be destructed and waiting for its last holder) and every program in the inherit table
    of a live program are allocated — free_prog never deallocates a program some object or program still uses. -/
theorem program_alive_while_referenced (ops : List Op) (s : St) (h : run St.init ops = .ok s)
    (fit : FitsRun St.init ops) (d : Nat) (dc : Cell) (hd : s.heap[d]? = some dc) (p : Nat)
    (hm : Val.ptr p ∈ dc.items) : ∃ pc, s.heap[p]? = some pc ∧ pc.live = true := by
  apply no_dangling_reference ops s h fit p
  have := heapCnt_pos_of_mem p s.heap d dc hd hm
  unfold H
  omega

/-- **prog_ref_eq_holders.**  `program_t.ref` of a live program equals the number of its holders (blueprint object,
    object structures of clones, inheriting programs) modulo 2^W, and exactly when they fit. -/
theorem prog_ref_eq_holders (ops : List Op) (s : St) (h : run St.init ops = .ok s) (fit : FitsRun St.init ops)
    (c : Nat) (cell : Cell) (hc : s.heap[c]? = some cell) (hl : cell.live = true) (hk : cell.kind = .prog) :
    cell.ref = H s c % 2 ^ W ∧ (H s c < 2 ^ W → cell.ref = H s c ∧ 0 < H s c) :=
  ref_eq_holders ops s h fit c cell hc hl (by rw [hk]; rfl)

/-- non-vacuity: two named clones and three anonymous ones; the program of /c06/uobj has 6 holders, the inherited
    program 2; after the blueprint is unloaded and all clones are gone both programs are deallocated -/
example : ∃ s pc bc, run St.init [.newobj 0, .newobj 1, .clones 3] = .ok s ∧
    s.heap[cProg]? = some pc ∧ pc.ref = 6 ∧ H s cProg = 6 ∧ s.heap[cBase]? = some bc ∧ bc.ref = 2 ∧ H s cBase = 2 := by
  refine ⟨_, _, _, rfl, rfl, ?_, ?_, rfl, ?_, ?_⟩ <;> decide

example : ∃ s pc bc, run St.init [.newobj 0, .clones 2, .unload 0, .unload 1, .unclone 2, .dest 0, .cleanup, .drop 0] = .ok s ∧
    s.heap[cProg]? = some pc ∧ pc.live = false ∧ s.heap[cBase]? = some bc ∧ bc.live = false ∧ H s cProg = 0 ∧ H s cBase = 0 := by
  refine ⟨_, _, _, rfl, rfl, ?_, rfl, ?_, ?_, ?_⟩ <;> decide

/-- the counting invariant `Inv` (every cell: `CellOK`) is preserved by all sequences of primitive calls
    (micro-instructions), from any state satisfying it, not only from the states histories of `Op`s reach -/
theorem primitives_preserve_invariant (prog : List Mi) (s s' : St) (h : runMi s prog = .ok s') (inv : Inv s)
    (fit : FitsAlong s prog) : Inv s' := runMi_ok h inv fit

/-! ### strings: saturation makes them immortal, never freed while held — no hypothesis -/

/-- life of one string block seen from its counter: `true` = a new holder (INC_COUNTED_REF), `false` = a holder
    lets go (DEC_COUNTED_REF).  Result: `.inr n` = the block was deallocated by a release, n holders remained;
    `.inl (r, h)` = counter and holders after the last event. -/
def strLife : Nat × Nat → List Bool → (Nat × Nat) ⊕ Nat
  | st, [] => .inl st
  | (r, h), true :: evs => strLife (incRef .str r 1, h + 1) evs
  | (r, h), false :: evs =>
    if (decRef .str r).2 then .inr (h - 1) else strLife ((decRef .str r).1, h - 1) evs

/-- releases never exceed holders: every release is made by one of the current holders -/
def strLegal : Nat → List Bool → Prop
  | _, [] => True
  | h, true :: evs => strLegal (h + 1) evs
  | h, false :: evs => 0 < h ∧ strLegal (h - 1) evs

/-- **string_never_freed_while_held.**  For every sequence of new holders and releases of a string (shared or
    malloc'ed), however long: if the block is deallocated, no holder remains.  (After 2^SW - 1 simultaneous
    holders the counter sticks at 0 and the string is never deallocated at all.) -/
theorem string_never_freed_while_held (evs : List Bool) :
    ∀ (r h : Nat), RefOK .str r h → strLegal h evs → ∀ left, strLife (r, h) evs = .inr left → left = 0 := by
  induction evs with
  | nil => intro r h _ _ left e; simp [strLife] at e
  | cons e evs ih =>
    intro r h ok legal left hres
    cases e with
    | true =>
      simp only [strLife] at hres
      exact ih _ _ (RefOK_inc .str r h 1 ok) legal left hres
    | false =>
      simp only [strLife] at hres
      simp only [strLegal] at legal
      split at hres
      · rename_i hd
        cases hres
        exact RefOK_dec_dead .str r h ok legal.1 (by intro x; cases x) hd
      · rename_i hd
        exact ih _ _ (RefOK_dec_alive .str r h ok legal.1 (by simpa using hd)) legal.2 left hres

/-- **string_cells_never_freed_while_held** (heap level, NO hypothesis on the number of holders): after any history,
    a deallocated string (shared or malloc'ed) has no holder, and a live one has counter 0 (immortal after
    saturation) or exactly its number of holders. -/
theorem string_cells_never_freed_while_held (ops : List Op) (s : St) (h : run St.init ops = .ok s)
    (c : Nat) (cell : Cell) (hc : s.heap[c]? = some cell) (hk : cell.kind.isStr = true) :
    (cell.live = false → H s c = 0) ∧
    (cell.live = true → cell.ref = 0 ∨ (cell.ref = H s c ∧ 0 < H s c ∧ H s c < 2 ^ SW)) := by
  have inv := run_str_ok h (Inv_init c) (by intro cell' hc'; rw [hc] at hc'; cases hc'; exact hk)
  exact ⟨fun hl => (CellOK_dead hc hl).mp inv, fun hl => (RefOK_str hk).mp ((CellOK_live hc hl).mp inv)⟩

example : ∃ s cell, run St.init [.newstr 0 "a", .newstr 1 "a", .fill 2 3 0, .free 0, .free 1, .free 2] = .ok s ∧
    s.heap[c0]? = some cell ∧ cell.kind = .str ∧ cell.live = false := exists₂_of (by decide +kernel)

/-! ### a string block is modified in place only by its single holder

The string-building primitives read the counter to decide whether they may reuse the block: EXTEND_SVALUE_STRING and
SVALUE_STRING_JOIN call extend_string() on the block itself, unlink_string_svalue lets the caller overwrite its
bytes (s[i] = c, s[i..j] = ...) or free it.  The decision expressions are regenerated from the source
(`NV.Gen.C06.extendInPlace`, `joinInPlace`, `unlinkCopies`); the obligations below hold only if "in place" implies
"counter = 1 exactly" - a counter of 0 is a string with more than 2^SW - 1 holders (immortal), not a private one. -/

/-- obligation on the regenerated EXTEND_SVALUE_STRING condition -/
theorem extendInPlace_sole (m : Bool) (r : Nat) (h : NV.Gen.C06.extendInPlace m r = true) : m = true ∧ r = 1 := by
  unfold NV.Gen.C06.extendInPlace at h
  cases m <;> simp at h ⊢ <;> omega

/-- obligation on the regenerated SVALUE_STRING_JOIN condition -/
theorem joinInPlace_sole (m : Bool) (r : Nat) (h : NV.Gen.C06.joinInPlace m r = true) : m = true ∧ r = 1 := by
  unfold NV.Gen.C06.joinInPlace at h
  cases m <;> simp at h ⊢ <;> omega

/-- obligation on the regenerated unlink_string_svalue condition: no copy is made only for counter 1 -/
theorem unlink_inplace_sole (r : Nat) (h : NV.Gen.C06.unlinkCopies r = false) : r = 1 := by
  unfold NV.Gen.C06.unlinkCopies at h
  simp at h
  omega

/-- the block the operation `op` modifies in place in state s (the `inplace` marker of its micro program), if any -/
def inPlaceTarget (s : St) (op : Op) : Option Nat :=
  match compile s op with
  | some prog => prog.findSome? (fun i => match i with | .inplace c => some c | _ => none)
  | none => none

/-- a live string cell whose counter is exactly 1 has exactly one holder - after ANY history (saturation included) -/
theorem sole_of_ref_one (ops : List Op) (s : St) (h : run St.init ops = .ok s) (c : Nat) (cell : Cell)
    (hc : s.heap[c]? = some cell) (hk : cell.kind.isStr = true) (hl : cell.live = true) (hr : cell.ref = 1) :
    H s c = 1 := by
  rcases (string_cells_never_freed_while_held ops s h c cell hc hk).2 hl with h0 | ⟨h1, _, _⟩
  · omega
  · omega

theorem strSlot_some {s : St} {d c : Nat} {cell : Cell} (hs : strSlot s d = some (c, cell)) :
    s.heap[c]? = some cell ∧ cell.live = true ∧ cell.kind.isStr = true := by
  unfold strSlot slotCell at hs
  split at hs
  · rename_i c' cell' hsc
    split at hs
    · rename_i hlk
      cases hs
      split at hsc
      · split at hsc
        · rename_i hh; cases hsc
          simp at hlk
          exact ⟨hh, hlk.1, hlk.2⟩
        · cases hsc
      · cases hsc
    · cases hs
  · cases hs

/-- **no_inplace_modification_while_shared.**  After any history of operations (any number of holders, saturated
    counters included), whenever `v[d] += n`, `v[d] += v[t]`, `v[d][i] = c` or `v[d][i..j] = w` decides to modify the
    block of v[d] in place, that block has exactly one holder (v[d] itself): nobody else can observe the change. -/
theorem no_inplace_modification_while_shared (ops : List Op) (s : St) (h : run St.init ops = .ok s)
    (d : Nat) (c : Nat) (cell : Cell) (hs : strSlot s d = some (c, cell)) :
    (∀ w, Mi.inplace c ∈ extendProg NV.Gen.C06.extendInPlace c cell cell.ref d w → H s c = 1) ∧
    (∀ w, Mi.inplace c ∈ unlinkStoreProg c cell d w → H s c = 1) ∧
    (NV.Gen.C06.joinInPlace (cell.kind == .mstr) cell.ref = true → H s c = 1) := by
  obtain ⟨hc, hl, hk⟩ := strSlot_some hs
  have sole := sole_of_ref_one ops s h c cell hc hk hl
  refine ⟨?_, ?_, fun hd => sole (joinInPlace_sole _ _ hd).2⟩
  · intro w hm
    unfold extendProg replaceStr at hm
    by_cases hd : NV.Gen.C06.extendInPlace (cell.kind == .mstr) cell.ref = true
    · exact sole (extendInPlace_sole _ _ hd).2
    · simp [hd] at hm
  · intro w hm
    unfold unlinkStoreProg replaceStr at hm
    by_cases hd : (cell.kind == .mstr && !(NV.Gen.C06.unlinkCopies cell.ref)) = true
    · exact sole (unlink_inplace_sole _ (by simp at hd; exact hd.2))
    · simp [hd] at hm

/-- `v[d] = v[s] + n` works on a pushed copy (one more holder): it never modifies the block of v[s] in place -/
theorem add_never_inplace (k : Kind) (hk : k.isStr = true) (r : Nat) :
    NV.Gen.C06.extendInPlace (k == .mstr) (incRef k r 1) = false := by
  cases hx : NV.Gen.C06.extendInPlace (k == .mstr) (incRef k r 1) with
  | false => rfl
  | true => exact absurd (extendInPlace_sole _ _ hx).2 (incRef_str_ne_one hk r)

/-- `v[d] = v[s] + v[t]` joins two pushed copies: the left block has one more holder, it is never reused -/
theorem join_on_copy_never_inplace (k : Kind) (hk : k.isStr = true) (r : Nat) :
    NV.Gen.C06.joinInPlace (k == .mstr) (incRef k r 1) = false := by
  cases hx : NV.Gen.C06.joinInPlace (k == .mstr) (incRef k r 1) with
  | false => rfl
  | true => exact absurd (joinInPlace_sole _ _ hx).2 (incRef_str_ne_one hk r)

/-- non-vacuity: the single holder of a run-time string appends in place; with a second holder a copy is made and the
    other holder keeps its text -/
example : inPlaceTarget (match run St.init [.newmstr 0 "ab"] with | .ok s => s | .error _ => St.init) (.sappend 0 "7")
    = some c0 := by decide +kernel
example : ∃ s c0 c1, run St.init [.newmstr 0 "ab", .assign 1 0, .schar 1 0 "z"] = .ok s ∧
    strSlot s 0 = some c0 ∧ c0.2.text = "ab" ∧ strSlot s 1 = some c1 ∧ c1.2.text = "zb" :=
  ⟨_, _, _, rfl, rfl, by decide, rfl, by decide⟩

/-- a fresh string satisfies the invariant -/
example : RefOK .str 1 1 := RefOK_new .str

/-- non-vacuity: 3 holders, 3 releases: deallocated by the last one -/
example : strLife (1, 1) [true, true, false, false, false] = .inr 0 := by decide

/-- the saturation rule of the code: once 2^SW - 1 more holders arrive the counter is 0 and stays 0 -/
theorem string_saturates (n : Nat) (hn : 2 ^ SW ≤ 1 + n) : incRef .str 1 n = 0 ∧ decRef .str 0 = (0, false) := by
  rw [incRef_str rfl, decRef_str rfl, if_neg (by decide), if_neg (by omega)]
  exact ⟨rfl, rfl⟩

/-- the three live-value counters of the driver are exact after every history -/
theorem counters_exact (ops : List Op) (s : St) (h : run St.init ops = .ok s) :
    s.stats.numArrays = (lc .arr s.heap : Int) ∧ s.stats.numMappings = (lc .map s.heap : Int) ∧
    s.stats.objects = (lc .obj s.heap : Int) :=
  ⟨run_count cArrays rfl (by decide) h, run_count cMappings rfl (by decide) h, run_count cObjects rfl (by decide) h⟩

/-- **sizes_exact** (oracle clauses `leak counter=total_array_size` / `total_mapping_nodes`): after every history, with no
    hypothesis, total_array_size is the sum of `arrBytes (number of elements)` over the live arrays and
    total_mapping_nodes the sum of the node counts of the live mappings (`ws` sums the contribution `wc` of every cell:
    0 for deallocated cells and for other kinds). -/
theorem sizes_exact (ops : List Op) (s : St) (h : run St.init ops = .ok s) :
    s.stats.arrayBytes = ws wBytes s.heap ∧ s.stats.mapNodes = ws wNodes s.heap :=
  ⟨run_w wBytes h (WOK_init wBytes rfl (by intro n; simp [wBytes])),
   run_w wNodes h (WOK_init wNodes rfl (by intro n; simp [wNodes]))⟩

/-- what a cell contributes: a live array its accounted bytes, a live mapping its nodes -/
theorem wc_meaning (c : Cell) :
    wc wBytes c = (if c.live = true ∧ c.kind = .arr then arrBytes c.items.length else 0) ∧
    wc wNodes c = (if c.live = true ∧ c.kind = .map then ((c.items.length / 2 : Nat) : Int) else 0) := by
  unfold wc wBytes wNodes
  by_cases hl : c.live = true <;> by_cases ha : c.kind = .arr <;> by_cases hm : c.kind = .map <;> simp [hl, ha, hm]

example : ∃ s, run St.init [.newarr 0 3, .newmap 1, .mset 1 0 0, .mset 1 1 0, .newarr 2 1, .free 2] = .ok s ∧
    s.stats.arrayBytes = arrBytes 3 ∧ s.stats.mapNodes = 2 ∧ ws wNodes s.heap = 2 := by
  decide +kernel

/-- **unreferenced_is_deallocated** (per value): after any history in which the holders always fit, a value other than
    a string that nothing refers to any more has been deallocated — whatever else is still alive.  (Strings: only a
    saturated, immortal one can survive without holders, `string_cells_never_freed_while_held`.) -/
theorem unreferenced_is_deallocated (ops : List Op) (s : St) (h : run St.init ops = .ok s) (fit : FitsRun St.init ops)
    (c : Nat) (cell : Cell) (hc : s.heap[c]? = some cell) (hk : cell.kind.isStr = false) (h0 : H s c = 0) :
    cell.live = false := by
  cases hl : cell.live with
  | false => rfl
  | true =>
    have := ((ref_eq_holders ops s h fit c cell hc hl hk).2 (h0 ▸ two_pow_W_pos)).2
    omega

/-- **balanced_history_returns_to_baseline.**  If at the end of a history (holders always fitting the counters)
    nothing refers to any value any more — every holder was released — then every array, mapping, class, buffer,
    function pointer, object, call record and sentence has been deallocated (only strings that became immortal by
    saturation may remain) and num_arrays, num_mappings and tot_alloc_object are back at their initial values.
    The two func_ref cells `cFProg` / `cFBase` are left out of premise and conclusion: the roots `rFunc` hold them for
    ever (their counter is func_ref + 1).
    Values that hold each other do NOT satisfy the premise (`H > 0` for ever): see `Witness.cycle_leaks`. -/
theorem balanced_history_returns_to_baseline (ops : List Op) (s : St) (h : run St.init ops = .ok s)
    (fit : FitsRun St.init ops) (released : ∀ c, c ≠ cFProg → c ≠ cFBase → H s c = 0) :
    (∀ (c : Nat) (cell : Cell), c ≠ cFProg → c ≠ cFBase → s.heap[c]? = some cell → cell.live = true →
        cell.kind.isStr = true ∧ cell.ref = 0) ∧
    s.stats.numArrays = 0 ∧ s.stats.numMappings = 0 ∧ s.stats.objects = 0 := by
  have dead : ∀ (c : Nat) (cell : Cell), c ≠ cFProg → c ≠ cFBase → s.heap[c]? = some cell → cell.live = true →
      cell.kind.isStr = true ∧ cell.ref = 0 := by
    intro c cell n1 n2 hc hl
    cases hk : cell.kind.isStr with
    | false => rw [unreferenced_is_deallocated ops s h fit c cell hc hk (released c n1 n2)] at hl; cases hl
    | true =>
      rcases (string_cells_never_freed_while_held ops s h c cell hc hk).2 hl with h0 | ⟨_, hp, _⟩
      · exact ⟨rfl, h0⟩
      · rw [released c n1 n2] at hp; cases hp
  -- the two func_ref cells (the only cells with a permanent holder) are programs for ever: cells keep their kind
  have kprog : ∀ c, (c = cFProg ∨ c = cFBase) → ∀ cell, s.heap[c]? = some cell → cell.kind = .prog := by
    intro c hcc cell hc
    have keep : ∀ cell0, St.init.heap[c]? = some cell0 → cell.kind = cell0.kind := by
      intro cell0 h0
      obtain ⟨cell', h1, h2⟩ := run_KExt h c cell0 h0
      rw [hc] at h1; cases h1; exact h2
    rcases hcc with rfl | rfl <;> exact keep _ rfl
  have nolive : ∀ k0, k0.isStr = false → k0 ≠ .prog → lc k0 s.heap = 0 := by
    intro k0 hk0 hnp
    refine List.countP_eq_zero.mpr fun cell hm hb => ?_
    obtain ⟨hl, e⟩ : cell.live = true ∧ cell.kind = k0 := by simpa using hb
    rcases List.getElem?_of_mem hm with ⟨c, hc⟩
    by_cases hcc : c = cFProg ∨ c = cFBase
    · exact hnp (e ▸ kprog c hcc cell hc)
    · have := (dead c cell (fun x => hcc (Or.inl x)) (fun x => hcc (Or.inr x)) hc hl).1
      rw [e, hk0] at this
      cases this
  rcases counters_exact ops s h with ⟨a, b, c⟩
  refine ⟨dead, ?_, ?_, ?_⟩
  · rw [a, nolive .arr rfl (by decide)]; rfl
  · rw [b, nolive .map rfl (by decide)]; rfl
  · rw [c, nolive .obj rfl (by decide)]; rfl

/-! ### the per-value clauses of the specification oracle hold on the model's own states

Clause-level part of the top statement `judge (model trace) = []`: the oracle compares every printed counter with
`holders` (its own count over roots, values in transit and the items of existing containers).  On every state the model
reaches these comparisons succeed: `DeadEmpty` (run_DE) gives `holders = H`, the counting invariant does the rest.
Not proved, and needed for the full statement: the simulation between the oracle's graph machine (`gstep` + `collect`)
and the counting machine (`mstep`), i.e. that both are in the same state after every operation. -/

/-- clause `ref-mismatch`: the counter the model prints for a live non-string value is the number of holders the
    oracle counts (holders fitting the counter) -/
theorem oracle_ref_clause (ops : List Op) (s : St) (h : run St.init ops = .ok s) (fit : FitsRun St.init ops)
    (c : Nat) (cell : Cell) (hc : s.heap[c]? = some cell) (hl : cell.live = true) (hk : cell.kind.isStr = false)
    (hlt : H s c < 2 ^ W) : cell.ref = holders s c := by
  rw [run_holders h]
  exact ((ref_eq_holders ops s h fit c cell hc hl hk).2 hlt).1

/-- clause `freed-while-held`: a value the model prints as freed (`x`) has no holder in the oracle's count -/
theorem oracle_freed_clause (ops : List Op) (s : St) (h : run St.init ops = .ok s) (fit : FitsRun St.init ops)
    (c : Nat) (cell : Cell) (hc : s.heap[c]? = some cell) (hl : cell.live = false) : holders s c = 0 := by
  rw [run_holders h]
  exact no_free_while_held ops s h fit c cell hc hl

/-- clause `leak cell=`: a non-string value without holders in the oracle's count is printed as freed -/
theorem oracle_leak_clause (ops : List Op) (s : St) (h : run St.init ops = .ok s) (fit : FitsRun St.init ops)
    (c : Nat) (cell : Cell) (hc : s.heap[c]? = some cell) (hk : cell.kind.isStr = false) (h0 : holders s c = 0) :
    cell.live = false := by
  rw [run_holders h] at h0
  exact unreferenced_is_deallocated ops s h fit c cell hc hk h0

/-- the three clauses for strings, without any hypothesis on the number of holders: freed ⇒ no holder; live ⇒ the
    printed counter is 0 (immortal: exempt in the oracle) or the oracle's number of holders -/
theorem oracle_string_clauses (ops : List Op) (s : St) (h : run St.init ops = .ok s)
    (c : Nat) (cell : Cell) (hc : s.heap[c]? = some cell) (hk : cell.kind.isStr = true) :
    (cell.live = false → holders s c = 0) ∧ (cell.live = true → cell.ref = 0 ∨ cell.ref = holders s c) := by
  rw [run_holders h]
  have := string_cells_never_freed_while_held ops s h c cell hc hk
  exact ⟨this.1, fun hl => (this.2 hl).elim Or.inl (fun x => Or.inr x.1)⟩

/-- **oracle_accepts_model_state** (clause-level top theorem for the per-value part of the oracle).  The oracle's
    declarative step `collect1` — "every existing value nobody refers to disappears; every counter is the number of
    holders" — changes NOTHING on a state the model reaches (holders fitting the counters, no string saturated to the
    immortal counter 0): after every history the counting machine is already in the state the declarative definition of
    exact reference counting demands, and the iteration `collect` stops at once. -/
theorem oracle_accepts_model_state (ops : List Op) (s : St) (h : run St.init ops = .ok s) (fit : FitsRun St.init ops)
    (small : ∀ c, H s c < 2 ^ W)
    (nosat : ∀ (c : Nat) (cell : Cell), s.heap[c]? = some cell → cell.live = true → cell.kind.isStr = true → cell.ref ≠ 0) :
    collect1 s = (s, false) ∧ ∀ n, collect (n + 1) s = s := by
  have de := run_DE ops St.init s h DE_init
  have c1 : collect1 s = (s, false) := by
    apply collect1_fix s de
    · intro c cell hc hl
      rw [holders_eq_H s de c]
      cases hk : cell.kind.isStr with
      | false => exact (ref_eq_holders ops s h fit c cell hc hl hk).2 (small c)
      | true =>
        rcases (string_cells_never_freed_while_held ops s h c cell hc hk).2 hl with h0 | ⟨h1, h2, _⟩
        · exact absurd h0 (nosat c cell hc hl hk)
        · exact ⟨h1, h2⟩
    · intro c cell hc hl
      exact oracle_freed_clause ops s h fit c cell hc hl
  refine ⟨c1, fun n => ?_⟩
  simp only [collect, c1]
  rfl

/-- non-vacuity: a model state with shared values, a pending call_out and a destructed object is a fixpoint of the oracle -/
example : ∃ s, run St.init [.newarr 0 2, .assign 1 0, .newmap 2, .mset 2 0 0, .newobj 0, .call 0 0 1 0 2, .dest 0, .free 1] = .ok s ∧
    (collect1 s).2 = false ∧ (collect1 s).1.heap.map (·.ref) = s.heap.map (·.ref) ∧ (∀ c, c < s.heap.length → H s c < 2 ^ W) := by
  decide +kernel

/-- non-vacuity: the oracle's count on a model state with shared values -/
example : ∃ s, run St.init [.newarr 0 2, .assign 1 0, .newmap 2, .mset 2 0 0, .free 1] = .ok s ∧ holders s c0 = 3 ∧ H s c0 = 3 := by
  decide +kernel

/-- non-vacuity: a history that shares one array between a variable, a container, a mapping, an object variable,
    a function pointer, a pending call_out and a sentence, and then releases everything -/
def balancedExample : List Op :=
  [.newarr 0 2, .newmap 1, .newobj 0, .mset 1 0 0, .setvar 0 1 0, .newfun 2 0 0, .call 0 0 1 0 1, .sent 0 0 0 1,
   .free 0, .free 1, .free 2, .sweep, .dest 0, .cleanup, .drop 0, .unload 0, .unload 1]

example : ∃ s, run St.init balancedExample = .ok s ∧ (∀ c, c < s.heap.length → c ≠ cFProg → c ≠ cFBase → H s c = 0) ∧
    s.stats.numArrays = 0 ∧ s.stats.objects = 0 := by
  decide +kernel

theorem insCall_perm (x : Nat × Nat) (l : List (Nat × Nat)) : (insCall x l).Perm (x :: l) := by
  induction l with
  | nil => exact List.Perm.refl _
  | cons y ys ih =>
    unfold insCall
    split
    · exact List.Perm.refl _
    · exact ((List.Perm.cons y ih).trans (List.Perm.swap x y ys))

theorem foldl_insCall_perm (l acc : List (Nat × Nat)) :
    (l.foldl (fun acc x => insCall x acc) acc).Perm (l ++ acc) := by
  induction l generalizing acc with
  | nil => exact List.Perm.refl _
  | cons x xs ih =>
    simp only [List.foldl_cons]
    refine (ih (insCall x acc)).trans ?_
    refine (List.Perm.append_left xs (insCall_perm x acc)).trans ?_
    simp only [List.cons_append]
    exact List.perm_middle

/-- the pending calls: slots whose root holds a call record, with the record's cell index -/
def pendingCalls (s : St) : List (Nat × Nat) :=
  (List.range nCalls).filterMap (fun k => match s.roots[rCall k]? with
    | some (.ptr c) => some (c, k)
    | _ => none)

/-- **sweep_runs_every_pending_call_once.**  One sweep of call_out() (model: `sweepOrder`) visits exactly the slots that
    hold a pending call, each once: no call is lost and none is run twice, whatever the order. -/
theorem sweep_runs_every_pending_call_once (s : St) :
    (sweepOrder s).Perm ((pendingCalls s).map (·.2)) ∧ (sweepOrder s).Nodup := by
  have hp : (sweepOrder s).Perm ((pendingCalls s).map (·.2)) :=
    (List.append_nil _ ▸ foldl_insCall_perm (pendingCalls s) []).map _
  refine ⟨hp, hp.nodup_iff.mpr ?_⟩
  -- the second components are the slot numbers, taken from `List.range nCalls`, each at most once
  have snd : ∀ {k : Nat} {b : Nat × Nat}, (match s.roots[rCall k]? with
      | some (.ptr c) => some (c, k)
      | _ => none) = some b → b.2 = k := by
    intro k b h; split at h <;> cases h; rfl
  exact (List.nodup_range.filterMap _ fun k k' ne b hb b' hb' e => ne (snd hb ▸ snd hb' ▸ e)).map _ fun _ _ h => h

end NV.C06
