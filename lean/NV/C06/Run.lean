/-
C06 — how the model runs, read backwards: what a successful `writeLoc`, `incVal`, `rel1`, `mstep` and `step` has done,
one case per path through the definition, and the lifting of a relation between states from the steps of a running
free_svalue to the whole of it (`relLoop_lift`) and from single micro-instructions to micro programs, sweeps, operations
and histories (`run_lift`).  Whatever the other files prove about a step starts from `MStep` / `Rel1` / `step_cases`
(Heap: `mstep_eff`, Holders: `MStep.ok`, Invariant: `step_ok`), not from the definitions of `mstep`, `rel1` or `step`.
-/
import NV.C06.Model

namespace NV.C06

theorem bind_eq_ok {α β : Type} {x : M α} {f : α → M β} {b : β} :
    (x >>= f) = .ok b ↔ ∃ a, x = .ok a ∧ f a = .ok b := by
  cases x <;> simp [bind, Except.bind]

/-- test vectors (the `example`s of Props.lean, `cycle_leaks` and `object_cycle_cut_by_destruct` of Witness.lean): that a
    closed computation succeeds (a look-up finds something) with a result passing a decidable test is decided by
    running it -/
instance decExistsOk {α : Type} (x : M α) (P : α → Prop) [∀ a, Decidable (P a)] : Decidable (∃ a, x = .ok a ∧ P a) :=
  match x with
  | .ok a => decidable_of_iff (P a) ⟨fun p => ⟨a, rfl, p⟩, fun ⟨_, e, p⟩ => by cases e; exact p⟩
  | .error _ => isFalse (fun ⟨_, e, _⟩ => by cases e)

instance decExistsSome {α : Type} (x : Option α) (P : α → Prop) [∀ a, Decidable (P a)] :
    Decidable (∃ a, x = some a ∧ P a) :=
  match x with
  | some a => decidable_of_iff (P a) ⟨fun p => ⟨a, rfl, p⟩, fun ⟨_, e, p⟩ => by cases e; exact p⟩
  | none => isFalse (fun ⟨_, e, _⟩ => by cases e)

/-- cell d may be used: it is allocated and has not been deallocated -/
def St.liveAt (s : St) (d : Nat) (cell : Cell) : Prop := s.heap[d]? = some cell ∧ cell.live = true

/-- the look-up every primitive starts with: a cell that is not there, or deallocated, is a use-after-free -/
theorem live_eq_ok {β : Type} {s : St} {d : Nat} {K : Cell → M β} {b : β}
    (h : (match s.heap[d]? with
      | none => throw Out.uaf
      | some cell => if !cell.live then throw Out.uaf else K cell) = .ok b) :
    ∃ cell, s.liveAt d cell ∧ K cell = .ok b := by
  split at h
  · cases h
  · rename_i cell hd
    split at h
    · cases h
    · rename_i hl; exact ⟨cell, ⟨hd, by simpa using hl⟩, h⟩

theorem lt_of_getElem? {α} {l : List α} {i : Nat} {x : α} (h : l[i]? = some x) : i < l.length :=
  (List.getElem?_eq_some_iff.mp h).1

theorem set_split {α} {l : List α} {i : Nat} {a : α} (h : l[i]? = some a) (x : α) :
    ∃ p q, l = p ++ a :: q ∧ l.set i x = p ++ x :: q := by
  obtain ⟨hi, rfl⟩ := List.getElem?_eq_some_iff.mp h
  obtain ⟨p, q, e, _, e'⟩ := List.exists_of_set (a' := x) hi
  exact ⟨p, q, e, e'⟩

theorem writeLoc_cases {s s' : St} {l : Loc} {v : Val} (h : writeLoc s l v = .ok s') :
    (∃ i, l = .root i ∧ i < s.roots.length ∧ s' = { s with roots := s.roots.set i v }) ∨
    (∃ d j cell, l = .item d j ∧ s.liveAt d cell ∧ j < cell.items.length ∧
      s' = s.setCell d { cell with items := cell.items.set j v }) := by
  unfold writeLoc at h
  split at h
  · split at h
    · cases h; exact .inl ⟨_, rfl, ‹_›, rfl⟩
    · cases h
  · obtain ⟨cell, hc, h⟩ := live_eq_ok h
    split at h
    · cases h; exact .inr ⟨_, _, cell, rfl, hc, ‹_›, rfl⟩
    · cases h

theorem incVal_num (s s' : St) (n : Int) (k : Nat) (h : incVal s (.num n) k = .ok s') : s' = s := by
  cases h; rfl

theorem incVal_ptr (s s' : St) (d k : Nat) (h : incVal s (.ptr d) k = .ok s') :
    ∃ cell, s.liveAt d cell ∧ s' = s.setCell d { cell with ref := incRef cell.kind cell.ref k } := by
  simp only [incVal] at h
  obtain ⟨cell, hc, h⟩ := live_eq_ok h
  cases h; exact ⟨cell, hc, rfl⟩

/-- the statistics after `free_svalue` has decremented the counter of a cell: a string gives up one `allocd` -/
def decStats (s : St) (cell : Cell) : Stats :=
  if cell.kind.isStr then { s.stats with allocdStrings := s.stats.allocdStrings - 1 } else s.stats

/-- the successful steps of a running free_svalue -/
inductive Rel1 : St → St → Prop
  | num {s : St} {n : Int} {rest : List Val} : s.temps = .num n :: rest → Rel1 s { s with temps := rest }
  | dec {s : St} {c : Nat} {rest : List Val} {cell : Cell} :
      s.temps = .ptr c :: rest → s.liveAt c cell → (decRef cell.kind cell.ref).2 = false →
      Rel1 s (s.upd c { cell with ref := (decRef cell.kind cell.ref).1 } rest (decStats s cell))
  | dealloc {s : St} {c : Nat} {rest : List Val} {cell : Cell} :
      s.temps = .ptr c :: rest → s.liveAt c cell → (decRef cell.kind cell.ref).2 = true →
      Rel1 s (s.upd c { cell with ref := (decRef cell.kind cell.ref).1, live := false, items := [] }
                (cell.items.reverse ++ rest) ((decStats s cell).onFree cell.kind cell.items.length))

theorem Rel1.of {s s' : St} (h : rel1 s = .ok s') : Rel1 s s' := by
  unfold rel1 at h
  split at h
  · cases h
  · cases h; exact .num ‹_›
  · rename_i c rest ht
    obtain ⟨cell, hc, h⟩ := live_eq_ok h
    simp only at h
    split at h
    · rename_i hf; cases h; exact .dec ht hc (by simpa using hf)
    · rename_i hf
      split at h
      · cases h
      · split at h
        · cases h
        · cases h; exact .dealloc ht hc (by simpa using hf)

/-- a reflexive, transitive relation that holds across every step of a running free_svalue holds across all of it -/
theorem relLoop_lift {R : St → St → Prop} (refl : ∀ s, R s s) (trans : ∀ {a b c}, R a b → R b c → R a c)
    (h1 : ∀ {s s'}, Rel1 s s' → R s s') : ∀ (f : Nat) {depth : Nat} {s s' : St}, relLoop f depth s = .ok s' → R s s'
  | 0, _, _, _, h => by cases h
  | f + 1, _, s, _, h => by
    simp only [relLoop] at h
    split at h
    · cases h; exact refl s
    · simp only [bind_eq_ok] at h
      obtain ⟨s1, hr, h⟩ := h
      exact trans (h1 (.of hr)) (relLoop_lift refl trans h1 f h)

/-- the successful runs of a micro-instruction, one constructor per path through `mstep` -/
inductive MStep : St → Mi → St → Prop
  | take {s s1 : St} {l : Loc} {v : Val} :
      readLoc s l = .ok v → writeLoc s l (.num 0) = .ok s1 → MStep s (.take l) { s1 with temps := v :: s1.temps }
  | put {s s1 : St} {l : Loc} {v old : Val} {rest : List Val} :
      s.temps = v :: rest → readLoc s l = .ok old → old.isNum = true → writeLoc s l v = .ok s1 →
      MStep s (.put l) { s1 with temps := rest }
  | dup {s s1 : St} {l : Loc} {v : Val} :
      readLoc s l = .ok v → incVal s v 1 = .ok s1 → MStep s (.dup l) { s1 with temps := v :: s1.temps }
  | free {s s' : St} {v : Val} {rest : List Val} :
      s.temps = v :: rest → relLoop (s.size + 2) rest.length s = .ok s' → MStep s .free s'
  | alloc {s : St} {k : Kind} {n : Nat} {vis : Bool} {text : String} {tag : Nat} :
      MStep s (.alloc k n vis text tag)
        { s with heap := s.heap ++ [{ kind := k, ref := 1, live := true, items := List.replicate n (.num 0),
                                      vis := vis, text := text, tag := tag }],
                 temps := .ptr s.heap.length :: s.temps, stats := s.stats.onAlloc k n }
  | fillFrom {s s' : St} {d : Nat} {l : Loc} {v : Val} {cell : Cell} :
      readLoc s l = .ok v → s.liveAt d cell → cell.items.all Val.isNum = true →
      incVal (s.setCell d { cell with items := List.replicate cell.items.length v }) v cell.items.length = .ok s' →
      MStep s (.fillFrom d l) s'
  | grow {s : St} {d : Nat} {cell : Cell} :
      s.liveAt d cell → cell.kind = .map →
      MStep s (.grow d) { (s.setCell d { cell with items := cell.items ++ [.num 0, .num 0] }) with
                          stats := { s.stats with mapNodes := s.stats.mapNodes + 1 } }
  | shrink {s : St} {d j : Nat} {cell : Cell} {a b : Int} :
      s.liveAt d cell → cell.kind = .map → cell.items[2 * j]? = some (.num a) → cell.items[2 * j + 1]? = some (.num b) →
      MStep s (.shrink d j)
        { (s.setCell d { cell with items := (cell.items.eraseIdx (2 * j + 1)).eraseIdx (2 * j) }) with
          stats := { s.stats with mapNodes := s.stats.mapNodes - 1 } }
  | pushRoot {s : St} : MStep s .pushRoot { s with roots := s.roots ++ [.num 0] }
  | popRoot {s : St} {n : Int} :
      s.roots.getLast? = some (.num n) → MStep s .popRoot { s with roots := s.roots.dropLast }
  | mark {s : St} {d : Nat} {cell : Cell} :
      s.liveAt d cell → MStep s (.mark d) { (s.setCell d { cell with destructed := true }) with dlist := d :: s.dlist }
  | unlist {s : St} {d : Nat} : MStep s (.unlist d) { s with dlist := s.dlist.filter (· != d) }
  | shareOld {s s1 : St} {w : String} {c : Nat} :
      findShared s.heap w = some c → incVal s (.ptr c) 1 = .ok s1 →
      MStep s (.share w) { s1 with temps := .ptr c :: s1.temps,
                                   stats := { s1.stats with allocdStrings := s1.stats.allocdStrings + 1 } }
  | shareNew {s : St} {w : String} :
      findShared s.heap w = none →
      MStep s (.share w)
        { s with heap := s.heap ++ [{ kind := .str, ref := 1, live := true, items := [], text := w }],
                 temps := .ptr s.heap.length :: s.temps, stats := s.stats.onAlloc .str 0 }
  | allocd {s : St} {δ : Int} :
      MStep s (.allocd δ) { s with stats := { s.stats with allocdStrings := s.stats.allocdStrings + δ } }
  | distinct {s : St} {δ : Int} :
      MStep s (.distinct δ) { s with stats := { s.stats with distinctStrings := s.stats.distinctStrings + δ } }
  | swap {s : St} {a b : Val} {rest : List Val} :
      s.temps = a :: b :: rest → MStep s .swap { s with temps := b :: a :: rest }
  | inplace {s : St} {c : Nat} {cell : Cell} : s.liveAt c cell → MStep s (.inplace c) s
  | settext {s : St} {c : Nat} {cell : Cell} {w : String} :
      s.liveAt c cell → MStep s (.settext c w) (s.setCell c { cell with text := w })

theorem MStep.of {s s' : St} {i : Mi} (h : mstep s i = .ok s') : MStep s i s' := by
  cases i with
  | take l =>
    simp only [mstep, bind_eq_ok] at h
    obtain ⟨v, hv, s1, hw, h⟩ := h
    cases h; exact .take hv hw
  | put l =>
    simp only [mstep] at h
    split at h
    · cases h
    · rename_i v rest ht
      simp only [bind_eq_ok] at h
      obtain ⟨old, ho, h⟩ := h
      split at h
      · cases h
      · rename_i hn
        simp only [bind_eq_ok] at h
        obtain ⟨s1, hw, h⟩ := h
        cases h; exact .put ht ho (by simpa using hn) hw
  | dup l =>
    simp only [mstep, bind_eq_ok] at h
    obtain ⟨v, hv, s1, hi, h⟩ := h
    cases h; exact .dup hv hi
  | free =>
    simp only [mstep] at h
    split at h
    · cases h
    · exact .free ‹_› h
  | alloc k n vis text tag => cases h; exact .alloc
  | fillFrom d l =>
    simp only [mstep, bind_eq_ok] at h
    obtain ⟨v, hv, h⟩ := h
    obtain ⟨cell, hc, h⟩ := live_eq_ok h
    split at h
    · cases h
    · rename_i ha
      exact .fillFrom hv hc (by simpa using ha) h
  | grow d =>
    simp only [mstep] at h
    split at h
    · cases h
    · rename_i cell hd
      split at h
      · cases h
      · rename_i hl
        have hlk : cell.live = true ∧ cell.kind = .map := by simpa using hl
        cases h; exact .grow ⟨hd, hlk.1⟩ hlk.2
  | shrink d j =>
    simp only [mstep] at h
    split at h
    · cases h
    · rename_i cell hd
      split at h
      · cases h
      · rename_i hl
        have hlk : cell.live = true ∧ cell.kind = .map := by simpa using hl
        split at h
        · cases h; exact .shrink ⟨hd, hlk.1⟩ hlk.2 ‹_› ‹_›
        · cases h
  | pushRoot => cases h; exact .pushRoot
  | popRoot =>
    simp only [mstep] at h
    split at h
    · cases h; exact .popRoot ‹_›
    · cases h
  | mark d =>
    simp only [mstep] at h
    obtain ⟨cell, hc, h⟩ := live_eq_ok h
    cases h; exact .mark hc
  | unlist d => cases h; exact .unlist
  | share w =>
    simp only [mstep] at h
    split at h
    · rename_i c hf
      simp only [bind_eq_ok] at h
      obtain ⟨s1, hi, h⟩ := h
      cases h; exact .shareOld hf hi
    · rename_i hf; cases h; exact .shareNew hf
  | allocd δ => cases h; exact .allocd
  | distinct δ => cases h; exact .distinct
  | swap =>
    simp only [mstep] at h
    split at h
    · cases h; exact .swap ‹_›
    · cases h
  | inplace c =>
    simp only [mstep] at h
    obtain ⟨cell, hc, h⟩ := live_eq_ok h
    cases h; exact .inplace hc
  | settext c w =>
    simp only [mstep] at h
    obtain ⟨cell, hc, h⟩ := live_eq_ok h
    cases h; exact .settext hc

/-- an operation that succeeds has left the state alone, or run one sweep, or run the micro program it compiles to -/
theorem step_cases {s s' : St} {op : Op} (h : step s op = .ok s') :
    s' = s ∨ sweepFrom s (sweepOrder s) = .ok s' ∨ ∃ prog, compile s op = some prog ∧ runMi s prog = .ok s' := by
  unfold step at h
  split at h
  · split at h
    · rename_i h2; cases h; exact .inr (.inl h2)
    · cases h
  -- err, efun, rest, resto, fefun, frest: run by the harness only, the model state stays
  iterate 6 (cases h; exact .inl rfl)
  · split at h
    · cases h
    · rename_i prog hp
      split at h
      · rename_i h2; cases h; exact .inr (.inr ⟨prog, hp, h2⟩)
      · cases h

section lift
variable {R : St → St → Prop} (refl : ∀ s, R s s) (trans : ∀ {a b c}, R a b → R b c → R a c)
  (hm : ∀ {s i s'}, MStep s i s' → R s s')
include refl trans hm

theorem runMi_lift : ∀ (prog : List Mi) {s s' : St}, runMi s prog = .ok s' → R s s'
  | [], s, _, h => by cases h; exact refl s
  | i :: is, _, _, h => by
    simp only [runMi, bind_eq_ok] at h
    obtain ⟨s1, h1, h⟩ := h
    exact trans (hm (MStep.of h1)) (runMi_lift is h)

theorem sweepFrom_lift : ∀ (ks : List Nat) {s s' : St}, sweepFrom s ks = .ok s' → R s s'
  | [], s, _, h => by cases h; exact refl s
  | k :: ks, _, _, h => by
    simp only [sweepFrom, bind_eq_ok] at h
    obtain ⟨s1, h1, h⟩ := h
    exact trans (runMi_lift refl trans hm _ h1) (sweepFrom_lift ks h)

theorem step_lift {s s' : St} {op : Op} (h : step s op = .ok s') : R s s' := by
  rcases step_cases h with rfl | h | ⟨prog, _, h⟩
  · exact refl _
  · exact sweepFrom_lift refl trans hm _ h
  · exact runMi_lift refl trans hm _ h

/-- a reflexive, transitive relation that holds across every micro-instruction holds across every history -/
theorem run_lift : ∀ (ops : List Op) {s s' : St}, run s ops = .ok s' → R s s'
  | [], s, _, h => by cases h; exact refl s
  | op :: ops, s, s', h => by
    simp only [run] at h
    split at h
    · rename_i s1 h1
      exact trans (step_lift refl trans hm h1) (run_lift ops h)
    · exact run_lift ops h
    · cases h

end lift

end NV.C06
