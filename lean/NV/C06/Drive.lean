/-
C06 driver: parses the case lines that the harness executes against the real driver and runs the model
(`model` mode) or the specification oracle on an implementation trace (`judge` mode).

Case lines (shared with harness/c06/c06.c and harness/mudlib/c06/main.c; the basic ones - `parseOp` has them all, with
the operand meanings at `Op` in Model.lean):
  mode unit|lpc
  newarr s n | newmap s | newcls s | newbuf s n | newstr s w | newmstr s w | newfun s o t | fill d n t
  assign d s | free s | aset s i t | aget d s i | mset s k t | mdel s k
  push s | pushr s | pop | popto d                                  (unit mode only)
  newobj o | setvar o i s | getvar d o i | oref d o | dest o | cleanup | drop o
  call k o st s t | rmcall k | sweep | sent k o s t | rmsent k | inp o s t | input
  err s t | efun f s t | srange d i j w                              (lpc mode only)
  sappend d w | sjoin d t | sadd d s w | schar d i c                (strings are values: v[d] += "w" ...)

Output, one line per operation:  `ok r:<ref of every visible cell, x = freed> st:<counters> p:<program counters>
f:<references on the function-name strings> t:<text every variable sees>` (`renderState`) | `skip` |
`uaf` / `fatal` / ... (the case stops there).
-/
import NV.Common.Proto
import NV.C06.Model
import NV.C06.Spec

namespace NV.C06

open NV.Proto

def parseOp (line : String) : Option Op :=
  let n? (s : String) : Option Nat := s.toNat?
  match toks line with
  | ["newarr", a, b] => do some (.newarr (← n? a) (← n? b))
  | ["newmap", a] => do some (.newmap (← n? a))
  | ["newcls", a] => do some (.newcls (← n? a))
  | ["newbuf", a, b] => do some (.newbuf (← n? a) (← n? b))
  | ["newstr", a, w] => do some (.newstr (← n? a) w)
  | ["newmstr", a, w] => do some (.newmstr (← n? a) w)
  | ["newfun", a, b, c] => do some (.newfun (← n? a) (← n? b) (← n? c))
  | ["newffun", a, b, c] => do some (.newffun (← n? a) (← n? b) (← n? c))
  | ["fill", a, b, c] => do some (.fill (← n? a) (← n? b) (← n? c))
  | ["assign", a, b] => do some (.assign (← n? a) (← n? b))
  | ["free", a] => do some (.free (← n? a))
  | ["aset", a, b, c] => do some (.aset (← n? a) (← n? b) (← n? c))
  | ["aget", a, b, c] => do some (.aget (← n? a) (← n? b) (← n? c))
  | ["mset", a, b, c] => do some (.mset (← n? a) (← n? b) (← n? c))
  | ["mdel", a, b] => do some (.mdel (← n? a) (← n? b))
  | ["push", a] => do some (.push (← n? a))
  | ["pushr", a] => do some (.pushr (← n? a))
  | ["pop"] => some .pop
  | ["popto", a] => do some (.popto (← n? a))
  | ["newobj", a] => do some (.newobj (← n? a))
  | ["setvar", a, b, c] => do some (.setvar (← n? a) (← n? b) (← n? c))
  | ["getvar", a, b, c] => do some (.getvar (← n? a) (← n? b) (← n? c))
  | ["oref", a, b] => do some (.oref (← n? a) (← n? b))
  | ["dest", a] => do some (.dest (← n? a))
  | ["cleanup"] => some .cleanup
  | ["drop", a] => do some (.drop (← n? a))
  | ["call", a, b, c, d, e] => do some (.call (← n? a) (← n? b) (← n? c) (← n? d) (← n? e))
  | ["rmcall", a] => do some (.rmcall (← n? a))
  | ["sweep"] => some .sweep
  | ["rmcalln", a] => do some (.rmcalln (← n? a))
  | ["rmall", a] => do some (.rmall (← n? a))
  | ["sent", a, b, c, d] => do some (.sent (← n? a) (← n? b) (← n? c) (← n? d))
  | ["rmsent", a] => do some (.rmsent (← n? a))
  | ["err", a, b] => do some (.err (← n? a) (← n? b))
  | ["efun", a, b, c] => do some (.efun (← n? a) (← n? b) (← n? c))
  | ["sappend", a, w] => do some (.sappend (← n? a) w)
  | ["sjoin", a, b] => do some (.sjoin (← n? a) (← n? b))
  | ["sadd", a, b, w] => do some (.sadd (← n? a) (← n? b) w)
  | ["saddl", a, b, w] => do some (.saddl (← n? a) (← n? b) w)
  | ["sadd2", a, b, c] => do some (.sadd2 (← n? a) (← n? b) (← n? c))
  | ["schar", a, b, w] => do some (.schar (← n? a) (← n? b) w)
  | ["srange", a, b, c, w] => do some (.srange (← n? a) (← n? b) (← n? c) w)
  | ["inp", a, b, c] => do some (.inp (← n? a) (← n? b) (← n? c))
  | ["input"] => some .input
  | ["reclaim"] => some .reclaim
  | ["arange", a, b, c, d, e, f] => do some (.arange (← n? a) (← n? b) (← n? c) (← n? d) (← n? e) (← n? f))
  | ["arangev", a, b, c, d, e] => do some (.arangev (← n? a) (← n? b) (← n? c) (← n? d) (← n? e))
  | ["brange", a, b, c, d] => do some (.brange (← n? a) (← n? b) (← n? c) (← n? d))
  | ["reclaimu"] => some .reclaimu
  | ["inpr", a, b, c] => do some (.inpr (← n? a) (← n? b) (← n? c))
  | ["rest", w] => some (.rest w)
  | ["resto", w] => some (.resto w)
  | ["clones", a] => do some (.clones (← n? a))
  | ["unclone", a] => do some (.unclone (← n? a))
  | ["unload", a] => do some (.unload (← n? a))
  | ["newobjr", a, b] => do some (.newobjr (← n? a) (← n? b))
  | ["replace", a, b] => do some (.replace (← n? a) (← n? b))
  | ["fefun", a, b, c, d] => do some (.fefun (← n? a) (← n? b) (← n? c) (← n? d))
  | ["frest", w, d] => do some (.frest w (← n? d))
  | _ => none

structure Parsed where
  lpc : Bool := false
  ops : List Op := []
  bad : List String := []

def parseCase (lines : List String) : Parsed :=
  let p := lines.foldl (fun (p : Parsed) line =>
    match toks line with
    | [] => p
    | ["mode", "lpc"] => { p with lpc := true }
    | ["mode", "unit"] => { p with lpc := false }
    | _ =>
      if line.startsWith "#" then p
      else match parseOp line with
        | some op => { p with ops := op :: p.ops }
        | none => { p with bad := line :: p.bad }) {}
  { p with ops := p.ops.reverse, bad := p.bad.reverse }

/-- operations that exist only in one of the two harness styles are skipped by the other -/
def unitOnly : Op → Bool
  | .push _ => true
  | .pushr _ => true
  | .pop => true
  | .popto _ => true
  | .oref _ _ => true
  | .newstr _ _ => true
  | .clones _ => true
  | .unclone _ => true
  | .unload _ => true
  | .reclaimu => true
  | _ => false

def lpcOnly : Op → Bool
  | .err _ _ => true
  | .efun _ _ _ => true
  | .rest _ => true
  | .resto _ => true
  | .srange _ _ _ _ => true
  | .fefun _ _ _ _ => true
  | .frest _ _ => true
  | .reclaim => true
  | .newffun _ _ _ => true
  | .arange _ _ _ _ _ _ => true
  | .arangev _ _ _ _ _ => true
  | .brange _ _ _ _ => true
  | _ => false

def renderRefs (h : List Cell) : String :=
  ",".intercalate ((h.filter (·.vis)).map (fun c => if c.live then toString c.ref else "x"))

/-- `allocd_strings` is also moved by the apply cache (cached function names keep a string reference), so it is
    compared only until the first apply() of the case (clone / call_out sweep / anything in lpc mode) -/
def renderStats (noAllocd : Bool) (st : Stats) : String :=
  let strs := if noAllocd then s!"{st.distinctStrings},-" else s!"{st.distinctStrings},{st.allocdStrings}"
  s!"{st.numArrays},{st.arrayBytes},{st.numMappings},{st.mapNodes},{strs},{st.objects}"

/-! ### programs

`program_t.ref` (reference_prog / free_prog of lib/lpc/program.c) is part of the heap model: cells `cBase` and `cProg`
of kind `.prog` (the program of /c06/base and of /c06/uobj, which inherits it).  Holders: the blueprint objects, every
object structure of a clone (`ob->prog`, item nVars of an object cell; the anonymous clones of `clones n` are kept in
packs), the inherit table of an inheriting program.  The trace column `p:<uobj>/<base>` prints, for each of the two
programs, `<ref>.<func_ref>`. -/

def progField (s : St) (c : Nat) : String :=
  match s.heap[c]? with
  | some cell => if cell.live then toString cell.ref else "x"
  | none => "?"

/-- func_ref of a program: the counter of its func_ref cell minus the permanent holder -/
def funcField (s : St) (c pc : Nat) : String :=
  -- the program structure is gone (unit mode: no function pointers exist there)
  if progField s pc == "x" then "x"
  else match s.heap[c]? with
    | some cell => if cell.live then toString (cell.ref - 1) else "x"
    | none => "?"

def progFreed (s : St) : Bool :=
  match s.heap[cProg]? with
  | some cell => !cell.live
  | none => true

/-- references held on the function-name strings of the harness object ("cb", "cbs<k>", "act"): one per pending
    call_out (pending_call_t.function.s) and one per add_action sentence (sentence_t.function.s) -/
def nameRefs (s : St) : Nat :=
  ((List.range nCalls).filter (fun k => !isNumRoot s (rCall k))).length +
  ((List.range nSents).filter (fun k => !isNumRoot s (rSent k))).length

/-- the text every variable sees (value-level observation): `-` = not a string -/
def renderTexts (s : St) : String :=
  ",".intercalate ((List.range nSlots).map (fun i => match strSlot s i with
    | some (_, cell) => cell.text
    | none => "-"))

def renderState (noAllocd : Bool) (s : St) : String :=
  let st := { s.stats with objects := s.stats.objects + anonCount s - unloadedCount s }
  -- deallocate_program also releases the strings of the program: the string columns are meaningless afterwards
  let sts := if progFreed s then
      s!"{st.numArrays},{st.arrayBytes},{st.numMappings},{st.mapNodes},-,-,{st.objects}"
    else renderStats noAllocd st
  let fr := if progFreed s then "-" else toString (nameRefs s)
  s!"ok r:{renderRefs s.heap} st:{sts} p:{progField s cProg}.{funcField s cFProg cProg}/{progField s cBase}.{funcField s cFBase cBase} f:{fr} t:{renderTexts s}"

def applies : Op → Bool
  | .newobj _ => true
  | .newobjr _ _ => true
  | .replace _ _ => true
  | .sweep => true
  | .clones _ => true
  | .input => true
  | _ => false

def runLines (lpc : Bool) : Bool → St → List Op → List String → List String
  | _, _, [], acc => acc.reverse
  | na, s, op :: ops, acc =>
    if (lpc && unitOnly op) || (!lpc && lpcOnly op) then runLines lpc na s ops ("skip" :: acc)
    else
      match step s op with
      | .ok s' =>
        let na := na || applies op
        runLines lpc na s' ops (renderState na s' :: acc)
      | .skip => runLines lpc na s ops ("skip" :: acc)
      | .fail e => (e.name :: acc).reverse

def runModel (lines : List String) : List String :=
  let p := parseCase lines
  if !p.bad.isEmpty then p.bad.map (fun l => s!"bad-line {l}")
  else runLines p.lpc p.lpc St.init p.ops []

def runJudge (body : List String) : List String :=
  let (input, impl) := splitJudge body
  let p := parseCase input
  if !p.bad.isEmpty then p.bad.map (fun l => s!"bad bad-line {l}")
  else
    let ops := p.ops.map (fun op => if (p.lpc && unitOnly op) || (!p.lpc && lpcOnly op) then none else some op)
    match judge p.lpc ops impl with
    | [] => ["ok"]
    | vs => vs.map (fun v => s!"bad {v}")

def main (mode : String) : IO Unit :=
  match mode with
  | "model" => serve runModel
  | "judge" => serve runJudge
  | _ => IO.eprintln s!"C06: unknown mode {mode}"

end NV.C06
