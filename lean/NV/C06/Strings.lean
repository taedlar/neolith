/-
C06 — strings need no side condition: cells never change their kind, and a cell that is a string (or not yet
allocated) satisfies `FitsC` in every state, so its invariant is preserved by every history.
-/
import NV.C06.Holders

namespace NV.C06

/-- cell c is a string, if it is allocated at all -/
def StrIf (s : St) (c : Nat) : Prop := ∀ cell, s.heap[c]? = some cell → cell.kind.isStr = true

theorem StrIf_of_KExt {s s' : St} {c : Nat} (k : KExt s.heap s'.heap) (hs : StrIf s' c) : StrIf s c := by
  intro cell hc
  obtain ⟨cell', hc', hk⟩ := k c cell hc
  rw [← hk]; exact hs cell' hc'

/-- a string, and a cell that is not allocated, meet the side condition of `mstep_ok` -/
theorem FitsC_of_StrIf {s : St} {c : Nat} (ok : CellOK s c) (hs : StrIf s c) : FitsC s c := by
  cases hc : s.heap[c]? with
  | none =>
    right
    rw [(CellOK_none hc).mp ok]; exact Nat.succ_pos _
  | some cell => exact .inl ⟨cell, hc, hs cell hc⟩

/-- the invariant of a cell that ends up a string needs no side condition -/
theorem run_str_ok {ops : List Op} {s s' : St} {c : Nat} (h : run s ops = .ok s') (ok : CellOK s c)
    (hs : ∀ cell', s'.heap[c]? = some cell' → cell'.kind.isStr = true) : CellOK s' c := by
  refine (run_lift (R := fun s s' => KExt s.heap s'.heap ∧ (CellOK s c → StrIf s' c → CellOK s' c))
    (fun s => ⟨KExt_refl _, fun ok _ => ok⟩) ?_ ?_ ops h).2 ok hs
  · intro s1 s2 s3 h12 h23
    exact ⟨KExt_trans h12.1 h23.1, fun ok hs => h23.2 (h12.2 ok (StrIf_of_KExt h23.1 hs)) hs⟩
  · intro s1 i s2 hm
    have k := KExt_of_eff (mstep_eff hm)
    exact ⟨k, fun ok hs => hm.ok ok (FitsC_of_StrIf ok (StrIf_of_KExt k hs))⟩

end NV.C06
