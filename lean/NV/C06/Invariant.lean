/-
C06 — the invariant "counter = number of holders" is preserved by every operation (lifting of the
micro-instruction lemma `mstep_ok` to sweeps, operations and histories).
-/
import NV.C06.Holders

namespace NV.C06

/-- `Fits` in every state of a call_out sweep -/
def FitsSweep : St → List Nat → Prop
  | _, [] => True
  | s, k :: ks => FitsAlong s (fireProg s k) ∧ ∀ s1, runMi s (fireProg s k) = .ok s1 → FitsSweep s1 ks

/-- `Fits` in every state one operation passes through -/
def FitsOp (s : St) (op : Op) : Prop :=
  FitsSweep s (sweepOrder s) ∧ ∀ prog, compile s op = some prog → FitsAlong s prog

/-- `Fits` in every state of a history -/
def FitsRun : St → List Op → Prop
  | _, [] => True
  | s, op :: ops => FitsOp s op ∧ ∀ s1, (step s op = .ok s1 → FitsRun s1 ops) ∧ (step s op = .skip → FitsRun s ops)

theorem sweepFrom_ok : ∀ {ks : List Nat} {s s' : St}, sweepFrom s ks = .ok s' → Inv s → FitsSweep s ks → Inv s'
  | [], _, _, h, inv, _ => by cases h; exact inv
  | k :: ks, _, _, h, inv, fit => by
    simp only [sweepFrom, bind_eq_ok] at h
    obtain ⟨s1, h1, h⟩ := h
    exact sweepFrom_ok h (runMi_ok h1 inv fit.1) (fit.2 s1 h1)

theorem step_ok {s s' : St} {op : Op} (h : step s op = .ok s') (inv : Inv s) (fit : FitsOp s op) : Inv s' := by
  rcases step_cases h with rfl | h | ⟨prog, hp, h⟩
  · exact inv
  · exact sweepFrom_ok h inv fit.1
  · exact runMi_ok h inv (fit.2 prog hp)

theorem run_ok : ∀ (ops : List Op) (s s' : St), run s ops = .ok s' → Inv s → FitsRun s ops → Inv s' := by
  intro ops
  induction ops with
  | nil => intro s s' h inv _; cases h; exact inv
  | cons op ops ih =>
    intro s s' h inv fit
    simp only [run] at h
    split at h
    · rename_i s1 h1
      exact ih s1 s' h (step_ok h1 inv fit.1) ((fit.2 s1).1 h1)
    · rename_i h1
      exact ih s s' h inv ((fit.2 s).2 h1)
    · cases h

/-- a tangible sufficient condition for `Fits`: the state has at most 2^W value slots altogether (variables, stack
    slots, values in transit, container items) -/
theorem Fits_of_size (s : St) (h : s.roots.length + s.size ≤ 2 ^ W) : Fits s := by
  intro c
  right
  have a := cnt_le_length c s.roots
  have b := cnt_le_length c s.temps
  have d := heapCnt_le c s.heap
  unfold St.size at h
  unfold H
  omega

end NV.C06
