/-
C06 — the counting invariant.  `H s c` counts the pointers to cell c in the graph itself (roots, values in transit,
items of containers), not a ghost field; `CellOK s c` compares it with what `metaOf` reads in the cell (liveness, kind,
counter) through the arithmetic `RefOK`.  Every micro-instruction moves `H` and the counter together (`MStep.ok`).
-/
import NV.C06.Heap

namespace NV.C06

/-- occurrences of a pointer to cell c in a list of values -/
def cnt (c : Nat) (l : List Val) : Nat := l.count (.ptr c)

/-- occurrences of a pointer to cell c inside the containers of the heap -/
def heapCnt (c : Nat) (h : List Cell) : Nat := (h.map (fun d => cnt c d.items)).sum

/-- number of holders of cell c: roots (variables, stack, handles, object list, pending calls, sentences),
    values in transit, and items of containers -/
def H (s : St) (c : Nat) : Nat := cnt c s.roots + cnt c s.temps + heapCnt c s.heap

def isPtrTo (c : Nat) (v : Val) : Nat := if v = .ptr c then 1 else 0

theorem cnt_nil (c : Nat) : cnt c [] = 0 := rfl

theorem cnt_cons (c : Nat) (v : Val) (l : List Val) : cnt c (v :: l) = cnt c l + isPtrTo c v := by
  unfold cnt isPtrTo
  rw [List.count_cons]
  by_cases h : v = .ptr c <;> simp [h]

theorem cnt_append (c : Nat) (a b : List Val) : cnt c (a ++ b) = cnt c a + cnt c b := by
  unfold cnt; exact List.count_append

theorem cnt_reverse (c : Nat) (a : List Val) : cnt c a.reverse = cnt c a := by
  unfold cnt; exact List.count_reverse

theorem isPtrTo_num (c : Nat) (n : Int) : isPtrTo c (.num n) = 0 := by simp [isPtrTo]

theorem isPtrTo_ptr_self (d : Nat) : isPtrTo d (.ptr d) = 1 := by simp [isPtrTo]
theorem isPtrTo_ptr_ne (c d : Nat) (h : d ≠ c) : isPtrTo c (.ptr d) = 0 := by
  unfold isPtrTo; rw [if_neg]; intro e; cases e; exact h rfl

theorem isPtrTo_of_isNum {v : Val} (c : Nat) (h : v.isNum = true) : isPtrTo c v = 0 := by
  cases v with
  | num n => exact isPtrTo_num c n
  | ptr d => cases h

theorem cnt_replicate (c n : Nat) (v : Val) : cnt c (List.replicate n v) = n * isPtrTo c v := by
  unfold cnt isPtrTo
  rw [List.count_replicate]
  by_cases h : v = .ptr c <;> simp [h]

theorem cnt_of_all_num (c : Nat) (l : List Val) (h : l.all Val.isNum = true) : cnt c l = 0 :=
  List.count_eq_zero.mpr fun hm => by cases List.all_eq_true.mp h _ hm

/-- additive form of `count_set` (no truncated subtraction) -/
theorem cnt_set (c : Nat) {l : List Val} {i : Nat} {old : Val} (v : Val) (h : l[i]? = some old) :
    cnt c (l.set i v) + isPtrTo c old = cnt c l + isPtrTo c v := by
  obtain ⟨p, q, rfl, e⟩ := set_split h v
  rw [e]; simp only [cnt_append, cnt_cons]; omega

theorem cnt_eraseIdx (c : Nat) (l : List Val) (i : Nat) (v : Val) (h : l[i]? = some v) :
    cnt c (l.eraseIdx i) + isPtrTo c v = cnt c l := by
  obtain ⟨hi, rfl⟩ := List.getElem?_eq_some_iff.mp h
  conv => rhs; rw [← List.take_append_drop i l, ← List.getElem_cons_drop hi]
  rw [List.eraseIdx_eq_take_drop_succ, cnt_append, cnt_append, cnt_cons]; omega

theorem cnt_erase_pair (c : Nat) {l : List Val} {i : Nat} {a b : Int}
    (h0 : l[i]? = some (.num a)) (h1 : l[i + 1]? = some (.num b)) :
    cnt c ((l.eraseIdx (i + 1)).eraseIdx i) = cnt c l := by
  have s1 := cnt_eraseIdx c l (i + 1) _ h1
  have s2 := cnt_eraseIdx c (l.eraseIdx (i + 1)) i _
    (by rw [List.getElem?_eraseIdx_of_lt (by omega)]; exact h0)
  rw [isPtrTo_num] at s1 s2
  omega

theorem cnt_dropLast_num (c : Nat) (l : List Val) (n : Int) (h : l.getLast? = some (.num n)) :
    cnt c l.dropLast = cnt c l := by
  obtain ⟨ys, rfl⟩ := List.getLast?_eq_some_iff.mp h
  rw [List.dropLast_concat, cnt_append, cnt_cons, cnt_nil, isPtrTo_num]; rfl

theorem cnt_le_length (c : Nat) (l : List Val) : cnt c l ≤ l.length := List.count_le_length

theorem heapCnt_nil (c : Nat) : heapCnt c [] = 0 := rfl

theorem heapCnt_cons (c : Nat) (x : Cell) (h : List Cell) : heapCnt c (x :: h) = cnt c x.items + heapCnt c h := by
  simp [heapCnt]

theorem heapCnt_append (c : Nat) (h : List Cell) (x : Cell) : heapCnt c (h ++ [x]) = heapCnt c h + cnt c x.items := by
  simp [heapCnt]

theorem heapCnt_set (c : Nat) {h : List Cell} {d : Nat} {cell : Cell} (x : Cell) (hd : h[d]? = some cell) :
    heapCnt c (h.set d x) + cnt c cell.items = heapCnt c h + cnt c x.items := by
  obtain ⟨p, q, rfl, e⟩ := set_split hd x
  rw [e]; simp only [heapCnt, List.map_append, List.map_cons, List.sum_append, List.sum_cons]; omega

theorem heapCnt_le (c : Nat) (h : List Cell) : heapCnt c h ≤ (h.map (fun d => d.items.length)).sum := by
  induction h with
  | nil => simp [heapCnt]
  | cons a t ih =>
    rw [heapCnt_cons]
    simp only [List.map_cons, List.sum_cons]
    have := cnt_le_length c a.items
    omega

/-- a pointer stored in a container counts as a holder -/
theorem heapCnt_pos_of_mem (p : Nat) (h : List Cell) (d : Nat) (dc : Cell) (hd : h[d]? = some dc)
    (hm : Val.ptr p ∈ dc.items) : 0 < heapCnt p h :=
  List.sum_pos_iff_exists_pos_nat.mpr
    ⟨_, List.mem_map_of_mem (List.mem_of_getElem? hd), List.count_pos_iff.mpr hm⟩

/-- cell d is replaced by x, the roots stay: what cell d held and the old values in transit are exchanged for what x holds
    and the new values in transit -/
theorem H_set {s s' : St} {d : Nat} {cell x : Cell} {t : List Val} (c : Nat) (hd : s.heap[d]? = some cell)
    (hh : s'.heap = s.heap.set d x) (hr : s'.roots = s.roots) (ht : s'.temps = t) :
    H s' c + cnt c cell.items + cnt c s.temps = H s c + cnt c x.items + cnt c t := by
  have := heapCnt_set c x hd
  unfold H
  rw [hh, hr, ht]
  omega

theorem H_setCell (s : St) (d : Nat) (cell x : Cell) (c : Nat) (hd : s.heap[d]? = some cell) :
    H (s.setCell d x) c + cnt c cell.items = H s c + cnt c x.items := by
  have := H_set (s' := s.setCell d x) (t := s.temps) c hd rfl rfl rfl
  omega

theorem H_setCell_ref (s : St) (d : Nat) (cell : Cell) (r : Nat) (c : Nat) (hd : s.heap[d]? = some cell) :
    H (s.setCell d { cell with ref := r }) c = H s c := by
  have := H_setCell s d cell { cell with ref := r } c hd
  simp only at this
  omega

theorem H_temps_cons (s : St) (v : Val) (c : Nat) :
    H { s with temps := v :: s.temps } c = H s c + isPtrTo c v := by
  unfold H; simp only [cnt_cons]; omega

theorem H_with_temps (s : St) (t : List Val) (c : Nat) :
    H { s with temps := t } c + cnt c s.temps = H s c + cnt c t := by
  unfold H; simp only; omega

/-- what the invariant looks at in a cell: liveness, kind, counter -/
def metaOf (s : St) (c : Nat) : Option (Bool × Kind × Nat) :=
  (s.heap[c]?).map (fun x => (x.live, x.kind, x.ref))

theorem metaOf_some (s : St) (c : Nat) (cell : Cell) (h : s.heap[c]? = some cell) :
    metaOf s c = some (cell.live, cell.kind, cell.ref) := by
  unfold metaOf; rw [h]; rfl

theorem metaOf_setCell {s : St} {d : Nat} {cell : Cell} (x : Cell) (c : Nat) (hd : s.heap[d]? = some cell) :
    metaOf (s.setCell d x) c = if d = c then some (x.live, x.kind, x.ref) else metaOf s c := by
  unfold metaOf St.setCell
  simp only [List.getElem?_set]
  by_cases h : d = c
  · subst h; simp [lt_of_getElem? hd]
  · simp [h]

theorem metaOf_setCell_same {s : St} {d : Nat} {cell x : Cell} (c : Nat) (hd : s.heap[d]? = some cell)
    (h1 : x.live = cell.live) (h2 : x.kind = cell.kind) (h3 : x.ref = cell.ref) :
    metaOf (s.setCell d x) c = metaOf s c := by
  rw [metaOf_setCell x c hd]
  by_cases h : d = c
  · subst h; rw [if_pos rfl, metaOf_some s d cell hd, h1, h2, h3]
  · rw [if_neg h]

theorem metaOf_upd {s : St} {d : Nat} {cell : Cell} (x : Cell) (t : List Val) (st : Stats) (c : Nat)
    (hd : s.heap[d]? = some cell) :
    metaOf (s.upd d x t st) c = if d = c then some (x.live, x.kind, x.ref) else metaOf s c :=
  metaOf_setCell x c hd

theorem metaOf_append {s s' : St} {x : Cell} (hh : s'.heap = s.heap ++ [x]) (c : Nat) :
    metaOf s' c = if c = s.heap.length then some (x.live, x.kind, x.ref) else metaOf s c := by
  unfold metaOf
  rw [hh]
  by_cases h : c = s.heap.length
  · subst h; simp
  · rw [if_neg h]
    by_cases hlt : c < s.heap.length
    · rw [List.getElem?_append_left hlt]
    · rw [List.getElem?_eq_none (by simp; omega), List.getElem?_eq_none (by omega)]

theorem metaOf_with_temps (s : St) (t : List Val) (c : Nat) : metaOf { s with temps := t } c = metaOf s c := rfl

/-- a raw store leaves the values in transit alone -/
theorem writeLoc_temps {s s1 : St} {l : Loc} {v : Val} (hw : writeLoc s l v = .ok s1) : s1.temps = s.temps := by
  rcases writeLoc_cases hw with ⟨_, _, _, rfl⟩ | ⟨_, _, _, _, _, _, rfl⟩ <;> rfl

/-- and liveness, kind and counter of every cell -/
theorem writeLoc_metaOf {s s1 : St} {l : Loc} {v : Val} (hw : writeLoc s l v = .ok s1) (c : Nat) :
    metaOf s1 c = metaOf s c := by
  rcases writeLoc_cases hw with ⟨_, _, _, rfl⟩ | ⟨_, _, _, _, hc, _, rfl⟩
  · rfl
  · exact metaOf_setCell_same c hc.1 rfl rfl rfl

/-- a raw store exchanges the old value of the location for the new one -/
theorem writeLoc_H {s s1 : St} {l : Loc} {v old : Val} (hw : writeLoc s l v = .ok s1) (hr : readLoc s l = .ok old)
    (c : Nat) : H s1 c + isPtrTo c old = H s c + isPtrTo c v := by
  rcases writeLoc_cases hw with ⟨i, rfl, hi, rfl⟩ | ⟨d, j, cell, rfl, hc, hj, rfl⟩
  · have e : s.roots[i]? = some old := by simpa [readLoc, hi, pure, Except.pure] using hr
    have := cnt_set c v e
    unfold H; simp only; omega
  · have e : cell.items[j]? = some old := by simpa [readLoc, hc.1, hc.2, hj, pure, Except.pure] using hr
    have h1 := H_setCell s d cell { cell with items := cell.items.set j v } c hc.1
    have h2 := cnt_set c v e
    simp only at h1
    omega

/-- counter of a live cell versus its number of holders -/
def RefOK (k : Kind) (r h : Nat) : Prop :=
  if k.isStr = true then (r = 0 ∨ (r = h ∧ 0 < h ∧ h < 2 ^ SW))
  else (r = h % 2 ^ W ∧ (h < 2 ^ W → 0 < h))

theorem RefOK_str {k : Kind} {r h : Nat} (hk : k.isStr = true) :
    RefOK k r h ↔ (r = 0 ∨ (r = h ∧ 0 < h ∧ h < 2 ^ SW)) := by
  unfold RefOK; rw [if_pos hk]

theorem RefOK_refed {k : Kind} {r h : Nat} (hk : k.isStr = false) :
    RefOK k r h ↔ (r = h % 2 ^ W ∧ (h < 2 ^ W → 0 < h)) := by
  unfold RefOK; rw [if_neg (by simp [hk])]

theorem incRef_str {k : Kind} (hk : k.isStr = true) (r n : Nat) :
    incRef k r n = if r = 0 then 0 else if r + n < 2 ^ SW then r + n else 0 := by
  unfold incRef; rw [if_pos hk]

/-- a string block that has just gained a holder does not have the counter 1 -/
theorem incRef_str_ne_one {k : Kind} (hk : k.isStr = true) (r : Nat) : incRef k r 1 ≠ 1 := by
  rw [incRef_str hk]
  split
  · decide
  · split <;> omega

theorem incRef_refed {k : Kind} (hk : k.isStr = false) (r n : Nat) : incRef k r n = (r + n) % 2 ^ W := by
  unfold incRef; rw [if_neg (by simp [hk])]

theorem decRef_str {k : Kind} (hk : k.isStr = true) (r : Nat) :
    decRef k r = if r = 0 then (0, false) else (r - 1, r - 1 == 0) := by
  unfold decRef; rw [if_pos hk]

theorem decRef_refed {k : Kind} (hk : k.isStr = false) (r : Nat) :
    decRef k r = ((r + 2 ^ W - 1) % 2 ^ W, (r + 2 ^ W - 1) % 2 ^ W == 0) := by
  unfold decRef; rw [if_neg (by simp [hk])]

theorem two_pow_W_pos : 0 < 2 ^ W := Nat.pow_pos (by decide)
theorem one_lt_two_pow_W : 1 < 2 ^ W := by decide
theorem one_lt_two_pow_SW : 1 < 2 ^ SW := by decide

theorem dec_mod (h : Nat) (hpos : 0 < h) : (h % 2 ^ W + 2 ^ W - 1) % 2 ^ W = (h - 1) % 2 ^ W := by
  have hp := two_pow_W_pos
  rw [show h % 2 ^ W + 2 ^ W - 1 = h % 2 ^ W + (2 ^ W - 1) by omega, Nat.mod_add_mod,
      show h + (2 ^ W - 1) = (h - 1) + 2 ^ W by omega, Nat.add_mod_right]

theorem RefOK_new (k : Kind) : RefOK k 1 1 := by
  cases hk : k.isStr with
  | true => exact (RefOK_str hk).mpr (.inr ⟨rfl, by decide, one_lt_two_pow_SW⟩)
  | false => exact (RefOK_refed hk).mpr ⟨(Nat.mod_eq_of_lt one_lt_two_pow_W).symm, fun _ => by decide⟩

theorem RefOK_inc (k : Kind) (r h n : Nat) (hr : RefOK k r h) : RefOK k (incRef k r n) (h + n) := by
  cases hk : k.isStr with
  | true =>
    rw [RefOK_str hk] at hr ⊢
    rw [incRef_str hk]
    rcases hr with rfl | ⟨rfl, h2, _⟩
    · exact .inl rfl
    · rw [if_neg (by omega)]
      split
      · exact .inr ⟨rfl, by omega, ‹_›⟩
      · exact .inl rfl
  | false =>
    rw [RefOK_refed hk] at hr ⊢
    rw [incRef_refed hk, hr.1, Nat.mod_add_mod]
    exact ⟨rfl, fun hlt => by have := hr.2 (by omega); omega⟩

/-- a decrement that does not deallocate (the cell has at least the holder being released) -/
theorem RefOK_dec_alive (k : Kind) (r h : Nat) (hr : RefOK k r h) (hpos : 0 < h)
    (hd : (decRef k r).2 = false) : RefOK k (decRef k r).1 (h - 1) := by
  cases hk : k.isStr with
  | true =>
    rw [RefOK_str hk] at hr ⊢
    rw [decRef_str hk] at hd ⊢
    rcases hr with rfl | ⟨rfl, _, _⟩
    · exact .inl rfl
    · rw [if_neg (by omega)] at hd ⊢
      have : r - 1 ≠ 0 := by simpa using hd
      exact .inr ⟨rfl, by omega, by omega⟩
  | false =>
    rw [RefOK_refed hk] at hr ⊢
    rw [decRef_refed hk, hr.1, dec_mod h hpos] at hd ⊢
    refine ⟨rfl, fun hlt => ?_⟩
    rw [Nat.mod_eq_of_lt hlt] at hd
    have : h - 1 ≠ 0 := by simpa using hd
    omega

/-- a decrement that deallocates: nobody else holds the cell (refed kinds: as long as the holders fit the counter) -/
theorem RefOK_dec_dead (k : Kind) (r h : Nat) (hr : RefOK k r h) (hpos : 0 < h)
    (hw : k.isStr = false → h < 2 ^ W + 1) (hd : (decRef k r).2 = true) : h - 1 = 0 := by
  cases hk : k.isStr with
  | true =>
    rw [RefOK_str hk] at hr
    rw [decRef_str hk] at hd
    rcases hr with rfl | ⟨rfl, _, _⟩
    · cases hd
    · rw [if_neg (by omega)] at hd
      simpa using hd
  | false =>
    have := hw hk
    rw [RefOK_refed hk] at hr
    rw [decRef_refed hk, hr.1, dec_mod h hpos, Nat.mod_eq_of_lt (by omega)] at hd
    simpa using hd

/-- the per-cell invariant: the counter of a live cell agrees with its holders, a freed (or not yet allocated)
    cell has no holders -/
def CellOK (s : St) (c : Nat) : Prop :=
  match metaOf s c with
  | none => H s c = 0
  | some (true, k, r) => RefOK k r (H s c)
  | some (false, _, _) => H s c = 0

theorem CellOK_congr (s s' : St) (c : Nat) (hm : metaOf s' c = metaOf s c) (hh : H s' c = H s c)
    (h : CellOK s c) : CellOK s' c := by
  unfold CellOK at *
  rw [hm, hh]; exact h

theorem CellOK_live {s : St} {c : Nat} {cell : Cell} (hc : s.heap[c]? = some cell) (hl : cell.live = true) :
    CellOK s c ↔ RefOK cell.kind cell.ref (H s c) := by
  unfold CellOK; rw [metaOf_some s c cell hc, hl]

theorem CellOK_dead {s : St} {c : Nat} {cell : Cell} (hc : s.heap[c]? = some cell) (hl : cell.live = false) :
    CellOK s c ↔ H s c = 0 := by
  unfold CellOK; rw [metaOf_some s c cell hc, hl]

theorem CellOK_none {s : St} {c : Nat} (hc : s.heap[c]? = none) : CellOK s c ↔ H s c = 0 := by
  unfold CellOK metaOf; rw [hc]; rfl

/-- the invariant of cell c reads the roots and the values in transit only through the number of pointers to c -/
theorem CellOK_same (s s' : St) (c : Nat) (hh : s'.heap = s.heap) (hr : cnt c s'.roots = cnt c s.roots)
    (ht : cnt c s'.temps = cnt c s.temps) (ok : CellOK s c) : CellOK s' c := by
  apply CellOK_congr s s' c _ _ ok
  · unfold metaOf; rw [hh]
  · unfold H; rw [hh, hr, ht]

/-- items, text and O_DESTRUCTED flag of a cell are rewritten, statistics and destruct list changed: fine as long as
    cell c is held as often as before (`metaOf` reads live/kind/ref, `H` the items, roots and temps) -/
theorem CellOK_setCell {s : St} {d : Nat} {cell : Cell} (c : Nat) (hd : s.heap[d]? = some cell) {its : List Val}
    {w : String} {b : Bool} {st : Stats} {dl : List Nat} (hi : cnt c its = cnt c cell.items) (ok : CellOK s c) :
    CellOK { s.setCell d { cell with items := its, text := w, destructed := b } with stats := st, dlist := dl } c := by
  have a := H_setCell s d cell { cell with items := its, text := w, destructed := b } c hd
  have ok' : CellOK (s.setCell d { cell with items := its, text := w, destructed := b }) c :=
    CellOK_congr s _ c (metaOf_setCell_same c hd rfl rfl rfl) (by simp only at a; omega) ok
  exact CellOK_same (s.setCell d _) _ c rfl rfl rfl ok'

/-- effect of `ref += n` on the invariant of cell c, when the number of holders of the target has grown by n -/
theorem CellOK_incVal (s s1 s' : St) (v : Val) (n : Nat) (c : Nat)
    (hi : incVal s1 v n = .ok s')
    (hm : metaOf s1 c = metaOf s c) (hh : H s1 c = H s c + n * isPtrTo c v)
    (ok : CellOK s c) : CellOK s' c := by
  cases v with
  | num x =>
    rw [incVal_num s1 s' x n hi]
    rw [isPtrTo_num] at hh
    exact CellOK_congr s s1 c hm (by omega) ok
  | ptr d =>
    rcases incVal_ptr s1 s' d n hi with ⟨cell, ⟨hd, hl⟩, rfl⟩
    unfold CellOK
    rw [metaOf_setCell _ c hd, H_setCell_ref s1 d cell _ c hd, hh]
    by_cases hdc : d = c
    · subst hdc
      rw [if_pos rfl, isPtrTo_ptr_self, Nat.mul_one]
      unfold CellOK at ok
      rw [← hm, metaOf_some s1 d cell hd, hl] at ok
      simp only [hl]
      exact RefOK_inc _ _ _ _ ok
    · rw [if_neg hdc, hm, isPtrTo_ptr_ne c d hdc, Nat.mul_zero, Nat.add_zero]
      exact ok

theorem incVal_temps (s s1 : St) (v : Val) (n : Nat) (t : List Val) (h : incVal s v n = .ok s1) :
    incVal { s with temps := t } v n = .ok { s1 with temps := t } ∧ s1.temps = s.temps := by
  cases v with
  | num x => rw [incVal_num s s1 x n h]; exact ⟨rfl, rfl⟩
  | ptr d =>
    rcases incVal_ptr s s1 d n h with ⟨cell, ⟨hd, hl⟩, rfl⟩
    exact ⟨by simp [incVal, hd, hl, St.setCell]; rfl, rfl⟩

/-- `incVal s v 1`, then v pushed onto the values in transit: one more holder, one more count -/
theorem CellOK_inc_push {s s1 : St} {v : Val} (hi : incVal s v 1 = .ok s1) {c : Nat} (ok : CellOK s c) :
    CellOK { s1 with temps := v :: s1.temps } c := by
  obtain ⟨hi', ht⟩ := incVal_temps s s1 v 1 (v :: s.temps) hi
  rw [ht]
  exact CellOK_incVal s { s with temps := v :: s.temps } _ v 1 c hi' rfl (by rw [H_temps_cons]; omega) ok

/-- a fresh cell with counter 1 is appended and the pointer to it is put among the values in transit -/
theorem alloc_ok {s s' : St} {x : Cell} (c : Nat) (hh : s'.heap = s.heap ++ [x]) (hro : s'.roots = s.roots)
    (ht : s'.temps = .ptr s.heap.length :: s.temps) (hx : x.live = true) (hr : x.ref = 1) (hi : cnt c x.items = 0)
    (ok : CellOK s c) : CellOK s' c := by
  have hH : H s' c = H s c + isPtrTo c (.ptr s.heap.length) := by
    unfold H; rw [hh, hro, ht, cnt_cons, heapCnt_append, hi]; omega
  unfold CellOK
  rw [metaOf_append hh, hH]
  by_cases h : c = s.heap.length
  · subst h
    rw [if_pos rfl, hx, hr, isPtrTo_ptr_self]
    rw [(CellOK_none (List.getElem?_eq_none (Nat.le_refl _))).mp ok]
    exact RefOK_new _
  · rw [if_neg h, isPtrTo_ptr_ne c _ (Ne.symm h), Nat.add_zero]
    exact ok

/-- cell c is a string (its counter saturates instead of wrapping) -/
def StrCell (s : St) (c : Nat) : Prop := ∃ cell, s.heap[c]? = some cell ∧ cell.kind.isStr = true

theorem StrCell_of_KExt {s s' : St} {c : Nat} (k : KExt s.heap s'.heap) (h : StrCell s c) : StrCell s' c := by
  obtain ⟨cell, hc, hs⟩ := h
  obtain ⟨cell', hc', hk⟩ := k c cell hc
  exact ⟨cell', hc', hk ▸ hs⟩

/-- the holders of cell c fit its counter (strings saturate instead: no condition) -/
def FitsC (s : St) (c : Nat) : Prop := StrCell s c ∨ H s c < 2 ^ W + 1

/-- `free_svalue` takes the pointer to cell d from the values in transit and decrements the counter of d; what the new
    cell x and the new values in transit t hold together is what cell d and the remaining values held -/
theorem CellOK_release {s : St} {c d : Nat} {rest t : List Val} {cell x : Cell} (st : Stats)
    (ht : s.temps = .ptr d :: rest) (hc : s.liveAt d cell)
    (hi : cnt c x.items + cnt c t = cnt c cell.items + cnt c rest) (hk : x.kind = cell.kind)
    (hr : x.ref = (decRef cell.kind cell.ref).1) (hl : (decRef cell.kind cell.ref).2 = !x.live)
    (ok : CellOK s c) (hw : FitsC s c) : CellOK (s.upd d x t st) c ∧ H (s.upd d x t st) c ≤ H s c := by
  have hH := H_set (s' := s.upd d x t st) (t := t) c hc.1 rfl rfl rfl
  rw [ht, cnt_cons] at hH
  have hm := metaOf_upd x t st c hc.1
  refine ⟨?_, by omega⟩
  by_cases e : d = c
  · subst e
    rw [isPtrTo_ptr_self] at hH
    have ok := (CellOK_live hc.1 hc.2).mp ok
    unfold CellOK
    rw [hm, if_pos rfl, hk, hr]
    cases hx : x.live with
    | true =>
      rw [show H (s.upd d x t st) d = H s d - 1 by omega]
      exact RefOK_dec_alive _ _ _ ok (by omega) (by rw [hl, hx]; rfl)
    | false =>
      have hfit : cell.kind.isStr = false → H s d < 2 ^ W + 1 := by
        intro hk
        rcases hw with ⟨y, hy, hs⟩ | hw
        · rw [hc.1] at hy; cases hy; rw [hk] at hs; cases hs
        · exact hw
      have := RefOK_dec_dead _ _ _ ok (by omega) hfit (by rw [hl, hx]; rfl)
      show H _ d = 0
      omega
  · rw [isPtrTo_ptr_ne c d e] at hH
    rw [if_neg e] at hm
    exact CellOK_congr s _ c hm (by omega) ok

/-- one step of a running free_svalue keeps the invariant of every cell whose holders fit its counter, and never
    adds a holder -/
theorem Rel1.ok {s s' : St} (h : Rel1 s s') {c : Nat} (ok : CellOK s c) (hw : FitsC s c) :
    CellOK s' c ∧ H s' c ≤ H s c := by
  cases h with
  | @num n rest ht =>
    have hH : H { s with temps := rest } c = H s c := by
      have a := H_with_temps s rest c
      rw [ht, cnt_cons, isPtrTo_num] at a
      omega
    exact ⟨CellOK_congr s _ c rfl hH ok, by omega⟩
  | dec ht hc hf => exact CellOK_release _ ht hc rfl rfl rfl (by rw [hc.2]; exact hf) ok hw
  -- what the deallocated cell held takes its place among the values in transit
  | dealloc ht hc hf =>
    exact CellOK_release _ ht hc (by rw [cnt_append, cnt_reverse, cnt_nil]; omega) rfl rfl hf ok hw

/-- the side condition stays where cells keep their kind and cell c gains no holder -/
theorem FitsC_of_H_le {s s' : St} {c : Nat} (k : KExt s.heap s'.heap) (le : H s' c ≤ H s c) (hw : FitsC s c) :
    FitsC s' c :=
  hw.imp (StrCell_of_KExt k) (Nat.lt_of_le_of_lt le)

/-- a running free_svalue keeps the invariant -/
theorem relLoop_ok {f depth : Nat} {s s' : St} {c : Nat} (h : relLoop f depth s = .ok s') (ok : CellOK s c)
    (hw : FitsC s c) : CellOK s' c := by
  -- a step needs `FitsC` and hands it on (`FitsC_of_H_le`): invariant and side condition are lifted together
  have step {s s' : St} (r : Rel1 s s') (ok : CellOK s c) (hw : FitsC s c) : CellOK s' c ∧ FitsC s' c :=
    have ⟨ok', le⟩ := r.ok ok hw
    ⟨ok', FitsC_of_H_le (KExt_of_eff (rel1_eff r)) le hw⟩
  exact (relLoop_lift (R := fun s s' => CellOK s c → FitsC s c → CellOK s' c ∧ FitsC s' c) (fun _ ok hw => ⟨ok, hw⟩)
    (fun h12 h23 ok hw => (h12 ok hw).elim h23) step f h ok hw).1

theorem MStep.ok {s s' : St} {i : Mi} (h : MStep s i s') {c : Nat} (ok : CellOK s c) (hw : FitsC s c) :
    CellOK s' c := by
  cases h with
  | take hv hw' =>
    -- the value moves from its location into the values in transit: every cell keeps its holders
    have a := writeLoc_H hw' hv c
    rw [isPtrTo_num] at a
    exact CellOK_congr s _ c (writeLoc_metaOf hw' c) (by rw [H_temps_cons]; omega) ok
  | @put s1 l v old rest ht ho hn hw' =>
    -- and back, into a location that held a number
    have a := writeLoc_H hw' ho c
    have b := H_with_temps s1 rest c
    rw [writeLoc_temps hw', ht, cnt_cons] at b
    rw [isPtrTo_of_isNum c hn] at a
    exact CellOK_congr s _ c (writeLoc_metaOf hw' c) (by omega) ok
  | dup _ hi => exact CellOK_inc_push hi ok
  | free _ h => exact relLoop_ok h ok hw
  | alloc => exact alloc_ok c rfl rfl rfl rfl rfl (by rw [cnt_replicate, isPtrTo_num]; rfl) ok
  | @fillFrom _ d l v cell _ hc ha hi =>
    -- the items (numbers so far) become n holders of v, then `ref += n`
    have a := H_setCell s d cell { cell with items := List.replicate cell.items.length v } c hc.1
    rw [cnt_of_all_num c _ ha, cnt_replicate] at a
    exact CellOK_incVal s _ s' v _ c hi (metaOf_setCell_same c hc.1 rfl rfl rfl) (by omega) ok
  | grow hc => exact CellOK_setCell c hc.1 (by rw [cnt_append]; rfl) ok
  | shrink hc _ h0 h1 =>
    exact CellOK_setCell c hc.1 (cnt_erase_pair c h0 h1) ok
  | pushRoot => exact CellOK_same s _ c rfl (by rw [cnt_append, cnt_cons, isPtrTo_num]; rfl) rfl ok
  | popRoot hl => exact CellOK_same s _ c rfl (cnt_dropLast_num c _ _ hl) rfl ok
  | mark hc => exact CellOK_setCell c hc.1 rfl ok
  | shareOld _ hi => exact CellOK_same _ _ c rfl rfl rfl (CellOK_inc_push hi ok)
  | shareNew => exact alloc_ok c rfl rfl rfl rfl rfl rfl ok
  | swap ht => exact CellOK_same s _ c rfl rfl (by simp only [ht, cnt_cons]; omega) ok
  | inplace => exact ok
  | settext hc => exact CellOK_setCell c hc.1 rfl ok
  | unlist | allocd | distinct => exact CellOK_same s _ c rfl rfl rfl ok

/-- every micro-instruction keeps the invariant of every cell whose holders fit its counter -/
theorem mstep_ok (s s' : St) (i : Mi) (c : Nat) (h : mstep s i = .ok s') (ok : CellOK s c) (hw : FitsC s c) :
    CellOK s' c := MStep.ok (.of h) ok hw

def Inv (s : St) : Prop := ∀ c, CellOK s c

/-- every counted value has at most 2^W holders (the task's hypothesis `holders ≤ 2^W - 1` implies it) -/
def Fits (s : St) : Prop := ∀ c, FitsC s c

/-- `Fits` holds in every state a micro program passes through -/
def FitsAlong : St → List Mi → Prop
  | _, [] => True
  | s, i :: is => Fits s ∧ ∀ s1, mstep s i = .ok s1 → FitsAlong s1 is

theorem runMi_ok : ∀ {prog : List Mi} {s s' : St}, runMi s prog = .ok s' → Inv s → FitsAlong s prog → Inv s'
  | [], _, _, h, inv, _ => by cases h; exact inv
  | i :: is, s, _, h, inv, fit => by
    simp only [runMi, bind_eq_ok] at h
    obtain ⟨s1, h1, h⟩ := h
    exact runMi_ok h (fun c => mstep_ok s s1 i c h1 (inv c) (fit.1 c)) (fit.2 s1 h1)

theorem Inv_init : Inv St.init := by
  intro c
  match c with
  -- the programs of /c06/base and /c06/uobj and their two func_ref cells: each counter is the number of holders
  | 0 | 1 | 2 | 3 => exact (CellOK_live rfl rfl).mpr (by unfold RefOK; decide)
  | c + 4 =>
    refine (CellOK_none (by simp [St.init])).mpr ?_
    unfold H St.init heapCnt cnt cBase cProg cFProg cFBase
    simp [List.count_append, List.count_replicate]

end NV.C06
