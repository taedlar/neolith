/-
C06 — Lean-checked witnesses: where the full statements stop being true.
-/
import NV.C06.Holders

namespace NV.C06

/-- **prog_wrap_uaf** (known finding `program-ref-wrap`, repaired by repo commit 0280873): why the width of
    `program_t.ref` matters.  At the width it had (16 bits) the blueprint plus 2^16 clones wrap the counter back to 1;
    the first free_prog (one clone destructed) deallocates the program although 2^16 holders remain.  The same
    arithmetic at any width w: `prog_widths_agree` + `FitsRun` exclude it for the counters as they are. -/
theorem prog_wrap_uaf (w : Nat) (hw : 0 < w) :
    (1 + 2 ^ w) % 2 ^ w = 1 ∧ ((1 + 2 ^ w) % 2 ^ w + 2 ^ w - 1) % 2 ^ w = 0 := by
  have h1 : 1 < 2 ^ w := Nat.one_lt_two_pow (by omega)
  have e : (1 + 2 ^ w) % 2 ^ w = 1 := by rw [Nat.add_mod_right, Nat.mod_eq_of_lt h1]
  refine ⟨e, ?_⟩
  rw [e, show 1 + 2 ^ w - 1 = 2 ^ w by omega, Nat.mod_self]

/-- **wrap_uaf** (at every width W): a value with 2^W + 1 holders has the counter of a value with one holder, and
    the next release deallocates it while 2^W holders still refer to it — the hypothesis `FitsRun` of
    `ref_eq_holders` / `no_free_while_held` cannot be weakened.  With the 16-bit counters the driver had until
    the repair (repo commit "fix: reference counters ... were 16 bits wide") this state is reached by five
    14 000-element arrays holding one array (corpus/C06/wrap-array-*.case); with 32-bit counters it needs
    2^32 + 1 references, i.e. more than 64 GiB of svalues. -/
theorem wrap_uaf :
    incRef .arr 1 (2 ^ W) = 1 ∧ (decRef .arr (incRef .arr 1 (2 ^ W))).2 = true ∧
    ¬ (2 ^ W + 1 - 1 = 0) := by
  obtain ⟨h1, h2⟩ := prog_wrap_uaf W (by decide)
  rw [incRef_refed rfl, decRef_refed rfl, h2]
  exact ⟨h1, rfl, by have := two_pow_W_pos; omega⟩

/-- the same on a heap: one array with counter 1 to which 2^W + 1 values point (2^W roots and the value being
    released).  The state satisfies the invariant; `free_svalue` of the one value deallocates the array, and the
    result violates it: a freed cell with 2^W holders. -/
theorem wrap_uaf_state :
    let s : St := { heap := [{ kind := .arr, ref := 1, live := true, items := [] }],
                    roots := List.replicate (2 ^ W) (.ptr 0), temps := [.ptr 0] }
    CellOK s 0 ∧
    (∃ s', mstep s .free = .ok s' ∧ (∃ cell, s'.heap[0]? = some cell ∧ cell.live = false) ∧ s'.roots = s.roots) := by
  intro s
  have hp := two_pow_W_pos
  constructor
  · have hH : H s 0 = 2 ^ W + 1 := by
      show cnt 0 (List.replicate (2 ^ W) (.ptr 0)) + cnt 0 [.ptr 0] + heapCnt 0 [_] = _
      rw [cnt_replicate, isPtrTo_ptr_self, cnt_cons, cnt_nil, isPtrTo_ptr_self]
      simp [heapCnt, cnt_nil]
    rw [CellOK_live (s := s) (c := 0) rfl rfl, hH, RefOK_refed rfl, Nat.add_comm]
    exact ⟨(prog_wrap_uaf W (by decide)).1.symm, fun h => by omega⟩
  · exact ⟨_, rfl, ⟨_, rfl, rfl⟩, rfl⟩

/-- **cycle_leaks.**  `a = allocate(2); a[0] = a; a = 0;` — no variable refers to the array any more, but it
    holds itself: `H = 1`, it is never deallocated and num_arrays stays one above the baseline.  Reference counting
    as coded guarantees `balanced_history_returns_to_baseline` only when the holders are really all released;
    values that hold each other never are (the driver has no cycle collector: open known finding `cyclic-garbage`). -/
theorem cycle_leaks :
    ∃ s, run St.init [.newarr 0 2, .aset 0 0 0, .free 0] = .ok s ∧ (s.roots.take nSlots).all Val.isNum = true ∧
      H s c0 = 1 ∧ s.stats.numArrays = 1 ∧ (∃ cell, s.heap[c0]? = some cell ∧ cell.live = true ∧ cell.ref = 1) := by
  decide +kernel

/-- the cycle object → mapping → function pointer → object is cut by destruct2 (it releases the variables of a
    destructed object): this one does return to the baseline -/
theorem object_cycle_cut_by_destruct :
    ∃ s, run St.init [.newobj 0, .newmap 1, .setvar 0 0 1, .newfun 2 0 3, .mset 1 3 2, .free 1, .free 2,
                      .dest 0, .cleanup, .drop 0] = .ok s ∧
      s.stats.numArrays = 0 ∧ s.stats.numMappings = 0 ∧ s.stats.objects = 0 := by
  decide +kernel

end NV.C06
