/-
C06 — the statistics of the driver are exact after every history (no hypothesis): total_array_size is the sum of the
accounted bytes of the live arrays, total_mapping_nodes the number of nodes of the live mappings, and num_arrays /
num_mappings / tot_alloc_object the number of live cells of their kind.

A `Weight` is a statistics counter `π` together with the amount `wf kind n` a live cell of that kind with n items
contributes; the counter moves by exactly that amount where a cell is allocated (onAlloc) or deallocated (onFree) and,
for mapping nodes, where a node is added (find_for_insert) or removed (mapping_delete).  A `Counter` is the weight that
gives every cell of one kind the amount 1.
-/
import NV.C06.Heap
namespace NV.C06

/-- number of live cells of kind k0 -/
def lc (k0 : Kind) (h : List Cell) : Nat := h.countP (fun c => c.live && c.kind == k0)

theorem lc_cons (k0 : Kind) (a : Cell) (t : List Cell) :
    lc k0 (a :: t) = lc k0 t + if (a.live && a.kind == k0) = true then 1 else 0 := List.countP_cons

theorem lc_append (k0 : Kind) (h h' : List Cell) : lc k0 (h ++ h') = lc k0 h + lc k0 h' := List.countP_append

/-- a statistics counter that counts the live cells of one kind -/
structure Counter where
  π : Stats → Int
  k0 : Kind
  alloc : ∀ st k n, π (Stats.onAlloc st k n) = π st + (if k = k0 then 1 else 0)
  free : ∀ st k n, π (Stats.onFree st k n) = π st - (if k = k0 then 1 else 0)
  allocd : ∀ (st : Stats) x, π { st with allocdStrings := x } = π st
  distinct : ∀ (st : Stats) x, π { st with distinctStrings := x } = π st
  nodes : ∀ (st : Stats) x, π { st with mapNodes := x } = π st

structure Weight where
  π : Stats → Int
  wf : Kind → Nat → Int
  alloc : ∀ st k n, π (Stats.onAlloc st k n) = π st + wf k n
  free : ∀ st k n, π (Stats.onFree st k n) = π st - wf k n
  allocd : ∀ (st : Stats) x, π { st with allocdStrings := x } = π st
  distinct : ∀ (st : Stats) x, π { st with distinctStrings := x } = π st
  nodeUp : ∀ (st : Stats) n, π { st with mapNodes := st.mapNodes + 1 } = π st + (wf .map (n + 2) - wf .map n)
  nodeDown : ∀ (st : Stats) n, 2 ≤ n → π { st with mapNodes := st.mapNodes - 1 } = π st - (wf .map n - wf .map (n - 2))

/-- contribution of one cell -/
def wc (W : Weight) (c : Cell) : Int := if c.live = true then W.wf c.kind c.items.length else 0

/-- sum over the heap -/
def ws (W : Weight) (h : List Cell) : Int := (h.map (wc W)).sum

def WOK (w : Weight) (s : St) : Prop := w.π s.stats = ws w s.heap

theorem ws_cons (w : Weight) (a : Cell) (t : List Cell) : ws w (a :: t) = wc w a + ws w t := by
  unfold ws; simp

theorem ws_append (w : Weight) (h : List Cell) (x : Cell) : ws w (h ++ [x]) = ws w h + wc w x := by
  unfold ws; simp

theorem ws_set (w : Weight) {h : List Cell} {d : Nat} {cell : Cell} (x : Cell) (hd : h[d]? = some cell) :
    ws w (h.set d x) = ws w h - wc w cell + wc w x := by
  obtain ⟨p, q, rfl, e⟩ := set_split hd x
  rw [e]; simp only [ws, List.map_append, List.map_cons, List.sum_append, List.sum_cons]; omega

theorem wc_live (w : Weight) {x : Cell} (h : x.live = true) : wc w x = w.wf x.kind x.items.length := if_pos h

/-- every elementary change moves the counter by what it adds to the sum -/
theorem ws_eff (w : Weight) {h h' : List Cell} {st st' : Stats} (e : Eff h st h' st') (ok : w.π st = ws w h) :
    w.π st' = ws w h' := by
  induction e with
  | refl => exact ok
  | trans _ _ ih1 ih2 => exact ih2 (ih1 ok)
  | allocd => rw [w.allocd]; exact ok
  | distinct => rw [w.distinct]; exact ok
  | set hd hl hl' hk hn => rw [ws_set w _ hd, wc_live w hl, wc_live w hl', hk, hn, ok]; omega
  | new hl hn => rw [w.alloc, ok, ← hn, ← wc_live w hl, ws_append]
  | @grow _ _ _ cell _ hd hl hk hl' hk' hn =>
    rw [ws_set w _ hd, wc_live w hl, wc_live w hl', hk, hk', hn, w.nodeUp _ cell.items.length, ok]; omega
  | @shrink _ _ _ cell x hd hl hk hl' hk' hn =>
    have e : cell.items.length - 2 = x.items.length := by omega
    rw [ws_set w _ hd, wc_live w hl, wc_live w hl', hk, hk', w.nodeDown _ cell.items.length (by omega), e, ok]; omega
  | @dealloc _ _ _ _ x hd hl hl' =>
    have : wc w x = 0 := if_neg (by rw [hl']; decide)
    rw [ws_set w _ hd, wc_live w hl, this, w.free, ok]; omega

theorem run_w (w : Weight) {ops : List Op} {s s' : St} (h : run s ops = .ok s') (ok : WOK w s) : WOK w s' :=
  ws_eff w (run_eff h) ok

/-- total_array_size: every live array contributes `arrBytes (number of elements)` -/
def wBytes : Weight where
  π := Stats.arrayBytes
  wf := fun k n => if k = .arr then arrBytes n else 0
  alloc := by intro st k n; cases k <;> simp [Stats.onAlloc]
  free := by intro st k n; cases k <;> simp [Stats.onFree]
  allocd := by intros; rfl
  distinct := by intros; rfl
  nodeUp := by intros; simp
  nodeDown := by intros; simp

/-- total_mapping_nodes: every live mapping contributes its number of nodes (two items per node) -/
def wNodes : Weight where
  π := Stats.mapNodes
  wf := fun k n => if k = .map then ((n / 2 : Nat) : Int) else 0
  alloc := by intro st k n; cases k <;> simp [Stats.onAlloc]
  free := by intro st k n; cases k <;> simp [Stats.onFree]
  allocd := by intros; rfl
  distinct := by intros; rfl
  nodeUp := by intro st n; simp; omega
  nodeDown := by intro st n hn; simp; omega

theorem WOK_init (w : Weight) (h0 : w.π {} = 0) (hp : ∀ n, w.wf .prog n = 0) : WOK w St.init := by
  unfold WOK St.init ws wc
  simp [h0, hp]

def Counter.toWeight (C : Counter) : Weight where
  π := C.π
  wf := fun k _ => if k = C.k0 then 1 else 0
  alloc := C.alloc
  free := C.free
  allocd := C.allocd
  distinct := C.distinct
  nodeUp := by intro st n; rw [C.nodes]; omega
  nodeDown := by intro st n _; rw [C.nodes]; omega

theorem ws_toWeight (C : Counter) (h : List Cell) : ws C.toWeight h = (lc C.k0 h : Int) := by
  induction h with
  | nil => rfl
  | cons a t ih =>
    rw [ws_cons, ih, lc_cons]
    unfold wc Counter.toWeight
    cases a.live <;> by_cases hk : a.kind = C.k0 <;> simp [hk] <;> omega

def cArrays : Counter where
  π := Stats.numArrays
  k0 := .arr
  alloc := by intro st k n; cases k <;> simp [Stats.onAlloc]
  free := by intro st k n; cases k <;> simp [Stats.onFree]
  allocd := by intros; rfl
  distinct := by intros; rfl
  nodes := by intros; rfl

def cMappings : Counter where
  π := Stats.numMappings
  k0 := .map
  alloc := by intro st k n; cases k <;> simp [Stats.onAlloc]
  free := by intro st k n; cases k <;> simp [Stats.onFree]
  allocd := by intros; rfl
  distinct := by intros; rfl
  nodes := by intros; rfl

def cObjects : Counter where
  π := Stats.objects
  k0 := .obj
  alloc := by intro st k n; cases k <;> simp [Stats.onAlloc]
  free := by intro st k n; cases k <;> simp [Stats.onFree]
  allocd := by intros; rfl
  distinct := by intros; rfl
  nodes := by intros; rfl

/-- a counter that starts at 0 and does not count programs equals the number of live cells of its kind -/
theorem run_count (C : Counter) (h0 : C.π {} = 0) (hk : C.k0 ≠ .prog) {ops : List Op} {s : St}
    (h : run St.init ops = .ok s) : C.π s.stats = (lc C.k0 s.heap : Int) := by
  rw [← ws_toWeight]
  exact run_w C.toWeight h (WOK_init _ h0 (fun _ => if_neg (Ne.symm hk)))

end NV.C06
