/-
C06 — towards `judge (model trace) = []`: the per-value clauses of the specification oracle hold on the model's
own states.

The oracle (Spec.lean) counts `holders s c`: pointers to c in roots, values in transit and the items of EXISTING
containers, and compares the printed counter with it (`ref-mismatch`), a printed `x` with "holders = 0"
(`freed-while-held`), a printed counter of a value without holders (`leak cell=`).  The counting invariant
(Holders.lean) counts `H s c` over all cells.  `DeadEmpty` (a deallocated cell keeps no items: dealloc_* releases them)
is an invariant of every history (`run_DE`), hence `holders = H` (`holders_eq_H`); the three clauses follow from it and
the counting invariant in Props.lean (`oracle_ref_clause`, `oracle_freed_clause`, `oracle_leak_clause`).  `collect1_fix`
is the fixpoint argument behind `oracle_accepts_model_state`.
-/
import NV.C06.Holders
import NV.C06.Spec

namespace NV.C06

/-- a deallocated cell keeps no items and its counter is 0 (dealloc_* releases the items; the counter reached 0) -/
def DeadEmpty (s : St) : Prop := ∀ d ∈ s.heap, d.live = false → d.items = [] ∧ d.ref = 0

theorem DE_set {h : List Cell} {d : Nat} {x : Cell} (de : ∀ y ∈ h, y.live = false → y.items = [] ∧ y.ref = 0)
    (hx : x.live = false → x.items = [] ∧ x.ref = 0) : ∀ y ∈ h.set d x, y.live = false → y.items = [] ∧ y.ref = 0 := by
  intro y hy
  rcases List.mem_or_eq_of_mem_set hy with hm | rfl
  · exact de y hm
  · exact hx

theorem DE_eff {h h' : List Cell} {st st' : Stats} (e : Eff h st h' st')
    (de : ∀ d ∈ h, d.live = false → d.items = [] ∧ d.ref = 0) : ∀ d ∈ h', d.live = false → d.items = [] ∧ d.ref = 0 := by
  induction e with
  | refl | allocd | distinct => exact de
  | trans _ _ ih1 ih2 => exact ih2 (ih1 de)
  -- a rewritten cell is live, unless it is the deallocated one, which is emptied
  | set _ _ hl | grow _ _ _ hl | shrink _ _ _ hl => exact DE_set de (fun hx => by rw [hl] at hx; cases hx)
  | new hl =>
    intro y hy
    rcases List.mem_append.mp hy with hm | hm
    · exact de y hm
    · rw [List.mem_singleton.mp hm, hl]; intro hx; cases hx
  | dealloc _ _ _ _ hi hr => exact DE_set de (fun _ => ⟨hi, hr⟩)

theorem run_DE : ∀ (ops : List Op) (s s' : St), run s ops = .ok s' → DeadEmpty s → DeadEmpty s' :=
  fun _ _ _ h de => DE_eff (run_eff h) de

theorem DE_init : DeadEmpty St.init := by
  intro d hd hl
  have all : St.init.heap.all (fun c => c.live) = true := by decide
  have := List.all_eq_true.mp all d hd
  rw [this] at hl
  cases hl

/-- the oracle's way of counting holders (items of existing containers only) and the proofs' way (all cells) agree -/
theorem holders_eq_H (s : St) (de : DeadEmpty s) (c : Nat) : holders s c = H s c := by
  unfold holders H cnt heapCnt
  congr 1
  congr 1
  apply List.map_congr_left
  intro d hd
  cases hl : d.live with
  | true => simp [cnt]
  | false => simp [(de d hd hl).1, cnt]

theorem run_holders {ops : List Op} {s : St} (h : run St.init ops = .ok s) (c : Nat) : holders s c = H s c :=
  holders_eq_H s (run_DE ops St.init s h DE_init) c

/-- The oracle's declarative step "every existing value nobody refers to disappears,
    every counter is the number of holders" changes nothing on a state in which every live cell's counter is its
    (positive) oracle holder count and every deallocated cell has no holders: such a state is already a fixpoint. -/
theorem collect1_fix (s : St) (de : DeadEmpty s)
    (hlive : ∀ (c : Nat) (cell : Cell), s.heap[c]? = some cell → cell.live = true → cell.ref = holders s c ∧ 0 < holders s c)
    (hdead : ∀ (c : Nat) (cell : Cell), s.heap[c]? = some cell → cell.live = false → holders s c = 0) :
    collect1 s = (s, false) := by
  -- each cell, paired with its number of holders, is left as it is and is not reported as changed
  have key : ∀ x ∈ s.heap.zip ((List.range s.heap.length).map (holders s)),
      (if (x.1.live && x.2 == 0) = true then { x.1 with live := false, items := [], ref := 0 } else { x.1 with ref := x.2 }) = x.1
        ∧ (x.1.live && x.2 == 0) = false := by
    intro x hx
    obtain ⟨i, hi, rfl⟩ := List.getElem_of_mem hx
    have hi' : i < s.heap.length := by simpa using hi
    have hc : s.heap[i]? = some s.heap[i] := List.getElem?_eq_getElem hi'
    simp only [List.getElem_zip, List.getElem_map, List.getElem_range]
    have : (s.heap[i].live && holders s i == 0) = false ∧ holders s i = s.heap[i].ref := by
      cases hl : s.heap[i].live with
      | true =>
        obtain ⟨hr, hpos⟩ := hlive i _ hc hl
        exact ⟨by simp; omega, hr.symm⟩
      | false => exact ⟨rfl, by rw [hdead i _ hc hl, (de _ (List.getElem_mem hi') hl).2]⟩
    rw [this.1, this.2]
    exact ⟨rfl, rfl⟩
  unfold collect1
  simp only
  congr 1
  · show { s with heap := _ } = s
    rw [List.map_congr_left (fun x hx => (key x hx).1), List.map_fst_zip (by simp)]
  · exact List.any_eq_false.mpr (fun x hx => by simp [(key x hx).2])

end NV.C06
