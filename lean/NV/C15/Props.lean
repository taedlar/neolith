/-
C15 — property theorems about the pure functions: `legal_path` (the `strstr` hopping loop computes the component
specification `specLegal`), `check_valid_path`, `strip_name`, the name handling of `load_object`, `inc_open` and
`set_inc_list` (every path handed to the file system is `safe`), and `judge_*_model`: the oracle accepts every
unit-style answer of the model.  All statements quantify over ALL strings (`CStr = List Char`), no length bound.
-/
import NV.C15.Paths

namespace NV.C15

theorem nextDot_length {p q : CStr} (h : nextDot p = some q) : q.length < p.length := by
  induction p with
  | nil => simp [nextDot] at h
  | cons c r ih =>
    unfold nextDot at h
    split at h
    · cases h; simp
    · have := ih h; simp; omega

/-- the `strstr (p, "/.")` hop: the components after the first one are fine iff there is no "/." at all, or the
    string from the dot after the first "/." on is fine (components in between start with another character) -/
theorem okComps_tail_nextDot (p : CStr) :
    okComps (comps p).tail = (match nextDot p with
      | none => true
      | some q => okComps (comps q)) := by
  induction p with
  | nil => simp [comps, nextDot, okComps]
  | cons c r ih =>
    unfold nextDot
    by_cases hc : c = '/'
    · subst hc
      rw [comps_slash]
      by_cases hd : r.head? = some '.'
      · simp [hd]
      · simp only [hd, and_false, ↓reduceIte, List.tail_cons]
        rw [← ih]
        exact okComps_comps_skip (takeWhile_ne_cons_of_head_ne _ hd) (takeWhile_ne_cons_of_head_ne _ hd)
    · simp only [hc, false_and, ↓reduceIte]
      rw [comps_tail_cons_ne hc, ih]

/-- what the `if (p[0] == '.')` block decides: it accepts / rejects exactly when the first component settles
    the matter (a lone trailing ".", resp. ".." or a "." that is not the last component); otherwise the first
    component is harmless and the search goes on from a string with the same remaining components -/
theorem legalStep_okComps (p : CStr) :
    match legalStep p with
    | .accept => okComps (comps p) = true
    | .reject => okComps (comps p) = false
    | .cont p' => p'.length ≤ p.length ∧ okComps (comps p) = okComps (comps p').tail := by
  fun_cases legalStep p
  case case1 => decide                            -- p = ""
  case case2 c r h =>                             -- p[0] ≠ '.'
    have hd : (c :: r).head? ≠ some '.' := by simpa using h
    exact ⟨Nat.le_refl _, okComps_comps_skip (takeWhile_ne_cons_of_head_ne _ hd) (takeWhile_ne_cons_of_head_ne _ hd)⟩
  case case3 c h => cases Decidable.of_not_not h; decide     -- p = ".": break
  case case4 c h => cases Decidable.of_not_not h; decide     -- p = "..": return 0
  case case5 c h r =>                             -- p = "../…": return 0
    cases Decidable.of_not_not h
    have : comps ('.' :: '.' :: '/' :: r) = dotdot :: comps r := by simp [comps, dotdot]
    simp [this, okComps_cons (comps_ne_nil r)]
  case case6 c h c2 r h2 =>                       -- p = "..x…": p++, go on
    cases Decidable.of_not_not h
    refine ⟨Nat.le_succ _, ?_⟩
    rw [← comps_tail_cons_ne (c := '.') (by decide) ('.' :: c2 :: r)]
    exact okComps_comps_skip (by simp [h2, dot]) (by simp [h2, dotdot])
  case case7 c h r _ =>                           -- p = "./…": return 0
    cases Decidable.of_not_not h
    have : comps ('.' :: '/' :: r) = dot :: comps r := by simp [comps, dot]
    simp [this, okComps_cons (comps_ne_nil r)]
  case case8 c h c2 r h1 h2 =>                    -- p = ".x…": go on
    cases Decidable.of_not_not h
    exact ⟨Nat.le_refl _, okComps_comps_skip (by simp [h2, dot]) (by simp [h2, h1, dotdot])⟩

/-- the loop of `legal_path` computes the component specification (for every string, any sufficient fuel) -/
theorem legalLoop_eq (n : Nat) : ∀ p : CStr, p.length < n → legalLoop n p = okComps (comps p) := by
  induction n with
  | zero => intro p h; omega
  | succ n ih =>
    intro p hp
    have hs := legalStep_okComps p
    unfold legalLoop
    cases h : legalStep p with
    | accept => rw [h] at hs; exact hs.symm
    | reject => rw [h] at hs; exact hs.symm
    | cont p' =>
      rw [h] at hs
      simp only
      rw [hs.2, okComps_tail_nextDot]
      cases hn : nextDot p' with
      | none => rfl
      | some q => exact ih q (by have := nextDot_length hn; omega)

/-- `legalLoop`'s default `0 ⇒ true` (the definition is total) is never reached from `legalPath` -/
theorem legalLoop_fuel_irrelevant (n m : Nat) (p : CStr) (hn : p.length < n) (hm : p.length < m) :
    legalLoop n p = legalLoop m p := by
  rw [legalLoop_eq n p hn, legalLoop_eq m p hm]

/-- with too little fuel the default WOULD matter (so the fuel bound of `legalPath` is essential) -/
example : legalLoop 1 (str "a/..") = true ∧ legalPath (str "a/..") = false := by decide_paths

theorem legalPath_eq_spec (s : CStr) : legalPath s = specLegal s := by
  unfold legalPath specLegal absolute
  by_cases h1 : s.head? = some '/'
  · simp [h1]
  · by_cases h2 : '#' ∈ s
    · simp [h1, h2]
    · simp only [h1, h2, ↓reduceIte, decide_false, Bool.not_false, Bool.true_and]
      exact legalLoop_eq _ s (by omega)

/-- `legal_path` accepts exactly the relative paths without '#', without a ".." component and with a "."
    component at most in the last position. -/
theorem legal_path_spec (s : CStr) :
    legalPath s = true ↔
      s.head? ≠ some '/' ∧ '#' ∉ s ∧ (∀ c ∈ comps s, c ≠ dotdot) ∧ (∀ c ∈ (comps s).dropLast, c ≠ dot) := by
  rw [legalPath_eq_spec]
  unfold specLegal absolute
  simp only [Bool.and_eq_true, Bool.not_eq_true', decide_eq_false_iff_not, okComps_iff]
  constructor
  · rintro ⟨⟨a, b⟩, c, d⟩; exact ⟨a, b, c, d⟩
  · rintro ⟨a, b, c, d⟩; exact ⟨⟨a, b⟩, c, d⟩

example : legalPath (str "a/.b/c..d/.") = true := by decide_paths
example : legalPath (str "a/../b") = false := by decide_paths
example : comps (str "a/b//c") = [str "a", str "b", str "", str "c"] := by decide_paths

/-- SECURITY COROLLARY: whatever `legal_path` accepts is not absolute and has no ".." component. -/
theorem legal_path_secure (s : CStr) (h : legalPath s = true) :
    s.head? ≠ some '/' ∧ ∀ c ∈ comps s, c ≠ dotdot := by
  have := (legal_path_spec s).mp h
  exact ⟨this.1, this.2.2.1⟩

theorem legal_path_safe (s : CStr) (h : legalPath s = true) : safe s = true :=
  (safe_iff s).mpr (legal_path_secure s h)

example : ∃ s, legalPath s = true ∧ s ≠ [] := ⟨str "room/a.c", by decide_paths, by decide⟩

theorem check_valid_path_eq_spec (v : Verdict) (path : CStr) :
    checkValidPath true v path = specCheck v path := by
  cases v <;> simp [checkValidPath, cvpFinish, specCheck, specAnswer, legalPath_eq_spec, dot] <;> rfl

/-- "" read as ".": what `check_valid_path`, `set_inc_list` and the oracle's `approvalOf` make of an answer is never empty -/
theorem orDot_ne_nil (r : CStr) : (if r = [] then dot else r) ≠ [] := by
  split
  · exact List.cons_ne_nil _ _
  · assumption

theorem specCheck_some {v : Verdict} {path r : CStr} (h : specCheck v path = some r) :
    ∃ a, specAnswer v path = some a ∧ r = (if stripOneSlash a = [] then dot else stripOneSlash a) ∧
      specLegal r = true := by
  unfold specCheck at h
  cases ha : specAnswer v path with
  | none => simp [ha] at h
  | some a =>
    obtain ⟨hl, rfl⟩ := Option.ite_some_none_eq_some.mp (ha ▸ h)
    exact ⟨a, rfl, rfl, hl⟩

/-- `check_valid_path`: a destructed / missing caller and a denial give no path; a returned path `r`
    is relative, has no ".." component, and is the master's answer (the argument when the master just
    said yes) minus one leading slash, with "" read as ".". -/
theorem check_valid_path_sound (callerOk : Bool) (v : Verdict) (path r : CStr)
    (h : checkValidPath callerOk v path = some r) :
    callerOk = true ∧ v ≠ .deny ∧ v.raises = false ∧
    r.head? ≠ some '/' ∧ (∀ c ∈ comps r, c ≠ dotdot) ∧
    (∃ a, specAnswer v path = some a ∧ r = (if stripOneSlash a = [] then dot else stripOneSlash a)) := by
  cases callerOk with
  | false => simp [checkValidPath] at h
  | true =>
    rw [check_valid_path_eq_spec] at h
    obtain ⟨a, ha, hr, hl⟩ := specCheck_some h
    rw [← legalPath_eq_spec] at hl
    obtain ⟨h1, h2⟩ := legal_path_secure _ hl
    refine ⟨rfl, ?_, ?_, h1, h2, a, ha, hr⟩
    · intro hv; subst hv; simp [specAnswer] at ha
    · cases v <;> simp [Verdict.raises, specAnswer] at ha ⊢

/-- FAIL CLOSED: when the master function raises an error no path comes back (and, in the efun models, control
    does not come back either: `Sys.ask` / `renameEfun`) -/
theorem check_valid_path_error_fails_closed (callerOk : Bool) (v : Verdict) (path : CStr)
    (h : v.raises = true) : checkValidPath callerOk v path = none := by
  cases v <;> simp [Verdict.raises] at h
  cases callerOk <;> rfl

/-- as coded (made visible): a master that does not define valid_read / valid_write, or returns anything but the
    integer 0 or a string (negative int, float — even 0.0 —, array, object), approves the ORIGINAL path -/
theorem check_valid_path_absent_or_odd_approves (path : CStr) (w : String) :
    checkValidPath true .absent path = checkValidPath true .ok path ∧
    checkValidPath true (.odd w) path = checkValidPath true .ok path := ⟨rfl, rfl⟩

theorem check_valid_path_denied (callerOk : Bool) (path : CStr) :
    checkValidPath callerOk .deny path = none := by
  cases callerOk <;> rfl

example : checkValidPath true .ok (str "/d/f") = some (str "d/f") := by decide_paths
example : checkValidPath true (.rewrite (str "/x/../y")) (str "/d/f") = none := by decide_paths
example : checkValidPath true .ok (str "/") = some (str ".") := by decide_paths

theorem stripDotCRev_suffix (r : CStr) : ∃ k, stripDotCRev r = r.drop k := by
  induction r using stripDotCRev.induct with
  | case1 c d rest h ih =>
    obtain ⟨k, hk⟩ := ih
    refine ⟨k + 2, ?_⟩
    rw [stripDotCRev, if_pos h, hk]; rfl
  | case2 c d rest h => exact ⟨0, by rw [stripDotCRev, if_neg h]; rfl⟩
  | case3 r h => exact ⟨0, by unfold stripDotCRev; split <;> simp_all⟩

theorem copyNoDbl_head (n : Nat) (last : Char) (s d : CStr) (h : copyNoDbl n last s = some d) :
    d.head? = none ∨ d.head? = s.head? := by
  cases n with
  | zero => simp [copyNoDbl] at h; subst h; simp
  | succ n =>
    cases s with
    | nil => simp [copyNoDbl] at h; subst h; simp
    | cons c r =>
      simp only [copyNoDbl] at h
      split at h
      · cases h
      · cases hh : copyNoDbl n c r with
        | none => simp [hh] at h
        | some x => simp [hh] at h; subst h; simp

/-- `strip_name` never yields an absolute name (all leading slashes are removed). -/
theorem strip_name_relative (s r : CStr) (n : Nat) (h : stripName s n = some r) : absolute r = false := by
  unfold stripName at h
  cases hc : copyNoDbl (n - 1) '\x00' (s.dropWhile (· = '/')) with
  | none => simp [hc] at h
  | some d =>
    simp only [hc, Option.some.injEq] at h
    obtain ⟨k, hk⟩ := stripDotCRev_suffix d.reverse
    rw [hk, List.drop_reverse, List.reverse_reverse] at h
    subst h
    -- a prefix of the copy, which starts like the source after its leading slashes
    unfold absolute
    rw [decide_eq_false_iff_not, List.head?_take]
    intro hx
    split at hx
    · cases hx
    · rcases copyNoDbl_head _ _ _ _ hc with hd | hd
      · rw [hd] at hx; cases hx
      · rw [hd] at hx
        simpa [hx] using List.head?_dropWhile_not (fun c : Char => decide (c = '/')) s

example : stripName (str "//d/obj.c.c") = some (str "d/obj") := by decide_paths
example : stripName (str "/a//b") = none := by decide_paths

/-- every path `load_object` (repaired: `legal_path` before `stat`) passes to the file system — the
    existence probe `stat (real_name)` and the `open` of the source — is relative and has no ".."
    component, for ALL object names. -/
theorem load_probe_confined (name : CStr) (ex : CStr → Bool) (a : LoadAccess) (p : CStr)
    (h : loadAccess name ex = some a) (hp : a.probe = some p ∨ a.opened = some p) : safe p = true := by
  unfold loadAccess at h
  cases hr : loadRealName name with
  | none => simp [hr] at h
  | some rn =>
    simp only [hr] at h
    split at h <;> cases h
    · rename_i hl
      rcases hp with hp | hp
      · cases hp; exact legal_path_safe _ hl
      · obtain ⟨_, rfl⟩ := Option.ite_some_none_eq_some.mp hp
        exact legal_path_safe _ hl
    · rcases hp with hp | hp <;> cases hp

theorem load_open_confined (name : CStr) (ex : CStr → Bool) (a : LoadAccess) (p : CStr)
    (h : loadAccess name ex = some a) (hp : a.opened = some p) : safe p = true :=
  load_probe_confined name ex a p h (Or.inr hp)

example : loadAccess (str "/d/obj.c") (fun _ => true) =
    some { probe := some (str "d/obj.c"), opened := some (str "d/obj.c") } := by decide_paths
example : loadAccess (str "../x") (fun _ => true) = some { probe := none, opened := none } := by decide_paths

/-- every path `inc_open` (repaired: the normalised name must pass `legal_path`) hands to `open()` is
    relative and has no ".." component, for ALL including files and include names, provided the
    include directories are non-empty legal paths — which `set_inc_list` guarantees, see `inc_dir_ok`. -/
theorem include_path_confined (dirs : List CStr) (base name p : CStr)
    (hd : ∀ d ∈ dirs, d ≠ [] ∧ legalPath d = true)
    (hp : p ∈ incTries true dirs base name) : safe p = true := by
  unfold incTries at hp
  split at hp
  · cases hp
  · rcases List.mem_append.mp hp with h | h
    · split at h
      · rename_i hl
        simp only [Bool.not_true, Bool.false_or] at hl
        simp only [List.mem_singleton] at h
        subst h
        exact legal_path_safe _ hl
      · cases h
    · split at h
      · cases h
      · rename_i hn
        obtain ⟨d, hdm, rfl⟩ := List.mem_map.mp h
        obtain ⟨h0, hl⟩ := hd d (List.mem_filter.mp hdm).1
        exact safe_join d name h0 (legal_path_safe d hl) (hasDotDot_comps name (by simpa using hn))

/-- what `set_inc_list` stores for a configured entry is a non-empty legal path ("/" and "" become ".") -/
theorem inc_dir_ok (entry d : CStr) (h : incDirOf entry = some d) : d ≠ [] ∧ legalPath d = true := by
  obtain ⟨hl, rfl⟩ := Option.ite_some_none_eq_some.mp h
  exact ⟨orDot_ne_nil _, hl⟩

/-- `include_path_confined` for ANY configured include search path -/
theorem include_path_confined_config (entries : List CStr) (base name p : CStr)
    (hp : p ∈ incTries true (entries.filterMap incDirOf) base name) : safe p = true :=
  include_path_confined _ base name p
    (fun d hd => by
      obtain ⟨e, _, he⟩ := List.mem_filterMap.mp hd
      exact inc_dir_ok e d he) hp

theorem mem_incListOf {cfg : CStr} {o : Option CStr} (h : o ∈ (incListOf cfg).getD []) : ∃ e, incDirOf e = o := by
  unfold incListOf at h
  split at h
  · simp at h
  · obtain ⟨e, _, he⟩ := List.mem_map.mp h
    exact ⟨e, he⟩

/-- the same for ANY configured `IncludeDir` string (`set_inc_list` splits it at ':'; dropped entries are skipped) -/
theorem include_path_confined_any_config (cfg base name p : CStr)
    (hp : p ∈ incTries true (((incListOf cfg).getD []).filterMap id) base name) : safe p = true := by
  apply include_path_confined _ base name p _ hp
  intro d hd
  obtain ⟨o, ho, rfl⟩ := List.mem_filterMap.mp hd
  obtain ⟨e, he⟩ := mem_incListOf ho
  exact inc_dir_ok e d he

/-- the oracle accepts what the model of `set_inc_list` stores, for every configuration string: no stored entry is
    empty, absolute or has a ".." component -/
theorem judge_il_model (list : CStr) : judgeEv [.il list ((incListOf list).getD [])] = [] := by
  have h : ((incListOf list).getD []).find? badIncEntry = none := by
    rw [List.find?_eq_none]
    intro o ho
    obtain ⟨x, rfl⟩ := mem_incListOf ho
    cases hx : incDirOf x with
    | none => simp [badIncEntry]
    | some d =>
      obtain ⟨h1, h2⟩ := inc_dir_ok x d hx
      simp [badIncEntry, legal_path_safe d h2, h1]
  unfold judgeEv
  simp only [List.foldl_cons, List.foldl_nil, judgeStep]
  rw [h]
  rfl

example : judgeEv [.il (str "/..") [some (str "..")]] ≠ [] := by decide_paths
example : judgeEv [.il (str "//x") [some (str "/x")]] ≠ [] := by decide_paths

example : [str "/include", str "/", str "/a/../b"].filterMap incDirOf = [str "include", str "."] := by decide_paths
example : incListOf (str "/include:/:/a/../b::x") =
    some [some (str "include"), some (str "."), none, some (str "."), some (str "x")] := by decide_paths

example : incTries true [str "include"] (str "room/x.c") (str "../std.h") = [str "std.h"] := by decide_paths
example : incTries true [str "include"] (str "room/x.c") (str "std.h") = [str "room/std.h", str "include/std.h"] := by decide_paths
example : incTries true [str "include"] (str "x.c") (str "..") = [] := by decide_paths

theorem judge_lp_model (s : CStr) : judgeEv [.lp s (legalPath s)] = [] := by
  simp [judgeEv, judgeStep, legalPath_eq_spec]

theorem judge_cvp_model (v : Verdict) (s : CStr) : judgeEv [.cvp v s (checkValidPath true v s)] = [] := by
  cases h : checkValidPath true v s with
  | none =>
    rw [check_valid_path_eq_spec] at h
    simp [judgeEv, judgeStep, h]
  | some q =>
    have hs := check_valid_path_sound true v s q h
    have hsafe := (safe_iff q).mpr ⟨hs.2.2.2.1, hs.2.2.2.2.1⟩
    rw [check_valid_path_eq_spec] at h
    simp [judgeEv, judgeStep, h, hsafe]

theorem judge_inc_model (dirs : List CStr) (base name : CStr)
    (hd : ∀ d ∈ dirs, d ≠ [] ∧ legalPath d = true) :
    judgeEv [.inc base name (incNormal base name) (incTries true dirs base name)] = [] := by
  have : (incTries true dirs base name).find? (fun t => !safe t) = none := by
    rw [List.find?_eq_none]
    intro t ht
    simp [include_path_confined dirs base name t hd ht]
  simp [judgeEv, judgeStep, this]

theorem judge_sn_model (s : CStr) (n : Nat) : judgeEv [.sn s (stripName s n)] = [] := by
  cases h : stripName s n with
  | none => simp [judgeEv, judgeStep]
  | some q => simp [judgeEv, judgeStep, strip_name_relative s q n h]

end NV.C15
