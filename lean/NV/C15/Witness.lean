/-
C15 — Lean-checked counterexamples: statements that would be nice but are FALSE, and what the code did
BEFORE the repairs (`guarded = false` / `slashQuirk = true` select the old code in the model).
-/
import NV.C15.Props

namespace NV.C15

/-- FULL statement about the include normaliser alone: from a safe including file it never produces an
    unsafe path. -/
def include_normaliser_confined_Full : Prop :=
  ∀ base name : CStr, safe base = true → safe (incNormal base name) = true

/-- FALSE (by design: the normaliser resolves inner "../" only; `inc_open` filters the result with
    `legal_path`): `#include ".."` in `/x.c` normalises to "..". -/
theorem include_normaliser_not_confined : ¬ include_normaliser_confined_Full := by
  intro h
  have := h (str "x.c") (str "..") (by decide)
  revert this
  decide

/-- inner ".." are resolved, a trailing one is not: `#include "room/../.."` -/
theorem include_normaliser_trailing_dotdot :
    incNormal (str "x.c") (str "room/../..") = str ".." := by decide_paths

/-- the `slash - from` quirk of the code before repair `cddd4be`: text after "..//" was appended
    unnormalised; the repaired normaliser resolves it -/
theorem include_normaliser_slash_quirk :
    incNormal (str "x.c") (str "x/..//../../etc/passwd") (slashQuirk := true) = str "../../etc/passwd"
    ∧ incNormal (str "x.c") (str "x/..//../../etc/passwd") = [] := by decide_paths

/-- …and every such spot duplicated the rest of the name (quadratic growth → buffer overrun) -/
theorem include_normaliser_quirk_duplicates :
    incNormal (str "x.c") (str "a/..//a/..//bbbb") (slashQuirk := true) = str "a/..//bbbb/bbbb/bbbb"
    ∧ incNormal (str "x.c") (str "a/..//a/..//bbbb") = str "bbbb" := by decide_paths

/-- the code BEFORE the repairs opened that path; the repaired code tries only "" (which cannot be opened). -/
theorem include_unguarded_escapes :
    incTries false [str "include"] (str "x.c") (str "x/..//../../etc/passwd") = [str "../../etc/passwd"]
    ∧ incTries true [str "include"] (str "x.c") (str "x/..//../../etc/passwd") = [[]] := by decide_paths

theorem include_unguarded_escapes_dotdot :
    incTries false [str "include"] (str "x.c") (str "..") = [str ".."]
    ∧ incTries true [str "include"] (str "x.c") (str "..") = [] := by decide_paths

/-- the hypothesis `d ≠ []` of `include_path_confined` is needed: an EMPTY include directory makes the
    fallback open an ABSOLUTE host path.  `set_inc_list` before repair `882182f` stored "" for the
    entry "/" (or an empty entry); the repaired one stores "." (`incDirOf`, theorem `inc_dir_ok`). -/
theorem include_empty_dir_absolute :
    incTries true [[]] (str "x.c") (str "etc/passwd") = [str "etc/passwd", str "/etc/passwd"]
    ∧ incTries true ([str "/"].filterMap incDirOf) (str "x.c") (str "etc/passwd")
        = [str "etc/passwd", str "./etc/passwd"] := by decide_paths

end NV.C15
