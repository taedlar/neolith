/-
C15 — `mediated_sites`: the translator part of the tie.

`NV/Gen/C15.lean` is regenerated on every run from the clang AST of the working tree
(tools/c15_sites.py): every call of a path-taking libc function in lib/efuns/*.c, lib/lpc/object.c,
src/simulate.c, lib/lpc/lex.c (+ preprocess.c) and lib/lpc/program/binaries.c with its enclosing
function and the syntactic origin of the path argument, plus the call rows needed to resolve
`param k` origins.  The theorem says: every site takes a path that flows from `check_valid_path`,
`legal_path`, `inc_open`/`inc_lexically_normal`, the configuration file, or is on the explicit
allow-list below.  A source change that adds an unmediated file call changes the table and this
`decide` fails (obligation broken → the check searches for a failing input).

The other theorems of the file are obligations of the same kind over further regenerated tables: the efun
surface (`fsEfuns`), the apply function of `check_valid_path`, external `char *` callees, stores into
`inc_list`, static character arrays, every `check_valid_path` call with its operation name and write flag, the
literal fingerprints of the hand-mirrored string functions, the libc functions each function calls, the
`%.250s.tmp` format.  The file imports only `NV.Gen.C15`: nothing here depends on the model.
-/
import NV.Gen.C15

namespace NV.C15

open NV.Gen.C15

/-- origins that are mediated by construction -/
def originOk : Origin → Bool
  | .mediated _ => true                        -- result of check_valid_path / guarded by legal_path / filled by inc_open
  | .derived _ _ => true                       -- buffer built ONLY from mediated values, string literals and
                                               -- configuration (the generator emits `other` as soon as one source
                                               -- is anything else; the sources are listed in `bases`)
  | .config _ => true                          -- administrator's configuration file (trusted)
  | _ => false

structure Allow where
  file : String
  fn : String          -- enclosing function (site) or caller (call row)
  callee : String
  root : String        -- root expression of the unmediated flow, as the generator reports it (`Site.root`)
  why : String

/-- the explicit allow-list.  An entry licenses the `other`-origin rows of ONE function calling ONE callee whose
    path flows from ONE root expression (not a line number, not the chain of local variables in between): a
    harmless refactoring keeps the key, a new unmediated call — another function, callee or source of the path —
    is not covered and breaks `mediated_sites`. -/
def allowList : List Allow := [
  { file := "lib/lpc/lex.c", fn := "inc_open", callee := "open", root := "inc_list[i]",
    why := "fallback search `sprintf (buf, \"%s/%s\", inc_list[i], name)`: inc_list entries passed legal_path in " ++
           "set_inc_list (\"\" is stored as \".\") and `name` was just rejected if it contains \"..\": theorems " ++
           "include_path_confined, inc_dir_ok" },
  { file := "lib/lpc/program/binaries.c", fn := "save_binary", callee := "crdir_fopen", root := "prog->name",
    why := "SaveBinaryDir (configuration) + \"/\" + program name; the program name passed legal_path in load_object" },
  { file := "lib/lpc/program/binaries.c", fn := "save_binary", callee := "fopen", root := "prog->name",
    why := "the same SaveBinaryDir + \"/\" + program name file that crdir_fopen just wrote, reopened \"rb+\" to append " ++
           "the checksum over its contents (fix 12ab14c); the program name passed legal_path in load_object" },
  { file := "lib/lpc/program/binaries.c", fn := "load_binary", callee := "check_times",
    root := "DXALLOC (buf_size, TAG_TEMPORARY, \"ALLOC_BUF\")",
    why := "stat () only, of names read from the saved binary being validated: its include files (written by " ++
           "save_binary from names that went through inc_open), the programs it inherits and their binaries " ++
           "(SaveBinaryDir + name + \".b\"); the binary itself lives in the administrator's SaveBinaryDir" },
  { file := "lib/lpc/program/binaries.c", fn := "binaries_simul_efun_loaded", callee := "stat",
    root := "global simul_efun_path",
    why := "stat () of the configured SimulEfunFile (leading slashes removed, \".c\" appended): administrator's " ++
           "configuration, sampled for config_id when the simul_efun object is (re)loaded" },
  { file := "lib/lpc/program/binaries.c", fn := "load_binary", callee := "check_times",
    root := "global simul_efun_path",
    why := "stat () of the same configured SimulEfunFile to invalidate binaries older than the simul_efun source" },
  { file := "lib/lpc/program/binaries.c", fn := "inherited_program_newer", callee := "check_times",
    root := "prog->strings[id - 1]",
    why := "stat () only, of the file names in the line-number table of an ALREADY LOADED inherited program: its " ++
           "source (passed legal_path in load_object) and the files it #included (opened by inc_open, theorem " ++
           "include_path_confined) — every one of them was opened by the confined loader before" },
  { file := "lib/lpc/program/binaries.c", fn := "inherited_program_outdated", callee := "check_times",
    root := "prog->strings[id - 1]",
    why := "stat () only (save_binary's test for parents that changed since they were loaded, C17 fix 3b97c96): the " ++
           "file names in the line-number table of an inherited program that is the CURRENT program of a loaded " ++
           "object (`ob->prog == prog` is tested first): its source passed legal_path in load_object, its include " ++
           "files were opened by inc_open (include_path_confined) - the same names as in inherited_program_newer" },
  { file := "lib/lpc/program/binaries.c", fn := "inherited_program_newer", callee := "check_times",
    root := "prog->name",
    why := "stat () only, of SaveBinaryDir (configuration) + \"/\" + name of an already loaded inherited program " ++
           "(passed legal_path in load_object) with the extension .b" }]

def allowed (file fn callee : String) (o : Origin) (root : String) : Bool :=
  match o with
  | .other _ => allowList.any (fun a => a.file == file && a.fn == fn && a.callee == callee && a.root == root)
  | _ => false

/-- a call row is fine when its argument is mediated, allow-listed, or is itself an unmodified parameter all of
    whose callers are fine (bounded depth; the generator emits the rows transitively) -/
def callOk : Nat → Call → Bool
  | 0, _ => false
  | n + 1, c =>
    originOk c.origin || allowed c.file c.caller c.callee c.origin c.root ||
      match c.origin with
      | .param k => (calls.filter (fun d => d.callee == c.caller && d.arg == k)).all (callOk n)
      | _ => false

def siteOk (s : Site) : Bool :=
  originOk s.origin || allowed s.file s.fn s.callee s.origin s.root ||
    match s.origin with
    | .param k => (calls.filter (fun d => d.callee == s.fn && d.arg == k)).all (callOk 4)
    | _ => false

/-- every file-system call site of the efun layer / loader / include handling is mediated or allow-listed -/
theorem mediated_sites : sites.all siteOk = true := by decide +kernel

/-- the inventory is not vacuous: it contains the sites of the efuns the property names, and the scan covered
    the anchor files -/
theorem inventory_covers_efuns :
    (["f_mkdir", "f_rmdir", "f_stat", "file_length", "get_dir", "tail", "remove_file", "write_file", "read_file",
      "read_bytes", "write_bytes", "file_size", "do_move", "copy_file", "save_object", "restore_object", "dumpstat",
      "dump_prog", "doread", "dowrite", "load_object", "inc_open"].all
        (fun f => sites.any (fun s => s.fn == f))) = true
    ∧ (["lib/efuns/file.c", "lib/efuns/file_utils.c", "lib/efuns/ed.c", "lib/efuns/dumpstat.c",
        "lib/efuns/dump_prog.c", "lib/lpc/object.c", "src/simulate.c", "lib/lpc/lex.c",
        "lib/lpc/program/binaries.c"].all (fun f => scanned.contains f)) = true := by decide +kernel

/-- the efuns the system-style harness calls and `NV.C15.efunEvents` models (props/c15.py: `exercised ()`;
    `efunNames` of `PropsSys` with the prefix `f_`, without its pseudo entries `get_dir1` / `stat1`) -/
def harnessEfuns : List String :=
  ["f_read_file", "f_write_file", "f_rm", "f_mkdir", "f_rmdir", "f_file_size", "f_file_length", "f_tail",
   "f_read_bytes", "f_read_buffer", "f_write_bytes", "f_write_buffer", "f_restore_object", "f_dumpallobj",
   "f_dump_prog", "f_get_dir", "f_stat", "f_rename", "f_link", "f_cp", "f_save_object", "f_ed"]

/-- EVERY efun implementation from which the call graph of the regenerated inventory reaches a file-system call
    site (other than through `load_object` / `save_ed_buffer`, which are covered separately) is one of the
    efuns the harness exercises and the model covers; the plugin additionally checks at run time that each of
    them produced at least one libc file call in the run (tie broken otherwise). -/
theorem efun_surface_modelled : fsEfuns.all (fun f => harnessEfuns.contains f) = true := by decide +kernel

example : fsEfuns.length ≥ 20 := by decide +kernel

/-- `check_valid_path` consults the master through `apply_master_ob` and nothing else: that function does not
    catch errors, so an error raised by valid_read / valid_write unwinds through the efun (`Verdict.raise`:
    nothing is returned, nothing is touched).  The error-swallowing variants (`safe_apply_master_ob`,
    `safe_apply`) return 0 for a failed call, which `check_valid_path` reads as "function not defined" =
    approved: with them the mediation would FAIL OPEN — such a change alters this regenerated list and breaks
    the theorem. -/
theorem mediation_propagates_errors : mediationApplies = ["apply_master_ob"] := rfl

/-- functions declared outside the repository that take a character pointer and do NOT take a file name: string
    comparison / conversion, formatted output to an already open stream, multibyte conversion, `fdopen` (wraps a
    descriptor), `getcwd` (output only), `crypt`, `inet_ntop`; `query_addr_number` is the driver's own
    (src/comm.c, declared locally in interactive.c).  Anything else that takes a `char *` must be one of the
    file-system callees the translator searches for — or this list is extended with a reason. -/
def knownNonFs : List String :=
  ["__assert_fail", "atoi", "atol", "atoll", "atof", "crypt", "fdopen", "fgets", "fprintf", "fputs", "fputc", "getcwd",
   "inet_ntop", "inet_pton", "inet_addr", "mblen", "mbstowcs", "mbtowc", "mbrtowc", "wcstombs", "wctomb",
   "query_addr_number", "sscanf", "vsscanf", "stpncpy", "strcmp", "strncmp", "strcasecmp", "strncasecmp", "strcoll",
   "strlen", "strnlen", "strspn", "strcspn", "strtod", "strtof", "strtol", "strtoll", "strtoul", "strtoull", "strdup",
   "strndup", "strtok", "strtok_r", "strerror_r", "vasprintf", "asprintf", "printf", "vprintf", "vfprintf", "puts",
   "perror", "getenv", "setlocale", "strftime", "memccpy", "fwrite", "fread", "write", "read", "send", "recv"]

/-- **fail closed on unknown callees**: every external function with a character-pointer parameter that is called
    from the scanned files is either a file-system callee the translator searches for (then it is a `sites` row
    and `mediated_sites` speaks about it), a buffer-filling / strchr-family function the translator interprets, or
    on `knownNonFs`.  A call of a path-taking function nobody listed (a new libc wrapper, `fopen64`-style alias …)
    breaks this obligation. -/
theorem ext_callees_classified : extCallees.all (fun c => knownNonFs.contains c) = true := by decide +kernel

/-- data flow into the search-path fallback of `inc_open` (`sprintf (buf, "%s/%s", inc_list[i], name)`, the one
    `open` of the loader that is allow-listed above): EVERY store into the global `inc_list` anywhere in the scanned
    files is either 0 or a copy of a local variable that a PRECEDING `legal_path ()` call of the same function guards,
    with no assignment to that variable in between (regenerated from the AST; `set_inc_list`).  Together with
    `include_path_confined_any_config` (model) this replaces trust in the allow-list entry by an obligation. -/
theorem inc_list_stores_guarded :
    globalStores.all (fun g => g.2.2.1 == "inc_list" && (g.2.2.2.2 == "null" || g.2.2.2.2 == "guarded")) = true ∧
    globalStores.any (fun g => g.2.2.2.2 == "guarded") = true := by decide +kernel

/-- every character array with static storage duration in the files of the file efuns, the editor, the lexer and the
    saved-binary code, with the reason why it cannot carry a PATH across a master apply (where a re-entrant master —
    valid_read / valid_write calling file efuns themselves — could overwrite it; seeded change C15-5 made
    `read_file`'s path copy static and `check_valid_path` re-read it after the apply).  Keyed by (file, function,
    name): sizes may change freely; a NEW static array is not on the list and breaks `static_bufs_classified`. -/
def staticBufWhy : List (String × String × String × String) := [
  ("lib/efuns/ed.c", "", "inlin", "the editor's current input line; ed commands come from user input, never from inside a master apply"),
  ("lib/efuns/ed.c", "", "last_term", "indentation state of the editor (no path)"),
  ("lib/efuns/ed.c", "docmd", "rhs", "substitution text of the `s` command (no path)"),
  ("lib/efuns/ed.c", "doread", "str", "line buffer for the file being read (content, not a path)"),
  ("lib/efuns/ed.c", "getfn", "file",
     "the editor's file name: filled, checked (check_valid_path) and returned by getfn only; its callers use it " ++
     "before any further apply; getfn is not re-entered from a master apply (ed commands are dispatched from user " ++
     "input); the approved path is copied back over it (ed_getfn_exact)"),
  ("lib/efuns/ed.c", "indent", "f", "format string (no path)"),
  ("lib/efuns/ed.c", "indent", "g", "format string (no path)"),
  ("lib/efuns/ed.c", "indent_code", "s", "indentation stack (no path)"),
  ("lib/efuns/file_utils.c", "check_valid_path", "current_dir", "the constant \".\" returned for the mudlib root"),
  ("lib/lpc/lex.c", "", "lex_ctype", "character class table"),
  ("lib/lpc/lex.c", "", "yytext", "current token text"),
  ("lib/lpc/lex.c", "handle_include", "buf",
     "path buffer of #include: filled by inc_open and opened there; the compiler makes no valid_read / valid_write " ++
     "consultation, and a nested compile cannot start between the fill and the open"),
  ("lib/lpc/lex.c", "query_opcode_name", "buf", "opcode name (no path)"),
  ("lib/lpc/lex.c", "show_error_context", "buf", "source excerpt (no path)"),
  ("lib/lpc/lex.c", "yylex", "partial", "text block terminator (no path)"),
  ("lib/lpc/lex.c", "yylex", "terminator", "text block terminator (no path)"),
  ("lib/lpc/object.c", "save_object", "tmp_name",
     "temporary file name: written AFTER check_valid_path returned, no apply until its last use (rename / unlink)"),
  ("lib/lpc/preprocess.c", "", "_optab", "operator table"),
  ("lib/lpc/preprocess.c", "", "optab2", "operator table"),
  ("lib/lpc/program/binaries.c", "", "simul_efun_path", "configured SimulEfunFile (administrator's configuration)")]

/-- **no path in static storage across the master apply** (translator obligation; fails closed on a new static
    character array in these files) -/
theorem static_bufs_classified :
    staticBufs.all (fun b => staticBufWhy.any (fun k => k.1 == b.1 && k.2.1 == b.2.1 && k.2.2.1 == b.2.2.1)) = true := by
  decide +kernel

/-- the searched callee names include the less usual ways to reach a file -/
theorem fs_callees_cover :
    (["open", "open64", "openat", "openat2", "creat", "fopen", "fopen64", "freopen", "stat", "lstat", "statx", "fstatat",
      "access", "unlink", "unlinkat", "remove", "rename", "renameat", "mkdir", "rmdir", "opendir", "scandir", "link",
      "symlink", "readlink", "truncate", "chmod", "chown", "utime", "utimes", "realpath", "mkstemp", "tmpnam", "popen",
      "system", "execve", "dlopen", "chdir", "chroot", "glob"].all (fun c => fsCallees.contains c)) = true := by decide +kernel

/-- the UTF-8 bytes of a string read as the digits of a number -/
def fingerprint (s : String) : Nat := s.toByteArray.data.toList.foldl (fun h b => 256 * h + b.toNat) 0

/-- two lists are disjoint when their images under some function are -/
theorem disjoint_of_map {α β} [DecidableEq α] [DecidableEq β] (g : α → β) (l₁ l₂ : List α)
    (h : (l₁.map g).all (fun k => !(l₂.map g).contains k) = true) : l₁.all (fun c => !l₂.contains c) = true := by
  rw [List.all_eq_true] at h ⊢
  intro c hc
  have := h (g c) (List.mem_map_of_mem hc)
  simp only [Bool.not_eq_true', ← Bool.not_eq_true, List.contains_iff_mem] at this ⊢
  exact fun hm => this (List.mem_map_of_mem hm)

-- 62 names against the hundred-odd searched ones: compared as fingerprints, which the kernel compares as numbers
-- (a comparison of two strings costs it several times as much)
example : knownNonFs.all (fun c => !fsCallees.contains c) = true :=
  disjoint_of_map fingerprint _ _ (by decide +kernel)

/-- the operation name and write flag of EVERY `check_valid_path` call, regenerated from the source: this is the
    table `Sys.efunEvents` / `Spec.opNames` mirror (efun → operation name, valid_write iff flag 1; `getfn` passes
    its own `writeflg`: 0 for e / E / f / r, 1 for w / W / x).  A call that changes its flag (asks valid_read
    where it writes), its operation name, or a new / removed call breaks this obligation. -/
theorem cvp_call_table : cvpCalls = [
    ("lib/efuns/dump_prog.c", "dump_prog", "\"dumpallobj\"", "1"),
    ("lib/efuns/dumpstat.c", "dumpstat", "\"dumpallobj\"", "1"),
    ("lib/efuns/ed.c", "ed_start", "\"ed_start\"", "0"),
    ("lib/efuns/ed.c", "getfn", "\"ed_start\"", "writeflg"),
    ("lib/efuns/file.c", "f_mkdir", "\"mkdir\"", "1"),
    ("lib/efuns/file.c", "f_rmdir", "\"rmdir\"", "1"),
    ("lib/efuns/file.c", "f_stat", "\"stat\"", "0"),
    ("lib/efuns/file.c", "file_length", "\"file_size\"", "0"),
    ("lib/efuns/file_utils.c", "copy_file", "\"cp\"", "0"),
    ("lib/efuns/file_utils.c", "copy_file", "\"cp\"", "1"),
    ("lib/efuns/file_utils.c", "do_rename", "\"rename\"", "1"),
    ("lib/efuns/file_utils.c", "file_size", "\"file_size\"", "0"),
    ("lib/efuns/file_utils.c", "get_dir", "\"stat\"", "0"),
    ("lib/efuns/file_utils.c", "read_bytes", "\"read_bytes\"", "0"),
    ("lib/efuns/file_utils.c", "read_file", "\"read_file\"", "0"),
    ("lib/efuns/file_utils.c", "remove_file", "\"remove_file\"", "1"),
    ("lib/efuns/file_utils.c", "tail", "\"tail\"", "0"),
    ("lib/efuns/file_utils.c", "write_bytes", "\"write_bytes\"", "1"),
    ("lib/efuns/file_utils.c", "write_file", "\"write_file\"", "1"),
    ("lib/lpc/object.c", "restore_object", "\"restore_object\"", "0"),
    ("lib/lpc/object.c", "save_object", "\"save_object\"", "1")] := rfl

/-- the character / short string literals of `legal_path` in source order — what `Model.legalPath`,
    `legalStep`, `nextDot` compare with: `path[0] == '/'`, `strchr (path, '#')`, `p[0] == '.'`, `p[1] == '\\0'`,
    `p[1] == '.'`, `p[1] == '/' || p[1] == '\\0'`, `strstr (p, "/.")` -/
theorem legal_path_literals :
    literals.lookup "legal_path" = some ["c47", "c35", "c46", "c0", "c46", "c47", "c0", "s\"/.\""] := by decide +kernel

/-- the same fingerprint for the other hand-mirrored string functions (character codes: 47 '/', 46 '.', 63 '?',
    42 '*', 92 '\\', 0 NUL):
    * `check_valid_path`: `current_dir = "."`, `ret_path[0] == '/'`, `ret_path[0] == '\0'`
      — `Model.stripOneSlash`, `cvpFinish`;
    * `inc_lexically_normal`: the slash tests and the prefixes `"../"` and `"./"` in source order — `Model.incLoop`;
    * `inc_open`: the three '.' of the ".." scan — `Model.hasDotDot` (NUL literals are left out: initialising or
      terminating a local buffer, as C17's bookkeeping of missed include files does, is not a comparison of the scan);
    * `match_string`: `'?'`, `'*'`, `'\\'` and the NUL tests — `Sys.matchString`.
    A changed comparison character / prefix (or a reordering) breaks this obligation; the exhaustive differential run
    over the same functions then looks for an input. -/
theorem path_function_literals :
    literals.lookup "check_valid_path" = some ["s\".\"", "c47", "c0"] ∧
    literals.lookup "inc_lexically_normal" =
      some ["c47", "c47", "s\"../\"", "c47", "c47", "s\"./\"", "c47", "s\"/\"", "c47", "c47", "c47"] ∧
    ((literals.lookup "inc_open").map (fun l => l.filter (· != "c0"))) = some ["c46", "c46", "c46"] ∧
    literals.lookup "match_string" = some ["c0", "c0", "c63", "c0", "c42", "c0", "c0", "c0", "c92", "c0"] := by decide +kernel

/-- `strip_name` (lib/lpc/otable.c, scanned for this fingerprint): character AND integer literals in source order —
    `last_c = 0`, `size - 1`, the three '/' tests, `return 0`, `p - dest > 2`, `p[-1] == 'c'`, `p[-2] == '.'`,
    `p -= 2`, `*p = 0`, `return 1` — what `Model.stripName` / `copyNoDbl` / `stripDotCRev` mirror (`rest.length > 0`
    there is `p - dest > 2` after two characters were taken off). -/
theorem strip_name_literals :
    literals.lookup "strip_name" =
      some ["i0", "i1", "c47", "c47", "c47", "i0", "i2", "i1", "c99", "i2", "c46", "i2", "i0", "i1"] := by decide +kernel

def siteCallees (f : String) : List String := (sites.filter (fun s => s.fn == f && s.arg == 0)).map (·.callee)

def insertS (x : String) : List String → List String
  | [] => [x]
  | y :: r => if x < y then x :: y :: r else if x == y then y :: r else y :: insertS x r

/-- the SET of libc file functions a function calls (sorted, without repetitions: an additional `unlink` on an error
    path or a reordered cleanup does not change it, a new kind of call does) -/
def calleeSet (f : String) : List String := (siteCallees f).foldr insertS []

/-- which libc function each function of the efun layer / loader calls, as a set (regenerated site table):
    the names `Sys.efunEvents`, `getDirFs`, `renameEfun` / `moveEvents`, `cpEfun`, `saveEfun`, `edIo`, `loadEvents`,
    `includeOpens` print for their events (`open` vs `fopen`, `unlink`, `symlink` …).  binaries.c is left out (C17's
    ground; its rows are covered by `mediated_sites`). -/
theorem efun_libc_table :
    [("read_file", calleeSet "read_file"), ("write_file", calleeSet "write_file"),
     ("remove_file", calleeSet "remove_file"), ("f_mkdir", calleeSet "f_mkdir"), ("f_rmdir", calleeSet "f_rmdir"),
     ("file_size", calleeSet "file_size"), ("file_length", calleeSet "file_length"), ("tail", calleeSet "tail"),
     ("read_bytes", calleeSet "read_bytes"), ("write_bytes", calleeSet "write_bytes"), ("f_stat", calleeSet "f_stat"),
     ("get_dir", calleeSet "get_dir"), ("do_move", calleeSet "do_move"), ("copy", calleeSet "copy"),
     ("copy_file", calleeSet "copy_file"), ("save_object", calleeSet "save_object"),
     ("restore_object", calleeSet "restore_object"), ("dumpstat", calleeSet "dumpstat"),
     ("dump_prog", calleeSet "dump_prog"), ("doread", calleeSet "doread"), ("dowrite", calleeSet "dowrite"),
     ("load_object", calleeSet "load_object"), ("inc_open", calleeSet "inc_open")] =
    [("read_file", ["open"]), ("write_file", ["fopen"]), ("remove_file", ["unlink"]), ("f_mkdir", ["mkdir"]),
     ("f_rmdir", ["rmdir"]), ("file_size", ["stat"]), ("file_length", ["open"]), ("tail", ["fopen"]),
     ("read_bytes", ["fopen"]), ("write_bytes", ["open"]), ("f_stat", ["stat"]),
     ("get_dir", ["opendir", "stat"]), ("do_move", ["rename", "symlink", "unlink"]),
     ("copy", ["open", "unlink"]), ("copy_file", ["open", "stat"]),
     ("save_object", ["fopen", "rename", "unlink"]), ("restore_object", ["fopen"]),
     ("dumpstat", ["fopen"]), ("dump_prog", ["fopen"]), ("doread", ["fopen"]), ("dowrite", ["fopen"]),
     ("load_object", ["open", "stat"]), ("inc_open", ["open"])] := by decide +kernel

/-- `save_object` builds its temporary file with `"%.250s.tmp"` from the approved path (the `250` of
    `Sys.saveEfun` and of the oracle's `covers`) -/
theorem save_tmp_format :
    (sites.any (fun s => s.fn == "save_object" && s.callee == "fopen" &&
      s.origin == .derived "snprintf" ["literal \"%.250s.tmp\"", "mediated check_valid_path"])) = true := by decide +kernel

/-- an unmediated site is rejected (non-vacuity of `siteOk`) -/
example : siteOk { file := "lib/efuns/file.c", fn := "f_rmdir", callee := "rmdir", arg := 0, line := 76,
                   origin := .other "path <- sp->u.string", root := "sp->u.string" } = false := by decide +kernel

example : sites.length ≥ 40 := by decide +kernel

end NV.C15
