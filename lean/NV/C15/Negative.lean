/-
C15 — theorem audit: the oracle REJECTS what it should reject (negative examples per clause of `judgeStep`).
-/
import NV.C15.PropsSys

namespace NV.C15

/-! ### clause `lp` -/
example : judgeEv [.lp (str "a/..") true] = [⟨"legal-accepts-unsafe", "[a/..]"⟩] := by decide_paths
example : judgeEv [.lp (str "/a") true] ≠ [] := by decide_paths
example : judgeEv [.lp (str "a/./b") true] ≠ [] := by decide_paths          -- "." in the middle
example : judgeEv [.lp (str "a#b") true] ≠ [] := by decide_paths
example : judgeEv [.lp (str "a/b") false] ≠ [] := by decide_paths          -- too strict is also a difference
example : judgeEv [.lp (str "a/.") false] ≠ [] := by decide_paths

/-! ### clause `cvp` -/
example : judgeEv [.cvp .ok (str "/../x") (some (str "../x"))] ≠ [] := by decide_paths             -- unsafe result
example : judgeEv [.cvp .ok (str "/d/f") (some (str "d/g"))] ≠ [] := by decide_paths               -- not the approved path
example : judgeEv [.cvp .ok (str "//d") (some (str "d"))] ≠ [] := by decide_paths                  -- two slashes stripped
example : judgeEv [.cvp .deny (str "/d/f") (some (str "d/f"))] ≠ [] := by decide_paths             -- denial ignored
example : judgeEv [.cvp .raise (str "/d/f") (some (str "d/f"))] ≠ [] := by decide_paths            -- error ignored
example : judgeEv [.cvp (.rewrite (str "/x")) (str "/d/f") (some (str "d/f"))] ≠ [] := by decide_paths   -- rewrite ignored
example : judgeEv [.cvp .ok (str "/d/f") none] ≠ [] := by decide_paths                             -- refused although approved

/-! ### clauses `sn`, `inc` -/
example : judgeEv [.sn (str "//a") (some (str "/a"))] ≠ [] := by decide_paths
example : judgeEv [.inc (str "x.c") (str "..") (str "..") [str ".."]] ≠ [] := by decide_paths
example : judgeEv [.inc (str "t/x.c") (str "a") (str "t/a") [str "t/a", str "/a"]] ≠ [] := by decide_paths

/-! ### clause `valid`: operation name and caller -/
example : judgeEv [.call "rm" whoObj [str "/d/f"], .valid true (str "/d/f") whoObj "read_file" .ok] ≠ [] := by decide_paths
example : judgeEv [.call "rm" whoObj [str "/d/f"], .valid true (str "/d/f") "/other" "remove_file" .ok] ≠ [] := by
  decide_paths

/-! ### clause `fs` -/
/-- absolute -/
example : judgeEv [.call "rm" whoObj [str "//etc/x"], .valid true (str "//etc/x") whoObj "remove_file" .ok,
                   .fs "unlink" true (str "/etc/x")] ≠ [] := by decide_paths
/-- ".." -/
example : judgeEv [.call "rm" whoObj [str "/d/../x"], .valid true (str "/d/../x") whoObj "remove_file" .ok,
                   .fs "unlink" true (str "d/../x")] ≠ [] := by decide_paths
/-- approved for reading, modified -/
example : judgeEv [.call "write_file" whoObj [str "/d/f"], .valid false (str "/d/f") whoObj "write_file" .ok,
                   .fs "fopen" true (str "d/f")] ≠ [] := by decide_paths
/-- approved for writing, contents read (only `stat` may use a write approval) -/
example : judgeEv [.call "read_file" whoObj [str "/d/f"], .valid true (str "/d/f") whoObj "read_file" .ok,
                   .fs "open" false (str "d/f")] ≠ [] := by decide_paths
/-- another path than the approved one -/
example : judgeEv [.call "rm" whoObj [str "/d/f"], .valid true (str "/d/f") whoObj "remove_file" .ok,
                   .fs "unlink" true (str "d/g")] ≠ [] := by decide_paths
/-- the master rewrote the path, the original is touched -/
example : judgeEv [.call "rm" whoObj [str "/d/f"], .valid true (str "/d/f") whoObj "remove_file" (.rewrite (str "/a/a")),
                   .fs "unlink" true (str "d/f")] ≠ [] := by decide_paths
/-- grandchild of an approved directory is not "derived" -/
example : judgeEv [.call "cp" whoObj [str "/a", str "/d"], .valid false (str "/a") whoObj "cp" .ok,
                   .valid true (str "/d") whoObj "cp" .ok, .fs "open" true (str "d/x/y")] ≠ [] := by decide_paths
/-- a child named ".." is not accepted -/
example : judgeEv [.call "cp" whoObj [str "/a", str "/d"], .valid true (str "/d") whoObj "cp" .ok,
                   .fs "open" true (str "d/..")] ≠ [] := by decide_paths
/-- the derivations are per libc function: `rm (file)` may not remove the parent directory, `rmdir (dir)` may not
    unlink a child, `write_file` may not open "<path>.tmp", a read may not strip trailing slashes -/
example : judgeEv [.call "rm" whoObj [str "/d/f"], .valid true (str "/d/f") whoObj "remove_file" .ok,
                   .fs "rmdir" true (str "d")] ≠ [] := by decide_paths
example : judgeEv [.call "rm" whoObj [str "/d/f"], .valid true (str "/d/f") whoObj "remove_file" .ok,
                   .fs "unlink" true (str "d")] ≠ [] := by decide_paths
example : judgeEv [.call "rmdir" whoObj [str "/d"], .valid true (str "/d") whoObj "rmdir" .ok,
                   .fs "unlink" true (str "d/f")] ≠ [] := by decide_paths
example : judgeEv [.call "mkdir" whoObj [str "/d"], .valid true (str "/d") whoObj "mkdir" .ok,
                   .fs "mkdir" true (str "d/x")] ≠ [] := by decide_paths
example : judgeEv [.call "read_file" whoObj [str "/d/"], .valid false (str "/d/") whoObj "read_file" .ok,
                   .fs "open" false (str "d")] ≠ [] := by decide_paths
/-- an approval does not carry over to the next efun call -/
example : judgeEv [.call "rm" whoObj [str "/d/f"], .valid true (str "/d/f") whoObj "remove_file" .ok,
                   .call "rm" whoObj [str "/d/f"], .fs "unlink" true (str "d/f")] ≠ [] := by decide_paths
/-- the touch comes BEFORE the consultation -/
example : judgeEv [.call "rm" whoObj [str "/d/f"], .fs "unlink" true (str "d/f"),
                   .valid true (str "/d/f") whoObj "remove_file" .ok] ≠ [] := by decide_paths
/-- an approval of an illegal path licenses nothing -/
example : judgeEv [.call "rm" whoObj [str "/d/./f"], .valid true (str "/d/./f") whoObj "remove_file" .ok,
                   .fs "unlink" true (str "d/./f")] ≠ [] := by decide_paths
/-- compiler calls and the master-less mode still demand confinement -/
example : judgeEv [.call "include" "-" [str "x.c", str ".."], .fs "open" false (str "..")] ≠ [] := by decide_paths
example : judgeEv [.call "load" "-" [str "../x"], .fs "stat" false (str "../x.c")] ≠ [] := by decide_paths
example : judgeEv [.mode true, .call "rm" whoObj [str "/../x"], .fs "unlink" true (str "../x")] ≠ [] := by decide_paths
example : judgeEv [.mode true, .call "rm" whoObj [str "//x"], .fs "unlink" true (str "/x")] ≠ [] := by decide_paths
/-- …and with a master that HAS the functions the master-less leniency does not apply -/
example : judgeEv [.mode false, .call "rm" whoObj [str "/d/f"], .fs "unlink" true (str "d/f")] ≠ [] := by decide_paths

end NV.C15
