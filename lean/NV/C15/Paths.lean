/-
C15 — components of paths: what `comps` does to concatenations, when `okComps` may skip the first component,
and which of the strings the efuns derive from a safe path (prefixes, children, the part in front of the
last slash, the path without its trailing slashes) are safe again (`Cut`: what is cut at the end of a component).
-/
import NV.C15.Sys

namespace NV.C15

/-- `str` of a literal is the list of its characters -/
theorem str_ofList (l : List Char) : str (String.ofList l) = l := String.toList_ofList

/-- kernel evaluation of a closed statement about concrete paths.  The literals `str "…"` are first replaced by their
    character lists (`str_ofList`, which the kernel checks by turning the literal into `String.ofList …`): evaluating
    `String.toList` on a literal instead runs the UTF-8 decoder in the kernel, the dearest part of such an evaluation.
    `rw` instantiates the lemma with one literal at a time, hence `repeat` (`simp only [str_ofList]` finds nothing:
    its index keeps a literal atomic, only unification opens it). -/
macro "decide_paths" : tactic => `(tactic| ((repeat rw [str_ofList]); decide +kernel))

/-- `comps` is core's `List.splitOn` at '/': its lemmas about `++`, `::` and separator-free lists apply -/
theorem comps_eq_splitOn (p : CStr) : comps p = p.splitOn '/' := by
  induction p with
  | nil => rfl
  | cons c r ih =>
    rw [comps, List.splitOn_cons_eq_if_modifyHead, ← ih]
    simp only [beq_iff_eq]
    cases h : comps r with
    | nil => exact absurd h (ih ▸ List.splitOn_ne_nil _ _)
    | cons x xs => rfl

theorem comps_ne_nil (p : CStr) : comps p ≠ [] := comps_eq_splitOn p ▸ List.splitOn_ne_nil _ _

theorem comps_slash (r : CStr) : comps ('/' :: r) = [] :: comps r := by
  simp [comps]

theorem comps_cons_ne {c : Char} (hc : c ≠ '/') (r : CStr) :
    comps (c :: r) = (comps r).modifyHead (c :: ·) := by
  simp only [comps_eq_splitOn, List.splitOn_cons_eq_if_modifyHead, beq_iff_eq, if_neg hc]

theorem comps_tail_cons_ne {c : Char} (hc : c ≠ '/') (r : CStr) :
    (comps (c :: r)).tail = (comps r).tail := by
  rw [comps_cons_ne hc, List.tail_modifyHead]

theorem comps_head (p : CStr) : (comps p).head? = some (p.takeWhile (· ≠ '/')) := by
  induction p with
  | nil => rfl
  | cons c r ih =>
    by_cases hc : c = '/'
    · subst hc; simp [comps_slash]
    · simp [comps_cons_ne hc, ih, hc]

theorem comps_noslash (b : CStr) (h : '/' ∉ b) : comps b = [b] :=
  comps_eq_splitOn b ▸ List.splitOn_eq_singleton h

theorem comps_append_slash (d name : CStr) : comps (d ++ '/' :: name) = comps d ++ comps name := by
  simp only [comps_eq_splitOn, List.splitOn_append_cons_self]

theorem okComps_cons {x : CStr} {xs : List CStr} (h : xs ≠ []) :
    okComps (x :: xs) = (decide (x ≠ dotdot) && decide (x ≠ dot) && okComps xs) := by
  cases xs with
  | nil => exact absurd rfl h
  | cons y ys => simp [okComps]

theorem okComps_skip {x : CStr} (xs : List CStr) (h1 : x ≠ dot) (h2 : x ≠ dotdot) :
    okComps (x :: xs) = okComps xs := by
  cases xs with
  | nil => simp [okComps, h2]
  | cons y ys => simp [okComps, h1, h2]

theorem okComps_comps_skip {p : CStr} (h1 : p.takeWhile (· ≠ '/') ≠ dot)
    (h2 : p.takeWhile (· ≠ '/') ≠ dotdot) : okComps (comps p) = okComps (comps p).tail := by
  have hh := comps_head p
  cases h : comps p with
  | nil => rfl
  | cons x xs =>
    rw [h, List.head?_cons, Option.some.injEq] at hh
    subst hh
    exact okComps_skip xs h1 h2

/-- the first component does not start with `x` (it is empty or starts with another character) -/
theorem takeWhile_ne_cons_of_head_ne {p : CStr} {x : Char} (q : CStr) (h : p.head? ≠ some x) :
    p.takeWhile (· ≠ '/') ≠ x :: q := by
  cases p with
  | nil => simp
  | cons c r =>
    rw [List.takeWhile_cons]
    split
    · intro e; cases e; simp at h
    · simp

theorem okComps_iff (cs : List CStr) :
    okComps cs = true ↔ (∀ c ∈ cs, c ≠ dotdot) ∧ (∀ c ∈ cs.dropLast, c ≠ dot) := by
  induction cs with
  | nil => simp [okComps]
  | cons x xs ih =>
    cases xs with
    | nil => simp [okComps]
    | cons y ys =>
      rw [okComps_cons (by simp), List.dropLast_cons_cons]
      simp only [Bool.and_eq_true, decide_eq_true_eq, ih, List.mem_cons, forall_eq_or_imp]
      constructor
      · rintro ⟨⟨a, b⟩, c, d⟩; exact ⟨⟨a, c⟩, b, d⟩
      · rintro ⟨⟨a, c⟩, b, d⟩; exact ⟨⟨a, b⟩, c, d⟩

theorem safe_iff (p : CStr) :
    safe p = true ↔ p.head? ≠ some '/' ∧ ∀ c ∈ comps p, c ≠ dotdot := by
  simp [safe, absolute]

theorem absolute_of_safe {p : CStr} (h : safe p = true) : absolute p = false := by
  simpa [absolute] using ((safe_iff p).mp h).1

/-- a prefix that is cut at the end of the string or in front of a '/' has only components of the whole -/
theorem safe_prefix (x y : CStr) (hy : y = [] ∨ y.head? = some '/') (h : safe (x ++ y) = true) :
    safe x = true := by
  rcases hy with rfl | hy
  · simpa using h
  · cases y with
    | nil => simp at hy
    | cons c r =>
      simp only [List.head?_cons, Option.some.injEq] at hy
      subst hy
      rw [safe_iff, comps_append_slash] at h
      rw [safe_iff]
      refine ⟨?_, fun c hc => h.2 c (List.mem_append_left _ hc)⟩
      cases x with
      | nil => simp
      | cons c r => simpa using h.1

theorem safe_join (d name : CStr) (h0 : d ≠ []) (hd : safe d = true) (hn : ∀ c ∈ comps name, c ≠ dotdot) :
    safe (d ++ ['/'] ++ name) = true := by
  rw [safe_iff] at hd ⊢
  constructor
  · cases d with
    | nil => exact absurd rfl h0
    | cons c r => simpa using hd.1
  · intro c hc
    rw [List.append_assoc, List.singleton_append, comps_append_slash] at hc
    rcases List.mem_append.mp hc with h | h
    · exact hd.2 c h
    · exact hn c h

theorem safe_child (to b : CStr) (h0 : to ≠ []) (h : safe to = true) (hb : '/' ∉ b) (hd : b ≠ dotdot) :
    safe (to ++ ['/'] ++ b) = true :=
  safe_join to b h0 h (by rw [comps_noslash b hb]; simpa using hd)

/-- a name that passed the ".." scan of `inc_open` has no ".." component -/
theorem hasDotDot_comps (name : CStr) (h : hasDotDot name = false) : ∀ c ∈ comps name, c ≠ dotdot := by
  induction name with
  | nil => simp [comps, dotdot]
  | cons ch r ih =>
    simp only [hasDotDot, Bool.or_eq_false_iff, decide_eq_false_iff_not] at h
    obtain ⟨h1, h2⟩ := h
    by_cases hc : ch = '/'
    · subst hc
      rw [comps_slash]
      intro c hcm
      rcases List.mem_cons.mp hcm with rfl | hcm
      · simp [dotdot]
      · exact ih h2 c hcm
    · have hh := comps_head r
      rw [comps_cons_ne hc]
      cases e1 : comps r with
      | nil => exact absurd e1 (comps_ne_nil r)
      | cons hd t =>
        rw [e1, List.head?_cons, Option.some.injEq] at hh
        intro c hcm
        rcases List.mem_cons.mp hcm with rfl | hcm
        · intro e
          simp only [dotdot, List.cons.injEq] at e
          exact h1 ⟨e.1, Decidable.of_not_not fun hne => takeWhile_ne_cons_of_head_ne [] hne (hh ▸ e.2)⟩
        · exact ih h2 c (by rw [e1]; exact List.mem_cons_of_mem _ hcm)

theorem mem_takeWhile_sat {α} {q : α → Bool} {l : List α} {x : α} (h : x ∈ l.takeWhile q) : q x = true :=
  List.all_eq_true.mp List.all_takeWhile x h

/-- a list split where its trailing run of `q` begins -/
theorem split_trailing {α} (q : α → Bool) (l : List α) :
    (l.reverse.dropWhile q).reverse ++ (l.reverse.takeWhile q).reverse = l := by
  rw [← List.reverse_append, List.takeWhile_append_dropWhile, List.reverse_reverse]

theorem split_last_slash (p : CStr) :
    ('/' ∉ p ∧ baseName p = p ∧ p.reverse.dropWhile (· ≠ '/') = []) ∨
    (∃ z, p = z ++ '/' :: baseName p ∧ z = ((p.reverse.dropWhile (· ≠ '/')).drop 1).reverse) := by
  unfold baseName
  have hp := split_trailing (fun c : Char => decide (c ≠ '/')) p
  have hh := List.head?_dropWhile_not (fun c : Char => decide (c ≠ '/')) p.reverse
  cases hd : p.reverse.dropWhile (fun c : Char => decide (c ≠ '/')) with
  | nil =>
    rw [hd] at hp
    refine Or.inl ⟨fun hm => ?_, hp, rfl⟩
    rw [← hp] at hm
    simpa using mem_takeWhile_sat (List.mem_reverse.mp hm)
  | cons c rest =>
    rw [hd] at hp hh
    have hc : c = '/' := by simpa using hh
    subst hc
    exact Or.inr ⟨rest.reverse, by simpa using hp.symm, by simp⟩

theorem baseName_noslash (p : CStr) : '/' ∉ baseName p := by
  unfold baseName
  intro h
  rw [List.mem_reverse] at h
  simpa using mem_takeWhile_sat h

theorem baseName_mem_comps (p : CStr) : baseName p ∈ comps p := by
  rcases split_last_slash p with ⟨h1, h2, _⟩ | ⟨z, h1, _⟩
  · rw [h2, comps_noslash p h1]; simp
  · have : comps p = comps z ++ [baseName p] := by
      conv => lhs; rw [h1]
      rw [comps_append_slash, comps_noslash _ (baseName_noslash p)]
    rw [this]; simp

theorem baseName_ne_dotdot (p : CStr) (h : safe p = true) : baseName p ≠ dotdot :=
  ((safe_iff p).mp h).2 _ (baseName_mem_comps p)

/-- `x` is `p` cut at the end of a component: `p` itself, or what stands in front of one of its slashes.  Every path
    the efuns derive from an approved one by cutting (`listDir`, `parentDir`, `stripTrailSlash`) is such a cut. -/
def Cut (x p : CStr) : Prop := ∃ y, p = x ++ y ∧ (y = [] ∨ y.head? = some '/')

theorem Cut.refl (p : CStr) : Cut p p := ⟨[], (List.append_nil p).symm, Or.inl rfl⟩

theorem safe_of_cut {x p : CStr} (h : Cut x p) (hs : safe p = true) : safe x = true := by
  obtain ⟨y, rfl, hy⟩ := h
  exact safe_prefix x y hy hs

theorem length_le_of_cut {x p : CStr} (h : Cut x p) : x.length ≤ p.length := by
  obtain ⟨y, rfl, _⟩ := h
  simp

/-- a safe path does not start with a slash, so what is cut off is not all of it -/
theorem ne_nil_of_cut {x p : CStr} (h : Cut x p) (hs : safe p = true) (h0 : p ≠ []) : x ≠ [] := by
  obtain ⟨y, rfl, hy⟩ := h
  rintro rfl
  rcases hy with rfl | hy
  · exact h0 rfl
  · exact ((safe_iff _).mp hs).1 hy

/-- the part in front of the last slash (`cutLast` / `parentDir` / `listDir`) -/
theorem cut_last (p : CStr) (h : '/' ∈ p) : Cut ((p.reverse.dropWhile (· ≠ '/')).drop 1).reverse p := by
  rcases split_last_slash p with ⟨h1, _, _⟩ | ⟨z, h1, h2⟩
  · exact absurd h h1
  · exact ⟨'/' :: baseName p, h2 ▸ h1, Or.inr rfl⟩

/-- `save_object`: the temporary name built from a prefix of a safe path.  Only the last component of the prefix
    changes, and with the extension it is longer than "..". -/
theorem safe_prefix_tmp (x y : CStr) (h : safe (x ++ y) = true) : safe (x ++ str ".tmp") = true := by
  have hb : '/' ∉ baseName x ++ str ".tmp" := by
    intro hm
    rcases List.mem_append.mp hm with hm | hm
    · exact baseName_noslash x hm
    · revert hm; decide
  have hne : baseName x ++ str ".tmp" ≠ dotdot := by
    intro e
    have := congrArg List.length e
    simp [dotdot, str] at this
  rcases split_last_slash x with ⟨_, h2, _⟩ | ⟨z, h1, _⟩
  · rw [h2] at hb hne
    rw [safe_iff, comps_noslash _ hb]
    exact ⟨fun hh => hb (List.mem_of_mem_head? hh), by simpa using hne⟩
  · rw [h1, List.append_assoc, List.cons_append] at h ⊢
    have hz : z ≠ [] := by
      rintro rfl
      simp [safe, absolute] at h
    have := safe_child z _ hz (safe_prefix z _ (Or.inr rfl) h) hb hne
    simpa using this

theorem stripTrail_cut (p : CStr) : Cut (stripTrailSlash p) p := by
  have hp := split_trailing (fun c : Char => decide (c = '/')) p
  -- what is dropped is taken from the trailing run of slashes
  have hsl : ∀ l : CStr, (∀ c ∈ l, c ∈ (p.reverse.takeWhile (· = '/')).reverse) → l = [] ∨ l.head? = some '/' := by
    intro l hl
    cases l with
    | nil => exact Or.inl rfl
    | cons c r =>
      have : c = '/' := by simpa using mem_takeWhile_sat (List.mem_reverse.mp (hl c List.mem_cons_self))
      exact Or.inr (by rw [this]; rfl)
  unfold stripTrailSlash
  split
  · -- nothing but slashes: the first character is kept
    rename_i heq
    rw [heq, List.nil_append] at hp
    exact ⟨p.drop 1, (List.take_append_drop 1 p).symm, hsl _ fun c hc => by rw [hp]; exact List.mem_of_mem_drop hc⟩
  · exact ⟨_, hp.symm, hsl _ fun _ h => h⟩

theorem listDir_cut (p : CStr) : Cut (listDir p) p := by
  unfold listDir
  split
  · exact .refl p
  · simp only
    split
    · rename_i hc; exact cut_last p hc.1
    · exact .refl p

theorem parentDir_cut (p : CStr) : Cut (parentDir p) p ∨ parentDir p = dot := by
  unfold parentDir
  split
  · rename_i hc; exact Or.inl (cut_last p hc)
  · exact Or.inr rfl

theorem safe_parentDir (p : CStr) (h : safe p = true) : safe (parentDir p) = true := by
  rcases parentDir_cut p with c | e
  · exact safe_of_cut c h
  · rw [e]; decide

theorem parentDir_ne_nil (p : CStr) (h : safe p = true) (h0 : p ≠ []) : parentDir p ≠ [] := by
  rcases parentDir_cut p with c | e
  · exact ne_nil_of_cut c h h0
  · rw [e]; exact List.cons_ne_nil _ _

theorem length_parentDir_le (p : CStr) (h : p ≠ []) : (parentDir p).length ≤ p.length := by
  rcases parentDir_cut p with c | e
  · exact length_le_of_cut c
  · rw [e]; exact List.length_pos_iff.mpr h

end NV.C15
