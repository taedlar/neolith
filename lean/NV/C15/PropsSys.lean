/-
C15 — `model_satisfies_spec`: for EVERY file efun of the table, every path string(s), every master policy
(`Policy`: deny / allow / echo / rewrite to any string / raising / odd answers / per-kind verdicts / re-entrant
masters) and every file-system content (`ex`, and whatever the fixture holds: the proof never looks at `lookup`),
the trace of the system-style model satisfies the oracle: every libc call is preceded by a master approval of the
right kind whose (legal) path is the touched path or one directly derived from it, the operation name is the
documented one, nothing absolute, no ".." component.

The oracle is read as a predicate `segOk` on the events of ONE call segment; `fold_ok` turns `segOk` into a clean
`judgeStep` fold; each call structure of `Sys.lean` gets its `segOk_*` lemma from `segOk_ask` (what a consultation
leaves behind) and `segOk_fs` (a libc call an approval in force covers).  The same lemmas give the variants for a
master without valid_read / valid_write, for editing sessions, and — without any approval, confinement only — for
the compiler's file access (`load_object`, `#include`, `inherit`).
-/
import NV.C15.Props

namespace NV.C15

def opOk (f op : String) : Bool :=
  match opNames.find? (·.1 == f) with
  | some (_, ops) => ops.contains op
  | none => true

/-- the oracle, read as a predicate on the events that follow one `call` of efun `f` -/
def segOk (f : String) : List Approval → List Ev → Prop
  | _, [] => True
  | apps, .valid w path who op v :: rest =>
    who = whoObj ∧ opOk f op = true ∧ segOk f ((approvalOf w v path).toList ++ apps) rest
  | apps, .fs fn w p :: rest => safe p = true ∧ apps.any (okBy fn w p) = true ∧ segOk f apps rest
  | apps, .note _ :: rest => segOk f apps rest
  | apps, .nest g _ _ inner :: rest => judgeNest g inner = [] ∧ segOk f apps rest
  | apps, .edsave _ name :: rest => f = "ed" ∧ segOk f (⟨true, stripOneSlash name⟩ :: apps) rest
  | _, _ :: _ => False

/-- a libc call on a safe path changes nothing when an approval licenses it, or when only confinement can be
    demanded (compiler calls; a master without valid_read / valid_write) -/
theorem judgeStep_fs (s : JState) (fn : String) (w : Bool) (p : CStr) (hs : safe p = true)
    (h : compileCalls.contains s.efun = true ∨ s.absent = true ∨ s.approvals.any (okBy fn w p) = true) :
    judgeStep s (.fs fn w p) = s := by
  have hna := absolute_of_safe hs
  rcases h with h | h | h
  · have h' : s.efun ∈ compileCalls := by simpa using h
    simp [judgeStep, hna, hs, h']
  · simp [judgeStep, hna, hs, h]
  · simp [judgeStep, hna, hs, h]

/-- a consultation in the caller's name under a permitted operation name only adds its approval -/
theorem judgeStep_valid (s : JState) (w : Bool) (path : CStr) (op : String) (v : Verdict)
    (hf : compileCalls.contains s.efun = false) (hop : opOk s.efun op = true) :
    judgeStep s (.valid w path s.who op v) = { s with approvals := (approvalOf w v path).toList ++ s.approvals } := by
  unfold opOk at hop
  simp only [judgeStep, hf]
  cases hfind : opNames.find? (fun x => x.1 == s.efun) with
  | none => cases approvalOf w v path <;> simp
  | some pr =>
    rw [hfind] at hop
    have hop' : op ∈ pr.snd := by simpa using hop
    cases approvalOf w v path <;> simp [hop']

theorem judgeStep_edsave (s : JState) (st name : CStr) (he : s.efun = "ed") :
    judgeStep s (.edsave st name) = { s with approvals := ⟨true, stripOneSlash name⟩ :: s.approvals } := by
  simp [judgeStep, he]

theorem judgeStep_nest (s : JState) (g who : String) (args : List CStr) (inner : List NEv)
    (h : judgeNest g inner = []) : judgeStep s (.nest g who args inner) = s := by
  simp [judgeStep, h]

theorem fold_ok (f : String) (hf : compileCalls.contains f = false) :
    ∀ (evs : List Ev) (s : JState), s.bad = [] → s.efun = f → s.who = whoObj →
      segOk f s.approvals evs → (evs.foldl judgeStep s).bad = [] := by
  intro evs s hb he hw hs
  generalize ha : s.approvals = apps at hs
  -- the cases are the clauses of `segOk` in order: [], valid, fs, note, nest, edsave, any other event
  fun_induction segOk f apps evs generalizing s
  case case1 => exact hb
  case case2 ih =>
    obtain ⟨rfl, hop, hs⟩ := hs
    rw [List.foldl_cons, ← hw, judgeStep_valid s _ _ _ _ (he ▸ hf) (he ▸ hop)]
    exact ih _ hb he hw (by rw [ha]) hs
  case case3 ih =>
    obtain ⟨hsafe, hany, hs⟩ := hs
    rw [List.foldl_cons, judgeStep_fs s _ _ _ hsafe (Or.inr (Or.inr (ha ▸ hany)))]
    exact ih s hb he hw ha hs
  case case4 ih => exact ih s hb he hw ha hs
  case case5 ih =>
    rw [List.foldl_cons, judgeStep_nest s _ _ _ _ hs.1]
    exact ih s hb he hw ha hs.2
  case case6 ih =>
    rw [List.foldl_cons, judgeStep_edsave s _ _ (he.trans hs.1)]
    exact ih _ hb he hw (by rw [ha]) hs.2
  case case7 => exact hs.elim

theorem judge_of_segOk (f : String) (args : List CStr) (evs : List Ev)
    (hf : compileCalls.contains f = false) (h : segOk f [] evs) :
    judgeEv (.call f whoObj args :: evs) = [] := by
  unfold judgeEv
  rw [List.foldl_cons]
  have := fold_ok f hf evs (judgeStep {} (.call f whoObj args)) rfl rfl rfl h
  rw [this]; rfl

/-- what a successful `check_valid_path` leaves behind, in the oracle's terms: the consultation's approval is of
    exactly the returned path, and that path is legal, safe and not empty -/
theorem approved (w : Bool) (v : Verdict) (path P : CStr) (h : checkValidPath true v path = some P) :
    approvalOf w v path = some ⟨w, P⟩ ∧ specLegal P = true ∧ safe P = true ∧ P ≠ [] := by
  rw [check_valid_path_eq_spec] at h
  obtain ⟨a, ha, hr, hl⟩ := specCheck_some h
  exact ⟨by simp only [approvalOf, ha, hr], hl, legal_path_safe _ (by rw [legalPath_eq_spec]; exact hl),
    hr ▸ orDot_ne_nil _⟩

/-- what the proofs use of a path `P` that `check_valid_path` returned for an access of kind `w`: its approval is
    among the approvals in force, and the path is legal, safe and not empty -/
structure Granted (apps : List Approval) (w : Bool) (P : CStr) : Prop where
  mem : (⟨w, P⟩ : Approval) ∈ apps
  legal : specLegal P = true
  isSafe : safe P = true
  ne_nil : P ≠ []

/-- approvals are only ever added: what was granted stays granted -/
theorem Granted.mono {apps apps' : List Approval} {w : Bool} {P : CStr} (g : Granted apps w P)
    (sub : ∀ a ∈ apps, a ∈ apps') : Granted apps' w P :=
  { g with mem := sub _ g.mem }

/-- `approved`, fact by fact: the path a consultation returned is granted from then on -/
theorem Granted.of_checkValidPath {w : Bool} {v : Verdict} {path P : CStr} (apps : List Approval)
    (h : checkValidPath true v path = some P) : Granted ((approvalOf w v path).toList ++ apps) w P :=
  have ⟨e, legal, isSafe, ne_nil⟩ := approved w v path P h
  { mem := by simp [e], legal, isSafe, ne_nil }

theorem any_okBy (apps : List Approval) (fn : String) (w : Bool) (p : CStr) (a : Approval)
    (hm : a ∈ apps) (hl : specLegal a.path = true) (hc : covers fn a.path p = true)
    (hk : (if w then a.w else (!a.w || fn == "stat")) = true) : apps.any (okBy fn w p) = true := by
  rw [List.any_eq_true]
  exact ⟨a, hm, by simp [okBy, hl, hc, hk]⟩

theorem segOk_mono (f : String) : ∀ (evs : List Ev) (apps apps' : List Approval),
    (∀ a ∈ apps, a ∈ apps') → segOk f apps evs → segOk f apps' evs := by
  intro evs apps apps' hsub h
  -- the clauses of `segOk` in order: [], valid, fs, note, nest, edsave, any other event
  fun_induction segOk f apps evs generalizing apps'
  case case1 => trivial
  case case2 ih =>
    obtain ⟨hwho, hop, h⟩ := h
    exact ⟨hwho, hop, ih _ (List.append_subset.mpr
      ⟨List.subset_append_left _ _, List.subset_append_of_subset_right _ hsub⟩) h⟩
  case case3 ih =>
    obtain ⟨hsafe, hany, h⟩ := h
    obtain ⟨a, ha, hk⟩ := List.any_eq_true.mp hany
    exact ⟨hsafe, List.any_eq_true.mpr ⟨a, hsub a ha, hk⟩, ih _ hsub h⟩
  case case4 ih => exact ih _ hsub h
  case case5 ih => exact ⟨h.1, ih _ hsub h.2⟩
  case case6 ih =>
    exact ⟨h.1, ih _ (List.cons_subset_cons _ hsub) h.2⟩
  case case7 => exact h.elim

/-- approvals in force after a list of events -/
def appsAfter : List Approval → List Ev → List Approval
  | apps, [] => apps
  | apps, .valid w path _ _ v :: rest => appsAfter ((approvalOf w v path).toList ++ apps) rest
  | apps, .edsave _ name :: rest => appsAfter (⟨true, stripOneSlash name⟩ :: apps) rest
  | apps, _ :: rest => appsAfter apps rest

theorem segOk_append (f : String) : ∀ (e1 e2 : List Ev) (apps : List Approval),
    segOk f apps e1 → segOk f (appsAfter apps e1) e2 → segOk f apps (e1 ++ e2) := by
  intro e1 e2 apps h1 h2
  -- the clauses of `segOk` in order: [], valid, fs, note, nest, edsave, any other event
  fun_induction segOk f apps e1
  case case1 => exact h2
  case case2 ih =>
    obtain ⟨hwho, hop, h1⟩ := h1
    exact ⟨hwho, hop, ih h1 h2⟩
  case case3 ih =>
    obtain ⟨hsafe, hany, h1⟩ := h1
    exact ⟨hsafe, hany, ih h1 h2⟩
  case case4 ih => exact ih h1 h2
  case case5 ih => exact ⟨h1.1, ih h1.2 h2⟩
  case case6 ih => exact ⟨h1.1, ih h1.2 h2⟩
  case case7 => exact h1.elim

/-- `covers` clause by clause -/
theorem covers_iff (fn : String) (a p : CStr) : covers fn a p = true ↔
    p = a ∨ ((fn = "rename" ∨ fn = "symlink") ∧ p = stripTrailSlash a) ∨
    ((fn = "stat" ∨ fn = "opendir") ∧ p = listDir a) ∨ (fn = "opendir" ∧ p = parentDir (listDir a)) ∨
    ((fn = "open" ∨ fn = "rename-to" ∨ fn = "symlink-to") ∧ childOf a p = true) ∨
    (fn = "stat-entry" ∧ (childOf (listDir a) p = true ∨ childOf (parentDir (listDir a)) p = true)) ∨
    ((fn = "fopen" ∨ fn = "rename" ∨ fn = "unlink") ∧ p = a.take 250 ++ str ".tmp") := by
  simp only [covers, Bool.or_eq_true, Bool.and_eq_true, beq_iff_eq, or_assoc]

theorem covers_self (fn : String) (a : CStr) : covers fn a a = true := (covers_iff fn a a).mpr (Or.inl rfl)

theorem opOk_eq (f op : String) : opOk f op = opAllowed f op := rfl

theorem nest_single_ok (g op fn : String) (w fw : Bool) (a : CStr) (hop : opOk g op = true)
    (hk : (if fw then w else (!w || fn == "stat")) = true) : judgeNest g (nestedSingle w op fn fw a) = [] := by
  rw [opOk_eq] at hop
  unfold nestedSingle judgeNest
  cases h : checkValidPath true Verdict.ok a with
  | none =>
    simp only [List.foldl_cons, List.foldl_nil, nestStep, hop, ↓reduceIte]
    cases approvalOf w Verdict.ok a <;> rfl
  | some P =>
    obtain ⟨h1, h2, h3, _⟩ := approved w _ _ _ h
    have hna := absolute_of_safe h3
    have hany : ([⟨w, P⟩] : List Approval).any (okBy fn fw P) = true :=
      any_okBy _ fn fw P ⟨w, P⟩ (by simp) h2 (covers_self _ P) hk
    simp only [List.foldl_cons, List.foldl_nil, nestStep, hop, ↓reduceIte, h1, hna, h3, hany, Bool.not_true,
      Bool.false_eq_true]

/-- **re-entrant masters**: whatever efun of the table a master calls on whatever path from inside valid_read /
    valid_write, the oracle accepts the model of that nested call (its own consultation, its own libc call) -/
theorem nested_ok (g : String) (p : CStr) : judgeNest g (nestedEvents g p) = [] := by
  unfold nestedEvents
  split
  · exact nest_single_ok _ _ _ _ _ _ (by decide) (by decide)
  · exact nest_single_ok _ _ _ _ _ _ (by decide) (by decide)
  · exact nest_single_ok _ _ _ _ _ _ (by decide) (by decide)
  · exact nest_single_ok _ _ _ _ _ _ (by decide) (by decide)
  · rfl

/-- one consultation, with or without the master's own nested call in front of it -/
theorem segOk_askEv (f : String) (pol : Policy) (w : Bool) (path : CStr) (op : String) (apps : List Approval)
    (rest : List Ev) :
    segOk f apps (askEv pol w path op ++ rest) ↔
      (opOk f op = true ∧ segOk f ((approvalOf w (pol.verdict w path) path).toList ++ apps) rest) := by
  unfold askEv nestPrefix
  split <;> simp [segOk, nested_ok, whoObj]

/-- what a consultation leaves behind: the approvals in force have only grown, and a path that
    `check_valid_path` returned is granted for that kind of access -/
theorem segOk_ask {f : String} {pol : Policy} {w : Bool} {path : CStr} {op : String} {apps : List Approval}
    {rest : List Ev} (hop : opOk f op = true)
    (h : ∀ apps' : List Approval, (∀ a ∈ apps, a ∈ apps') →
      (∀ P, checkValidPath true (pol.verdict w path) path = some P → Granted apps' w P) → segOk f apps' rest) :
    segOk f apps (askEv pol w path op ++ rest) :=
  (segOk_askEv f pol w path op apps rest).mpr
    ⟨hop, h _ (fun _ ha => List.mem_append_right _ ha) fun _ hP => .of_checkValidPath apps hP⟩

theorem segOk_ask_nil {f : String} {pol : Policy} {w : Bool} {path : CStr} {op : String} {apps : List Approval}
    (hop : opOk f op = true) : segOk f apps (askEv pol w path op) := by
  rw [← List.append_nil (askEv pol w path op)]
  exact segOk_ask hop fun _ _ _ => trivial

/-- the usual shape of an efun: one consultation, then (if a path came back) what is done with that path -/
theorem segOk_askThen {f : String} {pol : Policy} {w : Bool} {path : CStr} {op : String} {apps : List Approval}
    {k : CStr → List Ev} (hop : opOk f op = true)
    (h : ∀ (apps' : List Approval) (P : CStr), (∀ a ∈ apps, a ∈ apps') → Granted apps' w P →
      segOk f apps' (k P)) :
    segOk f apps (askEv pol w path op ++ match checkValidPath true (pol.verdict w path) path with
      | none => []
      | some P => k P) := by
  refine segOk_ask hop fun apps' sub hP => ?_
  cases hc : checkValidPath true (pol.verdict w path) path with
  | none => trivial
  | some P => exact h apps' P sub (hP P hc)

/-- a libc call on a safe path that an approval in force covers -/
theorem segOk_fs {f : String} {apps : List Approval} {fn : String} {w : Bool} {p : CStr} {rest : List Ev}
    (a : Approval) (hm : a ∈ apps) (hl : specLegal a.path = true) (hc : covers fn a.path p = true)
    (hk : (if w then a.w else (!a.w || fn == "stat")) = true) (hs : safe p = true) (hr : segOk f apps rest) :
    segOk f apps (.fs fn w p :: rest) :=
  ⟨hs, any_okBy apps fn w p a hm hl hc hk, hr⟩

theorem segOk_single (f : String) (pol : Policy) (w : Bool) (op fn : String) (fw : Bool) (a : CStr)
    (apps : List Approval) (hop : opOk f op = true)
    (hk : (if fw then w else (!w || fn == "stat")) = true) :
    segOk f apps (single pol w op fn fw a) := by
  unfold single ask
  exact segOk_askThen hop fun _ P _ g => segOk_fs ⟨w, P⟩ g.mem g.legal (covers_self fn P) hk g.isSafe trivial

theorem covers_listDir (fn : String) (a : CStr) (h : fn = "stat" ∨ fn = "opendir") :
    covers fn a (listDir a) = true := (covers_iff ..).mpr (Or.inr (Or.inr (Or.inl ⟨h, rfl⟩)))
theorem covers_parent (a : CStr) : covers "opendir" a (parentDir (listDir a)) = true :=
  (covers_iff ..).mpr (Or.inr (Or.inr (Or.inr (Or.inl ⟨rfl, rfl⟩))))
theorem covers_strip (fn : String) (a : CStr) (h : fn = "rename" ∨ fn = "symlink") :
    covers fn a (stripTrailSlash a) = true := (covers_iff ..).mpr (Or.inr (Or.inl ⟨h, rfl⟩))
theorem covers_tmp (fn : String) (a : CStr) (h : fn = "fopen" ∨ fn = "rename" ∨ fn = "unlink") :
    covers fn a (a.take 250 ++ str ".tmp") = true :=
  (covers_iff ..).mpr (Or.inr (Or.inr (Or.inr (Or.inr (Or.inr (Or.inr ⟨h, rfl⟩))))))

theorem childOf_join (a b : CStr) (hb : '/' ∉ b) (hd : b ≠ dotdot) : childOf a (a ++ '/' :: b) = true := by
  have e : a ++ '/' :: b = (a ++ ['/']) ++ b := by simp
  rw [e]
  unfold childOf
  simp only [List.take_left', List.drop_left']
  simp [hb, hd]

theorem covers_child (fn : String) (a b : CStr) (hf : fn = "open" ∨ fn = "rename-to" ∨ fn = "symlink-to")
    (hb : '/' ∉ b) (hd : b ≠ dotdot) : covers fn a (a ++ ['/'] ++ b) = true := by
  rw [List.append_assoc, List.singleton_append]
  exact (covers_iff ..).mpr (Or.inr (Or.inr (Or.inr (Or.inr (Or.inl ⟨hf, childOf_join a b hb hd⟩)))))

theorem covers_entry (a d : CStr) (n : CStr) (hd : d = listDir a ∨ d = parentDir (listDir a))
    (hb : '/' ∉ n) (hn : n ≠ dotdot) : covers "stat-entry" a (d ++ ['/'] ++ n) = true := by
  rw [List.append_assoc, List.singleton_append]
  refine (covers_iff ..).mpr (Or.inr (Or.inr (Or.inr (Or.inr (Or.inr (Or.inl ⟨rfl, ?_⟩))))))
  rcases hd with rfl | rfl
  · exact Or.inl (childOf_join _ n hb hn)
  · exact Or.inr (childOf_join _ n hb hn)

theorem segOk_map_filter {α} (f : String) (apps : List Approval) (g : α → Ev) (q : α → Bool) (l : List α)
    (h : ∀ x, q x = true → ∀ rest, segOk f apps rest → segOk f apps (g x :: rest)) :
    segOk f apps ((l.filter q).map g) := by
  induction l with
  | nil => trivial
  | cons x r ih =>
    rw [List.filter_cons]
    by_cases hq : q x = true
    · rw [if_pos hq]; exact h x hq _ ih
    · rw [if_neg hq]; exact ih

/-- the per-entry `stat`s of `get_dir (path, -1)`: each is a direct child (not "..") of the listed directory -/
theorem segOk_entryStats (f : String) (ex : List CStr) (fl : Bool) (P d : CStr) (pat : Option CStr)
    (apps : List Approval) (hm : (⟨false, P⟩ : Approval) ∈ apps) (hl : specLegal P = true)
    (hd : d = listDir P ∨ d = parentDir (listDir P)) (hs : safe d = true) (h0 : d ≠ []) :
    segOk f apps (entryStats ex fl d pat) := by
  unfold entryStats
  split
  · trivial
  · split
    · trivial
    · refine segOk_map_filter f apps _ _ _ fun n hf rest hr => ?_
      rw [Bool.and_eq_true, Bool.and_eq_true, Bool.and_eq_true] at hf
      obtain ⟨⟨⟨_, h2⟩, h3⟩, _⟩ := hf
      have h3 : '/' ∉ n.toList := by simpa using h3
      have hn : n.toList ≠ dotdot := by
        intro e
        have : n = ".." := by rw [← String.ofList_toList (s := n), e]; rfl
        simp [this] at h2
      exact segOk_fs ⟨false, P⟩ hm hl (covers_entry P d _ hd h3 hn) (by simp)
        (safe_child d _ h0 hs h3 hn) hr

open NV.Gen.C15 in
/-- `strncpy (temppath, path, sizeof temppath - 1)` never cuts a path that passed the guard
    `strlen (path) > MAX_PATH_LEN` -/
theorem getdir_path_not_truncated (P : CStr) (h : ¬ P.length > maxPathLen) :
    P.take (getDirTemppathSize - 1) = P := by
  apply List.take_of_length_le
  have : maxPathLen ≤ getDirTemppathSize - 1 := by decide
  omega

theorem segOk_getDirFs (f : String) (ex : List CStr) (P : CStr) (fl : Bool) (apps : List Approval)
    (g : Granted apps false P) : segOk f apps (getDirFs ex P fl) := by
  unfold getDirFs
  split
  · trivial
  · rename_i hlen
    rw [getdir_path_not_truncated P hlen]
    have s1 := safe_of_cut (listDir_cut P) g.isSafe
    have n1 := ne_nil_of_cut (listDir_cut P) g.isSafe g.ne_nil
    have s2 := safe_parentDir _ s1
    -- the `stat` of the directory named by the path, the `opendir` of it or (pattern) of its directory part
    have st : ∀ rest, segOk f apps rest → segOk f apps (.fs "stat" false (listDir P) :: rest) :=
      fun rest => segOk_fs ⟨false, P⟩ g.mem g.legal (covers_listDir _ P (Or.inl rfl)) (by simp) s1
    have od : ∀ rest, segOk f apps rest → segOk f apps (.fs "opendir" false (listDir P) :: rest) :=
      fun rest => segOk_fs ⟨false, P⟩ g.mem g.legal (covers_listDir _ P (Or.inr rfl)) (by simp) s1
    have op : ∀ rest, segOk f apps rest → segOk f apps (.fs "opendir" false (parentDir (listDir P)) :: rest) :=
      fun rest => segOk_fs ⟨false, P⟩ g.mem g.legal (covers_parent P) (by simp) s2
    simp only
    split <;> split
    · exact st _ trivial
    · exact st _ (op _ (segOk_entryStats f ex fl P _ _ apps g.mem g.legal (Or.inr rfl) s2 (parentDir_ne_nil _ s1 n1)))
    · exact st _ trivial
    · exact st _ (od _ (segOk_entryStats f ex fl P _ none apps g.mem g.legal (Or.inl rfl) s1 n1))

theorem segOk_getDir (f : String) (pol : Policy) (ex : List CStr) (a : CStr) (fl : Bool) (apps : List Approval)
    (hop : opOk f "stat" = true) : segOk f apps (getDir pol ex a fl) := by
  unfold getDir ask
  exact segOk_askThen hop fun apps' P _ g => segOk_getDirFs f ex P fl apps' g

theorem segOk_stat (f : String) (pol : Policy) (ex : List CStr) (a : CStr) (fl : Bool) (apps : List Approval)
    (hop : opOk f "stat" = true) : segOk f apps (statEfun pol ex a fl) := by
  unfold statEfun ask
  refine segOk_askThen hop fun apps' P _ g =>
    segOk_fs ⟨false, P⟩ g.mem g.legal (covers_self _ P) (by simp) g.isSafe ?_
  split
  · trivial
  · exact segOk_getDir f pol ex a fl _ hop

/-- the `if` by which `renameEfun` and `cpEfun` choose their target, as the hypothesis `ht` of the lemmas below -/
theorem target_cases (isDir : Bool) (to base : CStr) :
    (if isDir then to ++ '/' :: base else to) = to ∨
      (if isDir then to ++ '/' :: base else to) = to ++ '/' :: base := by
  cases isDir
  · exact Or.inl rfl
  · exact Or.inr rfl

/-- target of `rename` / `link` / `cp`: the approved path, or (it is a directory) that path + "/" + last
    component of the source -/
theorem target_covers_safe (fn : String) (to src target : CStr) (hf : fn = "open" ∨ fn = "rename-to" ∨ fn = "symlink-to")
    (h0 : to ≠ []) (hs : safe to = true) (hsrc : safe src = true)
    (ht : target = to ∨ target = to ++ '/' :: baseName src) :
    covers fn to target = true ∧ safe target = true := by
  rcases ht with rfl | rfl
  · exact ⟨covers_self _ _, hs⟩
  · have e : to ++ '/' :: baseName src = to ++ ['/'] ++ baseName src := by simp
    rw [e]
    exact ⟨covers_child fn to _ hf (baseName_noslash src) (baseName_ne_dotdot src hsrc),
           safe_child to _ h0 hs (baseName_noslash src) (baseName_ne_dotdot src hsrc)⟩

theorem covers_renameSrc (fn : String) (from_ : CStr) (hfn : fn = "rename" ∨ fn = "symlink") :
    covers fn from_ (renameSrc from_) = true := by
  unfold renameSrc; split
  · exact covers_strip fn from_ hfn
  · exact covers_self fn from_

theorem safe_renameSrc (from_ : CStr) (h : safe from_ = true) : safe (renameSrc from_) = true := by
  unfold renameSrc; split
  · exact safe_of_cut (stripTrail_cut from_) h
  · exact h

theorem segOk_move (f : String) (sym tl : Bool) (from_ to : CStr) (apps : List Approval) (target : CStr)
    (m1 : (⟨true, from_⟩ : Approval) ∈ apps) (m2 : (⟨true, to⟩ : Approval) ∈ apps)
    (l1 : specLegal from_ = true) (s1 : safe from_ = true)
    (l2 : specLegal to = true) (s2 : safe to = true) (n2 : to ≠ [])
    (ht : target = to ∨ target = to ++ '/' :: baseName (renameSrc from_)) :
    segOk f apps (moveEvents sym tl (renameSrc from_) target) := by
  have hs' := safe_renameSrc from_ s1
  -- source: the approved path without its trailing slashes; target: the approved path or a child of it
  have src : ∀ fn, fn = "rename" ∨ fn = "symlink" → ∀ rest, segOk f apps rest →
      segOk f apps (.fs fn true (renameSrc from_) :: rest) :=
    fun fn hfn rest => segOk_fs ⟨true, from_⟩ m1 l1 (covers_renameSrc fn from_ hfn) (by simp) hs'
  have tgt : ∀ fn, fn = "open" ∨ fn = "rename-to" ∨ fn = "symlink-to" → segOk f apps [.fs fn true target] :=
    fun fn hfn =>
      have ⟨tc, ts⟩ := target_covers_safe fn to _ target hfn n2 s2 hs' ht
      segOk_fs ⟨true, to⟩ m2 l2 tc (by simp) ts trivial
  unfold moveEvents
  split
  · trivial
  · split
    · exact src _ (Or.inr rfl) _ (tgt _ (Or.inr (Or.inr rfl)))
    · exact src _ (Or.inl rfl) _ (tgt _ (Or.inr (Or.inl rfl)))

theorem segOk_rename (f : String) (pol : Policy) (ex : List CStr) (sym : Bool) (a b : CStr)
    (apps : List Approval) (hop1 : opOk f "rename" = true) (hop2 : opOk f "file_size" = true) :
    segOk f apps (renameEfun pol ex sym a b) := by
  unfold renameEfun ask
  simp only
  cases h1 : checkValidPath true (pol.verdict true a) a with
  | none => exact segOk_ask_nil hop1
  | some from_ =>
    cases h2 : checkValidPath true (pol.verdict true b) b with
    | none => exact segOk_ask hop1 fun _ _ _ => segOk_ask_nil hop1
    | some to =>
      simp only
      split
      · exact segOk_ask hop1 fun _ _ _ => segOk_ask_nil hop1
      · split
        · simp only [List.append_assoc]
          exact segOk_ask hop1 fun _ _ _ => segOk_ask hop1 fun _ _ _ => segOk_ask_nil hop2
        · simp only [List.append_assoc]
          refine segOk_ask hop1 fun apps1 _ hP1 => segOk_ask hop1 fun apps2 sub2 hP2 =>
            segOk_ask hop2 fun apps3 sub3 hP3 => ?_
          -- both paths are still granted after the consultations that followed theirs
          have g1 := ((hP1 _ h1).mono sub2).mono sub3
          have g2 := (hP2 _ h2).mono sub3
          have mv : ∀ tl target, target = to ∨ target = to ++ '/' :: baseName (renameSrc from_) →
              segOk f apps3 (moveEvents sym tl (renameSrc from_) target) :=
            fun tl target ht => segOk_move f sym tl from_ to apps3 target g1.mem g2.mem
              g1.legal g1.isSafe g2.legal g2.isSafe g2.ne_nil ht
          cases h3 : checkValidPath true (pol.verdict false to) to with
          | none =>
            simp only [Bool.false_and, Bool.false_eq_true, ↓reduceIte, List.nil_append]
            exact mv _ _ (Or.inl rfl)
          | some q =>
            have g3 := hP3 q h3
            simp only
            exact segOk_fs ⟨false, q⟩ g3.mem g3.legal (covers_self _ q) (by simp) g3.isSafe
              (mv _ _ (target_cases _ to _))

theorem segOk_cpTail (f : String) (tl : Bool) (from_ to target : CStr) (apps : List Approval)
    (m2 : (⟨true, to⟩ : Approval) ∈ apps) (s1 : safe from_ = true)
    (l2 : specLegal to = true) (s2 : safe to = true) (n2 : to ≠ [])
    (ht : target = to ∨ target = to ++ '/' :: baseName from_) :
    segOk f apps (cpTail tl target) := by
  obtain ⟨tc, ts⟩ := target_covers_safe "open" to from_ target (Or.inl rfl) n2 s2 s1 ht
  unfold cpTail
  split
  · trivial
  · exact segOk_fs ⟨true, to⟩ m2 l2 tc (by simp) ts trivial

theorem segOk_cp (f : String) (pol : Policy) (ex : List CStr) (a b : CStr)
    (apps : List Approval) (hop : opOk f "cp" = true) :
    segOk f apps (cpEfun pol ex a b) := by
  unfold cpEfun ask
  simp only
  cases h1 : checkValidPath true (pol.verdict false a) a with
  | none => exact segOk_ask_nil hop
  | some from_ =>
    cases h2 : checkValidPath true (pol.verdict true b) b with
    | none => exact segOk_ask hop fun _ _ _ => segOk_ask_nil hop
    | some to =>
      simp only [List.append_assoc]
      refine segOk_ask hop fun apps1 _ hP1 => segOk_ask hop fun apps2 sub2 hP2 => ?_
      have g1 := (hP1 _ h1).mono sub2
      have g2 := hP2 _ h2
      refine segOk_fs ⟨false, from_⟩ g1.mem g1.legal (covers_self _ _) (by simp) g1.isSafe ?_
      split
      · trivial
      · refine segOk_fs ⟨true, to⟩ g2.mem g2.legal (covers_self _ _) (by simp) g2.isSafe
          (segOk_cpTail f _ from_ to _ apps2 g2.mem g1.isSafe g2.legal g2.isSafe g2.ne_nil (target_cases _ to _))

theorem segOk_save (f : String) (pol : Policy) (ex : List CStr) (a : CStr)
    (apps : List Approval) (hop : opOk f "save_object" = true) :
    segOk f apps (saveEfun pol ex a) := by
  unfold saveEfun ask
  refine segOk_askThen hop fun apps' P _ g => ?_
  have st : safe (P.take 250 ++ str ".tmp") = true :=
    safe_prefix_tmp (P.take 250) (P.drop 250) (by rw [List.take_append_drop]; exact g.isSafe)
  -- the temporary file "%.250s.tmp" and the approved path itself
  have tmp : ∀ fn, fn = "fopen" ∨ fn = "rename" ∨ fn = "unlink" → ∀ rest, segOk f apps' rest →
      segOk f apps' (.fs fn true (P.take 250 ++ str ".tmp") :: rest) :=
    fun fn hfn rest => segOk_fs ⟨true, P⟩ g.mem g.legal (covers_tmp fn P hfn) (by simp) st
  refine tmp _ (Or.inl rfl) _ ?_
  split
  · refine tmp _ (Or.inr (Or.inl rfl)) _ (segOk_fs ⟨true, P⟩ g.mem g.legal (covers_self _ P) (by simp) g.isSafe ?_)
    split
    · exact tmp _ (Or.inr (Or.inr rfl)) _ trivial
    · trivial
  · trivial

theorem edIo_false (r : Option CStr) (w : Bool) : edIo r false w = [] := by
  cases r <;> rfl

/-- what every file command of the editor does: ONE consultation of the kind of the access, then at most the
    `fopen` of exactly the approved path with that kind -/
theorem segOk_askIo (f : String) (pol : Policy) (w io : Bool) (file : CStr) (apps : List Approval)
    (hop : opOk f "ed_start" = true) :
    segOk f apps ((ask pol w file "ed_start").1 ++ edIo (ask pol w file "ed_start").2 io w) := by
  unfold ask edIo
  refine segOk_askThen hop fun apps' P _ g => ?_
  cases io with
  | false => trivial
  | true => exact segOk_fs ⟨w, P⟩ g.mem g.legal (covers_self _ P) (by cases w <;> simp) g.isSafe trivial

/-- a name that does not fit `file[MAXFNAME]` is not opened; otherwise `edFit` changes nothing -/
theorem edIo_edFit (r : Option CStr) (io w : Bool) : ∃ io', edIo (edFit r) io w = edIo r io' w := by
  cases r with
  | none => exact ⟨io, rfl⟩
  | some P =>
    unfold edFit
    simp only
    split
    · exact ⟨false, rfl⟩
    · exact ⟨io, rfl⟩

/-- `getfn`: the name is refused for its length before anything happens, or ONE file name that fits
    `file[MAXFNAME]` is put to the master and the answer has to fit as well -/
theorem edGetfn_cases (pol : Policy) (st : EdSt) (w : Bool) (arg : CStr) :
    edGetfn pol st w arg = ([], none) ∨
    ∃ file : CStr, file.length + 1 ≤ NV.Gen.C15.edMaxFname ∧
      edGetfn pol st w arg = ((ask pol w file "ed_start").1, edFit (ask pol w file "ed_start").2) := by
  by_cases h1 : arg = [] ∧ st.fname.length + 1 ≥ NV.Gen.C15.edMaxFname
  · exact Or.inl (by rw [edGetfn, if_pos h1])
  · by_cases h2 : arg.length ≥ NV.Gen.C15.edMaxFname
    · exact Or.inl (by rw [edGetfn, if_neg h1, if_pos h2])
    · refine Or.inr ⟨_, ?_, by rw [edGetfn, if_neg h1, if_neg h2]⟩
      have h0 : (if arg = [] then '/' :: st.fname else arg).length + 1 ≤ NV.Gen.C15.edMaxFname := by
        split
        · rename_i ha
          have : ¬ (st.fname.length + 1 ≥ NV.Gen.C15.edMaxFname) := fun hh => h1 ⟨ha, hh⟩
          rw [List.length_cons]; omega
        · omega
      generalize (if arg = [] then '/' :: st.fname else arg) = file0 at h0 ⊢
      split
      · exact h0
      · rw [List.length_take]; omega

/-- the events of a command that got its name from `getfn`: nothing (name refused for its length), or ONE
    consultation followed by at most the `fopen` of exactly the approved path -/
theorem segOk_getfnIo (f : String) (pol : Policy) (st : EdSt) (w io : Bool) (arg : CStr) (apps : List Approval)
    (hop : opOk f "ed_start" = true) :
    segOk f apps ((edGetfn pol st w arg).1 ++ edIo (edGetfn pol st w arg).2 io w) := by
  rcases edGetfn_cases pol st w arg with h | ⟨file, _, h⟩
  · rw [h]; trivial
  · obtain ⟨io', h'⟩ := edIo_edFit (ask pol w file "ed_start").2 io w
    rw [h, h']
    exact segOk_askIo f pol w io' file apps hop

theorem opOk_ed : opOk "ed" "ed_start" = true := by decide +kernel

theorem segOk_edStep (f : String) (pol : Policy) (ex : List CStr) (st : EdSt) (c : EdCmd) (apps : List Approval)
    (hf : f = "ed") (hop : opOk f "ed_start" = true) : segOk f apps (edStep pol ex st c).1 := by
  cases c with
  | D name =>
    simp only [edStep, segOk]
    refine ⟨hf, ?_⟩
    split
    · rename_i hl
      exact segOk_fs ⟨true, stripOneSlash name⟩ List.mem_cons_self (legalPath_eq_spec _ ▸ hl) (covers_self _ _) rfl
        (legal_path_safe _ hl) trivial
    · trivial
  | start file => exact segOk_askIo f pol false true file apps hop
  | a t => simp [edStep, segOk]
  | e arg =>
    simp only [edStep]
    split
    · simp [segOk]
    · exact segOk_getfnIo f pol st false true _ apps hop
  | E arg => exact segOk_getfnIo f pol st false true _ apps hop
  | f arg =>
    have := segOk_getfnIo f pol st false false arg apps hop
    rw [edIo_false, List.append_nil] at this
    exact this
  | r arg => exact segOk_getfnIo f pol st false true _ apps hop
  | w arg => exact segOk_getfnIo f pol st true _ _ apps hop
  | W arg => exact segOk_getfnIo f pol st true _ _ apps hop
  | x => exact segOk_getfnIo f pol st true true _ apps hop
  | q => simp [edStep, segOk]
  | Q => simp [edStep, segOk]

/-- the file efuns of the system-style model (= the keys of the oracle's operation-name table) -/
def efunNames : List String :=
  ["read_file", "write_file", "rm", "mkdir", "rmdir", "file_size", "file_length", "tail", "read_bytes",
   "read_buffer", "write_bytes", "write_buffer", "restore_object", "dumpallobj", "dump_prog", "get_dir", "stat",
   "rename", "link", "cp", "save_object", "ed", "get_dir1", "stat1"]

example : efunNames.all (fun f => (opNames.map (·.1)).contains f) = true ∧
    (opNames.map (·.1)).all (fun f => efunNames.contains f) = true := by decide_paths

/-- the trace of every arm of the dispatch `efunEvents` is a segment the oracle accepts; no hypothesis on the
    name is needed: a name that is not in the table leaves a `note` only -/
theorem efunEvents_segOk (pol : Policy) (ex : List CStr) (efun : String) (a b : CStr) :
    segOk efun [] (efunEvents pol ex efun a b) := by
  unfold efunEvents
  split
  -- the arms of `efunEvents` in order: first the fifteen efuns that make one libc call on the approved path (one
  -- shape, one lemma); every later bullet names its efun, so an arm out of place is a type mismatch at that bullet
  iterate 15 exact segOk_single _ _ _ _ _ _ _ _ (by decide) (by decide)
  · exact segOk_getDir "get_dir" _ _ _ _ _ (by decide)
  · exact segOk_stat "stat" _ _ _ _ _ (by decide)
  · exact segOk_getDir "get_dir1" _ _ _ _ _ (by decide)
  · exact segOk_stat "stat1" _ _ _ _ _ (by decide)
  · exact segOk_rename "rename" _ _ _ _ _ _ (by decide) (by decide)
  · exact segOk_rename "link" _ _ _ _ _ _ (by decide) (by decide)    -- behind the `valid_link` note
  · exact segOk_cp "cp" _ _ _ _ _ (by decide)
  · exact segOk_save "save_object" _ _ _ _ (by decide)
  · exact segOk_edStep "ed" _ _ _ _ _ rfl opOk_ed
  · trivial                                                          -- any other name: one note

set_option linter.unusedVariables false in  -- `h` is not needed: see `efunEvents_segOk`
theorem efun_segOk (pol : Policy) (ex : List CStr) (efun : String) (a b : CStr) (h : efun ∈ efunNames) :
    segOk efun [] (efunEvents pol ex efun a b) :=
  efunEvents_segOk pol ex efun a b

theorem efunNames_mediated : ∀ f ∈ efunNames, compileCalls.contains f = false := by decide +kernel

/-- **model_satisfies_spec**: for every file efun, every argument string(s), every master policy and every
    file-system content, the oracle finds nothing to object to in the model's trace. -/
theorem model_satisfies_spec (pol : Policy) (ex : List CStr) (efun : String) (args : List CStr) (a b : CStr)
    (h : efun ∈ efunNames) :
    judgeEv (.call efun whoObj args :: efunEvents pol ex efun a b) = [] := by
  exact judge_of_segOk _ _ _ (efunNames_mediated efun h) (efunEvents_segOk pol ex efun a b)

/-- without valid_read / valid_write the consultation lines are absent from the trace and the oracle demands
    confinement only: a segment that satisfies `segOk` changes nothing but the approvals -/
theorem fold_absent (f : String) : ∀ (evs : List Ev) (apps : List Approval) (s : JState),
    s.absent = true → s.efun = f → segOk f apps evs →
    ∃ apps', (evs.filter (fun e => !e.isValid)).foldl judgeStep s = { s with approvals := apps' } := by
  intro evs apps s ha he hs
  -- the clauses of `segOk` in order: [], valid, fs, note, nest, edsave, any other event
  fun_induction segOk f apps evs generalizing s
  case case1 => exact ⟨s.approvals, rfl⟩
  case case2 ih =>
    obtain ⟨_, _, hs⟩ := hs
    exact ih s ha he hs
  case case3 ih =>
    obtain ⟨hsafe, _, hs⟩ := hs
    rw [List.filter_cons_of_pos (by rfl), List.foldl_cons, judgeStep_fs s _ _ _ hsafe (Or.inr (Or.inl ha))]
    exact ih s ha he hs
  case case4 ih => exact ih s ha he hs
  case case5 ih =>
    rw [List.filter_cons_of_pos (by rfl), List.foldl_cons, judgeStep_nest s _ _ _ _ hs.1]
    exact ih s ha he hs.2
  case case6 ih =>
    rw [List.filter_cons_of_pos (by rfl), List.foldl_cons, judgeStep_edsave s _ _ (he.trans hs.1)]
    exact ih { s with approvals := _ } ha he hs.2
  case case7 => exact hs.elim

set_option linter.unusedVariables false in  -- `h` is not needed: confinement holds for any efun name
/-- **model_satisfies_spec, master without valid_read / valid_write** (as coded: everything is approved, nothing
    is logged): the oracle — which in this mode can only demand confinement — has no objection: every path the
    model touches is relative and free of "..", for every efun and every argument. -/
theorem model_satisfies_spec_absent (pol : Policy) (ex : List CStr) (efun : String) (args : List CStr) (a b : CStr)
    (h : efun ∈ efunNames) :
    judgeEv (.mode true :: .call efun whoObj args :: sysEvents true pol ex efun a b) = [] := by
  unfold judgeEv sysEvents
  simp only [↓reduceIte, List.foldl_cons]
  obtain ⟨apps', this⟩ := fold_absent efun _ [] (judgeStep (judgeStep {} (.mode true)) (.call efun whoObj args)) rfl rfl
    (efunEvents_segOk .allow ex efun a b)
  rw [this]; rfl

/-- with a master that has the functions `sysEvents` is `efunEvents` -/
theorem model_satisfies_spec_present (pol : Policy) (ex : List CStr) (efun : String) (args : List CStr) (a b : CStr)
    (h : efun ∈ efunNames) :
    judgeEv (.call efun whoObj args :: sysEvents false pol ex efun a b) = [] := by
  simpa [sysEvents] using model_satisfies_spec pol ex efun args a b h

/-- every command of an editing session is a segment of its own that the oracle accepts -/
theorem segOk_edCmd (pol : Policy) (ex : List CStr) (st : EdSt) (c : EdCmd) : segOk "ed" [] (edStep pol ex st c).1 :=
  segOk_edStep "ed" pol ex st c [] rfl opOk_ed

theorem fold_session (pol : Policy) (ex : List CStr) : ∀ (cmds : List EdCmd) (st : EdSt) (s : JState),
    s.bad = [] → ((edSession pol ex st cmds).foldl judgeStep s).bad = [] := by
  intro cmds
  induction cmds with
  | nil => intro _ s h; exact h
  | cons c cs ih =>
    intro st s hb
    unfold edSession
    by_cases hr : edRuns st c = true
    · rw [if_pos hr, List.cons_append, List.foldl_cons, List.foldl_append]
      apply ih
      exact fold_ok "ed" (by decide) _ (judgeStep s (.call "ed" whoObj c.callArgs)) hb rfl rfl
        (segOk_edCmd pol ex st c)
    · rw [if_neg hr]; exact ih st s hb

/-- **model_satisfies_spec for editing sessions**: for every sequence of editor commands (ed (file), text input,
    e / E / f / r / w / W with or without a file name, x, q, Q, D = the user goes net-dead), every file name and
    every master policy — in particular masters that approve reads and deny writes — every `fopen` of the session
    is preceded, within the same command, by a consultation of the right kind (valid_write for w / W / x,
    valid_read for the others) that approved exactly that path; for D, by the master's own choice of the save
    file (`Ev.edsave`), which licenses the write only if that path is legal. -/
theorem ed_session_satisfies_spec (pol : Policy) (ex : List CStr) (st : EdSt) (cmds : List EdCmd) :
    judgeEv (edSession pol ex st cmds) = [] := by
  unfold judgeEv
  rw [fold_session pol ex cmds st {} rfl]; rfl

theorem fold_session_absent (ex : List CStr) : ∀ (cmds : List EdCmd) (st : EdSt) (s : JState),
    s.bad = [] → s.absent = true →
    (((edSession .allow ex st cmds).filter (fun e => !e.isValid)).foldl judgeStep s).bad = [] := by
  intro cmds
  induction cmds with
  | nil => intro _ s h _; exact h
  | cons c cs ih =>
    intro st s hb ha
    unfold edSession
    by_cases hr : edRuns st c = true
    · rw [if_pos hr, List.cons_append, List.filter_cons_of_pos (by rfl), List.filter_append, List.foldl_cons,
        List.foldl_append]
      obtain ⟨apps', hfa⟩ := fold_absent "ed" _ [] (judgeStep s (.call "ed" whoObj c.callArgs)) ha rfl
        (segOk_edCmd .allow ex st c)
      rw [hfa]
      exact ih _ _ hb ha
    · rw [if_neg hr]; exact ih st s hb ha

theorem ed_session_satisfies_spec_absent (pol : Policy) (ex : List CStr) (cmds : List EdCmd) :
    judgeEv (.mode true :: sysSession true pol ex cmds) = [] := by
  unfold judgeEv sysSession
  simp only [↓reduceIte, List.foldl_cons]
  rw [fold_session_absent ex cmds {} _ rfl rfl]; rfl

/-! ### the compiler: load_object, #include, inherit (no master consultation; the oracle demands confinement) -/

def allSafeFs (evs : List Ev) : Prop := ∀ e ∈ evs, ∃ fn w p, e = Ev.fs fn w p ∧ safe p = true

theorem fold_compile (f : String) (hf : compileCalls.contains f = true) : ∀ (evs : List Ev) (s : JState),
    s.efun = f → allSafeFs evs → evs.foldl judgeStep s = s := by
  intro evs s he h
  refine List.foldlRecOn evs judgeStep (motive := (· = s)) rfl fun s' hs' e hm => ?_
  obtain ⟨fn, w, p, rfl, hs⟩ := h e hm
  rw [hs']
  exact judgeStep_fs s fn w p hs (Or.inl (he ▸ hf))

theorem judge_compile (f : String) (args : List CStr) (evs : List Ev) (hf : compileCalls.contains f = true)
    (h : allSafeFs evs) : judgeEv (.call f "-" args :: evs) = [] := by
  unfold judgeEv
  rw [List.foldl_cons, fold_compile f hf evs _ rfl h]; rfl

theorem allSafeFs_append {a b : List Ev} (ha : allSafeFs a) (hb : allSafeFs b) : allSafeFs (a ++ b) :=
  List.forall_mem_append.mpr ⟨ha, hb⟩

theorem allSafeFs_nil : allSafeFs [] := fun _ he => nomatch he

theorem allSafeFs_option (fn : String) (w : Bool) (o : Option CStr) :
    (∀ p, o = some p → safe p = true) → allSafeFs (match o with
      | none => []
      | some p => [Ev.fs fn w p]) := by
  cases o with
  | none => exact fun _ => allSafeFs_nil
  | some p => exact fun h e he => ⟨fn, w, p, List.mem_singleton.mp he, h p rfl⟩

theorem loadEvents_safe (ex : List CStr) (name : CStr) : allSafeFs (loadEvents ex name).1 := by
  unfold loadEvents
  cases h : loadAccess name (fun p => (lookup ex p).isSome) with
  | none => exact allSafeFs_nil
  | some a =>
    exact allSafeFs_append (allSafeFs_option _ _ _ fun p hp => load_probe_confined name _ a p h (Or.inl hp))
      (allSafeFs_option _ _ _ fun p hp => load_probe_confined name _ a p h (Or.inr hp))

theorem includeOpens_go_safe (ex : List CStr) : ∀ ts : List CStr, (∀ t ∈ ts, safe t = true) →
    allSafeFs (includeOpens.go ex ts) := by
  intro ts
  induction ts with
  | nil => exact fun _ => allSafeFs_nil
  | cons t rest ih =>
    intro h e he
    simp only [includeOpens.go, List.mem_cons] at he
    rcases he with rfl | he
    · exact ⟨_, _, _, rfl, h t (by simp)⟩
    · split at he
      · simp at he
      · exact ih (fun t' ht' => h t' (by simp [ht'])) e he

/-- **model_satisfies_spec, compiler part**: whatever object name is loaded, whatever `#include` / `inherit`
    name a source file contains, every path the loader model stats or opens is relative and free of "..". -/
theorem load_model_satisfies_spec (ex : List CStr) (name : CStr) :
    judgeEv (.call "load" "-" [name] :: (loadEvents ex name).1) = [] :=
  judge_compile "load" _ _ (by decide) (loadEvents_safe ex name)

/-- saved binaries (observation level): the model's trace has no libc line at all — the statement carried by the
    run is the oracle's: a libc call on an unsafe path printed by the harness in this mode is `fs-absolute` /
    `fs-dotdot` -/
theorem binary_model_satisfies_spec (name : CStr) :
    judgeEv (.call "binary" "-" [name] :: binaryEvents name) = [] := by
  simp [judgeEv, binaryEvents, judgeStep]

example : judgeEv [.call "binary" "-" [str "/d/b"], .fs "fopen" true (str "../bin/d/b.b")] ≠ [] := by decide_paths
example : judgeEv [.call "binary" "-" [str "/d/b"], .fs "stat" false (str "/bin")] ≠ [] := by decide_paths

theorem include_model_satisfies_spec (base name : CStr) :
    judgeEv (.call "include" "-" [base, name] :: includeEvents base name) = [] := by
  apply judge_compile "include" _ _ (by decide)
  unfold includeEvents
  simp only
  apply allSafeFs_append (loadEvents_safe _ _)
  split
  · unfold includeOpens
    apply includeOpens_go_safe
    intro t ht
    exact include_path_confined_config [str "/include", str "/"] base name t ht
  · exact allSafeFs_nil

theorem inherit_model_satisfies_spec (base name : CStr) :
    judgeEv (.call "inherit" "-" [base, name] :: inheritEvents base name) = [] := by
  apply judge_compile "inherit" _ _ (by decide)
  unfold inheritEvents
  split
  · exact loadEvents_safe _ _
  · apply allSafeFs_append (allSafeFs_append (loadEvents_safe _ _) (loadEvents_safe _ _))
    split
    · exact loadEvents_safe _ _
    · exact allSafeFs_nil

/-- non-vacuity: a session that writes, and the oracle's objection to a write nobody approved as a write -/
example : edSession .readOnly [] {} [.start (str "/d/f.txt"), .a (str "x"), .w [], .Q] =
    [.call "ed" whoObj [str "ed", str "/d/f.txt"], .valid false (str "/d/f.txt") whoObj "ed_start" .ok,
     .fs "fopen" false (str "d/f.txt"),
     .call "ed" whoObj [str "a", str "x"],
     .call "ed" whoObj [str "w", []], .valid true (str "/d/f.txt") whoObj "ed_start" .deny,
     .call "ed" whoObj [str "Q", []]] := by decide_paths
example : judgeEv [.call "ed" whoObj [str "ed", str "/d/f.txt"], .valid false (str "/d/f.txt") whoObj "ed_start" .ok,
     .fs "fopen" false (str "d/f.txt"), .call "ed" whoObj [str "w", []], .fs "fopen" true (str "d/f.txt")] ≠ [] := by
  decide_paths
example : judgeEv [.call "ed" whoObj [str "w", []], .valid false (str "/d/f.txt") whoObj "ed_start" .ok,
     .fs "fopen" true (str "d/f.txt")] ≠ [] := by decide_paths

/-- non-vacuity: a trace with real events, and the oracle does object to an unmediated touch -/
example : (efunEvents .allow [] "rename" (str "/d/f.txt") (str "/d/sub")).length = 6 := by decide_paths
example : efunEvents .raise [] "rename" (str "/d/f.txt") (str "/d/sub") =
    [.valid true (str "/d/f.txt") whoObj "rename" .raise] := by decide_paths
example : efunEvents (.raiseOn (str "d/sub")) [] "rename" (str "/d/f.txt") (str "/d/sub") =
    [.valid true (str "/d/f.txt") whoObj "rename" .ok, .valid true (str "/d/sub") whoObj "rename" .ok,
     .valid false (str "d/sub") whoObj "file_size" .raise] := by decide_paths
/-- fail open is an objection: the master raised an error and the file is touched all the same -/
example : judgeEv [.call "rm" whoObj [str "/d/f"], .valid true (str "/d/f") whoObj "remove_file" .raise,
                   .fs "unlink" true (str "d/f")] ≠ [] := by decide_paths
example : judgeEv [.call "rm" whoObj [str "/d/f"], .fs "unlink" true (str "d/f")] ≠ [] := by decide_paths
example : judgeEv [.call "rm" whoObj [str "/d/f"], .valid false (str "/d/f") whoObj "remove_file" .ok,
                   .fs "unlink" true (str "d/f")] ≠ [] := by decide_paths

end NV.C15
