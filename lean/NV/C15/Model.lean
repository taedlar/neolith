/-
C15 — executable model of the path filter of the driver, written from the C code that exists.

C strings are `List Char` (`CStr`): the end of the list plays the role of the terminating NUL, so a
`CStr` never "contains" a NUL (a C string cannot either).  Every function mirrors its C original
statement by statement; the quirks are kept (see the comments).

  legalPath        lib/efuns/file_utils.c  legal_path()
  checkValidPath   lib/efuns/file_utils.c  check_valid_path()   (master verdict is an input)
  stripName        lib/lpc/otable.c        strip_name()
  incNormal        lib/lpc/lex.c           inc_lexically_normal()
  incTries         lib/lpc/lex.c           inc_open()           (list of paths it tries to open, in order)
  loadRealName, loadAccess   src/simulate.c   load_object() name handling
-/
import NV.Gen.C15

namespace NV.C15

abbrev CStr := List Char

def str (s : String) : CStr := s.toList
def unstr (s : CStr) : String := String.ofList s

/-! ### legal_path -/

/-- `p = strstr (p, "/."); if (p) p++;`  — the suffix that starts at the '.' of the first "/." in `p` -/
def nextDot : CStr → Option CStr
  | [] => none
  | c :: r => if c = '/' ∧ r.head? = some '.' then some r else nextDot r

/-- outcome of the `if (p[0] == '.') { ... }` block of the loop body -/
inductive Step where
  | accept            -- `break` (trailing ".")
  | reject            -- `return 0`
  | cont (p : CStr)   -- fall through to the strstr with this `p`
  deriving Repr, DecidableEq

/--
```
if (p[0] == '.') {
    if (p[1] == '\0') break;              /* trailing `.' ok */
    if (p[1] == '.')  p++;                /* check for `..' or `../' */
    if (p[1] == '/' || p[1] == '\0') return 0;
}
``` -/
def legalStep (p : CStr) : Step :=
  match p with
  | [] => .cont []
  | c0 :: r0 =>
    if c0 ≠ '.' then .cont p else
    match r0 with
    | [] => .accept
    | c1 :: r1 =>
      if c1 = '.' then                      -- p++  (p is now r0 = '.' :: r1)
        match r1 with
        | [] => .reject
        | c2 :: _ => if c2 = '/' then .reject else .cont r0
      else if c1 = '/' then .reject else .cont p

/-- the `while (p)` loop; the fuel is an upper bound of the number of iterations (every iteration
    moves `p` strictly to the right, see `nextDot_length`) -/
def legalLoop : Nat → CStr → Bool
  | 0, _ => true
  | n + 1, p =>
    match legalStep p with
    | .accept => true
    | .reject => false
    | .cont p' =>
      match nextDot p' with
      | none => true
      | some q => legalLoop n q

/-- `int legal_path (const char *path)` (non-Windows branch) -/
def legalPath (s : CStr) : Bool :=
  if s.head? = some '/' then false          -- absolute path rejected
  else if '#' ∈ s then false                -- strchr (path, '#')
  else legalLoop (s.length + 1) s

/-! ### check_valid_path -/

/-- what `apply_master_ob (valid_read / valid_write)` did.  `apply_master_ob` does NOT catch errors (it is not
    `safe_apply_master_ob`): an error raised by the master function unwinds through `check_valid_path` and the
    efun that called it. -/
inductive Verdict where
  | deny                    -- T_NUMBER 0
  | ok                      -- T_NUMBER 1
  | rewrite (s : CStr)      -- T_STRING: the master substitutes its own path
  | odd (what : String)     -- any other value (negative / other int, float — even 0.0 —, array, object …):
                            -- `!(type == T_NUMBER && number == 0)` and not a string ⇒ treated as approval
  | absent                  -- the apply returned NULL: the master does not define the function ⇒ `v == 0` is
                            -- treated as approval of the ORIGINAL path (as coded; cf. MASTER_APPROVED)
  | raise                   -- the master function raised a runtime error: nothing is returned at all
  deriving Repr, DecidableEq

/-- does control come back from the master call? -/
def Verdict.raises : Verdict → Bool
  | .raise => true
  | _ => false

/-- `if (ret_path[0] == '/') ret_path++;` -/
def stripOneSlash (s : CStr) : CStr := if s.head? = some '/' then s.tail else s

/-- the tail of `check_valid_path` once the answer string is known -/
def cvpFinish (r : CStr) : Option CStr :=
  let r := stripOneSlash r                   -- if (ret_path[0] == '/') ret_path++;
  let r := if r = [] then ['.'] else r       -- if (ret_path[0] == '\0') ret_path = ".";
  if legalPath r then some r else none

/-- `char *check_valid_path (path, call_object, call_fun, writeflg)`;
    `callerOk = false` is `call_object == 0 || call_object->flags & O_DESTRUCTED` -/
def checkValidPath (callerOk : Bool) (v : Verdict) (path : CStr) : Option CStr :=
  if !callerOk then none else
  match v with
  | .deny => none                            -- T_NUMBER 0
  | .raise => none                           -- the error unwinds: no path, the caller does not continue
  | .ok => cvpFinish path                    -- ret_path = string_copy (path)
  | .odd _ => cvpFinish path                 --   "
  | .absent => cvpFinish path                --   "   (v == 0)
  | .rewrite s => cvpFinish s                -- ret_path = v->u.string

/-! ### strip_name -/

/-- the copy loop: at most `room` characters, `none` on a double slash -/
def copyNoDbl : Nat → Char → CStr → Option CStr
  | 0, _, _ => some []
  | _, _, [] => some []
  | n + 1, last, c :: r =>
    if last = '/' ∧ c = '/' then none
    else (copyNoDbl n c r).map (c :: ·)

/-- `while ((p - dest > 2) && p[-1] == 'c' && p[-2] == '.') p -= 2;` on the reversed string -/
def stripDotCRev : CStr → CStr
  | c :: d :: rest => if c = 'c' ∧ d = '.' ∧ rest.length > 0 then stripDotCRev rest else c :: d :: rest
  | r => r

/-- `int strip_name (const char *src, char *dest, size_t size)`; `none` = returns 0.
    Default size: `char name[PATH_MAX - 2]` of `load_object` (regenerated constant). -/
def stripName (src : CStr) (size : Nat := NV.Gen.C15.pathMax - 2) : Option CStr :=
  match copyNoDbl (size - 1) '\x00' (src.dropWhile (· = '/')) with
  | none => none
  | some d => some (stripDotCRev d.reverse).reverse

/-! ### load_object name handling -/

/-- `real_name` of `load_object (mudlib_filename)`: `strip_name` + ".c"; `none` = error "consecutive /'s" -/
def loadRealName (name : CStr) : Option CStr :=
  (stripName name).map (· ++ ['.', 'c'])

/-- paths `load_object` passes to the file system (`pre_text == NULL`): the name must pass `legal_path`
    BEFORE `stat (real_name)` (repaired code), the `open` follows when the stat succeeded. -/
structure LoadAccess where
  probe : Option CStr       -- stat (real_name)
  opened : Option CStr      -- FILE_OPEN (real_name)
  deriving Repr, DecidableEq

def loadAccess (name : CStr) (exists_ : CStr → Bool) : Option LoadAccess :=
  match loadRealName name with
  | none => none                                   -- error "consecutive /'s"
  | some rn =>
    if legalPath rn then                            -- legal = legal_path (real_name)
      some { probe := some rn, opened := if exists_ rn then some rn else none }
    else some { probe := none, opened := none }     -- treated as not found, never looked up

/-! ### #include path handling -/

/-- `if ((slash = strrchr (dest, '/'))) *slash = 0; else *dest = 0;` -/
def cutLast (d : CStr) : CStr :=
  if '/' ∈ d then (d.reverse.dropWhile (· ≠ '/')).drop 1 |>.reverse else []

def startsWith (s pre : CStr) : Bool := s.take pre.length == pre

/-- the `while (*from)` loop of `inc_lexically_normal` (repaired: the slashes that follow a "../" or
    "./" are skipped with it, so the append branch never starts at a '/').
    `slashQuirk = true` is the code before that repair: `slash = strchr (from, '/')` was computed
    BEFORE the `while (*from == '/') from++`, so for a `from` starting with '/' the length
    `slash - from` was negative (huge as a `size_t`) and `strncat` appended ALL of the remaining
    text unnormalised; the same text was then processed again. -/
def incLoop (slashQuirk : Bool) : Nat → CStr → CStr → CStr
  | 0, d, _ => d
  | n + 1, d, f =>
    let skip (g : CStr) : CStr := if slashQuirk then g else g.dropWhile (· = '/')
    if f = [] then d
    else if startsWith f ['.', '.', '/'] then
      if d = [] then d                                   -- break: above the mudlib
      else incLoop slashQuirk n (cutLast d) (skip (f.drop 3))
    else if startsWith f ['.', '/'] then incLoop slashQuirk n d (skip (f.drop 2))
    else
      let d1 := if d = [] then d else d ++ ['/']
      if '/' ∈ f then
        let f1 := f.dropWhile (· = '/')
        let app := if f.head? = some '/' then f1 else f.takeWhile (· ≠ '/')
        let rest := ((f.dropWhile (· ≠ '/')).drop 1).dropWhile (· = '/')
        incLoop slashQuirk n (d1 ++ app) rest
      else d1 ++ f

/-- `static void inc_lexically_normal (const char *abs_base, const char *name, char *dest)` -/
def incNormal (base name : CStr) (slashQuirk : Bool := false) : CStr :=
  let dest := cutLast base                                -- directory of the including file ("" = root)
  let from_ := name.dropWhile (· = '/')
  let dest := if name.head? = some '/' then [] else dest  -- absolute include: from the mudlib root
  incLoop slashQuirk (from_.length + 1) dest from_

/-- one entry of the include search path as `set_inc_list` stores it: one leading '/' removed, "" read as
    "." (the mudlib directory), dropped unless `legal_path` -/
def incDirOf (entry : CStr) : Option CStr :=
  let p := stripOneSlash entry
  let p := if p = [] then ['.'] else p
  if legalPath p then some p else none

/-- split at every ':' (never empty: `splitColon "" = [""]`) -/
def splitColon : CStr → List CStr
  | [] => [[]]
  | c :: r =>
    if c = ':' then [] :: splitColon r
    else match splitColon r with
      | [] => [[c]]
      | h :: t => (c :: h) :: t

/-- `set_inc_list (list)`: one slot per ':'-separated entry, `none` = dropped ("unsafe directory removed");
    an empty list string leaves the search path alone (`none`) -/
def incListOf (list : CStr) : Option (List (Option CStr)) :=
  if list = [] then none else some ((splitColon list).map incDirOf)

/-- `for (p = strchr (name, '.'); p; p = strchr (p + 1, '.')) if (p[1] == '.') return -1;` -/
def hasDotDot : CStr → Bool
  | [] => false
  | c :: r => (c = '.' ∧ r.head? = some '.') || hasDotDot r

/-- the paths `inc_open (buf, name)` hands to `open()`, in order, until one succeeds.
    `guarded = true` is the repaired code (the normalised path must pass `legal_path`);
    `guarded = false` the code before the repair.  Combinations that do not fit the 1024-byte path
    buffer (`INC_BUF_SIZE`) are refused. -/
def incTries (guarded : Bool) (incDirs : List CStr) (base name : CStr) : List CStr :=
  if base.length + name.length + 2 > NV.Gen.C15.incBufSize then [] else
  let first := incNormal base name (slashQuirk := !guarded)
  (if !guarded || legalPath first then [first] else []) ++
  (if hasDotDot name then []
   else (incDirs.filter (fun d => !(d.length + name.length + 2 > NV.Gen.C15.incBufSize))).map
          (fun d => d ++ ['/'] ++ name))

end NV.C15
