/-
C15 — path lengths, C buffers, whole histories of calls and symbolic links.

* the sizes of the C path buffers (`temppath`, `newfrom`, `newto`, the editor's `file`) and the limits they are
  guarded with are regenerated from the source (`NV.Gen.C15`); the theorems below say that, in the model of the
  repaired code, NO path is ever cut after it was approved and every copy fits its buffer, for all paths;
* `history_satisfies_spec`: `model_satisfies_spec` for any sequence of efun calls (approvals never carry over);
* what is promised about symbolic links: `link ()` only creates links whose target text is an approved path
  (relative, no ".." component); in a mudlib all of whose links have such targets the kernel's expansion of a
  confined path stays confined.
-/
import NV.C15.PropsSys

namespace NV.C15

open NV.Gen.C15

/-- `temppath` holds a path of MAX_PATH_LEN characters + '/' + a name of MAX_FNAME_SIZE characters + NUL; the
    other path buffers of file_utils.c have the same size; the editor's buffers are MAXFNAME -/
theorem buffer_sizes :
    getDirTemppathSize = maxPathLen + 1 + maxFnameSize + 1 ∧ getDirRegexppathSize = getDirTemppathSize ∧
    renameNewfromSize = getDirTemppathSize ∧ renameNewtoSize = getDirTemppathSize ∧
    cpNewtoSize = getDirTemppathSize ∧ edFileSize = edMaxFname ∧ 2 ≤ edMaxFname ∧
    saveBinaryNameSize ≤ loadBinaryNameSize / 2 := by decide

/-- every length guard the model relies on is present in the source (regenerated: function, source text of the
    comparison, number of occurrences).  A guard that is removed, or whose operator / operand changes, breaks this
    obligation. -/
theorem buffer_guards_present : lengthGuards.all (fun g => decide (g.2.2 ≥ 1)) = true ∧ lengthGuards.length = 20 := by
  decide

/-- the per-entry name `temppath "/" d_name` (+ NUL) of `get_dir (path, -1)` fits `temppath` for every path that
    passed the guard and every directory entry name of at most MAX_FNAME_SIZE characters, whether the listed
    directory is the path itself or (pattern) its directory part -/
theorem getdir_entry_fits (P n : CStr) (h0 : P ≠ []) (h : ¬ P.length > maxPathLen) (hn : n.length ≤ maxFnameSize) :
    (listDir P ++ ['/'] ++ n).length + 1 ≤ getDirTemppathSize ∧
    (parentDir (listDir P) ++ ['/'] ++ n).length + 1 ≤ getDirTemppathSize := by
  have h1 := length_le_of_cut (listDir_cut P)
  have hs : getDirTemppathSize = maxPathLen + 1 + maxFnameSize + 1 := by decide
  have h2 : (parentDir (listDir P)).length ≤ P.length := by
    by_cases hl : listDir P = []
    · rw [hl]
      have : P.length ≥ 1 := by
        cases P with
        | nil => exact absurd rfl h0
        | cons c r => simp
      simpa [parentDir, dot] using this
    · exact Nat.le_trans (length_parentDir_le _ hl) h1
  simp only [List.length_append, List.length_cons, List.length_nil]
  omega

/-- a longer path touches nothing (repaired code) -/
theorem getdir_long_path_refused (ex : List CStr) (P : CStr) (fl : Bool) (h : P.length > maxPathLen) :
    getDirFs ex P fl = [] := by
  unfold getDirFs
  simp [h]

/-- a path `getfn` returns fits `file[MAXFNAME]` (with its NUL) and is EXACTLY the path `check_valid_path`
    approved in this call: nothing is cut after the approval -/
theorem ed_getfn_exact (pol : Policy) (st : EdSt) (w : Bool) (arg P : CStr)
    (h : (edGetfn pol st w arg).2 = some P) :
    P.length + 1 ≤ edFileSize ∧
    ∃ file, (edGetfn pol st w arg).1 = (ask pol w file "ed_start").1 ∧ (ask pol w file "ed_start").2 = some P ∧
      file.length + 1 ≤ edFileSize := by
  have hsz : edFileSize = edMaxFname := by decide
  rcases edGetfn_cases pol st w arg with e | ⟨file, hlen, e⟩
  · rw [e] at h; cases h
  · rw [e] at h ⊢
    cases hr : (ask pol w file "ed_start").2 with
    | none => simp [hr, edFit] at h
    | some Q =>
      simp only [hr, edFit] at h
      split at h
      · cases h
      · cases h
        exact ⟨by omega, file, rfl, hr, by omega⟩

/-- `memcpy (newfrom, from, n); newfrom[n] = 0` is reached only with `n < sizeof newfrom`: when the stripped
    source does not fit, the model of the repaired code stops after the two consultations -/
theorem rename_newfrom_fits (pol : Policy) (ex : List CStr) (sym : Bool) (a b from_ to : CStr)
    (h1 : checkValidPath true (pol.verdict true a) a = some from_)
    (h2 : checkValidPath true (pol.verdict true b) b = some to)
    (hs : from_.length > 1 ∧ from_.getLast? = some '/')
    (hl : (stripTrailSlash from_).length ≥ renameNewfromSize) :
    renameEfun pol ex sym a b = (ask pol true a "rename").1 ++ (ask pol true b "rename").1 := by
  have hfit : renameSrcFits from_ = false := by simp [renameSrcFits, hs, hl]
  unfold renameEfun ask
  simp only [h1, h2, hfit, Bool.not_false, ↓reduceIte]

/-- whenever the stripped copy IS made it fits the buffer together with its NUL -/
theorem rename_copy_fits (from_ : CStr) (h : renameSrcFits from_ = true)
    (hs : from_.length > 1 ∧ from_.getLast? = some '/') :
    (renameSrc from_).length + 1 ≤ renameNewfromSize := by
  simp only [renameSrcFits, hs, and_self, decide_true, Bool.true_and, Bool.not_eq_eq_eq_not, Bool.not_true,
    decide_eq_false_iff_not, ge_iff_le, Nat.not_le] at h
  simp only [renameSrc, hs, and_self, ↓reduceIte]
  omega

/-- one efun call of a case: the master policy in force, the files the harness added, the efun and its arguments -/
structure CallSpec where
  pol : Policy
  ex : List CStr
  efun : String
  args : List CStr
  a : CStr
  b : CStr

def CallSpec.events (c : CallSpec) : List Ev := .call c.efun whoObj c.args :: efunEvents c.pol c.ex c.efun c.a c.b

theorem fold_history : ∀ (cs : List CallSpec) (s : JState), (∀ c ∈ cs, c.efun ∈ efunNames) → s.bad = [] →
    ((cs.flatMap CallSpec.events).foldl judgeStep s).bad = [] := by
  intro cs
  induction cs with
  | nil => intro s _ h; exact h
  | cons c rest ih =>
    intro s hall hb
    rw [List.flatMap_cons, List.foldl_append]
    apply ih _ (fun d hd => hall d (List.mem_cons_of_mem _ hd))
    exact fold_ok c.efun (efunNames_mediated _ (hall c List.mem_cons_self)) _
      (judgeStep s (.call c.efun whoObj c.args)) hb rfl rfl (efunEvents_segOk c.pol c.ex c.efun c.a c.b)

/-- **model_satisfies_spec for whole histories**: ANY sequence of file efun calls — any efuns of the table, any
    arguments, the master policy and the file-system content changing arbitrarily between the calls — yields a model
    trace the oracle accepts: no approval is carried over from one call to the next (each `call` starts with an empty
    set of approvals) and every libc call is licensed within its own call. -/
theorem history_satisfies_spec (cs : List CallSpec) (h : ∀ c ∈ cs, c.efun ∈ efunNames) :
    judgeEv (cs.flatMap CallSpec.events) = [] := by
  unfold judgeEv
  rw [fold_history cs {} h rfl]; rfl

/-- non-vacuity: an approval obtained in one call does not license a libc call of the next -/
example : judgeEv [.call "read_file" whoObj [str "/d/f"], .valid false (str "/d/f") whoObj "read_file" .ok,
                   .fs "open" false (str "d/f"),
                   .call "read_file" whoObj [str "/d/f"], .fs "open" false (str "d/f")] ≠ [] := by decide_paths

/-- no component climbs -/
def compsSafe (cs : List CStr) : Prop := ∀ c ∈ cs, c ≠ dotdot

/-- the kernel's treatment of symbolic links while it resolves a (relative) path: a component that is a link is
    replaced by the components of the link's target text — a relative target is resolved in the directory that
    holds the link, i.e. exactly at this position; this may happen any number of times, at any position -/
inductive Expands (targets : List CStr) : List CStr → List CStr → Prop
  | refl (cs : List CStr) : Expands targets cs cs
  | step (pre post : List CStr) (c t : CStr) (cs' : List CStr) : t ∈ targets →
      Expands targets (pre ++ comps t ++ post) cs' → Expands targets (pre ++ [c] ++ post) cs'

/-- depth below the mudlib root while walking components; `none` = stepped above the root -/
def climb : Nat → List CStr → Option Nat
  | d, [] => some d
  | d, c :: cs =>
    if c = dotdot then (match d with
      | 0 => none
      | d + 1 => climb d cs)
    else if c = [] ∨ c = dot then climb d cs
    else climb (d + 1) cs

theorem compsSafe_never_climbs (cs : List CStr) (h : compsSafe cs) : ∀ d, (climb d cs).isSome = true := by
  induction cs with
  | nil => intro d; rfl
  | cons c r ih =>
    intro d
    have hc : c ≠ dotdot := h c (by simp)
    have hr : compsSafe r := fun x hx => h x (by simp [hx])
    simp only [climb, hc, ↓reduceIte]
    split
    · exact ih hr d
    · exact ih hr (d + 1)

/-- **what is promised about symbolic links.**  If every symbolic link inside the mudlib has a target text that is
    a safe path (relative, no ".." component) — and `link ()` creates no other (`link_creates_safe_targets`) — then
    whatever links the kernel follows while resolving a safe path, the expanded component sequence has no ".."
    and therefore never steps above the mudlib directory. -/
theorem symlinks_confined (targets : List CStr) (ht : ∀ t ∈ targets, safe t = true) (cs cs' : List CStr)
    (h : Expands targets cs cs') (hs : compsSafe cs) : compsSafe cs' ∧ ∀ d, (climb d cs').isSome = true := by
  induction h with
  | refl cs => exact ⟨hs, compsSafe_never_climbs cs hs⟩
  | step pre post c t cs' hmem _ ih =>
    apply ih
    intro x hx
    simp only [List.mem_append] at hx
    rcases hx with (hx | hx) | hx
    · exact hs x (by simp [hx])
    · exact ((safe_iff t).mp (ht t hmem)).2 x hx
    · exact hs x (by simp [hx])

theorem segOk_fs_safe (f : String) : ∀ (evs : List Ev) (apps : List Approval), segOk f apps evs →
    ∀ fn w p, Ev.fs fn w p ∈ evs → safe p = true := by
  intro evs apps hs fn w p hm
  -- the clauses of `segOk` in order: [], valid, fs, note, nest, edsave, any other event
  fun_induction segOk f apps evs
  case case1 => nomatch hm
  case case2 ih =>
    obtain ⟨_, _, hs⟩ := hs
    exact ih hs (by simpa using hm)
  case case3 ih =>
    obtain ⟨hsafe, _, hs⟩ := hs
    rcases List.mem_cons.mp hm with e | hm
    · cases e; exact hsafe
    · exact ih hs hm
  case case4 ih => exact ih hs (by simpa using hm)
  case case5 ih => exact ih hs.2 (by simpa using hm)
  case case6 ih => exact ih hs.2 (by simpa using hm)
  case case7 => exact hs.elim

/-- the target text and the location of every symbolic link `link (a, b)` creates are safe paths, for all
    arguments, master policies and file-system contents (the `note` of the `valid_link` consultation aside) -/
theorem link_creates_safe_targets (pol : Policy) (ex : List CStr) (a b : CStr) (fn : String) (w : Bool) (p : CStr)
    (h : Ev.fs fn w p ∈ efunEvents pol ex "link" a b) : safe p = true :=
  segOk_fs_safe "link" _ [] (efunEvents_segOk pol ex "link" a b) fn w p h

/-- non-vacuity: a link whose target would climb is NOT expanded safely, and is rejected by the hypothesis -/
example : climb 0 [str "d", dotdot, dotdot] = none := by decide_paths
example : (climb 0 (comps (str "d/sub//x"))).isSome = true := by decide_paths
example : safe (str "../x") = false := by decide_paths

end NV.C15
