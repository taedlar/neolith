/-
C08 — property theorems; the proofs rest on Invariant, Blocks, Valid, Exec, Refine.  The theorems named in
props/c08.py that are not stated here: `acyclic_redirect` (Anc), `superWalk_clear`, `init_inv` (Blocks), `exec_good`
(Exec), `absMap_spec` ... `table_is_map_reachable` (Refine), the `*_tie` obligations (Tie).

Property: object names, inventories and destruction stay consistent.  After any sequence of load, clone, move and
destruct operations - including ones issued from create, init and move_or_destruct hooks and ones that fail - looking
up a name yields exactly the live object carrying it, every object is in at most one inventory and inventories form a
forest that agrees with each object's environment, and a destructed object is never found, listed, called, moved into
or given commands.  Every reference to a destructed object reads as 0.

All theorems are about the executable model `NV.C08.exec` / `runCmds` (NV/C08/Model.lean) for ALL hook oracles
`sc : Scripts`, ALL fuels and ALL command lists.
-/
import NV.C08.Exec
import NV.C08.Refine
import NV.C08.Tie

namespace NV.C08

/-- `WorldInv`: the invariant of the registries (see `Inv`, `Links`, `Names`, `Lists`, `Living` in Invariant.lean) -/
abbrev WorldInv (c : Core) : Prop := Inv c

/-- Every task of the interpreter - a script of operations, a hook call, load, clone,
    move_object (including its init() fan-out), destruct_object (including its move_or_destruct loop) - started in a
    state satisfying `WorldInv` ends in a state satisfying `WorldInv`, whatever the hooks do (they run the same
    interpreter re-entrantly), whether it succeeds, raises an error, or runs out of fuel.  Because every hook call is
    itself a task, the invariant holds at EVERY point where LPC code can run. -/
theorem world_inv_preserved (sc : Scripts) (f : Nat) (t : Task) (w : World) (h : WorldInv w.c) :
    WorldInv (exec sc f t w).w.c := exec_inv sc f t w h

/-- Every state reachable from the initial state (simul_efun object and master loaded) by any
    list of top-level commands (operations, probes, remove_destructed_objects) satisfies `WorldInv`. -/
theorem reachable_inv (sc : Scripts) (cmds : List Cmd) : WorldInv (runCmds sc World.init cmds).c :=
  (runCmds_ok sc cmds World.init init_ok).inv

/-- find_obj_n (find_object, load_object, clone_object, call_other by name) returns an object
    iff it is the live (allocated, not destructed) object carrying that name; there is at most one such object. -/
theorem lookup_unique_live {c : Core} (h : WorldInv c) (nm : Name) (i : Nat) :
    ((lookupC c nm).2 = some i ↔ (i < c.n ∧ (c.objs i).destructed = false ∧ (c.objs i).name = nm)) ∧
    (∀ j, j < c.n → (c.objs j).destructed = false → (c.objs j).name = nm →
          i < c.n → (c.objs i).destructed = false → (c.objs i).name = nm → i = j) :=
  ⟨lookupC_spec h nm i, fun j hj hdj hnj hi hdi hni =>
    h.names.uniq i j hi hdi hj hdj (by simp [nameF, hni, hnj])⟩

/-- `lookup_unique_live` for every reachable state -/
theorem lookup_unique_live_reachable (sc : Scripts) (cmds : List Cmd) (nm : Name) (i : Nat) :
    let c := (runCmds sc World.init cmds).c
    (lookupC c nm).2 = some i ↔ (i < c.n ∧ (c.objs i).destructed = false ∧ (c.objs i).name = nm) :=
  (lookup_unique_live (reachable_inv sc cmds) nm i).1

/-- Every object is in at most one inventory, at most once; `x ∈ contains(y) ↔ super(x) = y`;
    the environment relation has no cycle. -/
theorem inventories_forest {c : Core} (h : WorldInv c) :
    (∀ x y z, x ∈ (c.objs y).contains → x ∈ (c.objs z).contains → y = z) ∧
    (∀ x y, x ∈ (c.objs y).contains ↔ (c.objs x).super = some y) ∧
    (∀ y, ((c.objs y).contains).Nodup) ∧
    (∀ x, ¬ Anc (fun i => (c.objs i).super) x x) := by
  refine ⟨?_, h.links.inv, h.links.nodup, h.links.acyc⟩
  intro x y z hy hz
  have h1 := (h.links.inv x y).mp hy
  have h2 := (h.links.inv x z).mp hz
  simp only [supF] at h1 h2
  rw [h1] at h2
  exact Option.some.inj h2

/-- A destructed object is in no name-table chain, not on obj_list, in no living-name
    chain and in no inventory; it has no environment and no inventory, it is nobody's environment; no lookup by name
    and no find_living returns it; a reference to it read from an LPC variable, array or mapping is 0; and it is not
    command-enabled. -/
theorem destructed_never_visible {c : Core} (h : WorldInv c) {i : Nat} (hd : (c.objs i).destructed = true) :
    (∀ b, i ∉ c.ot b) ∧ i ∉ c.ol ∧ (∀ b, i ∉ c.lv b) ∧ (∀ y, i ∉ (c.objs y).contains) ∧
    (c.objs i).super = none ∧ (c.objs i).contains = [] ∧ (∀ x, (c.objs x).super ≠ some i) ∧
    (∀ nm, (lookupC c nm).2 ≠ some i) ∧ (∀ s, (findLivingC c s).2 ≠ some i) ∧ readRef c i = none ∧
    (c.objs i).ec = false := by
  have hl := h.links.deadL i hd
  refine ⟨?_, ?_, ?_, ?_, hl.1, hl.2, ?_, ?_, ?_, ?_, (h.living.deadV i hd).1⟩
  · intro b hm; have := (h.names.mem b i).mp hm; simp [deadF, hd] at this
  · intro hm; have := (h.lists.olMem i).mp hm; simp [deadF, hd] at this
  · intro b hm; have := (h.living.mem b i).mp hm; simp [deadF, hd] at this
  · intro y hm
    have := (h.links.inv i y).mp hm
    rw [hl.1] at this; simp at this
  · intro x hx
    have : x ∈ contF c i := (h.links.inv x i).mpr hx
    rw [hl.2] at this; simp at this
  · intro nm hs
    have := (lookupC_spec h nm i).mp hs
    rw [hd] at this; simp at this
  · intro s hs
    have := findLivingC_some h hs
    rw [hd] at this; simp at this
  · simp [readRef, hd]

/-- apply() on a destructed object (create / init / move_or_destruct hooks, and every
    hook call of the fan-out and of the move_or_destruct loop) does nothing at all. -/
theorem destructed_never_called (sc : Scripts) (f : Nat) (x : Nat) (k : Hook) (arg : Option Nat) (w : World)
    (hx : x < w.c.n) (hd : (w.c.objs x).destructed = true) (hf : (w.c.objs x).freed = false) :
    (exec sc (f + 1) (.hook x k arg) w).w = w ∧ (exec sc (f + 1) (.hook x k arg) w).out = .ok := by
  rw [exec.eq_33, if_neg (nf_guard ⟨hx, hf⟩), if_pos hd]
  exact ⟨rfl, rfl⟩

/-- move_object into a destructed object, or of a destructed object, never succeeds
    and changes nothing in the structures. -/
theorem destructed_never_moved_into (sc : Scripts) (f : Nat) (item dest : Nat) (w : World)
    (hd : (w.c.objs dest).destructed = true ∨ (w.c.objs item).destructed = true) :
    (exec sc (f + 1) (.move item dest) w).out ≠ .ok ∧ (exec sc (f + 1) (.move item dest) w).w.c = w.c := by
  have hcrash : ∀ m, (crashR w m).out ≠ .ok ∧ (crashR w m).w.c = w.c := fun _ => ⟨crash_ne_ok, rfl⟩
  have hraise : ∀ m, (raise w m).out ≠ .ok ∧ (raise w m).w.c = w.c := fun m => ⟨err_ne_ok, (raise_c_cg_initBad w m).1⟩
  have ite := @by_ite' fun r => r.out ≠ .ok ∧ r.w.c = w.c
  rw [exec.eq_36]
  refine ite (fun _ => hcrash _) fun _ => ite (fun _ => hraise _) fun hid => ?_
  cases superWalk w.c item (w.c.n + 1) (some dest) with
  | freed => exact hcrash _
  | loop => exact ⟨hang_ne_ok, rfl⟩
  | hit => exact hraise _
  | clear => exact ite (fun _ => hraise _) fun hdd => absurd (hd.resolve_right hid) hdd

/-- move_object with a string destination.  The destination is resolved first -
    its load runs create() hooks that may destruct the mover - and only then `this_object()` is tested: when the mover
    is destructed after the load, the move does not succeed and leaves the structures exactly as the load left them (the
    destructed mover is not linked into the room). -/
theorem destructed_mover_never_linked (sc : Scripts) (f : Nat) (item : Nat) (b : Base) (w : World) (d : Nat)
    (hok : (exec sc (f + 1) (.load b true) w).out = .ok) (hv : (exec sc (f + 1) (.load b true) w).val = some d)
    (hd : ((exec sc (f + 1) (.load b true) w).w.c.objs item).destructed = true) :
    (exec sc (f + 2) (.moveStr item b) w).out ≠ .ok ∧
    (exec sc (f + 2) (.moveStr item b) w).w.c = (exec sc (f + 1) (.load b true) w).w.c := by
  have e : exec sc (f + 2) (.moveStr item b) w =
      (exec sc (f + 1) (.load b true) w).andThen fun w v =>
        match v with
        | none => raise w errNoDest
        | some d => exec sc (f + 1) (.move item d) w := rfl
  rw [e]
  simp only [R.andThen, hok, if_true, hv]
  exact destructed_never_moved_into sc f item d _ (Or.inr hd)

/-- Finding C08-F3, repaired by the third `fix:` commit.  Whatever the id() hooks do,
    present(str, env) only ever returns the object asked for, and only while it is in `env`'s inventory. -/
theorem present_returns_member (sc : Scripts) : ∀ (f : Nat) (env tgt : Nat) (cur : Option Nat) (w : World) (r : Nat),
    (exec sc f (.present env tgt cur) w).out = .ok → (exec sc f (.present env tgt cur) w).val = some r →
    r = tgt ∧ ((exec sc f (.present env tgt cur) w).w.c.objs r).super = some env := by
  intro f
  induction f with
  | zero => intro env tgt cur w r h; cases h
  | succ f ih =>
    intro env tgt cur w r
    refine (?_ : Post (fun w v => v = some r → r = tgt ∧ (w.c.objs r).super = some env) _)
    cases cur with
    | none => rw [exec.eq_40]; exact post_leaf fun h => nomatch h
    | some ob =>
      rw [exec.eq_41]
      refine by_ite (post_fail crash_ne_ok) (post_andThen fun _ => ?_)
      refine by_ite (post_leaf fun h => nomatch h) (by_ite' (fun _ => post_leaf fun h => nomatch h) fun h2 => ?_)
      refine by_ite' (fun h3 => post_leaf fun h => ?_) fun _ => ih env tgt _ _ r
      cases h
      exact ⟨h3, Decidable.not_not.mp h2⟩

/-- The weak spot named in the design.  remove_object_hash(ob) assigns
    `obj_table[h] = ob->next_hash` whatever find_obj_n found.  The precondition the code relies on is: `ob` is the live
    object registered under its name.  Under it exactly `ob` leaves its chain ... -/
theorem remove_hash_precondition {c : Core} (h : WorldInv c) {ob : Nat} (ho : ob < c.n)
    (hd : (c.objs ob).destructed = false) :
    removeHash c ob = setOt c (hashN (c.objs ob).name) ((c.ot (hashN (c.objs ob).name)).erase ob) :=
  removeHash_live h.names ho hd

/-- ... and without it (the object is in no chain, e.g. it has already been destructed) the WHOLE chain of its bucket
    is dropped: every other live object hashing there can no longer be found by name. -/
theorem remove_hash_absent_drops_chain (c : Core) (ob : Nat)
    (hnot : ob ∉ c.ot (hashN (c.objs ob).name)) :
    (removeHash c ob).ot (hashN (c.objs ob).name) = [] := by
  rw [removeHash_eq]
  have hobjs := (lookupC_n c (c.objs ob).name).2
  have hnot' : ob ∉ (lookupC c (c.objs ob).name).1.ot (hashN (c.objs ob).name) := by
    rcases lookupC_cases c (c.objs ob).name with ⟨h, _⟩ | ⟨i, hi, _, h⟩ <;> rw [h]
    · exact hnot
    · simp only [setOt, if_true]
      intro hm
      exact hnot ((List.perm_cons_erase hi).mem_iff.mpr hm)
  simp only [setOt, if_true, nextHash, hobjs]
  simp [hnot']

/-- the unlink block of destruct_object is entered by the interpreter only behind the check that the object is still
    live (the `fix:` commit adds the missing re-check after the nested destruct_object); on a live object with an
    empty inventory it preserves the invariant -/
theorem unlink_preserves {c : Core} (h : WorldInv c) {ob : Nat} (ho : ob < c.n)
    (hd : (c.objs ob).destructed = false) (he : (c.objs ob).contains = []) : WorldInv (finishDestruct c ob) :=
  finishDestruct_inv h ho hd he

/-- No registry holds a pointer to a released structure: every object reachable through a name-table
    chain, obj_list, a living-name chain, an inventory or a `super` link is live, hence not released by
    remove_destructed_objects; so the walks over these structures (find_obj_n, the unlink loops, the fan-out cursor
    while it stays inside an inventory, find_living, objects(), livings()) never dereference freed memory
    (`anyFreed` is false for each of them). -/
theorem no_dangling {c : Core} (h : WorldInv c) :
    (∀ b, anyFreed c (c.ot b) = false) ∧ anyFreed c c.ol = false ∧ (∀ b, anyFreed c (c.lv b) = false) ∧
    (∀ y, anyFreed c (c.objs y).contains = false) ∧
    (∀ x y, (c.objs x).super = some y → (c.objs y).freed = false ∧ (c.objs y).destructed = false) :=
  ⟨anyFreed_ot h, anyFreed_ol h, anyFreed_lv h, fun _ => anyFreed_live h _ fun _ hi => cont_live h hi,
   fun _ _ hs => have := super_live h hs; ⟨live_not_freed h this.2, this.2⟩⟩

/-- A task whose pointers are valid (`TaskWf`: allocated and not released; for the fan-out the moved
    object is in the destination; for the unlink loop of destruct_object the object is still live) never reaches the
    `crash` outcome - no NULL / wild / dangling dereference in load, clone, move_object, its init() fan-out (the saved
    `next_ob` cursor included), destruct_object, its move_or_destruct loop, the unlink block (`remove_object_hash` only
    ever runs on a live object), add_action, command() - for every hook oracle and every fuel.  It also keeps
    `command_giver` valid, returns valid objects and keeps the ghost flag `initBad` false. -/
theorem task_no_crash (sc : Scripts) (f : Nat) (t : Task) (w : World) (hI : WorldInv w.c) (ht : TaskWf w.c t)
    (hwf : WorldWf w) (hg : w.initBad = false) : (exec sc f t w).out ≠ .crash :=
  (exec_good sc f t w hI ht hwf hg).nocrash

/-- Over all histories: whatever top-level commands ran before, the next top-level command does not
    reach the `crash` outcome - an operation issued by the master, or a backend tick calling heart_beat() in every
    enabled object (`remove_destructed_objects` in between included: it releases structures that no registry
    points to any more, `no_dangling`). -/
theorem no_crash (sc : Scripts) (cmds : List Cmd) (cmd : Cmd) :
    topOut sc (runCmds sc World.init cmds) cmd ≠ .crash :=
  (stepCmd_ok sc cmd (runCmds_ok sc cmds World.init init_ok)).nocrash

/-- The cycle check of move_object, `for (ob = dest; ob; ob = ob->super)`, ends: in a state
    satisfying the invariant (the environment relation is a forest over the `n` allocated objects) the walk from any
    allocated object reaches the top within `n` steps - by pigeonhole over the visited objects (`nodup_bound`). -/
theorem move_walk_terminates {c : Core} (h : WorldInv c) (item dest : Nat) (hd : dest < c.n) :
    superWalk c item (c.n + 1) (some dest) ≠ .loop := superWalk_not_loop h item dest hd

/-- No well-formed task reaches the `hang` outcome (an endless `super` walk), whatever the hooks do. -/
theorem task_no_hang (sc : Scripts) (f : Nat) (t : Task) (w : World) (hI : WorldInv w.c) (ht : TaskWf w.c t)
    (hwf : WorldWf w) (hg : w.initBad = false) : (exec sc f t w).out ≠ .hang :=
  (exec_good sc f t w hI ht hwf hg).nohang

/-- Over all histories the next top-level command does not hang in move_object's cycle walk. -/
theorem no_hang (sc : Scripts) (cmds : List Cmd) (cmd : Cmd) :
    topOut sc (runCmds sc World.init cmds) cmd ≠ .hang :=
  (stepCmd_ok sc cmd (runCmds_ok sc cmds World.init init_ok)).nohang

/-- Finding C08-F4, repaired by the fourth `fix:` commit.  Whatever the filter function
    does - destruct the object it is asked about, destruct others, create or move objects - the array returned by
    objects(filter) lists only objects that are live when the efun returns, and it is a sub-list of the collected
    obj_list (`acc.reverse ++ rest`: in obj_list order, hence without duplicates). -/
theorem objects_filter_sound (sc : Scripts) : ∀ (f : Nat) (self : Nat) (rest acc : List Nat) (w : World),
    (exec sc f (.objloop self rest acc) w).out = .ok → (exec sc f (.objloop self rest acc) w).val ≠ none →
    (∀ x ∈ (exec sc f (.objloop self rest acc) w).w.res,
        ((exec sc f (.objloop self rest acc) w).w.c.objs x).destructed = false) ∧
    ((exec sc f (.objloop self rest acc) w).w.res).Sublist (acc.reverse ++ rest) := by
  intro f
  induction f with
  | zero => intro self rest acc w h; cases h
  | succ f ih =>
    intro self rest acc w
    cases rest with
    | nil =>
      rw [exec.eq_48]
      refine fun _ _ => ⟨fun x hx => ?_, List.append_nil _ ▸ List.filter_sublist⟩
      simpa using (List.mem_filter.mp hx).2
    | cons ob rest' =>
      refine (?_ : Post (fun w v => v ≠ none → (∀ x ∈ w.res, (w.c.objs x).destructed = false) ∧
        w.res.Sublist (acc.reverse ++ ob :: rest')) _)
      rw [exec.eq_49]
      -- a skipped object is dropped from the list, a called one goes to the accepted ones
      have skip := fun hok hv => (ih self rest' acc w hok hv).imp_right
        fun b => b.trans ((List.sublist_cons_self ob rest').append_left _)
      refine by_ite (post_fail crash_ne_ok) (by_ite skip (by_ite (post_fail crash_ne_ok)
        (by_ite (post_fail err_ne_ok) (post_andThen fun _ hok hv => ?_))))
      have := ih self rest' (ob :: acc) _ hok hv
      rwa [List.reverse_cons, List.append_assoc] at this

/-- Finding C08-F2, repaired by the second `fix:` commit.  `initBad` is a ghost flag of the
    model, set whenever init() is applied to `x` with this_player() = `y` while neither is the environment of the other
    nor do they share an environment.  It is never set: in every history init() is only exchanged between adjacent
    objects (the two added re-checks of the cursor object are what the proof uses). -/
theorem init_only_adjacent (sc : Scripts) (cmds : List Cmd) : (runCmds sc World.init cmds).initBad = false :=
  (runCmds_ok sc cmds World.init init_ok).ghost trivial

/-- `command_giver` always points to an allocated, not released object between top-level commands -/
theorem command_giver_valid (sc : Scripts) (cmds : List Cmd) (g : Nat)
    (h : (runCmds sc World.init cmds).cg = some g) : NF (runCmds sc World.init cmds).c g :=
  (runCmds_ok sc cmds World.init init_ok).wf trivial g h

/-- user_parser only ever calls the action of a live object ("a destructed object is never
    given commands"; `destructed_never_called` covers the apply itself). -/
theorem command_target_live (c : Core) (a : Nat) (verb : String) (t : String × Nat)
    (h : (c.objs a).sent.find? (fun t => decide (t.2 < c.n) && !(c.objs t.2).destructed && t.1 == verb) = some t) :
    t.2 < c.n ∧ (c.objs t.2).destructed = false := by
  have := List.find?_some h
  simp at this
  exact this.1

/-- After the unlink block the destructed object holds no sentence, and the
    command-enabled objects around it (its environment and everything in it) hold no sentence defined by it. -/
theorem destructed_drops_sentences {c : Core} (h : WorldInv c) {ob : Nat} (ho : ob < c.n)
    (hd : (c.objs ob).destructed = false) :
    ((finishDestruct (unsentDestruct c ob) ob).objs ob).sent = [] ∧
    (∀ s u, (c.objs ob).super = some s → (u = s ∨ u ∈ (c.objs s).contains) → (c.objs u).ec = true →
      ∀ t ∈ ((unsentDestruct c ob).objs u).sent, t.2 ≠ ob) := by
  constructor
  · obtain ⟨g, e⟩ := unsentDestruct_sentOnly c ob
    rw [e, finishDestruct_eq (mapSent_inv h g) ho hd]
    exact if_pos rfl
  · intro s u hs hu hec t ht
    simp only [unsentDestruct, hs, mapSent] at ht
    simp only [hu, hec, and_self, if_true, rmSent, List.mem_filter] at ht
    simpa using ht.2

/-- `catch (op)` never lets an LPC error through to the code around it (the script goes on); what the code after the
    catch finds is `catch_restores_guards`. -/
theorem catch_contains_errors (sc : Scripts) (f : Nat) (self : Nat) (arg : Option Nat) (o : Op) (w : World) :
    (exec sc (f + 1) (.ops self arg [.ct o]) w).out ≠ .err := by
  rw [exec.eq_31]
  generalize exec sc f (.ops self arg [o]) (emit { w with catching := w.catching + 1 } s!"ctb {oid self}") = r0
  unfold R.andThen
  cases h : r0.out <;> simp [h] <;> (split <;> simp [ops_nil_not_err])

/-- When the operation inside `catch ()` raised an error, the code after the catch runs with
    command_giver, restrict_destruct and the catch depth of the moment the catch was entered (save_context /
    restore_context) - in particular a caught "Only this_object() can be destructed from move_or_destruct" leaves the
    restriction of the running move_or_destruct hook in force. -/
theorem catch_restores_guards (sc : Scripts) (f : Nat) (self : Nat) (arg : Option Nat) (o : Op) (w : World)
    (herr : (exec sc f (.ops self arg [o]) (emit { w with catching := w.catching + 1 } s!"ctb {oid self}")).out = .err) :
    (exec sc (f + 1) (.ops self arg [.ct o]) w).w.cg = w.cg ∧
    (exec sc (f + 1) (.ops self arg [.ct o]) w).w.restrict = w.restrict ∧
    (exec sc (f + 1) (.ops self arg [.ct o]) w).w.catching = w.catching := by
  rw [exec.eq_31]
  generalize exec sc f (.ops self arg [o]) (emit { w with catching := w.catching + 1 } s!"ctb {oid self}") = r0 at herr
  simp only [herr, R.andThen]
  simp only [if_true]
  split
  · simp [emit]
  · have := ops_nil_guards sc f self arg (emit { r0.w with catching := w.catching, cg := w.cg, restrict := w.restrict, ldepth := w.ldepth } s!"r ct {oid self} 1")
    simpa [emit] using this
/-- `catch_restores_guards` is not vacuous: `catch (error ("boom"))` -/
example (sc : Scripts) : (exec sc 1 (.ops 1 none [.err])
    (emit { World.init with catching := World.init.catching + 1 } s!"ctb {oid 1}")).out = .err := by
  rw [exec.eq_21]; rfl

set_option linter.unusedVariables false in
/-- Inside one well-formed task no object is un-allocated, every allocated object keeps its name and a
    destructed object stays destructed - whatever the hooks do.  (It holds of any task: `exec_nfle` needs the invariant
    only.) -/
theorem exec_stable (sc : Scripts) (f : Nat) (t : Task) (w : World) (hI : WorldInv w.c) (ht : TaskWf w.c t)
    (hwf : WorldWf w) (hg : w.initBad = false) :
    w.c.n ≤ (exec sc f t w).w.c.n ∧
    (∀ i, i < w.c.n → ((exec sc f t w).w.c.objs i).name = (w.c.objs i).name) ∧
    (∀ i, i < w.c.n → (w.c.objs i).destructed = true → ((exec sc f t w).w.c.objs i).destructed = true) :=
  let g := exec_nfle sc f t w hI
  ⟨g.le, g.name, g.dead⟩

/-- what `Task.load` hands back, from the invariant alone: `load_val_named` without the hypotheses it does not use -/
theorem load_named (sc : Scripts) : ∀ (f : Nat) (b : Base) (strict : Bool) (w : World), Inv w.c →
    Named { base := b, num := none } strict (exec sc f (.load b strict) w) := by
  intro f
  induction f with
  | zero => intro b strict w _ h; cases h
  | succ f ih =>
    intro b strict w hI
    -- no task hypothesis is needed: `St False` is the invariant and `NFle`, enough for `St.lookup` and `alloc_st`
    have h0 : St False w.c w := ⟨hI, NFle.refl _, False.elim⟩
    rw [exec_load]
    refine by_ite (post_fail crash_ne_ok) ?_
    have hn := lookupC_n w.c { base := b, num := none }
    cases hlk : (lookupC w.c { base := b, num := none }).2 with
    | some i =>
      have := (lookupC_spec hI _ i).mp hlk
      intro _ j hj
      cases hj
      exact ⟨hn.1 ▸ this.1, by rw [show _ = w.c.objs from hn.2]; exact this.2.2,
        fun _ => by rw [show _ = w.c.objs from hn.2]; exact this.2.1⟩
    | none =>
      refine by_ite (post_fail err_ne_ok) (named_strict ?_)
      have hl : St False w.c { w with c := (lookupC w.c { base := b, num := none }).1, ldepth := w.ldepth + 1 } :=
        h0.lookup _
      have hfree := lookupC_none_free hI hlk
      cases b with
      | nofile => intro _ i hv; cases hv
      | badfile => exact post_fail err_ne_ok
      | ih k =>
        have hnB := lookupC_n (lookupC w.c { base := .ih k, num := none }).1 { base := .bp k, num := none }
        rw [loadBody]
        refine by_ite (post_fail crash_ne_ok) ?_
        cases (lookupC (lookupC w.c { base := .ih k, num := none }).1 { base := .bp k, num := none }).2 with
        | some _ =>
          exact loadCreate_named sc f (hl.lookup _)
            (by rw [show _ = w.c.n from hnB.1.trans hn.1, show _ = w.c.objs from hnB.2.trans hn.2]; exact hfree) rfl
        | none =>
          -- the inherited program is loaded, then this very load is tried again: by induction
          have gA := exec_inv sc f (.load (.bp k) false) _ (hl.lookup { base := .bp k, num := none }).inv
          revert gA
          generalize exec sc f (.load (.bp k) false) _ = rA
          intro gA
          refine post_andThen fun _ => ?_
          cases rA.val with
          | none => exact post_fail err_ne_ok
          | some _ =>
            refine post_andThen fun hB _ i hv => ?_
            have := ih (.ih k) false rA.w gA hB i hv
            exact ⟨this.1, this.2.1, fun hs => nomatch hs⟩
      | _ =>
        exact loadCreate_named sc f hl (by rw [show _ = w.c.n from hn.1, show _ = w.c.objs from hn.2]; exact hfree) rfl

/-- what find_or_load_object / load_object hands back: an allocated object that carries the requested name - through
    the lookup, the plain load, the inherit detour with its re-lookup and the reload, whatever the create() hooks of the
    inherited program and of the object itself do; with the `*sigh*` test (strict) it is also not destructed -/
theorem load_val_named (sc : Scripts) : ∀ (f : Nat) (b : Base) (strict : Bool) (w : World), Inv w.c → WorldWf w →
    w.initBad = false → (exec sc f (.load b strict) w).out = .ok → ∀ i, (exec sc f (.load b strict) w).val = some i →
    i < (exec sc f (.load b strict) w).w.c.n ∧
    ((exec sc f (.load b strict) w).w.c.objs i).name = { base := b, num := none } ∧
    (strict = true → ((exec sc f (.load b strict) w).w.c.objs i).destructed = false) :=
  fun f b strict w hI _ _ => load_named sc f b strict w hI

/-- The oracle clause `load-find-disagree` (seeded change C08-5) as a theorem.  When
    find_or_load_object(name) returns an object, that object is the one the name table holds under `name`:
    find_object(name) and load_object(name) agree - for every history of re-entrant loads. -/
theorem load_returns_registered (sc : Scripts) (f : Nat) (b : Base) (w : World) (hI : WorldInv w.c) (hwf : WorldWf w)
    (hg : w.initBad = false) (hok : (exec sc f (.load b true) w).out = .ok) (i : Nat)
    (hv : (exec sc f (.load b true) w).val = some i) :
    absMap (exec sc f (.load b true) w).w.c { base := b, num := none } = some i := by
  have h := load_val_named sc f b true w hI hwf hg hok i hv
  exact (absMap_spec (exec_inv sc f (.load b true) w hI) _ i).mpr ⟨h.1, h.2.2 rfl, h.2.1⟩

/-! ## non-vacuity: the hypotheses are met by non-trivial states -/

/-- the initial state satisfies the invariant and holds two live objects (simul_efun, master), both registered -/
example : WorldInv Core.init ∧ Core.init.n = 2 ∧ (Core.init.objs 1).name = { base := .master, num := none } ∧
    (lookupC Core.init { base := .master, num := none }).2 = some 1 :=
  ⟨init_inv, init_n, congrArg Obj.name init_obj1, init_lookup_master⟩

/-- the refinement theorems of NV/C08/Refine.lean are not vacuous: in the initial state the table, read as a map,
    sends the master's name to object 1 -/
example : absMap Core.init { base := .master, num := none } = some 1 :=
  (absMap_spec init_inv _ 1).mpr ⟨init_live1.1, init_live1.2, congrArg Obj.name init_obj1⟩

/-- a state with a destructed object: the initial state after the unlink block of destruct_object ran on the simul_efun
    object (the master stays) satisfies the invariant, and `destructed_never_visible` applies to object 0 -/
example : WorldInv (finishDestruct Core.init 0) ∧ ((finishDestruct Core.init 0).objs 0).destructed = true :=
  ⟨finishDestruct_inv init_inv init_live0.1 init_live0.2 (congrArg Obj.contains init_obj0),
   finishDestruct_dead _ _⟩

/-- `destructed_never_called` applies to that state: object 0 is allocated, destructed and not released -/
example : (0 : Nat) < (finishDestruct Core.init 0).n ∧ ((finishDestruct Core.init 0).objs 0).destructed = true ∧
    ((finishDestruct Core.init 0).objs 0).freed = false :=
  have := (nfle_finishDestruct init_inv init_live0.1 init_live0.2).nf 0 (live_nf init_inv init_live0.1 init_live0.2)
  ⟨this.1, finishDestruct_dead _ _, this.2⟩

/-- a non-trivial forest: after moving object 0 into object 1 the invariant holds and 0 is in 1's inventory -/
example : WorldInv (relink Core.init 0 1) ∧ 0 ∈ ((relink Core.init 0 1).objs 1).contains := by
  refine ⟨relink_inv init_inv init_live0.1 init_live0.2 init_live1.1 init_live1.2 ?_, relink_mem _ _ _⟩
  rintro (h | h)
  · cases h
  · exact Anc.not_of_none (congrArg Obj.super init_obj1) h

/-- the hypotheses of `task_no_crash` are met, e.g. by destruct(master) in the initial state -/
example : WorldInv World.init.c ∧ TaskWf World.init.c (.destruct 1) ∧ WorldWf World.init ∧ World.init.initBad = false :=
  ⟨init_inv, live_nf init_inv init_live1.1 init_live1.2, init_ok.wf trivial, rfl⟩

/-- `world_inv_preserved` / `reachable_inv` are about arbitrary scripts: instantiate with a hook oracle in which every
    create hook clones and every init hook destructs the object it runs in -/
example (cmds : List Cmd) :
    WorldInv (runCmds (fun i k _ => match k with
      | .create => [.cl (.bp 0)]
      | .init => [.de i]
      | .mod => [.mvarg]
      | .act => [.de i]
      | .id => [.mv i 1]
      | .hbeat => [.de i]
      | .ofilt => [.ct (.de i)]) World.init cmds).c := reachable_inv _ cmds

/-- `objects_filter_sound` is not vacuous: the filter pass over an empty rest returns an array (the two initial objects
    accepted so far) -/
example (sc : Scripts) : (exec sc 1 (.objloop 1 [] [0, 1]) World.init).out = .ok ∧
    (exec sc 1 (.objloop 1 [] [0, 1]) World.init).val ≠ none := by
  rw [exec.eq_48]; exact ⟨rfl, fun h => nomatch h⟩

/-- `load_returns_registered` is not vacuous: loading the master's name in the initial state returns object 1 -/
example (sc : Scripts) : (exec sc 1 (.load .master true) World.init).out = .ok ∧
    (exec sc 1 (.load .master true) World.init).val = some 1 := by
  have h1 : (lookupC World.init.c { base := .master, num := none }).2 = some 1 := init_lookup_master
  rw [exec_load, if_neg (ne_true_of_eq_false (anyFreed_ot (c := World.init.c) init_inv _))]
  rw [h1]
  exact ⟨rfl, rfl⟩

end NV.C08
