/-
C08: what crash freedom is stated with.  `NF c i`: `i` is a valid pointer (allocated, structure not released).
Within one task no structure is released (only remove_destructed_objects does that, at top level), so validity is
monotone (`NFle`).  A task is well-formed (`TaskWf`) when the pointers it holds are valid - plus, for the fan-out, that
the moved object is in the destination, and for the unlink loop of destruct_object, that the object is still live (the
precondition `remove_object_hash` relies on).  `Good`: the result of a task is not `crash` or `hang`, command_giver is
valid, the returned object is valid and no init() was called between objects that are not adjacent (proved of every
well-formed task in Exec.lean).  Then: the registries hold only live objects, and the `super` walk ends.
-/
import NV.C08.Blocks

namespace NV.C08


def NF (c : Core) (i : Nat) : Prop := i < c.n ∧ (c.objs i).freed = false

/-- what never changes inside one task: valid pointers stay valid (`nf`), no object is un-allocated (`le`), an allocated
    object keeps its name (`name`) and a destructed object stays destructed (`dead`) -/
structure NFle (c c' : Core) : Prop where
  nf : ∀ i, NF c i → NF c' i
  le : c.n ≤ c'.n
  name : ∀ i, i < c.n → (c'.objs i).name = (c.objs i).name
  dead : ∀ i, i < c.n → (c.objs i).destructed = true → (c'.objs i).destructed = true

instance {c c' : Core} : CoeFun (NFle c c') (fun _ => ∀ i, NF c i → NF c' i) := ⟨fun h => h.nf⟩

theorem NFle.refl (c : Core) : NFle c c := ⟨fun _ h => h, Nat.le_refl _, fun _ _ => rfl, fun _ _ h => h⟩
theorem NFle.trans {a b c : Core} (h1 : NFle a b) (h2 : NFle b c) : NFle a c :=
  ⟨fun i h => h2.nf i (h1.nf i h), Nat.le_trans h1.le h2.le,
   fun i hi => by rw [h2.name i (Nat.lt_of_lt_of_le hi h1.le), h1.name i hi],
   fun i hi hd => h2.dead i (Nat.lt_of_lt_of_le hi h1.le) (h1.dead i hi hd)⟩

theorem nfle_of {c c' : Core} (hn : c.n ≤ c'.n) (hf : ∀ i, i < c.n → (c'.objs i).freed = (c.objs i).freed)
    (hnm : ∀ i, i < c.n → (c'.objs i).name = (c.objs i).name)
    (hdd : ∀ i, i < c.n → (c.objs i).destructed = true → (c'.objs i).destructed = true) :
    NFle c c' := ⟨fun i h => ⟨Nat.lt_of_lt_of_le h.1 hn, by rw [hf i h.1]; exact h.2⟩, hn, hnm, hdd⟩

theorem nfle_same {c c' : Core} (hn : c'.n = c.n) (hf : freedF c' = freedF c) (hnm : nameF c' = nameF c)
    (hdd : deadF c' = deadF c) : NFle c c' :=
  nfle_of (by omega) (fun i _ => congrFun hf i) (fun i _ => congrFun hnm i)
    (fun i _ h => by have := congrFun hdd i; simp only [deadF] at this; rw [this]; exact h)

/-- a live object is a valid pointer -/
theorem live_not_freed {c : Core} (hI : Inv c) {i : Nat} (hd : (c.objs i).destructed = false) :
    (c.objs i).freed = false := by
  cases hf : (c.objs i).freed with
  | false => rfl
  | true => have := hI.lists.freedDead i hf; simp [deadF, hd] at this

theorem live_nf {c : Core} (hI : Inv c) {i : Nat} (hi : i < c.n) (hd : (c.objs i).destructed = false) : NF c i :=
  ⟨hi, live_not_freed hI hd⟩

/-- a block that leaves the objects alone -/
theorem nfle_objs {c c' : Core} (hn : c'.n = c.n) (ho : c'.objs = c.objs) : NFle c c' :=
  nfle_same hn (congrArg (fun o i => (o i).freed) ho) (congrArg (fun o i => (o i).name) ho)
    (congrArg (fun o i => (o i).destructed) ho)

theorem nfle_lookupC (c : Core) (nm : Name) : NFle c (lookupC c nm).1 :=
  nfle_objs (lookupC_n c nm).1 (lookupC_n c nm).2

theorem findLivingC_n (c : Core) (s : String) : (findLivingC c s).1.n = c.n ∧ (findLivingC c s).1.objs = c.objs := by
  rw [findLivingC_eq]; split <;> simp [setLv]

theorem nfle_findLivingC (c : Core) (s : String) : NFle c (findLivingC c s).1 :=
  nfle_objs (findLivingC_n c s).1 (findLivingC_n c s).2

theorem nfle_setEc (c : Core) (a : Nat) (b : Bool) : NFle c (setObj c a { c.objs a with ec := b }) := by
  rw [setEc_closed]; exact nfle_same rfl rfl rfl rfl

theorem nfle_setLiving {c : Core} {a : Nat} (s : String) (hd : (c.objs a).destructed = false) : NFle c (setLiving c a s) := by
  rw [setLiving_eq hd]; exact nfle_same rfl rfl rfl rfl

theorem nfle_sentOnly {c c' : Core} (h : SentOnly c c') : NFle c c' := by
  obtain ⟨f, rfl⟩ := h; exact nfle_same rfl rfl rfl rfl

theorem nfle_relink {c : Core} (hL : Links c.n (deadF c) (supF c) (contF c)) (item dest : Nat) :
    NFle c (relink c item dest) := by
  rw [relink_closed hL]; exact nfle_same rfl rfl rfl rfl

theorem nfle_alloc {c : Core} {nm : Name} {cl : Bool} (hI : Inv c)
    (hfree : ∀ i, i < c.n → (c.objs i).destructed = false → (c.objs i).name ≠ nm) :
    NFle c (alloc c nm cl).1 ∧ NF (alloc c nm cl).1 (alloc c nm cl).2 := by
  rw [alloc_eq hI hfree, allocCore_closed hI]
  exact ⟨nfle_of (Nat.le_succ _) (fun i hi => if_neg (Nat.ne_of_lt hi)) (fun i hi => if_neg (Nat.ne_of_lt hi))
    (fun _ _ hd => hd), Nat.lt_succ_self _, if_pos rfl⟩

theorem nfle_ctr (c : Core) : NFle c { c with ctr := c.ctr + 1 } := nfle_objs rfl rfl

theorem nfle_finishDestruct {c : Core} {ob : Nat} (hI : Inv c) (ho : ob < c.n) (hd : (c.objs ob).destructed = false) :
    NFle c (finishDestruct c ob) := by
  rw [finishDestruct_eq hI ho hd]
  refine nfle_of (Nat.le_refl _) (fun _ _ => rfl) (fun _ _ => rfl) fun i _ hd0 => ?_
  show (if i = ob then true else (c.objs i).destructed) = true
  split
  · rfl
  · exact hd0

def WorldWf (w : World) : Prop := ∀ g, w.cg = some g → NF w.c g

def TaskWf (c : Core) : Task → Prop
  | .ops self _ _ => NF c self
  | .hook x k arg => NF c x ∧ (∀ y, k = .init → arg = some y → adjacent c x y = true)
  | .load _ _ => True
  | .clone _ => True
  | .move item dest => NF c item ∧ NF c dest
  | .moveStr item _ => NF c item
  | .fan item dest cur save => NF c item ∧ NF c dest ∧ (∀ ob, cur = some ob → NF c ob) ∧ (c.objs item).super = some dest ∧
      (∀ g, save = some g → NF c g)
  | .command a _ => NF c a
  | .cmdloop a _ _ _ => NF c a
  | .present _ _ cur => ∀ ob, cur = some ob → NF c ob
  | .destruct ob => NF c ob
  | .dloop ob sup0 _ => NF c ob ∧ (c.objs ob).destructed = false ∧ (∀ s, sup0 = some s → NF c s)
  | .objloop self rest _ => NF c self ∧ (∀ x ∈ rest, NF c x)

/-- what a well-formed task guarantees about its result (relative to the pointers valid in `c0`) -/
structure Good (c0 : Core) (r : R) : Prop where
  le : NFle c0 r.w.c
  nocrash : r.out ≠ .crash
  nohang : r.out ≠ .hang
  ghost : r.w.initBad = false
  wf : WorldWf r.w
  val : ∀ v, r.val = some v → NF r.w.c v

theorem Good.mono {c0 c1 : Core} {r : R} (h : NFle c0 c1) (g : Good c1 r) : Good c0 r :=
  { g with le := h.trans g.le }

theorem anyFreed_live {c : Core} (hI : Inv c) (l : List Nat) (hl : ∀ i ∈ l, i < c.n ∧ (c.objs i).destructed = false) :
    anyFreed c l = false := by
  simp only [anyFreed, List.any_eq_false]
  intro i hi
  have := live_nf hI (hl i hi).1 (hl i hi).2
  simp [this.2]

theorem anyFreed_ot {c : Core} (hI : Inv c) (h : Nat) : anyFreed c (c.ot h) = false :=
  anyFreed_live hI _ (fun i hi => by have := (hI.names.mem h i).mp hi; exact ⟨this.1, this.2.1⟩)

theorem anyFreed_ol {c : Core} (hI : Inv c) : anyFreed c c.ol = false :=
  anyFreed_live hI _ (fun i hi => (hI.lists.olMem i).mp hi)

theorem anyFreed_lv {c : Core} (hI : Inv c) (h : Nat) : anyFreed c (c.lv h) = false :=
  anyFreed_live hI _ (fun i hi => by have := (hI.living.mem h i).mp hi; exact ⟨this.1, this.2.1⟩)

/-- an object that is not live has no environment and an empty inventory -/
theorem Links.idle {n : Nat} {dead : Nat → Bool} {sup : Nat → Option Nat} {cont : Nat → List Nat}
    (hL : Links n dead sup cont) {i : Nat} (h : ¬ (i < n ∧ dead i = false)) : sup i = none ∧ cont i = [] := by
  by_cases hi : i < n
  · exact hL.deadL i (Bool.not_eq_false _ ▸ fun hd => h ⟨hi, hd⟩)
  · exact (hL.blank i (Nat.le_of_not_lt hi)).2

theorem cont_live {c : Core} (hI : Inv c) {x y : Nat} (hm : x ∈ (c.objs y).contains) :
    x < c.n ∧ (c.objs x).destructed = false :=
  Decidable.byContradiction fun h => by
    have hs : supF c x = some y := (hI.links.inv x y).mp hm
    rw [(hI.links.idle h).1] at hs; cases hs

theorem super_live {c : Core} (hI : Inv c) {x y : Nat} (hs : (c.objs x).super = some y) :
    y < c.n ∧ (c.objs y).destructed = false :=
  Decidable.byContradiction fun h => by
    have hm : x ∈ contF c y := (hI.links.inv x y).mpr hs
    rw [(hI.links.idle h).2] at hm; cases hm

theorem anyFreed_env {c : Core} (hI : Inv c) (x : Nat) :
    anyFreed c (match (c.objs x).super with | none => [] | some s => s :: (c.objs s).contains) = false := by
  apply anyFreed_live hI
  intro i hi
  split at hi
  · simp at hi
  · rename_i s hs
    simp at hi
    rcases hi with e | hm
    · subst e; exact super_live hI hs
    · exact cont_live hI hm

/-- the super walk never steps on a released structure when it starts at a valid pointer -/
theorem superWalk_not_freed {c : Core} (hI : Inv c) (item : Nat) : ∀ (f : Nat) (d : Nat), NF c d →
    superWalk c item f (some d) ≠ .freed := by
  intro f
  induction f with
  | zero => intro d _; simp [superWalk]
  | succ f ih =>
    intro d hd
    simp only [superWalk, hd.2]
    simp only [Bool.false_eq_true, if_false]
    split
    · simp
    · cases hs : (c.objs d).super with
      | none => cases f <;> simp [superWalk]
      | some p =>
        have hp := super_live hI hs
        exact ih p (live_nf hI hp.1 hp.2)

/-- pigeonhole: a duplicate-free list of numbers below `n` has at most `n` entries -/
theorem nodup_bound (n : Nat) (l : List Nat) (hnd : l.Nodup) (h : ∀ x ∈ l, x < n) : l.length ≤ n :=
  List.length_range (n := n) ▸ hnd.length_le_of_subset fun x hx => List.mem_range.mpr (h x hx)

/-- the cycle walk of move_object terminates: the objects it has visited (`vis`) are pairwise different allocated
    objects, each of them a descendant of the cursor (forest: `Links.acyc`), so there are at most `n` of them -/
theorem superWalk_not_loop_aux {c : Core} (hI : Inv c) (item : Nat) : ∀ (f : Nat) (vis : List Nat) (cur : Option Nat),
    vis.Nodup → (∀ v ∈ vis, v < c.n) →
    (∀ d, cur = some d → d < c.n ∧ d ∉ vis ∧ ∀ v ∈ vis, Anc (supF c) v d) →
    c.n + 1 ≤ f + vis.length → superWalk c item f cur ≠ .loop := by
  intro f
  induction f with
  | zero =>
    intro vis cur hnd hlt _ hlen
    have := nodup_bound c.n vis hnd hlt
    omega
  | succ f ih =>
    intro vis cur hnd hlt hcur hlen
    cases cur with
    | none => simp [superWalk]
    | some d =>
      obtain ⟨hd, hdv, hanc⟩ := hcur d rfl
      simp only [superWalk]
      split
      · simp
      · split
        · simp
        · refine ih (d :: vis) (c.objs d).super (List.nodup_cons.mpr ⟨hdv, hnd⟩) ?_ ?_ (by simp; omega)
          · intro v hv
            rcases List.mem_cons.mp hv with e | hv
            · subst e; exact hd
            · exact hlt v hv
          · intro p hp
            have hstep : supF c d = some p := hp
            refine ⟨(super_live hI hp).1, ?_, ?_⟩
            · intro hm
              rcases List.mem_cons.mp hm with e | hm
              · subst e; exact hI.links.acyc p (Anc.base hstep)
              · exact hI.links.acyc d (Anc.step hstep (hanc p hm))
            · intro v hv
              rcases List.mem_cons.mp hv with e | hv
              · subst e; exact Anc.base hstep
              · exact Anc.trans (hanc v hv) (Anc.base hstep)

/-- **termination of move_object's `for (ob = dest; ob; ob = ob->super)` walk**: in a state satisfying the invariant
    the walk from any allocated object reaches the top within `n` steps (outcome `loop` = `hang` is impossible) -/
theorem superWalk_not_loop {c : Core} (hI : Inv c) (item d : Nat) (hd : d < c.n) :
    superWalk c item (c.n + 1) (some d) ≠ .loop :=
  superWalk_not_loop_aux hI item (c.n + 1) [] (some d) List.nodup_nil (by simp)
    (by intro d' h; cases h; exact ⟨hd, by simp, by simp⟩) (by simp)

/-- `next_inv` of an object is a live member of the same inventory -/
theorem nextInv_live {c : Core} (hI : Inv c) {ob nx : Nat} (h : nextInv c ob = some nx) :
    nx < c.n ∧ (c.objs nx).destructed = false := by
  unfold nextInv at h
  split at h
  · simp at h
  · rename_i s hs
    have hm : nx ∈ ((c.objs s).contains.dropWhile (· ≠ ob)).drop 1 := List.mem_of_mem_head? h
    have hm2 : nx ∈ (c.objs s).contains := by
      have := List.mem_of_mem_drop hm
      exact (List.dropWhile_sublist _).subset this
    exact cont_live hI hm2

theorem nextInv_nf {c : Core} (hI : Inv c) {ob nx : Nat} (h : nextInv c ob = some nx) : NF c nx :=
  have := nextInv_live hI h; live_nf hI this.1 this.2

theorem super_nf {c : Core} (hI : Inv c) {x s : Nat} (hs : (c.objs x).super = some s) : NF c s :=
  have := super_live hI hs; live_nf hI this.1 this.2

theorem anyFreed_living {c : Core} (hI : Inv c) (x : Nat) :
    anyFreed c (match (c.objs x).living with | none => [] | some s => c.lv (lhash s)) = false := by
  cases (c.objs x).living with
  | none => rfl
  | some s => exact anyFreed_lv hI _

/-- move_object between its checks and the init() calls: sentences dropped, `item` relinked into `dest` -/
theorem moveLink_keeps {c : Core} {item dest f : Nat} (hI : Inv c) (hi : item < c.n) (hd : dest < c.n)
    (hid : (c.objs item).destructed = false) (hdd : (c.objs dest).destructed = false)
    (hclear : superWalk c item f (some dest) = .clear) :
    Inv (relink (unsentMove c item) item dest) ∧ NFle c (relink (unsentMove c item) item dest) ∧
    ((relink (unsentMove c item) item dest).objs item).super = some dest := by
  obtain ⟨g, e⟩ := unsentMove_sentOnly c item
  have hI' := mapSent_inv hI g
  rw [e]
  refine ⟨relink_inv hI' hi hid hd hdd (superWalk_clear (c := c) _ _ hclear),
    (nfle_sentOnly ⟨g, rfl⟩).trans (nfle_relink hI'.links item dest), ?_⟩
  rw [relink_closed hI'.links]; exact if_pos rfl

/-- the unlink block of destruct_object as the interpreter runs it: sentences dropped, then `finishDestruct` -/
theorem unlinkBlock_keeps {c : Core} {ob : Nat} (hI : Inv c) (ho : ob < c.n) (hd : (c.objs ob).destructed = false)
    (he : (c.objs ob).contains = []) :
    Inv (finishDestruct (unsentDestruct c ob) ob) ∧ NFle c (finishDestruct (unsentDestruct c ob) ob) := by
  obtain ⟨g, e⟩ := unsentDestruct_sentOnly c ob
  have hI' := mapSent_inv hI g
  rw [e]
  exact ⟨finishDestruct_inv hI' ho hd he, (nfle_sentOnly ⟨g, rfl⟩).trans (nfle_finishDestruct hI' ho hd)⟩

theorem readRef_some {c : Core} {i j : Nat} (h : readRef c i = some j) :
    j = i ∧ i < c.n ∧ (c.objs i).destructed = false := by
  unfold readRef at h
  split at h
  · rename_i hh; simp at h; exact ⟨h.symm, hh.1, hh.2⟩
  · simp at h

theorem readRef_nf {c : Core} {i j : Nat} (hI : Inv c) (h : readRef c i = some j) : NF c j := by
  obtain ⟨rfl, hlt, hd⟩ := readRef_some h; exact live_nf hI hlt hd

theorem head_nf {c : Core} {e ob : Nat} (hI : Inv c) (h : (c.objs e).contains.head? = some ob) : NF c ob :=
  have := cont_live hI (List.mem_of_mem_head? h); live_nf hI this.1 this.2

end NV.C08
