/-
C08: every straight-line block of the modelled C code (the places between two points where LPC code can run) keeps the
invariant: allocation, move_object's relinking, destruct_object's unlink block, enable_commands, the clone counter,
remove_destructed_objects, living names, sentences; the initial state.

Each block has three parts: a closed form of the state it leaves, written object by object with the conditionals inside
the fields (`relinked`, `destroyed`, `livingSet`, `allocCore_closed`, `setEc_closed`, `gc_closed`) and proved equal to the
model's term once; one lemma per group of the invariant about the projections of that form (`links_relink`,
`names_destroy`, ...); and `X_inv`, which rewrites with the closed form and hands the four lemmas over - the
projections of the closed form reduce to the shapes those lemmas speak of.
-/
import NV.C08.Invariant

namespace NV.C08

theorem names_alloc {n : Nat} {dead : Nat → Bool} {name : Nat → Name} {ot : Nat → List Nat} {ctr : Nat} {nm : Name}
    (hN : Names n dead name ot ctr) (hb : dead n = false)
    (hfree : ∀ i, i < n → dead i = false → name i ≠ nm) (hfr : ∀ k, nm.num = some k → k < ctr) :
    Names (n + 1) dead (fun j => if j = n then nm else name j)
      (fun k => if k = hashN nm then n :: ot k else ot k) ctr where
  mem := by
    intro h i
    have hnot : ∀ h, n ∉ ot h := fun h hm => by have := (hN.mem h n).mp hm; omega
    by_cases hi : i = n
    · subst hi
      by_cases hh : h = hashN nm
      · subst hh; simp [hb]
      · simp [hh, hnot h, hb]; exact fun e => hh e.symm
    · have := hN.mem h i
      by_cases hh : h = hashN nm
      · subst hh; simp [hi, this]; omega
      · simp [hh, hi, this]; omega
  nodup := by
    intro h
    have hnot : n ∉ ot h := fun hm => by have := (hN.mem h n).mp hm; omega
    by_cases hh : h = hashN nm
    · simp [hh]; exact ⟨by subst hh; exact hnot, hN.nodup _⟩
    · simp [hh]; exact hN.nodup h
  uniq := by
    intro i j hi hdi hj hdj he
    by_cases h1 : i = n <;> by_cases h2 : j = n
    · omega
    · simp [h1, h2] at he
      exact absurd he.symm (hfree j (by omega) hdj)
    · simp [h1, h2] at he
      exact absurd he (hfree i (by omega) hdi)
    · simp [h1, h2] at he
      exact hN.uniq i j (by omega) hdi (by omega) hdj he
  fresh := by
    intro i k hi hk
    by_cases h1 : i = n
    · simp [h1] at hk; exact hfr k hk
    · simp [h1] at hk; exact hN.fresh i k (by omega) hk

theorem links_grow {n : Nat} {dead : Nat → Bool} {sup : Nat → Option Nat} {cont : Nat → List Nat}
    (hL : Links n dead sup cont) : Links (n + 1) dead sup cont :=
  { hL with blank := fun i hi => hL.blank i (by omega) }

theorem lists_alloc {n : Nat} {dead freed : Nat → Bool} {ol dl : List Nat}
    (hL : Lists n dead freed ol dl) (hb : dead n = false) :
    Lists (n + 1) dead (fun j => if j = n then false else freed j) (n :: ol) dl where
  olMem := by
    intro i
    have := hL.olMem i
    by_cases hi : i = n
    · subst hi; simp [hb]
    · simp [hi, this]; omega
  olNodup := by
    rw [List.nodup_cons]
    exact ⟨fun hm => by have := (hL.olMem n).mp hm; omega, hL.olNodup⟩
  dlMem := fun i hi => by have := hL.dlMem i hi; exact ⟨by omega, this.2⟩
  freedDead := by
    intro i hi
    by_cases h1 : i = n
    · simp [h1] at hi
    · simp [h1] at hi; exact hL.freedDead i hi

theorem living_alloc {n : Nat} {dead ec : Nat → Bool} {ln : Nat → Option String} {lv : Nat → List Nat}
    (hV : Living n dead ec ln lv) (hb : dead n = false) :
    Living (n + 1) dead (fun j => if j = n then false else ec j) ln lv where
  mem := by
    intro h i
    have := hV.mem h i
    by_cases hi : i = n
    · subst hi
      have hb := hV.blankV i (Nat.le_refl _)
      simp [this, hb]
    · simp [this]; omega
  nodup := hV.nodup
  deadV := by
    intro i hi
    by_cases h1 : i = n
    · subst h1; simp [hb] at hi
    · simp [h1]; exact hV.deadV i hi
  blankV := fun i hi => hV.blankV i (by omega)

/-- the state after get_empty_object + obj_list push + enter_object_hash of a name that is not present -/
def allocCore (c : Core) (nm : Name) (cl : Bool) : Core :=
  { n := c.n + 1, objs := fun j => if j = c.n then { name := nm, clone := cl } else c.objs j,
    ot := fun k => if k = hashN nm then c.n :: c.ot k else c.ot k, ol := c.n :: c.ol, dl := c.dl, lv := c.lv,
    ctr := c.ctr }

theorem alloc_eq {c : Core} {nm : Name} {cl : Bool} (hI : Inv c)
    (hfree : ∀ i, i < c.n → (c.objs i).destructed = false → (c.objs i).name ≠ nm) :
    alloc c nm cl =
      (allocCore c nm cl, c.n) := by
  unfold alloc
  simp only [enterHash]
  have hfind : (c.ot (hashN nm)).find? (fun i => decide ((if i = c.n then ({ name := nm, clone := cl } : Obj) else c.objs i).name = nm)) = none := by
    apply List.find?_eq_none.mpr
    intro i hi
    have := (hI.names.mem _ _).mp hi
    have hne : i ≠ c.n := by omega
    simp [hne]
    exact hfree i this.1 this.2.1
  simp [lookupC_eq, hfind, setOt, allocCore]
  funext k
  by_cases hk : k = hashN nm <;> simp [hk]

/-- `allocCore` object by object: under the invariant the slot `c.n` is blank, so the fields the new object leaves at
    their defaults do not change -/
theorem allocCore_closed {c : Core} (hI : Inv c) (nm : Name) (cl : Bool) :
    allocCore c nm cl =
      { n := c.n + 1,
        objs := fun j => { c.objs j with
          name := if j = c.n then nm else (c.objs j).name,
          freed := if j = c.n then false else (c.objs j).freed,
          ec := if j = c.n then false else (c.objs j).ec,
          clone := if j = c.n then cl else (c.objs j).clone,
          sent := if j = c.n then [] else (c.objs j).sent },
        ot := fun k => if k = hashN nm then c.n :: c.ot k else c.ot k, ol := c.n :: c.ol, dl := c.dl, lv := c.lv,
        ctr := c.ctr } := by
  have hb := hI.links.blank c.n (Nat.le_refl _)
  have hv := hI.living.blankV c.n (Nat.le_refl _)
  simp only [deadF, supF, contF, lnF] at hb hv
  unfold allocCore
  congr 1
  funext j
  by_cases h : j = c.n
  · simp [h, hb, hv]
  · simp [h]

theorem alloc_inv {c : Core} {nm : Name} {cl : Bool} (hI : Inv c)
    (hfree : ∀ i, i < c.n → (c.objs i).destructed = false → (c.objs i).name ≠ nm)
    (hfr : ∀ k, nm.num = some k → k < c.ctr) : Inv (alloc c nm cl).1 := by
  rw [alloc_eq hI hfree, allocCore_closed hI]
  have hb := (hI.links.blank c.n (Nat.le_refl _)).1
  exact ⟨links_grow hI.links, names_alloc hI.names hb hfree hfr, lists_alloc hI.lists hb, living_alloc hI.living hb⟩

/-- move_object's relinking on the projections -/
theorem links_relink {n : Nat} {dead : Nat → Bool} {sup : Nat → Option Nat} {cont : Nat → List Nat} {item dest : Nat}
    (hL : Links n dead sup cont) (hi : item < n) (hid : dead item = false) (hd : dest < n) (hdd : dead dest = false)
    (hchk : ¬ (dest = item ∨ Anc sup dest item)) :
    Links n dead (redirect sup item dest)
      (fun j => if j = dest then item :: (cont j).filter (· ≠ item) else (cont j).filter (· ≠ item)) where
  blank := by
    intro i hge
    have := hL.blank i hge
    have h1 : i ≠ item := by omega
    have h2 : i ≠ dest := by omega
    simp [redirect, h1, h2, this]
  inv := by
    intro x y
    have hne : dest ≠ item := fun e => hchk (Or.inl e)
    by_cases hx : x = item
    · subst hx
      by_cases hy : y = dest
      · subst hy; simp [redirect]
      · simp [redirect, hy]; exact fun e => hy e.symm
    · have := hL.inv x y
      by_cases hy : y = dest
      · subst hy; simp [redirect, hx, this]
      · simp [redirect, hx, hy, this]
  nodup := by
    intro y
    by_cases hy : y = dest
    · subst hy
      simp only [if_true]
      rw [List.nodup_cons]
      exact ⟨by simp, (hL.nodup _).filter _⟩
    · simp only [hy, if_false]; exact (hL.nodup _).filter _
  deadL := by
    intro i hdi
    have := hL.deadL i hdi
    have h1 : i ≠ item := fun e => by subst e; simp [hid] at hdi
    have h2 : i ≠ dest := fun e => by subst e; simp [hdd] at hdi
    simp [redirect, h1, h2, this]
  acyc := acyclic_redirect hL.acyc hchk

/-- first block of the unlinking (move_object and destruct_object alike): `ob` leaves the inventory of its environment -/
def unlinkC (c : Core) (ob : Nat) : Core :=
  match (c.objs ob).super with
  | none => c
  | some s => setObj c s { c.objs s with contains := (c.objs s).contains.filter (· ≠ ob) }

/-- under the invariant the whole block is one map over the objects: `ob` is in the inventory of its environment
    only, so filtering the other inventories changes nothing -/
theorem unlinkC_eq {c : Core} {ob : Nat} (hL : Links c.n (deadF c) (supF c) (contF c)) :
    unlinkC c ob = { c with objs := fun j => { c.objs j with contains := (c.objs j).contains.filter (· ≠ ob) } } := by
  have hf : ∀ y, (c.objs ob).super ≠ some y → c.objs y =
      { c.objs y with contains := (c.objs y).contains.filter (· ≠ ob) } := fun y h => by
    rw [show (c.objs y).contains.filter (· ≠ ob) = (c.objs y).contains from
      filter_ne_of_not_mem fun hm => h ((hL.inv ob y).mp hm)]
  unfold unlinkC
  cases h : (c.objs ob).super with
  | none =>
    show c = { c with objs := _ }
    rw [← show c.objs = _ from funext fun j => hf j (by rw [h]; exact fun e => nomatch e)]
  | some s =>
    show { c with objs := _ } = { c with objs := _ }
    refine congrArg (fun o => { c with objs := o }) (funext fun j => ?_)
    split
    · rename_i e; rw [e]
    · rename_i e; exact hf j (by rw [h]; exact fun e' => e (Option.some.inj e').symm)

theorem relink_eq (c : Core) (item dest : Nat) :
    relink c item dest =
      setObj (setObj (unlinkC c item) item { (unlinkC c item).objs item with super := some dest }) dest
        { (setObj (unlinkC c item) item { (unlinkC c item).objs item with super := some dest }).objs dest with
          contains := item :: ((setObj (unlinkC c item) item
            { (unlinkC c item).objs item with super := some dest }).objs dest).contains } := rfl

/-- the state after move_object's relinking, object by object: with the conditionals inside the fields every projection
    of it reduces to the shape the lemmas about `Links` ... `Living` speak of -/
def relinked (c : Core) (item dest : Nat) : Core :=
  { c with objs := fun j => { c.objs j with
      super := if j = item then some dest else (c.objs j).super,
      contains := if j = dest then item :: (c.objs j).contains.filter (· ≠ item)
                  else (c.objs j).contains.filter (· ≠ item) } }

theorem relink_closed {c : Core} {item dest : Nat} (hL : Links c.n (deadF c) (supF c) (contF c)) :
    relink c item dest = relinked c item dest := by
  rw [relink_eq, unlinkC_eq hL]
  refine congrArg (fun o => { c with objs := o }) (funext fun j => ?_)
  by_cases hi : j = item
  · subst hi; by_cases hd : j = dest <;> simp [setObj, hd]
  · by_cases hd : j = dest
    · subst hd; simp [setObj, hi]
    · simp [setObj, hi, hd]

theorem superWalk_clear {c : Core} {item : Nat} : ∀ (f : Nat) (dest : Nat),
    superWalk c item f (some dest) = .clear → ¬ (dest = item ∨ Anc (supF c) dest item) := by
  intro f
  induction f with
  | zero => intro dest h; simp [superWalk] at h
  | succ f ih =>
    intro dest h
    simp only [superWalk] at h
    split at h
    · simp at h
    · split at h
      · simp at h
      · rename_i hne
        rintro (e | ha)
        · exact hne e
        · obtain ⟨p, hs, hp⟩ := ha.head
          rw [show (c.objs dest).super = some p from hs] at h
          exact ih p h hp

/-- destruct_object's unlinking on the projections -/
theorem links_destroy {n : Nat} {dead : Nat → Bool} {sup : Nat → Option Nat} {cont : Nat → List Nat} {ob : Nat}
    (hL : Links n dead sup cont) (ho : ob < n) (he : cont ob = []) :
    Links n (fun j => if j = ob then true else dead j) (fun j => if j = ob then none else sup j)
      (fun j => if j = ob then [] else (cont j).filter (· ≠ ob)) where
  blank := by
    intro i hge
    have := hL.blank i hge
    have h1 : i ≠ ob := by omega
    simp [h1, this]
  inv := by
    intro x y
    by_cases hx : x = ob
    · subst hx
      by_cases hy : y = x
      · simp [hy]
      · simp [hy]
    · have := hL.inv x y
      by_cases hy : y = ob
      · subst hy
        have h0 : x ∉ cont y := by rw [he]; simp
        simp [hx]
        exact fun h => h0 ((hL.inv x y).mpr h)
      · simp [hx, hy, this]
  nodup := by
    intro y
    by_cases hy : y = ob
    · simp [hy]
    · simp only [hy, if_false]; exact (hL.nodup _).filter _
  deadL := by
    intro i hdi
    by_cases h1 : i = ob
    · simp [h1]
    · simp [h1] at hdi
      have := hL.deadL i hdi
      simp [h1, this]
  acyc := by
    intro x h
    refine hL.acyc x (Anc.mono ?_ h)
    intro a b hab
    by_cases ha : a = ob
    · simp [ha] at hab
    · simpa [ha] using hab

theorem names_destroy {n : Nat} {dead : Nat → Bool} {name : Nat → Name} {ot : Nat → List Nat} {ctr ob : Nat}
    (hN : Names n dead name ot ctr) :
    Names n (fun j => if j = ob then true else dead j) name
      (fun k => if k = hashN (name ob) then (ot k).erase ob else ot k) ctr where
  mem := by
    intro h i
    have := hN.mem h i
    by_cases hh : h = hashN (name ob)
    · subst hh
      simp only [if_true]
      rw [List.Nodup.mem_erase_iff (hN.nodup _)]
      by_cases hi : i = ob
      · simp [hi]
      · simp [hi, this]
    · simp only [hh, if_false]
      by_cases hi : i = ob
      · subst hi; simp [this]; intro _ _ e; exact hh e.symm
      · simp [hi, this]
  nodup := by
    intro h
    by_cases hh : h = hashN (name ob)
    · simp only [hh, if_true]; exact (hN.nodup _).erase _
    · simp only [hh, if_false]; exact hN.nodup h
  uniq := by
    intro i j hi hdi hj hdj he
    by_cases h1 : i = ob
    · simp [h1] at hdi
    · by_cases h2 : j = ob
      · simp [h2] at hdj
      · simp [h1] at hdi; simp [h2] at hdj
        exact hN.uniq i j hi hdi hj hdj he
  fresh := hN.fresh

theorem lists_destroy {n : Nat} {dead freed : Nat → Bool} {ol dl : List Nat} {ob : Nat}
    (hL : Lists n dead freed ol dl) (ho : ob < n) :
    Lists n (fun j => if j = ob then true else dead j) freed (ol.erase ob) (ob :: dl) where
  olMem := by
    intro i
    rw [List.Nodup.mem_erase_iff hL.olNodup]
    have := hL.olMem i
    by_cases hi : i = ob
    · simp [hi]
    · simp [hi, this]
  olNodup := hL.olNodup.erase _
  dlMem := by
    intro i hi
    by_cases h1 : i = ob
    · subst h1; simp [ho]
    · simp [h1] at hi ⊢; exact hL.dlMem i hi
  freedDead := by
    intro i hi
    by_cases h1 : i = ob
    · simp [h1]
    · simp [h1]; exact hL.freedDead i hi

theorem living_remove {n : Nat} {dead ec : Nat → Bool} {ln : Nat → Option String} {lv : Nat → List Nat} {ob : Nat}
    (hV : Living n dead ec ln lv) :
    Living n dead ec (fun j => if j = ob then none else ln j)
      (fun k => match ln ob with
        | none => lv k
        | some s => if k = lhash s then (lv k).erase ob else lv k) where
  mem := by
    intro h i
    have := hV.mem h i
    cases hs : ln ob with
    | none =>
      simp only
      by_cases hi : i = ob
      · subst hi; simp [this, hs]
      · simp [hi, this]
    | some s =>
      simp only
      by_cases hh : h = lhash s
      · subst hh
        simp only [if_true]
        rw [List.Nodup.mem_erase_iff (hV.nodup _)]
        by_cases hi : i = ob
        · simp [hi]
        · simp [hi, this]
      · simp only [hh, if_false]
        by_cases hi : i = ob
        · subst hi; simp [this, hs]; intro _ _ e; exact hh e.symm
        · simp [hi, this]
  nodup := by
    intro h
    cases hs : ln ob with
    | none => exact hV.nodup h
    | some s =>
      simp only
      by_cases hh : h = lhash s
      · simp only [hh, if_true]; exact (hV.nodup _).erase _
      · simp only [hh, if_false]; exact hV.nodup h
  deadV := by
    intro i hdi
    have := hV.deadV i hdi
    by_cases h1 : i = ob
    · subst h1; simp [this]
    · simp [h1]; exact this
  blankV := by
    intro i hi
    by_cases h1 : i = ob
    · simp [h1]
    · simp [h1]; exact hV.blankV i hi

/-- an object without living name can be marked destructed -/
theorem living_kill {n : Nat} {dead ec : Nat → Bool} {ln : Nat → Option String} {lv : Nat → List Nat} {ob : Nat}
    (hV : Living n dead ec ln lv) (hn : ln ob = none) :
    Living n (fun j => if j = ob then true else dead j) (fun j => if j = ob then false else ec j) ln lv where
  mem := fun h i => by
    rw [hV.mem h i]
    by_cases hi : i = ob
    · subst hi; simp [hn]
    · simp [hi]
  nodup := hV.nodup
  deadV := fun i hdi => by
    by_cases hi : i = ob
    · subst hi; exact ⟨by simp, hn⟩
    · simp only [hi, if_false] at hdi ⊢; exact hV.deadV i hdi
  blankV := hV.blankV

theorem living_destroy {n : Nat} {dead ec : Nat → Bool} {ln : Nat → Option String} {lv : Nat → List Nat} {ob : Nat}
    (hV : Living n dead ec ln lv) :
    Living n (fun j => if j = ob then true else dead j) (fun j => if j = ob then false else ec j)
      (fun j => if j = ob then none else ln j)
      (fun k => match ln ob with
        | none => lv k
        | some s => if k = lhash s then (lv k).erase ob else lv k) :=
  living_kill (living_remove hV) (if_pos rfl)

theorem relink_inv {c : Core} {item dest : Nat} (hI : Inv c) (hi : item < c.n) (hid : (c.objs item).destructed = false)
    (hd : dest < c.n) (hdd : (c.objs dest).destructed = false)
    (hchk : ¬ (dest = item ∨ Anc (supF c) dest item)) : Inv (relink c item dest) := by
  rw [relink_closed hI.links]
  exact ⟨links_relink hI.links hi hid hd hdd hchk, hI.names, hI.lists, hI.living⟩

/-- find_obj_n on the name of a live object finds that object and cycles it to the front -/
theorem lookupC_live {c : Core} {ob : Nat} (hI : Names c.n (deadF c) (nameF c) c.ot c.ctr) (ho : ob < c.n) (hd : (c.objs ob).destructed = false) :
    lookupC c (c.objs ob).name =
      (setOt c (hashN (c.objs ob).name) (ob :: (c.ot (hashN (c.objs ob).name)).erase ob), some ob) := by
  have hs := (lookupC_spec_of_names hI (c.objs ob).name ob).mpr ⟨ho, hd, rfl⟩
  rcases lookupC_cases c (c.objs ob).name with ⟨h, _⟩ | ⟨j, _, _, h⟩ <;> rw [h] at hs ⊢
  · cases hs
  · cases hs; rfl

theorem dropWhile_ne_head (ob : Nat) (l : List Nat) : ((ob :: l).dropWhile (· ≠ ob)).drop 1 = l := by
  simp [List.dropWhile]

theorem removeHash_eq (c : Core) (i : Nat) :
    removeHash c i = setOt (lookupC c (c.objs i).name).1 (hashN (c.objs i).name)
      (nextHash (lookupC c (c.objs i).name).1 i) := rfl

/-- remove_object_hash of a live object (the precondition the C code relies on): exactly that object leaves its chain -/
theorem removeHash_live {c : Core} {ob : Nat} (hI : Names c.n (deadF c) (nameF c) c.ot c.ctr) (ho : ob < c.n) (hd : (c.objs ob).destructed = false) :
    removeHash c ob = setOt c (hashN (c.objs ob).name) ((c.ot (hashN (c.objs ob).name)).erase ob) := by
  rw [removeHash_eq, lookupC_live hI ho hd]
  unfold nextHash
  simp only [setOt]
  simp
  funext k
  by_cases hk : k = hashN (c.objs ob).name <;> simp [hk]

theorem removeHash_fields (c : Core) (i : Nat) :
    (removeHash c i).n = c.n ∧ (removeHash c i).objs = c.objs ∧ (removeHash c i).ol = c.ol ∧
    (removeHash c i).dl = c.dl ∧ (removeHash c i).lv = c.lv ∧ (removeHash c i).ctr = c.ctr := by
  rw [removeHash_eq]
  rcases lookupC_cases c (c.objs i).name with ⟨h, _⟩ | ⟨j, _, _, h⟩ <;> rw [h] <;> simp [setOt]

theorem finishDestruct_def (c : Core) (ob : Nat) :
    finishDestruct c ob =
      (let c2 := removeHash (unlinkC c ob) ob
       let c3 : Core := { c2 with ol := c2.ol.erase ob }
       let c4 := removeLiving c3 ob
       let c5 := setObj c4 ob { c4.objs ob with ec := false, super := none, contains := [], destructed := true, sent := [] }
       { c5 with dl := ob :: c5.dl }) := rfl

/-- the state after the unlink block of destruct_object on a live object, object by object -/
def destroyed (c : Core) (ob : Nat) : Core :=
  { n := c.n,
    objs := fun j => { c.objs j with
      destructed := if j = ob then true else (c.objs j).destructed,
      ec := if j = ob then false else (c.objs j).ec,
      super := if j = ob then none else (c.objs j).super,
      contains := if j = ob then [] else (c.objs j).contains.filter (· ≠ ob),
      living := if j = ob then none else (c.objs j).living,
      sent := if j = ob then [] else (c.objs j).sent },
    ot := fun k => if k = hashN (c.objs ob).name then (c.ot k).erase ob else c.ot k,
    ol := c.ol.erase ob, dl := ob :: c.dl,
    lv := fun k => match (c.objs ob).living with
      | none => c.lv k
      | some s => if k = lhash s then (c.lv k).erase ob else c.lv k,
    ctr := c.ctr }

theorem finishDestruct_eq {c : Core} {ob : Nat} (hI : Inv c) (ho : ob < c.n) (hd : (c.objs ob).destructed = false) :
    finishDestruct c ob = destroyed c ob := by
  have e := unlinkC_eq (ob := ob) hI.links
  have hr : removeHash (unlinkC c ob) ob = setOt (unlinkC c ob) (hashN (c.objs ob).name)
      ((c.ot (hashN (c.objs ob).name)).erase ob) := by
    rw [e]; exact removeHash_live (c := _) hI.names ho hd
  rw [finishDestruct_def, hr, e]
  simp only [removeLiving, setOt, destroyed]
  cases hl : (c.objs ob).living with
  | none =>
    simp only [setObj]
    congr 1
    · funext j; by_cases h : j = ob <;> simp [h, hl]
    · funext k; by_cases h : k = hashN (c.objs ob).name <;> simp [h]
  | some s =>
    simp only [setObj, setLv]
    congr 1
    · funext j; by_cases h : j = ob <;> simp [h]
    · funext k; by_cases h : k = hashN (c.objs ob).name <;> simp [h]
    · funext k; by_cases h : k = lhash s <;> simp [h]

/-- the unlink block of destruct_object keeps the invariant when it runs on a live object with an empty inventory -/
theorem finishDestruct_inv {c : Core} {ob : Nat} (hI : Inv c) (ho : ob < c.n)
    (hd : (c.objs ob).destructed = false) (he : (c.objs ob).contains = []) : Inv (finishDestruct c ob) := by
  rw [finishDestruct_eq hI ho hd]
  exact ⟨links_destroy hI.links ho he, names_destroy hI.names, lists_destroy hI.lists ho, living_destroy hI.living⟩

/-- whatever else it does, the unlink block marks the object -/
theorem finishDestruct_dead (c : Core) (ob : Nat) : ((finishDestruct c ob).objs ob).destructed = true := by
  simp [finishDestruct, setObj]

theorem relink_mem (c : Core) (item dest : Nat) : item ∈ ((relink c item dest).objs dest).contains := by
  simp [relink, setObj]

/-! ## sentences: add_action / remove_sent touch nothing the invariant reads -/

/-- `c'` differs from `c` at most in the sentence lists (`mapSent c fun _ o => o.sent` is `c` itself) -/
def SentOnly (c c' : Core) : Prop := ∃ f, c' = mapSent c f

/-- `mapSent` is a map over the objects that leaves every field the invariant reads alone -/
theorem mapSent_inv {c : Core} (hI : Inv c) (f : Nat → Obj → List (String × Nat)) : Inv (mapSent c f) :=
  ⟨hI.links, hI.names, hI.lists, hI.living⟩

theorem sentOnly_inv {c c' : Core} (h : SentOnly c c') (hI : Inv c) : Inv c' := by
  obtain ⟨f, rfl⟩ := h; exact mapSent_inv hI f

theorem unsentMove_sentOnly (c : Core) (item : Nat) : SentOnly c (unsentMove c item) := by
  unfold unsentMove
  split
  · exact ⟨fun _ o => o.sent, rfl⟩
  · exact ⟨_, rfl⟩

theorem unsentDestruct_sentOnly (c : Core) (ob : Nat) : SentOnly c (unsentDestruct c ob) := by
  unfold unsentDestruct
  split
  · exact ⟨fun _ o => o.sent, rfl⟩
  · exact ⟨_, rfl⟩

theorem addSent_sentOnly (c : Core) (g : Nat) (v : String) (ob : Nat) : SentOnly c (addSent c g v ob) := ⟨_, rfl⟩

theorem eraseSent_sentOnly (c : Core) (g : Nat) (p : String × Nat → Bool) :
    SentOnly c (mapSent c (fun u o => if u = g then eraseFirst p o.sent else o.sent)) := ⟨_, rfl⟩

theorem setEc_closed (c : Core) (a : Nat) (b : Bool) :
    setObj c a { c.objs a with ec := b } =
      { c with objs := fun j => { c.objs j with ec := if j = a then b else (c.objs j).ec } } := by
  refine congrArg (fun o => { c with objs := o }) (funext fun j => ?_)
  by_cases h : j = a
  · subst h; simp
  · simp [h]

/-- enable_commands / disable_commands on a live object -/
theorem setEc_inv {c : Core} {a : Nat} (b : Bool) (hI : Inv c) (hd : (c.objs a).destructed = false) :
    Inv (setObj c a { c.objs a with ec := b }) := by
  rw [setEc_closed]
  refine ⟨hI.links, hI.names, hI.lists, { hI.living with deadV := fun i hi => ⟨?_, (hI.living.deadV i hi).2⟩ }⟩
  show (if i = a then b else (c.objs i).ec) = false
  rw [if_neg fun e => Bool.false_ne_true ((e ▸ hd).symm.trans hi)]
  exact (hI.living.deadV i hi).1

/-- make_new_name's counter -/
theorem ctr_inv {c : Core} (hI : Inv c) : Inv { c with ctr := c.ctr + 1 } :=
  { links := hI.links, lists := hI.lists, living := hI.living,
    names := { mem := hI.names.mem, nodup := hI.names.nodup, uniq := hI.names.uniq,
               fresh := fun i k hi hk => Nat.lt_succ_of_lt (hI.names.fresh i k hi hk) } }

theorem gc_closed (c : Core) :
    gc c = { c with objs := fun i => { c.objs i with freed := if i ∈ c.dl then true else (c.objs i).freed }, dl := [] } := by
  refine congrArg (fun o => { c with objs := o, dl := [] }) (funext fun i => ?_)
  split <;> rfl

/-- remove_destructed_objects -/
theorem gc_inv {c : Core} (hI : Inv c) : Inv (gc c) := by
  rw [gc_closed]
  refine ⟨hI.links, hI.names, ⟨hI.lists.olMem, hI.lists.olNodup, (fun i hi => nomatch hi), fun i hi => ?_⟩, hI.living⟩
  -- released now: it was on the destruct list; released before: as before
  by_cases h : i ∈ c.dl
  · exact (hI.lists.dlMem i h).2
  · exact hI.lists.freedDead i ((if_neg h).symm.trans hi)

/-- set_living_name's second half: the table in which `ob` has no name (as `living_remove` leaves it) gets `ob` under `s` -/
theorem living_add {n : Nat} {dead ec : Nat → Bool} {ln : Nat → Option String} {lv : Nat → List Nat} {ob : Nat} {s : String}
    (hV : Living n dead ec (fun j => if j = ob then none else ln j) lv) (ho : ob < n) (hd : dead ob = false) :
    Living n dead ec (fun j => if j = ob then some s else ln j)
      (fun k => if k = lhash s then ob :: lv k else lv k) where
  mem := by
    intro h i
    have := hV.mem h i
    have hnot : ∀ h, ob ∉ lv h := fun h hm => by
      have := (hV.mem h ob).mp hm; simp at this
    by_cases hi : i = ob
    · subst hi
      by_cases hh : h = lhash s
      · subst hh; simp [ho, hd]
      · simp [hh, hnot h, ho, hd]; exact fun e => hh e.symm
    · by_cases hh : h = lhash s
      · subst hh; simp [hi] at this ⊢; exact this
      · simp [hh, hi] at this ⊢; exact this
  nodup := by
    intro h
    have hnot : ob ∉ lv h := fun hm => by
      have := (hV.mem h ob).mp hm; simp at this
    by_cases hh : h = lhash s
    · simp only [hh, if_true]; rw [List.nodup_cons]; exact ⟨by rw [← hh]; exact hnot, hV.nodup _⟩
    · simp only [hh, if_false]; exact hV.nodup h
  deadV := by
    intro i hdi
    have := hV.deadV i hdi
    have h1 : i ≠ ob := fun e => by subst e; simp [hd] at hdi
    simp [h1] at this ⊢; exact this
  blankV := by
    intro i hi
    have h1 : i ≠ ob := by omega
    have := hV.blankV i hi
    simp [h1] at this ⊢; exact this

theorem living_mtf {n : Nat} {dead ec : Nat → Bool} {ln : Nat → Option String} {lv : Nat → List Nat} {h0 i : Nat}
    (hV : Living n dead ec ln lv) (hi : i ∈ lv h0) :
    Living n dead ec ln (fun k => if k = h0 then i :: (lv h0).erase i else lv k) :=
  have ⟨m, d⟩ := mtf_chains hi hV.mem hV.nodup
  ⟨m, d, hV.deadV, hV.blankV⟩

theorem findLivingC_eq (c : Core) (s : String) :
    findLivingC c s = match (c.lv (lhash s)).find? (fun i => (c.objs i).ec && decide ((c.objs i).living = some s)) with
      | none => (c, none)
      | some i => (setLv c (lhash s) (i :: (c.lv (lhash s)).erase i), some i) := rfl

theorem findLivingC_inv {c : Core} (s : String) (hI : Inv c) : Inv (findLivingC c s).1 := by
  rw [findLivingC_eq]
  split
  · exact hI
  · rename_i j hj
    have hm := List.mem_of_find?_eq_some hj
    exact { links := hI.links, names := hI.names, lists := hI.lists, living := living_mtf hI.living hm }

/-- find_living_object returns only live, command-enabled objects carrying the living name -/
theorem findLivingC_some {c : Core} {s : String} {i : Nat} (hI : Inv c) (h : (findLivingC c s).2 = some i) :
    i < c.n ∧ (c.objs i).destructed = false ∧ (c.objs i).ec = true ∧ (c.objs i).living = some s := by
  rw [findLivingC_eq] at h
  split at h
  · simp at h
  · rename_i j hj
    simp at h
    subst h
    have hm := List.mem_of_find?_eq_some hj
    have hp := List.find?_some hj
    have := (hI.living.mem _ _).mp hm
    simp at hp
    exact ⟨this.1, this.2.1, hp.1, hp.2⟩

/-- the closed form of set_living_name on a live object, object by object -/
def livingSet (c : Core) (i : Nat) (s : String) : Core :=
  { c with
    objs := fun j => { c.objs j with living := if j = i then some s else (c.objs j).living },
    lv := fun k => if k = lhash s then i :: (match (c.objs i).living with
                                              | none => c.lv k
                                              | some s0 => if k = lhash s0 then (c.lv k).erase i else c.lv k)
                   else (match (c.objs i).living with
                          | none => c.lv k
                          | some s0 => if k = lhash s0 then (c.lv k).erase i else c.lv k) }

theorem setLiving_eq {c : Core} {i : Nat} {s : String} (hd : (c.objs i).destructed = false) :
    setLiving c i s = livingSet c i s := by
  unfold setLiving
  simp only [hd, Bool.false_eq_true, if_false]
  unfold removeLiving
  cases hl : (c.objs i).living with
  | none =>
    simp only [livingSet, setLv, setObj, hl]
    congr 1
    · funext j; by_cases h : j = i <;> simp [h]
    · funext k; by_cases h : k = lhash s
      · subst h; simp
      · simp [h]
  | some s0 =>
    simp only [livingSet, setLv, setObj, hl]
    congr 1
    · funext j; by_cases h : j = i <;> simp [h]
    · funext k
      by_cases h2 : k = lhash s0
      · subst h2; by_cases h : lhash s0 = lhash s <;> simp [h]
      · by_cases h : k = lhash s
        · subst h; simp [h2]
        · simp [h, h2]

theorem setLiving_inv {c : Core} {i : Nat} (s : String) (hI : Inv c) (hi : i < c.n)
    (hd : (c.objs i).destructed = false) : Inv (setLiving c i s) := by
  rw [setLiving_eq hd]
  -- the old name goes, then the new one is entered
  exact ⟨hI.links, hI.names, hI.lists, living_add (living_remove hI.living) hi hd⟩

/-! ## the heart-beat list is not part of the structures the invariant talks about -/

theorem hbRemove_c_cg_initBad (w : World) (ob : Nat) :
    (hbRemove w ob).c = w.c ∧ (hbRemove w ob).cg = w.cg ∧ (hbRemove w ob).initBad = w.initBad := by
  unfold hbRemove; split <;> exact ⟨rfl, rfl, rfl⟩

theorem hbAdd_c_cg_initBad (w : World) (ob : Nat) :
    (hbAdd w ob).c = w.c ∧ (hbAdd w ob).cg = w.cg ∧ (hbAdd w ob).initBad = w.initBad := by
  unfold hbAdd; split <;> exact ⟨rfl, rfl, rfl⟩

/-- error(): the state keeps its structures, command_giver and the ghost flag (the heart beat of the running object may
    be switched off) -/
theorem raise_c_cg_initBad (w : World) (m : String) :
    (raise w m).w.c = w.c ∧ (raise w m).w.cg = w.cg ∧ (raise w m).w.initBad = w.initBad := by
  unfold raise hbOffU hbOff
  dsimp only [emit]
  split
  · split
    · exact ⟨rfl, rfl, rfl⟩
    · split
      · exact ⟨rfl, rfl, rfl⟩
      · exact hbRemove_c_cg_initBad _ _
  · exact ⟨rfl, rfl, rfl⟩

def Core.empty : Core :=
  { n := 0, objs := fun _ => { name := { base := .nofile, num := none } },
    ot := fun _ => [], ol := [], dl := [], lv := fun _ => [], ctr := 1 }

theorem empty_inv : Inv Core.empty where
  links := { blank := fun i _ => ⟨rfl, rfl, rfl⟩,
             inv := fun x y => by simp [Core.empty, contF, supF],
             nodup := fun y => by simp [Core.empty, contF],
             deadL := fun i h => by simp [Core.empty, deadF] at h,
             acyc := fun _ => Anc.not_of_none rfl }
  names := { mem := fun h i => by simp [Core.empty],
             nodup := fun h => by simp [Core.empty],
             uniq := fun i j hi => by simp [Core.empty] at hi,
             fresh := fun i k hi => by simp [Core.empty] at hi }
  lists := { olMem := fun i => by simp [Core.empty],
             olNodup := by simp [Core.empty],
             dlMem := fun i hi => by simp [Core.empty] at hi,
             freedDead := fun i hi => by simp [Core.empty, freedF] at hi }
  living := { mem := fun h i => by simp [Core.empty],
              nodup := fun h => by simp [Core.empty],
              deadV := fun i hi => by simp [Core.empty, deadF] at hi,
              blankV := fun i _ => rfl }

/-- driver start: simul_efun, then master, allocated into the empty state -/
theorem init_spec : Core.init =
      allocCore (allocCore Core.empty { base := .simul, num := none } false) { base := .master, num := none } false ∧
    Inv Core.init := by
  have hfree0 : ∀ i, i < Core.empty.n → (Core.empty.objs i).destructed = false →
      (Core.empty.objs i).name ≠ { base := .simul, num := none } := fun i hi => absurd hi (Nat.not_lt_zero i)
  have e0 := alloc_eq (cl := false) empty_inv hfree0
  have h0 := alloc_inv (cl := false) empty_inv hfree0 (fun _ hk => nomatch hk)
  have hfree1 : ∀ i, i < (alloc Core.empty { base := .simul, num := none } false).1.n →
      ((alloc Core.empty { base := .simul, num := none } false).1.objs i).destructed = false →
      ((alloc Core.empty { base := .simul, num := none } false).1.objs i).name ≠ { base := .master, num := none } := by
    rw [e0]
    intro i hi _
    have : i = 0 := Nat.lt_one_iff.mp hi
    subst this
    simp [allocCore, Core.empty]
  refine ⟨?_, alloc_inv (cl := false) h0 hfree1 (fun _ hk => nomatch hk)⟩
  exact (congrArg Prod.fst (alloc_eq h0 hfree1)).trans (by rw [e0])

theorem init_inv : Inv Core.init := init_spec.2

theorem init_eq : Core.init =
    allocCore (allocCore Core.empty { base := .simul, num := none } false) { base := .master, num := none } false :=
  init_spec.1

/-- the two initial objects: simul_efun (0) and master (1) -/
theorem init_n : Core.init.n = 2 := by rw [init_eq]; rfl
theorem init_obj0 : Core.init.objs 0 = { name := { base := .simul, num := none } } := by rw [init_eq]; rfl
theorem init_obj1 : Core.init.objs 1 = { name := { base := .master, num := none } } := by rw [init_eq]; rfl

theorem init_live0 : 0 < Core.init.n ∧ (Core.init.objs 0).destructed = false :=
  ⟨init_n ▸ Nat.zero_lt_two, congrArg Obj.destructed init_obj0⟩

theorem init_live1 : 1 < Core.init.n ∧ (Core.init.objs 1).destructed = false :=
  ⟨init_n ▸ Nat.one_lt_two, congrArg Obj.destructed init_obj1⟩

theorem init_lookup_master : (lookupC Core.init { base := .master, num := none }).2 = some 1 :=
  (lookupC_spec init_inv _ 1).mpr ⟨init_live1.1, init_live1.2, congrArg Obj.name init_obj1⟩

end NV.C08
