/-
C08: the invariant of the registries.  It is split in four groups, each stated over the projections of the state it
reads, so that a block that does not touch those projections keeps the group as it stands.  Then find_obj_n: what it
returns and that it keeps the invariant.
-/
import NV.C08.Model
import NV.C08.Anc

namespace NV.C08

theorem filter_ne_of_not_mem {l : List Nat} {a : Nat} (h : a ∉ l) : l.filter (· ≠ a) = l := by
  apply List.filter_eq_self.mpr
  intro x hx
  have : x ≠ a := fun e => h (e ▸ hx)
  simp [this]

def deadF (c : Core) : Nat → Bool := fun i => (c.objs i).destructed
def freedF (c : Core) : Nat → Bool := fun i => (c.objs i).freed
def supF (c : Core) : Nat → Option Nat := fun i => (c.objs i).super
def contF (c : Core) : Nat → List Nat := fun i => (c.objs i).contains
def nameF (c : Core) : Nat → Name := fun i => (c.objs i).name
def ecF (c : Core) : Nat → Bool := fun i => (c.objs i).ec
def lnF (c : Core) : Nat → Option String := fun i => (c.objs i).living

/-- inventories and environments -/
structure Links (n : Nat) (dead : Nat → Bool) (sup : Nat → Option Nat) (cont : Nat → List Nat) : Prop where
  blank : ∀ i, n ≤ i → dead i = false ∧ sup i = none ∧ cont i = []
  inv : ∀ x y, x ∈ cont y ↔ sup x = some y
  nodup : ∀ y, (cont y).Nodup
  deadL : ∀ i, dead i = true → sup i = none ∧ cont i = []
  acyc : ∀ x, ¬ Anc sup x x

/-- the object name hash table -/
structure Names (n : Nat) (dead : Nat → Bool) (name : Nat → Name) (ot : Nat → List Nat) (ctr : Nat) : Prop where
  mem : ∀ h i, i ∈ ot h ↔ (i < n ∧ dead i = false ∧ hashN (name i) = h)
  nodup : ∀ h, (ot h).Nodup
  uniq : ∀ i j, i < n → dead i = false → j < n → dead j = false → name i = name j → i = j
  fresh : ∀ i k, i < n → (name i).num = some k → k < ctr

/-- obj_list, obj_list_destruct, released structures -/
structure Lists (n : Nat) (dead freed : Nat → Bool) (ol dl : List Nat) : Prop where
  olMem : ∀ i, i ∈ ol ↔ (i < n ∧ dead i = false)
  olNodup : ol.Nodup
  dlMem : ∀ i, i ∈ dl → i < n ∧ dead i = true
  freedDead : ∀ i, freed i = true → dead i = true

/-- the living name hash table -/
structure Living (n : Nat) (dead ec : Nat → Bool) (ln : Nat → Option String) (lv : Nat → List Nat) : Prop where
  mem : ∀ h i, i ∈ lv h ↔ (i < n ∧ dead i = false ∧ ∃ s, ln i = some s ∧ lhash s = h)
  nodup : ∀ h, (lv h).Nodup
  deadV : ∀ i, dead i = true → ec i = false ∧ ln i = none
  blankV : ∀ i, n ≤ i → ln i = none

/-- the invariant of the registries (the statements of Props.lean call it `WorldInv`): holds at every point where LPC
    code can run -/
structure Inv (c : Core) : Prop where
  links : Links c.n (deadF c) (supF c) (contF c)
  names : Names c.n (deadF c) (nameF c) c.ot c.ctr
  lists : Lists c.n (deadF c) (freedF c) c.ol c.dl
  living : Living c.n (deadF c) (ecF c) (lnF c) c.lv

theorem lookupC_eq (c : Core) (nm : Name) :
    lookupC c nm = match (c.ot (hashN nm)).find? (fun i => decide ((c.objs i).name = nm)) with
      | none => (c, none)
      | some i => (setOt c (hashN nm) (i :: (c.ot (hashN nm)).erase i), some i) := rfl

/-- find_obj_n, both outcomes: a miss leaves the state alone and no member of the chain carries the name; a hit is a
    member of the chain that carries the name, moved to the front -/
theorem lookupC_cases (c : Core) (nm : Name) :
    (lookupC c nm = (c, none) ∧ ∀ i ∈ c.ot (hashN nm), (c.objs i).name ≠ nm) ∨
    ∃ i, i ∈ c.ot (hashN nm) ∧ (c.objs i).name = nm ∧
      lookupC c nm = (setOt c (hashN nm) (i :: (c.ot (hashN nm)).erase i), some i) := by
  rw [lookupC_eq]
  split
  · rename_i hj
    exact Or.inl ⟨rfl, fun i hi => by simpa using List.find?_eq_none.mp hj i hi⟩
  · rename_i j hj
    exact Or.inr ⟨j, List.mem_of_find?_eq_some hj, by simpa using List.find?_some hj, rfl⟩

/-- move-to-front inside chain `h0` of a family of chains: every chain keeps its members (whatever `S` says they are)
    and stays duplicate-free -/
theorem mtf_chains {t : Nat → List Nat} {S : Nat → Nat → Prop} {h0 i : Nat} (hi : i ∈ t h0)
    (hm : ∀ h j, j ∈ t h ↔ S h j) (hn : ∀ h, (t h).Nodup) :
    (∀ h j, j ∈ (if h = h0 then i :: (t h0).erase i else t h) ↔ S h j) ∧
    ∀ h, (if h = h0 then i :: (t h0).erase i else t h).Nodup := by
  have p := List.perm_cons_erase hi
  refine ⟨fun h j => ?_, fun h => ?_⟩ <;> split
  · rename_i e; rw [← p.mem_iff, ← e]; exact hm h j
  · exact hm h j
  · exact p.nodup_iff.mp (hn h0)
  · exact hn h

theorem names_mtf {n : Nat} {dead : Nat → Bool} {name : Nat → Name} {ot : Nat → List Nat} {ctr h0 i : Nat}
    (hN : Names n dead name ot ctr) (hi : i ∈ ot h0) :
    Names n dead name (fun k => if k = h0 then i :: (ot h0).erase i else ot k) ctr :=
  have ⟨m, d⟩ := mtf_chains hi hN.mem hN.nodup
  ⟨m, d, hN.uniq, hN.fresh⟩

theorem setOt_proj (c : Core) (h : Nat) (l : List Nat) :
    (setOt c h l).n = c.n ∧ (setOt c h l).objs = c.objs ∧ (setOt c h l).ol = c.ol ∧ (setOt c h l).dl = c.dl ∧
    (setOt c h l).lv = c.lv ∧ (setOt c h l).ctr = c.ctr ∧ (setOt c h l).ot = fun k => if k = h then l else c.ot k := by
  simp [setOt]

theorem lookupC_inv {c : Core} (nm : Name) (hI : Inv c) : Inv (lookupC c nm).1 := by
  rcases lookupC_cases c nm with ⟨h, _⟩ | ⟨i, hi, _, h⟩ <;> rw [h]
  · exact hI
  · exact { links := hI.links, names := names_mtf hI.names hi, lists := hI.lists, living := hI.living }

theorem lookupC_n (c : Core) (nm : Name) : (lookupC c nm).1.n = c.n ∧ (lookupC c nm).1.objs = c.objs := by
  rcases lookupC_cases c nm with ⟨h, _⟩ | ⟨i, _, _, h⟩ <;> rw [h] <;> exact ⟨rfl, rfl⟩

/-- find_obj_n finds exactly the live object carrying the name (needs only the name table part of the invariant) -/
theorem lookupC_spec_of_names {c : Core} (hN : Names c.n (deadF c) (nameF c) c.ot c.ctr) (nm : Name) (i : Nat) :
    (lookupC c nm).2 = some i ↔ (i < c.n ∧ (c.objs i).destructed = false ∧ (c.objs i).name = nm) := by
  constructor
  · intro h
    rcases lookupC_cases c nm with ⟨e, _⟩ | ⟨j, hm, hn, e⟩ <;> rw [e] at h <;> cases h
    have := (hN.mem _ _).mp hm
    exact ⟨this.1, this.2.1, hn⟩
  · intro ⟨hlt, hd, hn⟩
    have hm : i ∈ c.ot (hashN nm) := (hN.mem _ _).mpr ⟨hlt, hd, congrArg hashN hn⟩
    rcases lookupC_cases c nm with ⟨_, hno⟩ | ⟨j, hmj, hnj, e⟩
    · exact absurd hn (hno i hm)
    · have hj := (hN.mem _ _).mp hmj
      rw [e, hN.uniq j i hj.1 hj.2.1 hlt hd (hnj.trans hn.symm)]

/-- `lookup_unique_live` on the structures: find_obj_n finds exactly the live object carrying the name -/
theorem lookupC_spec {c : Core} (hI : Inv c) (nm : Name) (i : Nat) :
    (lookupC c nm).2 = some i ↔ (i < c.n ∧ (c.objs i).destructed = false ∧ (c.objs i).name = nm) :=
  lookupC_spec_of_names hI.names nm i

theorem lookupC_none_free {c : Core} {nm : Name} (hI : Inv c) (h : (lookupC c nm).2 = none) :
    ∀ i, i < c.n → (c.objs i).destructed = false → (c.objs i).name ≠ nm := by
  intro i hi hd hn
  have := (lookupC_spec hI nm i).mpr ⟨hi, hd, hn⟩
  rw [h] at this; simp at this

end NV.C08
