/-
C08 — translator ties: the order of the statements of the C functions that the model mirrors is regenerated from the
source on every run (props/c08.py `gen_extra` → NV/Gen/C08.lean: position of the first occurrence of every marker in the
function body).  The lists below are the orders the model was written against; each `*_order_tie` theorem is an
obligation: a C change that reorders, removes or duplicates-in-front one of these statements changes the generated
list and breaks the theorem (or the tie itself when a marker disappears) - not only the correspondence run.

Where the model applies independent blocks in another (commuting) order this is said next to the list.

The `*_cond_tie` theorems do the same for single conditions (regenerated as normalised text), `hb_ops_tie`,
`hash_prefix_tie` and `flag_bits_tie` for operators, prefix lengths / table sizes and flag bits.
-/
import NV.Gen.C08

namespace NV.C08

/-- destruct_object: `Task.destruct` (restrict test, already-destructed return), `Task.dloop` (cached super, loop,
    restrict_destruct set / restored around the hook, re-check, nested destruct, re-check), then the unlink block:
    `unsentDestruct`, `finishDestruct` (unlink from env, remove_object_hash, obj_list, living name, sentences, flags,
    destruct list) and `hbRemove` (the model switches the heart beat off first: it touches no other structure, and it
    must - as in C - happen before O_DESTRUCTED is set because set_heart_beat ignores destructed objects) -/
def expectedDestructOrder : List String :=
  ["restrict-test", "already-destructed-return", "cache-super", "inventory-loop", "set-restrict",
   "apply-move_or_destruct", "restore-restrict", "recheck-after-hook", "nested-destruct", "recheck-after-nested",
   "remove-sent-env", "unlink-from-env", "remove-object-hash", "unlink-obj-list", "remove-living-name",
   "drop-sentences", "clear-enable-commands", "clear-super", "push-destruct-list", "heart-beat-off", "mark-destructed"]

theorem destruct_order_tie : NV.Gen.C08.destructOrder = expectedDestructOrder := rfl

/-- f_move_object: `Task.moveStr` = load, then `Task.move` whose first test is the mover's O_DESTRUCTED -/
def expectedMoveEfunOrder : List String := ["resolve-destination", "mover-destructed-test", "move_object"]

theorem move_efun_order_tie : NV.Gen.C08.moveEfunOrder = expectedMoveEfunOrder := rfl

/-- move_object: `Task.move` (walk, destination test, `unsentMove`, `relink`, init(dest) + re-check) and `Task.fan` -/
def expectedMoveOrder : List String :=
  ["cycle-walk", "dest-destructed-test", "remove-sent", "unlink", "set-super", "link-at-head", "init-dest",
   "recheck-after-init-dest", "loop", "save-next", "skip-item", "cursor-destructed-error", "cursor-left-break",
   "init-item-by-ob", "item-destructed-error", "cursor-left-continue", "init-ob-by-item", "dest-gone-error",
   "init-item-by-dest"]

theorem move_order_tie : NV.Gen.C08.moveOrder = expectedMoveOrder := rfl

/-- load_object (`Task.load`): allocate, obj_list, enter_object_hash, create(), command_giver restored -/
def expectedLoadOrder : List String := ["alloc", "push-obj-list", "enter-hash", "create", "restore-command-giver"]

theorem load_order_tie : NV.Gen.C08.loadOrder = expectedLoadOrder := rfl

/-- clone_object (`Task.clone`) -/
def expectedCloneOrder : List String :=
  ["find-or-load", "clone-of-clone-test", "blueprint-heart-beat-off", "new-name", "push-obj-list", "enter-hash",
   "create", "restore-command-giver", "destructed-test"]

theorem clone_order_tie : NV.Gen.C08.cloneOrder = expectedCloneOrder := rfl

/-- find_or_load_object (`Task.load`): lookup, load, the `*sigh*` destructed test -/
def expectedFindOrLoadOrder : List String := ["lookup", "load", "destructed-test"]

theorem find_or_load_order_tie : NV.Gen.C08.findOrLoadOrder = expectedFindOrLoadOrder := rfl

/-- set_heart_beat(ob, 0) (`hbRemove`): both round counters are adjusted before the gap is closed, unconditionally -/
def expectedHbRemoveOrder : List String := ["destructed-return", "adjust-index", "adjust-todo", "close-gap", "count-down"]

theorem hb_remove_order_tie : NV.Gen.C08.hbRemoveOrder = expectedHbRemoveOrder := rfl

/-- object_present2 (`Task.present`) -/
def expectedPresent2Order : List String :=
  ["remember-env", "loop", "apply-id", "destructed-return", "left-env-return", "zero-continue"]

theorem present2_order_tie : NV.Gen.C08.present2Order = expectedPresent2Order := rfl

/-- f_objects with a filter (`Task.objloop`, since the `fix:` commit): collect first, then filter the live ones, then
    drop the accepted ones that were destructed meanwhile -/
def expectedObjectsOrder : List String :=
  ["collect-loop", "collect", "filter-loop", "skip-destructed", "caller-destructed-error", "apply-filter", "apply-failed-return-0", "accept",
   "drop-destructed-accepted", "build-array"]

theorem objects_order_tie : NV.Gen.C08.objectsOrder = expectedObjectsOrder ∧
    NV.Gen.C08.objectsFilterSkipCond = "ob->flags & O_DESTRUCTED" ∧
    NV.Gen.C08.objectsCalleeTested = NV.Gen.C08.objectsCallee := ⟨rfl, rfl, rfl⟩

/-- the two comparison operators of set_heart_beat(ob, 0) that `hbRemove` applies (`cmpOp` evaluates whatever operator
    the source has; this obligation records the ones the property was checked against) -/
theorem hb_ops_tie : NV.Gen.C08.hbIdxOp = "<=" ∧ NV.Gen.C08.hbTodoOp = "<" := ⟨rfl, rfl⟩

/-- prefix lengths of the two hash functions: `hashN` / `lhash` use the generated values, so another length is followed
    by the model (harmless); a zero length would hash every name to one bucket -/
theorem hash_prefix_tie : 0 < NV.Gen.C08.objHashPrefix ∧ 0 < NV.Gen.C08.livingHashPrefix ∧
    0 < NV.Gen.C08.livingHashSize ∧ 0 < NV.Gen.C08.otSize ∧ 0 < NV.Gen.C08.inheritChainSize := by decide

/-- add_action: `nearCg` mirrors the four pointer comparisons, the giver test precedes it (`.aa`) -/
theorem add_action_cond_tie :
    NV.Gen.C08.addActionGiverCond = "command_giver == 0 || (command_giver->flags & O_DESTRUCTED)" ∧
    NV.Gen.C08.addActionNearCond =
      "ob != command_giver && ob->super != command_giver && ob->super != command_giver->super && ob != command_giver->super" :=
  ⟨rfl, rfl⟩

/-- find_living_object's filter (`findLivingC`) and user_parser's skip of destructed sentence owners (`Task.cmdloop`) -/
theorem living_command_cond_tie : NV.Gen.C08.findLivingFilterCond = "!((*obp)->flags & O_ENABLE_COMMANDS)" ∧
    NV.Gen.C08.userParserSkipCond = "s->ob->flags & O_DESTRUCTED" := ⟨rfl, rfl⟩

/-- move_object: the cycle test of the walk (`superWalk`) and the re-check after init(dest) (`Task.move`) -/
theorem move_cond_tie : NV.Gen.C08.moveCycleTest = "ob == item" ∧
    NV.Gen.C08.moveInitDestRecheck = "(dest->flags & O_DESTRUCTED) || item->super != dest" := ⟨rfl, rfl⟩

/-- destruct_object: the restriction test (`restricted`) and the "not moved elsewhere" test (`Task.dloop`) -/
theorem destruct_cond_tie : NV.Gen.C08.destructRestrictCond = "restrict_destruct && restrict_destruct != ob" ∧
    NV.Gen.C08.destructNestedCond = "otmp == ob->contains" := ⟨rfl, rfl⟩

/-- load_object's inherit detour (`Task.load`, case `.ih`): depth guard first; the inherited program is looked up and, on
    a miss, loaded; then the object's own name is looked up AGAIN (by `name`, the table key) and only on a miss loaded
    again; only the compiled path allocates -/
def expectedInheritOrder : List String :=
  ["depth-guard", "self-inherit-error", "lookup-inherited", "load-inherited", "missing-inherited-error",
   "relookup-self", "reload-self", "alloc"]

theorem inherit_order_tie : NV.Gen.C08.inheritOrder = expectedInheritOrder ∧
    NV.Gen.C08.loadRelookupCond = "!(ob = lookup_object_hash (name))" ∧
    NV.Gen.C08.loadDepthCond = "++num_objects_this_thread > CONFIG_INT (__INHERIT_CHAIN_SIZE__)" := ⟨rfl, rfl, rfl⟩

/-- set_living_name (`setLiving`): the O_DESTRUCTED refusal comes FIRST, before the rename branch (a destructed object has
    no living name any more, so a test inside that branch can never fire) -/
theorem set_living_order_tie : NV.Gen.C08.setLivingOrder =
    ["destructed-return", "rename-branch", "remove-old-name", "link-at-head", "set-name"] := rfl

/-- the three flags the model keeps as separate booleans (`destructed`, `ec`, `clone`) are separate non-zero bits of
    `object_t.flags` (lpc/object.h; the walker of the harness tests them through the same macros).  Stated relative to
    the regenerated values: a renumbering of the flag word is harmless and does not break this obligation, two flags
    sharing a bit does. -/
theorem flag_bits_tie : NV.Gen.C08.oDestructed ≠ 0 ∧ NV.Gen.C08.oEnableCommands ≠ 0 ∧ NV.Gen.C08.oClone ≠ 0 ∧
    NV.Gen.C08.oDestructed &&& NV.Gen.C08.oEnableCommands = 0 ∧ NV.Gen.C08.oDestructed &&& NV.Gen.C08.oClone = 0 ∧
    NV.Gen.C08.oEnableCommands &&& NV.Gen.C08.oClone = 0 := by decide

end NV.C08
