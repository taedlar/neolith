/-
C08 — the object name hash table (lib/lpc/otable.c) as a modelled data structure, refined to a finite map.

Concrete side (Model.lean): bucket chains `Core.ot` in `next_hash` order; `lookupC` = find_obj_n with its move-to-front;
`enterHash` = enter_object_hash (refuses a name that is present); `removeHash` = remove_object_hash
(`obj_table[h] = ob->next_hash` whatever was found).
Abstract side: `absMap c : Name → Option Nat`, the partial map "name ↦ the object registered under it".

Under the invariant the table IS that map (`absMap_spec`), and the operations refine the map operations:
  find_obj_n              = read, and leaves the map unchanged although it reorders the chain   (`lookup_refines_read`)
  alloc + enter of a free name = insert                                                        (`enter_refines_insert`)
  enter of a present name = nothing (the new object is NOT registered)                         (`enter_refused_when_present`)
  the unlink block on a live object = delete of exactly its name                               (`remove_refines_delete`)
and outside its precondition `remove_object_hash` is not a delete at all (Props: `remove_hash_absent_drops_chain`).
-/
import NV.C08.Exec

namespace NV.C08

/-- the name table read as a finite map -/
def absMap (c : Core) (nm : Name) : Option Nat := (lookupC c nm).2

/-- The table is the map "name ↦ the unique live object carrying it". -/
theorem absMap_spec {c : Core} (hI : Inv c) (nm : Name) (i : Nat) :
    absMap c nm = some i ↔ (i < c.n ∧ (c.objs i).destructed = false ∧ (c.objs i).name = nm) :=
  lookupC_spec hI nm i

/-- a map that sends every name to the live object carrying it is the table's map -/
theorem absMap_ext {c : Core} (hI : Inv c) (m : Name → Option Nat)
    (h : ∀ nm i, (i < c.n ∧ (c.objs i).destructed = false ∧ (c.objs i).name = nm) ↔ m nm = some i) : absMap c = m :=
  funext fun nm => Option.ext fun i => (absMap_spec hI nm i).trans (h nm i)

/-- find_obj_n moves the found object to the front of its chain; the map does not change. -/
theorem lookup_refines_read {c : Core} (hI : Inv c) (nm : Name) : absMap (lookupC c nm).1 = absMap c := by
  refine absMap_ext (lookupC_inv nm hI) _ fun x i => ?_
  rw [(lookupC_n c nm).1, (lookupC_n c nm).2]
  exact (absMap_spec hI x i).symm

/-- Allocating an object under a name no live object carries registers it: the new map is
    the old one with `nm ↦ new object`. -/
theorem enter_refines_insert {c : Core} {nm : Name} {cl : Bool} (hI : Inv c)
    (hfree : ∀ i, i < c.n → (c.objs i).destructed = false → (c.objs i).name ≠ nm)
    (hfr : ∀ k, nm.num = some k → k < c.ctr) :
    absMap (alloc c nm cl).1 = fun x => if x = nm then some c.n else absMap c x := by
  refine absMap_ext (alloc_inv (cl := cl) hI hfree hfr) _ fun x i => ?_
  rw [alloc_eq hI hfree]
  simp only [allocCore]
  by_cases hx : x = nm
  · subst hx
    simp only [if_true]
    constructor
    · rintro ⟨hi, hd, hn⟩
      by_cases hic : i = c.n
      · rw [hic]
      · simp only [hic, if_false] at hd hn
        exact absurd hn (hfree i (by omega) hd)
    · intro h
      cases h
      simp
  · simp only [hx, if_false]
    rw [absMap_spec hI]
    constructor
    · rintro ⟨hi, hd, hn⟩
      by_cases hic : i = c.n
      · simp only [hic, if_true] at hn
        exact absurd hn.symm hx
      · simp only [hic, if_false] at hd hn
        exact ⟨by omega, hd, hn⟩
    · rintro ⟨hi, hd, hn⟩
      have hic : i ≠ c.n := by omega
      simp only [hic, if_false]
      exact ⟨by omega, hd, hn⟩

/-- enter_object_hash of an object whose name is already in the table does nothing but the move-to-front of the object
    found: the new object stays unregistered (this is how a second object under one name - seeded change C08-5 on
    load_object's re-lookup, the virtual-object path - ends up on obj_list but not in the table). -/
theorem enter_refused_when_present (c : Core) (i j : Nat) (h : (lookupC c (c.objs i).name).2 = some j) :
    enterHash c i = (lookupC c (c.objs i).name).1 := by
  simp [enterHash, h]

/-- The unlink block of destruct_object, run on a live object with an empty inventory (the
    only way the interpreter reaches it: `exec_good`), deletes exactly that object's name from the map. -/
theorem remove_refines_delete {c : Core} {ob : Nat} (hI : Inv c) (ho : ob < c.n)
    (hd : (c.objs ob).destructed = false) (he : (c.objs ob).contains = []) :
    absMap (finishDestruct c ob) = fun x => if x = (c.objs ob).name then none else absMap c x := by
  refine absMap_ext (finishDestruct_inv hI ho hd he) _ fun x i => ?_
  rw [finishDestruct_eq hI ho hd]
  show (i < c.n ∧ (if i = ob then true else (c.objs i).destructed) = false ∧ (c.objs i).name = x) ↔ _
  by_cases hx : x = (c.objs ob).name
  · simp only [hx, if_true]
    constructor
    · rintro ⟨hi, hdd, hnn⟩
      by_cases hio : i = ob
      · simp [hio] at hdd
      · simp only [hio, if_false] at hdd
        exact absurd (hI.names.uniq i ob hi hdd ho hd (by simp [nameF, hnn])) hio
    · intro h; cases h
  · simp only [hx, if_false]
    rw [absMap_spec hI]
    constructor
    · rintro ⟨hi, hdd, hnn⟩
      by_cases hio : i = ob
      · simp [hio] at hdd
      · simp only [hio, if_false] at hdd
        exact ⟨hi, hdd, hnn⟩
    · rintro ⟨hi, hdd, hnn⟩
      have hio : i ≠ ob := by
        intro e; subst e; exact hx hnn.symm
      simp only [hio, if_false]
      exact ⟨hi, hdd, hnn⟩

/-- the refinement over histories: in every reachable state the table is the map of live names (`absMap_spec`) -/
theorem table_is_map_reachable (sc : Scripts) (cmds : List Cmd) (nm : Name) (i : Nat) :
    absMap (runCmds sc World.init cmds).c nm = some i ↔
      (i < (runCmds sc World.init cmds).c.n ∧ ((runCmds sc World.init cmds).c.objs i).destructed = false ∧
       ((runCmds sc World.init cmds).c.objs i).name = nm) :=
  absMap_spec (runCmds_ok sc cmds World.init init_ok).inv nm i

end NV.C08
