/-
C08: the interpreter `exec`, walked once.  For every task, every fuel and every hook oracle the invariant is preserved
(`exec_inv`), no object is un-allocated, renamed, released or resurrected (`exec_nfle`), and a well-formed task (see
Valid.lean) is crash free, keeps command_giver valid, returns valid objects and exchanges init() only between adjacent
objects (`exec_good`); all three come out of one induction on the fuel (`exec_res`).  The checks of the C code that the
proof uses are exactly the re-checks after each hook call.  Then the top level: a state between two commands (`Ok`),
the heart-beat round, `stepCmd_ok`, `runCmds_ok`.
-/
import NV.C08.Valid

namespace NV.C08

/-- the statement of `exec_good` at one fuel (what the induction on the fuel carries is `ExecRes`) -/
abbrev IH (sc : Scripts) (f : Nat) : Prop :=
  ∀ t w, Inv w.c → TaskWf w.c t → WorldWf w → w.initBad = false → Good w.c (exec sc f t w)

/-- what holds of the branch taken holds of the conditional; `Φ` is `Post Q` or `Res P c0` below -/
theorem by_ite' {Φ : R → Prop} {p : Prop} [Decidable p] {a b : R} (ha : p → Φ a) (hb : ¬ p → Φ b) :
    Φ (if p then a else b) := by
  split
  · exact ha ‹_›
  · exact hb ‹_›

theorem by_ite {Φ : R → Prop} {p : Prop} [Decidable p] {a b : R} (ha : Φ a) (hb : Φ b) : Φ (if p then a else b) :=
  by_ite' (fun _ => ha) (fun _ => hb)

/-- `Q` holds of state and value whenever the outcome is `ok` -/
abbrev Post (Q : World → Option Nat → Prop) (r : R) : Prop := r.out = .ok → Q r.w r.val

theorem andThen_ok {r : R} {k : World → Option Nat → R} (h : (r.andThen k).out = .ok) :
    r.out = .ok ∧ r.andThen k = k r.w r.val := by
  unfold R.andThen at h ⊢
  split
  · exact ⟨‹_›, rfl⟩
  · rename_i hne; rw [if_neg hne] at h; exact absurd h hne

theorem crash_ne_ok : Out.crash ≠ .ok := by decide
theorem err_ne_ok : Out.err ≠ .ok := by decide
theorem hang_ne_ok : Out.hang ≠ .ok := by decide

theorem post_fail {Q : World → Option Nat → Prop} {r : R} (h : r.out ≠ .ok) : Post Q r := fun hok => absurd hok h

theorem post_leaf {Q : World → Option Nat → Prop} {w : World} {v : Option Nat} (h : Q w v) :
    Post Q { w := w, val := v } := fun _ => h

theorem post_andThen {Q : World → Option Nat → Prop} {r : R} {k : World → Option Nat → R}
    (h : r.out = .ok → Post Q (k r.w r.val)) : Post Q (r.andThen k) := by
  intro hok
  obtain ⟨h1, e⟩ := andThen_ok hok
  rw [e] at hok ⊢
  exact h h1 hok

/-! ## load_object in a shape one can walk

`Task.load` builds its result through an intermediate `R ⊕ World` ("final result, or compiled in this state"); the
same steps are written here without it, by kind of file, and `exec_load` says that this is what `exec` does. -/

/-- find_or_load_object's last test: a destructed result is 0 -/
def strictVal (strict : Bool) (w : World) : Option Nat → R
  | none => { w := w, val := none }
  | some ob => if strict ∧ (w.c.objs ob).destructed then { w := w, val := none } else { w := w, val := some ob }

/-- load_object once the program is compiled: the object is allocated and registered, create() runs, command_giver and
    the load depth are put back -/
def loadCreate (sc : Scripts) (f : Nat) (nm : Name) (saveCg : Option Nat) (w : World) : R :=
  (exec sc f (.hook (alloc w.c nm false).2 .create none) { w with c := (alloc w.c nm false).1 }).andThen fun w1 _ =>
    { w := { w1 with cg := saveCg, ldepth := w1.ldepth - 1 }, val := some (alloc w.c nm false).2 }

/-- load_object behind the depth guard, by kind of file -/
def loadBody (sc : Scripts) (f : Nat) (saveCg : Option Nat) (w : World) : Base → R
  | .nofile => { w := { w with ldepth := w.ldepth - 1 }, val := none }
  | .badfile => raise w errBadFile
  | .ih k =>
    if anyFreed w.c (w.c.ot (hashN { base := .bp k, num := none })) then crashR w "find_obj_n"
    else match (lookupC w.c { base := .bp k, num := none }).2 with
      | some _ =>
        loadCreate sc f { base := .ih k, num := none } saveCg { w with c := (lookupC w.c { base := .bp k, num := none }).1 }
      | none =>
        (exec sc f (.load (.bp k) false) { w with c := (lookupC w.c { base := .bp k, num := none }).1 }).andThen fun w1 v =>
          match v with
          | none => raise w1 (errNoInherit k)
          | some _ =>
            (exec sc f (.load (.ih k) false) w1).andThen fun w2 v => { w := { w2 with ldepth := w2.ldepth - 1 }, val := v }
  | b => loadCreate sc f { base := b, num := none } saveCg w

theorem exec_load (sc : Scripts) (f : Nat) (b : Base) (strict : Bool) (w : World) :
    exec sc (f + 1) (.load b strict) w =
    if anyFreed w.c (w.c.ot (hashN { base := b, num := none })) then crashR w "find_obj_n"
    else match (lookupC w.c { base := b, num := none }).2 with
      | some i => { w := { w with c := (lookupC w.c { base := b, num := none }).1 }, val := some i }
      | none =>
        if w.ldepth + 1 > (inheritChainSize : Int) then
          raise { w with c := (lookupC w.c { base := b, num := none }).1, ldepth := w.ldepth + 1 } (errChain b)
        else (loadBody sc f w.cg { w with c := (lookupC w.c { base := b, num := none }).1, ldepth := w.ldepth + 1 } b).andThen
          (strictVal strict) := by
  rw [exec.eq_34]
  cases b with
  | ih k =>
    -- the inherit detour: the same case distinctions on both sides
    dsimp only [loadBody]
    by_cases h1 : anyFreed w.c (w.c.ot (hashN { base := .ih k, num := none })) = true
    · rw [if_pos h1, if_pos h1]
    · rw [if_neg h1, if_neg h1]
      cases (lookupC w.c { base := .ih k, num := none }).2 with
      | some i => rfl
      | none =>
        dsimp only
        by_cases h2 : w.ldepth + 1 > (inheritChainSize : Int)
        · rw [if_pos h2, if_pos h2]
        · rw [if_neg h2, if_neg h2]
          generalize anyFreed (lookupC w.c _).1 _ = c
          cases c
          · cases (lookupC (lookupC w.c _).1 _).2 <;> rfl
          · rfl
  | _ => rfl

/-! ## states and results inside a task

`P` stands for "the task was well-formed" (`TaskWf`, valid command_giver, no init() gone astray).  The invariant and
`NFle` (no object un-allocated, renamed, released or resurrected) are carried unconditionally, crash freedom and the
validity of command_giver under `P`. -/

/-- a state inside a task that started in `c0`: the invariant holds, the pointers valid in `c0` still are and - if `P` -
    command_giver is valid and no init() went astray.  With `P := False` it says `Inv` and `NFle` only.  It unfolds to
    a statement about `w.c`, `w.cg` and `w.initBad`, so that `St P c0 (emit w s)` is `St P c0 w` without a step -/
abbrev St (P : Prop) (c0 : Core) (w : World) : Prop := Inv w.c ∧ NFle c0 w.c ∧ (P → WorldWf w ∧ w.initBad = false)

/-- a result: the same of its state and - if `P` - it is `Good` -/
abbrev Res (P : Prop) (c0 : Core) (r : R) : Prop := Inv r.w.c ∧ NFle c0 r.w.c ∧ (P → Good c0 r)

theorem wf_le {w : World} {c' : Core} (hwf : WorldWf w) (hle : NFle w.c c') : ∀ g, w.cg = some g → NF c' g :=
  fun g hg => hle.nf g (hwf g hg)

section
variable {P : Prop} {c0 : Core}

theorem St.inv {w : World} (h : St P c0 w) : Inv w.c := h.1
theorem St.nfle {w : World} (h : St P c0 w) : NFle c0 w.c := h.2.1
theorem St.wf {w : World} (h : St P c0 w) (hP : P) : WorldWf w := (h.2.2 hP).1
theorem St.ghost {w : World} (h : St P c0 w) (hP : P) : w.initBad = false := (h.2.2 hP).2

theorem Res.inv {r : R} (g : Res P c0 r) : Inv r.w.c := g.1
theorem Res.nfle {r : R} (g : Res P c0 r) : NFle c0 r.w.c := g.2.1
theorem Res.good {r : R} (g : Res P c0 r) (hP : P) : Good c0 r := g.2.2 hP

/-- a pointer valid at the start of the task is valid now -/
theorem St.nf {w : World} (h : St P c0 w) {x : Nat} (hx : P → NF c0 x) (hP : P) : NF w.c x := h.nfle.nf x (hx hP)

/-- a straight-line block changed the structures -/
theorem St.core {c' : Core} {w : World} (h : St P c0 w) (hI : Inv c') (hle : NFle w.c c') : St P c0 { w with c := c' } :=
  ⟨hI, h.nfle.trans hle, fun hP => ⟨wf_le (w := w) (h.wf hP) hle, h.ghost hP⟩⟩

theorem St.cg {w : World} (h : St P c0 w) {x : Option Nat} (hx : P → ∀ g, x = some g → NF w.c g) :
    St P c0 { w with cg := x } := ⟨h.inv, h.nfle, fun hP => ⟨hx hP, h.ghost hP⟩⟩

/-- command_giver becomes an object that is a valid pointer -/
theorem St.giver {w : World} (h : St P c0 w) {a : Nat} (ha : P → NF w.c a) : St P c0 { w with cg := some a } :=
  h.cg fun hP _ e => Option.some.inj e ▸ ha hP

/-- command_giver is put back to a value that was valid when the task started -/
theorem St.restore {w : World} (h : St P c0 w) {x : Option Nat} (hx : P → ∀ g, x = some g → NF c0 g) :
    St P c0 { w with cg := x } := h.cg fun hP g e => h.nfle.nf g (hx hP g e)

theorem St.lookup {w : World} (h : St P c0 w) (nm : Name) : St P c0 { w with c := (lookupC w.c nm).1 } :=
  h.core (lookupC_inv nm h.inv) (nfle_lookupC _ nm)

theorem St.sentOnly {c' : Core} {w : World} (h : St P c0 w) (hs : SentOnly w.c c') : St P c0 { w with c := c' } :=
  h.core (sentOnly_inv hs h.inv) (nfle_sentOnly hs)

/-- `St` reads the structures, command_giver and the ghost flag only -/
theorem St.regs {w w' : World} (h : St P c0 w) (e : w'.c = w.c ∧ w'.cg = w.cg ∧ w'.initBad = w.initBad) : St P c0 w' := by
  obtain ⟨e1, e2, e3⟩ := e
  simp only [St, WorldWf, e1, e2, e3]; exact h

theorem Res.st {r : R} (g : Res P c0 r) : St P c0 r.w := ⟨g.inv, g.nfle, fun hP => ⟨(g.good hP).wf, (g.good hP).ghost⟩⟩

/-- a result that is neither `crash` nor `hang`, from its state -/
theorem res_st {r : R} (h : St P c0 r.w) (hc : r.out ≠ .crash) (hh : r.out ≠ .hang)
    (hv : P → ∀ x, r.val = some x → NF r.w.c x) : Res P c0 r :=
  ⟨h.inv, h.nfle, fun hP => { le := h.nfle, nocrash := hc, nohang := hh, ghost := h.ghost hP, wf := h.wf hP, val := hv hP }⟩

theorem res_val {w : World} {v : Option Nat} (h : St P c0 w) (hv : P → ∀ x, v = some x → NF w.c x) :
    Res P c0 { w := w, val := v } := res_st h Out.noConfusion Out.noConfusion hv

theorem res_leaf {w : World} (h : St P c0 w) : Res P c0 { w := w } := res_val h fun _ _ hx => nomatch hx

theorem res_raise {w : World} {m : String} (h : St P c0 w) : Res P c0 (raise w m) :=
  res_st (h.regs (raise_c_cg_initBad w m)) Out.noConfusion Out.noConfusion fun _ _ hx => nomatch hx

/-- a test that cannot fail -/
theorem res_else {p : Prop} [Decidable p] {a b : R} (hp : ¬ p) (hb : Res P c0 b) : Res P c0 (if p then a else b) := by
  rw [if_neg hp]; exact hb

/-- a guard in front of a dereference: it does not fire when the pointer is valid; the branch behind it is `crash` -/
theorem res_guard {p : Prop} [Decidable p] {w : World} {m : String} {b : R} (hw : St P c0 w) (hp : P → ¬ p)
    (hb : ¬ p → Res P c0 b) : Res P c0 (if p then crashR w m else b) := by
  split
  · exact ⟨hw.inv, hw.nfle, fun hP => absurd ‹p› (hp hP)⟩
  · exact hb ‹_›

theorem res_andThen {r : R} {k : World → Option Nat → R} (hr : Res P c0 r)
    (hk : St P c0 r.w → (P → ∀ x, r.val = some x → NF r.w.c x) → Res P c0 (k r.w r.val)) : Res P c0 (r.andThen k) := by
  unfold R.andThen
  split
  · exact hk hr.st fun hP => (hr.good hP).val
  · exact hr

theorem strictVal_res {w : World} (strict : Bool) {v : Option Nat} (h : St P c0 w)
    (hv : P → ∀ x, v = some x → NF w.c x) : Res P c0 (strictVal strict w v) := by
  cases v with
  | none => exact res_leaf h
  | some ob => exact by_ite (res_leaf h) (res_val h hv)

/-- allocation under a free, fresh name: the new state, and the new object in it -/
theorem alloc_st {w : World} {nm : Name} {cl : Bool} (h : St P c0 w)
    (hfree : ∀ i, i < w.c.n → (w.c.objs i).destructed = false → (w.c.objs i).name ≠ nm)
    (hfr : ∀ k, nm.num = some k → k < w.c.ctr) :
    St P c0 { w with c := (alloc w.c nm cl).1 } ∧ NF (alloc w.c nm cl).1 (alloc w.c nm cl).2 :=
  have hA := nfle_alloc (cl := cl) h.inv hfree
  ⟨h.core (alloc_inv h.inv hfree hfr) hA.1, hA.2⟩

end

theorem nf_guard {c : Core} {x : Nat} (h : NF c x) : ¬ (¬ (x < c.n) ∨ (c.objs x).freed = true) :=
  fun hc => hc.elim (fun h1 => h1 h.1) (fun h2 => Bool.false_ne_true (h.2.symm.trans h2))

variable (sc : Scripts)

/-- what the induction on the fuel proves: the invariant, `NFle`, and `Good` for a well-formed task -/
abbrev ExecRes (f : Nat) : Prop :=
  ∀ t w, Inv w.c → Res (TaskWf w.c t ∧ WorldWf w ∧ w.initBad = false) w.c (exec sc f t w)

section
variable {sc} {P : Prop} {c0 : Core} {f : Nat}

theorem res_exec (ih : ExecRes sc f) {t : Task} {w : World} (h : St P c0 w) (ht : P → TaskWf w.c t) :
    Res P c0 (exec sc f t w) :=
  ⟨(ih t w h.inv).inv, h.nfle.trans (ih t w h.inv).nfle,
   fun hP => ((ih t w h.inv).good ⟨ht hP, h.wf hP, h.ghost hP⟩).mono h.nfle⟩

/-- a sub-task, then a continuation that sees the state it left (`NFle w1.c w2.c`: for pointers younger than `c0`) -/
theorem res_step (ih : ExecRes sc f) {t : Task} {w1 : World} {k : World → Option Nat → R}
    (h : St P c0 w1) (ht : P → TaskWf w1.c t)
    (hk : ∀ w2 v, St P c0 w2 → NFle w1.c w2.c → (P → ∀ x, v = some x → NF w2.c x) → Res P c0 (k w2 v)) :
    Res P c0 ((exec sc f t w1).andThen k) :=
  res_andThen (res_exec ih h ht) fun h2 hv => hk _ _ h2 (ih t w1 h.inv).nfle hv

/-- a hook that is only called when the object is command-enabled -/
theorem res_opt (ih : ExecRes sc f) {p : Prop} [Decidable p] {t : Task} {wE wS : World} {k : World → Option Nat → R}
    (hE : p → St P c0 wE ∧ (P → TaskWf wE.c t)) (hkE : p → ∀ w2 v, St P c0 w2 → Res P c0 (k w2 v))
    (hS : ¬ p → Res P c0 (k wS none)) :
    Res P c0 ((if p then exec sc f t wE else { w := wS }).andThen k) := by
  split
  · rename_i hp
    exact res_step ih (hE hp).1 (hE hp).2 fun w2 v h2 _ _ => hkE hp w2 v h2
  · rename_i hp
    exact hS hp

end

/-- The walk follows the equations of `exec`, one per task and, for scripts, per operation.  `exec.eq_n` is the n-th of
    them in the order of the definition (1 no fuel, 2 the empty script, 3-32 the operations in the order of `Op` - `gh`
    takes five, 23-27, one per `Gh` -, 33 hook, 34 load, 35 clone, 36 move, 37 moveStr, 38/39 fan, 40/41 present,
    42 command, 43/44 cmdloop, 45 destruct, 46/47 dloop, 48/49 objloop; a pair: cursor or list empty / not, for dloop
    the cached `super` none / some); naming it spares `rw [exec]` the search through all of them (slow: every attempt
    instantiates a whole equation); a number that no longer fits its case makes `rw` fail, since the left side of that
    equation is not in the goal.  A sub-task keeps the invariant and is `Good` by the induction hypothesis, a
    straight-line block by its lemmas; `emit` and the registers outside `Core` do not matter.  Guards in front of
    dereferences do not fire because the pointer is valid (`nf_guard`) or because registries hold only live objects
    (`anyFreed_*`); every sub-task gets its `TaskWf` from the check that precedes it in the C code. -/
theorem exec_res : ∀ (f : Nat), ExecRes sc f := by
  intro f
  induction f with
  | zero =>
    intro t w hI
    exact res_st ⟨hI, NFle.refl _, fun hP => ⟨hP.2.1, hP.2.2⟩⟩ Out.noConfusion Out.noConfusion fun _ _ hx => nomatch hx
  | succ f ih =>
    intro t w hI
    -- `Good` is owed only under `P`, and the walk uses of `P` only that the task is well-formed and `h0`
    suffices walk : ∀ P : Prop, (P → TaskWf w.c t) → St P w.c w → Res P w.c (exec sc (f + 1) t w) from
      walk _ (fun hP => hP.1) ⟨hI, NFle.refl _, fun hP => ⟨hP.2.1, hP.2.2⟩⟩
    intro P ht h0
    have hwf : P → WorldWf w := fun hP => h0.wf hP
    cases t with
    | ops self arg l =>
      have hself : P → NF w.c self := ht
      cases l with
      | nil => rw [exec.eq_2]; exact res_leaf h0
      | cons op rest =>
        -- the script goes on unless its object has been destructed
        have hK : ∀ {r : R}, Res P w.c r → Res P w.c (r.andThen fun w1 _ =>
            if (w1.c.objs self).destructed = true then ({ w := w1 } : R) else exec sc f (.ops self arg rest) w1) :=
          fun hr => res_andThen hr fun h1 _ => by_ite (res_leaf h1) (res_exec ih h1 (h1.nf hself))
        -- a sub-task whose result is only reported
        have call : ∀ {t : Task} {w0 : World} {k : World → Option Nat → World}, St P w.c w0 → (P → TaskWf w0.c t) →
            (∀ w1 v, St P w.c w1 → St P w.c (k w1 v)) →
            Res P w.c ((exec sc f t w0).andThen fun w1 v => { w := k w1 v }) :=
          fun h ht hk => res_step ih h ht fun w1 v h1 _ _ => res_leaf (hk w1 v h1)
        have keep : ∀ (w1 : World) (v : Option Nat), St P w.c w1 → St P w.c w1 := fun _ _ h => h
        cases op with
        | ld b =>
          rw [exec.eq_3]
          refine hK (res_step ih h0 (fun _ => trivial) fun w1 v h1 _ _ => ?_)
          exact res_else (ne_true_of_eq_false (anyFreed_ot h1.inv _)) (res_leaf (h1.lookup _))
        | cl b => rw [exec.eq_4]; exact hK (call h0 (fun _ => trivial) keep)
        | mv a d =>
          rw [exec.eq_5]; refine hK ?_
          cases ha : readRef w.c a with
          | none => exact res_leaf h0
          | some a' =>
            cases hd : readRef w.c d with
            | none => exact res_leaf h0
            | some d' => exact call h0 (fun _ => ⟨readRef_nf hI ha, readRef_nf hI hd⟩) keep
        | mvs a b =>
          rw [exec.eq_6]; refine hK ?_
          cases ha : readRef w.c a with
          | none => exact res_leaf h0
          | some a' => exact call h0 (fun _ => readRef_nf hI ha) keep
        | hbe a =>
          rw [exec.eq_7]; refine hK ?_
          cases readRef w.c a with
          | none => exact res_leaf h0
          | some a' => exact res_leaf (h0.regs (hbAdd_c_cg_initBad _ _))
        | hbd a =>
          rw [exec.eq_8]; refine hK ?_
          cases readRef w.c a with
          | none => exact res_leaf h0
          | some a' => exact res_leaf (h0.regs (hbRemove_c_cg_initBad _ _))
        | pr e t =>
          rw [exec.eq_9]; refine hK ?_
          cases he : readRef w.c e with
          | none => exact res_leaf h0
          | some e' => exact call h0 (fun _ ob hob => head_nf hI hob) keep
        | fis b =>
          rw [exec.eq_10]; refine hK (res_step ih h0 (fun _ => trivial) fun w1 v h1 _ _ => ?_)
          cases v with
          | none => exact res_raise h1
          | some d => exact res_leaf h1
        | de a =>
          rw [exec.eq_11]; refine hK ?_
          cases ha : readRef w.c a with
          | none => exact res_leaf h0
          | some a' => exact call h0 (fun _ => readRef_nf hI ha) keep
        | ec a =>
          rw [exec.eq_12]; refine hK ?_
          cases ha : readRef w.c a with
          | none => exact res_leaf h0
          | some a' =>
            have hnf := readRef_nf hI ha
            obtain ⟨rfl, _, hd⟩ := readRef_some ha
            have hle := nfle_setEc w.c a' true
            exact res_leaf ((h0.core (setEc_inv true hI hd) hle).giver fun _ => hle.nf _ hnf)
        | dc a =>
          rw [exec.eq_13]; refine hK ?_
          cases ha : readRef w.c a with
          | none => exact res_leaf h0
          | some a' =>
            obtain ⟨rfl, _, hd⟩ := readRef_some ha
            refine by_ite (res_leaf ?_) (res_leaf h0)
            exact (h0.core (setEc_inv false hI hd) (nfle_setEc w.c a' false)).cg fun _ _ hgg => nomatch hgg
        | ln a s =>
          rw [exec.eq_14]; refine hK ?_
          cases ha : readRef w.c a with
          | none => exact res_leaf h0
          | some a' =>
            obtain ⟨rfl, hlt, hd⟩ := readRef_some ha
            exact res_leaf (h0.core (setLiving_inv s hI hlt hd) (nfle_setLiving s hd))
        | fo nm =>
          rw [exec.eq_15]
          exact hK (res_else (ne_true_of_eq_false (anyFreed_ot hI _)) (res_leaf (h0.lookup _)))
        | fl s =>
          rw [exec.eq_16]
          refine hK (res_else (ne_true_of_eq_false (anyFreed_lv hI _)) (res_leaf ?_))
          exact h0.core (findLivingC_inv s hI) (nfle_findLivingC w.c s)
        | aa a verb =>
          rw [exec.eq_17]; refine hK ?_
          cases readRef w.c a with
          | none => exact res_leaf h0
          | some a' =>
            cases hcg : w.cg with
            | none => exact res_leaf h0
            | some g =>
              have hs := addSent_sentOnly w.c g verb a'
              refine res_guard h0 (fun hP => nf_guard (hwf hP g hcg)) fun _ => by_ite (res_leaf h0) (res_leaf ?_)
              exact (h0.sentOnly hs).cg fun hP g' hg' => by cases hg'; exact (nfle_sentOnly hs).nf _ (hwf hP _ hcg)
        | cmd a verb =>
          rw [exec.eq_18]; refine hK ?_
          cases ha : readRef w.c a with
          | none => exact res_leaf h0
          | some a' => exact call h0 (fun _ => readRef_nf hI ha) keep
        | kp a =>
          rw [exec.eq_19]; refine hK ?_
          cases readRef w.c a <;> exact res_leaf h0
        | rd => rw [exec.eq_20]; exact hK (res_leaf h0)
        | err => rw [exec.eq_21]; exact hK (res_raise h0)
        | mvarg =>
          rw [exec.eq_22]; refine hK ?_
          cases hd : arg.bind (readRef w.c) with
          | none => exact res_leaf h0
          | some d =>
            refine call h0 (fun hP => ⟨hself hP, ?_⟩) keep
            cases arg with
            | none => cases hd
            | some a0 => exact readRef_nf hI hd
        | nop => rw [exec.eq_32]; exact hK (res_leaf h0)
        | ret0 => rw [exec.eq_28]; exact hK (res_leaf h0)
        | gh g =>
          -- after its own destruct the object is destructed (and stops); the other branch is an ordinary script
          have tail : ∀ {w1 : World} {a : R} {l : List Op}, St P w.c w1 → Res P w.c a →
              Res P w.c (if (w1.c.objs self).destructed = true then a else exec sc f (.ops self arg l) w1) :=
            fun h1 ha => by_ite ha (res_exec ih h1 (h1.nf hself))
          cases g with
          | ln s => rw [exec.eq_23]; exact hK (res_step ih h0 hself fun w1 _ h1 _ _ => tail h1 (res_leaf h1))
          | ec => rw [exec.eq_24]; exact hK (res_step ih h0 hself fun w1 _ h1 _ _ => tail h1 (res_leaf h1))
          | aa v => rw [exec.eq_25]; exact hK (res_step ih h0 hself fun w1 _ h1 _ _ => tail h1 (res_leaf h1))
          | hbe => rw [exec.eq_26]; exact hK (res_step ih h0 hself fun w1 _ h1 _ _ => tail h1 (res_leaf h1))
          | mv d =>
            rw [exec.eq_27]
            exact hK (res_step ih h0 hself fun w1 _ h1 _ _ => tail h1 (by_ite (res_raise h1) (res_leaf h1)))
        | ra a verb =>
          rw [exec.eq_29]; refine hK ?_
          cases ha : readRef w.c a with
          | none => exact res_leaf h0
          | some a' =>
            have hgnf : P → NF w.c (w.cg.getD a') := fun hP => by
              cases hcg : w.cg with
              | none => exact readRef_nf hI ha
              | some g => exact hwf hP g hcg
            refine res_guard h0 (fun hP => nf_guard (hgnf hP)) fun _ => by_ite (res_leaf ?_) (res_leaf h0)
            exact h0.sentOnly (eraseSent_sentOnly _ _ _)
        | obf =>
          rw [exec.eq_30]
          refine hK (res_else (ne_true_of_eq_false (anyFreed_ol hI)) ?_)
          refine res_step ih h0 (fun hP => ⟨hself hP, fun x hx => ?_⟩) fun w1 v h1 _ _ => by_ite (res_leaf h1) (res_leaf h1)
          have := (hI.lists.olMem x).mp hx
          exact live_nf hI this.1 this.2
        | ct o =>
          -- an error leaves the catch with the saved command_giver, which was valid then and still is
          rw [exec.eq_31]; refine hK ?_
          have g := res_exec ih (t := .ops self arg [o])
            (w := emit { w with catching := w.catching + 1 } s!"ctb {oid self}") h0 hself
          revert g
          generalize exec sc f (.ops self arg [o]) (emit { w with catching := w.catching + 1 } s!"ctb {oid self}") = r
          intro g
          show Res P w.c (match r.out with
            | .ok => _
            | .err => _
            | _ => r)
          cases r.out
          case ok => exact res_leaf g.st
          case err => exact res_leaf (g.st.restore hwf)
          all_goals exact g
    | hook x k arg =>
      rw [exec.eq_33]
      refine res_guard h0 (fun hP => nf_guard (ht hP).1) fun _ => by_ite (res_leaf h0) ?_
      refine res_step ih ?_ ?_ fun w1 _ h1 _ _ => res_leaf h1
      · cases k <;> cases arg
        case init.some y =>
          refine ⟨hI, NFle.refl _, fun hP => ⟨hwf hP, ?_⟩⟩
          show (w.initBad || !adjacent w.c x y) = false
          rw [h0.ghost hP, (ht hP).2 y rfl rfl]; rfl
        all_goals exact h0
      · cases k <;> cases arg <;> exact fun hP => (ht hP).1
    | load b strict =>
      rw [exec_load]
      have hl : St P w.c { w with c := (lookupC w.c { base := b, num := none }).1, ldepth := w.ldepth + 1 } :=
        h0.lookup _
      have hn := lookupC_n w.c { base := b, num := none }
      refine res_else (ne_true_of_eq_false (anyFreed_ot hI _)) ?_
      cases hlk : (lookupC w.c { base := b, num := none }).2 with
      | some i =>
        have := (lookupC_spec hI _ i).mp hlk
        exact res_val (h0.lookup _) fun _ x hx => by cases hx; exact (nfle_lookupC _ _).nf _ (live_nf hI this.1 this.2.1)
      | none =>
        refine by_ite (res_raise hl) (res_andThen ?_ fun h hv => strictVal_res strict h hv)
        -- the name is still free when the object is allocated: the lookups before only reordered chains
        have hcreate : ∀ {w0 : World}, St P w.c w0 → w0.c.n = w.c.n → w0.c.objs = w.c.objs →
            Res P w.c (loadCreate sc f { base := b, num := none } w.cg w0) := by
          intro w0 h e1 e2
          have hA := alloc_st (nm := { base := b, num := none }) (cl := false) h
            (by rw [e1, e2]; exact lookupC_none_free hI hlk) (fun k hk => nomatch hk)
          refine res_step ih hA.1 (fun _ => ⟨hA.2, fun y hk _ => nomatch hk⟩) fun w2 _ h2 hle2 _ => ?_
          exact res_val (h2.restore hwf) fun hP x hx => by
            cases hx; exact hle2.nf _ hA.2
        cases b with
        | nofile => exact res_leaf hl
        | badfile => exact res_raise hl
        | ih k =>
          have hnB := lookupC_n (lookupC w.c { base := .ih k, num := none }).1 { base := .bp k, num := none }
          refine res_else (ne_true_of_eq_false (anyFreed_ot hl.inv _)) ?_
          cases (lookupC (lookupC w.c { base := .ih k, num := none }).1 { base := .bp k, num := none }).2 with
          | some _ => exact hcreate (hl.lookup _) (hnB.1.trans hn.1) (hnB.2.trans hn.2)
          | none =>
            refine res_step ih (hl.lookup _) (fun _ => trivial) fun w1 v h1 _ _ => ?_
            cases v with
            | none => exact res_raise h1
            | some _ => exact res_step ih h1 (fun _ => trivial) fun w2 v2 h2 _ hv2 => res_val h2 hv2
        | _ => exact hcreate hl hn.1 hn.2
    | clone b =>
      rw [exec.eq_35]
      refine res_step ih h0 (fun _ => trivial) fun w1 v h1 _ hv => ?_
      cases v with
      | none => exact res_leaf h1
      | some ob =>
        refine res_guard h1 (fun hP => nf_guard (hv hP ob rfl)) fun _ => by_ite (res_raise h1) ?_
        have h1' := h1.regs (hbRemove_c_cg_initBad w1 ob)
        revert h1'
        generalize hbRemove w1 ob = w1'
        intro h1'
        -- make_new_name: no object carries the counter's value yet
        have hA := alloc_st (nm := { base := (w1'.c.objs ob).name.base, num := some w1'.c.ctr }) (cl := true)
          (h1'.core (ctr_inv h1'.inv) (nfle_ctr _))
          (fun i hi hd hn => Nat.lt_irrefl _ (h1'.inv.names.fresh i w1'.c.ctr hi (congrArg Name.num hn)))
          (fun k hk => by cases hk; exact Nat.lt_succ_self _)
        refine res_step ih hA.1 (fun _ => ⟨hA.2, fun y hk _ => nomatch hk⟩) fun w2 _ h2 hle2 _ => ?_
        have hcg := h2.restore hwf
        exact by_ite (res_leaf hcg) (res_val hcg fun hP x hx => by cases hx; exact hle2.nf _ hA.2)
    | move item dest =>
      have hit : P → NF w.c item := fun hP => (ht hP).1
      have hdt : P → NF w.c dest := fun hP => (ht hP).2
      rw [exec.eq_36]
      refine res_guard h0 (fun hP hc => hc.elim (fun h => h ⟨(hit hP).1, (hdt hP).1⟩)
        (fun h => Bool.false_ne_true ((hit hP).2.symm.trans h))) fun hlt => by_ite' (fun _ => res_raise h0) fun hid => ?_
      have hlt' : item < w.c.n ∧ dest < w.c.n := Decidable.not_not.mp fun h => hlt (Or.inl h)
      cases hclear : superWalk w.c item (w.c.n + 1) (some dest) with
      | freed => exact ⟨hI, NFle.refl _, fun hP => absurd hclear (superWalk_not_freed hI item _ dest (hdt hP))⟩
      | loop => exact ⟨hI, NFle.refl _, fun _ => absurd hclear (superWalk_not_loop hI item dest hlt'.2)⟩
      | hit => exact res_raise h0
      | clear =>
        refine by_ite' (fun _ => res_raise h0) fun hdd =>
          res_else (ne_true_of_eq_false (anyFreed_env hI item)) ?_
        obtain ⟨hIm, hle0, hsup0⟩ :=
          moveLink_keeps hI hlt'.1 hlt'.2 (Bool.eq_false_iff.mpr hid) (Bool.eq_false_iff.mpr hdd) hclear
        have hL : St P w.c { w with c := relink (unsentMove w.c item) item dest,
                                    isa := if sentChanged w.c (unsentMove w.c item) then 2 else w.isa } :=
          h0.core hIm hle0
        have hfan : ∀ w1, St P w.c w1 → (P → (w1.c.objs item).super = some dest) →
            Res P w.c (exec sc f (.fan item dest (w1.c.objs dest).contains.head? w.cg) w1) := fun w1 h1 hs1 =>
          res_exec ih h1 fun hP => ⟨h1.nf hit hP, h1.nf hdt hP, fun ob hob => head_nf h1.inv hob, hs1 hP,
            fun g hgg => h1.nfle.nf _ (hwf hP g hgg)⟩
        refine res_opt ih (fun _ => ⟨hL.giver fun hP => hle0.nf _ (hit hP),
          fun hP => ⟨hle0.nf _ (hdt hP), fun y _ h2 => by cases h2; simp [adjacent, hsup0]⟩⟩) ?_ ?_
        · intro hec w1 v h1
          refine by_ite' (fun _ => res_leaf (h1.restore hwf)) fun hn => ?_
          exact hfan w1 h1 fun _ => Decidable.not_not.mp fun hc => hn ⟨hec, Or.inr hc⟩
        · intro hec
          exact by_ite' (fun h => absurd h.1 hec) fun _ => hfan _ hL fun _ => hsup0
    | moveStr item b =>
      rw [exec.eq_37]
      refine res_step ih h0 (fun _ => trivial) fun w1 v h1 _ hv => ?_
      cases v with
      | none => exact res_raise h1
      | some d => exact res_exec ih h1 fun hP => ⟨h1.nf ht hP, hv hP d rfl⟩
    | fan item dest cur saveCg =>
      have hit : P → NF w.c item := fun hP => (ht hP).1
      have hdt : P → NF w.c dest := fun hP => (ht hP).2.1
      have hsup : P → (w.c.objs item).super = some dest := fun hP => (ht hP).2.2.2.1
      have hsave : P → ∀ g, saveCg = some g → NF w.c g := fun hP => (ht hP).2.2.2.2
      have leave : ∀ {w1 : World}, St P w.c w1 → Res P w.c { w := { w1 with cg := saveCg } } :=
        fun h1 => res_leaf (h1.restore hsave)
      cases cur with
      | none =>
        rw [exec.eq_38]
        refine by_ite (res_raise h0) (res_opt ih (fun _ => ⟨h0.giver hdt,
          fun hP => ⟨hit hP, fun y _ h2 => by cases h2; simp [adjacent, hsup hP]⟩⟩) (fun _ w1 _ h1 => leave h1)
          fun _ => leave h0)
      | some ob =>
        have hob : P → NF w.c ob := fun hP => (ht hP).2.2.1 ob rfl
        rw [exec.eq_39]
        -- the rest of the inventory, from any later state in which `item` is still in `dest`
        have hrec : ∀ w1, St P w.c w1 → (P → (w1.c.objs item).super = some dest) →
            Res P w.c (exec sc f (.fan item dest (nextInv w.c ob) saveCg) w1) := fun w1 h1 hs1 =>
          res_exec ih h1 fun hP => ⟨h1.nf hit hP, h1.nf hdt hP, fun nx h => h1.nfle.nf _ (nextInv_nf hI h), hs1 hP,
            fun g hgg => h1.nfle.nf _ (hsave hP g hgg)⟩
        refine res_guard h0 (fun hP => nf_guard (hob hP)) fun _ => by_ite (hrec w h0 hsup) (by_ite (res_raise h0)
          (by_ite' (fun _ => res_exec ih h0 fun hP => ⟨hit hP, hdt hP, (fun _ h => nomatch h), hsup hP, hsave hP⟩)
            fun hobs => ?_))
        have hobs' := Decidable.not_not.mp hobs
        -- after init() of `item` by `ob`: both re-checked before `ob` gets its init() by `item`
        have hk1 : ∀ w1, St P w.c w1 →
            (¬ ((w.c.objs ob).ec = true ∧ (w1.c.objs item).super ≠ some dest) → P → (w1.c.objs item).super = some dest) →
            Res P w.c (if (w.c.objs ob).ec = true ∧ (w1.c.objs item).super ≠ some dest then
                ({ w := { w1 with cg := saveCg } } : R)
              else if (w1.c.objs item).destructed = true then raise w1 errItemDested
              else if (w1.c.objs ob).super ≠ some dest then exec sc f (.fan item dest (nextInv w.c ob) saveCg) w1
              else
                (if (w1.c.objs item).ec = true then exec sc f (.hook ob .init (some item)) { w1 with cg := some item }
                  else { w := w1 }).andThen fun w2 _ =>
                  if (w1.c.objs item).ec = true ∧ (w2.c.objs item).super ≠ some dest then { w := { w2 with cg := saveCg } }
                  else exec sc f (.fan item dest (nextInv w.c ob) saveCg) w2) := by
          intro w1 h1 hs1f
          refine by_ite' (fun _ => leave h1) fun hn => by_ite (res_raise h1) ?_
          have hs1 := hs1f hn
          refine by_ite' (fun _ => hrec w1 h1 hs1) fun hob1 => ?_
          have hob1' := Decidable.not_not.mp hob1
          refine res_opt ih (fun _ => ⟨h1.giver (h1.nf hit),
            fun hP => ⟨h1.nf hob hP, fun y _ h2 => by cases h2; simp [adjacent, hs1 hP, hob1']⟩⟩) ?_ ?_
          · intro hec w2 v h2
            exact by_ite' (fun _ => leave h2) fun hn2 =>
              hrec w2 h2 fun _ => Decidable.not_not.mp fun hc => hn2 ⟨hec, hc⟩
          · intro hec
            exact by_ite' (fun h => absurd h.1 hec) fun _ => hrec w1 h1 hs1
        refine res_opt ih (fun _ => ⟨h0.giver hob,
          fun hP => ⟨hit hP, fun y _ h2 => by cases h2; simp [adjacent, hsup hP, hobs']⟩⟩) ?_ ?_
        · intro hec w1 v h1
          exact hk1 w1 h1 fun hn _ => Decidable.not_not.mp fun hc => hn ⟨hec, hc⟩
        · intro hec
          exact hk1 w h0 fun _ => hsup
    | present env tgt cur =>
      cases cur with
      | none => rw [exec.eq_40]; exact res_leaf h0
      | some ob =>
        have hob : P → NF w.c ob := fun hP => ht hP ob rfl
        rw [exec.eq_41]
        refine res_guard h0 (fun hP => nf_guard (hob hP)) fun _ =>
          res_step ih h0 (fun hP => ⟨hob hP, fun y hk _ => nomatch hk⟩) fun w1 _ h1 _ _ => ?_
        refine by_ite (res_leaf h1) (by_ite (res_leaf h1)
          (by_ite (res_val h1 fun hP x hx => by cases hx; exact h1.nf hob hP) ?_))
        exact res_exec ih h1 fun _ nx hnx => nextInv_nf h1.inv hnx
    | command a verb =>
      have ha : P → NF w.c a := ht
      rw [exec.eq_42]
      refine res_guard h0 (fun hP => nf_guard (ha hP)) fun _ => by_ite (res_leaf h0) (by_ite (res_leaf h0) ?_)
      refine res_step ih (h0.giver ha) ha fun w2 v h2 _ hv => ?_
      exact res_val (h2.restore hwf) hv
    | cmdloop a verb rest saveIsa =>
      have ha : P → NF w.c a := ht
      cases rest with
      | nil => rw [exec.eq_43]; exact res_leaf h0
      | cons t rest =>
        rw [exec.eq_44]
        refine by_ite' (fun _ => res_exec ih h0 ha) fun hc => ?_
        -- user_parser skips the sentences of destructed objects: the action's object is live
        have hp : t.2 < w.c.n ∧ (w.c.objs t.2).destructed = false := by
          have h3 := Decidable.not_not.mp hc
          simp at h3; exact ⟨h3.1.1, h3.1.2⟩
        refine res_step ih h0 (fun _ => ⟨live_nf hI hp.1 hp.2, fun y hk _ => nomatch hk⟩) fun w1 _ h1 _ _ => ?_
        have h1a : St P w.c { w1 with cg := some a } := h1.giver (h1.nf ha)
        refine by_ite (res_val h1a ?_) (by_ite (res_val h1a fun hP x hx => by cases hx; exact h1.nf ha hP)
          (by_ite (res_raise h1a) (by_ite (res_raise h1a) (res_exec ih h1a (h1.nf ha)))))
        intro hP x hx
        split at hx <;> cases hx
        exact h1.nf ha hP
    | destruct ob =>
      have hob : P → NF w.c ob := ht
      rw [exec.eq_45]
      refine by_ite (res_raise h0) (res_guard h0 (fun hP => nf_guard (hob hP)) fun _ =>
        by_ite' (fun _ => res_leaf h0) fun hd => ?_)
      exact res_exec ih h0 fun hP => ⟨hob hP, Bool.eq_false_iff.mpr hd, fun s hs => super_nf hI hs⟩
    | dloop ob sup0 saveR =>
      have hob : P → NF w.c ob := fun hP => (ht hP).1
      have hsup : P → ∀ s, sup0 = some s → NF w.c s := fun hP => (ht hP).2.2
      have hrec : ∀ w2, St P w.c w2 → ¬ (w2.c.objs ob).destructed = true →
          Res P w.c (exec sc f (.dloop ob sup0 saveR) w2) := fun w2 h2 hd2 =>
        res_exec ih h2 fun hP => ⟨h2.nf hob hP, Bool.eq_false_iff.mpr hd2, fun s hs => h2.nfle.nf _ (hsup hP s hs)⟩
      -- the environment cached when destruct_object began is dereferenced only where there is one, and it is valid
      have hsupg : P → ¬ (match sup0 with
          | none => false
          | some s => decide (¬ (s < w.c.n)) || (w.c.objs s).freed) = true := fun hP => by
        cases sup0 with
        | none => exact Bool.false_ne_true
        | some s => have := hsup hP s rfl; simp [this.1, this.2]
      -- `exec` has an equation for each shape of the cached environment; they differ in that test and in the argument
      -- handed to move_or_destruct, which plays no part here
      cases sup0
      case' none => rw [exec.eq_46]
      case' some => rw [exec.eq_47]
      all_goals cases hc : (w.c.objs ob).contains
      case none.cons otmp _ | some.cons s otmp _ =>
        have hot := cont_live hI (x := otmp) (y := ob) (by rw [hc]; exact List.mem_cons_self)
        have hotnf := live_nf hI hot.1 hot.2
        refine res_else (nf_guard hotnf) (res_guard h0 hsupg fun _ => ?_)
        refine res_step ih h0 (fun _ => ⟨hotnf, fun y hk _ => nomatch hk⟩) fun w1 _ h1 _ _ => ?_
        refine by_ite' (fun _ => res_leaf h1) fun hd1 => res_opt ih (fun _ => ⟨h1, h1.nf fun _ => hotnf⟩)
          (fun _ w2 _ h2 => by_ite' (fun _ => res_leaf h2) (hrec w2 h2))
          (fun _ => by_ite' (fun _ => res_leaf h1) (hrec _ h1))
      case none.nil | some.nil =>
        -- the unlink block runs behind the check that `ob` is live; everything it walks is a registry of live objects
        refine res_guard h0 (fun hP h => h ⟨(hob hP).1, (ht hP).2.1⟩) fun hlive => res_else (fun h => ?_) ?_
        · rcases h with h | h | h | h
          · exact ne_true_of_eq_false (anyFreed_env hI ob) h
          · exact ne_true_of_eq_false (anyFreed_ot hI _) h
          · exact ne_true_of_eq_false (anyFreed_ol hI) h
          · exact ne_true_of_eq_false (anyFreed_living hI ob) h
        have hlive' := Decidable.not_not.mp hlive
        have hfin : Inv (finishDestruct (unsentDestruct (hbRemove w ob).c ob) ob) ∧
            NFle (hbRemove w ob).c (finishDestruct (unsentDestruct (hbRemove w ob).c ob) ob) := by
          rw [(hbRemove_c_cg_initBad w ob).1]
          exact unlinkBlock_keeps hI hlive'.1 hlive'.2 hc
        exact res_leaf ((h0.regs (hbRemove_c_cg_initBad w ob)).core hfin.1 hfin.2)
    | objloop self rest acc =>
      have hself : P → NF w.c self := fun hP => (ht hP).1
      cases rest with
      | nil => rw [exec.eq_48]; exact res_val h0 fun hP x hx => by cases hx; exact hself hP
      | cons ob rest =>
        have hob : P → NF w.c ob := fun hP => (ht hP).2 ob List.mem_cons_self
        have hrest : P → ∀ x ∈ rest, NF w.c x := fun hP x hx => (ht hP).2 x (List.mem_cons_of_mem _ hx)
        rw [exec.eq_49]
        refine res_guard h0 (fun hP => nf_guard (hob hP)) fun _ => by_ite
          (res_exec ih h0 fun hP => ⟨hself hP, hrest hP⟩)
          (res_guard h0 (fun hP => nf_guard (hself hP)) fun _ => by_ite (res_raise h0) ?_)
        refine res_step ih h0 (fun hP => ⟨hself hP, fun y hk _ => nomatch hk⟩) fun w1 _ h1 _ _ => ?_
        exact res_exec ih h1 fun hP => ⟨h1.nf hself hP, fun x hx => h1.nfle.nf _ (hrest hP x hx)⟩

/-- **the invariant is preserved by every task** -/
theorem exec_inv (f : Nat) (t : Task) (w : World) (h : Inv w.c) : Inv (exec sc f t w).w.c := (exec_res sc f t w h).inv

/-- inside a task - well-formed or not - no object is un-allocated, renamed, released or resurrected -/
theorem exec_nfle (f : Nat) (t : Task) (w : World) (h : Inv w.c) : NFle w.c (exec sc f t w).w.c :=
  (exec_res sc f t w h).nfle

theorem exec_good : ∀ (f : Nat), IH sc f := fun f t w hI ht hwf hg => (exec_res sc f t w hI).good ⟨ht, hwf, hg⟩

theorem ops_nil_not_err (f : Nat) (self : Nat) (arg : Option Nat) (w : World) :
    (exec sc f (.ops self arg []) w).out ≠ .err := by
  cases f
  · rw [exec.eq_1]; exact fun h => nomatch h
  · rw [exec.eq_2]; exact fun h => nomatch h

theorem ops_nil_guards (f : Nat) (self : Nat) (arg : Option Nat) (w : World) :
    (exec sc f (.ops self arg []) w).w.cg = w.cg ∧ (exec sc f (.ops self arg []) w).w.restrict = w.restrict ∧
    (exec sc f (.ops self arg []) w).w.catching = w.catching := by
  cases f
  · rw [exec.eq_1]; exact ⟨rfl, rfl, rfl⟩
  · rw [exec.eq_2]; exact ⟨rfl, rfl, rfl⟩

/-- the statement of `load_val_named` about a result -/
abbrev Named (nm : Name) (strict : Bool) : R → Prop :=
  Post fun w v => ∀ i, v = some i →
    i < w.c.n ∧ (w.c.objs i).name = nm ∧ (strict = true → (w.c.objs i).destructed = false)

/-- find_or_load_object's last test adds "not destructed" -/
theorem named_strict {nm : Name} {strict : Bool} {r : R} (h : Named nm false r) :
    Named nm strict (r.andThen (strictVal strict)) := by
  intro hok i hv
  obtain ⟨h1, e⟩ := andThen_ok hok
  rw [e] at hv ⊢
  cases hr : r.val with
  | none => rw [hr] at hv; cases hv
  | some ob =>
    rw [hr] at hv
    have := h h1 ob hr
    simp only [strictVal] at hv ⊢
    by_cases hc : strict = true ∧ (r.w.c.objs ob).destructed = true
    · rw [if_pos hc] at hv; cases hv
    · rw [if_neg hc] at hv ⊢
      cases hv
      exact ⟨this.1, this.2.1, fun hs => Bool.eq_false_iff.mpr fun hd => hc ⟨hs, hd⟩⟩

/-- the object load_object allocates keeps its name through its own create() -/
theorem loadCreate_named (f : Nat) {P : Prop} {nm : Name} {saveCg : Option Nat} {c0 : Core} {w : World}
    (h : St P c0 w) (hfree : ∀ i, i < w.c.n → (w.c.objs i).destructed = false → (w.c.objs i).name ≠ nm)
    (hnum : nm.num = none) : Named nm false (loadCreate sc f nm saveCg w) := by
  have hA := alloc_st (cl := false) h hfree (fun k hk => by rw [hnum] at hk; cases hk)
  have g := exec_nfle sc f (.hook (alloc w.c nm false).2 .create none) { w with c := (alloc w.c nm false).1 } hA.1.inv
  intro hok i hv
  obtain ⟨_, e⟩ := andThen_ok hok
  rw [loadCreate, e] at hv ⊢
  cases hv
  refine ⟨(g.nf _ hA.2).1, (g.name _ hA.2.1).trans ?_, fun hs => nomatch hs⟩
  rw [alloc_eq h.inv hfree]
  simp [allocCore]

/-- a task can start in `w`: the state between two top-level commands -/
abbrev Ok (w : World) : Prop := St True w.c w

theorem St.restart {P : Prop} {c0 : Core} {w : World} (h : St P c0 w) (hP : P) : Ok w :=
  ⟨h.inv, NFle.refl _, fun _ => ⟨h.wf hP, h.ghost hP⟩⟩

theorem init_ok : Ok World.init :=
  ⟨init_inv, NFle.refl _, fun _ => ⟨(fun _ h => nomatch h), rfl⟩⟩

/-- outcome of a top-level command -/
def topOut (sc : Scripts) (w : World) : Cmd → Out
  | .top op => if ¬ (1 < w.c.n ∧ (w.c.objs 1).destructed = false) then .ok else (exec sc topFuel (.ops 1 none [op]) w).out
  | .tick => if w.hbl.length = 0 then .ok
             else (hbRound sc (w.hbl.length + 1000) { w with hbTodo := w.hbl.length, hbIdx := 0 }).out
  | _ => .ok

/-- whatever is closed under the three state changes of the LPC probe survives it -/
theorem probe_pres (Q : World → Prop) (hemit : ∀ w s, Q w → Q (emit w s))
    (hlk : ∀ (w : World) nm, Q w → Q { w with c := (lookupC w.c nm).1 })
    (hfl : ∀ (w : World) s, Q w → Q { w with c := (findLivingC w.c s).1 }) {w : World} (hw : Q w) : Q (probe w) := by
  unfold probe
  refine hemit _ _ (hemit _ _ (hemit _ _ (List.foldlRecOn _ _ hw fun w hw i _ => ?_)))
  have h1 := hlk w (w.c.objs i).name hw
  dsimp only
  cases (w.c.objs i).destructed with
  | true => exact hemit _ _ h1
  | false =>
    refine hemit _ _ ?_
    cases (w.c.objs i).living with
    | none => exact h1
    | some s => exact hfl _ _ h1

theorem ok_ne : Out.ok ≠ .crash ∧ Out.ok ≠ .hang := ⟨Out.noConfusion, Out.noConfusion⟩

theorem hbRound_res : ∀ (fuel : Nat) (w : World), Ok w → Res True w.c (hbRound sc fuel w)
  | 0, _, h => res_leaf h
  | fuel + 1, w, h => by
    rw [hbRound]
    cases w.hbl[w.hbIdx.toNat]? with
    | none => exact res_leaf h
    | some ob =>
      refine by_ite' (fun _ => res_leaf h) fun hv => ?_
      have hv' := Decidable.not_not.mp hv
      have hnf : NF w.c ob := ⟨hv'.1, hv'.2.1⟩
      refine res_step (exec_res sc topFuel) (h.cg fun _ g hgg => ?_) (fun _ => ⟨hnf, fun y hk _ => nomatch hk⟩)
        fun w1 _ h1 _ _ => ?_
      · split at hgg <;> cases hgg
        exact hnf
      · have h1' : St True w.c { w1 with cg := none, hbIdx := w1.hbIdx + 1 } := h1.cg fun _ _ hgg => nomatch hgg
        have g := hbRound_res fuel _ (h1'.restart trivial)
        exact by_ite (res_leaf h1') ⟨g.inv, h1'.nfle.trans g.nfle, fun _ => (g.good trivial).mono h1'.nfle⟩

/-- what a top-level command started in `w` leaves: a state in which the next can start, and an outcome (`topOut`
    computes what `stepCmd` drops) that is neither `crash` nor `hang` -/
structure CmdOk (w : World) (cmd : Cmd) : Prop where
  next : Ok (stepCmd sc w cmd)
  nocrash : topOut sc w cmd ≠ .crash
  nohang : topOut sc w cmd ≠ .hang

/-- a top-level command ends in the state its task left, or (after an error) in that state with the saved
    command_giver - still a valid pointer - put back -/
theorem stepCmd_ok {w : World} (cmd : Cmd) (h : Ok w) : CmdOk sc w cmd := by
  -- proved together: `stepCmd` and `topOut` run the same task, and one result serves all three
  suffices both : Ok (stepCmd sc w cmd) ∧ topOut sc w cmd ≠ .crash ∧ topOut sc w cmd ≠ .hang from
    ⟨both.1, both.2.1, both.2.2⟩
  have restored : ∀ {r : R}, Res True w.c r → Ok { r.w with cg := w.cg } :=
    fun g => (g.st.restore fun _ => h.wf trivial).restart trivial
  cases cmd with
  | top op =>
    rw [stepCmd, topOut]
    by_cases hm : 1 < w.c.n ∧ (w.c.objs 1).destructed = false
    · rw [if_neg (not_not_intro hm), if_neg (not_not_intro hm)]
      have g := res_exec (exec_res sc topFuel) h (t := .ops 1 none [op]) fun _ => live_nf h.inv hm.1 hm.2
      refine ⟨?_, (g.good trivial).nocrash, (g.good trivial).nohang⟩
      revert g
      generalize exec sc topFuel (.ops 1 none [op]) w = r
      intro g
      dsimp only
      cases r.out
      case err => exact restored g
      all_goals exact g.st.restart trivial
    · rw [if_pos hm, if_pos hm]
      exact ⟨h, ok_ne⟩
  | tick =>
    rw [stepCmd, topOut, tick]
    by_cases hl : w.hbl.length = 0
    · rw [if_pos hl, if_pos hl]
      exact ⟨h, ok_ne⟩
    · rw [if_neg hl, if_neg hl]
      have g := hbRound_res sc (w.hbl.length + 1000) { w with hbTodo := w.hbl.length, hbIdx := 0 } h
      refine ⟨?_, (g.good trivial).nocrash, (g.good trivial).nohang⟩
      revert g
      generalize hbRound sc (w.hbl.length + 1000) { w with hbTodo := w.hbl.length, hbIdx := 0 } = r
      intro g
      dsimp only
      cases r.out
      case err => exact restored g
      all_goals exact g.st.restart trivial
  | snap => exact ⟨h, ok_ne⟩
  | probe =>
    refine ⟨?_, ok_ne⟩
    exact (probe_pres (fun w' => St True w.c w') (fun _ _ h' => h') (fun _ nm h' => h'.lookup nm)
      (fun _ s h' => h'.core (findLivingC_inv s h'.inv) (nfle_findLivingC _ s)) h).restart trivial
  | gc => exact ⟨⟨gc_inv h.inv, NFle.refl _, fun _ => ⟨(fun _ hg => nomatch hg), h.ghost trivial⟩⟩, ok_ne⟩

theorem runCmds_ok (cmds : List Cmd) (w : World) (hw : Ok w) : Ok (runCmds sc w cmds) :=
  List.foldlRecOn cmds _ hw fun _ hw cmd _ => (stepCmd_ok sc cmd hw).next

end NV.C08
