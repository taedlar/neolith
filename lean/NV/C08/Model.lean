/-
C08 — executable model of the object registries of the neolith driver.

Mirrors, line by line:
  lib/lpc/otable.c   find_obj_n (move-to-front)      -> `lookupC`
                     enter_object_hash                -> `enterHash`   (silently refuses a name that is already present)
                     remove_object_hash               -> `removeHash`  (unconditional `obj_table[h] = ob->next_hash`)
  lib/lpc/object.c   set_living_name / remove_living_name / find_living_object -> `setLiving`, `findLivingC`
  src/simulate.c     load_object / find_or_load_object -> `Task.load`
                     clone_object                     -> `Task.clone`
                     move_object (cycle walk, unlink, link at head, init() fan-out with the saved `next_ob`
                                  cursor and the re-checks after every call)          -> `Task.move`, `Task.fan`
                     destruct_object (restrict_destruct, move_or_destruct loop, unlinking, deferred free)
                                                      -> `Task.destruct`, `Task.dloop`, `finishDestruct`
                     remove_destructed_objects        -> `gc`
  lib/efuns          enable_commands, find_object, find_living, environment, all_inventory, first/next_inventory,
                     objects(), livings()

Representation: every `object_t` ever allocated has an index (allocation order; 0 = simul_efun object, 1 = master).
`contains` is the inventory as a list in `next_inv` order; `next_inv` of an object is its successor in the
`contains` list of its `super` (0 when it has no environment).  Hash chains are lists in `next_hash` order.
A dereference of an object whose structure has been released (`freed`, set by `gc` = destruct2 in the worst case of no
other reference) is the explicit outcome `crash`; a walk of the `super` chain that does not end is `hang`.
Callbacks into LPC (create / init / move_or_destruct) are an oracle `Scripts` + fuel.
-/
import NV.Gen.C08

namespace NV.C08

/-! ## names and hashing -/

inductive Base where
  | bp (k : Nat)      -- "c08/b<k>"   (file exists, compiles)
  | ih (k : Nat)      -- "c08/i<k>"   (file exists: `inherit "/c08/b<k>";`)
  | master            -- "c08/master"
  | simul             -- "simul_efun"
  | nofile            -- "c08/nx"     (no such file: load returns 0)
  | badfile           -- "c08/bad"    (file does not compile: load raises an error)
  deriving DecidableEq, Repr

structure Name where
  base : Base
  num : Option Nat     -- `#<n>` suffix of clones (make_new_name)
  deriving DecidableEq, Repr

def Base.str : Base → String
  | .bp k => s!"c08/b{k}"
  | .ih k => s!"c08/i{k}"
  | .master => "c08/master"
  | .simul => "simul_efun"
  | .nofile => "c08/nx"
  | .badfile => "c08/bad"

def Name.str (n : Name) : String :=
  match n.num with
  | none => n.base.str
  | some k => s!"{n.base.str}#{k}"

/-- Pearson table of lib/misc/hash.c (regenerated from the source) -/
def T (i : Nat) : Nat := NV.Gen.C08.pearsonT.getD (i % 256) 0

/-- lib/misc/hash.c `whashstr(s, maxn)` -/
def whashstr (s : String) (maxn : Nat) : Nat :=
  match s.toUTF8.toList.map (·.toNat) with
  | [] => 0
  | c0 :: rest =>
    let step := fun (st : Nat × Nat) (c : Nat) => (T (st.1 ^^^ c), T (st.2 ^^^ c))
    let r := (rest.take (maxn - 1)).foldl step (T c0, (c0 + 1) % 256)
    r.1 * 256 + r.2

/-- size of the object name hash table (power of two; written into the harness config by the plugin) -/
abbrev otSize : Nat := NV.Gen.C08.otSize
/-- `__LIVING_HASH_TABLE_SIZE__` (lib/rc/rc.cpp) -/
abbrev lvSize : Nat := NV.Gen.C08.livingHashSize

/-- otable.c `ObjHash` -/
def hashN (n : Name) : Nat := whashstr n.str NV.Gen.C08.objHashPrefix &&& (otSize - 1)
/-- object.c `hash_living_name` -/
def lhash (s : String) : Nat := whashstr s NV.Gen.C08.livingHashPrefix % lvSize

/-! ## state -/

structure Obj where
  name : Name
  destructed : Bool := false      -- O_DESTRUCTED
  freed : Bool := false           -- structure released by destruct2/free_object (worst case)
  ec : Bool := false              -- O_ENABLE_COMMANDS
  clone : Bool := false           -- O_CLONE
  super : Option Nat := none
  contains : List Nat := []
  living : Option String := none  -- living_name
  sent : List (String × Nat) := [] -- sentences (verb, defining object) this object can use, newest first
  deriving Repr

/-- the structures of the driver -/
structure Core where
  n : Nat                         -- number of objects allocated so far
  objs : Nat → Obj
  ot : Nat → List Nat             -- obj_table[h] chains
  ol : List Nat                   -- obj_list (next_all order)
  dl : List Nat                   -- obj_list_destruct
  lv : Nat → List Nat             -- hashed_living[h] chains
  ctr : Nat                       -- static counter of make_new_name

def setObj (c : Core) (i : Nat) (o : Obj) : Core :=
  { c with objs := fun j => if j = i then o else c.objs j }

def setOt (c : Core) (h : Nat) (l : List Nat) : Core :=
  { c with ot := fun k => if k = h then l else c.ot k }

def setLv (c : Core) (h : Nat) (l : List Nat) : Core :=
  { c with lv := fun k => if k = h then l else c.lv k }

def live (c : Core) (i : Nat) : Prop := i < c.n ∧ (c.objs i).destructed = false

instance (c : Core) (i : Nat) : Decidable (live c i) := by unfold live; infer_instance

/-- some listed structure has been released: dereferencing it is a crash (conservative: the whole list) -/
def anyFreed (c : Core) (l : List Nat) : Bool := l.any (fun i => (c.objs i).freed)

/-! ## otable.c -/

/-- find_obj_n: first object of the chain carrying the name, moved to the front of its chain -/
def lookupC (c : Core) (nm : Name) : Core × Option Nat :=
  let h := hashN nm
  match (c.ot h).find? (fun i => decide ((c.objs i).name = nm)) with
  | none => (c, none)
  | some i => (setOt c h (i :: (c.ot h).erase i), some i)

/-- enter_object_hash: nothing happens when the name is already present -/
def enterHash (c : Core) (i : Nat) : Core :=
  let nm := (c.objs i).name
  let r := lookupC c nm
  match r.2 with
  | some _ => r.1
  | none => setOt r.1 (hashN nm) (i :: r.1.ot (hashN nm))

/-- `ob->next_hash`: the successors of `i` in its chain, `[]` (NULL) when it is in no chain -/
def nextHash (c : Core) (i : Nat) : List Nat :=
  let ch := c.ot (hashN (c.objs i).name)
  if i ∈ ch then (ch.dropWhile (· ≠ i)).drop 1 else []

/-- remove_object_hash: `find_obj_n` (cycles the name to the front), then `obj_table[h] = ob->next_hash`
    whatever was found -/
def removeHash (c : Core) (i : Nat) : Core :=
  let nm := (c.objs i).name
  let c1 := (lookupC c nm).1
  setOt c1 (hashN nm) (nextHash c1 i)

/-! ## living names (object.c) -/

def removeLiving (c : Core) (i : Nat) : Core :=
  match (c.objs i).living with
  | none => c
  | some s =>
    let c1 := setLv c (lhash s) ((c.lv (lhash s)).erase i)
    setObj c1 i { c1.objs i with living := none }

/-- set_living_name -/
def setLiving (c : Core) (i : Nat) (s : String) : Core :=
  if (c.objs i).destructed then c
  else
    let c1 := removeLiving c i
    let c2 := setLv c1 (lhash s) (i :: c1.lv (lhash s))
    setObj c2 i { c2.objs i with living := some s }

/-- find_living_object(str, 0): first command-enabled object of the chain with that living name, moved to front -/
def findLivingC (c : Core) (s : String) : Core × Option Nat :=
  let h := lhash s
  match (c.lv h).find? (fun i => (c.objs i).ec && decide ((c.objs i).living = some s)) with
  | none => (c, none)
  | some i => (setLv c h (i :: (c.lv h).erase i), some i)

/-! ## allocation, linking, destruction (straight-line blocks of simulate.c: no LPC code runs inside) -/

/-- get_empty_object + name + push on obj_list + enter_object_hash -/
def alloc (c : Core) (nm : Name) (isClone : Bool) : Core × Nat :=
  let i := c.n
  let c1 : Core := { c with n := c.n + 1,
                            objs := fun j => if j = i then { name := nm, clone := isClone } else c.objs j,
                            ol := i :: c.ol }
  (enterHash c1 i, i)

/-- move_object: unlink `item` from its old environment, link it at the head of `dest` -/
def relink (c : Core) (item dest : Nat) : Core :=
  let c1 := match (c.objs item).super with
    | none => c
    | some s => setObj c s { c.objs s with contains := (c.objs s).contains.filter (· ≠ item) }
  let c2 := setObj c1 item { c1.objs item with super := some dest }
  setObj c2 dest { c2.objs dest with contains := item :: (c2.objs dest).contains }

/-- destruct_object after the move_or_destruct loop: unlink from the environment, remove_object_hash, unlink from
    obj_list, remove_living_name, clear the links, push on obj_list_destruct, set O_DESTRUCTED -/
def finishDestruct (c : Core) (ob : Nat) : Core :=
  let c1 := match (c.objs ob).super with
    | none => c
    | some s => setObj c s { c.objs s with contains := (c.objs s).contains.filter (· ≠ ob) }
  let c2 := removeHash c1 ob
  let c3 : Core := { c2 with ol := c2.ol.erase ob }
  let c4 := removeLiving c3 ob
  let c5 := setObj c4 ob { c4.objs ob with ec := false, super := none, contains := [], destructed := true, sent := [] }
  { c5 with dl := ob :: c5.dl }

/-- remove_destructed_objects: destruct2 on every entry (worst case: no other reference, structure released) -/
def gc (c : Core) : Core :=
  { c with objs := fun i => if i ∈ c.dl then { c.objs i with freed := true } else c.objs i, dl := [] }

/-! ## sentences (add_action / remove_sent) -/

/-- rewrite the sentence lists only (`f` sees the object once: no re-evaluation of the state function) -/
def mapSent (c : Core) (f : Nat → Obj → List (String × Nat)) : Core :=
  { c with objs := fun i => let o := c.objs i; { o with sent := f i o } }

/-- remove_sent(ob, user) on the list of `user` -/
def rmSent (ob : Nat) (l : List (String × Nat)) : List (String × Nat) := l.filter (fun t => t.2 ≠ ob)

/-- move_object, before the unlinking: `item` loses the sentences of its old environment and of its old siblings (if it
    is command-enabled); the old environment and the command-enabled old siblings lose the sentences of `item` -/
def unsentMove (c : Core) (item : Nat) : Core :=
  match (c.objs item).super with
  | none => c
  | some s =>
    let sibs := (c.objs s).contains
    mapSent c fun u o =>
      if u = item then
        (if o.ec then o.sent.filter (fun t => t.2 ≠ s ∧ ¬ (t.2 ∈ sibs ∧ t.2 ≠ item)) else o.sent)
      else if (u = s ∨ u ∈ sibs) ∧ o.ec then rmSent item o.sent
      else o.sent

/-- destruct_object, unlink block: the environment and everything in it (command-enabled) lose the sentences of `ob` -/
def unsentDestruct (c : Core) (ob : Nat) : Core :=
  match (c.objs ob).super with
  | none => c
  | some s =>
    let sibs := (c.objs s).contains
    mapSent c fun u o => if (u = s ∨ u ∈ sibs) ∧ o.ec then rmSent ob o.sent else o.sent

/-- some sentence list got shorter: remove_sent() removed a sentence and set `illegal_sentence_action = 2` -/
def sentChanged (c c' : Core) : Bool :=
  (List.range c.n).any (fun i => (c.objs i).sent.length != (c'.objs i).sent.length)

/-- remove the first sentence satisfying `p` -/
def eraseFirst (p : String × Nat → Bool) : List (String × Nat) → List (String × Nat)
  | [] => []
  | t :: l => if p t then l else t :: eraseFirst p l

/-- add_action: new sentence at the head of the command giver's list -/
def addSent (c : Core) (g : Nat) (verb : String) (ob : Nat) : Core :=
  mapSent c fun u o => if u = g then (verb, ob) :: o.sent else o.sent

/-- the test of add_action(): the defining object must be near the command giver (pointer comparisons, NULL = NULL) -/
def nearCg (c : Core) (ob g : Nat) : Bool :=
  decide (ob = g) || decide ((c.objs ob).super = some g) || decide ((c.objs ob).super = (c.objs g).super) ||
    decide ((c.objs g).super = some ob)

/-- spec-level adjacency used by the ghost flag: one is the environment of the other, or they share an environment -/
def adjacent (c : Core) (x y : Nat) : Bool :=
  decide ((c.objs x).super = some y) || decide ((c.objs y).super = some x) ||
    (decide ((c.objs x).super = (c.objs y).super) && (c.objs x).super.isSome)

/-- `ob->next_inv` -/
def nextInv (c : Core) (i : Nat) : Option Nat :=
  match (c.objs i).super with
  | none => none
  | some s => ((c.objs s).contains.dropWhile (· ≠ i)).drop 1 |>.head?

/-- result of the loop `for (ob = dest; ob; ob = ob->super) if (ob == item) error` -/
inductive Walk where
  | hit      -- found `item`: error
  | clear    -- reached the top
  | freed    -- stepped on a released structure
  | loop     -- the chain does not end (fuel)
  deriving DecidableEq, Repr

def superWalk (c : Core) (item : Nat) : Nat → Option Nat → Walk
  | 0, _ => .loop
  | _ + 1, none => .clear
  | f + 1, some ob =>
    if (c.objs ob).freed then .freed
    else if ob = item then .hit
    else superWalk c item f (c.objs ob).super

/-! ## operations, hooks, tasks -/

inductive Hook where
  | create | init | mod | act | id | hbeat | ofilt
  deriving DecidableEq, Repr

def Hook.str : Hook → String
  | .create => "create" | .init => "init" | .mod => "mod" | .act => "act" | .id => "id" | .hbeat => "hbeat"
  | .ofilt => "ofilt"

/-- an efun an object executes right after `destruct (this_object ())`, in the same function -/
inductive Gh where
  | ln (s : String)   -- set_living_name (s)
  | ec                -- enable_commands ()
  | aa (v : String)   -- add_action ("act", v)
  | hbe               -- set_heart_beat (1)
  | mv (d : Nat)      -- move_object (d)
  deriving Repr

def Gh.str : Gh → String
  | .ln _ => "ln" | .ec => "ec" | .aa _ => "aa" | .hbe => "hbe" | .mv _ => "mv"

/-- what a scripted LPC object can do (harness/mudlib/c08/obj.c: do_op) -/
inductive Op where
  | ld (b : Base)            -- load_object("/c08/..")
  | cl (b : Base)            -- clone_object("/c08/..")
  | mv (a d : Nat)           -- a->x_mv(d): move_object(d) executed by a
  | mvs (a : Nat) (b : Base) -- a->x_mvs("/c08/.."): move_object(string) executed by a (the destination is loaded on demand)
  | hbe (a : Nat)            -- a: set_heart_beat(1)
  | hbd (a : Nat)            -- a: set_heart_beat(0)
  | pr (e t : Nat)           -- present("o<t>", e): e's inventory is searched by calling id("o<t>") in every member
  | fis (b : Base)           -- first_inventory("/c08/..") (the object is loaded on demand)
  | de (a : Nat)             -- destruct(a)
  | ec (a : Nat)             -- a: enable_commands()
  | dc (a : Nat)             -- a: disable_commands()
  | ln (a : Nat) (s : String) -- a: set_living_name(s)
  | fo (nm : Name)           -- find_object(name)
  | fl (s : String)          -- find_living(s)
  | aa (a : Nat) (verb : String)  -- a: add_action("act", verb)  (for the current command giver)
  | cmd (a : Nat) (verb : String) -- a: command(verb)
  | kp (a : Nat)             -- keep a reference to a in a global variable / array / mapping of the executing object
  | rd                       -- read that variable back
  | err                      -- error("boom")
  | mvarg                    -- inside move_or_destruct(dest): if (dest) move_object(dest)
  | gh (g : Gh)              -- destruct (this_object ()); then one more efun executed by the (destructed) object itself
  | ret0                     -- the running action function will return 0 (`act_ret = 0` in the executing object)
  | ra (a : Nat) (verb : String)  -- a: remove_action("act", verb)
  | obf                      -- objects("ofilt"): obj_list walked with a filter function of the executing object
  | ct (o : Op)              -- catch (o)
  | nop
  deriving Repr

/-- scripts: what hook `k` of object `i` does at its `n`-th invocation -/
abbrev Scripts := Nat → Hook → Nat → List Op

inductive Out where
  | ok | err | crash | hang | fuel
  deriving DecidableEq, Repr

structure World where
  c : Core
  restrict : Option Nat := none           -- restrict_destruct
  fired : List (Nat × Hook) := []         -- hook invocations so far
  keep : List (Nat × Nat) := []           -- (holder, target): LPC variable `keep` of holder
  cg : Option Nat := none                 -- command_giver
  -- the heart-beat list of src/backend.c, kept only so that the driver-initiated call channel can be predicted (its
  -- own consistency is property C11): heart_beats[] in array order, heart_beat_index, num_hb_to_do
  hbl : List Nat := []
  hbIdx : Int := 0
  hbTodo : Nat := 0
  curHb : Option Nat := none              -- current_heart_beat
  initBad : Bool := false                 -- ghost: an init() was called between objects that are not adjacent
  catching : Nat := 0                     -- number of catch() frames around the running code (innermost error context
                                          -- is a catch frame iff > 0)
  res : List Nat := []                    -- the array returned by the last objects(filter) (result register)
  isa : Nat := 0                          -- illegal_sentence_action (1: remove_action ran, 2: remove_sent removed something)
  ret0 : List Nat := []                   -- objects whose LPC variable `act_ret` is 0
  ldepth : Int := 0                       -- num_objects_this_thread: load_object() calls in progress
  out : List String := []                 -- canonical trace, newest first

def emit (w : World) (s : String) : World := { w with out := s :: w.out }

def oid (i : Nat) : String := s!"o{i}"
def ooid : Option Nat → String
  | none => "0"
  | some i => oid i

def joinIds (l : List Nat) : String := ",".intercalate (l.map oid)

def insertSorted (x : Nat) : List Nat → List Nat
  | [] => [x]
  | y :: ys => if y < x then y :: insertSorted x ys else x :: y :: ys

def sortIds (l : List Nat) : List Nat := l.foldr insertSorted []

/-- the registered objects on obj_list, sorted (harness: master->live_ids() = objects() without callbacks) -/
def liveIds (c : Core) : String :=
  let l := sortIds (c.ol.filter (· ≥ 2))
  if l.isEmpty then "-" else joinIds l

/-- an LPC array of objects as the harness prints it -/
def listStr (l : List Nat) : String := if l.isEmpty then "-" else joinIds l

/-- an LPC object value read from a variable / array / mapping: 0 when the object is destructed -/
def readRef (c : Core) (i : Nat) : Option Nat :=
  if i < c.n ∧ (c.objs i).destructed = false then some i else none

/-- a destructed object cannot call_other() to translate an object into its harness id: unknown -/
def roid (c : Core) (self : Nat) (v : Option Nat) : String :=
  if (c.objs self).destructed then "?" else ooid v

structure R where
  w : World
  out : Out := .ok
  val : Option Nat := none

def R.andThen (r : R) (k : World → Option Nat → R) : R :=
  if r.out = .ok then k r.w r.val else r

/-- a C comparison operator, as regenerated from the source text -/
def cmpOp (op : String) (a b : Int) : Bool :=
  if op == "<=" then decide (a ≤ b) else if op == "<" then decide (a < b) else if op == ">=" then decide (a ≥ b)
  else if op == ">" then decide (a > b) else if op == "==" then decide (a = b) else decide (a ≠ b)

/-- backend.c set_heart_beat(ob, 0): find the entry, adjust the round in progress (`index <= heart_beat_index`,
    `index < num_hb_to_do`: the two operators are the ones found in the source on this run), close the gap -/
def hbRemove (w : World) (ob : Nat) : World :=
  match w.hbl.idxOf? ob with
  | none => w
  | some index =>
    let idx := if w.hbTodo ≠ 0 ∧ cmpOp NV.Gen.C08.hbIdxOp (index : Int) w.hbIdx then w.hbIdx - 1 else w.hbIdx
    let todo := if w.hbTodo ≠ 0 ∧ cmpOp NV.Gen.C08.hbTodoOp (index : Int) (w.hbTodo : Int) then w.hbTodo - 1 else w.hbTodo
    { w with hbl := w.hbl.eraseIdx index, hbIdx := idx, hbTodo := todo }

/-- backend.c set_heart_beat(ob, 1): a new entry goes to the end of the array -/
def hbAdd (w : World) (ob : Nat) : World :=
  if ob ∈ w.hbl then w else { w with hbl := w.hbl ++ [ob] }

/-- error_handler(): an uncaught error while a heart_beat() is running turns that object's heart beat off -/
def hbOff (w : World) : World :=
  match w.curHb with
  | none => w
  | some h => if (w.c.objs h).destructed then { w with curHb := none } else { hbRemove w h with curHb := none }

/-- `hbOff` only happens for an error that no catch() receives (error_handler jumps to do_catch before) -/
def hbOffU (w : World) : World := if w.catching = 0 then hbOff w else w

/-- error(): the master logs the first line (`caught` when a catch() receives it); error_handler() resets
    restrict_destruct - the receiving context puts its saved value back (top level: 0; catch: see `.ct`) - and, for an
    uncaught error, switches the running heart beat off (`hbOff`) -/
def raise (w : World) (msg : String) : R :=
  { w := hbOffU (emit { w with restrict := none, ldepth := 0 } (if w.catching = 0 then s!"err {msg}" else s!"caught {msg}")),
    out := .err }

def crashR (w : World) (what : String) : R := { w := emit w s!"crash {what}", out := .crash }
def hangR (w : World) (what : String) : R := { w := emit w s!"hang {what}", out := .hang }

def firedCount (w : World) (i : Nat) (k : Hook) : Nat := (w.fired.filter (fun p => p.1 = i ∧ p.2 = k)).length

/-- `restrict_destruct && restrict_destruct != ob` -/
def restricted (w : World) (ob : Nat) : Bool :=
  match w.restrict with
  | some r => decide (r ≠ ob)
  | none => false

inductive Task where
  | ops (self : Nat) (arg : Option Nat) (l : List Op)     -- run a script in object `self`
  | hook (x : Nat) (k : Hook) (arg : Option Nat)           -- apply(create|init|move_or_destruct, x); arg = this_player()/dest
  | load (b : Base) (strict : Bool)                        -- `lookup_object_hash (name)`, and on a miss `load_object (name)`;
                                                           -- strict = find_or_load_object (a destructed result is 0)
  | clone (b : Base)                                       -- clone_object
  | move (item dest : Nat)                                 -- f_move_object (object argument) + move_object
  | moveStr (item : Nat) (b : Base)                        -- f_move_object with a string argument
  | fan (item dest : Nat) (cur : Option Nat) (save : Option Nat)  -- the `for (ob = dest->contains; ob; ob = next_ob)` loop; save_cmd
  | present (env tgt : Nat) (cur : Option Nat)             -- object_present2: the `for (; ob; ob = ob->next_inv)` loop
  | command (a : Nat) (verb : String)                      -- process_command(verb, a) + user_parser
  | destruct (ob : Nat)                                    -- destruct_object
  | dloop (ob : Nat) (sup0 : Option Nat) (saveR : Option Nat)  -- its `while (ob->contains)` loop
  | cmdloop (a : Nat) (verb : String) (rest : List (String × Nat)) (saveIsa : Nat)  -- user_parser's loop over the sentences
  | objloop (self : Nat) (rest acc : List Nat)             -- f_objects: the filter pass over the collected objects

def errInside := NV.Gen.C08.errInsideSrc
def errDestDest := NV.Gen.C08.errDestDestSrc
def errMoveDested := NV.Gen.C08.errMoveDestedSrc
def errInitDested := NV.Gen.C08.errInitDestedSrc ++ "init()"
def errItemDested := NV.Gen.C08.errItemDestedSrc ++ "init()!"
def errDestGone := NV.Gen.C08.errDestGoneSrc ++ "init()!"
def errRestrict := NV.Gen.C08.errRestrictSrc
def errBadFile := "*Error in loading object '/c08/bad':"
def errBoom := "*boom"
def errFis (b : Base) : String :=
  "Bad argument 1 to first_inventory(), Expected: string or object Got: \"/" ++ b.str ++ "\"."
def errNoDest := NV.Gen.C08.errNoDestSrc
def errEfunCb := NV.Gen.C08.errEfunCbSrc
def errIsa1 := NV.Gen.C08.errIsa1Src
def errIsa2 := NV.Gen.C08.errIsa2Src
/-- `MaxInheritDepth` of the harness configuration -/
abbrev inheritChainSize : Nat := NV.Gen.C08.inheritChainSize
def errChain (b : Base) : String :=
  NV.Gen.C08.errChainSrc ++ s!"{inheritChainSize} when trying to load '{b.str}'."
def errNoInherit (k : Nat) : String := NV.Gen.C08.errNoInheritSrc ++ s!"{(Base.bp k).str}' does not exist!"

/-- the interpreter; every call decreases the fuel -/
def exec (sc : Scripts) : Nat → Task → World → R
  | 0, _, w => { w := emit w "fuel", out := .fuel }
  | f + 1, t, w =>
    match t with
    | .ops _ _ [] => { w := w }
    | .ops self arg (op :: rest) =>
      let r : R :=
        match op with
        | .ld b =>
          (exec sc f (.load b true) w).andThen fun w v =>
            -- do_op: `t = typeof (ob2 = load_object (p)); ob = find_object (p);` - typeof sees the value the efun left
            -- on the stack, the object is fetched by a second lookup and both results are reported
            let nm : Name := { base := b, num := none }
            if anyFreed w.c (w.c.ot (hashN nm)) then crashR w "find_obj_n"
            else
              let r := lookupC w.c nm
              let w := { w with c := r.1 }
              { w := emit w s!"r ld {b.str} {roid w.c self (r.2.bind (readRef w.c))} {if v.isSome then 1 else 0} {roid w.c self (v.bind (readRef w.c))}" }
        | .cl b =>
          (exec sc f (.clone b) w).andThen fun w v =>
            { w := emit w s!"r cl {b.str} {roid w.c self (v.bind (readRef w.c))}" }
        | .mv a d =>
          match readRef w.c a, readRef w.c d with
          | some a, some d =>
            (exec sc f (.move a d) (emit w s!"mvb {oid a} {oid d}")).andThen fun w _ =>
              { w := emit w s!"r mv {oid a} {oid d} ok" }
          | _, _ => { w := emit w s!"r mv {oid a} {oid d} !gone" }
        | .mvs a b =>
          match readRef w.c a with
          | some a =>
            (exec sc f (.moveStr a b) (emit w s!"mvsb {oid a} {b.str}")).andThen fun w _ =>
              -- x_mvs returns environment() after the move
              { w := emit w s!"r mvs {oid a} {b.str} ok {roid w.c self ((w.c.objs a).super.bind (readRef w.c))}" }
          | none => { w := emit w s!"r mvs {oid a} {b.str} !gone" }
        | .hbe a =>
          match readRef w.c a with
          | some a => { w := emit (hbAdd w a) s!"r hbe {oid a} ok" }
          | none => { w := emit w s!"r hbe {oid a} !gone" }
        | .hbd a =>
          match readRef w.c a with
          | some a => { w := emit (hbRemove w a) s!"r hbd {oid a} ok" }
          | none => { w := emit w s!"r hbd {oid a} !gone" }
        | .pr e t =>
          -- f_present(string, object): a destructed environment gives 0
          match readRef w.c e with
          | none => { w := emit w s!"r pr {oid e} {oid t} !gone" }
          | some e =>
            (exec sc f (.present e t (w.c.objs e).contains.head?) w).andThen fun w v =>
              { w := emit w s!"r pr {oid e} {oid t} {roid w.c self (v.bind (readRef w.c))}" }
        | .fis b =>
          (exec sc f (.load b true) w).andThen fun w v =>
            match v with
            | none => raise w (errFis b)
            | some d => { w := emit w s!"r fis {b.str} {roid w.c self ((w.c.objs d).contains.head?.bind (readRef w.c))}" }
        | .de a =>
          match readRef w.c a with
          | some a =>
            (exec sc f (.destruct a) (emit w s!"deb {oid a}")).andThen fun w _ =>
              { w := emit w s!"r de {oid a} ok" }
          | none => { w := emit w s!"r de {oid a} !gone" }
        | .ec a =>
          -- enable_commands(1): flag + command_giver = current_object
          match readRef w.c a with
          | some a => { w := emit { w with c := setObj w.c a { w.c.objs a with ec := true }, cg := some a } s!"r ec {oid a} ok" }
          | none => { w := emit w s!"r ec {oid a} !gone" }
        | .dc a =>
          -- enable_commands(0): nothing when not enabled, else flag off + command_giver = 0
          match readRef w.c a with
          | some a =>
            if (w.c.objs a).ec then
              { w := emit { w with c := setObj w.c a { w.c.objs a with ec := false }, cg := none } s!"r dc {oid a} ok" }
            else { w := emit w s!"r dc {oid a} ok" }
          | none => { w := emit w s!"r dc {oid a} !gone" }
        | .ln a s =>
          match readRef w.c a with
          | some a => { w := emit { w with c := setLiving w.c a s } s!"r ln {oid a} {s} ok" }
          | none => { w := emit w s!"r ln {oid a} {s} !gone" }
        | .fo nm =>
          if anyFreed w.c (w.c.ot (hashN nm)) then crashR w "find_obj_n"
          else
            let r := lookupC w.c nm
            { w := emit { w with c := r.1 } s!"r fo {nm.str} {ooid (r.2.bind (readRef r.1))} {if r.2.isSome then 1 else 0}" }
        | .fl s =>
          if anyFreed w.c (w.c.lv (lhash s)) then crashR w "find_living_object"
          else
            let r := findLivingC w.c s
            { w := emit { w with c := r.1 } s!"r fl {s} {ooid (r.2.bind (readRef r.1))} {if r.2.isSome then 1 else 0}" }
        | .aa a verb =>
          -- add_action("act", verb) executed by `a`
          match readRef w.c a with
          | none => { w := emit w s!"r aa {oid a} {verb} !gone" }
          | some a =>
            match w.cg with
            | none => { w := emit w s!"r aa {oid a} {verb} ok" }
            | some g =>
              if ¬ (g < w.c.n) ∨ (w.c.objs g).freed then crashR w "add_action: command_giver"
              else if (w.c.objs g).destructed ∨ ¬ nearCg w.c a g then { w := emit w s!"r aa {oid a} {verb} ok" }
              else
                -- `ob->super` / `command_giver->super` are only compared, not dereferenced
                { w := emit { w with c := addSent w.c g verb a } s!"r aa {oid a} {verb} ok" }
        | .cmd a verb =>
          match readRef w.c a with
          | none => { w := emit w s!"r cmd {oid a} {verb} !gone" }
          | some a =>
            (exec sc f (.command a verb) w).andThen fun w v =>
              { w := emit w s!"r cmd {oid a} {verb} {if v.isSome then 1 else 0}" }
        | .kp a =>
          match readRef w.c a with
          | some a => { w := emit { w with keep := (self, a) :: w.keep } s!"r kp {oid self} {oid a} ok" }
          | none => { w := emit w s!"r kp {oid self} {oid a} !gone" }
        | .rd =>
          -- the same reference read back from a global variable (F_GLOBAL), an array element and a mapping value (F_INDEX)
          let v := (w.keep.find? (fun p => p.1 = self)).bind (fun p => readRef w.c p.2)
          { w := emit w s!"r rd {oid self} {ooid v} {ooid v} {ooid v}" }
        | .err => raise w errBoom
        | .mvarg =>
          match arg.bind (readRef w.c) with
          | some d =>
            (exec sc f (.move self d) (emit w s!"mvb {oid self} {oid d}")).andThen fun w _ =>
              { w := emit w s!"r mv {oid self} {oid d} ok" }
          | none => { w := emit w s!"r mvarg {oid self} 0" }
        | .gh g =>
          -- the object goes on running after its own destruct: set_living_name / enable_commands / add_action /
          -- set_heart_beat all return at once for a destructed current_object, move_object raises an error - a destructed
          -- object must not get back into any registry
          (exec sc f (.destruct self) (emit w s!"deb {oid self}")).andThen fun w _ =>
            let w := emit w s!"r de {oid self} ok"
            if (w.c.objs self).destructed then
              match g with
              | .mv d => if (readRef w.c d).isSome then raise w errMoveDested else { w := emit w s!"r gh {oid self} mv" }
              | _ => { w := emit w s!"r gh {oid self} {g.str}" }
            else
              -- (destruct_object returned without destructing: cannot happen; then the efun runs as for any live object)
              exec sc f (.ops self arg [match g with
                | .ln s => Op.ln self s | .ec => Op.ec self | .aa v => Op.aa self v | .hbe => Op.hbe self | .mv d => Op.mv self d]) w
        | .ret0 => { w := { w with ret0 := self :: w.ret0.filter (· ≠ self) } }
        | .ra a verb =>
          -- remove_action: `ob = command_giver ? command_giver : current_object`; first sentence of ob defined by the
          -- caller with that function and verb; `illegal_sentence_action = 1`
          match readRef w.c a with
          | none => { w := emit w s!"r ra {oid a} {verb} !gone" }
          | some a =>
            let g := w.cg.getD a
            if ¬ (g < w.c.n) ∨ (w.c.objs g).freed then crashR w "remove_action: command_giver"
            else if (w.c.objs g).sent.any (fun t => t.2 == a && t.1 == verb) then
              { w := emit { w with c := mapSent w.c (fun u o => if u = g then eraseFirst (fun t => t.2 == a && t.1 == verb) o.sent else o.sent),
                                   isa := 1 } s!"r ra {oid a} {verb} 1" }
            else { w := emit w s!"r ra {oid a} {verb} 0" }
        | .obf =>
          -- f_objects with a filter (since the `fix:` commit): obj_list is collected first - no LPC code runs -, then
          -- the filter is asked about every collected object that is still alive, then the accepted ones that were
          -- destructed by later calls are dropped
          if anyFreed w.c w.c.ol then crashR w "f_objects"
          else
            (exec sc f (.objloop self w.c.ol []) (emit w s!"obfb {oid self} {liveIds w.c}")).andThen fun w v =>
              if (w.c.objs self).destructed then { w := emit w s!"r obf {oid self} ? ?" }
              else { w := emit w s!"r obf {oid self} {if v.isSome then listStr w.res else "!0"} {liveIds w.c}" }
        | .ct o =>
          -- catch (o): save_context() remembers command_giver and restrict_destruct; a caught error restores both
          let r := exec sc f (.ops self arg [o]) (emit { w with catching := w.catching + 1 } s!"ctb {oid self}")
          match r.out with
          | .ok => { w := emit { r.w with catching := w.catching } s!"r ct {oid self} 0" }
          | .err => { w := emit { r.w with catching := w.catching, cg := w.cg, restrict := w.restrict, ldepth := w.ldepth } s!"r ct {oid self} 1" }
          | _ => r
        | .nop => { w := w }
      r.andThen fun w _ =>
        -- a script stops when the object executing it has been destructed
        if (w.c.objs self).destructed then { w := w } else exec sc f (.ops self arg rest) w
    | .hook x k arg =>
      -- a destructed object is never entered: every modelled call site tests O_DESTRUCTED before it applies (apply_low
      -- itself has the test only under LAZY_RESETS)
      if ¬ (x < w.c.n) ∨ (w.c.objs x).freed then crashR w "apply"
      else if (w.c.objs x).destructed then { w := w }
      else
        let n := firedCount w x k
        let w := { w with fired := (x, k) :: w.fired }
        -- ghost: init() is only ever exchanged between adjacent objects
        let w := match k, arg with
          | .init, some y => { w with initBad := w.initBad || !adjacent w.c x y }
          | _, _ => w
        -- `act_ret = 1;` at the start of the action function
        let w := match k with
          | .act => { w with ret0 := w.ret0.filter (· ≠ x) }
          | _ => w
        let w := match k with
          | .create => emit w s!"new {oid x} {(w.c.objs x).name.str}"
          | _ => emit w s!"hb {oid x} {k.str} {ooid arg}"
        -- only move_or_destruct(dest) hands its argument to the script
        (exec sc f (.ops x (if k = .mod then arg else none) (sc x k n)) w).andThen fun w _ =>
          { w := emit w s!"he {oid x} {k.str}" }
    | .load b strict =>
      -- `if (!(ob = lookup_object_hash (name))) ob = load_object (name, 0);` - the three sites of this pattern are
      -- find_or_load_object (strict: a destructed result is 0), the load of an inherited program and the re-lookup
      -- after it (both inside load_object)
      let nm : Name := { base := b, num := none }
      if anyFreed w.c (w.c.ot (hashN nm)) then crashR w "find_obj_n"
      else
        let r := lookupC w.c nm
        let w := { w with c := r.1 }
        match r.2 with
        | some i => { w := w, val := some i }
        | none =>
          -- load_object (name): `if (++num_objects_this_thread > __INHERIT_CHAIN_SIZE__) error`
          let saveCg := w.cg
          let w := { w with ldepth := w.ldepth + 1 }
          -- (a C `int`: clone_object clears it in the middle of nested loads, the loads then count it below zero)
          if w.ldepth > (inheritChainSize : Int) then raise w (errChain b)
          else
            -- the program: either a final result (no file, compile error, the inherit detour) or "compiled in state w"
            let ph : R ⊕ World :=
              match b with
              | .nofile => .inl { w := { w with ldepth := w.ldepth - 1 }, val := none }
              | .badfile => .inl (raise w errBadFile)
              | .ih k =>
                -- grammar.y `inherit`: find_object_by_name (inherited file); not loaded: inherit_file is set, the
                -- compilation is abandoned, the inherited object is loaded (its create() runs), then - "it is possible
                -- that when we loaded the inherited object, it loaded this object from it's create function" - the
                -- name is looked up AGAIN and only on a miss the object is loaded again
                let inh : Name := { base := .bp k, num := none }
                if anyFreed w.c (w.c.ot (hashN inh)) then .inl (crashR w "find_obj_n")
                else
                  let rb := lookupC w.c inh
                  let w := { w with c := rb.1 }
                  match rb.2 with
                  | some _ => .inr w
                  | none =>
                    .inl ((exec sc f (.load (.bp k) false) w).andThen fun w v =>
                      match v with
                      | none => raise w (errNoInherit k)
                      | some _ =>
                        (exec sc f (.load b false) w).andThen fun w v =>
                          { w := { w with ldepth := w.ldepth - 1 }, val := v })
              | _ => .inr w
            let body : R :=
              match ph with
              | .inl r => r
              | .inr w =>
                let a := alloc w.c nm false
                (exec sc f (.hook a.2 .create none) { w with c := a.1 }).andThen fun w _ =>
                  { w := { w with cg := saveCg, ldepth := w.ldepth - 1 }, val := some a.2 }
            body.andThen fun w v =>
              -- find_or_load_object: `if (!ob || (ob->flags & O_DESTRUCTED)) return 0`
              match v with
              | none => { w := w, val := none }
              | some ob => if strict ∧ (w.c.objs ob).destructed then { w := w, val := none } else { w := w, val := some ob }
    | .clone b =>
      let saveCg := w.cg
      -- older sources executed `num_objects_this_thread = 0;` here (which let the enclosing loads count the depth below
      -- zero); whether the statement is there is regenerated from the source, the model follows the code that exists
      (exec sc f (.load b true) { w with ldepth := if NV.Gen.C08.cloneClearsDepth then 0 else w.ldepth }).andThen fun w v =>
        match v with
        | none => { w := w, val := none }
        | some ob =>
          if ¬ (ob < w.c.n) ∨ (w.c.objs ob).freed then crashR w "clone_object"
          else if (w.c.objs ob).clone then raise w NV.Gen.C08.errCloneCloneSrc
          else
            -- "We do not want the heart beat to be running for unused copied objects"
            let w := hbRemove w ob
            let nm : Name := { base := (w.c.objs ob).name.base, num := some w.c.ctr }
            let a := alloc { w.c with ctr := w.c.ctr + 1 } nm true
            let w := { w with c := a.1 }
            (exec sc f (.hook a.2 .create none) w).andThen fun w _ =>
              let w := { w with cg := saveCg }
              if (w.c.objs a.2).destructed then { w := w, val := none } else { w := w, val := some a.2 }
    | .move item dest =>
      if ¬ (item < w.c.n ∧ dest < w.c.n) ∨ (w.c.objs item).freed then crashR w "move_object: not an object"
      else if (w.c.objs item).destructed then raise w errMoveDested
      else
        match superWalk w.c item (w.c.n + 1) (some dest) with
        | .freed => crashR w "move_object super walk"
        | .loop => hangR w "move_object super walk"
        | .hit => raise w errInside
        | .clear =>
          if (w.c.objs dest).destructed then raise w errDestDest
          else
            let oldInv := match (w.c.objs item).super with
              | none => []
              | some s => s :: (w.c.objs s).contains
            if anyFreed w.c oldInv then crashR w "move_object unlink"
            else
              let saveCg := w.cg
              let w0 := { w with c := relink (unsentMove w.c item) item dest,
                                 isa := if sentChanged w.c (unsentMove w.c item) then 2 else w.isa }
              let r : R :=
                if (w0.c.objs item).ec then exec sc f (.hook dest .init (some item)) { w0 with cg := some item }
                else { w := w0 }
              r.andThen fun w1 _ =>
                if (w0.c.objs item).ec ∧ ((w1.c.objs dest).destructed ∨ (w1.c.objs item).super ≠ some dest) then
                  { w := { w1 with cg := saveCg } }
                else exec sc f (.fan item dest (w1.c.objs dest).contains.head? saveCg) w1
    | .moveStr item b =>
      -- f_move_object: the destination is resolved (and loaded: its create() runs) FIRST, then current_object is
      -- tested for O_DESTRUCTED (the first thing `.move` does), then move_object()
      (exec sc f (.load b true) w).andThen fun w v =>
        match v with
        | none => raise w errNoDest
        | some d => exec sc f (.move item d) w
    | .fan item dest cur saveCg =>
      match cur with
      | none =>
        if (w.c.objs dest).destructed then raise w errDestGone
        else
          let r : R :=
            if (w.c.objs dest).ec then exec sc f (.hook item .init (some dest)) { w with cg := some dest } else { w := w }
          r.andThen fun w _ => { w := { w with cg := saveCg } }
      | some ob =>
        if ¬ (ob < w.c.n) ∨ (w.c.objs ob).freed then crashR w "move_object fan-out"
        else
          let next := nextInv w.c ob
          if ob = item then exec sc f (.fan item dest next saveCg) w
          else if (w.c.objs ob).destructed then raise w errInitDested
          -- fix: C08-F2 - an init() moved the saved next object out of dest: stop the fan-out
          else if (w.c.objs ob).super ≠ some dest then exec sc f (.fan item dest none saveCg) w
          else
            let r1 : R :=
              if (w.c.objs ob).ec then exec sc f (.hook item .init (some ob)) { w with cg := some ob } else { w := w }
            r1.andThen fun w1 _ =>
              if (w.c.objs ob).ec ∧ (w1.c.objs item).super ≠ some dest then { w := { w1 with cg := saveCg } }
              else if (w1.c.objs item).destructed then raise w1 errItemDested
              -- fix: C08-F2 - ob left during the call above: no init() between rooms
              else if (w1.c.objs ob).super ≠ some dest then exec sc f (.fan item dest next saveCg) w1
              else
                let r2 : R :=
                  if (w1.c.objs item).ec then exec sc f (.hook ob .init (some item)) { w1 with cg := some item }
                  else { w := w1 }
                r2.andThen fun w2 _ =>
                  if (w1.c.objs item).ec ∧ (w2.c.objs item).super ≠ some dest then { w := { w2 with cg := saveCg } }
                  else exec sc f (.fan item dest next saveCg) w2
    | .present env tgt cur =>
      match cur with
      | none => { w := w, val := none }
      | some ob =>
        if ¬ (ob < w.c.n) ∨ (w.c.objs ob).freed then crashR w "object_present2"
        else
          (exec sc f (.hook ob .id none) w).andThen fun w1 _ =>
            if (w1.c.objs ob).destructed then { w := w1, val := none }
            -- fix: C08-F3 - id() moved ob out of the searched inventory
            else if (w1.c.objs ob).super ≠ some env then { w := w1, val := none }
            else if ob = tgt then { w := w1, val := some ob }
            else exec sc f (.present env tgt (nextInv w1.c ob)) w1
    | .command a verb =>
      -- command_for_object / process_command / user_parser (the action functions of the harness return 1)
      if ¬ (a < w.c.n) ∨ (w.c.objs a).freed then crashR w "command: not an object"
      else if (w.c.objs a).destructed then { w := w, val := none }
      else
        let saveCg := w.cg
        if ¬ (w.c.objs a).ec then { w := w, val := none }
        else
          -- process_command: command_giver = a; user_parser: `illegal_sentence_action` saved and cleared, the loop
          -- over the sentences, restored by the exits of the loop; command_for_object restores command_giver
          (exec sc f (.cmdloop a verb (w.c.objs a).sent w.isa) { w with cg := some a, isa := 0 }).andThen fun w v =>
            { w := { w with cg := saveCg }, val := v }
    | .cmdloop a verb rest saveIsa =>
      match rest with
      | [] => { w := { w with isa := saveIsa }, val := none }     -- notify_no_command ()
      | t :: rest =>
        -- sentences hold a reference to their object: the structure is never released while listed
        if ¬ (decide (t.2 < w.c.n) && !(w.c.objs t.2).destructed && t.1 == verb) then exec sc f (.cmdloop a verb rest saveIsa) w
        else
          (exec sc f (.hook t.2 .act (some a)) w).andThen fun w _ =>
            -- `command_giver = save_command_giver;`
            let w := { w with cg := some a }
            let ret := !(w.ret0.contains t.2)
            -- fix: the action destructed the command giver (its sentence list is freed): stop parsing
            if ¬ (a < w.c.n) ∨ (w.c.objs a).destructed then
              { w := { w with isa := saveIsa }, val := if ret then some a else none }
            else if ret then { w := { w with isa := if w.isa = 0 then saveIsa else w.isa }, val := some a }
            else if w.isa = 1 then raise w errIsa1
            else if w.isa = 2 then raise w errIsa2
            -- no sentence was removed meanwhile: `s->next` is the rest of the list as it was
            else exec sc f (.cmdloop a verb rest saveIsa) w
    | .destruct ob =>
      if restricted w ob then raise w errRestrict
      else if ¬ (ob < w.c.n) ∨ (w.c.objs ob).freed then crashR w "destruct_object: not an object"
      else if (w.c.objs ob).destructed then { w := w }
      else exec sc f (.dloop ob (w.c.objs ob).super w.restrict) w
    | .dloop ob sup0 saveR =>
      match (w.c.objs ob).contains with
      | [] =>
        -- unlink, unregister, mark
        let inv := match (w.c.objs ob).super with
          | none => []
          | some s => s :: (w.c.objs s).contains
        let nm := (w.c.objs ob).name
        -- the unlink block relies on `ob` being a live object (checked by the callers, re-checked after every hook)
        if ¬ (ob < w.c.n ∧ (w.c.objs ob).destructed = false) then crashR w "destruct_object: unlink of a destructed object"
        else if anyFreed w.c inv ∨ anyFreed w.c (w.c.ot (hashN nm)) ∨ anyFreed w.c w.c.ol
            ∨ anyFreed w.c (match (w.c.objs ob).living with | none => [] | some s => w.c.lv (lhash s)) then
          crashR w "destruct_object unlink"
        else
          -- (set_heart_beat(ob, 0) runs just before O_DESTRUCTED is set)
          let w := hbRemove w ob
          { w := { w with c := finishDestruct (unsentDestruct w.c ob) ob,
                          isa := if sentChanged w.c (unsentDestruct w.c ob) then 2 else w.isa } }
      | otmp :: _ =>
        if ¬ (otmp < w.c.n) ∨ (w.c.objs otmp).freed then crashR w "destruct_object contains"
        else
          let arg := match sup0 with
            | none => none
            | some s => if (w.c.objs s).destructed then none else some s
          if (match sup0 with | none => false | some s => decide (¬ (s < w.c.n)) || (w.c.objs s).freed) then crashR w "destruct_object super"
          else
            let w := { w with restrict := some otmp }
            (exec sc f (.hook otmp .mod arg) w).andThen fun w _ =>
              let w := { w with restrict := saveR }
              if (w.c.objs ob).destructed then { w := w }
              else
                let r : R :=
                  if (w.c.objs ob).contains.head? = some otmp then exec sc f (.destruct otmp) w else { w := w }
                r.andThen fun w _ =>
                  -- fix: C08-F1 - re-check after the nested destruct_object
                  if (w.c.objs ob).destructed then { w := w }
                  else exec sc f (.dloop ob sup0 saveR) w
    | .objloop self rest acc =>
      match rest with
      | [] =>
        -- "objects accepted earlier can have been destructed by a later call of the filter"
        { w := { w with res := acc.reverse.filter (fun i => !(w.c.objs i).destructed) }, val := some self }
      | ob :: rest =>
        if ¬ (ob < w.c.n) ∨ (w.c.objs ob).freed then crashR w "f_objects"
        else if (w.c.objs ob).destructed then exec sc f (.objloop self rest acc) w
        else if ¬ (self < w.c.n) ∨ (w.c.objs self).freed then crashR w "f_objects: current_object"
        -- apply () itself does not refuse a destructed object; since the second `fix:` commit of this efun the calling
        -- object is tested before every call of its filter, as call_efun_callback() does
        else if (w.c.objs self).destructed then raise w errEfunCb
        else
          (exec sc f (.hook self .ofilt (some ob)) w).andThen fun w _ =>
            exec sc f (.objloop self rest (ob :: acc)) w

/-! ## top level -/

def Core.init : Core :=
  let c0 : Core := { n := 0, objs := fun _ => { name := { base := .nofile, num := none } },
                     ot := fun _ => [], ol := [], dl := [], lv := fun _ => [], ctr := 1 }
  let a := alloc c0 { base := .simul, num := none } false
  (alloc a.1 { base := .master, num := none } false).1

def World.init : World := { c := Core.init }

/-- fuel given to one top-level command (the generated scripts are finite; see notes) -/
def topFuel : Nat := 100000

def lnStr : Option String → String
  | none => "0"
  | some s => s

def sentStr (l : List (String × Nat)) : String :=
  if l.isEmpty then "-" else ";".intercalate (l.map fun t => s!"{t.1}:{oid t.2}")

/-- canonical dump of the structures (harness: walker over the real ones) -/
def snapLines (c : Core) : List String :=
  let objLines := (List.range c.n).map fun i =>
    let o := c.objs i
    if o.destructed then
      s!"S {oid i} D{if o.super.isSome then " super" else ""}{if o.contains.isEmpty then "" else " contains"}{if o.ec then " ec" else ""}{if o.living.isSome then " living" else ""}{if o.sent.isEmpty then "" else " sent"}"
    else
      s!"S {oid i} {o.name.str} env={ooid o.super} inv={joinIds o.contains} ec={if o.ec then 1 else 0} cl={if o.clone then 1 else 0} ln={lnStr o.living} sent={sentStr o.sent}"
  let otLines := ((List.range otSize).filter (fun h => !(c.ot h).isEmpty)).map fun h => s!"S ot {h} {joinIds (c.ot h)}"
  let lvLines := ((List.range lvSize).filter (fun h => !(c.lv h).isEmpty)).map fun h => s!"S lv {h} {joinIds (c.lv h)}"
  objLines ++ otLines ++ [s!"S ol {joinIds c.ol}", s!"S dl {joinIds c.dl}"] ++ lvLines

/-- first_inventory / next_inventory walk -/
def invWalk (c : Core) : Nat → Option Nat → List Nat
  | 0, _ => []
  | _, none => []
  | f + 1, some i => i :: invWalk c f (nextInv c i)

/-- the LPC-visible view (harness: master->probe()): for every registered object, in id order,
    find_object(name), environment, all_inventory, first/next_inventory walk, find_living; then objects(), livings() -/
def probe (w : World) : World :=
  let ids := (List.range w.c.n).drop 2
  let w := ids.foldl (fun w i =>
    let o := w.c.objs i
    let r := lookupC w.c o.name
    let w := { w with c := r.1 }
    let found := s!"{ooid (r.2.bind (readRef w.c))}/{if r.2.isSome then 1 else 0}"
    if o.destructed then emit w s!"P {oid i} ref=0 find={found}"
    else
      let fl := match o.living with
        | none => (w, "-")
        | some s =>
          let r := findLivingC w.c s
          ({ w with c := r.1 }, ooid (r.2.bind (readRef r.1)))
      let w := fl.1
      let o := w.c.objs i
      emit w s!"P {oid i} ref={oid i} find={found} env={ooid (o.super.bind (readRef w.c))} inv={joinIds (o.contains.filterMap (readRef w.c))} walk={joinIds (invWalk w.c (w.c.n + 1) o.contains.head?)} fl={fl.2}") w
  let w := emit w s!"P objects {joinIds (sortIds (w.c.ol.filter (· ≥ 2)))}"
  let w := emit w s!"P livings {joinIds (sortIds ((w.c.ol.filter (fun i => (w.c.objs i).ec)).filter (· ≥ 2)))}"
  emit w s!"P heartbeats {joinIds (sortIds (w.hbl.filter (· ≥ 2)))}"

/-- one timer tick (call_heart_beat, heart beats only): the round over the heart-beat array as coded -
    `num_hb_to_do = num_hb_objs; heart_beat_index = 0; do { call heart_beat() of heart_beats[index] }
    while (++heart_beat_index != num_hb_to_do)`; every removal inside adjusts both counters (`hbRemove`).
    heart_beat() is entered with call_function (no O_DESTRUCTED test): a stale slot would be *called*. -/
def hbRound (sc : Scripts) : Nat → World → R
  | 0, w => { w := w }
  | fuel + 1, w =>
    match w.hbl[w.hbIdx.toNat]? with
    | none => { w := emit w s!"hb-stale-slot {w.hbIdx}" }
    | some ob =>
      -- the list only ever holds valid objects (C11); an invalid entry is reported, not entered
      if ¬ (ob < w.c.n ∧ (w.c.objs ob).freed = false ∧ (w.c.objs ob).destructed = false) then
        { w := emit w s!"hb-stale-object {oid ob}" }
      else
        let w := { w with cg := if (w.c.objs ob).ec then some ob else none, curHb := some ob }
        (exec sc topFuel (.hook ob .hbeat none) w).andThen fun w _ =>
          let w := { w with cg := none, hbIdx := w.hbIdx + 1 }
          if w.hbIdx = (w.hbTodo : Int) then { w := w } else hbRound sc fuel w

def tick (sc : Scripts) (w : World) : World :=
  let w0 := { w with hbTodo := w.hbl.length }
  if w0.hbTodo = 0 then w0
  else
    let r := hbRound sc (w.hbl.length + 1000) { w0 with hbIdx := 0 }
    match r.out with
    | .ok => { r.w with hbIdx := 0, hbTodo := 0, curHb := none }
    -- an error abandons the round (backend()'s recovery point); restore_context() restores command_giver
    | .err => emit { r.w with cg := w.cg, ldepth := w.ldepth } "r tick !err"
    | _ => r.w

inductive Cmd where
  | tick                 -- one timer tick (verif_tick)
  | top (op : Op)        -- master->do_op(op)
  | snap
  | probe
  | gc
  deriving Repr

def stepCmd (sc : Scripts) (w : World) : Cmd → World
  | .top op =>
    -- the harness applies master->top(op); (the reload of a destructed master is not modelled: such a history is cut)
    if ¬ (1 < w.c.n ∧ (w.c.objs 1).destructed = false) then emit w "r top !nomaster" else
    let r := exec sc topFuel (.ops 1 none [op]) w
    match r.out with
    | .ok => r.w
    -- restore_context() puts command_giver back to its value at save_context()
    | .err => emit { r.w with cg := w.cg, ldepth := w.ldepth } "r top !err"
    | _ => r.w
  | .tick => tick sc w
  | .snap => { w with out := (snapLines w.c).reverse ++ w.out }
  | .probe => probe w
  -- the harness clears command_giver as backend()'s clear_state does before remove_destructed_objects()
  | .gc => { w with c := gc w.c, cg := none }

def runCmds (sc : Scripts) (w : World) (cs : List Cmd) : World := cs.foldl (stepCmd sc) w

end NV.C08
