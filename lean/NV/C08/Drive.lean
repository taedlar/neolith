/-
C08 driver: parses the case lines that the harness executes against the real driver and runs the model
(`model` mode) or the specification oracle on an implementation trace (`judge` mode).

Case lines (shared with harness/c08/c08.c):
  script o<k> create|init|mod|act|id|hbeat|ofilt <op>;<op>;...   the n-th such line is the script of the n-th invocation of that hook of
                                              object k; all script lines come before the first command
  t <op>                                      master->do_op(op)   (top level)
  snap | probe | gc | tick
op syntax (comma separated):  ld,<file> | cl,<file> | mv,o<a>,o<d> | mvs,o<a>,<file> | fis,<file> | pr,o<env>,o<t> | hbe,o<a> | hbd,o<a> | de,o<a> | ec,o<a> | dc,o<a> | ln,o<a>,<name> |
  fo,<file>[#<n>] | fl,<name> | aa,o<a>,<verb> | cmd,o<a>,<verb> | kp,o<a> | rd | err | mvarg | nop | obf | ret0 | ra,o<a>,<verb> |
  gh,ln,<name> | gh,ec | gh,aa,<verb> | gh,hbe | gh,mv,o<d> | ct,<op>          <file> ::= b<k> | i<k> | nx | bad | master
-/
import NV.Common.Proto
import NV.C08.Model
import NV.C08.Spec

namespace NV.C08

open NV.Proto

def parseOid (s : String) : Option Nat :=
  if s.startsWith "o" then (s.drop 1).toString.toNat? else none

def parseBase (s : String) : Option Base :=
  if s == "nx" then some .nofile
  else if s == "bad" then some .badfile
  else if s == "master" then some .master
  else if s.startsWith "b" then (s.drop 1).toString.toNat?.map .bp
  else if s.startsWith "i" then (s.drop 1).toString.toNat?.map .ih
  else none

def parseName (s : String) : Option Name :=
  match s.splitOn "#" with
  | [b] => (parseBase b).map fun b => { base := b, num := none }
  | [b, k] => do some { base := (← parseBase b), num := some (← k.toNat?) }
  | _ => none

def parseOp1 (s : String) : Option Op :=
  match s.splitOn "," with
  | ["ld", b] => (parseBase b).map .ld
  | ["cl", b] => (parseBase b).map .cl
  | ["mv", a, d] => do some (.mv (← parseOid a) (← parseOid d))
  | ["mvs", a, b] => do some (.mvs (← parseOid a) (← parseBase b))
  | ["fis", b] => (parseBase b).map .fis
  | ["hbe", a] => (parseOid a).map .hbe
  | ["hbd", a] => (parseOid a).map .hbd
  | ["pr", e, t] => do some (.pr (← parseOid e) (← parseOid t))
  | ["de", a] => (parseOid a).map .de
  | ["ec", a] => (parseOid a).map .ec
  | ["dc", a] => (parseOid a).map .dc
  | ["ln", a, n] => (parseOid a).map (.ln · n)
  | ["fo", n] => (parseName n).map .fo
  | ["fl", n] => some (.fl n)
  | ["aa", a, v] => (parseOid a).map (.aa · v)
  | ["cmd", a, v] => (parseOid a).map (.cmd · v)
  | ["kp", a] => (parseOid a).map .kp
  | ["rd"] => some .rd
  | ["err"] => some .err
  | ["mvarg"] => some .mvarg
  | ["nop"] => some .nop
  | ["obf"] => some .obf
  | ["ret0"] => some .ret0
  | ["gh", "ln", s] => some (.gh (.ln s))
  | ["gh", "ec"] => some (.gh .ec)
  | ["gh", "aa", v] => some (.gh (.aa v))
  | ["gh", "hbe"] => some (.gh .hbe)
  | ["gh", "mv", d] => (parseOid d).map (fun d => .gh (.mv d))
  | ["ra", a, v] => (parseOid a).map (.ra · v)
  | _ => none

/-- `ct,<op>` = catch (<op>) (one level) -/
def parseOp (s : String) : Option Op :=
  if s.startsWith "ct," then (parseOp1 (s.drop 3).toString).map .ct else parseOp1 s

def parseHook (s : String) : Option Hook :=
  if s == "create" then some .create else if s == "init" then some .init else if s == "mod" then some .mod
  else if s == "act" then some .act else if s == "id" then some .id else if s == "hbeat" then some .hbeat
  else if s == "ofilt" then some .ofilt else none

structure Parsed where
  scripts : List ((Nat × Hook) × List Op) := []      -- in file order
  cmds : List Cmd := []
  bad : List String := []

def parseLine (p : Parsed) (line : String) : Parsed :=
  match toks line with
  | [] => p
  | ["script", o, h, ops] =>
    match parseOid o, parseHook h with
    | some k, some hk =>
      let parsed := (ops.splitOn ";").map parseOp
      if parsed.all Option.isSome && p.cmds.isEmpty then { p with scripts := p.scripts ++ [((k, hk), parsed.filterMap id)] }
      else { p with bad := line :: p.bad }
    | _, _ => { p with bad := line :: p.bad }
  | ["t", op] =>
    match parseOp op with
    | some op => { p with cmds := Cmd.top op :: p.cmds }
    | none => { p with bad := line :: p.bad }
  | ["snap"] => { p with cmds := Cmd.snap :: p.cmds }
  | ["tick"] => { p with cmds := Cmd.tick :: p.cmds }
  | ["probe"] => { p with cmds := Cmd.probe :: p.cmds }
  | ["gc"] => { p with cmds := Cmd.gc :: p.cmds }
  | _ => if line.startsWith "#" then p else { p with bad := line :: p.bad }

def parseCase (lines : List String) : Parsed :=
  let p := lines.foldl parseLine {}
  { p with cmds := p.cmds.reverse }

def scriptsOf (p : Parsed) : Scripts := fun o h n =>
  match (p.scripts.filter (fun e => e.1.1 = o ∧ e.1.2 = h))[n]? with
  | some e => e.2
  | none => []

def runModel (lines : List String) : List String :=
  let p := parseCase lines
  if !p.bad.isEmpty then p.bad.map (fun l => s!"bad-line {l}")
  else (runCmds (scriptsOf p) World.init p.cmds).out.reverse

def runJudge (body : List String) : List String :=
  let (_input, impl) := splitJudge body
  match judge impl with
  | [] => ["ok"]
  | vs => vs.map (fun v => s!"bad {v}")

def main (mode : String) : IO Unit :=
  match mode with
  | "model" => serve runModel
  | "judge" => serve runJudge
  | _ => IO.eprintln s!"C08: unknown mode {mode}"

end NV.C08
