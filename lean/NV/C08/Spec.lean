/-
C08 — specification oracle ("judge"): decides, for a trace of observable events (the canonical output lines of either
the model or the real driver), whether property C08 held on it:

  looking up a name yields exactly the live object carrying it; every object is in at most one inventory and the
  inventories form a forest that agrees with each object's environment; a destructed object is never found, listed,
  called, moved into or given commands; every reference to a destructed object reads as 0.

The judge knows nothing about hash chains, cursors or the order of unlinking.  It keeps
  * the set of objects that are *definitely* destructed (`r de .. ok`, or shown destructed by a snapshot/probe),
  * the environment each object was last moved into (every relocation by move_object is announced by `mvb`),
  * the stack of open move / destruct / hook / catch / objects(filter) frames (an uncaught LPC error unwinds all of them,
    a caught one unwinds to the innermost catch frame),
  * the last snapshot (`S` lines = the walker's view of the real structures), against which the LPC-visible probe
    (`P` lines) is checked when no step happened in between.
Violations start with a kind word (used for shrinking).
-/
import NV.Common.Proto

namespace NV.C08

open NV.Proto

def jOid (s : String) : Option Nat :=
  if s.startsWith "o" then (s.drop 1).toString.toNat? else none

/-- comma separated oid list ("" = empty); unknown tokens become 0 (never a valid harness id) -/
def jIds (s : String) : List Nat :=
  if s == "" then [] else (s.splitOn ",").map (fun t => (jOid t).getD 0)

/-- value of `key=` in a token list -/
def kv (ts : List String) (key : String) : Option String :=
  (ts.find? (fun t => t.startsWith (key ++ "="))).map (fun t => (t.drop (key.length + 1)).toString)

/-- one live object as shown by a snapshot -/
structure SObj where
  id : Nat
  name : String
  env : Option Nat
  inv : List Nat
  ec : Bool
  ln : Option String
  deriving Repr

inductive Frame where
  | move (a d : Nat)
  | moveS (a : Nat)        -- move_object(string): the destination object is not known before the move reports back
  | hook (x : Nat)
  | dest (a : Nat)
  | catch                  -- an open catch(): a caught error unwinds the frames above it
  | obf (before : List Nat) -- a running objects(filter); `before` = objects() just before the call
  deriving Repr, BEq

structure JState where
  dead : List Nat := []                    -- definitely destructed
  envOf : List (Nat × Option Nat) := []    -- last relocation announced for an object (newest first)
  frames : List Frame := []
  pending : Option (Nat × Nat) := none     -- `mvb a d` seen, outcome not yet known
  -- snapshot being collected / last complete snapshot
  sLive : List SObj := []
  sDead : List Nat := []
  sOt : List Nat := []
  sOl : List Nat := []
  sDl : List Nat := []
  sLv : List Nat := []
  sOpen : Bool := false                    -- S lines are arriving
  sFresh : Bool := false                   -- a complete snapshot describes the current state
  bad : List String := []                  -- newest first

def JState.flag (s : JState) (v : String) : JState := { s with bad := v :: s.bad }

def isDead (s : JState) (i : Nat) : Bool := s.dead.contains i

def markDead (s : JState) (i : Nat) : JState := if isDead s i then s else { s with dead := i :: s.dead }

def envKnown (s : JState) (i : Nat) : Option (Option Nat) := (s.envOf.find? (fun p => p.1 == i)).map (·.2)

/-- sentinel: the object was moved to a destination named by a string; which object that is, is only known when the
    move reports back -/
def unkEnv : Nat := 1000000000

/-- `i` is known (or possibly, when unknown) to be in `d` -/
def envIs (s : JState) (i d : Nat) : Bool :=
  match envKnown s i with
  | some (some e) => e == d || e == unkEnv
  | _ => false

/-- somewhere up the announced environments of `d` there is an unknown one -/
def envUnknownAbove (s : JState) : Nat → Nat → Bool
  | 0, _ => false
  | f + 1, d =>
    d == unkEnv || (match envKnown s d with
      | some (some e) => envUnknownAbove s f e
      | _ => false)

/-- `d` is `a` or lies inside `a` according to the announced relocations -/
def insideKnown (s : JState) (a : Nat) : Nat → Nat → Bool
  | 0, _ => false
  | f + 1, d =>
    d == a || (match envKnown s d with
      | some (some e) => insideKnown s a f e
      | _ => false)

def count (l : List Nat) (x : Nat) : Nat := (l.filter (· == x)).length

def hasDup (l : List Nat) : Bool := l.any (fun x => count l x > 1)

def sFind (s : JState) (i : Nat) : Option SObj := s.sLive.find? (fun o => o.id == i)

/-- no environment cycle through `i` in the snapshot -/
def envAcyclic (s : JState) : Nat → Nat → Bool
  | 0, _ => false
  | f + 1, i =>
    match sFind s i with
    | none => true
    | some o => match o.env with
      | none => true
      | some e => envAcyclic s f e

/-- checks on a complete snapshot (the spec-level reading of the real structures) -/
def checkSnapshot (s : JState) : JState :=
  let live := s.sLive.map (·.id)
  let s := s.sLive.foldl (fun s o =>
    let s := if isDead s o.id then s.flag s!"resurrected {o.id} destructed earlier, live in snapshot" else s
    let s := if (s.sLive.filter (fun p => p.name == o.name)).length > 1 then s.flag s!"name-not-unique {o.name}" else s
    let s := match o.env with
      | none => s
      | some e =>
        match sFind s e with
        | none => s.flag s!"env-not-live o{o.id} env=o{e}"
        | some eo => if count eo.inv o.id == 1 then s else s.flag s!"env-inventory-disagree o{o.id} env=o{e} not listed once in its inventory"
    let s := if hasDup o.inv then s.flag s!"inventory-duplicate o{o.id}" else s
    let s := o.inv.foldl (fun s m =>
      match sFind s m with
      | none => s.flag s!"inventory-has-non-live o{o.id} member=o{m}"
      | some mo => if mo.env == some o.id then s else s.flag s!"env-inventory-disagree o{m} listed in o{o.id} but its environment differs") s
    let s := if (s.sLive.filter (fun p => p.inv.contains o.id)).length > 1 then s.flag s!"in-two-inventories o{o.id}" else s
    let s := if envAcyclic s (s.sLive.length + 1) o.id then s else s.flag s!"env-cycle o{o.id}"
    let s := if count s.sOt o.id == 1 then s else s.flag s!"name-table-miss o{o.id} listed {count s.sOt o.id} times"
    let s := if count s.sOl o.id == 1 then s else s.flag s!"object-list-miss o{o.id} listed {count s.sOl o.id} times"
    let s := match o.ln with
      | none => if count s.sLv o.id == 0 then s else s.flag s!"living-table-extra o{o.id}"
      | some _ => if count s.sLv o.id == 1 then s else s.flag s!"living-table-miss o{o.id}"
    s) s
  let s := (s.sOt ++ s.sOl ++ s.sLv).foldl (fun s i =>
    if live.contains i then s else s.flag s!"destructed-registered o{i} in a registry but not live") s
  let s := s.sDl.foldl (fun s i => if live.contains i then s.flag s!"live-on-destruct-list o{i}" else s) s
  let s := if hasDup s.sDl then s.flag "destruct-list-duplicate" else s
  s.sDead.foldl markDead s

def closeSnapshot (s : JState) : JState :=
  if s.sOpen then { checkSnapshot s with sOpen := false, sFresh := true } else s

/-- an object value that must not be a destructed object -/
def useLive (s : JState) (what line : String) (i : Option Nat) : JState :=
  match i with
  | some i => if isDead s i then s.flag s!"destructed-visible {what} o{i}: {line}" else s
  | none => s

def optOid (t : String) : Option Nat := jOid t

/-- resolve a pending `mvb`: the move took place -/
def commitMove (s : JState) : JState :=
  match s.pending with
  | none => s
  | some (a, d) =>
    let s := { s with pending := none }
    let s := if isDead s a then s.flag s!"destructed-moved o{a}" else s
    let s := if isDead s d then s.flag s!"moved-into-destructed o{a} into o{d}" else s
    let s := if insideKnown s a 10000 d then s.flag s!"move-into-own-inventory-accepted o{a} into o{d}" else s
    { s with envOf := (a, some d) :: s.envOf, frames := Frame.move a d :: s.frames }

def stepEvent (s : JState) : JState := { s with sFresh := false }

def isCatch : Frame → Bool
  | .catch => true
  | _ => false

/-- id list printed by the harness: `-` = empty -/
def jIdsDash (s : String) : List Nat := if s == "-" then [] else jIds s

def judgeLine (s0 : JState) (line : String) : JState :=
  let ts := toks line
  -- snapshot lines are collected; anything else closes an open snapshot
  match ts with
  | "S" :: rest =>
    let s := if s0.sOpen then s0 else
      { s0 with sOpen := true, sFresh := false, sLive := [], sDead := [], sOt := [], sOl := [], sDl := [], sLv := [] }
    match rest with
    | ["ot", _, l] => { s with sOt := s.sOt ++ jIds l }
    | ["lv", _, l] => { s with sLv := s.sLv ++ jIds l }
    | ["ol", l] => { s with sOl := jIds l }
    | ["ol"] => s
    | ["dl", l] => { s with sDl := jIds l }
    | ["dl"] => s
    | o :: "D" :: extra =>
      match jOid o with
      | none => s.flag s!"unexpected-line {line}"
      | some i =>
        let s := { s with sDead := i :: s.sDead }
        if extra.isEmpty then s else s.flag s!"destructed-still-linked o{i}: {line}"
    | o :: name :: more =>
      match jOid o, kv more "env", kv more "inv", kv more "ec", kv more "ln" with
      | some i, some env, some inv, some ec, some ln =>
        { s with sLive := s.sLive ++ [{ id := i, name := name, env := jOid env, inv := jIds inv, ec := ec == "1",
                                         ln := if ln == "0" then none else some ln }] }
      | _, _, _, _, _ => s.flag s!"unexpected-line {line}"
    | _ => s.flag s!"unexpected-line {line}"
  | _ =>
    let s := closeSnapshot s0
    -- a pending move is decided by the next event
    let s := match ts with
      | "caught" :: _ =>
        match s.pending with
        | some (a, d) =>
          let s := { s with pending := none }
          if insideKnown s a 10000 d || envUnknownAbove s 10000 d then s else s.flag s!"move-refused o{a} into o{d}: {line}"
        | none => s
      | "err" :: _ =>
        match s.pending with
        | some (a, d) =>
          let s := { s with pending := none }
          if insideKnown s a 10000 d || envUnknownAbove s 10000 d then s else s.flag s!"move-refused o{a} into o{d}: {line}"
        | none => s
      | _ => commitMove s
    match ts with
    | [] => s
    | ["new", o, _name] =>
      match jOid o with
      | some i =>
        let s := stepEvent s
        let s := if isDead s i || (envKnown s i).isSome then s.flag s!"id-reused o{i}" else s
        { s with envOf := (i, none) :: s.envOf, frames := Frame.hook i :: s.frames }
      | none => s.flag s!"unexpected-line {line}"
    | ["he", o, _k] =>
      match jOid o with
      | some i =>
        match s.frames with
        | Frame.hook j :: rest => if i == j then { s with frames := rest } else s.flag s!"frame-mismatch {line}"
        | _ => s.flag s!"frame-mismatch {line}"
      | none => s.flag s!"unexpected-line {line}"
    | ["hb", o, k, arg] =>
      match jOid o with
      | some x =>
        let s := stepEvent s
        let y := jOid arg
        let s := if isDead s x then s.flag s!"destructed-called o{x}: {line}" else s
        let s := useLive s "hook-argument" line y
        let s :=
          if k == "init" then
            match s.frames, y with
            | Frame.moveS a :: _, some y =>
              let s := if isDead s a then s.flag s!"init-after-item-left string move of o{a}: {line}" else s
              if x == a || y == a then s else s.flag s!"init-without-moved-object string move of o{a}: {line}"
            | Frame.move a d :: _, some y =>
              let s := if envIs s a d && !isDead s a then s
                       else s.flag s!"init-after-item-left move o{a} into o{d}: {line}"
              if x == a || y == a then
                let other := if x == a then y else x
                if other == d || envIs s other d then s
                else s.flag s!"init-with-object-outside-destination move o{a} into o{d}, other o{other}: {line}"
              else s.flag s!"init-without-moved-object move o{a} into o{d}: {line}"
            | _, _ => s.flag s!"init-outside-move {line}"
          else if k == "mod" then
            if s.frames.any (fun f => match f with | Frame.dest _ => true | _ => false) then s
            else s.flag s!"move_or_destruct-outside-destruct {line}"
          else if k == "act" then s   -- a command reached the action of a live object (checked above)
          else if k == "id" then s    -- present() asks a live object
          else if k == "hbeat" then s -- the backend tick calls a live object (checked above: called-while-destructed)
          else if k == "ofilt" then
            -- objects(filter) hands every listed object to the filter: never a destructed one (it would read as 0)
            if y.isSome then s else s.flag s!"destructed-listed objects(filter) called its filter with a destructed object: {line}"
          else s.flag s!"unexpected-line {line}"
        { s with frames := Frame.hook x :: s.frames }
      | none => s.flag s!"unexpected-line {line}"
    | ["mvb", a, d] =>
      match jOid a, jOid d with
      | some a, some d => { stepEvent s with pending := some (a, d) }
      | _, _ => s.flag s!"unexpected-line {line}"
    | ["r", "mv", a, d, res] =>
      match jOid a, jOid d with
      | some a, some d =>
        if res == "ok" then
          match s.frames with
          | Frame.move a' d' :: rest =>
            if a == a' && d == d' then { s with frames := rest } else s.flag s!"frame-mismatch {line}"
          | _ => s.flag s!"frame-mismatch {line}"
        else s
      | _, _ => s.flag s!"unexpected-line {line}"
    | ["r", "mvarg", _, _] => s
    | ["mvsb", a, _name] =>
      match jOid a with
      | some a =>
        let s := stepEvent s
        let s := if isDead s a then s.flag s!"destructed-reference-used move o{a}" else s
        -- from here on the environment of a is unknown until the move reports back (or an error unwinds)
        { s with frames := Frame.moveS a :: s.frames, envOf := (a, some unkEnv) :: s.envOf }
      | none => s.flag s!"unexpected-line {line}"
    | ["r", "mvs", a, _name, res, env] =>
      match jOid a with
      | some a =>
        if res == "ok" then
          match s.frames with
          | Frame.moveS a' :: rest =>
            if a == a' then
              let s := { s with frames := rest }
              let s := useLive s "environment" line (jOid env)
              -- a destructed object must not have been linked into the room
              let s := if isDead s a && (jOid env).isSome then s.flag s!"destructed-moved o{a}: {line}" else s
              -- `?`: the executing object was destructed and could not name the room; relocations announced while
              -- the string move was running are older than the move itself: the environment is unknown again
              if env == "?" then { s with envOf := (a, some unkEnv) :: s.envOf } else { s with envOf := (a, jOid env) :: s.envOf }
            else s.flag s!"frame-mismatch {line}"
          | _ => s.flag s!"frame-mismatch {line}"
        else s
      | none => s.flag s!"unexpected-line {line}"
    | ["r", "mvs", _a, _name, _res] => s
    | ["r", "pr", e, t, v] =>
      let s := stepEvent s
      let s := useLive s "present" line (jOid v)
      match jOid e, jOid v with
      | some e, some r =>
        let s := if jOid t == some r then s else s.flag s!"present-wrong-object {line}"
        if envIs s r e then s else s.flag s!"present-outside-environment o{r} is not in o{e}: {line}"
      | _, _ => s
    | ["r", "fis", _name, v] => useLive (stepEvent s) "first_inventory" line (jOid v)
    | ["deb", a] =>
      match jOid a with
      | some a =>
        let s := stepEvent s
        let s := if isDead s a then s.flag s!"destructed-reference-used destruct o{a}" else s
        { s with frames := Frame.dest a :: s.frames }
      | none => s.flag s!"unexpected-line {line}"
    | ["r", "de", a, res] =>
      match jOid a with
      | some a =>
        if res == "ok" then
          match s.frames with
          | Frame.dest a' :: rest =>
            if a == a' then { markDead s a with frames := rest, envOf := (a, none) :: s.envOf }
            else s.flag s!"frame-mismatch {line}"
          | _ => s.flag s!"frame-mismatch {line}"
        else s
      | none => s.flag s!"unexpected-line {line}"
    | ["r", "ln", a, _n, res] =>
      let s := stepEvent s
      if res == "ok" then useLive s "living-name" line (jOid a) else s
    | ["r", "kp", _x, a, res] => if res == "ok" then useLive s "reference" line (jOid a) else s
    | ["r", "rd", _x, v, va, vm] =>
      -- global variable, array element, mapping value: all three read the same
      let s := useLive (useLive (useLive s "reference-read" line (jOid v)) "reference-read" line (jOid va)) "reference-read" line (jOid vm)
      if v == va && v == vm then s else s.flag s!"reference-reads-differ {line}"
    | ["r", "aa", a, _v, res] => if res == "ok" then useLive (stepEvent s) "add_action" line (jOid a) else s
    | ["r", "cmd", _a, _v, _res] => stepEvent s
    | ["r", "gh", _a, _k] => stepEvent s
    | ["r", "ra", a, _v, res] => if res == "!gone" then s else useLive (stepEvent s) "remove_action" line (jOid a)   -- the issuer may have been destructed by the action it triggered
    | ["r", "ld", _n, v, k, lv] =>
      let s := stepEvent s
      let s := useLive s "loaded" line (jOid v)
      let s := useLive s "loaded" line (jOid lv)
      -- the object load_object() returns is the one find_object() finds under that name
      let s := if v != "?" && lv != "?" && (jOid lv).isSome && jOid lv != jOid v then
                 s.flag s!"load-find-disagree load_object returned o{(jOid lv).getD 0}, find_object finds {v}: {line}" else s
      -- typeof() of the efun result (k) against the value LPC reads from it (lv): "object" that reads as 0 = load_object
      -- handed back a destructed object.  (k is compared with the LOAD result, not with what find_object finds: when the
      -- object under construction is destructed inside its own create() chain and another object is created under the
      -- name meanwhile, find_or_load_object rightly returns 0 although the name is findable.)
      if lv == "?" then s   -- the executing object was destructed meanwhile and could not name the result
      else if (k == "1") != (jOid lv).isSome then s.flag s!"found-destructed load returned an object that is not live: {line}" else s
    | ["r", "cl", _n, v] => useLive (stepEvent s) "cloned" line (jOid v)
    | ["r", "fo", _n, v, k] =>
      let s := stepEvent s
      let s := useLive s "found" line (jOid v)
      if (k == "1") != (jOid v).isSome then s.flag s!"found-destructed find_object returned an object that is not live: {line}" else s
    | ["r", "fl", _n, v, k] =>
      let s := stepEvent s
      let s := useLive s "found-living" line (jOid v)
      if (k == "1") != (jOid v).isSome then s.flag s!"found-destructed find_living returned an object that is not live: {line}" else s
    | ["ctb", _o] => { s with frames := Frame.catch :: s.frames }
    | ["r", "ct", _o, _res] =>
      match s.frames with
      | Frame.catch :: rest => { s with frames := rest }
      | _ => s.flag s!"frame-mismatch {line}"
    | "caught" :: rest =>
      -- a caught error unwinds to the innermost catch(); the destruct restriction is judged as for `err`
      let nDest := (s.frames.filter (fun f => match f with | Frame.dest _ => true | _ => false)).length
      let s := if rest.headD "" == "*Only" && nDest < 2 then s.flag s!"destruct-refused outside move_or_destruct: {line}" else s
      { stepEvent s with frames := s.frames.dropWhile (fun f => !isCatch f) }
    | ["obfb", _o, ids] => { stepEvent s with frames := Frame.obf (jIdsDash ids) :: s.frames }
    | ["r", "obf", _o, lst, now] =>
      let s := stepEvent s
      let (before, s) := match s.frames with
        | Frame.obf b :: rest => (b, { s with frames := rest })
        | _ => ([], s.flag s!"frame-mismatch {line}")
      if lst == "?" then s   -- the executing object was destructed meanwhile
      else if lst == "!0" then s.flag s!"objects-filter-mismatch objects(filter) returned 0: {line}"
      else
        let toks := if lst == "-" then [] else lst.splitOn ","
        let s := if toks.any (fun t => (jOid t).isNone) then
                   s.flag s!"destructed-listed objects(filter) lists an object that reads as 0: {line}" else s
        let l := toks.filterMap jOid
        let s := l.foldl (fun s i => useLive s "objects(filter)" line (some i)) s
        let s := if hasDup l then s.flag s!"objects-filter-mismatch listed twice: {line}" else s
        let nowL := jIdsDash now
        let s := if (l.filter (· ≥ 2)).all nowL.contains then s
                 else s.flag s!"destructed-listed objects(filter) lists an object that objects() does not: {line}"
        if (before.filter nowL.contains).all l.contains then s
        else s.flag s!"objects-filter-missed an object alive before and after the call is not listed: {line}"
    | ["r", op, a, res] =>
      -- ec / dc
      if op == "ec" || op == "dc" || op == "hbe" || op == "hbd" then
        let s := stepEvent s
        if res == "ok" then useLive s "command-enable" line (jOid a) else s
      else s.flag s!"unexpected-line {line}"
    | "err" :: rest =>
      -- "Only this_object() can be destructed from move_or_destruct": legitimate only while an outer destruct is
      -- running its move_or_destruct hooks (a stale restriction after an error would refuse ordinary destructs)
      let nDest := (s.frames.filter (fun f => match f with | Frame.dest _ => true | _ => false)).length
      let s := if rest.headD "" == "*Only" && nDest < 2 then s.flag s!"destruct-refused outside move_or_destruct: {line}" else s
      { stepEvent s with frames := [] }
    | ["r", "top", "!err"] => s
    | ["r", "tick", "!err"] => s
    | "hb-stale-slot" :: _ => s.flag s!"called-while-destructed {line}"
    | "hb-stale-object" :: _ => s.flag s!"called-while-destructed {line}"
    | ["r", "probe", "!err"] => s.flag s!"probe-error {line}"
    | "P" :: "objects" :: rest =>
      let l := jIds (rest.headD "")
      let s := l.foldl (fun s i => useLive s "objects()" line (some i)) s
      if s.sFresh then
        let want := (s.sLive.map (·.id)).filter (· ≥ 2)
        if want.all l.contains && l.all want.contains && !hasDup l then s else s.flag s!"objects-mismatch {line}"
      else s
    | "P" :: "heartbeats" :: rest =>
      let l := jIds (rest.headD "")
      let s := l.foldl (fun s i => useLive s "heart_beats()" line (some i)) s
      if s.sFresh then
        if l.all (fun i => (s.sLive.map (·.id)).contains i) && !hasDup l then s else s.flag s!"heartbeats-mismatch {line}"
      else s
    | "P" :: "livings" :: rest =>
      let l := jIds (rest.headD "")
      let s := l.foldl (fun s i => useLive s "livings()" line (some i)) s
      if s.sFresh then
        let want := ((s.sLive.filter (·.ec)).map (·.id)).filter (· ≥ 2)
        if want.all l.contains && l.all want.contains && !hasDup l then s else s.flag s!"livings-mismatch {line}"
      else s
    | "P" :: o :: more =>
      match jOid o, kv more "ref", kv more "find" with
      | some i, some ref, some find =>
        let fparts := find.splitOn "/"
        let fv := jOid (fparts.headD "")
        let fk := fparts.getD 1 "0"
        let s := useLive s "found" line fv
        let s := useLive s "reference-read" line (jOid ref)
        let s := if (fk == "1") != fv.isSome then s.flag s!"found-destructed find_object returned an object that is not live: {line}" else s
        let s := (jIds ((kv more "inv").getD "") ++ jIds ((kv more "walk").getD "")).foldl
                   (fun s m => useLive s "inventory" line (some m)) s
        let s := useLive s "environment" line ((kv more "env").bind jOid)
        let s := useLive s "found-living" line ((kv more "fl").bind jOid)
        if s.sFresh then
          match sFind s i with
          | none =>
            -- destructed (or never seen): reads as 0; its name finds nothing unless a live object carries it now
            let s := if ref == "0" then s else s.flag s!"destructed-reference-nonzero {line}"
            s
          | some so =>
            let s := if jOid ref == some i then s else s.flag s!"live-reference-lost {line}"
            let s := if fv == some i then s else s.flag s!"lookup-wrong find_object(name of o{i}) gave {find}: {line}"
            let s := if (kv more "env").bind jOid == so.env then s else s.flag s!"environment-mismatch {line}"
            let s := if jIds ((kv more "inv").getD "") == so.inv then s else s.flag s!"all_inventory-mismatch {line}"
            let s := if jIds ((kv more "walk").getD "") == so.inv then s else s.flag s!"first-next-inventory-mismatch {line}"
            match so.ln, (kv more "fl") with
            | some ln, some fl =>
              match jOid fl with
              | some r =>
                match sFind s r with
                | some ro => if ro.ec && ro.ln == some ln then s else s.flag s!"find_living-wrong {line}"
                | none => s.flag s!"find_living-wrong {line}"
              | none => if s.sLive.any (fun p => p.ec && p.ln == some ln) then s.flag s!"find_living-missed {line}" else s
            | _, _ => s
        else s
      | _, _, _ => s.flag s!"unexpected-line {line}"
    | "W" :: _ => s.flag s!"walker {line}"
    | "crash" :: _ => s.flag s!"crash {line}"
    | "sanitizer" :: _ => s.flag s!"memory-error {line}"
    | "hang" :: _ => s.flag s!"hang {line}"
    | ["fuel"] => s.flag s!"fuel {line}"
    | _ => s.flag s!"unexpected-line {line}"

/-- violations found on a trace, oldest first; `[]` = property held on this trace -/
def judge (trace : List String) : List String :=
  (closeSnapshot (trace.foldl judgeLine {})).bad.reverse

end NV.C08
