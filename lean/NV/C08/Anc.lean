/-
C08: the environment relation as a graph.  `Anc sup x y`: y is reached from x by one or more `super` steps.
Everything here is about an abstract `sup : Nat → Option Nat`.
-/
namespace NV.C08

inductive Anc (sup : Nat → Option Nat) : Nat → Nat → Prop where
  | base {x y : Nat} : sup x = some y → Anc sup x y
  | step {x y z : Nat} : sup x = some y → Anc sup y z → Anc sup x z

theorem Anc.trans {sup : Nat → Option Nat} {x y z : Nat} (h1 : Anc sup x y) (h2 : Anc sup y z) : Anc sup x z := by
  induction h1 with
  | base h => exact Anc.step h h2
  | step h _ ih => exact Anc.step h (ih h2)

theorem Anc.mono {sup sup' : Nat → Option Nat} (hsub : ∀ x y, sup' x = some y → sup x = some y)
    {x z : Nat} (h : Anc sup' x z) : Anc sup x z := by
  induction h with
  | base h => exact Anc.base (hsub _ _ h)
  | step h _ ih => exact Anc.step (hsub _ _ h) ih

def redirect (sup : Nat → Option Nat) (item dest : Nat) : Nat → Option Nat :=
  fun j => if j = item then some dest else sup j

/-- a path of the graph with `item`'s edge redirected to `dest` is an old path, or goes through the new edge -/
theorem Anc.redirect_cases {sup : Nat → Option Nat} {item dest x z : Nat} (h : Anc (redirect sup item dest) x z) :
    Anc sup x z ∨ ((x = item ∨ Anc sup x item) ∧ (z = dest ∨ Anc sup dest z)) := by
  induction h with
  | @base x y h =>
    by_cases hx : x = item
    · subst hx
      simp [redirect] at h
      exact Or.inr ⟨Or.inl rfl, Or.inl h.symm⟩
    · simp [redirect, hx] at h
      exact Or.inl (Anc.base h)
  | @step x y z h _ ih =>
    by_cases hx : x = item
    · subst hx
      simp [redirect] at h
      subst h
      rcases ih with ih | ⟨_, ih⟩
      · exact Or.inr ⟨Or.inl rfl, Or.inr ih⟩
      · exact Or.inr ⟨Or.inl rfl, ih⟩
    · simp [redirect, hx] at h
      rcases ih with ih | ⟨ih1, ih2⟩
      · exact Or.inl (Anc.step h ih)
      · refine Or.inr ⟨Or.inr ?_, ih2⟩
        rcases ih1 with ih1 | ih1
        · subst ih1; exact Anc.base h
        · exact Anc.step h ih1

/-- the cycle check of move_object is what keeps the environment relation acyclic -/
theorem acyclic_redirect {sup : Nat → Option Nat} {item dest : Nat}
    (hac : ∀ x, ¬ Anc sup x x) (hchk : ¬ (dest = item ∨ Anc sup dest item)) :
    ∀ x, ¬ Anc (redirect sup item dest) x x := by
  intro x h
  rcases Anc.redirect_cases h with h | ⟨h1, h2⟩
  · exact hac x h
  · apply hchk
    rcases h1 with h1 | h1 <;> rcases h2 with h2 | h2
    · left; rw [← h2, h1]
    · subst h1; exact Or.inr h2
    · subst h2; exact Or.inr h1
    · exact Or.inr (Anc.trans h2 h1)

theorem Anc.head {sup : Nat → Option Nat} {x z : Nat} (h : Anc sup x z) : ∃ y, sup x = some y ∧ (y = z ∨ Anc sup y z) := by
  cases h with
  | base h1 => exact ⟨_, h1, Or.inl rfl⟩
  | step h1 h2 => exact ⟨_, h1, Or.inr h2⟩

theorem Anc.not_of_none {sup : Nat → Option Nat} {x y : Nat} (h : sup x = none) : ¬ Anc sup x y := by
  intro ha
  obtain ⟨_, hs, _⟩ := ha.head
  rw [h] at hs; cases hs

end NV.C08
