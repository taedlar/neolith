/-
C19 — the lock-discipline obligation over the function bodies regenerated from the clang AST.
-/
import NV.C19.Locks

namespace NV.C19

open NV.Gen.C19

/-- the checker accepts every function defined in async_queue.c and in both completion-ring files (constructors and
    destructors excepted: no other thread can have the object yet / any more) -/
theorem locked_functions_accepted : lockedFunctions.all (fun p => okBody p.2) = true := by decide +kernel

/-- **Every access to head / tail / count / the counters / the slots, and to ring / ring_head / ring_count, happens
inside a lock…unlock bracket — on every path.**  For every function body as the clang AST has it on this run, for
every choice at every `if`, every number of iterations of every loop, every `return` / `continue` / `break`: the
actions along the path keep the discipline (`runActs … = some …`: no shared field touched without the mutex, no second
lock, no unlock without lock, the sleep on `not_full` made without the mutex, no write to a field that is read
unlocked elsewhere) and the call ends with the mutex released.  With `mutex_excludes_accesses` (Locks.lean): accesses
of different threads to these fields are always ordered by the mutex. -/
theorem lock_discipline_all_paths (name : String) (body : LStmt) (hmem : (name, body) ∈ lockedFunctions)
    (tr : List LAct) (ex : Exit) (hexec : Exec body tr ex) : runActs false tr = some false := by
  have hall := locked_functions_accepted
  rw [List.all_eq_true] at hall
  exact okBody_sound (hall (name, body) hmem) hexec

/-- all actions that occur anywhere in a body -/
def allActs : LStmt → List LAct
  | .acts l => l
  | .seq a b => allActs a ++ allActs b
  | .ite c t e => c ++ allActs t ++ allActs e
  | .loop c b => c ++ allActs b
  | .ret c => c
  | .cont => []
  | .brk => []

/-- non-vacuity: the bodies are not empty shells — dequeue reads the slot and moves tail, enqueue sleeps on the event,
    both rings are pushed to and popped from, each of them under its lock -/
theorem locked_functions_nontrivial :
    (∃ b, ("queue:async_queue_dequeue", b) ∈ lockedFunctions ∧ LAct.rd "slots" ∈ allActs b ∧ LAct.wr "tail" ∈ allActs b ∧
        LAct.lock ∈ allActs b) ∧
    (∃ b, ("queue:async_queue_enqueue", b) ∈ lockedFunctions ∧ LAct.wait ∈ allActs b ∧ LAct.wr "slots" ∈ allActs b) ∧
    (∃ b, ("epoll:async_runtime_wait", b) ∈ lockedFunctions ∧ LAct.rd "ring" ∈ allActs b ∧ LAct.wr "ring_count" ∈ allActs b) ∧
    (∃ b, ("poll:async_runtime_post_completion", b) ∈ lockedFunctions ∧ LAct.wr "ring" ∈ allActs b) := by
  -- each body is found in the table by walking down the literal list (no string comparisons); what it contains is
  -- evaluated
  refine ⟨⟨lk_queue_async_queue_dequeue, ?_, by decide +kernel, by decide +kernel, by decide +kernel⟩,
    ⟨lk_queue_async_queue_enqueue, ?_, by decide +kernel, by decide +kernel⟩,
    ⟨lk_epoll_async_runtime_wait, ?_, by decide +kernel, by decide +kernel⟩,
    ⟨lk_poll_async_runtime_post_completion, ?_, by decide +kernel⟩⟩ <;>
  repeat (first | exact List.Mem.head _ | apply List.Mem.tail)

/-- the checker rejects the shape of the seeded change C19-5 (DESIGN.md 0.3): the mutex released while the payload is copied out
    of the tail slot, taken again to advance `tail` -/
example : okBody (.seq (.acts [.lock]) (.seq (.acts [.rd "count", .rd "tail"]) (.seq (.acts [.unlock])
    (.seq (.acts [.rd "slots"]) (.seq (.acts [.lock]) (.seq (.acts [.wr "tail", .wr "count"]) (.seq (.acts [.unlock])
    (.ret [])))))))) = false := by decide +kernel

/-- …and a path through that body on which the slot is read without the mutex -/
example : runActs false [.lock, .rd "count", .rd "tail", .unlock, .rd "slots"] = none := by decide +kernel

-- an early return that forgets the unlock; a `continue` that skips the re-lock; a sleep with the mutex held
example : okBody (.seq (.acts [.lock]) (.seq (.ite [.rd "count"] (.ret []) (.acts [])) (.seq (.acts [.unlock]) (.ret [])))) = false := by
  decide +kernel
example : okBody (.seq (.acts [.lock]) (.seq (.loop [.rd "count"] (.seq (.acts [.unlock, .wait]) .cont))
    (.seq (.acts [.unlock]) (.ret [])))) = false := by decide +kernel
example : okBody (.seq (.acts [.lock]) (.seq (.acts [.wait]) (.seq (.acts [.unlock]) (.ret [])))) = false := by decide +kernel

end NV.C19
