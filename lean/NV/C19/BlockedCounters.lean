/-
C19 — the statistics of async_queue under concurrency: with any number of blocked writers, DROP_OLDEST drops,
dequeues and clears interleaved in any way, the three counters `get_stats` reports account for every message.
-/
import NV.C19.LemmasB

namespace NV.C19

/-- **The statistics account for every message, under any concurrency.**  Any number of writers (blocked or not), any
flags (DROP_OLDEST drops included), dequeues and clears at any moment, every interleaving: `enqueue_count` is the number
of accepted messages, `dropped_count` is EXACTLY the number of messages DROP_OLDEST overwrote and `dequeue_count` exactly
the number handed to the consumer (never a drop counted on one path only, never a dequeue counted twice), and together
with the messages thrown away by `clear` they are the messages that left the queue; accepted = gone + still queued. -/
theorem blocked_writers_counters (cs : Bool) (cap mm fl : Nat) (q : Q) (hq : Q.create cap mm fl = some q)
    (progs : List (List Msg)) (acts : List BAct) :
    let s := (BSys.init cs q progs).run acts
    s.q.enqCount = s.accepted.length ∧ s.q.deqCount + s.q.dropCount + s.clearedN = s.gone.length ∧
    s.accepted.length = s.gone.length + s.q.count ∧
    s.q.dropCount = s.dropped.length ∧ s.q.deqCount = s.deqd.length := by
  intro s
  have hc := BSys.cnt_created cs hq progs acts
  refine ⟨hc.enq, hc.out, ?_, hc.drop, hc.deq⟩
  have := congrArg List.length (BSys.good_created cs hq progs acts).fifo
  rw [List.length_append, Q.contents_length] at this
  exact this.symm

-- non-vacuity: DROP_OLDEST|BLOCK_WRITER queue of capacity 1, three pushes (two drops), a clear, a dequeue of nothing
example :
    let q : Q := { cap := 1, maxMsg := 8, flags := flagDropOldest ||| flagBlockWriter, slots := [⟨0, 0, 0⟩] }
    let s := (BSys.init true q [[⟨1, 1, 8⟩, ⟨1, 2, 8⟩, ⟨1, 3, 8⟩]]).run [.writer 0, .writer 0, .writer 0, .clear, .deq 8]
    s.q.enqCount = 3 ∧ s.q.dropCount = 2 ∧ s.dropped = [⟨1, 1, 8⟩, ⟨1, 2, 8⟩] ∧ s.clearedN = 1 ∧ s.gone.length = 3 := by decide

end NV.C19
