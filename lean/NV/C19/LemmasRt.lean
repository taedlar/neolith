/- C19 — event loop: the invariant of every schedule -/
import NV.C19.Sched

namespace NV.C19

/-- the order of doorbell reset and ring drain AS THE SOURCE HAS IT (regenerated) -/
def codeOrder : Order := if Gen.C19.waitReadsBellBeforeLock then .bellFirst else .ringFirst

/-- **bridging lemma**: `async_runtime_wait` reads (resets) the doorbell before it takes `ring_lock`, and re-arms under
    the lock — the order for which `no_lost_wakeup` is proved (`RtSys.init` default) -/
theorem wait_order_eq : codeOrder = .bellFirst ∧ Gen.C19.waitRearmsUnderLock = true := by decide

/-- **bridging lemma**: `async_runtime_post_completion` pushes under the lock BEFORE it writes the doorbell
    (`Rt.post`, `RtSys.prodStep`: push, then `ringBell`) -/
theorem post_order_eq : Gen.C19.postPushesBeforeBell = true := by decide

theorem Rt.push_full {rt : Rt} (it : Item) (h : rt.ring.length ≥ ringSize) : rt.push it = (rt, false) := if_pos h

theorem Rt.push_room {rt : Rt} (it : Item) (h : ¬ rt.ring.length ≥ ringSize) :
    rt.push it = ({ rt with ring := rt.ring ++ [it] }, true) := if_neg h

theorem Rt.post_full {rt : Rt} (it : Item) (h : rt.ring.length ≥ ringSize) : rt.post it = (rt, -1) := by
  rw [Rt.post, Rt.push_full it h]

theorem Rt.post_room {rt : Rt} (it : Item) (h : ¬ rt.ring.length ≥ ringSize) :
    rt.post it = ({ bell := rt.bell + 1, ring := rt.ring ++ [it] }, 0) := by
  rw [Rt.post, Rt.push_room it h]; rfl

/-- the completions the producers have still to post -/
def remaining (prods : List Prod) : List Item := prods.flatMap (fun p => postsOf p.todo)

/-- replacing producer `i` by one that has the posts `x` less to make takes `x` out of what remains to be posted -/
theorem remaining_set_perm {prods : List Prod} {i : Nat} {p p' : Prod} {x : List Item} (hp : prods[i]? = some p)
    (h : postsOf p.todo = x ++ postsOf p'.todo) : (x ++ remaining (prods.set i p')).Perm (remaining prods) := by
  induction prods generalizing i with
  | nil => cases hp
  | cons a l ih =>
    cases i with
    | zero => cases hp; simp [remaining, h]
    | succ j =>
      have := ih hp
      simp only [remaining, List.set_cons_succ, List.flatMap_cons] at this ⊢
      exact (List.perm_append_comm_assoc ..).trans (List.Perm.append_left _ this)

/-- a producer between push and doorbell write stays one when another record of the table (or its own, keeping the
    flag) is replaced -/
theorem exists_pendingRing_set {prods : List Prod} {i : Nat} {p p' : Prod} (hp : prods[i]? = some p)
    (hpr : p.pendingRing = true → p'.pendingRing = true) (h : ∃ q ∈ prods, q.pendingRing = true) :
    ∃ q ∈ prods.set i p', q.pendingRing = true := by
  obtain ⟨q, hq, hqp⟩ := h
  obtain ⟨j, hj, hjq⟩ := List.mem_iff_getElem.mp hq
  obtain ⟨hi, hpi⟩ := List.getElem?_eq_some_iff.mp hp
  by_cases hji : i = j
  · subst hji
    exact ⟨p', List.mem_set hi p', hpr (hpi.symm.trans hjq ▸ hqp)⟩
  · exact ⟨q, List.mem_iff_getElem.mpr ⟨j, by simpa using hj, by simp [hji, hjq]⟩, hqp⟩

theorem Rt.rearm_bell_pos {rt : Rt} (hne : rt.ring ≠ []) : 0 < rt.rearm.bell := by
  show 0 < (if rt.ring.isEmpty then rt.bell else rt.bell + 1)
  rw [if_neg (show ¬ rt.ring.isEmpty = true from fun he => hne (List.isEmpty_iff.mp he))]
  exact Nat.succ_pos _

/-- What every schedule of the code's order keeps (`all` = everything the producers were given to post). -/
structure RtSys.Good (all : List Item) (s : RtSys) : Prop where
  order : s.order = .bellFirst
  /-- what the waits returned ++ what is in the ring = what was pushed, in push order -/
  safe : s.delivered.flatten ++ s.rt.ring = s.accepted
  /-- no completion is left behind: unless the backend is between its doorbell read and its re-arm write, a non-empty
      ring has a doorbell ringing or about to ring -/
  bell : (∀ m, s.cph ≠ .drained m) → s.cph ≠ .took → s.rt.ring ≠ [] →
    s.rt.bell > 0 ∨ ∃ p ∈ s.prods, p.pendingRing = true
  /-- who posted what: accepted, refused and still to post are together what was given -/
  books : (s.accepted ++ s.refused ++ remaining s.prods).Perm all

theorem RtSys.good_prodStep {all : List Item} (s : RtSys) (i : Nat) (h : s.Good all) : (s.prodStep i).Good all := by
  unfold RtSys.prodStep
  split
  · exact h
  rename_i p hp
  have hi : i < s.prods.length := (List.getElem?_eq_some_iff.mp hp).1
  -- a doorbell write: the ring and the books stay, the doorbell is set
  have ring : ∀ p' : Prod, postsOf p'.todo = postsOf p.todo →
      Good all { s with rt := s.rt.ringBell, prods := s.prods.set i p' } := fun p' hp' =>
    ⟨h.order, h.safe, fun _ _ _ => Or.inl (Nat.succ_pos _), by
      exact (List.Perm.append_left _ (remaining_set_perm (x := []) hp hp'.symm)).trans h.books⟩
  split
  · exact ring _ rfl
  rename_i hnp
  split
  · exact h
  · rename_i r hr
    exact ring _ (by rw [hr]; rfl)
  rename_i k d r hr
  have hposts : postsOf p.todo = (k, d) :: postsOf r := by rw [hr]; rfl
  split
  · exact h
  by_cases hfull : s.rt.ring.length ≥ ringSize
  · -- refused: the shared state is as it was, the post is in `refused`
    rw [Rt.push_full _ hfull]
    refine ⟨h.order, h.safe,
      fun hd ht hne => (h.bell hd ht hne).imp_right (exists_pendingRing_set hp fun e => absurd e hnp), ?_⟩
    have hperm := remaining_set_perm (p' := { p with todo := r }) (x := [(k, d)]) hp hposts
    refine List.Perm.trans ?_ h.books
    show (s.accepted ++ (s.refused ++ [(k, d)]) ++ remaining _).Perm _
    simp only [List.append_assoc, List.singleton_append]
    exact List.Perm.append_left _ (List.Perm.append_left _ hperm)
  · -- pushed: the entry is in the ring and in `accepted`, the producer owes the doorbell write
    rw [Rt.push_room _ hfull]
    refine ⟨h.order, ?_, fun _ _ _ => Or.inr ⟨{ todo := r, pendingRing := true }, List.mem_set hi _, rfl⟩, ?_⟩
    · show s.delivered.flatten ++ (s.rt.ring ++ [(k, d)]) = s.accepted ++ [(k, d)]
      rw [← h.safe, List.append_assoc]
    · have hperm := remaining_set_perm (p' := { todo := r, pendingRing := true }) (x := [(k, d)]) hp hposts
      refine List.Perm.trans ?_ h.books
      show (s.accepted ++ [(k, d)] ++ s.refused ++ remaining _).Perm _
      simp only [List.append_assoc, List.singleton_append]
      exact List.Perm.append_left _ (List.perm_middle.symm.trans (List.Perm.append_left _ hperm))

theorem RtSys.good_consStep {all : List Item} (s : RtSys) (h : s.Good all) : s.consStep.Good all := by
  have hbf : s.order ≠ .ringFirst := fun e => by rw [h.order] at e; cases e
  unfold RtSys.consStep
  split
  · split
    · exact h
    · split
      · rename_i hpoll
        exact ⟨h.order, h.safe, fun _ _ _ => Or.inl (of_decide_eq_true hpoll), h.books⟩
      · refine ⟨h.order, ?_, h.bell, h.books⟩
        show (s.delivered ++ [[]]).flatten ++ s.rt.ring = s.accepted
        rw [List.flatten_concat, List.append_nil]; exact h.safe
  · split
    · exact ⟨h.order, h.safe, fun hd => absurd rfl (hd _), h.books⟩
    · rename_i ho; exact absurd ho hbf
  · refine ⟨h.order, ?_, fun _ ht => absurd rfl ht, h.books⟩
    rename_i m _
    show (s.delivered ++ [s.rt.ring.take m]).flatten ++ s.rt.ring.drop m = s.accepted
    rw [← h.safe, List.flatten_concat, List.append_assoc, List.take_append_drop]
  · -- the re-arm: entries that remain get their doorbell back
    exact ⟨h.order, h.safe, fun _ _ hne => Or.inl (Rt.rearm_bell_pos hne), h.books⟩
  · rename_i hc
    exact ⟨h.order, h.safe, fun _ _ => h.bell (hc ▸ nofun) (hc ▸ nofun), h.books⟩
  · split
    · rename_i ho; exact absurd ho hbf
    · exact h
  · split
    · rename_i ho; exact absurd ho hbf
    · exact h

theorem RtSys.good_step {all : List Item} (s : RtSys) (i : Nat) (h : s.Good all) : (s.step i).Good all := by
  unfold RtSys.step
  split
  · exact good_prodStep s i h
  · exact good_consStep s h

theorem RtSys.good_run {all : List Item} (s : RtSys) (picks : List Nat) (h : s.Good all) : (s.run picks).Good all :=
  List.foldlRecOn picks RtSys.step h fun s hs i _ => good_step s i hs

theorem Rt.push_bell (rt : Rt) (it : Item) : (rt.push it).1.bell = rt.bell := by
  unfold Rt.push
  split <;> rfl

theorem Rt.rearm_bell_le (rt : Rt) : rt.rearm.bell ≤ rt.bell + 1 := by
  show (if rt.ring.isEmpty then rt.bell else rt.bell + 1) ≤ rt.bell + 1
  split
  · exact Nat.le_succ _
  · exact Nat.le_refl _

/-! No action adds more than one to the doorbell, in either order and in any state: every branch of `prodStep` and
`consStep` leaves it alone (push, take, bookkeeping), writes it once (`ringBell`, `rearm`) or resets it (`drain`). -/

theorem RtSys.bell_prodStep_le (s : RtSys) (i : Nat) : (s.prodStep i).rt.bell ≤ s.rt.bell + 1 := by
  unfold RtSys.prodStep
  split
  · exact Nat.le_succ _
  split
  · exact Nat.le_refl _
  split
  · exact Nat.le_succ _
  · exact Nat.le_refl _
  split
  · exact Nat.le_succ _
  split
  · -- the push: `rt'` is the first component of `s.rt.push _`
    rename_i hpush
    exact Nat.le_succ_of_le (Nat.le_of_eq ((congrArg (·.1.bell) hpush).symm.trans (Rt.push_bell ..)))
  · exact Nat.le_succ _

theorem RtSys.bell_consStep_le (s : RtSys) : s.consStep.rt.bell ≤ s.rt.bell + 1 := by
  unfold RtSys.consStep
  split
  · split
    · exact Nat.le_succ _
    · split <;> exact Nat.le_succ _
  · split
    · exact Nat.zero_le _
    · exact Nat.le_succ _
  · exact Nat.le_succ _
  · exact Rt.rearm_bell_le _
  · exact Nat.le_succ _
  · split <;> exact Nat.le_succ _
  · split
    · split
      · exact Nat.zero_le _
      · exact Nat.le_succ _
    · exact Nat.le_succ _

theorem RtSys.bell_step_le (s : RtSys) (i : Nat) : (s.step i).rt.bell ≤ s.rt.bell + 1 := by
  unfold RtSys.step
  split
  · exact bell_prodStep_le s i
  · exact bell_consStep_le s

theorem RtSys.bell_run_le (s : RtSys) (picks : List Nat) : (s.run picks).rt.bell ≤ s.rt.bell + picks.length := by
  induction picks generalizing s with
  | nil => exact Nat.le_refl _
  | cons i r ih =>
    have h1 := bell_step_le s i
    have h2 : ((s.step i).run r).rt.bell ≤ (s.step i).rt.bell + r.length := ih (s.step i)
    show ((s.step i).run r).rt.bell ≤ s.rt.bell + (r.length + 1)
    omega

theorem RtSys.good_init (progs : List (List POp)) (waits : List Nat) :
    (RtSys.init progs waits).Good (progs.flatMap postsOf) :=
  ⟨rfl, rfl, fun _ _ h => absurd rfl h, .of_eq (List.flatMap_map ..)⟩

theorem remaining_quiescent (prods : List Prod) (h : ∀ p ∈ prods, p.todo = [] ∧ p.pendingRing = false) :
    remaining prods = [] :=
  List.flatMap_eq_nil_iff.mpr fun p hp => by rw [(h p hp).1]; rfl

/-! ### flushing by whole waits delivers the ring, in order -/

theorem Rt.wait_empty (rt : Rt) (max : Nat) (h : rt.ring = []) : (rt.wait max).2 = [] := by
  unfold Rt.wait
  split <;> simp [Rt.pop, Rt.drain, h]

theorem Rt.wait_rung (rt : Rt) (max : Nat) (hb : rt.bell > 0) :
    rt.wait max = ({ bell := if (rt.ring.drop max).isEmpty then 0 else 1, ring := rt.ring.drop max }, rt.ring.take max) := by
  have hpoll : rt.poll = true := by simpa [Rt.poll] using hb
  simp [Rt.wait, hpoll, Rt.pop, Rt.drain]

theorem flushAll_succ (max fuel : Nat) (rt : Rt) :
    flushAll max (fuel + 1) rt = if (rt.wait max).2 = [] then [] else (rt.wait max).2 ++ flushAll max fuel (rt.wait max).1 := by
  rw [flushAll]
  cases h : rt.wait max with
  | mk rt' evs =>
    cases evs with
    | nil => simp
    | cons a l => simp

theorem flushAll_eq_ring (max : Nat) (hmax : 0 < max) :
    ∀ (fuel : Nat) (rt : Rt), rt.ring.length < fuel → (rt.ring ≠ [] → rt.bell > 0) → flushAll max fuel rt = rt.ring := by
  intro fuel
  induction fuel with
  | zero => intro rt h; omega
  | succ n ih =>
    intro rt hlen hbell
    rw [flushAll_succ]
    by_cases hr : rt.ring = []
    · rw [Rt.wait_empty rt max hr]; simp [hr]
    · have hb := hbell hr
      rw [Rt.wait_rung rt max hb]
      have hpos : 0 < rt.ring.length := List.length_pos_iff.mpr hr
      have htake : rt.ring.take max ≠ [] := by
        intro h
        rw [List.take_eq_nil_iff] at h
        rcases h with h | h
        · omega
        · exact hr h
      simp only [htake, if_false]
      rw [ih]
      · exact List.take_append_drop max rt.ring
      · show (rt.ring.drop max).length < n
        rw [List.length_drop]; omega
      · intro hne2
        simp only
        split
        · rename_i he; rw [List.isEmpty_iff] at he; exact absurd he hne2
        · omega

end NV.C19
