/- C19 — worker join and timer stop: invariants of every schedule -/
import NV.C19.Sched

namespace NV.C19

/-! ### worker -/

/-- **bridging lemma (translator → model)**: the source stores RUNNING before it calls `pthread_create` and nothing
    after it.  Everything below is proved for this shape; a source change that moves or adds a store breaks THIS
    lemma (the regenerated `Gen.C19.createStores*` change), not only the correspondence run. -/
theorem createProg_eq : createProg = [.store .running, .spawn] := by decide

/-- **bridging lemma**: the thread wrapper stores RUNNING before and STOPPED after the user procedure, and nothing
    else — which is what `Wk.threadStep` executes -/
theorem wrapper_stores_eq :
    Gen.C19.wrapperStoresBeforeProc = [Gen.C19.workerRunning] ∧ Gen.C19.wrapperStoresAfterProc = [Gen.C19.workerStopped] := by
  decide

/-- **bridging lemma**: the timed join sleeps `pollMs` ms per iteration and adds the same amount to its elapsed counter -/
theorem join_poll_eq : Gen.C19.joinElapsedStepMs = pollMs ∧ Gen.C19.joinSleepNs = pollMs * 1000000 := by decide

/-- STOPPED is in the state field exactly when the thread wrapper has stored it after `proc` returned -/
def Wk.StoppedIffPastStore (w : Wk) : Prop := w.state = .stopped ↔ (w.th = .stored ∨ w.th = .exited)

theorem Wk.stoppedIffPastStore_threadStep (w : Wk) (b : Bool) (hs : w.th ≠ .notSpawned) (h : w.StoppedIffPastStore) :
    (w.threadStep b).StoppedIffPastStore ∧ (w.threadStep b).th ≠ .notSpawned := by
  unfold Wk.StoppedIffPastStore at *
  unfold Wk.threadStep
  cases hth : w.th with
  | notSpawned => exact absurd hth hs
  | spawned => simp                   -- RUNNING is stored, the thread enters `proc`
  | returned => exact ⟨⟨fun _ => .inl rfl, fun _ => rfl⟩, nofun⟩     -- the one step that stores STOPPED
  -- elsewhere the state field is not written and `th` stays on its side of the store
  | inproc => cases b <;> simp_all
  | stored => simp_all
  | exited => simp_all

theorem Wk.stoppedIffPastStore_signalStop (w : Wk) (h : w.StoppedIffPastStore) : w.signalStop.StoppedIffPastStore := by
  simpa [Wk.StoppedIffPastStore, Wk.signalStop] using h

theorem Wk.threadStep_stays_past_store {w : Wk} (b : Bool) (h : w.th = .stored ∨ w.th = .exited) :
    (w.threadStep b).th = .stored ∨ (w.threadStep b).th = .exited := by
  rcases h with h | h <;> simp [Wk.threadStep, h]

/-- a join that reads STOPPED never gives up -/
theorem Wk.joinStep_stopped {w : Wk} {t : Nat} {pc pc' : JoinPc} (hst : w.state = .stopped)
    (hj : w.joinStep t pc = some pc') (hp : pc ≠ .done false) : pc' ≠ .done false := by
  cases pc with
  | loop e =>
    simp only [Wk.joinStep, hst, ne_eq, not_true_eq_false, false_and, if_false, if_true] at hj
    cases hj; nofun
  | pjoin =>
    simp only [Wk.joinStep] at hj
    split at hj <;> cases hj
    nofun
  | done r => cases hj; exact hp

/-- where `async_worker_create` is, and what that means for the shared state -/
def WSys.CrInv (s : WSys) : Prop :=
  (s.creator = [.store .running, .spawn] ∧ s.w.th = .notSpawned) ∨
  (s.creator = [.spawn] ∧ s.w.th = .notSpawned ∧ s.w.state = .running) ∨
  (s.creator = [] ∧ s.w.th ≠ .notSpawned ∧ s.w.StoppedIffPastStore)

/-- once the thread is past its STOPPED store, `async_worker_create` has long returned and the state reads STOPPED -/
theorem WSys.CrInv.past_store {s : WSys} (h : s.CrInv) (hth : s.w.th = .stored ∨ s.w.th = .exited) :
    s.creator = [] ∧ s.w.state = .stopped := by
  rcases h with ⟨_, hn⟩ | ⟨_, hn, _⟩ | ⟨hc, _, hok⟩
  · rcases hth with h | h <;> cases hn.symm.trans h
  · rcases hth with h | h <;> cases hn.symm.trans h
  · exact ⟨hc, hok.mpr hth⟩

/-- a join that has slept `w` times and whose clock is still within one poll interval of `t` has slept at most
    `⌈t/10⌉` times -/
theorem le_sleepsFor {w t : Nat} (h : pollMs * w < t + pollMs) : w ≤ sleepsFor t := by
  unfold sleepsFor pollMs at *; omega

def WSys.Inv (s : WSys) : Prop :=
  s.CrInv ∧
  (match s.pc with
   | .loop e => e = pollMs * s.work ∧ e < s.t + pollMs
   | .pjoin => (s.w.th = .stored ∨ s.w.th = .exited) ∧ s.work ≤ sleepsFor s.t + 1
   | .done _ => s.work ≤ sleepsFor s.t + 2)

theorem WSys.Inv.crInv {s : WSys} (h : s.Inv) : s.CrInv := h.1

/-- what a step of the joining thread can do: nothing (create not finished, join over, blocked in `pthread_join`), or
    one `joinStep` -/
theorem WSys.step_ctl_eq_self_or_joinStep (s : WSys) :
    s.step .ctl = s ∨
    (s.creator = [] ∧ (∀ r, s.pc ≠ .done r) ∧
      ∃ pc', s.w.joinStep s.t s.pc = some pc' ∧ s.step .ctl = { s with pc := pc', work := s.work + 1 }) := by
  dsimp only [WSys.step]
  split
  · exact Or.inl rfl
  · rename_i hc
    split
    · exact Or.inl rfl
    · rename_i hnd
      split
      · exact Or.inl rfl
      · rename_i pc' hj
        exact Or.inr ⟨Classical.not_not.mp hc, fun r e => hnd r e, pc', hj, rfl⟩

theorem WSys.step_t (s : WSys) (a : WAct) : (s.step a).t = s.t := by
  cases a with
  | creator => simp only [WSys.step]; split <;> rfl
  | thread b => rfl
  | stop => rfl
  | ctl => rcases s.step_ctl_eq_self_or_joinStep with e | ⟨_, _, _, _, e⟩ <;> rw [e]

theorem WSys.run_t (s : WSys) (acts : List WAct) : (s.run acts).t = s.t :=
  List.foldlRecOn acts WSys.step (motive := fun s' => s'.t = s.t) rfl fun s' h a _ => (WSys.step_t s' a).trans h

theorem WSys.crInv_step (s : WSys) (a : WAct) (h : s.CrInv) : (s.step a).CrInv := by
  obtain ⟨w, creator, t, pc, work⟩ := s
  simp only [WSys.CrInv] at h ⊢
  cases a with
  | creator =>
    rcases h with ⟨hc, hth⟩ | ⟨hc, hth, hst⟩ | ⟨hc, hth, hok⟩
    · subst hc; right; left
      simp [WSys.step, Wk.crStep, hth]
    · subst hc; right; right
      simp [WSys.step, Wk.crStep, Wk.StoppedIffPastStore, hst]
    · subst hc; right; right
      exact ⟨rfl, hth, hok⟩
  | thread b =>
    rcases h with ⟨hc, hth⟩ | ⟨hc, hth, hst⟩ | ⟨hc, hth, hok⟩
    · left; simp [WSys.step, Wk.threadStep, hth, hc]
    · right; left; simp [WSys.step, Wk.threadStep, hth, hc, hst]
    · right; right
      have := Wk.stoppedIffPastStore_threadStep w b hth hok
      exact ⟨hc, this.2, this.1⟩
  | stop =>
    rcases h with ⟨hc, hth⟩ | ⟨hc, hth, hst⟩ | ⟨hc, hth, hok⟩
    · left; exact ⟨hc, hth⟩
    · right; left; exact ⟨hc, hth, hst⟩
    · right; right; exact ⟨hc, hth, Wk.stoppedIffPastStore_signalStop w hok⟩
  | ctl =>
    rcases WSys.step_ctl_eq_self_or_joinStep ⟨w, creator, t, pc, work⟩ with e | ⟨_, _, _, _, e⟩ <;> rw [e] <;> exact h

theorem WSys.inv_step (s : WSys) (a : WAct) (h : s.Inv) : (s.step a).Inv := by
  have hcr := WSys.crInv_step s a h.crInv
  refine ⟨hcr, ?_⟩
  obtain ⟨w, creator, t, pc, work⟩ := s
  obtain ⟨h0, h2⟩ := h
  simp only at h2
  cases a with
  | creator =>
    simp only [WSys.step]
    -- the join has not begun (or the creator is done and this is a no-op)
    cases creator with
    | nil => exact h2
    | cons a rest =>
      simp only
      cases pc with
      | loop e => exact h2
      | done r => exact h2
      | pjoin => cases (h0.past_store h2.1).1     -- inside pthread_join the creator had finished long ago
  | thread b =>
    simp only [WSys.step]
    cases pc with
    | loop e => exact h2
    | done r => exact h2
    | pjoin => exact ⟨Wk.threadStep_stays_past_store b h2.1, h2.2⟩
  | stop =>
    simp only [WSys.step, Wk.signalStop]
    cases pc <;> exact h2
  | ctl =>
    rcases WSys.step_ctl_eq_self_or_joinStep ⟨w, creator, t, pc, work⟩ with e | ⟨hcn, hnd, pc', hj, e⟩ <;> rw [e]
    · exact h2
    dsimp only at hcn hnd hj ⊢
    subst hcn
    have h1 : w.StoppedIffPastStore := by
      rcases h0 with ⟨hc, _⟩ | ⟨hc, _, _⟩ | ⟨_, _, hok⟩
      · cases hc
      · cases hc
      · exact hok
    cases pc with
    | done r => exact absurd rfl (hnd r)
    | loop e =>
      have hw := Nat.succ_le_succ (le_sleepsFor (h2.1 ▸ h2.2))
      simp only [Wk.joinStep] at hj
      split at hj
      · rename_i hc
        cases hj
        exact ⟨by rw [h2.1, Nat.mul_succ], Nat.add_lt_add_right hc.2 _⟩
      · split at hj <;> cases hj
        · rename_i hst; exact ⟨h1.mp hst, hw⟩
        · exact Nat.le_succ_of_le hw
    | pjoin =>
      simp only [Wk.joinStep] at hj
      split at hj <;> cases hj
      exact Nat.succ_le_succ h2.2

theorem WSys.inv_run (s : WSys) (acts : List WAct) (h : s.Inv) : (s.run acts).Inv :=
  List.foldlRecOn acts WSys.step h fun s hs a _ => inv_step s a hs

theorem WSys.crInv_run (s : WSys) (acts : List WAct) (h : s.CrInv) : (s.run acts).CrInv :=
  List.foldlRecOn acts WSys.step h fun s hs a _ => crInv_step s a hs

theorem WSys.inv_start (t : Nat) (pre : List WAct) : (WSys.start t pre).Inv := by
  have h0 : (WSys.fresh createProg t).CrInv := by
    left; exact ⟨createProg_eq, rfl⟩
  have := WSys.crInv_run _ pre h0
  refine ⟨?_, ?_⟩
  · exact this
  · simp [WSys.start, WSys.startWith, pollMs]

/-! ### timer -/

structure TSys.Inv (s : TSys) : Prop where
  /-- `join` returns only when the timer thread has exited -/
  joined : s.spc = .returned → s.tpc = .exited
  logged : s.log.contains .stopReturned → s.spc = .returned
  logOk : logOk s.log = true

theorem TSys.inv_step (s : TSys) (a : TAct) (h : s.Inv) : (s.step a).Inv := by
  obtain ⟨active, stopReq, tpc, spc, log⟩ := s
  obtain ⟨h1, h2, h3⟩ := h
  dsimp only at h1 h2 h3
  -- a stopper that has returned has seen the thread exit: wherever the thread still is, the stopper has not returned
  have hlive : tpc ≠ .exited → spc ≠ .returned := fun hne hr => hne (h1 hr)
  cases a with
  | thr to =>
    cases tpc with
    | top =>
      dsimp only [TSys.step]
      split
      · exact ⟨fun _ => rfl, h2, h3⟩
      · exact ⟨fun hr => absurd hr (hlive nofun), h2, h3⟩
    | waiting => exact ⟨fun hr => absurd hr (hlive nofun), h2, h3⟩
    | afterWait b =>
      dsimp only [TSys.step]
      split
      · exact ⟨fun _ => rfl, h2, h3⟩
      · split <;> exact ⟨fun hr => absurd hr (hlive nofun), h2, h3⟩
    | callback =>
      -- the callback is logged: no `stopReturned` can be in the log yet
      have hno : log.contains .stopReturned = false := by
        cases hc : log.contains .stopReturned with
        | false => rfl
        | true => exact absurd (h2 hc) (hlive nofun)
      refine ⟨fun hr => absurd hr (hlive nofun), fun hc => h2 hc, ?_⟩
      · show (!log.contains .stopReturned && logOk log) = true
        rw [hno, h3]; rfl
    | exited => exact ⟨h1, h2, h3⟩
  | stopper =>
    cases spc with
    | idle | clearedActive | requested => exact ⟨nofun, fun hc => (nomatch h2 hc), h3⟩
    | notified =>
      dsimp only [TSys.step]
      split
      · rename_i hex
        exact ⟨fun _ => hex, fun _ => rfl, h3⟩
      · exact ⟨h1, h2, h3⟩
    | returned => exact ⟨h1, h2, h3⟩

theorem TSys.inv_run (s : TSys) (acts : List TAct) (h : s.Inv) : (s.run acts).Inv :=
  List.foldlRecOn acts TSys.step h fun s hs a _ => inv_step s a hs

theorem TSys.inv_init : ({} : TSys).Inv := ⟨nofun, nofun, rfl⟩

end NV.C19
