/-
C19 — SEVERAL writers blocked on a BLOCK_WRITER queue, `async_queue_clear` while producers are blocked.

`QSys` (Sched.lean) treats every enqueue as one atomic call.  A BLOCK_WRITER enqueue that finds the queue full is
not atomic: it releases the mutex, sleeps on the AUTO-RESET event `not_full`, re-takes the mutex and tests again.
`BSys` interleaves the atomic pieces of any number of such writers with a consumer that dequeues / clears whenever
the scheduler says so:

  writer  start  --lock; size test; while(count>=cap)-->  pushed (next message) | returned false | waiting
          waiting --platform_event_wait(&not_full,-1): only when `signaled`; consumes the signal--> woken
          woken   --lock; while(count>=cap)-->            pushed | waiting
  consumer `deq buf`   a successful dequeue sets `signaled` (BLOCK_WRITER queues)
           `clear`     head = tail = count = 0; sets `signaled` iff `clearSignals`
                       (`Gen.C19.clearSignalsNotFull`, regenerated from the body of `async_queue_clear`)

One Boolean models the event: `platform_event_set` stores `signaled = true` and notifies ONE sleeper, a sleeper
leaves `cv.wait` only after it has seen `signaled` and reset it under the event's mutex.  Letting ANY waiting
writer consume the signal over-approximates which one the kernel wakes.
-/
import NV.C19.Sched

namespace NV.C19

inductive BPc
  | start      -- outside the call / at its size test
  | waiting    -- mutex released, inside `platform_event_wait(&queue->not_full, -1)`
  | woken      -- the event wait has returned (signal consumed), mutex not taken again yet
  deriving Repr, DecidableEq

structure BW where
  todo : List Msg
  pc : BPc := .start
  deriving Repr, DecidableEq

inductive BAct
  | writer (i : Nat)
  | deq (buf : Nat)
  | clear
  deriving Repr, DecidableEq

structure BSys where
  clearSignals : Bool
  q : Q
  signaled : Bool := false         -- `not_full`
  ws : List BW
  accepted : List Msg := []        -- ghost: messages whose enqueue returned true, in order
  gone : List Msg := []            -- ghost: messages that left the queue (dequeued, dropped, cleared), in order
  clearedN : Nat := 0              -- ghost: how many messages `clear` threw away
  dropped : List Msg := []         -- ghost: messages overwritten by DROP_OLDEST, in order
  deqd : List Msg := []            -- ghost: messages handed to the consumer, in order
  crashed : Bool := false
  deriving Repr

def Msg.valid (m : Msg) (q : Q) : Prop := ¬(m.size = 0 ∨ m.size > q.maxMsg)

def BSys.writerStep (s : BSys) (i : Nat) : BSys :=
  match s.ws[i]? with
  | none => s
  | some w =>
    match w.pc with
    | .waiting =>
      if s.signaled then { s with signaled := false, ws := s.ws.set i { w with pc := .woken } } else s
    | _ =>
      match w.todo with
      | [] => s
      | m :: rest =>
        let willDrop := decide (m.size ≠ 0 ∧ m.size ≤ s.q.maxMsg ∧ s.q.count ≥ s.q.cap) && s.q.dropOldest
        match s.q.enqueue m with
        | (q', .ok) =>
          { s with q := q', accepted := s.accepted ++ [m],
                   gone := if willDrop then s.gone ++ [s.q.oldest] else s.gone,
                   dropped := if willDrop then s.dropped ++ [s.q.oldest] else s.dropped,
                   ws := s.ws.set i { todo := rest, pc := .start } }
        | (q', .blocked) => { s with q := q', ws := s.ws.set i { w with pc := .waiting } }
        | (q', .fail) => { s with q := q', ws := s.ws.set i { todo := rest, pc := .start } }
        | (q', .crash) => { s with q := q', crashed := true }

def BSys.step (s : BSys) : BAct → BSys
  | .writer i => s.writerStep i
  | .deq buf =>
    match s.q.dequeue buf with
    | (q', .msg m) => { s with q := q', gone := s.gone ++ [m], deqd := s.deqd ++ [m],
                                signaled := s.q.blockWriter || s.signaled }
    | (q', .crash) => { s with q := q', crashed := true }
    | (q', .none) => { s with q := q' }
  | .clear =>
    { s with q := s.q.clear, gone := s.gone ++ s.q.contents, clearedN := s.clearedN + s.q.count,
             signaled := (s.clearSignals && s.q.blockWriter) || s.signaled }

def BSys.run (s : BSys) (acts : List BAct) : BSys := acts.foldl BSys.step s

def BSys.init (clearSignals : Bool) (q : Q) (progs : List (List Msg)) : BSys :=
  { clearSignals, q, ws := progs.map fun t => { todo := t } }

def BSys.someAt (s : BSys) (pc : BPc) : Prop := ∃ (j : Nat) (w : BW), s.ws[j]? = some w ∧ w.pc = pc

structure BSys.Good (s : BSys) : Prop where
  inv : s.q.Inv
  nocrash : s.crashed = false
  fifo : s.gone ++ s.q.contents = s.accepted
  /-- a writer inside the loop holds a message of valid size, on a BLOCK_WRITER queue without DROP_OLDEST -/
  pend : ∀ (j : Nat) (w : BW), s.ws[j]? = some w → w.pc ≠ BPc.start →
    s.q.blockWriter = true ∧ s.q.dropOldest = false ∧ ∃ (m : Msg) (rest : List Msg), w.todo = m :: rest ∧ m.valid s.q
  /-- no stranded writer: an EMPTY queue with a sleeping writer has the event set, or a writer on its way -/
  live : s.clearSignals = true → s.someAt .waiting → s.q.count = 0 → s.signaled = true ∨ s.someAt .woken

end NV.C19
