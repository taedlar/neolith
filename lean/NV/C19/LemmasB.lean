/- C19 — several blocked writers (`BSys`, Blocked.lean): the invariant `BSys.Good` and the counter account of every schedule -/
import NV.C19.Blocked
import NV.C19.LemmasQ

namespace NV.C19

theorem getElem?_set_cases {α} (l : List α) (i j : Nat) (a w : α) (h : (l.set i a)[j]? = some w) :
    (j = i ∧ w = a) ∨ (j ≠ i ∧ l[j]? = some w) := by
  rw [List.getElem?_set] at h
  by_cases hij : i = j
  · subst hij
    simp only [if_true] at h
    split at h
    · left; exact ⟨rfl, (Option.some.inj h).symm⟩
    · cases h
  · simp only [if_neg hij] at h
    right; exact ⟨fun e => hij e.symm, h⟩

theorem getElem?_set_self_of_some {α} (l : List α) (i : Nat) (a w : α) (h : l[i]? = some w) : (l.set i a)[i]? = some a :=
  List.getElem?_set_self (List.getElem?_eq_some_iff.mp h).1

theorem Q.count_pos_of_contents {q : Q} {l : List Msg} {m : Msg} (h : q.contents = l ++ [m]) : q.count ≠ 0 := by
  have := Q.contents_length q
  rw [h] at this
  simp at this
  omega

/-- `Good.pend` looks only at the flags and the message size of the queue -/
theorem BSys.Good.pend_frame {s : BSys} (h : s.Good) {q' : Q} (hcfg : s.q.SameConfig q')
    (j : Nat) (w : BW) (hj : s.ws[j]? = some w) (hne : w.pc ≠ .start) :
    q'.blockWriter = true ∧ q'.dropOldest = false ∧ ∃ m rest, w.todo = m :: rest ∧ m.valid q' := by
  have key := h.pend j w hj hne
  unfold Q.blockWriter Q.dropOldest Msg.valid at *
  rw [hcfg.flags, hcfg.maxMsg]
  exact key

/-- …and stays when writer `i` is replaced by a `w'` that is outside the loop or holds what `pend` asks for -/
theorem BSys.Good.pend_set {s : BSys} (h : s.Good) {q' : Q} (hcfg : s.q.SameConfig q') (i : Nat) (w' : BW)
    (hw' : w'.pc ≠ .start →
      q'.blockWriter = true ∧ q'.dropOldest = false ∧ ∃ m rest, w'.todo = m :: rest ∧ m.valid q')
    (j : Nat) (w : BW) (hj : (s.ws.set i w')[j]? = some w) (hne : w.pc ≠ .start) :
    q'.blockWriter = true ∧ q'.dropOldest = false ∧ ∃ m rest, w.todo = m :: rest ∧ m.valid q' := by
  rcases getElem?_set_cases _ _ _ _ _ hj with ⟨_, rfl⟩ | ⟨_, hj'⟩
  · exact hw' hne
  · exact h.pend_frame hcfg j w hj' hne

/-- writers sleep only on a BLOCK_WRITER queue -/
theorem BSys.Good.blockWriter_of_waiting {s : BSys} (h : s.Good) : s.someAt .waiting → s.q.blockWriter = true :=
  fun ⟨j, w, hj, hpw⟩ => (h.pend j w hj (by rw [hpw]; decide)).1

/-- `enqueue_count` = accepted messages; `dequeue_count + dropped_count` + what `clear` threw away = messages gone -/
structure BSys.Cnt (s : BSys) : Prop where
  enq : s.q.enqCount = s.accepted.length
  out : s.q.deqCount + s.q.dropCount + s.clearedN = s.gone.length
  drop : s.q.dropCount = s.dropped.length
  deq : s.q.deqCount = s.deqd.length

/-- what `s'`, reached from `s`, has kept: the invariant, the two parameters no operation writes, the counter account -/
structure BSys.Keeps (s s' : BSys) : Prop where
  good : s'.Good
  cap : s'.q.cap = s.q.cap
  clearSignals : s'.clearSignals = s.clearSignals
  cnt : s.Cnt → s'.Cnt

theorem BSys.Keeps.refl {s : BSys} (h : s.Good) : s.Keeps s := ⟨h, rfl, rfl, id⟩

theorem BSys.Keeps.trans {s s' s'' : BSys} (h : s.Keeps s') (h' : s'.Keeps s'') : s.Keeps s'' :=
  ⟨h'.good, h'.cap.trans h.cap, h'.clearSignals.trans h.clearSignals, h'.cnt ∘ h.cnt⟩

theorem BSys.step_keeps (s : BSys) (a : BAct) (h : s.Good) : s.Keeps (s.step a) := by
  cases a with
  | writer i =>
    dsimp only [BSys.step, BSys.writerStep]
    cases hw : s.ws[i]? with
    | none => exact .refl h
    | some w =>
      dsimp only
      by_cases hpc : w.pc = .waiting
      · -- the event wait
        rw [hpc]
        dsimp only
        cases hsig : s.signaled with
        | false => exact .refl h
        | true =>
          refine ⟨⟨h.inv, h.nocrash, h.fifo, ?_, ?_⟩, rfl, rfl, fun hc => ⟨hc.enq, hc.out, hc.drop, hc.deq⟩⟩
          · exact h.pend_set ⟨rfl, rfl, rfl⟩ i _ fun _ => h.pend i w hw (by rw [hpc]; decide)
          · intro _ _ _
            right
            exact ⟨i, _, getElem?_set_self_of_some _ _ _ _ hw, rfl⟩
      · -- start / woken: the locked test
        split
        · rename_i hp; exact absurd hp hpc
        cases htodo : w.todo with
        | nil => exact .refl h
        | cons m rest =>
          dsimp only
          obtain ⟨hinv, hspec⟩ := Q.enqueue_spec s.q h.inv m
          obtain ⟨hcfg, hcnt⟩ := Q.enqueue_fields s.q m
          generalize hq : s.q.enqueue m = res at hinv hspec hcfg hcnt
          obtain ⟨q', r⟩ := res
          simp only at hinv hspec hcfg hcnt
          -- a writer inside the loop never takes the `fail` exits
          have hnofail : w.pc ≠ .start → r ≠ .fail := by
            intro hne hr
            obtain ⟨hb, hd, m', rest', ht, hv⟩ := h.pend i w hw hne
            rw [htodo] at ht
            cases ht
            subst hr
            cases hspec with
            | badSize hs _ => exact hv hs
            | full _ _ _ hb' _ => rw [hb] at hb'; cases hb'
          -- a full queue is not empty: nobody is stranded by a writer that finds it full
          have hfull_live : s.q.count ≥ s.q.cap → s.q.count ≠ 0 := fun hf h0 => by have := h.inv.cap_pos; omega
          cases hspec with
          | badSize hs he =>
            subst he
            refine ⟨⟨h.inv, h.nocrash, h.fifo, ?_, ?_⟩, rfl, rfl,
              fun hc => ⟨hc.enq, hc.out, hc.drop, hc.deq⟩⟩
            · exact h.pend_set hcfg i _ fun hne => absurd rfl hne
            · have hst : w.pc = .start := by
                cases hp : w.pc with
                | start => rfl
                | waiting => exact absurd hp hpc
                | woken => exact absurd rfl (hnofail (by rw [hp]; decide))
              intro hc hwait h0
              obtain ⟨j, w', hj, hpw⟩ := hwait
              have hj' : s.ws[j]? = some w' := by
                rcases getElem?_set_cases _ _ _ _ _ hj with ⟨_, hw'⟩ | ⟨_, hj'⟩
                · subst hw'; cases hpw
                · exact hj'
              rcases h.live hc ⟨j, w', hj', hpw⟩ h0 with hsg | ⟨k, wk, hk, hpk⟩
              · exact Or.inl hsg
              · right
                have hki : k ≠ i := by
                  intro e; subst e
                  rw [hw] at hk; cases hk
                  rw [hst] at hpk; cases hpk
                exact ⟨k, wk, (List.getElem?_set_ne (Ne.symm hki)).trans hk, hpk⟩
          | full hs hfull hdrop hb he =>
            subst he
            refine ⟨⟨h.inv, h.nocrash, h.fifo, ?_, ?_⟩, rfl, rfl,
              fun hc => ⟨hc.enq, hc.out, hc.drop, hc.deq⟩⟩
            · exact h.pend_set hcfg i _ fun hne => absurd rfl hne
            · exact fun _ _ h0 => absurd h0 (hfull_live hfull)
          | blocked hs hfull hdrop hb he =>
            subst he
            refine ⟨⟨h.inv, h.nocrash, h.fifo, ?_, ?_⟩, rfl, rfl,
              fun hc => ⟨hc.enq, hc.out, hc.drop, hc.deq⟩⟩
            · exact h.pend_set hcfg i _ fun _ => ⟨hb, hdrop, m, rest, rfl, hs⟩
            · exact fun _ _ h0 => absurd h0 (hfull_live hfull)
          | room hs hlt hc =>
            rw [willDrop_eq _ hs, decide_eq_false (Nat.not_le_of_lt hlt)]
            obtain ⟨c1, c2, c3⟩ := hcnt rfl
            rw [if_neg (Nat.not_le_of_lt hlt), Nat.add_zero] at c3
            refine ⟨⟨hinv, h.nocrash, ?_, ?_, ?_⟩, hcfg.cap, rfl, fun hc' => ⟨?_, ?_, ?_, c2.trans hc'.deq⟩⟩
            · exact fifo_push h.fifo hc
            · exact h.pend_set hcfg i _ fun hne => absurd rfl hne
            · intro _ _ h0
              exact absurd h0 (Q.count_pos_of_contents hc)
            · rw [c1, hc'.enq, List.length_append]; rfl
            · rw [c2, c3]; exact hc'.out
            · exact c3.trans hc'.drop
          | dropOldest hs hfull hdrop hold hc =>
            rw [willDrop_eq _ hs, decide_eq_true hfull, hdrop]
            obtain ⟨c1, c2, c3⟩ := hcnt rfl
            rw [if_pos hfull] at c3
            refine ⟨⟨hinv, h.nocrash, ?_, ?_, ?_⟩, hcfg.cap, rfl, fun hc' => ⟨?_, ?_, ?_, c2.trans hc'.deq⟩⟩
            · exact fifo_drop_push h.fifo hold hc
            · exact h.pend_set hcfg i _ fun hne => absurd rfl hne
            · intro _ _ h0
              exact absurd h0 (Q.count_pos_of_contents hc)
            · rw [c1, hc'.enq, List.length_append]; rfl
            · show q'.deqCount + q'.dropCount + s.clearedN = (s.gone ++ [s.q.oldest]).length
              rw [c2, c3, List.length_append, ← hc'.out]
              show _ = _ + 1
              omega
            · show q'.dropCount = (s.dropped ++ [s.q.oldest]).length
              rw [c3, hc'.drop, List.length_append]; rfl
  | deq buf =>
    obtain ⟨hinv, hspec⟩ := Q.dequeue_spec s.q h.inv buf
    obtain ⟨hcfg, hcnt⟩ := Q.dequeue_fields s.q buf
    dsimp only [BSys.step]
    generalize hq : s.q.dequeue buf = res at hinv hspec hcfg hcnt
    obtain ⟨q', r⟩ := res
    simp only at hinv hspec hcfg hcnt
    cases hspec with
    | empty _ he =>
      subst he; exact .refl h
    | short _ _ _ _ he =>
      subst he; exact .refl h
    | took m rest hc hsz hc' =>
      obtain ⟨c1, c2, c3⟩ := hcnt m rfl
      refine ⟨⟨hinv, h.nocrash, ?_, ?_, ?_⟩, hcfg.cap, rfl,
        fun hc' => ⟨c1.trans hc'.enq, ?_, c3.trans hc'.drop, ?_⟩⟩
      · exact fifo_pop h.fifo (hc' ▸ hc)
      · exact h.pend_frame hcfg
      · -- the dequeue that made room sets `not_full`
        intro _ hwait _
        exact Or.inl (by rw [h.blockWriter_of_waiting hwait]; rfl)
      · rw [List.length_append, c2, c3]
        have := hc'.out
        simp only [List.length_cons, List.length_nil]
        omega
      · rw [List.length_append, c2, hc'.deq]; rfl
  | clear =>
    dsimp only [BSys.step]
    refine ⟨⟨Q.inv_clear h.inv, h.nocrash, ?_, h.pend, ?_⟩, rfl, rfl,
      fun hc' => ⟨hc'.enq, ?_, hc'.drop, hc'.deq⟩⟩
    · show s.gone ++ s.q.contents ++ s.q.clear.contents = s.accepted
      rw [Q.contents_clear, List.append_nil, h.fifo]
    · -- a clear that signals sets `not_full` for the sleepers
      intro hcs hwait _
      have hcs : s.clearSignals = true := hcs
      exact Or.inl (by rw [hcs, h.blockWriter_of_waiting hwait]; rfl)
    · rw [List.length_append, Q.contents_length, ← hc'.out]
      exact (Nat.add_assoc ..).symm

theorem BSys.run_keeps (s : BSys) (acts : List BAct) (h : s.Good) : s.Keeps (s.run acts) :=
  List.foldlRecOn acts BSys.step (motive := s.Keeps) (.refl h) fun s' hk a _ => hk.trans (step_keeps s' a hk.good)

/-- every writer begins outside the call -/
theorem BSys.init_pc_eq_start {cs : Bool} {q : Q} {progs : List (List Msg)} {j : Nat} {w : BW}
    (hj : (BSys.init cs q progs).ws[j]? = some w) : w.pc = .start := by
  simp only [BSys.init, List.getElem?_map, Option.map_eq_some_iff] at hj
  obtain ⟨_, _, rfl⟩ := hj
  rfl

theorem BSys.good_init (cs : Bool) {cap mm fl : Nat} {q : Q} (hq : Q.create cap mm fl = some q)
    (progs : List (List Msg)) : (BSys.init cs q progs).Good := by
  obtain ⟨hinv, hcont⟩ := Q.inv_create hq
  exact ⟨hinv, rfl, by simp [BSys.init, hcont], fun _ _ hj hne => absurd (init_pc_eq_start hj) hne,
    fun _ ⟨_, _, hj, hpw⟩ _ => nomatch (init_pc_eq_start hj).symm.trans hpw⟩

/-- a new queue has counted nothing -/
theorem BSys.cnt_init {cs : Bool} {cap mm fl : Nat} {q : Q} (hq : Q.create cap mm fl = some q)
    (progs : List (List Msg)) : (BSys.init cs q progs).Cnt := by
  unfold Q.create at hq
  split at hq
  · cases hq
  · cases hq; exact ⟨rfl, rfl, rfl, rfl⟩

/-! every state reached from a created queue: `Good`, capacity and `clearSignals` as given, the counters right -/
section created
variable (cs : Bool) {cap mm fl : Nat} {q : Q} (hq : Q.create cap mm fl = some q) (progs : List (List Msg))
  (acts : List BAct)
include hq

theorem BSys.good_created : ((BSys.init cs q progs).run acts).Good :=
  (run_keeps _ acts (good_init cs hq progs)).good

theorem BSys.cap_created : ((BSys.init cs q progs).run acts).q.cap = cap :=
  (run_keeps _ acts (good_init cs hq progs)).cap.trans (Q.cap_create hq)

theorem BSys.clearSignals_created : ((BSys.init cs q progs).run acts).clearSignals = cs :=
  (run_keeps _ acts (good_init cs hq progs)).clearSignals

theorem BSys.cnt_created : ((BSys.init cs q progs).run acts).Cnt :=
  (run_keeps _ acts (good_init cs hq progs)).cnt (cnt_init hq progs)

end created

end NV.C19
