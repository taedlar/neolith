/- C19 — async_queue: the ring refines a list under every sequence of calls -/
import NV.C19.Sched

namespace NV.C19

theorem mod_ne_of_lt (t i j cap : Nat) (hij : i < j) (hd : j - i < cap) : (t + i) % cap ≠ (t + j) % cap := by
  intro h
  have h2 := Nat.sub_mod_eq_zero_of_mod_eq h.symm
  have : t + j - (t + i) = j - i := by omega
  rw [this, Nat.mod_eq_of_lt hd] at h2
  omega

theorem Q.contents_length (q : Q) : q.contents.length = q.count := by simp [Q.contents]

theorem Q.contents_push (q : Q) (h : q.Inv) (hlt : q.count < q.cap) (m : Msg) :
    ({ q with slots := q.slots.set q.head m, head := (q.head + 1) % q.cap, count := q.count + 1 } : Q).contents
      = q.contents ++ [m] := by
  simp only [Q.contents, List.range_succ, List.map_append, List.map_cons, List.map_nil]
  congr 1
  · apply List.map_congr_left
    intro i hi
    have hi' : i < q.count := by simpa using hi
    have hne : q.head ≠ (q.tail + i) % q.cap := by
      rw [h.head_eq]; exact (mod_ne_of_lt q.tail i q.count q.cap hi' (by omega)).symm
    simp [List.getD_eq_getElem?_getD, hne]
  · have hh : q.head < q.slots.length := by rw [h.len]; exact h.head_lt
    simp [List.getD_eq_getElem?_getD, ← h.head_eq, hh]

theorem Q.contents_pop (q : Q) (h : q.Inv) (hpos : 0 < q.count) :
    q.contents = q.slots.getD q.tail default ::
      ({ q with tail := (q.tail + 1) % q.cap, count := q.count - 1 } : Q).contents := by
  obtain ⟨n, hn⟩ : ∃ n, q.count = n + 1 := ⟨q.count - 1, by omega⟩
  simp only [Q.contents, hn, List.range_succ_eq_map, List.map_cons, List.map_map, Nat.add_zero, Nat.add_sub_cancel]
  congr 1
  · rw [Nat.mod_eq_of_lt h.tail_lt]
  · apply List.map_congr_left
    intro i _
    simp only [Function.comp]
    congr 1
    rw [Nat.mod_add_mod]
    congr 1
    omega

theorem Q.inv_push (q : Q) (h : q.Inv) (hlt : q.count < q.cap) (m : Msg) :
    ({ q with slots := q.slots.set q.head m, head := (q.head + 1) % q.cap, count := q.count + 1,
              enqCount := q.enqCount + 1 } : Q).Inv := by
  refine ⟨h.cap_pos, by simp [h.len], Nat.mod_lt _ h.cap_pos, h.tail_lt, hlt, ?_⟩
  simp only
  rw [h.head_eq, Nat.mod_add_mod]
  congr 1

/-- advancing `tail` keeps the invariant, whatever the caller's record does to the two counters (`Q.Inv` does not read them) -/
theorem Q.inv_pop (q : Q) (h : q.Inv) (hpos : 0 < q.count) (dq dr : Nat) :
    ({ q with tail := (q.tail + 1) % q.cap, count := q.count - 1, deqCount := dq, dropCount := dr } : Q).Inv := by
  refine ⟨h.cap_pos, h.len, h.head_lt, Nat.mod_lt _ h.cap_pos, by have := h.count_le; simp only; omega, ?_⟩
  simp only
  rw [h.head_eq, Nat.mod_add_mod]
  congr 1
  omega

theorem Q.cap_create {cap mm fl : Nat} {q : Q} (h : Q.create cap mm fl = some q) : q.cap = cap := by
  unfold Q.create at h
  split at h
  · cases h
  · cases h; rfl

theorem Q.inv_create {cap mm fl : Nat} {q : Q} (h : Q.create cap mm fl = some q) : q.Inv ∧ q.contents = [] := by
  unfold Q.create at h
  split at h
  · simp at h
  · rename_i hc
    simp at h; subst h
    have hc1 : cap ≠ 0 := fun e => hc (Or.inl e)
    refine ⟨⟨by simp only; omega, by simp, by simp only; omega, by simp only; omega, by simp, by simp⟩, by simp [Q.contents]⟩

theorem Q.inv_clear {q : Q} (h : q.Inv) : q.clear.Inv :=
  ⟨h.cap_pos, h.len, h.cap_pos, h.cap_pos, Nat.zero_le _, (Nat.zero_mod _).symm⟩

theorem Q.contents_clear (q : Q) : q.clear.contents = [] := rfl

theorem Q.enqueue_room {q : Q} (h : q.Inv) {m : Msg} (hs : ¬(m.size = 0 ∨ m.size > q.maxMsg)) (hlt : q.count < q.cap) :
    q.enqueue m = ({ q with slots := q.slots.set q.head m, head := (q.head + 1) % q.cap, count := q.count + 1,
                            enqCount := q.enqCount + 1 }, .ok) := by
  unfold Q.enqueue
  rw [if_neg hs, if_neg (Nat.not_le_of_lt hlt)]
  exact if_pos (h.len ▸ h.head_lt)

/-- the enqueue of the C code, described on the abstract contents -/
inductive EnqSpec (q q' : Q) (m : Msg) : EnqRes → Prop
  | badSize : (m.size = 0 ∨ m.size > q.maxMsg) → q' = q → EnqSpec q q' m .fail
  | room : ¬(m.size = 0 ∨ m.size > q.maxMsg) → q.count < q.cap → q'.contents = q.contents ++ [m] → EnqSpec q q' m .ok
  | dropOldest : ¬(m.size = 0 ∨ m.size > q.maxMsg) → q.count ≥ q.cap → q.dropOldest = true →
      q.contents = q.oldest :: q.contents.drop 1 → q'.contents = q.contents.drop 1 ++ [m] → EnqSpec q q' m .ok
  | blocked : ¬(m.size = 0 ∨ m.size > q.maxMsg) → q.count ≥ q.cap → q.dropOldest = false → q.blockWriter = true →
      q' = q → EnqSpec q q' m .blocked
  | full : ¬(m.size = 0 ∨ m.size > q.maxMsg) → q.count ≥ q.cap → q.dropOldest = false → q.blockWriter = false →
      q' = q → EnqSpec q q' m .fail

theorem Q.enqueue_spec (q : Q) (h : q.Inv) (m : Msg) :
    (q.enqueue m).1.Inv ∧ EnqSpec q (q.enqueue m).1 m (q.enqueue m).2 := by
  by_cases hs : m.size = 0 ∨ m.size > q.maxMsg
  · unfold Q.enqueue
    rw [if_pos hs]; exact ⟨h, .badSize hs rfl⟩
  by_cases hfull : q.count ≥ q.cap
  · unfold Q.enqueue
    rw [if_neg hs, if_pos hfull]
    cases hdrop : q.dropOldest with
    | false =>
      simp only [Bool.false_eq_true, if_false]
      cases hb : q.blockWriter with
      | false => exact ⟨h, .full hs hfull hdrop hb rfl⟩
      | true => exact ⟨h, .blocked hs hfull hdrop hb rfl⟩
    | true =>
      simp only [if_true]
      have hpos : 0 < q.count := by have := h.cap_pos; omega
      -- the intermediate queue after `tail++; count--; dropped++`
      have hinv3 : ({ q with tail := (q.tail + 1) % q.cap, count := q.count - 1, dropCount := q.dropCount + 1 } : Q).Inv :=
        Q.inv_pop q h hpos _ _
      have hlt3 : q.count - 1 < q.cap := by have := h.count_le; omega
      have hhead : q.head < q.slots.length := by rw [h.len]; exact h.head_lt
      rw [if_pos hhead]
      have hpop := Q.contents_pop q h hpos
      have hpush := Q.contents_push _ hinv3 hlt3 m
      have hdropc : q.contents.drop 1 =
          ({ q with tail := (q.tail + 1) % q.cap, count := q.count - 1, dropCount := q.dropCount + 1 } : Q).contents := by
        rw [hpop]; rfl
      refine ⟨Q.inv_push _ hinv3 hlt3 m, ?_⟩
      refine .dropOldest hs hfull hdrop ?_ ?_
      · rw [hpop]; rfl
      · rw [hdropc]; exact hpush
  · have hlt : q.count < q.cap := by omega
    rw [Q.enqueue_room h hs hlt]
    exact ⟨Q.inv_push q h hlt m, .room hs hlt (Q.contents_push q h hlt m)⟩

/-- the dequeue of the C code, described on the abstract contents -/
inductive DeqSpec (q q' : Q) (buf : Nat) : DeqRes → Prop
  | empty : q.contents = [] → q' = q → DeqSpec q q' buf .none
  | short (m : Msg) (rest : List Msg) : q.contents = m :: rest → m.size > buf → q' = q → DeqSpec q q' buf .none
  | took (m : Msg) (rest : List Msg) : q.contents = m :: rest → m.size ≤ buf → q'.contents = rest → DeqSpec q q' buf (.msg m)

theorem Q.dequeue_spec (q : Q) (h : q.Inv) (buf : Nat) :
    (q.dequeue buf).1.Inv ∧ DeqSpec q (q.dequeue buf).1 buf (q.dequeue buf).2 := by
  unfold Q.dequeue
  by_cases h0 : q.count = 0
  · rw [if_pos h0]
    exact ⟨h, .empty (by simp [Q.contents, h0]) rfl⟩
  · rw [if_neg h0]
    have hpos : 0 < q.count := by omega
    have htail : q.tail < q.slots.length := by rw [h.len]; exact h.tail_lt
    have hget : q.slots[q.tail]? = some (q.slots.getD q.tail default) := by
      simp [List.getD_eq_getElem?_getD, List.getElem?_eq_getElem htail]
    rw [hget]
    simp only
    have hpop := Q.contents_pop q h hpos
    by_cases hsz : (q.slots.getD q.tail default).size > buf
    · rw [if_pos hsz]
      exact ⟨h, .short _ _ hpop hsz rfl⟩
    · rw [if_neg hsz]
      exact ⟨Q.inv_pop q h hpos _ _, .took _ _ hpop (by omega) rfl⟩

/-- `q'` has the configuration of `q`: the fields no operation writes -/
structure Q.SameConfig (q q' : Q) : Prop where
  cap : q'.cap = q.cap
  maxMsg : q'.maxMsg = q.maxMsg
  flags : q'.flags = q.flags

/-- what an enqueue does to the fields outside the ring: configuration untouched, the counters count -/
theorem Q.enqueue_fields (q : Q) (m : Msg) :
    q.SameConfig (q.enqueue m).1 ∧
    ((q.enqueue m).2 = .ok →
      (q.enqueue m).1.enqCount = q.enqCount + 1 ∧ (q.enqueue m).1.deqCount = q.deqCount ∧
      (q.enqueue m).1.dropCount = q.dropCount + (if q.count ≥ q.cap then 1 else 0)) := by
  unfold Q.enqueue
  by_cases hs : m.size = 0 ∨ m.size > q.maxMsg
  · rw [if_pos hs]; exact ⟨⟨rfl, rfl, rfl⟩, nofun⟩
  · rw [if_neg hs]
    by_cases hfull : q.count ≥ q.cap
    · rw [if_pos hfull, if_pos hfull]
      cases q.dropOldest with
      | false =>
        refine ⟨⟨rfl, rfl, rfl⟩, fun h => ?_⟩
        simp only [Bool.false_eq_true, if_false] at h
        split at h <;> cases h
      | true =>
        simp only [if_true]
        split
        · exact ⟨⟨rfl, rfl, rfl⟩, fun _ => ⟨rfl, rfl, rfl⟩⟩
        · exact ⟨⟨rfl, rfl, rfl⟩, nofun⟩
    · rw [if_neg hfull, if_neg hfull]
      dsimp only
      split
      · exact ⟨⟨rfl, rfl, rfl⟩, fun _ => ⟨rfl, rfl, rfl⟩⟩
      · exact ⟨⟨rfl, rfl, rfl⟩, nofun⟩

theorem Q.dequeue_fields (q : Q) (buf : Nat) :
    q.SameConfig (q.dequeue buf).1 ∧
    (∀ m, (q.dequeue buf).2 = .msg m →
      (q.dequeue buf).1.enqCount = q.enqCount ∧ (q.dequeue buf).1.deqCount = q.deqCount + 1 ∧
      (q.dequeue buf).1.dropCount = q.dropCount) := by
  unfold Q.dequeue
  split
  · exact ⟨⟨rfl, rfl, rfl⟩, nofun⟩
  · split
    · exact ⟨⟨rfl, rfl, rfl⟩, nofun⟩
    · split
      · exact ⟨⟨rfl, rfl, rfl⟩, nofun⟩
      · exact ⟨⟨rfl, rfl, rfl⟩, fun _ _ => ⟨rfl, rfl, rfl⟩⟩

theorem Q.enqueue_config (q : Q) (m : Msg) : q.SameConfig (q.enqueue m).1 := (Q.enqueue_fields q m).1

theorem Q.dequeue_config (q : Q) (buf : Nat) : q.SameConfig (q.dequeue buf).1 := (Q.dequeue_fields q buf).1

/-! how the exactly-once bookkeeping `gone ++ contents = accepted` moves with the contents: three facts about lists -/

theorem fifo_push {α} {g c c' acc : List α} {m : α} (hf : g ++ c = acc) (hc : c' = c ++ [m]) :
    g ++ c' = acc ++ [m] := by
  rw [hc, ← List.append_assoc, hf]

theorem fifo_pop {α} {g c c' acc : List α} {m : α} (hf : g ++ c = acc) (hc : c = m :: c') : (g ++ [m]) ++ c' = acc := by
  rw [← hf, hc, List.append_assoc, List.singleton_append]

theorem fifo_drop_push {α} {g c c' acc : List α} {o m : α} (hf : g ++ c = acc) (hold : c = o :: c.drop 1)
    (hc : c' = c.drop 1 ++ [m]) : (g ++ [o]) ++ c' = acc ++ [m] :=
  fifo_push (fifo_pop hf hold) hc

/-- the test `QSys.step` and `BSys.writerStep` make to know whether an accepted enqueue overwrote the oldest message -/
theorem willDrop_eq {sz mm cnt cap : Nat} (d : Bool) (hs : ¬(sz = 0 ∨ sz > mm)) :
    (decide (sz ≠ 0 ∧ sz ≤ mm ∧ cnt ≥ cap) && d) = (decide (cnt ≥ cap) && d) := by
  have : (sz ≠ 0 ∧ sz ≤ mm ∧ cnt ≥ cap) ↔ cnt ≥ cap := ⟨fun h => h.2.2, fun h => ⟨by omega, by omega, h⟩⟩
  rw [decide_eq_decide.mpr this]


structure QSys.Good (s : QSys) : Prop where
  inv : s.q.Inv
  nocrash : s.crashed = false
  fifo : s.left.map Left.msg ++ s.q.contents = s.accepted
  nodrop : s.q.dropOldest = false → ∀ l ∈ s.left, ∃ m, l = .dequeued m

theorem QSys.good_step (s : QSys) (op : QOp) (h : s.Good) : (s.step op).Good := by
  cases op with
  | enq m =>
    obtain ⟨hinv, hspec⟩ := Q.enqueue_spec s.q h.inv m
    have hflags := (Q.enqueue_config s.q m).flags
    simp only [QSys.step]
    generalize hq : s.q.enqueue m = res at hinv hspec hflags
    obtain ⟨q', r⟩ := res
    simp only at hinv hspec hflags
    have hdo : q'.dropOldest = s.q.dropOldest := by simp [Q.dropOldest, hflags]
    cases hspec with
    | badSize hs he => subst he; exact h
    | blocked _ _ _ _ he => subst he; exact h
    | full _ _ _ _ he => subst he; exact h
    | room hs hlt hc =>
      rw [willDrop_eq _ hs, decide_eq_false (Nat.not_le_of_lt hlt)]
      exact ⟨hinv, h.nocrash, fifo_push h.fifo hc, fun hd => h.nodrop (hdo ▸ hd)⟩
    | dropOldest hs hfull hdrop hold hc =>
      rw [willDrop_eq _ hs, decide_eq_true hfull, hdrop]
      refine ⟨hinv, h.nocrash, ?_, fun hd => absurd (hdo ▸ hd) (by rw [hdrop]; decide)⟩
      show (s.left ++ [Left.dropped s.q.oldest]).map Left.msg ++ q'.contents = s.accepted ++ [m]
      rw [List.map_append]
      exact fifo_drop_push h.fifo hold hc
  | deq buf =>
    obtain ⟨hinv, hspec⟩ := Q.dequeue_spec s.q h.inv buf
    have hflags := (Q.dequeue_config s.q buf).flags
    simp only [QSys.step]
    generalize hq : s.q.dequeue buf = res at hinv hspec hflags
    obtain ⟨q', r⟩ := res
    simp only at hinv hspec hflags
    have hdo : q'.dropOldest = s.q.dropOldest := by simp [Q.dropOldest, hflags]
    cases hspec with
    | empty _ he => subst he; exact h
    | short _ _ _ _ he => subst he; exact h
    | took m rest hc hsz hc' =>
      refine ⟨hinv, h.nocrash, ?_, ?_⟩
      · show (s.left ++ [Left.dequeued m]).map Left.msg ++ q'.contents = s.accepted
        rw [List.map_append]
        exact fifo_pop h.fifo (hc' ▸ hc)
      · intro hd l hl
        simp only [List.mem_append, List.mem_singleton] at hl
        rcases hl with hl | hl
        · exact h.nodrop (hdo ▸ hd) l hl
        · exact ⟨m, hl⟩

theorem QSys.good_run (s : QSys) (ops : List QOp) (h : s.Good) : (s.run ops).Good :=
  List.foldlRecOn ops QSys.step h fun s' hg op _ => good_step s' op hg

/-- no operation writes the capacity -/
theorem QSys.step_cap (s : QSys) (op : QOp) : (s.step op).q.cap = s.q.cap := by
  cases op with
  | enq m =>
    have h := (Q.enqueue_config s.q m).cap
    simp only [QSys.step]
    split <;> simp_all only
  | deq buf =>
    have h := (Q.dequeue_config s.q buf).cap
    simp only [QSys.step]
    split <;> simp_all only

theorem QSys.run_cap (s : QSys) (ops : List QOp) : (s.run ops).q.cap = s.q.cap :=
  List.foldlRecOn (motive := fun s' => s'.q.cap = s.q.cap) ops QSys.step rfl fun s' hc op _ => (step_cap s' op).trans hc

theorem QSys.good_init {cap mm fl : Nat} {q : Q} (hq : Q.create cap mm fl = some q) : QSys.Good { q } :=
  have ⟨hinv, hc⟩ := Q.inv_create hq
  ⟨hinv, rfl, hc, fun _ _ hl => nomatch hl⟩

theorem QSys.good_created {cap mm fl : Nat} {q : Q} (hq : Q.create cap mm fl = some q) (ops : List QOp) :
    (QSys.run { q } ops).Good :=
  QSys.good_run { q } ops (good_init hq)

theorem QSys.cap_created {cap mm fl : Nat} {q : Q} (hq : Q.create cap mm fl = some q) (ops : List QOp) :
    (QSys.run { q } ops).q.cap = cap :=
  (QSys.run_cap { q } ops).trans (Q.cap_create hq)

end NV.C19
