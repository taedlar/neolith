/-
C19 — the oracle REJECTS what it should reject: one or more negative examples per clause of `judgeEv`.
Each `example` is evaluated by the kernel (`decide +kernel`): the verdict list is not empty.
-/
import NV.C19.Spec

namespace NV.C19.Negative

/-! event loop -/
-- a completion comes back with other data (garbled)
example : judgeEv [.post 1 7 1 0, .wait 8 [(7, 2)]] ≠ [] := by decide +kernel
-- two posts merged into one event (the original eventfd defect)
example : judgeEv [.post 1 4097 5 0, .post 1 4097 7 0, .wait 8 [(8194, 12)]] ≠ [] := by decide +kernel
-- lost wake-up: a wait finds nothing although a post had returned
example : judgeEv [.post 1 7 1 0, .wait 8 []] ≠ [] := by decide +kernel
-- …also inside a step-by-step wait
example : judgeEv [.post 1 7 1 0, .wbegin 8, .post 2 7 2 0, .wread, .wait 8 [(7, 1)], .wait 8 []] ≠ [] := by decide +kernel
-- delivered twice
example : judgeEv [.post 1 7 1 0, .wait 8 [(7, 1)], .wait 8 [(7, 1)]] ≠ [] := by decide +kernel
-- a wake-up produces an event
example : judgeEv [.wakeup 0, .wait 8 [(0, 1)]] ≠ [] := by decide +kernel
-- a producer's second completion overtakes its first
example : judgeEv [.post 1 7 1 0, .post 1 7 2 0, .wait 1 [(7, 2)]] ≠ [] := by decide +kernel
-- more events than the caller's array holds
example : judgeEv [.post 1 7 1 0, .post 1 7 2 0, .wait 1 [(7, 1), (7, 2)]] ≠ [] := by decide +kernel
-- a post refused although the ring is empty; a failing wake-up
example : judgeEv [.post 1 1 1 (-1)] ≠ [] := by decide +kernel
example : judgeEv [.wakeup (-1)] ≠ [] := by decide +kernel
-- delayed: only part of what is undelivered comes back although the array had room
example : judgeEv [.post 1 7 1 0, .post 2 7 2 0, .wait 8 [(7, 1)]] ≠ [] := by decide +kernel

/-! queue -/
-- FIFO violated; message lost; dequeue from an empty queue; dequeue into a short buffer
example : judgeEv [.qnew 2 16 0 true, .enq ⟨1, 1, 8⟩ .ok, .enq ⟨1, 2, 8⟩ .ok, .deq 16 (.msg ⟨1, 2, 8⟩)] ≠ [] := by decide +kernel
example : judgeEv [.qnew 2 16 0 true, .enq ⟨1, 1, 8⟩ .ok, .deq 16 .none] ≠ [] := by decide +kernel
example : judgeEv [.qnew 2 16 0 true, .deq 16 (.msg ⟨1, 1, 8⟩)] ≠ [] := by decide +kernel
example : judgeEv [.qnew 2 16 0 true, .enq ⟨1, 1, 12⟩ .ok, .deq 8 (.msg ⟨1, 1, 12⟩)] ≠ [] := by decide +kernel
-- overflow policy: full without flags must fail; DROP_OLDEST must accept; BLOCK_WRITER must block; room must accept
example : judgeEv [.qnew 1 16 0 true, .enq ⟨1, 1, 8⟩ .ok, .enq ⟨1, 2, 8⟩ .ok] ≠ [] := by decide +kernel
example : judgeEv [.qnew 1 16 flagDropOldest true, .enq ⟨1, 1, 8⟩ .ok, .enq ⟨1, 2, 8⟩ .fail] ≠ [] := by decide +kernel
example : judgeEv [.qnew 1 16 flagBlockWriter true, .enq ⟨1, 1, 8⟩ .ok, .enq ⟨1, 2, 8⟩ .fail] ≠ [] := by decide +kernel
example : judgeEv [.qnew 2 16 flagBlockWriter true, .enq ⟨1, 1, 8⟩ .blocked] ≠ [] := by decide +kernel
example : judgeEv [.qnew 2 16 0 true, .enq ⟨1, 1, 8⟩ .fail] ≠ [] := by decide +kernel
-- DROP_OLDEST dropped the newest: the old message must be gone
example : judgeEv [.qnew 1 16 flagDropOldest true, .enq ⟨1, 1, 8⟩ .ok, .enq ⟨1, 2, 8⟩ .ok, .deq 16 (.msg ⟨1, 1, 8⟩)] ≠ [] := by decide +kernel
-- bad sizes accepted
example : judgeEv [.qnew 2 16 0 true, .enq ⟨1, 1, 0⟩ .ok] ≠ [] := by decide +kernel
example : judgeEv [.qnew 2 16 0 true, .enq ⟨1, 1, 17⟩ .ok] ≠ [] := by decide +kernel
-- a blocked writer is not woken by the dequeue that made room / the wrong writer is woken
example : judgeEv [.qnew 1 16 flagBlockWriter true, .enq ⟨1, 1, 8⟩ .ok, .enq ⟨2, 1, 8⟩ .blocked, .deq 16 (.msg ⟨1, 1, 8⟩), .qstat 0 1 1 0 0 0 true false] ≠ [] := by decide +kernel
example : judgeEv [.qnew 1 16 flagBlockWriter true, .enq ⟨1, 1, 8⟩ .ok, .enq ⟨2, 1, 8⟩ .blocked, .deq 16 (.msg ⟨1, 1, 8⟩), .unblocked 3 1] ≠ [] := by decide +kernel
example : judgeEv [.qnew 1 16 flagBlockWriter true, .unblocked 2 1] ≠ [] := by decide +kernel
-- statistics: index out of the buffer, wrong size, wrong counters, queue created from capacity 0
example : judgeEv [.qnew 2 16 0 true, .qstat 0 0 0 0 2 0 true false] ≠ [] := by decide +kernel
example : judgeEv [.qnew 2 16 0 true, .enq ⟨1, 1, 8⟩ .ok, .qstat 0 1 0 0 1 0 true false] ≠ [] := by decide +kernel
example : judgeEv [.qnew 2 16 flagDropOldest true, .enq ⟨1, 1, 8⟩ .ok, .qstat 1 1 1 0 1 0 false false] ≠ [] := by decide +kernel
example : judgeEv [.qnew 0 16 0 true] ≠ [] := by decide +kernel
example : judgeEv [.qnew 2 16 0 true, .enq ⟨1, 1, 8⟩ .crash] ≠ [] := by decide +kernel

/-! worker -/
example : judgeEv [.wnew 1 false, .wjoin 1 50 .overran 0] ≠ [] := by decide +kernel
example : judgeEv [.wnew 1 false, .wjoin 1 50 .rc1 0] ≠ [] := by decide +kernel                     -- true on a live thread
example : judgeEv [.wnew 1 true, .wjoin 1 50 .rc0 5] ≠ [] := by decide +kernel                      -- false on a finished thread
example : judgeEv [.wnew 1 false, .wjoin 1 50 .rc0 6] ≠ [] := by decide +kernel                     -- more sleeps than ⌈t/10⌉
example : judgeEv [.wnew 1 true, .wjoin 1 50 .rc1 1] ≠ [] := by decide +kernel                      -- sleeps on a finished thread
example : judgeEv [.wnew 1 true, .wstate 1 .running] ≠ [] := by decide +kernel                      -- late RUNNING store
example : judgeEv [.wnew 1 false, .wstate 1 .stopped] ≠ [] := by decide +kernel                     -- STOPPED before the thread ran
example : judgeEv [.wnew 1 false, .wstep 1 (some true)] ≠ [] := by decide +kernel                   -- procedure left without stop
example : judgeEv [.wnew 1 false, .wstop 1, .wstep 1 (some false)] ≠ [] := by decide +kernel         -- stop not seen
example : judgeEv [.wnew 1 false, .wquit 1 true, .wstate 1 .running] ≠ [] := by decide +kernel
example : judgeEv [.wjoin 7 5 .rc0 1] ≠ [] := by decide +kernel                                      -- unknown worker

/-! timer -/
example : judgeEv [.tinit 0, .tstart 5 0, .tstop 0 true, .tafter 1] ≠ [] := by decide +kernel         -- callback after stop returned
example : judgeEv [.tinit 0, .tstart 5 0, .tstop 0 false] ≠ [] := by decide +kernel                  -- stop did not terminate in time
example : judgeEv [.tinit 0, .tstart 5 0, .tsleep 60, .tticks .none] ≠ [] := by decide +kernel        -- timer not firing
example : judgeEv [.tinit 0, .tticks .some] ≠ [] := by decide +kernel                                -- callback while inactive
example : judgeEv [.tinit 0, .tstart 5 0, .tstart 5 0] ≠ [] := by decide +kernel                     -- second start must be ALREADY_ACTIVE
example : judgeEv [.tinit 0, .tstart 0 0] ≠ [] := by decide +kernel                                  -- interval 0 accepted
example : judgeEv [.tstart 5 0] ≠ [] := by decide +kernel                                            -- start without init
example : judgeEv [.tinit 0, .tstart 5 0, .tstop 0 true, .tactive true] ≠ [] := by decide +kernel
example : judgeEv [.tinit (-4)] ≠ [] := by decide +kernel

/-! runtime part -/
example : judgeEv [.race "data-race heartbeat_timer_callback"] ≠ [] := by decide +kernel
example : judgeEv [.mt "post" false "delivered=3/4"] ≠ [] := by decide +kernel
example : judgeEv [.hbrace 60 false] ≠ [] := by decide +kernel

/-! clear with a blocked writer, the poll back end as it was, early give-up of a join, heart-beat tick, verdict lines -/
-- a clear that leaves the blocked writer asleep (the next event is not `unblocked`)
example : judgeEv [.qnew 1 8 flagBlockWriter true, .enq ⟨1, 1, 8⟩ .ok, .enq ⟨2, 7, 8⟩ .blocked, .qclear, .qstat 0 1 0 0 0 0 true false] ≠ [] := by decide +kernel
-- …the accepted behaviour
example : judgeEv [.qnew 1 8 flagBlockWriter true, .enq ⟨1, 1, 8⟩ .ok, .enq ⟨2, 7, 8⟩ .blocked, .qclear, .unblocked 2 7,
                   .qstat 1 2 0 0 0 0 false true] = [] := by decide +kernel
-- the poll back end as it was: a wake-up byte garbles the next completion; records beyond max are thrown away
example : judgeEv [.wakeup 0, .post 1 4097 7 0, .wait 8 [(1048832, 1793)], .wait 8 []] ≠ [] := by decide +kernel
example : judgeEv [.post 1 1 1 0, .post 2 2 2 0, .post 1 3 3 0, .wait 1 [(1, 1)], .wait 1 []] ≠ [] := by decide +kernel
-- a timed join on a live thread that comes back false before its time is up (it stopped polling)
example : judgeEv [.wnew 1 false, .wjoin 1 50 .rc0 1] ≠ [] := by decide +kernel
-- the clear of call_heart_beat wiped a tick that arrived inside it
example : judgeEv [.hbowed false] ≠ [] := by decide +kernel
-- verdict lines of the real multi-thread runs
example : judgeEv [.mt "qclear" false "writers-left-asleep-after-clear clears=1"] ≠ [] := by decide +kernel
example : judgeEv [.mt "console" false "shutdown-timed-out"] ≠ [] := by decide +kernel

end NV.C19.Negative
