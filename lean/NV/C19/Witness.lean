/-
C19 — the code as it was BEFORE the `fix:` commits (`Old`), and Lean-checked counterexamples of the full statements
on it.  These theorems record why the repairs were needed; `./check` replays the same inputs on the real code (boundary
cases `posts-pile-up`, `join-before-running`), and reverting a fix makes those cases fail.

`LateStore` and `Swapped` are two variants with ONE statement order changed against the source (the RUNNING store of
`async_worker_create` behind `pthread_create`; the ring drained before the doorbell is reset): the theorems of
Props.lean fail on them, so the orders pinned by `createProg_eq` and `wait_order_eq` are needed.
-/
import NV.C19.Sched

namespace NV.C19

/-- `NoLostWakeup .ringFirst`, spelled out: `NoLostWakeup` is defined in Props.lean, which this file does not import -/
def NoLostWakeupRing : Prop :=
  ∀ (progs : List (List POp)) (waits picks : List Nat),
    let s := (RtSys.init progs waits .ringFirst).run picks
    s.cph = .idle → s.rt.ring ≠ [] → s.rt.bell > 0 ∨ ∃ p ∈ s.prods, p.pendingRing = true

end NV.C19

namespace NV.C19.Old

/-! ## event loop: the eventfd COUNTER carried the messages -/

/-- eventfd counter, 64 bit -/
structure Rt where
  counter : Nat := 0
  deriving Repr, DecidableEq

def wrap64 (n : Nat) : Nat := n % 2 ^ 64

/-- `val = (key << 32) | (data & 0xFFFFFFFF); write(event_fd, &val, 8)` — the kernel ADDS val to the counter -/
def Rt.post (s : Rt) (k d : Nat) : Rt := { counter := wrap64 (s.counter + wrap64 ((k <<< 32) ||| (d &&& 0xFFFFFFFF))) }

/-- `val = 1; write(...)` -/
def Rt.wakeup (s : Rt) : Rt := { counter := wrap64 (s.counter + 1) }

/-- `read(event_fd, &val, 8)` returns the sum and resets it; ONE event is decoded from it -/
def Rt.wait (s : Rt) : Rt × List Item :=
  if s.counter = 0 then (s, []) else ({ counter := 0 }, [(s.counter >>> 32, s.counter &&& 0xFFFFFFFF)])

/-- full statement on the old code: whatever is posted between two waits is what the next wait returns -/
def PostsDeliveredFull : Prop :=
  ∀ posts : List Item, ((posts.foldl (fun s it => s.post it.1 it.2) ({} : Rt)).wait).2 = posts

/-- witness (DESIGN.md, confirmed on the real code): two posts with the same key and a wake-up are merged into
    one event with a garbled key and data -/
theorem eventfd_merges_posts :
    (((({} : Rt).post 0x1001 5).post 0x1001 7).wakeup.wait).2 = [(0x2002, 13)] := by decide +kernel

theorem not_postsDeliveredFull : ¬ PostsDeliveredFull := by
  intro h
  have := h [(0x1001, 5), (0x1001, 7)]
  revert this
  decide +kernel

/-- a post of key 0, data 0 wrote the value 0: it did not even wake the backend -/
theorem eventfd_loses_zero_post : ((({} : Rt).post 0 0).wait).2 = [] := by decide +kernel

theorem and_low32 (x : Nat) : x &&& 0xFFFFFFFF = x % 2 ^ 32 := Nat.and_two_pow_sub_one_eq_mod x 32

/-- what did hold on the old code: ONE post between two waits (no wake-up in between), key and data below 2^32
    and not both zero, arrives intact -/
theorem posts_delivered_partial (k d : Nat) (hk : k < 2 ^ 32) (hd : d < 2 ^ 32) (hnz : k ≠ 0 ∨ d ≠ 0) :
    ((({} : Rt).post k d).wait).2 = [(k, d)] := by
  -- the counter holds `k * 2^32 + d`, below 2^64 and not zero
  have hc : (({} : Rt).post k d).counter = k * 2 ^ 32 + d := by
    show (0 + ((k <<< 32) ||| (d &&& 0xFFFFFFFF)) % 2 ^ 64) % 2 ^ 64 = _
    rw [and_low32, Nat.mod_eq_of_lt hd, ← Nat.shiftLeft_add_eq_or_of_lt hd, Nat.shiftLeft_eq, Nat.zero_add,
      Nat.mod_mod, Nat.mod_eq_of_lt (by omega)]
  have hne : k * 2 ^ 32 + d ≠ 0 := by omega
  unfold Rt.wait
  rw [hc, if_neg hne, and_low32, Nat.shiftRight_eq_div_pow, Nat.mul_comm, Nat.mul_add_div (by decide), Nat.mul_add_mod,
    Nat.div_eq_of_lt hd, Nat.mod_eq_of_lt hd, Nat.add_zero]

/-! ## worker: the state was STOPPED until the new thread stored RUNNING -/

/-- `async_worker_create` as it was: STOPPED stored, then the thread started -/
def prog : List CrAct := [.store .stopped, .spawn]

/-- a join(50) issued right after create returned, before the new thread has run -/
def joinEarly : WSys := WSys.startWith prog 50 [.creator, .creator]

/-- full statement on the old code: the joining thread is inside the untimed `pthread_join` only when the
    worker thread is past the user procedure -/
def TimedJoinBoundedFull : Prop :=
  ∀ acts : List WAct, (joinEarly.run acts).pc = .pjoin → (joinEarly.run acts).w.th = .stored ∨ (joinEarly.run acts).w.th = .exited

/-- witness: the first test of the loop sees STOPPED, the join enters `pthread_join` while the thread has not
    even started -/
theorem join_enters_pthread_join_early :
    (joinEarly.run [.ctl]).pc = .pjoin ∧ (joinEarly.run [.ctl]).w.th = .spawned := by decide +kernel

theorem not_timedJoinBoundedFull : ¬ TimedJoinBoundedFull := by
  intro h
  have := h [.ctl] (by decide)
  revert this
  decide +kernel

/-- …and there it stays for as long as the user procedure does not return (no stop was signalled, a 50 ms
    timeout notwithstanding): whatever else is scheduled, the join does not come back -/
theorem join_hangs (acts : List WAct) (h : ∀ a ∈ acts, a ≠ .thread true) :
    ((joinEarly.run [.ctl]).run acts).pc = .pjoin := by
  -- stable as long as the procedure does not return: in `pthread_join`, create finished, thread alive
  refine (List.foldlRecOn acts WSys.step
    (motive := fun s => s.pc = .pjoin ∧ s.creator = [] ∧ (s.w.th = .spawned ∨ s.w.th = .inproc))
    (by decide) fun s ⟨hp, hcr, hth⟩ a ha => ?_).1
  obtain ⟨w, creator, t, pc, work⟩ := s
  dsimp only at hp hcr hth
  subst hp hcr
  cases a with
  | creator => exact ⟨rfl, rfl, hth⟩
  | stop => exact ⟨rfl, rfl, hth⟩
  | thread b =>
    cases b with
    | true => exact absurd rfl (h _ ha)
    | false => exact ⟨rfl, rfl, by rcases hth with e | e <;> simp [WSys.step, Wk.threadStep, e]⟩
  | ctl =>
    have hne : w.th ≠ .exited := by rcases hth with e | e <;> rw [e] <;> nofun
    have : WSys.step ⟨w, [], t, .pjoin, work⟩ .ctl = ⟨w, [], t, .pjoin, work⟩ := by
      simp [WSys.step, Wk.joinStep, hne]
    rw [this]
    exact ⟨rfl, rfl, hth⟩

end NV.C19.Old

/-! ## `async_worker_create` with its RUNNING store BEHIND the `pthread_create` call -/

namespace NV.C19.LateStore

def prog : List CrAct := [.spawn, .store .running]

/-- the creator starts the thread and is preempted; the short-lived worker runs to its end (stores RUNNING, its
    procedure returns, stores STOPPED, exits); then the creator's store arrives -/
def pre : List WAct := [.creator, .thread true, .thread true, .thread true, .thread true, .creator]

/-- witness: the thread is gone, the state says RUNNING -/
theorem state_stuck_running :
    (WSys.startWith prog 50 pre).w.th = .exited ∧ (WSys.startWith prog 50 pre).w.state = .running ∧
    (WSys.startWith prog 50 pre).creator = [] := by decide +kernel

/-- …for ever: nobody is left to store anything -/
theorem stuck_forever (acts : List WAct) : ((WSys.startWith prog 50 pre).run acts).w.state = .running := by
  -- stable: create finished, thread gone, state RUNNING — nobody is left to store anything
  refine (List.foldlRecOn acts WSys.step
    (motive := fun s => s.creator = [] ∧ s.w.th = .exited ∧ s.w.state = .running)
    (by decide) fun s ⟨hc, hth, hst⟩ a _ => ?_).2.2
  obtain ⟨w, creator, t, pc, work⟩ := s
  dsimp only at hc hth hst
  subst hc
  cases a with
  | creator => exact ⟨rfl, hth, hst⟩
  | stop => exact ⟨rfl, hth, hst⟩
  | thread b => exact ⟨rfl, by simp [WSys.step, Wk.threadStep, hth], by simp [WSys.step, Wk.threadStep, hth, hst]⟩
  | ctl =>
    dsimp only [WSys.step]
    split
    · exact ⟨rfl, hth, hst⟩
    · split
      · exact ⟨rfl, hth, hst⟩
      · split <;> exact ⟨rfl, hth, hst⟩

/-- so a timed join on the finished worker runs to its timeout and returns false -/
theorem join_times_out :
    ((WSys.startWith prog 50 pre).run [.ctl, .ctl, .ctl, .ctl, .ctl, .ctl]).pc = .done false := by decide +kernel

/-- the full statement (`state_eventually_stopped_after_proc_returns`) is false for this order -/
theorem not_stateStopped :
    ¬ (∀ (t : Nat) (pre acts : List WAct),
        (((WSys.startWith prog t pre).run acts).w.th = .stored ∨ ((WSys.startWith prog t pre).run acts).w.th = .exited) →
        ((WSys.startWith prog t pre).run acts).w.state = .stopped) := by
  intro h
  have := h 50 pre [] (by decide)
  revert this
  decide +kernel

end NV.C19.LateStore

/-! ## the "optimised" order inside `async_runtime_wait`: drain the ring first, reset the doorbell afterwards -/

namespace NV.C19.Swapped

/-- two producers, the backend makes two waits; scheduler choices: 0, 1 = producers, 2 = backend -/
def sys : RtSys := RtSys.init [[.post 1 1], [.post 2 2]] [8, 8] .ringFirst

/-- producer 0 posts (push, ring); the backend wakes up, takes the ring (emptied), unlocks; NOW producer 1 posts
    (push, ring); the backend resets the doorbell -/
def picks : List Nat := [0, 0, 2, 2, 2, 1, 1, 2]

/-- witness: every post has returned, the second completion sits in the ring, the doorbell counter is 0 -/
theorem wakeup_erased :
    (sys.run picks).cph = .idle ∧ (sys.run picks).rt = { bell := 0, ring := [(2, 2)] } ∧
    (sys.run picks).prods = [{ todo := [] }, { todo := [] }] := by decide +kernel

/-- …so the next wait goes to sleep (returns nothing) although a completion was posted before it was called,
    and nothing will wake it until something unrelated rings the doorbell -/
theorem next_wait_sleeps :
    (sys.run (picks ++ [2])).delivered = [[(1, 1)], []] ∧ (sys.run (picks ++ [2])).rt.ring = [(2, 2)] := by decide +kernel

/-- the full statement is false for this order -/
theorem not_noLostWakeup : ¬ NoLostWakeupRing := by
  intro h
  have := h [[.post 1 1], [.post 2 2]] [8, 8] picks (by decide) (by decide)
  revert this
  decide +kernel

end NV.C19.Swapped
