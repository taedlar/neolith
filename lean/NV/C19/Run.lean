/-
C19 — sequentialised schedules: every command is ONE real call made by the controlling thread of
harness/c19/c19.c (the worker thread is moved by explicit `wrelease` / `wstep` / `wquit` commands through the
H4 yield points).  `stepE` is the composition of the atomic actions of NV/C19/Model.lean.
-/
import NV.C19.Model

namespace NV.C19

inductive JoinRes | rc0 | rc1 | overran
  deriving Repr, DecidableEq

inductive TickCls | some | none | ambiguous
  deriving Repr, DecidableEq

/-- observable events = canonical output lines of the harness -/
inductive Ev
  | post (p k d : Nat) (rc : Int)
  | wakeup (rc : Int)
  | wait (max : Nat) (evs : List Item)
  | wbegin (max : Nat)                          -- a wait has started and is parked in front of its doorbell read
  | wread                                      -- that wait has read (reset) the doorbell
  | qnew (cap maxMsg flags : Nat) (ok : Bool)
  | enq (m : Msg) (r : EnqRes)
  | unblocked (p v : Nat)
  | deq (buf : Nat) (r : DeqRes)
  | qstat (size enq deq drop head tail : Nat) (empty full : Bool)
  | qclear
  | wnew (w : Nat) (finished : Bool)             -- finished: the new thread has already run to its end (race mode)
  | wstate (w : Nat) (s : WState)
  | wrelease (w : Nat) (did : Bool)
  | wstep (w : Nat) (r : Option Bool)          -- none = noop, some true = exited, some false = still running
  | wquit (w : Nat) (did : Bool)
  | wstop (w : Nat)
  | wjoin (w : Nat) (t : Int) (r : JoinRes) (sleeps : Nat)   -- sleeps = nanosleep(10 ms) calls made by the join
  | wdestroy (w : Nat) (did : Bool)
  | tinit (rc : Int)
  | tstart (ms : Nat) (rc : Int)
  | tstop (rc : Int) (within : Bool)
  | tactive (b : Bool)
  | tticks (c : TickCls)
  | tafter (n : Nat)
  | tsleep (ms : Nat)
  | tcleanup
  | mt (kind : String) (ok : Bool) (detail : String)
  | hbrace (ms : Nat) (ticked : Bool)          -- real timer callback vs real call_heart_beat (TSan run)
  | hbowed (kept : Bool)                       -- a tick arriving inside call_heart_beat is still owed when it returns
  | race (what : String)                      -- ThreadSanitizer report (runtime part)
  | skip (why : String)
  deriving Repr, DecidableEq

/-- how the new worker thread is scheduled relative to its creator -/
inductive NewMode
  | hold     -- parked at hook point 1 (has not stored RUNNING)
  | run      -- runs into the scripted procedure and parks there
  | race     -- a procedure that returns at once; the thread runs to its END inside the creator's pthread_create call
  deriving Repr, DecidableEq

inductive Cmd
  | post (p k d : Nat)
  | wakeup
  | wait (max : Nat)
  | wbegin (max : Nat) | wread | wend          -- one wait, step by step (other calls may come in between)
  | qnew (cap maxMsg flags : Nat)
  | enq (p v size : Nat)
  | deq (buf : Nat)
  | qstat
  | qclear
  | wnew (w : Nat) (mode : NewMode)
  | wstate (w : Nat)
  | wrelease (w : Nat)
  | wstep (w : Nat)
  | wquit (w : Nat)
  | wstop (w : Nat)
  | wjoin (w : Nat) (t : Int)
  | wdestroy (w : Nat)
  | tinit | tstart (ms : Nat) | tstop | tactive | tsleep (ms : Nat) | tticks | tafter | tcleanup
  | mt (kind : String) (args : List Nat)
  | hbrace (ms : Nat)
  | hbowed
  deriving Repr

/-! ### timed join as a little machine of the controlling thread -/

inductive JoinPc
  | loop (elapsed : Nat)     -- at the `while` test
  | pjoin                    -- inside the untimed pthread_join
  | done (rc : Bool)
  deriving Repr, DecidableEq

/-- one atomic step of `async_worker_join(w, t)` for `t ≥ 0`; `none` = blocked (pthread_join on a live thread) -/
def Wk.joinStep (w : Wk) (t : Nat) : JoinPc → Option JoinPc
  | .loop e =>
    if w.state ≠ .stopped ∧ e < t then some (.loop (e + pollMs))     -- nanosleep(10 ms); elapsed += 10
    else if w.state = .stopped then some .pjoin
    else some (.done false)
  | .pjoin => if w.th = .exited then some (.done true) else none
  | .done r => some (.done r)

/-- run the join alone (no other thread moves), `fuel` steps; second component = number of 10 ms sleeps made -/
def Wk.joinAlone (w : Wk) (t : Nat) : Nat → JoinPc → Nat → JoinRes × Nat
  | 0, _, sl => (.overran, sl)
  | fuel + 1, pc, sl =>
    match pc with
    | .done true => (.rc1, sl)
    | .done false => (.rc0, sl)
    | _ => match w.joinStep t pc with
      | none => (.overran, sl)
      | some pc' => w.joinAlone t fuel pc' (match pc' with | .loop _ => sl + 1 | _ => sl)

/-- untimed `pthread_join`: returns only when the thread has exited -/
def Wk.joinUntimed (w : Wk) : Option JoinRes := if w.th = .exited then some .rc1 else none

/-- let the worker thread run until it is parked again (harness semantics of release / step / quit) -/
def Wk.runToExit (w : Wk) : Wk :=
  ((w.threadStep true).threadStep true).threadStep true

/-- where the (only) thread inside a step-by-step `async_runtime_wait` is parked -/
inductive SeqPhase
  | idle
  | polled (max : Nat)       -- epoll_wait returned, doorbell not read yet
  | drained (max : Nat)      -- doorbell read, ring not taken yet
  deriving Repr, DecidableEq

structure World where
  rt : Rt := {}
  cons : SeqPhase := .idle
  q : Option Q := none
  blocked : Option Msg := none
  ws : List (Nat × Wk) := []
  tm : Tm := {}
  sleptActive : Nat := 0

def World.getW (s : World) (w : Nat) : Option Wk := (s.ws.find? (·.1 == w)).map (·.2)
def World.setW (s : World) (w : Nat) (k : Wk) : World :=
  { s with ws := (w, k) :: s.ws.filter (·.1 != w) }

/-- one command: new state and the events it produces (oldest first) -/
def stepE (s : World) : Cmd → World × List Ev
  | .post p k d => ({ s with rt := (s.rt.post (k, d)).1 }, [.post p k d (s.rt.post (k, d)).2])
  | .wakeup => ({ s with rt := s.rt.ringBell }, [.wakeup 0])
  | .wait max =>
    if max = 0 then (s, [.skip "wait-max-0"])
    else if s.cons ≠ .idle then (s, [.skip "wait-in-progress"])
    else ({ s with rt := (s.rt.wait max).1 }, [.wait max (s.rt.wait max).2])
  | .wbegin max =>
    if max = 0 then (s, [.skip "wait-max-0"])
    else if s.cons ≠ .idle then (s, [.skip "wait-in-progress"])
    else if s.rt.poll then ({ s with cons := .polled max }, [.wbegin max])
    else (s, [.wait max []])                                   -- epoll_wait(timeout 0): nothing readable
  | .wread =>
    match s.cons with
    | .polled m => ({ s with rt := s.rt.drain, cons := .drained m }, [.wread])
    | _ => (s, [.skip "no-wait-parked"])
  | .wend =>
    match s.cons with
    | .drained m => ({ s with rt := (s.rt.pop m).1, cons := .idle }, [.wait m (s.rt.pop m).2])
    | _ => (s, [.skip "no-wait-parked"])
  | .qnew cap mm fl =>
    match s.q with
    | some _ => (s, [.skip "queue-exists"])
    | none => ({ s with q := Q.create cap mm fl }, [.qnew cap mm fl (Q.create cap mm fl).isSome])
  | .enq p v size =>
    match s.q, s.blocked with
    | none, _ => (s, [.skip "no-queue"])
    | some _, some _ => (s, [.skip "writer-already-blocked"])
    | some q, none =>
      let m : Msg := ⟨p, v, size⟩
      ({ s with q := some (q.enqueue m).1, blocked := if (q.enqueue m).2 = .blocked then some m else none },
       [.enq m (q.enqueue m).2])
  | .deq buf =>
    match s.q with
    | none => (s, [.skip "no-queue"])
    | some q =>
      -- a successful dequeue sets `not_full`: the blocked writer wakes up and retries
      match (q.dequeue buf).2, s.blocked with
      | .msg x, some m =>
        if ((q.dequeue buf).1.enqueue m).2 = .ok then
          ({ s with q := some ((q.dequeue buf).1.enqueue m).1, blocked := none }, [.deq buf (.msg x), .unblocked m.p m.v])
        else ({ s with q := some (q.dequeue buf).1 }, [.deq buf (.msg x)])
      | r, _ => ({ s with q := some (q.dequeue buf).1 }, [.deq buf r])
  | .qstat =>
    match s.q with
    | none => (s, [.skip "no-queue"])
    | some q => (s, [.qstat q.count q.enqCount q.deqCount q.dropCount q.head q.tail (q.count == 0) (q.count ≥ q.cap)])
  | .qclear =>
    match s.q, s.blocked with
    | none, _ => (s, [.skip "no-queue"])
    | some q, some m =>
      -- `async_queue_clear` sets `not_full` (Gen.C19.clearSignalsNotFull): the writer asleep on the full queue wakes
      -- up, finds room and pushes its message
      if clearSignals = true ∧ (q.clear.enqueue m).2 = .ok then
        ({ s with q := some (q.clear.enqueue m).1, blocked := none }, [.qclear, .unblocked m.p m.v])
      else ({ s with q := some q.clear }, [.qclear])
    | some q, none => ({ s with q := some q.clear }, [.qclear])
  | .wnew w mode =>
    match s.getW w with
    | some _ => (s, [.skip "worker-exists"])
    | none => (s.setW w (match mode with
        | .hold => Wk.create
        | .run => Wk.create.threadStep false
        | .race => Wk.createSeq true createProg {}), [.wnew w (decide (mode = .race))])
  | .wstate w =>
    match s.getW w with
    | some k => if k.destroyed then (s, [.skip "destroyed"]) else (s, [.wstate w k.state])
    | none => (s, [.skip "no-worker"])
  | .wrelease w =>
    match s.getW w with
    | some k =>
      if k.th = .spawned then (s.setW w (k.threadStep false), [.wrelease w true]) else (s, [.wrelease w false])
    | none => (s, [.skip "no-worker"])
  | .wstep w =>
    match s.getW w with
    | some k =>
      if k.th = .inproc then
        -- the scripted procedure polls async_worker_should_stop once
        if k.stopEv then (s.setW w k.runToExit, [.wstep w (some true)]) else (s, [.wstep w (some false)])
      else (s, [.wstep w none])
    | none => (s, [.skip "no-worker"])
  | .wquit w =>
    match s.getW w with
    | some k =>
      if k.th = .inproc then (s.setW w k.runToExit, [.wquit w true]) else (s, [.wquit w false])
    | none => (s, [.skip "no-worker"])
  | .wstop w =>
    match s.getW w with
    | some k => if k.destroyed then (s, [.skip "destroyed"]) else (s.setW w k.signalStop, [.wstop w])
    | none => (s, [.skip "no-worker"])
  | .wjoin w t =>
    match s.getW w with
    | some k =>
      if k.joined then (s, [.skip "already-joined"])
      else if t < 0 then
        match k.joinUntimed with
        | some r => (s.setW w { k with joined := true }, [.wjoin w t r 0])
        | none => (s, [.skip "untimed-join-on-live-thread"])
      else
        let r := k.joinAlone t.toNat (sleepsFor t.toNat + 3) (.loop 0) 0
        (s.setW w { k with joined := decide (r.1 = .rc1) }, [.wjoin w t r.1 r.2])
    | none => (s, [.skip "no-worker"])
  | .wdestroy w =>
    match s.getW w with
    | some k =>
      if k.destroyed then (s, [.skip "destroyed"])
      else if k.joined then (s.setW w { k with destroyed := true }, [.wdestroy w true])
      else (s, [.wdestroy w false])
    | none => (s, [.skip "no-worker"])
  | .tinit =>
    if s.tm.inited then (s, [.skip "timer-inited"]) else ({ s with tm := { inited := true } }, [.tinit timerOk])
  | .tstart ms =>
    if !s.tm.inited then (s, [.tstart ms timerErrNull])
    else if ms = 0 then (s, [.tstart ms timerErrInterval])
    else if s.tm.active then (s, [.tstart ms timerErrActive])
    else ({ s with tm := { s.tm with active := true, stopReq := false, hasThread := true, interval := ms },
                   sleptActive := 0 }, [.tstart ms timerOk])
  | .tstop =>
    if !s.tm.inited then (s, [.tstop timerErrNull true])
    else ({ s with tm := { s.tm with active := false, stopReq := s.tm.stopReq || s.tm.active, hasThread := false },
                   sleptActive := 0 }, [.tstop timerOk true])
  | .tactive => (s, [.tactive (s.tm.inited && s.tm.active)])
  | .tsleep ms => (if s.tm.active then { s with sleptActive := s.sleptActive + ms } else s, [.tsleep ms])
  | .tticks =>
    ({ s with sleptActive := 0 },
     [.tticks (if !s.tm.active ∨ s.sleptActive = 0 then TickCls.none
               else if s.sleptActive ≥ 10 * s.tm.interval then TickCls.some else TickCls.ambiguous)])
  | .tafter => if s.tm.active then (s, [.skip "timer-active"]) else (s, [.tafter 0])
  | .tcleanup =>
    if !s.tm.inited then (s, [.skip "timer-not-inited"])
    else ({ s with tm := {}, sleptActive := 0 }, [.tcleanup])
  | .mt kind _ => (s, [.mt kind true ""])
  | .hbrace ms => (s, [.hbrace ms true])
  -- `call_heart_beat` clears the flag FIRST (Gen.C19.hbClearsFlagFirst): a tick inside the round survives it
  | .hbowed => (s, [.hbowed Gen.C19.hbClearsFlagFirst])

/-- run a command list: final state and all events, oldest first -/
def runE : World → List Cmd → World × List Ev
  | s, [] => (s, [])
  | s, c :: rest => ((runE (stepE s c).1 rest).1, (stepE s c).2 ++ (runE (stepE s c).1 rest).2)

def events (cmds : List Cmd) : List Ev := (runE {} cmds).2

/-! ### canonical text -/

def renderItems (l : List Item) : String :=
  String.intercalate " " (l.map fun (k, d) => s!"{k}:{d}")

def render : Ev → String
  | .post p k d rc => s!"post {p} {k} {d} {rc}"
  | .wakeup rc => s!"wakeup {rc}"
  | .wait max evs => (s!"wait {max} {evs.length} " ++ renderItems evs).trimAsciiEnd.toString
  | .wbegin max => s!"wbegin {max} parked"
  | .wread => "wread"
  | .qnew c m f ok => s!"qnew {c} {m} {f} {if ok then "ok" else "null"}"
  | .enq m r => s!"enq {m.p} {m.v} {m.size} " ++ (match r with | .ok => "ok" | .fail => "fail" | .blocked => "blocked" | .crash => "crash")
  | .unblocked p v => s!"unblocked {p} {v}"
  | .deq b r => s!"deq {b} " ++ (match r with | .none => "none" | .msg m => s!"{m.p} {m.v} {m.size}" | .crash => "crash")
  | .qstat a b c d h t e f => s!"qstat {a} {b} {c} {d} {h} {t} {if e then 1 else 0} {if f then 1 else 0}"
  | .qclear => "qclear"
  | .wnew w fin => s!"wnew {w} {if fin then "finished" else "ok"}"
  | .wstate w st => s!"wstate {w} " ++ (match st with | .stopped => "STOPPED" | .running => "RUNNING")
  | .wrelease w d => s!"wrelease {w} {if d then "ok" else "noop"}"
  | .wstep w r => s!"wstep {w} " ++ (match r with | none => "noop" | some true => "exited" | some false => "running")
  | .wquit w d => s!"wquit {w} {if d then "exited" else "noop"}"
  | .wstop w => s!"wstop {w}"
  | .wjoin w t r sl => s!"wjoin {w} {t} " ++ (match r with | .rc0 => "0" | .rc1 => "1" | .overran => "overran") ++ s!" {sl}"
  | .wdestroy w d => s!"wdestroy {w} {if d then "ok" else "refused"}"
  | .tinit rc => s!"tinit {rc}"
  | .tstart ms rc => s!"tstart {ms} {rc}"
  | .tstop rc w => s!"tstop {rc} {if w then "within" else "overran"}"
  | .tactive b => s!"tactive {if b then 1 else 0}"
  | .tticks c => "tticks " ++ (match c with | .some => "some" | .none => "none" | .ambiguous => "ambiguous")
  | .tafter n => s!"tafter {n}"
  | .tsleep ms => s!"tsleep {ms}"
  | .tcleanup => "tcleanup"
  | .mt k ok d => (s!"mt {k} {if ok then "ok" else "bad"} {d}").trimAsciiEnd.toString
  | .hbrace ms t => s!"hbrace {ms} {if t then "done" else "no-tick"}"
  | .hbowed k => s!"hbowed {if k then "kept" else "swallowed"}"
  | .race w => s!"race {w}"
  | .skip w => s!"skip {w}"

end NV.C19
