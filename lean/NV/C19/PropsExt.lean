/-
C19 — property theorems about the poll back end, several blocked writers and `clear` (`BSys`, Blocked.lean), the console
worker loop and the heart-beat flag (`CSys`, `HbSys`, Shutdown.lean), and the bridging lemmas for the operators and
statement orders the translator reads out of those sources.  As in Props.lean every theorem quantifies over ALL
schedules (arbitrary lists of scheduler choices).  The namespaces `ClearOld` and `HbOld` hold the counterexamples for
`async_queue_clear` as it was and for the two wrong orders of the heart-beat protocol.
-/
import NV.C19.LemmasRt
import NV.C19.LemmasB
import NV.C19.Shutdown

namespace NV.C19

/-! ## translator ties (each one is a registered obligation: a changed C line breaks the lemma) -/

/-- lib/async/async_runtime_poll.c is the same machine as the epoll back end: same ring size, doorbell read before
    the lock, re-arm under the lock, push before doorbell write, nothing but doorbell bytes in the pipe.  So `Rt`
    (Model.lean) and every theorem about it hold for both; the check runs both back ends against the one model. -/
theorem poll_backend_eq :
    Gen.C19.pollCompletionRingSize = Gen.C19.completionRingSize ∧ Gen.C19.pollWaitOrder = true ∧
    Gen.C19.pollPostOrder = true ∧ Gen.C19.pollPipeIsDoorbellOnly = true := ⟨rfl, rfl, rfl, rfl⟩

/-- `Rt.push` tests `length ≥ ringSize`; `Rt.rearm` rings iff entries remain; `Rt.take` copies up to `max` -/
theorem ring_shape_eq :
    Gen.C19.ringFullOp = ">=" ∧ Gen.C19.waitRearmsWhenEntriesRemain = true ∧ Gen.C19.waitTakesUpToMax = true :=
  ⟨rfl, rfl, rfl⟩

/-- the comparisons, the precedence of the overflow policies and the index arithmetic `Q.enqueue` / `Q.dequeue`
    mirror, and the level-triggered auto-reset event `BSys.signaled` mirrors -/
theorem queue_shape_eq :
    Gen.C19.enqFullOp = ">=" ∧ Gen.C19.enqSizeOps = ("==", ">") ∧ Gen.C19.deqShortOp = ">" ∧
    Gen.C19.enqDropBeforeBlock = true ∧ Gen.C19.enqWritesAtHead = true ∧ Gen.C19.deqReadsAtTail = true ∧
    Gen.C19.deqAlwaysSignals = true ∧ Gen.C19.eventIsLevelTriggered = true :=
  ⟨rfl, rfl, rfl, rfl, rfl, rfl, rfl, rfl⟩

/-- `async_queue_clear` releases blocked writers (after the `fix:` commit) -/
theorem clear_signals_eq : clearSignals = true := rfl

theorem console_loop_eq :
    Gen.C19.consoleLoopOrder = true ∧ Gen.C19.consoleLoopExits = true ∧ Gen.C19.consoleShutdownOrder = true ∧
    0 < Gen.C19.consoleSelectTimeoutUs := ⟨rfl, rfl, rfl, by decide⟩

/-- src/comm.c creates the console line queue with DROP_OLDEST: the worker's enqueue can never sleep -/
theorem console_queue_drops_oldest : Gen.C19.consoleQueueFlags &&& flagDropOldest ≠ 0 := by decide

/-- `Wk.joinStep`: sleep while `state ≠ stopped ∧ elapsed < t`; afterwards `pthread_join` only when the state is STOPPED -/
theorem join_loop_eq : Gen.C19.joinLoopOps = ("!=", "<") ∧ Gen.C19.joinJoinsOnlyWhenStopped = true := ⟨rfl, rfl⟩

theorem timer_order_eq : Gen.C19.timerLoopOrder = true ∧ Gen.C19.timerStopOrder = true := ⟨rfl, rfl⟩

theorem hb_protocol_eq :
    Gen.C19.hbFlagAtomicOnly = true ∧ Gen.C19.hbClearsFlagFirst = true ∧ Gen.C19.hbStoresBeforeWakeup = true :=
  ⟨rfl, rfl, rfl⟩

/-! ## the doorbell carries one bit -/

/-- two runtime states that differ only in HOW OFTEN the doorbell was rung -/
structure BellEq (a b : Rt) : Prop where
  ring : a.ring = b.ring
  bell : a.bell > 0 ↔ b.bell > 0

/-- **Only "rung or not" matters.**  The eventfd counter adds every write, the pipe of the poll back end holds one
byte per write and saturates when it is full (`EAGAIN` = already rung), a model could keep one Boolean: every
operation of `Rt` returns the same result on states that agree on "rung or not", and keeps them agreeing.  (This is
why one model serves both back ends, and why a saturated doorbell loses nothing.) -/
theorem bell_value_irrelevant (a b : Rt) (h : BellEq a b) (it : Item) (max : Nat) :
    (a.push it).2 = (b.push it).2 ∧ BellEq (a.push it).1 (b.push it).1 ∧
    BellEq a.ringBell b.ringBell ∧ a.poll = b.poll ∧ BellEq a.drain b.drain ∧
    (a.post it).2 = (b.post it).2 ∧ BellEq (a.post it).1 (b.post it).1 ∧
    (a.wait max).2 = (b.wait max).2 ∧ BellEq (a.wait max).1 (b.wait max).1 := by
  obtain ⟨hr, hb⟩ := h
  have hpoll : a.poll = b.poll := decide_eq_decide.mpr hb
  have hrung : ∀ x y : Nat, x + 1 > 0 ↔ y + 1 > 0 := fun x y => ⟨fun _ => Nat.succ_pos y, fun _ => Nat.succ_pos x⟩
  -- the locked section of a wait looks at the ring only; it leaves the doorbell as it was or rings it
  have hpop : (a.drain.pop max).2 = (b.drain.pop max).2 ∧ BellEq (a.drain.pop max).1 (b.drain.pop max).1 := by
    refine ⟨congrArg (·.take max) hr, congrArg (·.drop max) hr, ?_⟩
    show (if (a.ring.drop max).isEmpty then 0 else 0 + 1) > 0 ↔ (if (b.ring.drop max).isEmpty then 0 else 0 + 1) > 0
    rw [hr]
  have hwait : (a.wait max).2 = (b.wait max).2 ∧ BellEq (a.wait max).1 (b.wait max).1 := by
    unfold Rt.wait
    rw [hpoll]
    split
    · exact hpop
    · exact ⟨rfl, hr, hb⟩
  by_cases hfull : a.ring.length ≥ ringSize
  · have hfb : b.ring.length ≥ ringSize := hr ▸ hfull
    rw [Rt.push_full it hfull, Rt.push_full it hfb, Rt.post_full it hfull, Rt.post_full it hfb]
    exact ⟨rfl, ⟨hr, hb⟩, ⟨hr, hrung _ _⟩, hpoll, ⟨hr, Iff.rfl⟩, rfl, ⟨hr, hb⟩, hwait⟩
  · have hfb : ¬ b.ring.length ≥ ringSize := hr ▸ hfull
    rw [Rt.push_room it hfull, Rt.push_room it hfb, Rt.post_room it hfull, Rt.post_room it hfb]
    exact ⟨rfl, ⟨congrArg (· ++ [it]) hr, hb⟩, ⟨hr, hrung _ _⟩, hpoll, ⟨hr, Iff.rfl⟩, rfl,
      ⟨congrArg (· ++ [it]) hr, hrung _ _⟩, hwait⟩

example : BellEq { bell := 1, ring := [(1, 2)] } { bell := 65536, ring := [(1, 2)] } := ⟨rfl, by decide⟩

/-! ## several blocked writers, clear while producers are blocked -/

/-- **Exactly once, FIFO, with any number of writers asleep on a full queue and `clear` at any moment.**
For a queue from `async_queue_create`, any producer programs and every interleaving of the writers' atomic steps
(locked test + push, sleep on `not_full`, wake-up, locked re-test) with dequeues and clears of the consumer: no slot
index leaves the buffer, and the messages that left (dequeued, dropped, cleared) followed by those still queued are
exactly the accepted ones in acceptance order.  Holds whether or not `clear` signals. -/
theorem blocked_writers_fifo_exactly_once (cs : Bool) (cap mm fl : Nat) (q : Q) (hq : Q.create cap mm fl = some q)
    (progs : List (List Msg)) (acts : List BAct) :
    let s := (BSys.init cs q progs).run acts
    s.crashed = false ∧ s.q.head < cap ∧ s.q.tail < cap ∧ s.q.count ≤ cap ∧
    s.gone ++ s.q.contents = s.accepted := by
  intro s
  have hg := BSys.good_created cs hq progs acts
  have hcap := BSys.cap_created cs hq progs acts
  exact ⟨hg.nocrash, hcap ▸ hg.inv.head_lt, hcap ▸ hg.inv.tail_lt, hcap ▸ hg.inv.count_le, hg.fifo⟩

/-- **No writer is left asleep on an empty queue.**  With `async_queue_clear` as the source has it
(`clearSignals`, regenerated): in every reachable state in which some writer sleeps on `not_full` and the queue is
EMPTY, the event is set (the sleeper's wait returns) or a woken writer is on its way to push.  A consumer that
drains the queue therefore always gets the producers going again; a merely non-full queue may keep a second sleeper
waiting until the next dequeue (auto-reset event: one release per dequeue) — delayed, never stranded. -/
theorem no_writer_left_asleep (cap mm fl : Nat) (q : Q) (hq : Q.create cap mm fl = some q)
    (progs : List (List Msg)) (acts : List BAct) :
    let s := (BSys.init clearSignals q progs).run acts
    s.someAt .waiting → s.q.count = 0 → s.signaled = true ∨ s.someAt .woken := by
  intro s
  exact (BSys.good_created clearSignals hq progs acts).live
    ((BSys.clearSignals_created clearSignals hq progs acts).trans clear_signals_eq)

/-- …and the sleeper's next step does wake it -/
theorem waiting_writer_wakes (s : BSys) (i : Nat) (w : BW) (hw : s.ws[i]? = some w) (hp : w.pc = .waiting)
    (hs : s.signaled = true) :
    (s.step (.writer i)).ws[i]? = some { w with pc := .woken } ∧ (s.step (.writer i)).signaled = false := by
  simp only [BSys.step, BSys.writerStep, hw, hp, hs, if_true]
  exact ⟨getElem?_set_self_of_some _ _ _ _ hw, trivial⟩

/-- a woken writer that finds room pushes its message (it never takes a `return false` exit: the size was tested
    before the loop) -/
theorem woken_writer_pushes (s : BSys) (h : s.Good) (i : Nat) (w : BW) (hw : s.ws[i]? = some w) (hp : w.pc = .woken)
    (hroom : s.q.count < s.q.cap) : (s.step (.writer i)).accepted.length = s.accepted.length + 1 := by
  obtain ⟨_, _, m, rest, htodo, hv⟩ := h.pend i w hw (by rw [hp]; decide)
  simp [BSys.step, BSys.writerStep, hw, hp, htodo, Q.enqueue_room h.inv hv hroom]

/-- **A drained queue gets a sleeping producer going again.**  In every reachable state (clear as the source has it)
with an EMPTY queue, a writer asleep on `not_full` and no writer already on its way: that writer's next two steps are
its wake-up and the push of its message — it does not have to wait for anybody. -/
theorem drained_queue_releases_a_writer (cap mm fl : Nat) (q : Q) (hq : Q.create cap mm fl = some q)
    (progs : List (List Msg)) (acts : List BAct) (i : Nat) (w : BW) :
    let s := (BSys.init clearSignals q progs).run acts
    s.q.count = 0 → s.ws[i]? = some w → w.pc = .waiting → ¬ s.someAt .woken →
    ((s.step (.writer i)).step (.writer i)).accepted.length = s.accepted.length + 1 := by
  intro s h0 hw hp hnw
  have hg := BSys.good_created clearSignals hq progs acts
  have hcs := BSys.clearSignals_created clearSignals hq progs acts
  have hsig : s.signaled = true := by
    rcases hg.live (hcs.trans clear_signals_eq) ⟨i, w, hw, hp⟩ h0 with h | h
    · exact h
    · exact absurd h hnw
  obtain ⟨hw1, _⟩ := waiting_writer_wakes s i w hw hp hsig
  have hg1 := (BSys.step_keeps s (.writer i) hg).good
  have hq1 : (s.step (.writer i)).q = s.q := by
    simp only [BSys.step, BSys.writerStep, hw, hp, hsig, if_true]
  have hacc : (s.step (.writer i)).accepted = s.accepted := by
    simp only [BSys.step, BSys.writerStep, hw, hp, hsig, if_true]
  have hroom : (s.step (.writer i)).q.count < (s.step (.writer i)).q.cap := by
    rw [hq1, h0]; exact hg.inv.cap_pos
  rw [woken_writer_pushes _ hg1 i _ hw1 rfl hroom, hacc]

-- non-vacuity: two writers asleep on a full queue of capacity 1, the consumer clears: the event is set
example :
    let q : Q := { cap := 1, maxMsg := 8, flags := flagBlockWriter, slots := [⟨0, 0, 0⟩] }
    let s := (BSys.init true q [[⟨1, 1, 8⟩], [⟨2, 1, 8⟩], [⟨3, 1, 8⟩]]).run [.writer 0, .writer 1, .writer 2, .clear]
    s.someAt .waiting ∧ s.q.count = 0 ∧ s.signaled = true := by
  refine ⟨⟨1, _, rfl, rfl⟩, rfl, rfl⟩

namespace ClearOld

/-- `async_queue_clear` AS IT WAS (no `platform_event_set`): capacity 1, writer 0 fills the queue, writer 1 falls
    asleep on `not_full`, the consumer clears -/
def q0 : Q := { cap := 1, maxMsg := 8, flags := flagBlockWriter, slots := [⟨0, 0, 0⟩] }
def stuck : BSys := (BSys.init false q0 [[⟨1, 1, 8⟩], [⟨2, 1, 8⟩]]).run [.writer 0, .writer 1, .clear]

/-- the full statement on the old code -/
def NoWriterLeftAsleepFull : Prop :=
  ∀ acts : List BAct,
    let s := (BSys.init false q0 [[⟨1, 1, 8⟩], [⟨2, 1, 8⟩]]).run acts
    s.someAt .waiting → s.q.count = 0 → s.signaled = true ∨ s.someAt .woken

/-- witness: the queue is empty, writer 1 sleeps, the event is not set, nobody is on the way -/
theorem writer_left_asleep :
    stuck.q.count = 0 ∧ stuck.ws[1]? = some { todo := [⟨2, 1, 8⟩], pc := .waiting } ∧ stuck.signaled = false ∧
    stuck.ws[0]? = some { todo := [], pc := .start } := by
  refine ⟨rfl, rfl, rfl, rfl⟩

theorem not_noWriterLeftAsleepFull : ¬ NoWriterLeftAsleepFull := by
  intro h
  have := h [.writer 0, .writer 1, .clear] ⟨1, _, rfl, rfl⟩ rfl
  rcases this with h1 | ⟨j, w, hj, hp⟩
  · cases h1
  · match j, hj with
    | 0, hj => cases hj; cases hp
    | 1, hj => cases hj; cases hp
    | n + 2, hj => cases hj

/-- …and it stays asleep: whatever the writers and a dequeuing consumer do afterwards, nothing changes (every dequeue
    finds the queue empty and sets nothing) — until somebody else enqueues, which nobody is left to do -/
theorem stays_asleep (acts : List BAct) (h : ∀ a ∈ acts, a ≠ .clear) : (stuck.run acts).ws = stuck.ws ∧
    (stuck.run acts).signaled = false ∧ (stuck.run acts).q.count = 0 := by
  have hfix : ∀ a, a ≠ .clear → stuck.step a = stuck := by
    intro a ha
    cases a with
    | clear => exact absurd rfl ha
    | deq buf => rfl
    | writer i =>
      match i with
      | 0 => rfl
      | 1 => rfl
      | n + 2 => rfl
  have : stuck.run acts = stuck :=
    List.foldlRecOn acts BSys.step (motive := (· = stuck)) rfl fun s hs a ha => by rw [hs]; exact hfix a (h a ha)
  rw [this]
  exact ⟨rfl, rfl, rfl⟩

end ClearOld

/-- DROP_OLDEST is tested first: an enqueue on such a queue never sleeps -/
theorem drop_oldest_never_blocks (q : Q) (m : Msg) (h : q.dropOldest = true) : (q.enqueue m).2 ≠ .blocked := by
  unfold Q.enqueue
  split
  · intro h'; cases h'
  · dsimp only
    split
    · rename_i h'
      split at h' <;> cases h'
    · split <;> (intro h'; cases h')

/-! ## console worker -/

/-- distance of the worker from its exit once stop is signalled -/
def CwPc.dist : CwPc → Nat
  | .exited => 0 | .top => 1 | .post _ => 2 | .enqueue _ => 3 | .read => 4 | .select => 5

theorem CSys.workerStep_stop (s : CSys) (sel : SelRes) (rd : RdRes) (hs : s.stopEv = true)
    (hd : s.q.dropOldest = true) :
    (s.workerStep sel rd).stopEv = true ∧ (s.workerStep sel rd).q.dropOldest = true ∧
    ((s.workerStep sel rd).pc.dist < s.pc.dist ∨ (s.pc = .exited ∧ (s.workerStep sel rd).pc = .exited)) := by
  unfold CSys.workerStep
  cases hpc : s.pc with
  -- outside `enqueue` the step leaves the stop event and the queue alone and moves `pc` towards the exit
  | top => dsimp only; rw [if_pos hs]; exact ⟨hs, hd, Or.inl (by simp [CwPc.dist])⟩
  | select => cases sel <;> exact ⟨hs, hd, Or.inl (by simp [CwPc.dist])⟩
  | read => cases rd <;> exact ⟨hs, hd, Or.inl (by simp [CwPc.dist])⟩
  | post n => exact ⟨hs, hd, Or.inl (by simp [CwPc.dist])⟩
  | exited => exact ⟨hs, hd, Or.inr ⟨rfl, hpc⟩⟩
  | enqueue n =>
    -- DROP_OLDEST is what keeps the call from sleeping on `not_full`; the flags stay, so it holds afterwards too
    simp only
    have hnb := drop_oldest_never_blocks s.q ⟨0, s.enqs.length, n + 1⟩ hd
    have hfl := (Q.enqueue_config s.q ⟨0, s.enqs.length, n + 1⟩).flags
    generalize s.q.enqueue ⟨0, s.enqs.length, n + 1⟩ = res at hnb hfl
    obtain ⟨q', r⟩ := res
    simp only at hnb hfl
    have hd' : q'.dropOldest = true := by simpa [Q.dropOldest, hfl] using hd
    cases r with
    | blocked => exact absurd rfl hnb
    | ok => exact ⟨hs, hd', Or.inl (by simp [CwPc.dist])⟩
    | fail => exact ⟨hs, hd', Or.inl (by simp [CwPc.dist])⟩
    | crash => exact ⟨hs, hd', Or.inl (by simp [CwPc.dist])⟩

/-- **The console worker terminates for every state at which stop is requested.**  Whatever the worker is doing when
`console_worker_shutdown` signals stop (at the loop test, inside `select`, about to read, handing a chunk to the line
queue, posting its completion) and whatever `select` / `read` answer afterwards, its procedure has returned after at
most five of its own steps — provided the line queue drops the oldest line when full (`console_queue_drops_oldest`:
that is how src/comm.c creates it), so that its enqueue cannot sleep.  `timed_join_returns_true_after_stop`
(Props.lean) then makes the timed join of the shutdown return true. -/
theorem console_worker_exits_after_stop (s : CSys) (hs : s.stopEv = true) (hd : s.q.dropOldest = true)
    (answers : List (SelRes × RdRes)) (hlen : answers.length ≥ 5) : (s.runWorker answers).pc = .exited := by
  have key : ∀ (answers : List (SelRes × RdRes)) (s : CSys), s.stopEv = true → s.q.dropOldest = true →
      s.pc.dist ≤ answers.length → (s.runWorker answers).pc = .exited := by
    intro answers
    induction answers with
    | nil =>
      intro s _ _ hle
      simp only [List.length_nil, Nat.le_zero] at hle
      simp only [CSys.runWorker, List.foldl_nil]
      cases hpc : s.pc <;> simp [hpc, CwPc.dist] at hle ⊢
    | cons a rest ih =>
      intro s hs hd hle
      obtain ⟨hs', hd', hdist⟩ := CSys.workerStep_stop s a.1 a.2 hs hd
      simp only [CSys.runWorker, List.foldl_cons]
      refine ih _ hs' hd' ?_
      simp only [List.length_cons] at hle
      rcases hdist with h | ⟨h1, h2⟩
      · omega
      · rw [h2]; simp [CwPc.dist]
  refine key answers s hs hd ?_
  have : s.pc.dist ≤ 5 := by cases s.pc <;> simp [CwPc.dist]
  omega

-- non-vacuity: stop arrives while the worker hands a chunk to a FULL drop-oldest queue
example :
    let q : Q := { cap := 1, maxMsg := 16, flags := flagDropOldest, slots := [⟨0, 0, 4⟩], count := 1, head := 0, tail := 0 }
    let s : CSys := { stopEv := true, pc := .enqueue 5, q }
    (s.runWorker [(.timeout, .eof), (.timeout, .eof), (.timeout, .eof)]).pc = .exited := by decide

/-- the hypothesis is needed: on a BLOCK_WRITER queue that is full the worker sleeps in `async_queue_enqueue` and no
    stop request reaches it -/
theorem console_worker_hangs_on_block_writer_queue (answers : List (SelRes × RdRes)) :
    let q : Q := { cap := 1, maxMsg := 16, flags := flagBlockWriter, slots := [⟨0, 0, 4⟩], count := 1, head := 0, tail := 0 }
    let s : CSys := { stopEv := true, pc := .enqueue 5, q }
    (s.runWorker answers).pc = .enqueue 5 := by
  intro q s
  have hfix : ∀ a : SelRes × RdRes, s.workerStep a.1 a.2 = s := by
    intro a
    simp only [s, q, CSys.workerStep]
    rfl
  exact congrArg CSys.pc
    (List.foldlRecOn answers _ (motive := (· = s)) rfl fun s' hs a _ => by rw [hs]; exact hfix a)

/-- **A completion is never posted before its chunk is in the line queue.**  In every interleaving of the worker,
the stopping thread and the backend: the completions posted so far are, in order, the chunks handed to
`async_queue_enqueue` so far — all of them, or all but the one whose post is the worker's next step. -/
theorem console_chunk_enqueued_before_completion (q : Q) (key : Nat) (acts : List CAct) :
    let s := ({ q, key } : CSys).run acts
    s.enqs = s.posts ++ (match s.pc with | .post n => [n] | _ => []) := by
  have step : ∀ (s : CSys) (a : CAct),
      s.enqs = s.posts ++ (match s.pc with | .post n => [n] | _ => []) →
      (s.step a).enqs = (s.step a).posts ++ (match (s.step a).pc with | .post n => [n] | _ => []) := by
    intro s a h
    cases a with
    | stop => exact h
    | backend max => exact h
    | worker sel rd =>
      obtain ⟨stopEv, pc, q, rt, key, enqs, posts⟩ := s
      dsimp only [CSys.step, CSys.workerStep] at h ⊢
      cases pc with
      | top => dsimp only; split <;> exact h
      | select => cases sel <;> exact h
      | read => cases rd <;> exact h
      | exited => exact h
      | post n =>
        -- the completion of chunk `n` is posted: now every chunk handed over has its completion
        dsimp only at h ⊢
        rw [List.append_nil]; exact h
      | enqueue n =>
        -- chunk `n` is handed to the line queue; its completion is the worker's next step
        dsimp only at h ⊢
        rw [List.append_nil] at h
        split
        · rw [List.append_nil]; exact h
        · rw [h]
  exact List.foldlRecOn (motive := fun s => s.enqs = s.posts ++ (match s.pc with | .post n => [n] | _ => [])) acts
    CSys.step (b := { q, key }) rfl fun s hs a _ => step s a hs

/-! ## heart-beat flag -/

/-- the protocol as the source has it: the two orders are read from src/backend.c on every run -/
def HbSys.code : HbSys := { clearFirst := Gen.C19.hbClearsFlagFirst, storeFirst := Gen.C19.hbStoresBeforeWakeup }

structure HbSys.Inv (s : HbSys) : Prop where
  cf : s.clearFirst = true
  sf : s.storeFirst = true
  owed : s.owed = true → s.flag = true
  wake : s.flag = true → s.pc = .wait true → s.bell = true ∨ s.tpc = .half
  noLeave : s.pc ≠ .leaving

theorem HbSys.inv_step (s : HbSys) (a : HbAct) (h : s.Inv) : (s.step a).Inv := by
  obtain ⟨cf, sf, flag, bell, pc, tpc, owed, rounds⟩ := s
  obtain ⟨h1, h2, h3, h4, h5⟩ := h
  dsimp only at h1 h2 h3 h4 h5
  subst h1 h2
  cases a with
  | timer =>
    -- the store comes first: between the two statements the callback is `half` way, afterwards the doorbell is rung
    cases tpc with
    | idle => exact ⟨rfl, rfl, fun _ => rfl, fun _ _ => Or.inr rfl, h5⟩
    | half => exact ⟨rfl, rfl, h3, fun _ _ => Or.inl rfl, h5⟩
  | backend more =>
    cases pc with
    | testA =>
      -- the wait blocks only when the flag was seen down
      refine ⟨rfl, rfl, h3, fun hf hp => ?_, nofun⟩
      cases hf; cases hp
    | wait b =>
      dsimp only [HbSys.step]
      split
      · exact ⟨rfl, rfl, h3, h4, h5⟩
      · exact ⟨rfl, rfl, h3, nofun, nofun⟩
    | testB =>
      dsimp only [HbSys.step]
      split
      · exact ⟨rfl, rfl, h3, nofun, nofun⟩
      · exact ⟨rfl, rfl, h3, nofun, nofun⟩
    | entered => exact ⟨rfl, rfl, nofun, nofun, nofun⟩
    | inRound =>
      dsimp only [HbSys.step]
      rw [if_pos rfl]
      split
      · exact ⟨rfl, rfl, h3, nofun, nofun⟩
      · exact ⟨rfl, rfl, h3, nofun, nofun⟩
    | leaving => exact absurd rfl h5

theorem HbSys.inv_run (s : HbSys) (acts : List HbAct) (h : s.Inv) : (s.run acts).Inv :=
  List.foldlRecOn acts HbSys.step h fun s hs a _ => inv_step s a hs

theorem HbSys.code_inv : HbSys.code.Inv :=
  have ⟨_, hclearsFirst, hstoresFirst⟩ := hb_protocol_eq
  ⟨hclearsFirst, hstoresFirst, (by intro h; cases h), (by intro h; cases h), (by intro h; cases h)⟩

/-- **A tick is never lost and never leaves the backend asleep.**  The timer thread runs `heartbeat_timer_callback`
(atomic store 1, then `async_runtime_wakeup`) at any moments, the backend runs its cycle (flag test for the poll
time-out, wait, flag test, `call_heart_beat` = clear FIRST, then the round that a new tick cuts short) — every
interleaving of their steps:
 1. as long as no round has STARTED after a tick, the flag is still set (the clear of a running round cannot swallow
    a tick that arrives during the round);
 2. whenever the flag is set while the backend is inside a BLOCKING wait, the doorbell is rung or the callback is
    about to ring it: the wait returns, the second flag test starts the round. -/
theorem tick_never_lost (acts : List HbAct) :
    let s := HbSys.code.run acts
    (s.owed = true → s.flag = true) ∧ (s.flag = true → s.pc = .wait true → s.bell = true ∨ s.tpc = .half) := by
  intro s
  have h := HbSys.inv_run _ acts HbSys.code_inv
  exact ⟨h.owed, h.wake⟩

/-- …and an owed tick does start a round: at the second flag test the backend enters `call_heart_beat` -/
theorem owed_tick_starts_round (acts : List HbAct) (b1 b2 : Bool) :
    (HbSys.code.run acts).owed = true → (HbSys.code.run acts).pc = .testB →
    (((HbSys.code.run acts).step (.backend b1)).step (.backend b2)).rounds = (HbSys.code.run acts).rounds + 1 := by
  have h := HbSys.inv_run _ acts HbSys.code_inv
  generalize HbSys.code.run acts = s at h ⊢
  intro ho hp
  have hf := h.owed ho
  have hc := h.cf
  obtain ⟨cf, sf, flag, bell, pc, tpc, owed, rounds⟩ := s
  simp only at hf hc hp ho
  subst hf; subst hc; subst hp
  simp [HbSys.step]

example : (HbSys.code.run [.timer, .backend true, .backend true, .timer]).owed = true ∧
    (HbSys.code.run [.timer, .backend true, .backend true, .timer]).pc = .testB := by decide

namespace HbOld

/-- variant 1: the flag is cleared AFTER the round (`clearFirst = false`) -/
def late : HbSys := { clearFirst := false, storeFirst := true }

/-- a tick that arrives during the round is swallowed by the late clear: owed, flag down, backend back at its test -/
theorem tick_swallowed :
    let s := late.run [.timer, .timer, .backend true, .backend true, .backend true, .backend true,
                       .timer, .timer, .backend false, .backend false]
    s.owed = true ∧ s.flag = false ∧ s.pc = .testA := by decide

/-- variant 2: the callback wakes the event loop BEFORE it stores the flag (`storeFirst = false`) -/
def wakeFirst : HbSys := { clearFirst := true, storeFirst := false }

/-- the backend consumes the wake-up, finds the flag down, goes into a blocking wait; the store comes too late: flag
    set, doorbell silent, callback finished — the tick waits for the 60 s time-out -/
theorem backend_sleeps_on_tick :
    let s := wakeFirst.run [.timer, .backend true, .backend true, .backend true, .backend true, .timer]
    s.flag = true ∧ s.pc = .wait true ∧ s.bell = false ∧ s.tpc = .idle := by decide

end HbOld

end NV.C19
