/-
C19 — the model satisfies the specification oracle: `judgeEv (events cmds) = []` for EVERY command list.
Proof: a simulation relation `Rel` between the model state (`World`) and the oracle state (`JState`), one component
for each part of the state (event loop, queue, workers, timer).  Every command touches one component, and the
oracle's component follows it under the events the command emits.
-/
import NV.C19.Spec
import NV.C19.LemmasRt
import NV.C19.LemmasQ

namespace NV.C19

def judgeRun (j : JState) (evs : List Ev) : JState := evs.foldl judgeStep j

theorem judgeRun_append (j : JState) (a b : List Ev) : judgeRun j (a ++ b) = judgeRun (judgeRun j a) b :=
  List.foldl_append

/-! ### event loop -/

/-- event loop: the oracle's undelivered completions are the ring, and a non-empty ring has its doorbell set — except
    between the doorbell read and the copy-out of a step-by-step wait, where the re-arm will set it again -/
structure RtRel (rt : Rt) (cons : SeqPhase) (out : List (Nat × Item)) : Prop where
  items : out.map (·.2) = rt.ring
  bell : (∀ m, cons ≠ .drained m) → rt.ring ≠ [] → rt.bell > 0

theorem RtRel.ringBell {rt c out} (h : RtRel rt c out) : RtRel rt.ringBell c out :=
  ⟨h.items, fun _ _ => Nat.succ_pos _⟩

theorem RtRel.push {rt c out} (h : RtRel rt c out) (p : Nat) (it : Item) :
    RtRel { bell := rt.bell + 1, ring := rt.ring ++ [it] } c (out ++ [(p, it)]) :=
  ⟨by rw [List.map_append, h.items]; rfl, fun _ _ => Nat.succ_pos _⟩

theorem RtRel.pop {rt : Rt} {out : List (Nat × Item)} (hi : out.map (·.2) = rt.ring) (max : Nat) (c : SeqPhase) :
    RtRel (rt.pop max).1 c (out.drop max) := by
  refine ⟨by rw [List.map_drop, hi]; rfl, fun _ hne => ?_⟩
  rw [Rt.pop_eq_take_rearm]
  exact Rt.rearm_bell_pos hne

theorem RtRel.quiet {rt : Rt} {out : List (Nat × Item)} (h : RtRel rt .idle out) (hp : ¬ rt.poll = true) :
    rt.ring = [] ∧ out = [] := by
  have hr : rt.ring = [] := Classical.byContradiction fun hne =>
    hp (decide_eq_true (h.bell (fun _ hc => by cases hc) hne))
  exact ⟨hr, List.map_eq_nil_iff.mp (h.items.trans hr)⟩

/-! ### timer -/

/-- timer: same flags; while the timer is active the oracle has counted the same sleep and knows the interval -/
structure TmRel (tm : Tm) (sl : Nat) (ji ja : Bool) (jint jsl : Nat) : Prop where
  inited : ji = tm.inited
  active : ja = tm.active
  ai : tm.active = true → tm.inited = true
  slept : tm.active = true → jsl = sl ∧ jint = tm.interval
  idle : tm.active = false → sl = 0

/-! ### queue -/

structure QRel (q : Q) (bl : Option Msg) (jq : JQ) : Prop where
  inv : q.Inv
  cap : jq.cap = q.cap
  maxMsg : jq.maxMsg = q.maxMsg
  flags : jq.flags = q.flags
  contents : jq.contents = q.contents
  enq : jq.enq = q.enqCount
  deq : jq.deq = q.deqCount
  drop : jq.drop = q.dropCount
  blk : jq.blocked = bl
  wake : jq.mustWake = false
  bsize : ∀ m : Msg, bl = some m → ¬(m.size = 0 ∨ m.size > q.maxMsg)

def RelQ (sq : Option Q) (blocked : Option Msg) (jq : Option JQ) : Prop :=
  match sq, jq with
  | none, none => blocked = none
  | some q, some j => QRel q blocked j
  | _, _ => False

/-! ### workers -/

def jwOf (k : Wk) : JW := { exited := decide (k.th = .exited), stop := k.stopEv, joined := k.joined }

/-- in sequentialised schedules the thread is parked in front of its RUNNING store, inside the procedure, or gone: the
    state field reads STOPPED exactly when it is gone -/
def Wk.StoppedIffExited (k : Wk) : Prop := k.state = .stopped ↔ k.th = .exited

/-- lookup in a worker table, as `World.getW` and `JState.getW` do it -/
def lookW {α} (l : List (Nat × α)) (w : Nat) : Option α := (l.find? (·.1 == w)).map (·.2)

theorem lookW_insert {α} (l : List (Nat × α)) (w w' : Nat) (k : α) :
    lookW ((w, k) :: l.filter (·.1 != w)) w' = if w' = w then some k else lookW l w' := by
  unfold lookW
  by_cases h : w' = w
  · subst h; simp
  · have h1 : (w == w') = false := by simpa using fun e : w = w' => h e.symm
    rw [List.find?_cons, h1, if_neg h, List.find?_filter]
    show Option.map _ (List.find? _ l) = _
    congr 2
    funext a
    by_cases ha : a.1 = w' <;> simp [ha, h]

/-- workers: the oracle's table is the model's, seen through `jwOf` -/
structure WRel (ws : List (Nat × Wk)) (jws : List (Nat × JW)) : Prop where
  look : ∀ w, lookW jws w = (lookW ws w).map jwOf
  ok : ∀ w k, lookW ws w = some k → Wk.StoppedIffExited k

theorem WRel.insert {ws jws} (h : WRel ws jws) (w : Nat) {k' : Wk} (hok : Wk.StoppedIffExited k') :
    WRel ((w, k') :: ws.filter (·.1 != w)) ((w, jwOf k') :: jws.filter (·.1 != w)) := by
  refine ⟨fun w' => ?_, fun w' k hk => ?_⟩
  · rw [lookW_insert, lookW_insert]
    split
    · rfl
    · exact h.look w'
  · rw [lookW_insert] at hk
    split at hk
    · cases hk; exact hok
    · exact h.ok w' k hk

/-- the model's record changes in a way the oracle does not see -/
theorem WRel.insert_model {ws jws} (h : WRel ws jws) {w : Nat} {k k' : Wk} (hk : lookW ws w = some k)
    (he : jwOf k' = jwOf k) (hok : Wk.StoppedIffExited k') : WRel ((w, k') :: ws.filter (·.1 != w)) jws := by
  refine ⟨fun w' => ?_, fun w' k0 hk0 => ?_⟩
  · rw [lookW_insert]
    split
    · rename_i hw; subst hw
      rw [h.look, hk]; exact congrArg some he.symm
    · exact h.look w'
  · rw [lookW_insert] at hk0
    split at hk0
    · cases hk0; exact hok
    · exact h.ok w' k0 hk0

/-! ### the simulation relation -/

structure Rel (s : World) (j : JState) : Prop where
  nobad : j.bad = []
  rt : RtRel s.rt s.cons j.outstanding
  q : RelQ s.q s.blocked j.q
  w : WRel s.ws j.ws
  tm : TmRel s.tm s.sleptActive j.tInited j.tActive j.tInterval j.tSlept

variable {s : World} {j : JState}

theorem Rel.getW_some (h : Rel s j) {w : Nat} {k : Wk} (hg : s.getW w = some k) : j.getW w = some (jwOf k) :=
  (h.w.look w).trans (congrArg (Option.map jwOf) hg)

theorem Rel.stoppedIffExited (h : Rel s j) {w : Nat} {k : Wk} (hg : s.getW w = some k) : k.StoppedIffExited :=
  h.w.ok w k hg

theorem Rel.setW (h : Rel s j) (w : Nat) {k' : Wk} (hok : Wk.StoppedIffExited k') : Rel (s.setW w k') (j.setW w (jwOf k')) :=
  ⟨h.nobad, h.rt, h.q, h.w.insert w hok, h.tm⟩

theorem Rel.setW_model (h : Rel s j) {w : Nat} {k k' : Wk} (hk : s.getW w = some k) (he : jwOf k' = jwOf k)
    (hok : Wk.StoppedIffExited k') : Rel (s.setW w k') j :=
  ⟨h.nobad, h.rt, h.q, h.w.insert_model hk he hok, h.tm⟩

theorem wakeCheck_id (j : JState) (e : Ev) (h : ∀ q, j.q = some q → q.mustWake = false) : wakeCheck j e = j := by
  unfold wakeCheck
  split
  · rfl
  · rename_i _ q hq _; rw [h q hq]; rfl
  · rfl

theorem Rel.wake (h : Rel s j) : ∀ q, j.q = some q → q.mustWake = false := by
  intro q hq
  have := h.q
  unfold RelQ at this
  split at this
  · rename_i hj; rw [hq] at hj; cases hj
  · rename_i q0 j0 hs hj
    rw [hq] at hj; cases hj; exact this.wake
  · exact this.elim

theorem Rel.judgeStep_eq (h : Rel s j) (e : Ev) : judgeStep j e = judgeCore j e :=
  congrArg (judgeCore · e) (wakeCheck_id j e h.wake)

theorem Rel.judge_single (h : Rel s j) (e : Ev) : judgeRun j [e] = judgeCore j e := h.judgeStep_eq e

/-- an event the oracle passes over, emitted by a command that changes nothing -/
theorem rel_same (h : Rel s j) (e : Ev) (he : judgeCore j e = j) : Rel s (judgeRun j [e]) := by
  rw [h.judge_single, he]; exact h

/-! ### event loop commands -/

theorem rel_post (h : Rel s j) (p k d : Nat) :
    Rel (stepE s (.post p k d)).1 (judgeRun j (stepE s (.post p k d)).2) := by
  dsimp only [stepE]
  rw [h.judge_single]
  by_cases hfull : s.rt.ring.length ≥ ringSize
  · rw [Rt.post_full _ hfull]
    have hj : j.outstanding.length ≥ ringSize := by rw [← List.length_map (·.2), h.rt.items]; exact hfull
    dsimp only [judgeCore]
    rw [if_neg (by decide), if_pos ⟨rfl, hj⟩]
    exact h
  · rw [Rt.post_room _ hfull]
    exact ⟨h.nobad, h.rt.push p (k, d), h.q, h.w, h.tm⟩

theorem rel_wakeup (h : Rel s j) : Rel (stepE s .wakeup).1 (judgeRun j (stepE s .wakeup).2) := by
  dsimp only [stepE]
  rw [h.judge_single]
  exact ⟨h.nobad, h.rt.ringBell, h.q, h.w, h.tm⟩

theorem judge_items (evs : List Item) :
    ∀ (j : JState) (tail : List (Nat × Item)) (front : List (Nat × Item)),
      j.outstanding = front ++ tail → front.map (·.2) = evs →
      evs.foldl (fun s it =>
        match takeItem it s.outstanding [] with
        | none => s.flag s!"garbled-or-spurious-event key={it.1} data={it.2}"
        | some (ov, rest) =>
          let s := { s with outstanding := rest }
          if ov then s.flag s!"overtaking key={it.1} data={it.2}" else s) j = { j with outstanding := tail } := by
  induction evs with
  | nil =>
    intro j tail front h1 h2
    cases List.map_eq_nil_iff.mp h2
    have h1 : j.outstanding = tail := h1
    show j = _
    rw [← h1]
  | cons e rest ih =>
    intro j tail front h1 h2
    cases front with
    | nil => cases h2
    | cons a fr =>
      obtain ⟨p, x⟩ := a
      cases h2
      have ht : takeItem x j.outstanding [] = some (false, fr ++ tail) := by
        rw [h1]; simp [takeItem]
      rw [List.foldl_cons]
      dsimp only
      rw [ht]
      exact ih ({ j with outstanding := fr ++ tail }) tail fr rfl rfl

/-- a wait that returns the first `max` undelivered completions in order is what the oracle expects -/
theorem judgeWait_take (j : JState) (max : Nat) {ring : List Item} (hi : j.outstanding.map (·.2) = ring) :
    judgeWait j max (ring.take max) = { j with outstanding := j.outstanding.drop max } := by
  unfold judgeWait
  have hlen : j.outstanding.length = ring.length := by rw [← hi, List.length_map]
  have h1 : ¬ ((ring.take max).length > max) := by rw [List.length_take]; omega
  have h2 : ¬ ((ring.take max).length < min max j.outstanding.length) := by rw [List.length_take, hlen]; omega
  simp only [h1, h2, if_false]
  exact judge_items (ring.take max) j (j.outstanding.drop max) (j.outstanding.take max)
    (List.take_append_drop max j.outstanding).symm (by rw [← hi, List.map_take])

/-- the locked section of a wait (take + re-arm), whatever the doorbell was before -/
theorem rel_pop (h : Rel s j) (max : Nat) (rt0 : Rt) (hring : rt0.ring = s.rt.ring) (c : SeqPhase) :
    Rel { s with rt := (rt0.pop max).1, cons := c } (judgeRun j [.wait max (rt0.pop max).2]) := by
  rw [h.judge_single]
  show Rel _ (judgeWait j max (rt0.ring.take max))
  rw [judgeWait_take j max (h.rt.items.trans hring.symm)]
  exact ⟨h.nobad, RtRel.pop (h.rt.items.trans hring.symm) max c, h.q, h.w, h.tm⟩

/-- a wait that finds nothing readable: the doorbell invariant says the ring is empty, the oracle expects nothing -/
theorem rel_wait_nothing (h : Rel s j) (max : Nat) (hidle : s.cons = .idle) (hp : ¬ s.rt.poll = true) :
    Rel s (judgeRun j [.wait max []]) := by
  have ho := (RtRel.quiet (hidle ▸ h.rt) hp).2
  have : judgeWait j max [] = j := by simp [judgeWait, ho]
  exact rel_same h _ this

theorem rel_wait (h : Rel s j) (max : Nat) : Rel (stepE s (.wait max)).1 (judgeRun j (stepE s (.wait max)).2) := by
  dsimp only [stepE]
  split
  · exact rel_same h _ rfl
  split
  · exact rel_same h _ rfl
  rename_i hc
  unfold Rt.wait
  split
  · exact rel_pop h max s.rt.drain rfl s.cons
  · rename_i hp; exact rel_wait_nothing h max (Classical.not_not.mp hc) hp

theorem rel_wbegin (h : Rel s j) (max : Nat) : Rel (stepE s (.wbegin max)).1 (judgeRun j (stepE s (.wbegin max)).2) := by
  dsimp only [stepE]
  split
  · exact rel_same h _ rfl
  split
  · exact rel_same h _ rfl
  rename_i hc
  have hc : s.cons = .idle := Classical.not_not.mp hc
  split
  · rw [h.judge_single]
    exact ⟨h.nobad, ⟨h.rt.items, fun _ => h.rt.bell (fun m e => by rw [hc] at e; cases e)⟩, h.q, h.w, h.tm⟩
  · rename_i hp; exact rel_wait_nothing h max hc hp

theorem rel_wread (h : Rel s j) : Rel (stepE s .wread).1 (judgeRun j (stepE s .wread).2) := by
  dsimp only [stepE]
  split
  · rename_i m _
    rw [h.judge_single]
    exact ⟨h.nobad, ⟨h.rt.items, fun hnd => absurd rfl (hnd m)⟩, h.q, h.w, h.tm⟩
  · exact rel_same h _ rfl

theorem rel_wend (h : Rel s j) : Rel (stepE s .wend).1 (judgeRun j (stepE s .wend).2) := by
  dsimp only [stepE]
  split
  · rename_i m _; exact rel_pop h m s.rt rfl .idle
  · exact rel_same h _ rfl

/-! ### timer commands -/

theorem TmRel.inactive {tm sl ji ja jint jsl} (h : TmRel tm sl ji ja jint jsl) (hi : tm.inited = false) :
    tm.active = false := by
  cases ha : tm.active with
  | false => rfl
  | true => rw [h.ai ha] at hi; cases hi

theorem rel_tinit (h : Rel s j) : Rel (stepE s .tinit).1 (judgeRun j (stepE s .tinit).2) := by
  dsimp only [stepE]
  split
  · exact rel_same h _ rfl
  · rename_i hi
    rw [h.judge_single]
    have ha := h.tm.inactive (Bool.not_eq_true _ ▸ hi)
    exact ⟨h.nobad, h.rt, h.q, h.w, ⟨rfl, rfl, nofun, nofun, fun _ => h.tm.idle ha⟩⟩

theorem timerErrNull_ne_zero : timerErrNull ≠ 0 := by decide
theorem timerErrInterval_ne_zero : timerErrInterval ≠ 0 := by decide
theorem timerErrActive_ne_zero : timerErrActive ≠ 0 := by decide

theorem rel_tstart (h : Rel s j) (ms : Nat) : Rel (stepE s (.tstart ms)).1 (judgeRun j (stepE s (.tstart ms)).2) := by
  dsimp only [stepE]
  have hji := h.tm.inited
  have hja := h.tm.active
  cases hi : s.tm.inited with
  | false =>
    refine rel_same h _ ?_
    dsimp only [judgeCore]
    simp only [hji, hi, Bool.not_false, if_true, ne_eq, not_true_eq_false, if_false, timerErrNull_ne_zero]
  | true =>
    simp only [Bool.not_true, Bool.false_eq_true, if_false]
    split
    · rename_i hms
      refine rel_same h _ ?_
      dsimp only [judgeCore]
      simp only [hji, hi, hms, Bool.not_true, Bool.false_eq_true, if_true, ne_eq, not_true_eq_false, if_false,
        timerErrInterval_ne_zero]
    rename_i hms
    cases ha : s.tm.active with
    | true =>
      refine rel_same h _ ?_
      dsimp only [judgeCore]
      simp only [hji, hi, hja, ha, hms, Bool.not_true, Bool.false_eq_true, if_true, ne_eq, not_true_eq_false, if_false,
        timerErrActive_ne_zero]
    | false =>
      simp only [Bool.false_eq_true, if_false]
      rw [h.judge_single]
      dsimp only [judgeCore]
      simp only [hji, hi, hja, ha, hms, Bool.not_true, Bool.false_eq_true, if_true, ne_eq, not_true_eq_false, if_false,
        timerOk]
      exact ⟨h.nobad, h.rt, h.q, h.w, ⟨rfl, rfl, fun _ => rfl, fun _ => ⟨rfl, rfl⟩, nofun⟩⟩

theorem rel_tstop (h : Rel s j) : Rel (stepE s .tstop).1 (judgeRun j (stepE s .tstop).2) := by
  dsimp only [stepE]
  have hji := h.tm.inited
  cases hi : s.tm.inited with
  | false =>
    simp only [Bool.not_false, if_true]
    rw [h.judge_single]
    dsimp only [judgeCore]
    simp only [hji, hi, Bool.false_eq_true, if_true, if_false]
    have ha := h.tm.inactive hi
    exact ⟨h.nobad, h.rt, h.q, h.w, ⟨hi.symm, ha.symm, h.tm.ai, fun e => absurd (ha.symm.trans e) nofun, h.tm.idle⟩⟩
  | true =>
    simp only [Bool.not_true, Bool.false_eq_true, if_false]
    rw [h.judge_single]
    dsimp only [judgeCore]
    simp only [hji, hi, if_true]
    exact ⟨h.nobad, h.rt, h.q, h.w, ⟨rfl, rfl, nofun, nofun, fun _ => rfl⟩⟩

theorem rel_tactive (h : Rel s j) : Rel (stepE s .tactive).1 (judgeRun j (stepE s .tactive).2) := by
  dsimp only [stepE]
  refine rel_same h _ ?_
  dsimp only [judgeCore]
  rw [h.tm.inited, h.tm.active, if_pos rfl]

theorem rel_tsleep (h : Rel s j) (ms : Nat) : Rel (stepE s (.tsleep ms)).1 (judgeRun j (stepE s (.tsleep ms)).2) := by
  dsimp only [stepE]
  rw [h.judge_single]
  dsimp only [judgeCore]
  rw [h.tm.active]
  split
  · rename_i ha
    obtain ⟨h1, h2⟩ := h.tm.slept ha
    exact ⟨h.nobad, h.rt, h.q, h.w, ⟨h.tm.inited, rfl, h.tm.ai, fun _ => ⟨by rw [h1], h2⟩,
      fun e => absurd (e.symm.trans ha) nofun⟩⟩
  · exact h

theorem rel_tafter (h : Rel s j) : Rel (stepE s .tafter).1 (judgeRun j (stepE s .tafter).2) := by
  dsimp only [stepE]
  split <;> exact rel_same h _ rfl

theorem rel_tcleanup (h : Rel s j) : Rel (stepE s .tcleanup).1 (judgeRun j (stepE s .tcleanup).2) := by
  dsimp only [stepE]
  split
  · exact rel_same h _ rfl
  · rw [h.judge_single]
    exact ⟨h.nobad, h.rt, h.q, h.w, ⟨rfl, rfl, nofun, nofun, fun _ => rfl⟩⟩

theorem rel_tticks (h : Rel s j) : Rel (stepE s .tticks).1 (judgeRun j (stepE s .tticks).2) := by
  dsimp only [stepE]
  rw [h.judge_single]
  -- whatever class of answer the model gives, the oracle accepts it and resets its sleep counter
  suffices hj : judgeCore j (.tticks (if (!s.tm.active) = true ∨ s.sleptActive = 0 then TickCls.none
      else if s.sleptActive ≥ 10 * s.tm.interval then TickCls.some else TickCls.ambiguous)) = { j with tSlept := 0 } by
    rw [hj]
    exact ⟨h.nobad, h.rt, h.q, h.w, ⟨h.tm.inited, h.tm.active, h.tm.ai, fun ha => ⟨rfl, (h.tm.slept ha).2⟩, fun _ => rfl⟩⟩
  dsimp only [judgeCore]
  cases ha : s.tm.active with
  | false =>
    have hja : j.tActive = false := h.tm.active.trans ha
    simp only [Bool.not_false, true_or, if_true, hja, Bool.false_eq_true, false_and, if_false]
  | true =>
    obtain ⟨h1, h2⟩ := h.tm.slept ha
    have hja : j.tActive = true := h.tm.active.trans ha
    by_cases h0 : s.sleptActive = 0
    · simp only [h0, or_true, if_true, hja, h1, Nat.lt_irrefl, and_false, if_false, gt_iff_lt]
    · by_cases hge : s.sleptActive ≥ 10 * s.tm.interval
      · simp only [Bool.not_true, Bool.false_eq_true, false_or, h0, if_false, hge, if_true, hja, h1, true_and,
          Nat.pos_of_ne_zero h0]
      · simp only [Bool.not_true, Bool.false_eq_true, false_or, h0, if_false, hge]

/-! ### worker commands -/

theorem create_eq : Wk.create = { state := .running, th := .spawned } := by decide

theorem createRace_eq : Wk.createSeq true createProg {} = { state := .stopped, th := .exited } := by decide

theorem stoppedIffExited_release (k : Wk) (h : k.th = .spawned) : Wk.StoppedIffExited (k.threadStep false) := by
  simp [Wk.StoppedIffExited, Wk.threadStep, h]

theorem runToExit_inproc (k : Wk) (h : k.th = .inproc) :
    k.runToExit = { k with state := .stopped, th := .exited } := by
  simp [Wk.runToExit, Wk.threadStep, h]

theorem stoppedIffExited_exit (k : Wk) (h : k.th = .inproc) : Wk.StoppedIffExited k.runToExit := by
  rw [runToExit_inproc k h]; exact ⟨fun _ => rfl, fun _ => rfl⟩

theorem jwOf_exit (k : Wk) (h : k.th = .inproc) : jwOf k.runToExit = { jwOf k with exited := true } := by
  rw [runToExit_inproc k h]; rfl

/-- a timed join on a live worker (nobody else moves) whose remaining time is worth exactly `n` sleeps: `n` sleeps,
    then false -/
theorem joinAlone_live (k : Wk) (t : Nat) (hs : k.state ≠ .stopped) :
    ∀ (n fuel e sl : Nat), t ≤ e + 10 * n → (∀ m, m < n → e + 10 * m < t) → n + 2 ≤ fuel →
      k.joinAlone t fuel (.loop e) sl = (.rc0, sl + n) := by
  intro n
  induction n with
  | zero =>
    intro fuel e sl hle _ hf
    obtain ⟨f, rfl⟩ : ∃ f, fuel = f + 2 := ⟨fuel - 2, by omega⟩
    have hc : ¬ (k.state ≠ .stopped ∧ e < t) := fun c => by omega
    simp only [Wk.joinAlone, Wk.joinStep, if_neg hc, if_neg hs, Nat.add_zero]
  | succ n ih =>
    intro fuel e sl hle hlt hf
    obtain ⟨f, rfl⟩ : ∃ f, fuel = f + 1 := ⟨fuel - 1, by omega⟩
    have hc : k.state ≠ .stopped ∧ e < t := ⟨hs, hlt 0 (Nat.succ_pos n)⟩
    simp only [Wk.joinAlone, Wk.joinStep, if_pos hc, pollMs]
    rw [ih f (e + 10) (sl + 1) (by omega) (fun m hm => by have := hlt (m + 1) (by omega); omega) (by omega)]
    congr 1; omega

theorem joinAlone_exited (k : Wk) (t n e sl : Nat) (hst : k.state = .stopped) (hth : k.th = .exited) :
    k.joinAlone t (n + 3) (.loop e) sl = (.rc1, sl) := by
  simp [Wk.joinAlone, Wk.joinStep, hst, hth]

theorem rel_wnew (h : Rel s j) (w : Nat) (mode : NewMode) :
    Rel (stepE s (.wnew w mode)).1 (judgeRun j (stepE s (.wnew w mode)).2) := by
  dsimp only [stepE]
  cases hg : s.getW w with
  | some k => exact rel_same h _ rfl
  | none =>
    dsimp only
    rw [h.judge_single]
    cases mode with
    | hold => rw [create_eq]; exact h.setW w ⟨nofun, nofun⟩
    | run => rw [create_eq]; exact h.setW w (stoppedIffExited_release _ rfl)
    | race => rw [createRace_eq]; exact h.setW w ⟨fun _ => rfl, fun _ => rfl⟩

theorem rel_wstate (h : Rel s j) (w : Nat) : Rel (stepE s (.wstate w)).1 (judgeRun j (stepE s (.wstate w)).2) := by
  dsimp only [stepE]
  cases hg : s.getW w with
  | none => exact rel_same h _ rfl
  | some k =>
    dsimp only
    split
    · exact rel_same h _ rfl
    · refine rel_same h _ ?_
      have hj := h.getW_some hg
      have hok := h.stoppedIffExited hg
      dsimp only [judgeCore]
      rw [hj]
      dsimp only [jwOf]
      by_cases he : k.th = .exited
      · simp only [he, decide_true, if_true, hok.mpr he]
      · have : k.state = .running := by
          cases hst : k.state with
          | running => rfl
          | stopped => exact absurd (hok.mp hst) he
        simp only [he, decide_false, Bool.false_eq_true, if_false, this, if_true]

theorem rel_wrelease (h : Rel s j) (w : Nat) :
    Rel (stepE s (.wrelease w)).1 (judgeRun j (stepE s (.wrelease w)).2) := by
  dsimp only [stepE]
  cases hg : s.getW w with
  | none => exact rel_same h _ rfl
  | some k =>
    dsimp only
    split
    · rename_i hsp
      rw [h.judge_single]
      exact h.setW_model hg (by simp [jwOf, Wk.threadStep, hsp]) (stoppedIffExited_release k hsp)
    · exact rel_same h _ rfl

theorem rel_wstep (h : Rel s j) (w : Nat) : Rel (stepE s (.wstep w)).1 (judgeRun j (stepE s (.wstep w)).2) := by
  dsimp only [stepE]
  cases hg : s.getW w with
  | none => exact rel_same h _ rfl
  | some k =>
    have hj := h.getW_some hg
    dsimp only
    split
    · rename_i hin
      split
      · rename_i hst
        rw [h.judge_single]
        dsimp only [judgeCore]
        rw [hj]
        dsimp only
        rw [if_pos (show (jwOf k).stop = true from hst), ← jwOf_exit k hin]
        exact h.setW w (stoppedIffExited_exit k hin)
      · rename_i hst
        refine rel_same h _ ?_
        dsimp only [judgeCore]
        rw [hj]
        dsimp only
        rw [if_neg (show ¬ (jwOf k).stop = true from hst)]
    · refine rel_same h _ ?_
      dsimp only [judgeCore]
      rw [hj]

theorem rel_wquit (h : Rel s j) (w : Nat) : Rel (stepE s (.wquit w)).1 (judgeRun j (stepE s (.wquit w)).2) := by
  dsimp only [stepE]
  cases hg : s.getW w with
  | none => exact rel_same h _ rfl
  | some k =>
    have hj := h.getW_some hg
    dsimp only
    split
    · rename_i hin
      rw [h.judge_single]
      dsimp only [judgeCore]
      rw [hj]
      dsimp only
      rw [if_pos rfl, ← jwOf_exit k hin]
      exact h.setW w (stoppedIffExited_exit k hin)
    · refine rel_same h _ ?_
      dsimp only [judgeCore]
      rw [hj]
      rfl

theorem rel_wstop (h : Rel s j) (w : Nat) : Rel (stepE s (.wstop w)).1 (judgeRun j (stepE s (.wstop w)).2) := by
  dsimp only [stepE]
  cases hg : s.getW w with
  | none => exact rel_same h _ rfl
  | some k =>
    have hj := h.getW_some hg
    have hok := h.stoppedIffExited hg
    dsimp only
    split
    · exact rel_same h _ rfl
    · rw [h.judge_single]
      dsimp only [judgeCore]
      rw [hj]
      exact h.setW w (k' := k.signalStop) hok

theorem rel_wdestroy (h : Rel s j) (w : Nat) :
    Rel (stepE s (.wdestroy w)).1 (judgeRun j (stepE s (.wdestroy w)).2) := by
  dsimp only [stepE]
  cases hg : s.getW w with
  | none => exact rel_same h _ rfl
  | some k =>
    have hok := h.stoppedIffExited hg
    dsimp only
    split
    · exact rel_same h _ rfl
    · split
      · rw [h.judge_single]
        exact h.setW_model hg rfl hok
      · exact rel_same h _ rfl

/-- what the oracle does with a join that returned true without sleeping, on a finished thread -/
theorem judge_join_true (h : Rel s j) {w : Nat} {k : Wk} (hg : s.getW w = some k) (hex : k.th = .exited) (t : Int) :
    Rel (s.setW w { k with joined := true }) (judgeRun j [.wjoin w t .rc1 0]) := by
  have hj := h.getW_some hg
  have hok := h.stoppedIffExited hg
  rw [h.judge_single]
  dsimp only [judgeCore]
  rw [hj]
  dsimp only
  have he : (jwOf k).exited = true := decide_eq_true hex
  rw [if_pos he, if_pos (Nat.zero_le _)]
  exact h.setW w (k' := { k with joined := true }) hok

theorem rel_wjoin (h : Rel s j) (w : Nat) (t : Int) :
    Rel (stepE s (.wjoin w t)).1 (judgeRun j (stepE s (.wjoin w t)).2) := by
  dsimp only [stepE]
  cases hg : s.getW w with
  | none => exact rel_same h _ rfl
  | some k =>
    have hok := h.stoppedIffExited hg
    dsimp only
    split
    · exact rel_same h _ rfl
    rename_i hnj
    split
    · -- untimed: only made when the thread has exited
      unfold Wk.joinUntimed
      by_cases hex : k.th = .exited
      · rw [if_pos hex]; exact judge_join_true h hg hex t
      · rw [if_neg hex]; exact rel_same h _ rfl
    · by_cases hex : k.th = .exited
      · rw [joinAlone_exited k t.toNat _ 0 0 (hok.mpr hex) hex]
        exact judge_join_true h hg hex t
      · have hst : k.state ≠ .stopped := fun c => hex (hok.mp c)
        rw [joinAlone_live k t.toNat hst (sleepsFor t.toNat) (sleepsFor t.toNat + 3) 0 0
          (by unfold sleepsFor pollMs; omega) (fun m hm => by unfold sleepsFor pollMs at hm; omega) (by omega),
          Nat.zero_add]
        have hj := h.getW_some hg
        have he : (jwOf k).exited = false := decide_eq_false hex
        rw [h.judge_single]
        dsimp only [judgeCore]
        rw [hj]
        dsimp only
        rw [he]
        simp only [Bool.false_eq_true, if_false, Nat.le_refl, if_true, Nat.lt_irrefl]
        exact h.setW_model hg (by simp [jwOf]; simpa using hnj) hok

/-! ### queue commands -/

theorem relQ_some {q : Q} {bl : Option Msg} {jq : Option JQ} (h : RelQ (some q) bl jq) :
    ∃ j, jq = some j ∧ QRel q bl j := by
  cases jq with
  | none => exact h.elim
  | some j => exact ⟨j, rfl, h⟩

theorem relQ_none {bl : Option Msg} {jq : Option JQ} (h : RelQ none bl jq) : jq = none ∧ bl = none := by
  cases jq with
  | none => exact ⟨rfl, h⟩
  | some j => exact h.elim

theorem j_eta {j : JState} {jq : JQ} (h : j.q = some jq) : { j with q := some jq } = j := by
  rw [← h]

theorem QRel.jDrop_eq {q : Q} {bl} {jq : JQ} (h : QRel q bl jq) : jDrop jq = q.dropOldest := by
  unfold jDrop Q.dropOldest; rw [h.flags]

theorem QRel.jBlock_eq {q : Q} {bl} {jq : JQ} (h : QRel q bl jq) : jBlock jq = q.blockWriter := by
  unfold jBlock Q.blockWriter; rw [h.flags]

theorem QRel.length {q : Q} {bl} {jq : JQ} (h : QRel q bl jq) : jq.contents.length = q.count := by
  rw [h.contents, Q.contents_length]

/-- the queue has moved on (same configuration) and the oracle's contents and counters with it -/
theorem QRel.update {q q' : Q} {bl : Option Msg} {jq : JQ} (hr : QRel q bl jq) (hinv : q'.Inv)
    (hf : q.SameConfig q') {c : List Msg} {e d dr : Nat}
    (hc : c = q'.contents) (he : e = q'.enqCount) (hd : d = q'.deqCount) (hdr : dr = q'.dropCount) :
    QRel q' bl { jq with contents := c, enq := e, deq := d, drop := dr } :=
  ⟨hinv, hr.cap.trans hf.cap.symm, hr.maxMsg.trans hf.maxMsg.symm, hr.flags.trans hf.flags.symm, hc, he, hd, hdr, hr.blk,
    hr.wake, fun m hm => hf.maxMsg ▸ hr.bsize m hm⟩

/-- an enqueue (no writer blocked before it) and the oracle's verdict on its result move together -/
theorem QRel.enqueue {q : Q} {jq : JQ} (hr : QRel q none jq) (m : Msg) {j : JState} (hjq : j.q = some jq) :
    ∃ jq', judgeEnq j jq m (q.enqueue m).2 = { j with q := some jq' } ∧
      QRel (q.enqueue m).1 (if (q.enqueue m).2 = .blocked then some m else none) jq' := by
  obtain ⟨hinv, hspec⟩ := Q.enqueue_spec q hr.inv m
  obtain ⟨hf, hcnt⟩ := Q.enqueue_fields q m
  generalize q.enqueue m = res at hinv hspec hf hcnt
  obtain ⟨q', r⟩ := res
  dsimp only at hinv hspec hf hcnt ⊢
  -- the oracle's tests are the queue's
  have e1 : (m.size = 0 ∨ m.size > jq.maxMsg) = (m.size = 0 ∨ m.size > q.maxMsg) := by rw [hr.maxMsg]
  have e2 : (jq.contents.length ≥ jq.cap) = (q.count ≥ q.cap) := by rw [hr.length, hr.cap]
  unfold judgeEnq
  simp only [e1, e2, hr.jDrop_eq, hr.jBlock_eq]
  cases hspec with
  | badSize hsz he =>
    subst he
    exact ⟨jq, by simp only [hsz, if_true, j_eta hjq], hr⟩
  | room hsz hlt hc =>
    obtain ⟨c1, c2, c3⟩ := hcnt rfl
    rw [if_neg (Nat.not_le_of_lt hlt), Nat.add_zero] at c3
    exact ⟨{ jq with contents := jq.contents ++ [m], enq := jq.enq + 1 },
      by simp only [hsz, Nat.not_le_of_lt hlt, if_false, if_true],
      hr.update hinv hf (by rw [hc, ← hr.contents]) (by rw [c1, ← hr.enq]) (hr.deq.trans c2.symm) (hr.drop.trans c3.symm)⟩
  | dropOldest hsz hfull hdrop hold hc =>
    obtain ⟨c1, c2, c3⟩ := hcnt rfl
    rw [if_pos hfull] at c3
    exact ⟨{ jq with contents := jq.contents.drop 1 ++ [m], enq := jq.enq + 1, drop := jq.drop + 1 },
      by simp only [hsz, hfull, hdrop, if_false, if_true],
      hr.update hinv hf (by rw [hc, ← hr.contents]) (by rw [c1, ← hr.enq]) (hr.deq.trans c2.symm) (by rw [c3, ← hr.drop])⟩
  | blocked hsz hfull hdrop hbw he =>
    subst he
    exact ⟨{ jq with blocked := some m }, by simp only [hsz, hfull, hdrop, hbw, if_false, if_true, Bool.false_eq_true],
      hr.inv, hr.cap, hr.maxMsg, hr.flags, hr.contents, hr.enq, hr.deq, hr.drop, rfl, hr.wake,
      fun m' hm => by cases hm; exact hsz⟩
  | full hsz hfull hdrop hbw he =>
    subst he
    exact ⟨jq, by simp only [hsz, hfull, hdrop, hbw, if_false, if_true, Bool.false_eq_true, j_eta hjq], hr⟩

/-- a dequeue and the oracle's verdict move together; when a message was taken the oracle wants a blocked writer woken -/
theorem QRel.dequeue {q : Q} {bl : Option Msg} {jq : JQ} (hr : QRel q bl jq) (buf : Nat) {j : JState}
    (hjq : j.q = some jq) :
    ∃ jq', QRel (q.dequeue buf).1 bl jq' ∧
      ((∀ m, (q.dequeue buf).2 ≠ .msg m) ∧ judgeDeq j jq buf (q.dequeue buf).2 = { j with q := some jq' } ∨
       (∃ m, (q.dequeue buf).2 = .msg m) ∧ (q.dequeue buf).1.count < (q.dequeue buf).1.cap ∧
         judgeDeq j jq buf (q.dequeue buf).2 = { j with q := some { jq' with mustWake := bl.isSome } }) := by
  obtain ⟨hinv, hspec⟩ := Q.dequeue_spec q hr.inv buf
  obtain ⟨hf, hcnt⟩ := Q.dequeue_fields q buf
  generalize q.dequeue buf = res at hinv hspec hf hcnt
  obtain ⟨q', r⟩ := res
  dsimp only at hinv hspec hf hcnt ⊢
  unfold judgeDeq
  cases hspec with
  | empty hc he =>
    subst he
    refine ⟨jq, hr, Or.inl ⟨nofun, ?_⟩⟩
    rw [hr.contents, hc]
    exact (j_eta hjq).symm
  | short m rest hc hsz he =>
    subst he
    refine ⟨jq, hr, Or.inl ⟨nofun, ?_⟩⟩
    rw [hr.contents, hc]
    dsimp only
    rw [if_pos hsz]
    exact (j_eta hjq).symm
  | took m rest hc hsz hc' =>
    obtain ⟨c1, c2, c3⟩ := hcnt m rfl
    have hroom : q'.count < q'.cap := by
      have h1 := Q.contents_length q'
      have h2 := Q.contents_length q
      have h3 := hr.inv.count_le
      rw [hc] at h2; rw [hc'] at h1
      simp only [List.length_cons] at h2
      rw [hf.1]; omega
    refine ⟨{ jq with contents := rest, deq := jq.deq + 1 },
      hr.update hinv hf hc'.symm (hr.enq.trans c1.symm) (by rw [c2, ← hr.deq]) (hr.drop.trans c3.symm),
      Or.inr ⟨⟨m, rfl⟩, hroom, ?_⟩⟩
    rw [hr.contents, hc]
    dsimp only
    rw [if_neg (Nat.not_lt_of_le hsz), if_pos rfl, hr.blk]

/-- a writer asleep on a queue that has room again: its retry pushes its message, and the oracle, which demands the
    wake-up (`mustWake`), accepts the `unblocked` event -/
theorem QRel.wakeWriter {q : Q} {bm : Msg} {jq : JQ} (hr : QRel q (some bm) { jq with mustWake := false })
    (hroom : q.count < q.cap) (j : JState) :
    (q.enqueue bm).2 = .ok ∧
    ∃ jq', judgeStep { j with q := some jq } (.unblocked bm.p bm.v) = { j with q := some jq' } ∧
      QRel (q.enqueue bm).1 none jq' := by
  rw [Q.enqueue_room hr.inv (hr.bsize bm rfl) hroom]
  have hlen : jq.contents.length < jq.cap := by rw [hr.length, hr.cap]; exact hroom
  refine ⟨rfl, { jq with contents := jq.contents ++ [bm], enq := jq.enq + 1, blocked := none, mustWake := false }, ?_,
    Q.inv_push q hr.inv hroom bm, hr.cap, hr.maxMsg, hr.flags,
    (congrArg (· ++ [bm]) hr.contents).trans (Q.contents_push q hr.inv hroom bm).symm, congrArg (· + 1) hr.enq,
    hr.deq, hr.drop, rfl, rfl, nofun⟩
  dsimp only [judgeStep, wakeCheck, judgeCore]
  rw [show jq.blocked = some bm from hr.blk]
  dsimp only
  rw [if_pos ⟨rfl, rfl, hlen⟩]

theorem QRel.cleared {q : Q} {bl : Option Msg} {jq : JQ} (hr : QRel q bl jq) :
    QRel q.clear bl { jq with contents := [] } :=
  hr.update (Q.inv_clear hr.inv) ⟨rfl, rfl, rfl⟩ rfl hr.enq hr.deq hr.drop

theorem rel_qnew (h : Rel s j) (c mm fl : Nat) :
    Rel (stepE s (.qnew c mm fl)).1 (judgeRun j (stepE s (.qnew c mm fl)).2) := by
  dsimp only [stepE]
  cases hs : s.q with
  | some q => exact rel_same h _ rfl
  | none =>
    dsimp only
    rw [h.judge_single]
    have hq : RelQ none s.blocked j.q := hs ▸ h.q
    dsimp only [judgeCore]
    by_cases hz : c = 0 ∨ mm = 0
    · have hd : decide (c ≠ 0 ∧ mm ≠ 0) = false := decide_eq_false (by omega)
      rw [show Q.create c mm fl = none from if_pos hz, hd]
      exact ⟨h.nobad, h.rt, hq, h.w, h.tm⟩
    · have hd : decide (c ≠ 0 ∧ mm ≠ 0) = true := decide_eq_true (by omega)
      have hc : Q.create c mm fl = some _ := if_neg hz
      obtain ⟨hinv, hcont⟩ := Q.inv_create hc
      rw [hc, hd, (relQ_none hq).2]
      exact ⟨h.nobad, h.rt, ⟨hinv, rfl, rfl, rfl, hcont.symm, rfl, rfl, rfl, rfl, rfl, nofun⟩, h.w, h.tm⟩

theorem rel_qstat (h : Rel s j) : Rel (stepE s .qstat).1 (judgeRun j (stepE s .qstat).2) := by
  dsimp only [stepE]
  cases hs : s.q with
  | none => exact rel_same h _ rfl
  | some q =>
    obtain ⟨jq, hjq, hr⟩ := relQ_some (hs ▸ h.q)
    refine rel_same h _ ?_
    dsimp only [judgeCore]
    rw [hjq]
    dsimp only
    rw [hr.cap, hr.length, hr.enq, hr.deq, hr.drop, if_pos ⟨rfl, rfl, rfl⟩, if_pos ⟨rfl, rfl, rfl⟩,
      if_pos ⟨hr.inv.head_lt, hr.inv.tail_lt⟩]

theorem rel_enq (h : Rel s j) (p v sz : Nat) :
    Rel (stepE s (.enq p v sz)).1 (judgeRun j (stepE s (.enq p v sz)).2) := by
  dsimp only [stepE]
  cases hs : s.q with
  | none => exact rel_same h _ rfl
  | some q =>
    cases hb : s.blocked with
    | some m => exact rel_same h _ rfl
    | none =>
      obtain ⟨jq, hjq, hr⟩ := relQ_some (hs ▸ h.q)
      obtain ⟨jq', he, hr'⟩ := (hb ▸ hr).enqueue ⟨p, v, sz⟩ hjq
      dsimp only
      rw [h.judge_single]
      dsimp only [judgeCore]
      rw [hjq]
      dsimp only
      rw [he]
      exact ⟨h.nobad, h.rt, hr', h.w, h.tm⟩

theorem QRel.setWake {q : Q} {bl : Option Msg} {jq : JQ} (hr : QRel q bl jq) 
    : QRel q bl { jq with mustWake := false } :=
  ⟨hr.inv, hr.cap, hr.maxMsg, hr.flags, hr.contents, hr.enq, hr.deq, hr.drop, hr.blk, rfl, hr.bsize⟩

theorem rel_deq (h : Rel s j) (buf : Nat) : Rel (stepE s (.deq buf)).1 (judgeRun j (stepE s (.deq buf)).2) := by
  dsimp only [stepE]
  cases hs : s.q with
  | none => exact rel_same h _ rfl
  | some q =>
    obtain ⟨jq, hjq, hr⟩ := relQ_some (hs ▸ h.q)
    obtain ⟨jq', hr', hcase⟩ := hr.dequeue buf hjq
    have hj : ∀ r, judgeStep j (.deq buf r) = judgeDeq j jq buf r := fun r => by
      rw [h.judgeStep_eq]; dsimp only [judgeCore]; rw [hjq]
    dsimp only
    generalize q.dequeue buf = res at hr' hcase ⊢
    obtain ⟨q', r⟩ := res
    dsimp only at hr' hcase ⊢
    rcases hcase with ⟨hnm, he⟩ | ⟨⟨x, hx⟩, hroom, he⟩
    · split
      · exact absurd rfl (hnm _)
      · dsimp only [judgeRun, List.foldl]
        rw [hj, he]
        exact ⟨h.nobad, h.rt, hr', h.w, h.tm⟩
    · subst hx
      cases hb : s.blocked with
      | none =>
        dsimp only [judgeRun, List.foldl]
        rw [hj, he, hb]
        exact ⟨h.nobad, h.rt, (hb ▸ hr').setWake, h.w, h.tm⟩
      | some bm =>
        obtain ⟨hok, jq2, he2, hr2⟩ := QRel.wakeWriter (jq := { jq' with mustWake := true }) (hb ▸ hr').setWake hroom j
        dsimp only
        rw [if_pos hok]
        dsimp only [judgeRun, List.foldl]
        rw [hj, he, hb]
        dsimp only [Option.isSome]
        rw [he2]
        exact ⟨h.nobad, h.rt, hr2, h.w, h.tm⟩

theorem rel_qclear (h : Rel s j) : Rel (stepE s .qclear).1 (judgeRun j (stepE s .qclear).2) := by
  dsimp only [stepE]
  cases hs : s.q with
  | none => exact rel_same h _ rfl
  | some q =>
    obtain ⟨jq, hjq, hr⟩ := relQ_some (hs ▸ h.q)
    have hj : judgeStep j .qclear = { j with q := some { jq with contents := [], mustWake := s.blocked.isSome } } := by
      rw [h.judgeStep_eq]; dsimp only [judgeCore]; rw [hjq, ← hr.blk]
    cases hb : s.blocked with
    | none =>
      dsimp only [judgeRun, List.foldl]
      rw [hj, hb]
      exact ⟨h.nobad, h.rt, (hb ▸ hr).cleared.setWake, h.w, h.tm⟩
    | some bm =>
      obtain ⟨hok, jq2, he2, hr2⟩ := QRel.wakeWriter (jq := { jq with contents := [], mustWake := true })
        (hb ▸ hr).cleared.setWake hr.inv.cap_pos j
      dsimp only
      rw [if_pos ⟨rfl, hok⟩]
      dsimp only [judgeRun, List.foldl]
      rw [hj, hb]
      dsimp only [Option.isSome]
      rw [he2]
      exact ⟨h.nobad, h.rt, hr2, h.w, h.tm⟩

theorem rel_step (h : Rel s j) (c : Cmd) : Rel (stepE s c).1 (judgeRun j (stepE s c).2) := by
  cases c with
  | post p k d => exact rel_post h p k d
  | wakeup => exact rel_wakeup h
  | wait m => exact rel_wait h m
  | wbegin m => exact rel_wbegin h m
  | wread => exact rel_wread h
  | wend => exact rel_wend h
  | qnew a b c => exact rel_qnew h a b c
  | enq p v sz => exact rel_enq h p v sz
  | deq b => exact rel_deq h b
  | qstat => exact rel_qstat h
  | qclear => exact rel_qclear h
  | wnew w mode => exact rel_wnew h w mode
  | wstate w => exact rel_wstate h w
  | wrelease w => exact rel_wrelease h w
  | wstep w => exact rel_wstep h w
  | wquit w => exact rel_wquit h w
  | wstop w => exact rel_wstop h w
  | wjoin w t => exact rel_wjoin h w t
  | wdestroy w => exact rel_wdestroy h w
  | tinit => exact rel_tinit h
  | tstart ms => exact rel_tstart h ms
  | tstop => exact rel_tstop h
  | tactive => exact rel_tactive h
  | tsleep ms => exact rel_tsleep h ms
  | tticks => exact rel_tticks h
  | tafter => exact rel_tafter h
  | tcleanup => exact rel_tcleanup h
  | mt kind args => exact rel_same h _ rfl
  | hbrace ms => exact rel_same h _ rfl
  | hbowed => exact rel_same h _ rfl

theorem rel_run (cmds : List Cmd) : ∀ (s : World) (j : JState), Rel s j →
    Rel (runE s cmds).1 (judgeRun j (runE s cmds).2) := by
  induction cmds with
  | nil => intro s j h; exact h
  | cons c rest ih =>
    intro s j h
    simp only [runE]
    rw [judgeRun_append]
    exact ih _ _ (rel_step h c)

theorem rel_init : Rel {} {} :=
  ⟨rfl, ⟨rfl, fun _ h => absurd rfl h⟩, rfl, ⟨fun _ => rfl, fun _ _ h => nomatch h⟩,
    ⟨rfl, rfl, nofun, nofun, fun _ => rfl⟩⟩

/-- **The model satisfies the specification oracle**: for EVERY list of commands (every sequentialised schedule
of posts, wake-ups, waits, enqueues, dequeues, worker life-cycle steps, joins and timer calls), the events the
model produces are accepted by `judgeEv` — the same function that judges the traces of the real code. -/
theorem model_satisfies_spec (cmds : List Cmd) : judgeEv (events cmds) = [] := by
  have hb : (judgeRun {} (events cmds)).bad = [] := (rel_run cmds {} {} rel_init).nobad
  exact congrArg List.reverse hb

end NV.C19
