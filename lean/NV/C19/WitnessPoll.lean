/-
C19 — lib/async/async_runtime_poll.c AS IT WAS before its `fix:` commit, and Lean-checked counterexamples.

The poll back end (BSD / macOS; compiled on Linux by harness/c19/c19poll.c) used its notification PIPE as the
message carrier: `post_completion` wrote one 8-byte record `(key << 32) | (data & 0xFFFFFFFF)`, `wakeup` wrote ONE
byte into the same pipe, and `wait` read 8-byte records until a read came back short:

    while (read(pipe, &val, 8) == 8) { if (event_count < max_events) { decode; event_count++; } }

Three ways to lose or garble a completion, each replayed on the real code by a `#poll` boundary case of the check:
 * a wake-up byte in front of a record shifts the stream by one byte (garbled key/data, the tail is consumed by
   the short read that ends the loop) — `wakeup_shifts_stream`;
 * records beyond `max_events` are read and thrown away — `beyond_max_dropped`;
 * key and data are cut to 32 bits, data ≥ 2^31 is sign-extended by the `(int)` cast — `wide_key_cut`.
The repaired file uses the pipe as a doorbell and a mutex-protected ring, i.e. exactly `NV.C19.Rt` of Model.lean;
the theorems of Props.lean then hold for both back ends.
-/
import NV.C19.Model

namespace NV.C19.OldPoll

/-- the notification pipe: a byte stream -/
structure Rt where
  pipe : List Nat := []
  deriving Repr, DecidableEq

/-- little-endian bytes of a uint64 -/
def bytes8 (v : Nat) : List Nat :=
  [v % 256, v / 256 % 256, v / 256 ^ 2 % 256, v / 256 ^ 3 % 256, v / 256 ^ 4 % 256, v / 256 ^ 5 % 256,
   v / 256 ^ 6 % 256, v / 256 ^ 7 % 256]

def val8 : List Nat → Nat
  | [] => 0
  | b :: rest => b + 256 * val8 rest

/-- `uint64_t val = (((uint64_t)completion_key) << 32) | (data & 0xFFFFFFFF); write(pipe, &val, 8)` -/
def Rt.post (s : Rt) (k d : Nat) : Rt :=
  { pipe := s.pipe ++ bytes8 (((k % 2 ^ 32) * 2 ^ 32) + d % 2 ^ 32) }

/-- `char byte = 1; write(pipe, &byte, 1)` -/
def Rt.wakeup (s : Rt) : Rt := { pipe := s.pipe ++ [1] }

/-- `completion_key = val >> 32; bytes_transferred = (int)(val & 0xFFFFFFFF)` (sign-extended into a size_t) -/
def decode (v : Nat) : Item :=
  (v / 2 ^ 32, if v % 2 ^ 32 ≥ 2 ^ 31 then v % 2 ^ 32 + (2 ^ 64 - 2 ^ 32) else v % 2 ^ 32)

/-- the drain loop; `room` = free entries of the caller's array.  A read that finds fewer than 8 bytes returns
    them (they are gone) and ends the loop -/
def drainLoop : Nat → List Nat → Nat → List Item
  | 0, _, _ => []
  | fuel + 1, pipe, room =>
    if pipe.length ≥ 8 then
      (if room > 0 then [decode (val8 (pipe.take 8))] else []) ++ drainLoop fuel (pipe.drop 8) (room - 1)
    else []

/-- one whole `async_runtime_wait(rt, ev, max, {0,0})`: poll() says readable iff the pipe holds a byte -/
def Rt.wait (s : Rt) (max : Nat) : Rt × List Item :=
  if s.pipe = [] then (s, []) else ({ pipe := [] }, drainLoop s.pipe.length s.pipe max)

/-- full statement on the old code: what was posted is what the waits return -/
def PostsDeliveredFull : Prop :=
  ∀ (posts : List Item) (max : Nat), max ≥ 1 →
    let s := posts.foldl (fun s it => s.post it.1 it.2) ({} : Rt)
    (s.wait max).2 ++ ((s.wait max).1.wait max).2 = posts.take (2 * max)

/-- witness (confirmed on the real code, boundary case `poll-wakeup-then-post`: `wait 8 1 1048832:1793`): a wake-up
    byte in front of one completion garbles it… -/
theorem wakeup_shifts_stream :
    (((({} : Rt).wakeup).post 4097 7).wait 8).2 = [(1048832, 1793)] := by decide +kernel

/-- …and the real completion (4097, 7) is never delivered: the pipe is empty afterwards -/
theorem wakeup_shifts_stream_lost :
    (((({} : Rt).wakeup).post 4097 7).wait 8).1.pipe = [] := by decide +kernel

/-- witness (boundary case `poll-more-than-max`): three posts, `wait(max 1)` returns the first and DISCARDS the rest -/
theorem beyond_max_dropped :
    let s := (((({} : Rt).post 1 1).post 2 2).post 3 3)
    (s.wait 1).2 = [(1, 1)] ∧ ((s.wait 1).1.wait 1).2 = [] := by decide +kernel

theorem not_postsDeliveredFull : ¬ PostsDeliveredFull := by
  intro h
  have := h [(1, 1), (2, 2), (3, 3)] 1 (by decide)
  revert this
  decide +kernel

/-- witness (boundary case `poll-wide-key-data`): key 2^32 arrives as 0, data 2^32+1 as 1, data 2^31 sign-extended -/
theorem wide_key_cut :
    ((({} : Rt).post 4294967296 4294967297).wait 8).2 = [(0, 1)] ∧
    ((({} : Rt).post 4294967295 2147483648).wait 8).2 = [(4294967295, 18446744071562067968)] := by decide +kernel

/-- one base-256 digit and the rest -/
theorem digit_rest (v b b' : Nat) (hb : b' = b * 256) : v / b % 256 + 256 * (v / b') = v / b := by
  rw [hb, ← Nat.div_div_eq_div_mul]; exact Nat.mod_add_div (v / b) 256

theorem val8_bytes8 (v : Nat) (h : v < 2 ^ 64) : val8 (bytes8 v) = v := by
  have h7 : v / 256 ^ 7 % 256 = v / 256 ^ 7 := Nat.mod_eq_of_lt (Nat.div_lt_of_lt_mul h)
  simp only [bytes8, val8]
  rw [h7, Nat.mul_zero, Nat.add_zero, digit_rest v (256 ^ 6) _ rfl, digit_rest v (256 ^ 5) _ rfl,
    digit_rest v (256 ^ 4) _ rfl, digit_rest v (256 ^ 3) _ rfl, digit_rest v (256 ^ 2) _ rfl,
    digit_rest v 256 _ rfl, Nat.mod_add_div]

/-- what did hold on the old code: ONE post with key < 2^32 and data < 2^31, no wake-up in the pipe, arrives intact -/
theorem posts_delivered_partial (k d max : Nat) (hk : k < 2 ^ 32) (hd : d < 2 ^ 31) (hm : max ≥ 1) :
    ((({} : Rt).post k d).wait max).2 = [(k, d)] := by
  have hd' : d < 2 ^ 32 := Nat.lt_trans hd (by decide)
  have h1 : k % 2 ^ 32 = k := Nat.mod_eq_of_lt hk
  have h2 : d % 2 ^ 32 = d := Nat.mod_eq_of_lt hd'
  have hv : k * 2 ^ 32 + d < 2 ^ 64 := by omega
  -- the pipe holds exactly one 8-byte record: the drain loop decodes it and stops
  show (if max > 0 then [decode (val8 (bytes8 (k % 2 ^ 32 * 2 ^ 32 + d % 2 ^ 32)))] else []) ++ [] = [(k, d)]
  rw [if_pos (show max > 0 from hm), h1, h2, val8_bytes8 _ hv, List.append_nil]
  have h3 : (k * 2 ^ 32 + d) / 2 ^ 32 = k := by
    rw [Nat.mul_comm, Nat.mul_add_div (by decide), Nat.div_eq_of_lt hd', Nat.add_zero]
  have h4 : (k * 2 ^ 32 + d) % 2 ^ 32 = d := by rw [Nat.mul_comm, Nat.mul_add_mod, h2]
  rw [decode, h3, h4, if_neg (Nat.not_le_of_lt hd)]

end NV.C19.OldPoll
