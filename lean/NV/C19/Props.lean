/-
C19 — property theorems.  Every theorem quantifies over ALL schedules: a schedule is an arbitrary list of
scheduler choices (NV/C19/Sched.lean), the proofs are inductions on that list (NV/C19/Lemmas*.lean).
The models are those of the code after the `fix:` commits listed in notes/C19.md; on the code as it was the full
statements are refuted in NV/C19/Witness.lean and NV/C19/WitnessPoll.lean.
-/
import NV.C19.LemmasRt
import NV.C19.LemmasQ
import NV.C19.LemmasWk

namespace NV.C19

/-! ## event loop -/

/-- **Completions are delivered exactly once, unmerged, in order — in every interleaving.**
Any number of producer threads run arbitrary programs of `post(key,data)` / `wakeup` calls, the backend runs
an arbitrary list of `wait(max)` calls, and the scheduler interleaves their atomic actions (locked push, doorbell
write; epoll poll, eventfd read, lock + copy-out, re-arm write, unlock — a push blocks while the backend holds
ring_lock, a doorbell write never blocks) in any way (`picks`).  Then

1. at every moment the events returned by the waits so far, followed by what is still queued, are exactly the
   accepted completions with their key and data, in the order in which they were pushed — nothing is merged,
   garbled, duplicated or invented, and a wake-up delivers no event;
2. whenever all threads have finished their calls, a backend that keeps calling `wait(max)` until one returns
   nothing has received every accepted completion (none is left behind without a doorbell), and the accepted
   and refused completions together are, as a multiset, exactly what the producers posted.  A completion is
   refused (post returns -1) only when the ring already holds `completionRingSize` undelivered entries. -/
theorem posts_delivered_exactly_once (progs : List (List POp)) (waits picks : List Nat) (max : Nat) (hmax : 0 < max) :
    let s := (RtSys.init progs waits).run picks
    s.delivered.flatten ++ s.rt.ring = s.accepted ∧
    (s.quiescent →
      s.delivered.flatten ++ flushAll max (s.rt.ring.length + 1) s.rt = s.accepted ∧
      (s.accepted ++ s.refused).Perm (progs.flatMap postsOf)) := by
  intro s
  have hg : s.Good (progs.flatMap postsOf) := RtSys.good_run _ picks (RtSys.good_init progs waits)
  refine ⟨hg.safe, fun hq => ⟨?_, ?_⟩⟩
  · rw [flushAll_eq_ring max hmax _ _ (Nat.lt_succ_self _)]
    · exact hg.safe
    · intro hne
      rcases hg.bell (hq.2 ▸ nofun) (hq.2 ▸ nofun) hne with hb | ⟨p, hp, hpr⟩
      · exact hb
      · rw [(hq.1 p hp).2] at hpr; cases hpr
  · have := hg.books
    rw [remaining_quiescent _ hq.1, List.append_nil] at this
    exact this

/-- with no refusal (at most `completionRingSize` completions ever undelivered) the multiset received by the
    backend is the multiset posted -/
theorem posts_multiset_preserved (progs : List (List POp)) (waits picks : List Nat) (max : Nat) (hmax : 0 < max) :
    let s := (RtSys.init progs waits).run picks
    s.quiescent → s.refused = [] →
    (s.delivered.flatten ++ flushAll max (s.rt.ring.length + 1) s.rt).Perm (progs.flatMap postsOf) := by
  intro s hq hr
  obtain ⟨_, h2⟩ := posts_delivered_exactly_once progs waits picks max hmax
  obtain ⟨h3, h4⟩ := h2 hq
  have hr' : ((RtSys.init progs waits).run picks).refused = [] := hr
  rw [h3]
  rw [hr', List.append_nil] at h4
  exact h4

/-- the statement "no wake-up is lost" for a given order of doorbell reset and ring drain inside `wait` -/
def NoLostWakeup (o : Order) : Prop :=
  ∀ (progs : List (List POp)) (waits picks : List Nat),
    let s := (RtSys.init progs waits o).run picks
    s.cph = .idle → s.rt.ring ≠ [] → s.rt.bell > 0 ∨ ∃ p ∈ s.prods, p.pendingRing = true

/-- **No lost wake-up.**  In every interleaving of the atomic steps of posts, wake-ups and waits, whenever the backend
is about to call `epoll_wait` (so: whenever a wait would go to sleep) while the completion ring is not empty, the
doorbell counter is non-zero — `epoll_wait` returns at once — or a producer is between its push and its doorbell write
and rings as its very next step.  This is what resetting the doorbell BEFORE draining the ring establishes; the
opposite order breaks it (`NV.C19.Swapped.not_noLostWakeup`). -/
theorem no_lost_wakeup : NoLostWakeup .bellFirst := by
  intro progs waits picks s hidle
  exact (RtSys.good_run _ picks (RtSys.good_init progs waits)).bell (hidle ▸ nofun) (hidle ▸ nofun)

/-- corollary in the words of the oracle: once every post that pushed has also rung, a non-empty ring makes the next
    `epoll_wait` return immediately -/
theorem posted_completion_wakes_next_wait (progs : List (List POp)) (waits picks : List Nat) :
    let s := (RtSys.init progs waits).run picks
    s.cph = .idle → s.rt.ring ≠ [] → (∀ p ∈ s.prods, p.pendingRing = false) → s.rt.poll = true := by
  intro s hidle hne hnp
  rcases no_lost_wakeup progs waits picks hidle hne with hb | ⟨p, hp, hpr⟩
  · simpa [Rt.poll] using hb
  · have := hnp p hp; simp [hpr] at this

/-- non-vacuity: the interleaving that loses the wake-up in the other order — a second producer posts while the
    backend is between its steps — here leaves the doorbell set -/
example :
    ((RtSys.init [[.post 1 1], [.post 2 2]] [8, 8]).run [0, 0, 2, 2, 1, 1, 2, 2, 2]).rt = { bell := 1, ring := [] } := by
  decide +kernel
example :
    ((RtSys.init [[.post 1 1], [.post 2 2]] [8, 8]).run [0, 0, 2, 2, 2, 2, 2, 1, 1]).rt = { bell := 1, ring := [(2, 2)] } := by
  decide +kernel

/-- a post is refused only on a full ring -/
theorem post_refused_only_when_full (rt : Rt) (it : Item) : (rt.post it).2 = -1 → rt.ring.length ≥ ringSize :=
  fun h => Classical.byContradiction fun hn => by
    rw [Rt.post_room it hn] at h
    have h0 : (0 : Int) = -1 := h
    exact absurd h0 (by decide)

/-- non-vacuity: two producers, posts piled up together with a wake-up before the backend polls; all threads
    finish, both completions arrive unmerged -/
example :
    ((RtSys.init [[.post 4097 5, .post 4097 7], [.wakeup]] [8]).run [0, 0, 0, 1, 0, 2, 2, 2, 2, 2]).delivered
      = [[(4097, 5), (4097, 7)]] := by decide +kernel
example :
    ((RtSys.init [[.post 4097 5, .post 4097 7], [.wakeup]] [8]).run [0, 0, 0, 1, 0, 2, 2, 2, 2, 2]).quiescent := by
  unfold RtSys.quiescent; decide

/-! ## queue -/

/-- **The queue hands over each accepted message exactly once in FIFO order; ring indices stay in range.**
For a queue made by `async_queue_create` and ANY sequence of enqueue / dequeue calls (each atomic under the
mutex, made by any threads): no slot index ever leaves the buffer (`crashed = false`, `head, tail < cap`,
`count ≤ cap`), and the messages that have left the queue (dequeued or dropped, in that order) followed by
the messages still in it are exactly the accepted messages in the order they were accepted.  So every accepted
message is in exactly one of {dequeued, dropped, still queued}, and dequeues see them in acceptance order. -/
theorem queue_fifo_exactly_once (cap mm fl : Nat) (q : Q) (hq : Q.create cap mm fl = some q) (ops : List QOp) :
    let s := QSys.run { q } ops
    s.crashed = false ∧ s.q.head < cap ∧ s.q.tail < cap ∧ s.q.count ≤ cap ∧
    s.left.map Left.msg ++ s.q.contents = s.accepted := by
  intro s
  have hg : s.Good := QSys.good_created hq ops
  have hcs : s.q.cap = cap := QSys.cap_created hq ops
  refine ⟨hg.nocrash, ?_, ?_, ?_, hg.fifo⟩
  · rw [← hcs]; exact hg.inv.head_lt
  · rw [← hcs]; exact hg.inv.tail_lt
  · rw [← hcs]; exact hg.inv.count_le

/-- **Drops, refusals and blocking happen exactly as the overflow policy states.**  In every reachable state the
next `enqueue(m)` behaves as `EnqSpec` says (NV/C19/LemmasQ.lean): bad size → false, nothing changes; room →
true, `m` appended; full with DROP_OLDEST → true, exactly the OLDEST message is dropped and `m` appended; full with
BLOCK_WRITER only → the writer blocks, nothing changes; full with neither → false, nothing changes.  Moreover a
queue without DROP_OLDEST never drops anything. -/
theorem queue_drop_policy (cap mm fl : Nat) (q : Q) (hq : Q.create cap mm fl = some q) (ops : List QOp) (m : Msg) :
    let s := QSys.run { q } ops
    EnqSpec s.q (s.q.enqueue m).1 m (s.q.enqueue m).2 ∧
    s.q.contents.length = s.q.count ∧
    (s.q.dropOldest = false → ∀ l ∈ s.left, ∃ m', l = .dequeued m') := by
  intro s
  have hg : s.Good := QSys.good_created hq ops
  exact ⟨(Q.enqueue_spec s.q hg.inv m).2, Q.contents_length _, hg.nodrop⟩

/-- every dequeue behaves as `DeqSpec` says: empty → false; oldest message larger than the caller's buffer →
    false and the message stays; otherwise the OLDEST message is returned and removed -/
theorem queue_dequeue_oldest (cap mm fl : Nat) (q : Q) (hq : Q.create cap mm fl = some q) (ops : List QOp) (buf : Nat) :
    let s := QSys.run { q } ops
    DeqSpec s.q (s.q.dequeue buf).1 buf (s.q.dequeue buf).2 := by
  intro s
  exact (Q.dequeue_spec s.q (QSys.good_created hq ops).inv buf).2

/-- non-vacuity: capacity 2, DROP_OLDEST; the third enqueue drops message 1, the ring wraps -/
def exQ : Q := { cap := 2, maxMsg := 16, flags := flagDropOldest, slots := [⟨0, 0, 0⟩, ⟨0, 0, 0⟩] }
example : Q.create 2 16 flagDropOldest = some exQ := by decide +kernel
example :
    (QSys.run { q := exQ } [.enq ⟨1, 1, 8⟩, .enq ⟨1, 2, 8⟩, .enq ⟨1, 3, 8⟩, .deq 16]).left
      = [.dropped ⟨1, 1, 8⟩, .dequeued ⟨1, 2, 8⟩] := by decide +kernel
example :
    (QSys.run { q := exQ } [.enq ⟨1, 1, 8⟩, .enq ⟨1, 2, 8⟩, .enq ⟨1, 3, 8⟩, .deq 16]).q.contents = [⟨1, 3, 8⟩] := by decide +kernel

/-! ## worker -/

/-- **A timed join is bounded in every schedule.**  `async_worker_create` runs step by step as the source orders it
(`createProg`, regenerated), anything may happen (`pre`: steps of the creator, of the new thread — which may even
finish before the creator's next step —, stop signals), then some thread calls
`async_worker_join(w, t)` with `t ≥ 0` while the worker thread, the procedure it runs (which returns whenever the
scheduler says, possibly never) and stop signals interleave arbitrarily (`acts`).  Then the joining thread
executes at most `⌈t/10⌉ + 2` steps (so at most `⌈t/10⌉` sleeps of 10 ms: it returns within `t` + one poll
interval), its elapsed counter never exceeds `t + 9`, and it enters the untimed `pthread_join` only when the
worker thread has already stored STOPPED, i.e. is past the user procedure and exits by itself. -/
theorem timed_join_bounded (t : Nat) (pre acts : List WAct) :
    let s := (WSys.start t pre).run acts
    s.work ≤ sleepsFor t + 2 ∧
    (∀ e, s.pc = .loop e → e < t + pollMs) ∧
    (s.pc = .pjoin → s.w.th = .stored ∨ s.w.th = .exited) := by
  intro s
  have hinv : s.Inv := WSys.inv_run _ acts (WSys.inv_start t pre)
  have ht : s.t = t := by
    show ((WSys.start t pre).run acts).t = t
    rw [WSys.run_t]
    show ((WSys.fresh createProg t).run pre).t = t
    rw [WSys.run_t]; rfl
  obtain ⟨_, h2⟩ := hinv
  rw [ht] at h2
  cases hpc : s.pc with
  | loop e =>
    simp only [hpc] at h2
    exact ⟨Nat.le_add_right_of_le (le_sleepsFor (h2.1 ▸ h2.2)), fun e' he' => by cases he'; exact h2.2, nofun⟩
  | pjoin =>
    simp only [hpc] at h2
    exact ⟨by omega, by simp, fun _ => h2.1⟩
  | done r =>
    simp only [hpc] at h2
    exact ⟨h2, by simp, by simp⟩

/-- the joining thread is never blocked for longer than one step of the worker thread: inside `pthread_join`,
    one more step of the worker thread (whatever the procedure does) lets the join return true -/
theorem timed_join_progress (t : Nat) (pre acts : List WAct) (b : Bool) :
    let s := (WSys.start t pre).run acts
    s.pc = .pjoin → ((s.step (.thread b)).step .ctl).pc = .done true := by
  intro s hpc
  have ⟨_, _, hpast⟩ := timed_join_bounded t pre acts
  have h : s.w.th = .stored ∨ s.w.th = .exited := hpast hpc
  have hinv : s.Inv := WSys.inv_run _ acts (WSys.inv_start t pre)
  have hcr : s.creator = [] := (hinv.crInv.past_store h).1
  rcases h with h | h <;> simp [WSys.step, hpc, hcr, Wk.joinStep, Wk.threadStep, h]

/-- **Once the thread wrapper has stored STOPPED, no later action stores RUNNING**: in every interleaving of the
creator's steps (in the order the source has them), the new thread's steps and stop signals, whenever the worker
thread is past its STOPPED store the state field reads STOPPED.  (With the RUNNING store of `async_worker_create`
behind the `pthread_create` call this is false: `NV.C19.LateStore.state_stuck_running`.) -/
theorem state_eventually_stopped_after_proc_returns (t : Nat) (pre acts : List WAct) :
    let s := (WSys.start t pre).run acts
    (s.w.th = .stored ∨ s.w.th = .exited) → s.w.state = .stopped := by
  intro s h
  exact ((WSys.inv_run _ acts (WSys.inv_start t pre)).crInv.past_store h).2

/-- **A timed join issued after the worker procedure has returned (e.g. after a stop signal was honoured) returns
true**: if the thread is past its STOPPED store when the join begins, then in every continuation the join is never
at `done false` — it sees STOPPED at its first test, enters `pthread_join` and comes back true as soon as the thread
has exited. -/
theorem timed_join_returns_true_after_stop (t : Nat) (pre acts : List WAct) :
    ((WSys.start t pre).w.th = .stored ∨ (WSys.start t pre).w.th = .exited) →
    ((WSys.start t pre).run acts).pc ≠ .done false := by
  intro h0
  -- stable: the thread is past its store (so create has finished and the state reads STOPPED), the join has not failed
  refine (List.foldlRecOn acts WSys.step
    (motive := fun s => s.CrInv ∧ (s.w.th = .stored ∨ s.w.th = .exited) ∧ s.pc ≠ .done false)
    ⟨(WSys.inv_start t pre).crInv, h0, nofun⟩ fun s ⟨hcr, hth, hp⟩ a _ => ⟨WSys.crInv_step s a hcr, ?_⟩).2.2
  obtain ⟨hc, hst⟩ := hcr.past_store hth
  cases a with
  | creator => simp only [WSys.step, hc]; exact ⟨hth, hp⟩
  | stop => exact ⟨hth, hp⟩
  | thread b => exact ⟨Wk.threadStep_stays_past_store b hth, hp⟩
  | ctl =>
    rcases s.step_ctl_eq_self_or_joinStep with e | ⟨_, _, pc', hj, e⟩ <;> rw [e]
    · exact ⟨hth, hp⟩
    · exact ⟨hth, Wk.joinStep_stopped hst hj hp⟩

/-- non-vacuity: a short-lived worker whose thread finishes INSIDE the creator's `pthread_create` call; the join then
    finds STOPPED at once and returns true -/
example : ((WSys.start 50 [.creator, .creator, .thread true, .thread true, .thread true, .thread true]).run
    [.ctl, .ctl]).pc = .done true := by decide +kernel

/-- non-vacuity: join(25) issued before the new thread has run at all, no stop signalled: three sleeps, false -/
example : ((WSys.start 25 [.creator, .creator]).run [.ctl, .thread false, .ctl, .ctl, .ctl]).pc = .done false := by decide +kernel
example : ((WSys.start 25 [.creator, .creator]).run [.ctl, .thread false, .ctl, .ctl, .ctl]).work = 4 ∧ sleepsFor 25 = 3 := by decide +kernel

/-! ## timer -/

/-- **No callback runs after `platform_timer_stop` has returned**, in every interleaving of the timer thread
(whose timed waits end by time-out, notification or spuriously, as the scheduler likes) with the stopping thread. -/
theorem no_callback_after_stop (acts : List TAct) : logOk (({} : TSys).run acts).log = true :=
  (TSys.inv_run _ acts TSys.inv_init).logOk

/-- With `stop_requested` set, two steps of the timer thread end it from ANY state: `top` and `afterWait` exit at once,
    `waiting` and `callback` reach one of them in one step.  The thread's steps leave the stopper where it is. -/
theorem TSys.thr_thr_exited (s : TSys) (h : s.stopReq = true) (b1 b2 : Bool) :
    ((s.step (.thr b1)).step (.thr b2)).tpc = .exited ∧ ((s.step (.thr b1)).step (.thr b2)).spc = s.spc := by
  obtain ⟨active, stopReq, tpc, spc, log⟩ := s
  simp only at h
  subst h
  cases tpc <;> exact ⟨rfl, rfl⟩

/-- **Stopping the timer terminates**: once `stop_requested` is set, whatever the timer thread is doing, two of
its own steps later it has exited — at most ONE of them is a timed wait, which ends at the next tick at the latest
(delay ≤ one interval) — and the stopping thread, which blocks only in `join`, then returns. -/
theorem timer_stop_terminates (acts : List TAct) (b1 b2 : Bool) :
    let s := ({} : TSys).run acts
    s.stopReq = true →
    ((s.step (.thr b1)).step (.thr b2)).tpc = .exited ∧
    (s.spc = .notified → (((s.step (.thr b1)).step (.thr b2)).step .stopper).spc = .returned) := by
  intro s hstop
  obtain ⟨hex, hspc⟩ := TSys.thr_thr_exited s hstop b1 b2
  generalize (s.step (.thr b1)).step (.thr b2) = s2 at hex hspc ⊢
  -- the stopper is still at its `join`, which finds the thread exited
  exact ⟨hex, fun hn => by simp [TSys.step, hspc.trans hn, hex]⟩

/-- the stopping thread reaches `join` without ever waiting -/
theorem timer_stop_reaches_join (acts : List TAct) :
    let s := ({} : TSys).run acts
    s.spc = .idle → ((((s.step .stopper).step .stopper).step .stopper).spc = .notified ∧
                     (((s.step .stopper).step .stopper).step .stopper).stopReq = true) := by
  intro s h
  simp [TSys.step, h]

/-- non-vacuity: a callback is in flight while stop runs; it completes before stop returns, none after -/
example :
    (({} : TSys).run [.thr true, .thr true, .thr true, .stopper, .stopper, .thr true, .stopper, .stopper,
                      .thr true, .thr true, .stopper, .thr true]).log = [.stopReturned, .cb] := by decide +kernel

end NV.C19
