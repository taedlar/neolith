/-
C19 — lock discipline of the shared state, for ALL paths through the real function bodies.

`Gen.C19.lockedFunctions` is regenerated on every run from the clang AST of async_queue.c and of both completion
rings (props/c19_extract.py): each function body reduced to lock / unlock / event-wait / event-set / shared-field
accesses with its real control flow.  This file gives

 * `runActs`   what a sequence of such actions does to "this thread holds the mutex" — `none` when the discipline is
               violated: an access without the mutex, a second lock, an unlock without lock, an event wait made while
               holding the mutex, a write to a field that is read without the mutex elsewhere;
 * `Exec`      the PATH semantics of a body: every choice at every `if`, every number of loop iterations, `return` /
               `continue` / `break`;
 * `chk`       a checker (one pass, loop-head state as invariant), and `chk_sound`: whatever `chk` accepts is
               disciplined on every path;
 * `MSys`      threads interleaved under a real mutex: `mutex_excludes_accesses` — when every thread is disciplined, a
               thread that touches a shared field is the holder of the mutex at that moment, so two accesses of
               different threads are always separated by an unlock and a lock (no data race on those fields).

The obligation that ties it to the source is `locked_functions_accepted` in LocksProps.lean (`decide` over the generated
bodies: `okBody` of each); `lock_discipline_all_paths` follows from it by `okBody_sound`.  A change like "release the
mutex while the payload is copied out" puts a slot access outside the bracket: the obligation breaks, and the check goes
looking for a failing input (`mt queue`).
-/
import NV.Gen.C19

namespace NV.C19

open NV.Gen.C19 (LAct LStmt)

/-- one action against "this thread holds the mutex"; `none` = discipline violated -/
def actOk (h : Bool) : LAct → Option Bool
  | .lock => if h then none else some true
  | .unlock => if h then some false else none
  | .wait => if h then none else some false
  | .set => some h
  | .rd _ => if h then some true else none
  | .wr _ => if h then some true else none
  | .wrImm _ => none

def runActs (h : Bool) : List LAct → Option Bool
  | [] => some h
  | a :: r => match actOk h a with
    | none => none
    | some h' => runActs h' r

theorem runActs_append (h : Bool) (l1 l2 : List LAct) :
    runActs h (l1 ++ l2) = match runActs h l1 with | none => none | some h' => runActs h' l2 := by
  induction l1 generalizing h with
  | nil => rfl
  | cons a r ih =>
    simp only [List.cons_append, runActs]
    cases actOk h a with
    | none => rfl
    | some h' => exact ih h'

theorem runActs_prefix (h : Bool) (l1 l2 : List LAct) (h2 : Bool) (hr : runActs h (l1 ++ l2) = some h2) :
    ∃ h1, runActs h l1 = some h1 := by
  rw [runActs_append] at hr
  cases h1 : runActs h l1 with
  | none => rw [h1] at hr; cases hr
  | some x => exact ⟨x, rfl⟩

/-! ## path semantics -/

inductive Exit | normal | ret | cont | brk
  deriving Repr, DecidableEq

inductive Exec : LStmt → List LAct → Exit → Prop
  | acts (l : List LAct) : Exec (.acts l) l .normal
  | seqN {a b t1 t2 ex} : Exec a t1 .normal → Exec b t2 ex → Exec (.seq a b) (t1 ++ t2) ex
  | seqX {a b t1 ex} : Exec a t1 ex → ex ≠ .normal → Exec (.seq a b) t1 ex
  | iteT {c t e tr ex} : Exec t tr ex → Exec (.ite c t e) (c ++ tr) ex
  | iteE {c t e tr ex} : Exec e tr ex → Exec (.ite c t e) (c ++ tr) ex
  | loopExit {c b} : Exec (.loop c b) c .normal
  | loopIter {c b t1 t2 ex1 ex} : Exec b t1 ex1 → (ex1 = .normal ∨ ex1 = .cont) → Exec (.loop c b) t2 ex →
      Exec (.loop c b) (c ++ t1 ++ t2) ex
  | loopBrk {c b t1} : Exec b t1 .brk → Exec (.loop c b) (c ++ t1) .normal
  | loopRet {c b t1} : Exec b t1 .ret → Exec (.loop c b) (c ++ t1) .ret
  | ret (c : List LAct) : Exec (.ret c) c .ret
  | cont : Exec .cont [] .cont
  | brk : Exec .brk [] .brk

/-! ## the checker -/

/-- join of the two arms of an `if`: `none` = the arms leave the mutex in different states -/
def joinArms : Option Bool → Option Bool → Option (Option Bool)
  | none, r => some r
  | r, none => some r
  | some x, some y => if x = y then some (some x) else none

/-- `lh` = lock state at the head of the enclosing loop (what `continue` / `break` must restore);
    result: `none` = violated, `some none` = never falls through, `some (some h)` = falls through holding `h` -/
def chk (lh : Option Bool) : LStmt → Bool → Option (Option Bool)
  | .acts l, h => match runActs h l with | none => none | some h' => some (some h')
  | .seq a b, h => match chk lh a h with
    | none => none
    | some none => some none
    | some (some h') => chk lh b h'
  | .ite c t e, h => match runActs h c with
    | none => none
    | some h1 => match chk lh t h1, chk lh e h1 with
      | some rt, some re => joinArms rt re
      | _, _ => none
  | .loop c body, h => match runActs h c with
    | none => none
    | some h1 =>
      if h1 = h then
        match chk (some h) body h with
        | some none => some (some h)
        | some (some h') => if h' = h then some (some h) else none
        | none => none
      else none
  | .ret c, h => match runActs h c with
    | some false => some none
    | _ => none
  | .cont, h => if lh = some h then some none else none
  | .brk, h => if lh = some h then some none else none

/-- what the checker has verified when it accepts a loop: the condition keeps the lock state, the body is accepted from
    that state and, where it falls through, comes back to it -/
theorem chk_loop {lh : Option Bool} {c : List LAct} {b : LStmt} {h : Bool} {r : Option Bool}
    (hc : chk lh (.loop c b) h = some r) :
    runActs h c = some h ∧ r = some h ∧ ∃ rb, chk (some h) b h = some rb ∧ (rb = none ∨ rb = some h) := by
  simp only [chk] at hc
  cases hcnd : runActs h c with
  | none => rw [hcnd] at hc; cases hc
  | some h1 =>
    rw [hcnd] at hc
    dsimp only at hc
    split at hc
    · rename_i heq
      subst heq
      cases hb : chk (some h1) b h1 with
      | none => rw [hb] at hc; cases hc
      | some rb =>
        rw [hb] at hc
        cases rb with
        | none => exact ⟨rfl, (Option.some.inj hc).symm, none, rfl, Or.inl rfl⟩
        | some h' =>
          dsimp only at hc
          split at hc
          · rename_i hh; subst hh; exact ⟨rfl, (Option.some.inj hc).symm, _, rfl, Or.inr rfl⟩
          · cases hc
    · cases hc

/-- …and an `if`: the condition runs, both arms are accepted, and an arm that falls through leaves the joined state -/
theorem chk_ite {lh : Option Bool} {c : List LAct} {t e : LStmt} {h : Bool} {r : Option Bool}
    (hc : chk lh (.ite c t e) h = some r) :
    ∃ h1 rt re, runActs h c = some h1 ∧ chk lh t h1 = some rt ∧ chk lh e h1 = some re ∧ joinArms rt re = some r := by
  simp only [chk] at hc
  cases hcnd : runActs h c with
  | none => rw [hcnd] at hc; cases hc
  | some h1 =>
    rw [hcnd] at hc
    dsimp only at hc
    cases hct : chk lh t h1 with
    | none => rw [hct] at hc; cases hc
    | some rt =>
      cases hce : chk lh e h1 with
      | none => rw [hct, hce] at hc; cases hc
      | some re =>
        rw [hct, hce] at hc
        exact ⟨h1, rt, re, rfl, hct, hce, hc⟩

theorem joinArms_left {x : Bool} {re r : Option Bool} (h : joinArms (some x) re = some r) : r = some x := by
  cases re with
  | none => exact (Option.some.inj h).symm
  | some y =>
    simp only [joinArms] at h
    split at h
    · exact (Option.some.inj h).symm
    · cases h

theorem joinArms_right {y : Bool} {rt r : Option Bool} (h : joinArms rt (some y) = some r) : r = some y := by
  cases rt with
  | none => exact (Option.some.inj h).symm
  | some x =>
    simp only [joinArms] at h
    split at h
    · rename_i hxy; rw [← hxy]; exact (Option.some.inj h).symm
    · cases h

theorem chk_seq {lh : Option Bool} {a b : LStmt} {h : Bool} {r : Option Bool} (hc : chk lh (.seq a b) h = some r) :
    ∃ ra, chk lh a h = some ra ∧ ∀ h', ra = some h' → chk lh b h' = some r := by
  simp only [chk] at hc
  cases ha : chk lh a h with
  | none => rw [ha] at hc; cases hc
  | some ra =>
    rw [ha] at hc
    refine ⟨ra, rfl, fun h' e => ?_⟩
    subst e
    exact hc

theorem chk_sound {s : LStmt} {tr : List LAct} {ex : Exit} (hexec : Exec s tr ex) :
    ∀ (lh : Option Bool) (h : Bool) (r : Option Bool), chk lh s h = some r →
      ∃ h', runActs h tr = some h' ∧ (ex = .normal → r = some h') ∧ (ex = .ret → h' = false) ∧
        ((ex = .cont ∨ ex = .brk) → lh = some h') := by
  induction hexec with
  | acts l =>
    intro lh h r hc
    simp only [chk] at hc
    cases hr : runActs h l with
    | none => rw [hr] at hc; cases hc
    | some h' =>
      rw [hr] at hc
      exact ⟨h', rfl, fun _ => (Option.some.inj hc).symm, nofun, nofun⟩
  | @seqN a b t1 t2 ex _ _ iha ihb =>
    intro lh h r hc
    obtain ⟨ra, ha, hb⟩ := chk_seq hc
    obtain ⟨h1, hr1, hn1, -, -⟩ := iha lh h ra ha
    obtain ⟨h2, hr2, rest⟩ := ihb lh h1 r (hb h1 (hn1 rfl))
    exact ⟨h2, by rw [runActs_append, hr1]; exact hr2, rest⟩
  | @seqX a b t1 ex _ hne iha =>
    intro lh h r hc
    obtain ⟨ra, ha, -⟩ := chk_seq hc
    obtain ⟨h1, hr1, -, hret1, hcb1⟩ := iha lh h ra ha
    exact ⟨h1, hr1, fun e => absurd e hne, hret1, hcb1⟩
  | @iteT c t e tr ex _ iht =>
    intro lh h r hc
    obtain ⟨h1, rt, re, hcnd, hct, -, hj⟩ := chk_ite hc
    obtain ⟨h2, hr2, hn2, hret2, hcb2⟩ := iht lh h1 rt hct
    refine ⟨h2, by rw [runActs_append, hcnd]; exact hr2, fun hex => ?_, hret2, hcb2⟩
    cases hn2 hex
    exact joinArms_left hj
  | @iteE c t e tr ex _ ihe =>
    intro lh h r hc
    obtain ⟨h1, rt, re, hcnd, -, hce, hj⟩ := chk_ite hc
    obtain ⟨h2, hr2, hn2, hret2, hcb2⟩ := ihe lh h1 re hce
    refine ⟨h2, by rw [runActs_append, hcnd]; exact hr2, fun hex => ?_, hret2, hcb2⟩
    cases hn2 hex
    exact joinArms_right hj
  | @loopExit c b =>
    intro lh h r hc
    obtain ⟨hcnd, hr, -⟩ := chk_loop hc
    exact ⟨h, hcnd, fun _ => hr, nofun, nofun⟩
  | @loopIter c b t1 t2 ex1 ex _ hex1 _ ihb ihl =>
    intro lh h r hc
    obtain ⟨hcnd, -, rb, hb, hrb⟩ := chk_loop hc
    obtain ⟨h2, hr2, hn2, -, hcb2⟩ := ihb (some h) h rb hb
    -- the body comes back to the loop head in the state it was entered with
    have h21 : h2 = h := by
      rcases hex1 with e | e
      · rcases hrb with e' | e'
        · rw [hn2 e] at e'; cases e'
        · exact (Option.some.inj ((hn2 e).symm.trans e'))
      · exact (Option.some.inj (hcb2 (Or.inl e))).symm
    subst h21
    obtain ⟨h3, hr3, rest⟩ := ihl lh h2 r hc
    exact ⟨h3, by rw [runActs_append, runActs_append, hcnd]; dsimp only; rw [hr2]; exact hr3, rest⟩
  | @loopBrk c b t1 _ ihb =>
    intro lh h r hc
    obtain ⟨hcnd, hr, rb, hb, -⟩ := chk_loop hc
    obtain ⟨h2, hr2, -, -, hcb2⟩ := ihb (some h) h rb hb
    cases hcb2 (Or.inr rfl)
    exact ⟨h, by rw [runActs_append, hcnd]; exact hr2, fun _ => hr, nofun, nofun⟩
  | @loopRet c b t1 _ ihb =>
    intro lh h r hc
    obtain ⟨hcnd, -, rb, hb, -⟩ := chk_loop hc
    obtain ⟨h2, hr2, -, hret2, -⟩ := ihb (some h) h rb hb
    exact ⟨h2, by rw [runActs_append, hcnd]; exact hr2, nofun, fun _ => hret2 rfl, nofun⟩
  | ret c =>
    intro lh h r hc
    simp only [chk] at hc
    cases hr : runActs h c with
    | none => rw [hr] at hc; cases hc
    | some h' =>
      rw [hr] at hc
      cases h' with
      | true => cases hc
      | false => exact ⟨false, rfl, nofun, fun _ => rfl, nofun⟩
  | cont =>
    intro lh h r hc
    simp only [chk] at hc
    split at hc
    · rename_i hl; exact ⟨h, rfl, nofun, nofun, fun _ => hl⟩
    · cases hc
  | brk =>
    intro lh h r hc
    simp only [chk] at hc
    split at hc
    · rename_i hl; exact ⟨h, rfl, nofun, nofun, fun _ => hl⟩
    · cases hc

/-- a function body is accepted: entered without the mutex, every path leaves it released -/
def okBody (s : LStmt) : Bool :=
  match chk none s false with
  | some none => true
  | some (some false) => true
  | _ => false

/-- a whole call, on any path: the trace is disciplined and ends with the mutex released -/
theorem okBody_sound {s : LStmt} (hok : okBody s = true) {tr : List LAct} {ex : Exit} (hexec : Exec s tr ex) :
    runActs false tr = some false := by
  unfold okBody at hok
  cases hc : chk none s false with
  | none => rw [hc] at hok; cases hok
  | some r =>
    obtain ⟨h', hr, hn, hret, hcb⟩ := chk_sound hexec none false r hc
    rw [hc] at hok
    cases ex with
    | normal =>
      have := hn rfl
      subst this
      cases h' with
      | false => exact hr
      | true => simp at hok
    | ret => rw [hret rfl] at hr; exact hr
    | cont => have := hcb (Or.inl rfl); cases this
    | brk => have := hcb (Or.inr rfl); cases this

/-! ## threads under a real mutex -/

def isAccess : LAct → Bool
  | .rd _ => true | .wr _ => true | _ => false

/-- mutex owner + "does thread t think it holds the mutex" -/
structure MSys where
  owner : Option Nat := none
  holds : Nat → Bool := fun _ => false

/-- one scheduled action of thread `t`: the thread-local discipline (`actOk`) and the mutex itself (a lock is taken
    only when the mutex is free — a thread that finds it taken is simply not scheduled) -/
def MSys.step (s : MSys) (e : Nat × LAct) : Option MSys :=
  match actOk (s.holds e.1) e.2 with
  | none => none
  | some b =>
    match e.2 with
    | .lock => if s.owner = none then some { owner := some e.1, holds := fun u => if u = e.1 then b else s.holds u } else none
    | .unlock => some { owner := none, holds := fun u => if u = e.1 then b else s.holds u }
    | _ => some { s with holds := fun u => if u = e.1 then b else s.holds u }

def MSys.run (s : MSys) : List (Nat × LAct) → Option MSys
  | [] => some s
  | e :: r => match s.step e with
    | none => none
    | some s' => s'.run r

/-- the owner is exactly the thread that holds -/
def MSys.Coherent (s : MSys) : Prop := ∀ t, s.holds t = true ↔ s.owner = some t

/-- what the thread-local rule allows: a lock only when not holding, an unlock only when holding, and nothing else
    changes what the thread believes -/
theorem actOk_some {h b : Bool} {a : LAct} (hb : actOk h a = some b) :
    (a = .lock → h = false ∧ b = true) ∧ (a = .unlock → h = true ∧ b = false) ∧
    (a ≠ .lock → a ≠ .unlock → b = h) := by
  cases a <;> cases h <;> simp_all [actOk]

/-- …and an access only when holding -/
theorem actOk_access {h b : Bool} {a : LAct} (hb : actOk h a = some b) (ha : isAccess a = true) : h = true := by
  cases a <;> cases h <;> simp_all [actOk, isAccess]

theorem MSys.coherent_step (s s' : MSys) (e : Nat × LAct) (h : s.Coherent) (hs : s.step e = some s') : s'.Coherent := by
  obtain ⟨t, a⟩ := e
  unfold MSys.step at hs
  dsimp only at hs
  cases hb : actOk (s.holds t) a with
  | none => rw [hb] at hs; cases hs
  | some b =>
    rw [hb] at hs
    obtain ⟨hlock, hunlock, hkeep⟩ := actOk_some hb
    intro u
    by_cases hl : a = .lock
    · -- granted only when free: nobody held it, now `t` does
      subst hl
      dsimp only at hs
      split at hs
      · rename_i hfree
        cases hs
        by_cases hu : u = t
        · subst hu; simp [(hlock rfl).2]
        · have : s.holds u = false := by
            cases hh : s.holds u with
            | false => rfl
            | true => rw [(h u).mp hh] at hfree; cases hfree
          simp [hu, this, Ne.symm hu]
      · cases hs
    · by_cases hul : a = .unlock
      · -- the holder releases: it was the owner, nobody else held
        subst hul
        cases hs
        have hown : s.owner = some t := (h t).mp (hunlock rfl).1
        by_cases hu : u = t
        · subst hu; simp [(hunlock rfl).2]
        · have : s.holds u = false := by
            cases hh : s.holds u with
            | false => rfl
            | true => rw [(h u).mp hh] at hown; exact absurd (Option.some.inj hown) hu
          simp [hu, this]
      · -- every other action leaves the mutex and the thread's belief as they are
        have hs' : s' = { s with holds := fun u => if u = t then b else s.holds u } := by
          cases a <;> first | exact absurd rfl hl | exact absurd rfl hul | exact (Option.some.inj hs).symm
        subst hs'
        rw [hkeep hl hul]
        by_cases hu : u = t
        · subst hu; simpa using h u
        · simpa [hu] using h u

theorem MSys.coherent_run (s s' : MSys) (sched : List (Nat × LAct)) (h : s.Coherent) (hr : s.run sched = some s') :
    s'.Coherent := by
  induction sched generalizing s with
  | nil => simp only [MSys.run] at hr; cases hr; exact h
  | cons e r ih =>
    simp only [MSys.run] at hr
    cases hs : s.step e with
    | none => rw [hs] at hr; cases hr
    | some s1 => rw [hs] at hr; exact ih s1 (coherent_step s s1 e h hs) hr

theorem MSys.run_append (s : MSys) (l1 l2 : List (Nat × LAct)) :
    s.run (l1 ++ l2) = match s.run l1 with | none => none | some s' => s'.run l2 := by
  induction l1 generalizing s with
  | nil => rfl
  | cons e r ih =>
    simp only [List.cons_append, MSys.run]
    cases s.step e with
    | none => rfl
    | some s1 => exact ih s1

/-- **Accesses are exclusive.**  Any number of threads, any interleaving in which every thread keeps the discipline
(that is what `chk` establishes for every path of every function) and locks are granted only when the mutex is free:
at the moment a thread reads or writes a shared field it is the owner of the mutex.  Two accesses by different
threads therefore always have an unlock and a lock between them — they are ordered by the mutex, never concurrent. -/
theorem mutex_excludes_accesses (pre post : List (Nat × LAct)) (t : Nat) (a : LAct) (ha : isAccess a = true)
    (fin : MSys) (hrun : ({} : MSys).run (pre ++ (t, a) :: post) = some fin) :
    ∃ s, ({} : MSys).run pre = some s ∧ s.owner = some t := by
  rw [MSys.run_append] at hrun
  cases hp : ({} : MSys).run pre with
  | none => rw [hp] at hrun; cases hrun
  | some s =>
    refine ⟨s, rfl, ?_⟩
    rw [hp] at hrun
    simp only [MSys.run] at hrun
    have hco : s.Coherent := MSys.coherent_run {} s pre (by intro u; simp) hp
    cases hb : actOk (s.holds t) a with
    | none => simp only [MSys.step, hb] at hrun; cases hrun
    | some b => exact (hco t).mp (actOk_access hb ha)

end NV.C19
