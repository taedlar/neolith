/-
C19 — the eventfd counter is finite: the overflow bound as an EXPLICIT hypothesis, and how far away it is.

`Rt.ringBell` (Model.lean) adds 1 to an unbounded `Nat`.  The kernel's eventfd counter holds at most 2^64 - 2; a write
that would exceed it fails with EAGAIN on a non-blocking eventfd (the epoll back end creates it with EFD_NONBLOCK), and
`async_runtime_post_completion` / `async_runtime_wakeup` then return -1 — for a post, AFTER the completion has been
pushed (it is still delivered: the doorbell is certainly rung).  This file states the bounded operations, proves that
below the bound they ARE the unbounded ones, and that a run of n scheduler steps cannot bring the counter above n: the
bound matters only after 2^64 - 2 doorbell writes with no wait in between.
-/
import NV.C19.LemmasRt

namespace NV.C19

/-- kernel: maximum value of an eventfd counter (ULLONG_MAX - 1) — a hypothesis about the platform, not read from the
    driver's source -/
def eventfdMax : Nat := 2 ^ 64 - 2

/-- `write(event_fd, &one, 8)` on a non-blocking eventfd: fails (EAGAIN, counter unchanged) when it would overflow -/
def Rt.ringBellK (s : Rt) : Rt × Bool :=
  if s.bell + 1 > eventfdMax then (s, false) else (s.ringBell, true)

/-- `async_runtime_post_completion` with the bounded doorbell: -1 also when the write fails (entry stays queued) -/
def Rt.postK (s : Rt) (it : Item) : Rt × Int :=
  match s.push it with
  | (s', true) => (match s'.ringBellK with | (s'', true) => (s'', 0) | (s'', false) => (s'', -1))
  | (s', false) => (s', -1)

/-- **Below the bound the model is exact.** -/
theorem post_exact_below_overflow (s : Rt) (it : Item) (h : s.bell < eventfdMax) : s.postK it = s.post it := by
  by_cases hfull : s.ring.length ≥ ringSize
  · rw [Rt.postK, Rt.post_full it hfull, Rt.push_full it hfull]
  · have hb : ¬ (s.bell + 1 > eventfdMax) := by omega
    rw [Rt.postK, Rt.post_room it hfull, Rt.push_room it hfull]
    simp only [Rt.ringBellK, if_neg hb]
    rfl

/-- at the bound: the post reports failure, yet the completion IS queued and the doorbell IS rung (it will be
    delivered) — the only divergence between return code and effect, stated so that nobody has to guess -/
theorem post_at_overflow_still_queued (s : Rt) (it : Item) (hroom : s.ring.length < ringSize) (h : s.bell = eventfdMax) :
    (s.postK it).2 = -1 ∧ (s.postK it).1.ring = s.ring ++ [it] ∧ (s.postK it).1.poll = true := by
  have hp := Rt.push_room (rt := s) it (Nat.not_le_of_lt hroom)
  have hov : (s.bell + 1 > eventfdMax) := by omega
  simp [Rt.postK, hp, Rt.ringBellK, Rt.poll, h, eventfdMax]

/-- **The bound is 2^64 - 2 scheduler steps away.**  However producers, wake-ups and waits interleave, after n steps
the doorbell counter is at most n: no write can fail before the system has made 2^64 - 2 steps. -/
theorem bell_le_steps (progs : List (List POp)) (waits picks : List Nat) :
    ((RtSys.init progs waits).run picks).rt.bell ≤ picks.length :=
  Nat.le_trans (RtSys.bell_run_le _ picks) (Nat.le_of_eq (Nat.zero_add _))

theorem no_doorbell_overflow (progs : List (List POp)) (waits picks : List Nat) (h : picks.length < eventfdMax) :
    ((RtSys.init progs waits).run picks).rt.bell < eventfdMax :=
  Nat.lt_of_le_of_lt (bell_le_steps progs waits picks) h

end NV.C19
