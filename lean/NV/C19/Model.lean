/-
C19 — executable models of the cross-thread notification code of lib/async and lib/port, written from the
code that exists (after the `fix:` commits listed in notes/C19.md; the code as it was before is modelled in
NV/C19/Witness.lean and NV/C19/WitnessPoll.lean):

 * `Rt`     lib/async/async_runtime_epoll.c   async_runtime_post_completion / _wakeup / _wait:
            the eventfd is a counter used as a DOORBELL only, posted completions travel through a
            mutex-protected FIFO ring of `Gen.C19.completionRingSize` entries.
 * `Q`      lib/async/async_queue.c           ring (head = write index, tail = read index, count, capacity)
            with enqueue under DROP_OLDEST / BLOCK_WRITER / fail and dequeue; every call atomic under the mutex.
 * `Wk`     lib/async/async_worker_pthread.c  create / thread wrapper / signal_stop; the timed join (`Wk.joinStep`) and
            destroy are in NV/C19/Run.lean.
 * `Tm`     lib/port/timer.cpp                the record and the return codes; init / start / stop / cleanup are the
            `t…` commands of NV/C19/Run.lean, the thread loop against stop is `TSys` of NV/C19/Sched.lean.

Each C call is split into its ATOMIC ACTIONS (the pieces between two synchronisation points).  NV/C19/Sched.lean
interleaves these atomic actions of several threads under an arbitrary scheduler; the coarse operations below
(`post`, `wait`, …: one whole call, as the sequentialised harness performs them) are compositions of the same
atomic actions, so the theorems about all schedules cover what the driver executes.
-/
import NV.Gen.C19

namespace NV.C19

/-! ## event loop: eventfd doorbell + completion ring -/

/-- a posted completion: (completion_key, data) -/
abbrev Item := Nat × Nat

/-- shared state of `struct async_runtime_s` that matters here -/
structure Rt where
  /-- eventfd counter (a write adds, a read returns the value and resets it) -/
  bell : Nat := 0
  /-- `ring[ring_head .. ring_head+ring_count)`, oldest first -/
  ring : List Item := []
  deriving Repr, DecidableEq

def ringSize : Nat := Gen.C19.completionRingSize

/-- atomic: the locked section of `async_runtime_post_completion`; `false` = ring full (post returns -1,
    nothing written, doorbell not rung) -/
def Rt.push (s : Rt) (it : Item) : Rt × Bool :=
  if s.ring.length ≥ ringSize then (s, false) else ({ s with ring := s.ring ++ [it] }, true)

/-- atomic: `write(event_fd, 1)` — second half of a post, or the whole of `async_runtime_wakeup` -/
def Rt.ringBell (s : Rt) : Rt := { s with bell := s.bell + 1 }

/-- atomic: `epoll_wait(..., timeout 0)`: is the eventfd readable? -/
def Rt.poll (s : Rt) : Bool := s.bell > 0

/-- atomic: `read(event_fd)` until EAGAIN: the counter is reset -/
def Rt.drain (s : Rt) : Rt := { s with bell := 0 }

/-- atomic (ring_lock held, nobody else can touch the ring): copy out up to `max` entries -/
def Rt.take (s : Rt) (max : Nat) : Rt × List Item :=
  ({ s with ring := s.ring.drop max }, s.ring.take max)

/-- atomic (still under ring_lock): the caller's array was full and entries remain: `write(event_fd, 1)` again -/
def Rt.rearm (s : Rt) : Rt := { s with bell := if s.ring.isEmpty then s.bell else s.bell + 1 }

/-- the whole locked section of `async_runtime_wait`: take up to `max` entries, ring again when some remain -/
def Rt.pop (s : Rt) (max : Nat) : Rt × List Item :=
  let out := s.ring.take max
  let rest := s.ring.drop max
  ({ bell := if rest.isEmpty then s.bell else s.bell + 1, ring := rest }, out)

theorem Rt.pop_eq_take_rearm (s : Rt) (max : Nat) : s.pop max = ((s.take max).1.rearm, (s.take max).2) := rfl

/-- one whole `async_runtime_post_completion` call; result = return code -/
def Rt.post (s : Rt) (it : Item) : Rt × Int :=
  match s.push it with
  | (s', true) => (s'.ringBell, 0)
  | (s', false) => (s', -1)

/-- one whole `async_runtime_wait(rt, ev, max, {0,0})` call (`max ≥ 1`) -/
def Rt.wait (s : Rt) (max : Nat) : Rt × List Item :=
  if s.poll then s.drain.pop max else (s, [])

/-! ## async_queue -/

structure Msg where
  p : Nat
  v : Nat
  size : Nat
  deriving Repr, DecidableEq, Inhabited

def flagDropOldest : Nat := Gen.C19.queueDropOldest
def flagBlockWriter : Nat := Gen.C19.queueBlockWriter

structure Q where
  cap : Nat
  maxMsg : Nat
  flags : Nat
  slots : List Msg          -- `buffer`, `cap` slots
  head : Nat := 0           -- write position
  tail : Nat := 0           -- read position
  count : Nat := 0
  enqCount : Nat := 0
  deqCount : Nat := 0
  dropCount : Nat := 0
  deriving Repr, DecidableEq

def Q.dropOldest (q : Q) : Bool := q.flags &&& flagDropOldest != 0
def Q.blockWriter (q : Q) : Bool := q.flags &&& flagBlockWriter != 0

/-- `async_queue_create`: NULL when capacity or max_msg_size is 0 -/
def Q.create (cap maxMsg flags : Nat) : Option Q :=
  if cap = 0 ∨ maxMsg = 0 then none
  else some { cap, maxMsg, flags, slots := List.replicate cap ⟨0, 0, 0⟩ }

inductive EnqRes
  | ok                       -- returned true
  | fail                     -- returned false
  | blocked                  -- BLOCK_WRITER: the caller sleeps on `not_full` (nothing changed)
  | crash                    -- slot index outside the buffer
  deriving Repr, DecidableEq

/-- `async_queue_enqueue`, atomic under the mutex (a blocked writer releases the mutex and retries later) -/
def Q.enqueue (q : Q) (m : Msg) : Q × EnqRes :=
  if m.size = 0 ∨ m.size > q.maxMsg then (q, .fail)
  else
    -- `while (count >= capacity)`: DROP_OLDEST is tested first and makes room in one iteration
    let r : Option Q :=
      if q.count ≥ q.cap then
        if q.dropOldest then
          some { q with tail := (q.tail + 1) % q.cap, count := q.count - 1, dropCount := q.dropCount + 1 }
        else none
      else some q
    match r with
    | none => (q, if q.blockWriter then .blocked else .fail)
    | some q =>
      if q.head < q.slots.length then
        ({ q with slots := q.slots.set q.head m, head := (q.head + 1) % q.cap, count := q.count + 1,
                  enqCount := q.enqCount + 1 }, .ok)
      else (q, .crash)

inductive DeqRes
  | none                     -- returned false (empty, or caller's buffer too small: message stays)
  | msg (m : Msg)
  | crash
  deriving Repr, DecidableEq

/-- `async_queue_dequeue`, atomic under the mutex -/
def Q.dequeue (q : Q) (bufSize : Nat) : Q × DeqRes :=
  if q.count = 0 then (q, .none)
  else match q.slots[q.tail]? with
    | Option.none => (q, .crash)
    | some m =>
      if m.size > bufSize then (q, .none)
      else ({ q with tail := (q.tail + 1) % q.cap, count := q.count - 1, deqCount := q.deqCount + 1 }, .msg m)

def Q.clear (q : Q) : Q := { q with head := 0, tail := 0, count := 0 }

/-- `async_queue_clear` ends with `if (flags & BLOCK_WRITER) platform_event_set(&not_full)` — read from the source on
    every run -/
def clearSignals : Bool := Gen.C19.clearSignalsNotFull

/-! ## worker thread -/

inductive WState | stopped | running
  deriving Repr, DecidableEq

/-- where the worker THREAD is -/
inductive ThPhase
  | notSpawned   -- `pthread_create` has not been called yet
  | spawned      -- pthread_create done, wrapper has not stored RUNNING yet (hook point 1)
  | inproc       -- inside `worker->proc`
  | returned     -- proc returned, STOPPED not stored yet (hook point 2)
  | stored       -- STOPPED stored, thread about to exit
  | exited
  deriving Repr, DecidableEq

structure Wk where
  state : WState := .stopped       -- calloc: ASYNC_WORKER_STOPPED = 0
  stopEv : Bool := false
  th : ThPhase := .notSpawned
  joined : Bool := false
  destroyed : Bool := false
  deriving Repr, DecidableEq

/-- atomic actions of the thread inside `async_worker_create` -/
inductive CrAct
  | store (v : WState)     -- `worker->state = v`
  | spawn                  -- `pthread_create(...)` returns 0
  deriving Repr, DecidableEq

def stateOfNat (n : Nat) : WState := if n = Gen.C19.workerRunning then .running else .stopped

/-- `async_worker_create` AS THE SOURCE HAS IT (regenerated every run): the stores into `worker->state` in front of
    the `pthread_create` call, the call, the stores behind it -/
def createProg : List CrAct :=
  (Gen.C19.createStoresBeforeSpawn.map fun n => CrAct.store (stateOfNat n)) ++ [.spawn] ++
  (Gen.C19.createStoresAfterSpawn.map fun n => CrAct.store (stateOfNat n))

def Wk.crStep (w : Wk) : CrAct → Wk
  | .store v => { w with state := v }
  | .spawn => { w with th := .spawned }

/-- one atomic step of the worker thread (`worker_thread_proc`: store RUNNING; proc; store STOPPED; exit);
    `procReturns` = the user procedure returns now (it is arbitrary code: the scheduler decides) -/
def Wk.threadStep (w : Wk) (procReturns : Bool) : Wk :=
  match w.th with
  | .notSpawned => w
  | .spawned => { w with state := .running, th := .inproc }
  | .inproc => if procReturns then { w with th := .returned } else w
  | .returned => { w with state := .stopped, th := .stored }
  | .stored => { w with th := .exited }
  | .exited => w

/-- the whole thread at once (a procedure that returns immediately) -/
def Wk.runThread (w : Wk) : Wk := (((w.threadStep true).threadStep true).threadStep true).threadStep true

/-- `async_worker_create` run by one thread without interruption; `race` = the new thread runs to its end INSIDE the
    `pthread_create` call, before the creator continues (short-lived worker, creator preempted) -/
def Wk.createSeq (race : Bool) : List CrAct → Wk → Wk
  | [], w => w
  | .spawn :: rest, w => Wk.createSeq race rest (if race then (w.crStep .spawn).runThread else w.crStep .spawn)
  | a :: rest, w => Wk.createSeq race rest (w.crStep a)

/-- the worker as `async_worker_create` returns it, the new thread not having run yet -/
def Wk.create : Wk := Wk.createSeq false createProg {}

def Wk.signalStop (w : Wk) : Wk := { w with stopEv := true }

/-- poll interval of the timed join, ms -/
def pollMs : Nat := 10

/-- number of 10 ms sleeps a timed join performs when the state never becomes STOPPED:
    `while (state != STOPPED && elapsed < t) { sleep; elapsed += 10; }` -/
def sleepsFor (t : Nat) : Nat := (t + pollMs - 1) / pollMs

/-! ## timer -/

structure Tm where
  inited : Bool := false
  active : Bool := false
  stopReq : Bool := false
  hasThread : Bool := false          -- a joinable std::thread exists
  interval : Nat := 0
  deriving Repr, DecidableEq

def timerOk : Int := 0
def timerErrNull : Int := Gen.C19.timerErrNullParam
def timerErrActive : Int := Gen.C19.timerErrAlreadyActive
def timerErrInterval : Int := Gen.C19.timerErrInvalidInterval

end NV.C19
