/-
C20 — nested creation: every function of the model that emits segments emits a `Good` run, given that the runners it calls
(the nested op of the master inside compile_object / creator_file or of a function pointer's owner in `via` / `bind`, the
create() scripts of the objects made) do; `exec` is one by induction on the fuel.
-/
import NV.C20.Segments

namespace NV.C20

/-! ### good runners

`run` runs one nested op (of the master, inside compile_object or creator_file; of the owner of a function pointer, in `via` /
`bind`), `sub` the create() script of an object just made; `exec` at fuel `n + 1` is `execWith` over `exec` at fuel `n` in
both roles.  Only outside create() scripts (`nested = false`) may an op remove an object, which is why `GoodExec` promises
`Keeps` for nested ops only. -/

def GoodRun (bb : Option Name) (run : Run) : Prop := ∀ w a op, Inv w → Good bb w (run w a op)

def GoodSub (bb : Option Name) (sub : Sub) : Prop := ∀ w o key, Inv w → Good bb w (sub w o key)

def GoodExec (bb : Option Name) (f : Bool → World → Oid → Op → World × List StepRec) : Prop :=
  ∀ nested w a op, Inv w →
    Inv (f nested w a op).1 ∧ Chain bb w.objs (f nested w a op).2 (f nested w a op).1.objs ∧
      (nested = true → Keeps w.objs (f nested w a op).1.objs)

theorem GoodExec.run {bb : Option Name} {f : Bool → World → Oid → Op → World × List StepRec} (hf : GoodExec bb f) :
    GoodRun bb (f true) := fun w a op hw =>
  have ⟨hinv, hchain, hkeeps⟩ := hf true w a op hw
  ⟨hinv, hchain, hkeeps rfl⟩

theorem runScript_good {bb : Option Name} {f : Run} (hf : GoodRun bb f) (o : Oid) :
    ∀ (ops : List Op) (w : World), Inv w → Good bb w (runScript f w o ops)
  | [], _, hw => Good.nil hw
  | op :: ops, w, hw => (hf w o op hw).append (runScript_good hf o ops _ (hf w o op hw).inv)

variable {cfg : Cfg} {bb : Option Name} {pol : Policy} {i : Nat} {run : Run} {sub : Sub} {w : World} {a : Oid} {A : Obj} {op : Op}

/-- `k` from the world as it is, or - the master's callback into itself - after the nested seteuid(0) of the master, with the
    creating object read again: it is `A` or the master, so it passes the euid test if `A` did -/
theorem withCfPre_good (hrun : GoodRun bb run) (hw : Inv w) (hA : getO w.objs a = some A) (hop : op.skippedByExportAsked = true)
    (active first : Bool) (name : String) (k : World → Obj → Bool → World × List StepRec)
    (hk : ∀ (W : World) (A2 : Obj) (f : Bool), Inv W → getO W.objs a = some A2 →
      (¬ (a ≠ masterOid ∧ A.euid = none) → ¬ (a ≠ masterOid ∧ A2.euid = none)) → Good bb W (k W A2 f)) :
    Good bb w (withCfPre pol i run active w a op first name k) := by
  have hy := hrun w masterOid (.seteuidInt 0) hw
  fun_cases withCfPre pol i run active w a op first name k
  · next h => rw [hA] at h; cases h  -- the actor is registered
  · -- the creating object is gone after the nested op
    exact Good.cons (Good.same_quiet hw _ (hop := hop)) (hy.append (Good.same_quiet hy.inv _ (hop := hop)))
  · next A' hA' hd _ A2 hA2 _ =>  -- the master's callback: `hd` says `a` is the master
    exact Good.cons (Good.same_quiet hw _ (hop := hop)) (hy.append (hk _ A2 false hy.inv hA2 fun _ h => h.1 hd.2.2))
  · next A' hA' _ =>  -- no callback
    cases hA.symm.trans hA'
    exact hk w A first hw hA id

theorem withVo_good (hw : Inv w) (hop : op.skippedByExportAsked = true) (active first : Bool) (name : String)
    (k : Bool → World × List StepRec) (hk : ∀ f, Good bb w (k f)) :
    Good bb w (withVo pol i active w a op first name k) := by
  fun_cases withVo pol i active w a op first name k
  · exact hk first  -- valid_object is not asked
  · -- an error in valid_object
    exact Good.same_quiet hw _ (hop := hop) (hr := { vo := by simp [voClause, seg] })
  · -- valid_object refused
    exact Good.same_quiet hw _ (hop := hop) (hr := { vo := by simp [voClause, seg] })
  · next v _ _ happ _ =>  -- valid_object approved
    exact Good.cons (Good.same_quiet hw _ (hop := hop) (hr := { vo := by simp [voClause, eq_true_of_ne_false happ] })) (hk false)

theorem virtCore_good (hrun : GoodRun bb run) (hw : Inv w) (hp : Passed w.objs a) (hop : op.skippedByExportAsked = true)
    (first : Bool) (p : Path) (asClone : Bool) :
    Good bb w ((virtCore pol i run w a op first p asClone).1, (virtCore pol i run w a op first p asClone).2.1) := by
  have hco : ∀ (w1 : World) x, w1.objs = w.objs → Good bb w (w1, [segCo w1 a op first x]) :=
    fun w1 x h => Good.same_quiet hw _ (Or.inr hp) (hop := hop) (hobjs := h)
  fun_cases virtCore pol i run w a op first p asClone
  · exact Good.nil hw  -- compile_object not defined: nobody is asked
  · exact hco _ _ rfl
  · exact hco _ _ rfl
  · exact hco _ _ rfl
  · next t _ v w1 y _ _ _ _ _ =>  -- a template: the master's clone of it, then renamed
    exact Good.cons (hco w1 _ rfl) ((hrun w1 masterOid (.clone v t) (Inv_same hw _ rfl)).of_objs_eq)
  · next t _ v w1 y _ _ _ =>  -- a template, but the master's clone failed
    exact Good.cons (hco w1 _ rfl) (hrun w1 masterOid (.clone v t) (Inv_same hw _ rfl))

/-- the continuation of an inherited file's load: the load of the file that inherits it -/
def GoodCont (bb : Option Name) (k : Option (World → World × List StepRec)) : Prop :=
  ∀ k', k = some k' → ∀ W, Inv W → Good bb W (k' W)

theorem execLoadCore_good (hsub : GoodSub cfg.bb sub) (hw : Inv w) (hA : getO w.objs a = some A) (p p' : Path) (first : Bool)
    (k : Option (World → World × List StepRec)) (hk : GoodCont cfg.bb k) :
    Good cfg.bb w (execLoadCore cfg pol i sub w a A p (.load p') first k) := by
  have hx := doLoad_good (cfg := cfg) (pol := pol) (i := i) hw hA p p'
  fun_cases execLoadCore cfg pol i sub w a A p (.load p') first k
  · next x _ =>
    simp only [singleF, show x.2.2.1 = none from doLoad_vs cfg pol i w A p]
    exact hx _ _
  · next x o _ y =>
    have hy := hsub x.1 o.oid p.name (hx none first).inv
    exact Good.cons (hx _ _) (hy.append (Good.same_quiet hy.inv _))
  · next x o _ y k' z =>
    have hy := hsub x.1 o.oid p.name (hx none first).inv
    exact Good.cons (hx _ _) (hy.append (hk k' rfl _ hy.inv))

theorem loadPlain_good (hrun : GoodRun cfg.bb run) (hsub : GoodSub cfg.bb sub) (hw : Inv w) (hA : getO w.objs a = some A)
    (p p' : Path) (first : Bool) (k : Option (World → World × List StepRec)) (hk : GoodCont cfg.bb k) :
    Good cfg.bb w (loadPlain cfg pol i run sub w a A p (.load p') first k) :=
  withVo_good hw rfl _ _ _ _ fun _ =>
    withCfPre_good hrun hw hA rfl _ _ _ _ fun _ _ f hW hA2 _ => execLoadCore_good hsub hW hA2 p p' f k hk

theorem needsCompile_passed {p : Path} (hA : getO w.objs a = some A) (h : needsCompile w A p = true) : Passed w.objs a :=
  have ⟨_, _, hg, _⟩ := of_decide_eq_true h
  Passed.of_actor hA hg

theorem execLoad_good (hrun : GoodRun cfg.bb run) (hsub : GoodSub cfg.bb sub) (hw : Inv w) (hA : getO w.objs a = some A)
    (p : Path) : Good cfg.bb w (execLoad cfg pol i run sub w a A p) := by
  have hnone : GoodCont cfg.bb none := fun _ h => nomatch h
  fun_cases execLoad cfg pol i run sub w a A p
  · next hn _ =>
    have hv := virtCore_good (pol := pol) (i := i) hrun hw (needsCompile_passed hA hn) (op := .load p) rfl true p false
    exact hv.append (Good.same_quiet hv.inv _)
  · next q _ _ =>
    -- the inherited program is missing: its load, then the load of `p` again from the top
    refine loadPlain_good hrun hsub hw hA q p true _ fun k' hk' W hW => ?_
    cases hk'
    dsimp only
    split
    · exact Good.same_quiet hW _
    · next A' hA' => exact loadPlain_good hrun hsub hW hA' p p false none hnone
  · exact loadPlain_good hrun hsub hw hA p p true none hnone
  · exact loadPlain_good hrun hsub hw hA p p true none hnone

theorem execReload_good (hsub : GoodSub bb sub) (hw : Inv w) (t : Oid) : Good bb w (execReload sub w a t) := by
  cases hT : getO w.objs t with
  | none =>
    simp only [execReload, doReload, hT, single]
    exact Good.same_quiet hw _
  | some T =>
    simp only [execReload, doReload, hT]
    have hx : Good bb w ({ w with objs := setO w.objs { T with euid := none } },
        [seg _ a (.reload t) none [⟨w.nameOf T, none, some { T with euid := none }⟩] none true]) :=
      Good.made hw (o := { T with euid := none }) rfl (hw.uid T (getO_some hT).1) _ rfl
        (by simp [madeOk, seg, hT, (getO_some hT).2]) (noEuid_of_none rfl rfl)
    have hy := hsub _ T.oid (scriptKey (w.nameOf { T with euid := none })) hx.inv
    exact Good.cons hx (hy.append (Good.same_quiet hy.inv _))

theorem clonePre_none {newOid : Oid} {p : Path} (h : clonePre w A newOid p = none) :
    ¬ (A.oid ≠ masterOid ∧ A.euid = none) := by
  revert h
  fun_cases clonePre w A newOid p <;> intro h <;> first | assumption | cases h

/-- the clone itself: creator_file for its name, give_uid_to_object with the uids the cloner has now, its create() script -/
theorem cloneTail_good (hsub : GoodSub cfg.bb sub) (hw : Inv w) (hA : getO w.objs a = some A)
    (hg : ¬ (a ≠ masterOid ∧ A.euid = none)) (newOid : Oid) (p : Path) (first : Bool) :
    Good cfg.bb w (cloneTail cfg pol i sub w a A newOid p first) := by
  have hc := create_good cfg pol i hw hA hg (op := .clone newOid p) rfl (w' := { w with cloneSeq := w.cloneSeq + 1 }) rfl
    newOid (p.name ++ "#" ++ toString w.cloneSeq) false
  fun_cases cloneTail cfg pol i sub w a A newOid p first
  · exact hc _ _
  · have hy := hsub _ newOid (p.name ++ "#") (hc none first).inv
    exact Good.cons (hc _ _) (hy.append (Good.same_quiet hy.inv _))

/-- clone_object once the blueprint is there: the euid test again, then the virtual branch or the clone itself -/
theorem clonePhase2_good (hrun : GoodRun cfg.bb run) (hsub : GoodSub cfg.bb sub) (hw : Inv w) (a newOid : Oid) (p : Path)
    (first : Bool) : Good cfg.bb w (clonePhase2 cfg pol i run sub w a newOid p first) := by
  fun_cases clonePhase2 cfg pol i run sub w a newOid p first
  · exact Good.same_quiet hw _  -- the cloner is gone
  · exact Good.same_quiet hw _  -- the cloner has lost its euid
  · next A hA hg _ _ =>
    have hv := virtCore_good (pol := pol) (i := i) hrun hw (.of_actor hA hg) (op := .clone newOid p) rfl
      first p true
    exact hv.append (Good.same_quiet hv.inv _)
  · next A hA hg _ =>
    have hg : ¬ (a ≠ masterOid ∧ A.euid = none) := (getO_some hA).2 ▸ hg
    exact withCfPre_good hrun hw hA rfl _ _ _ _ fun _ _ f hW hA2 h =>
      cloneTail_good hsub hW hA2 (h hg) newOid p f

theorem cloneBlueprint_good (hrun : GoodRun cfg.bb run) (hsub : GoodSub cfg.bb sub) (hw : Inv w)
    (hA : getO w.objs a = some A) (hg : ¬ (a ≠ masterOid ∧ A.euid = none)) (newOid : Oid) (p : Path) (first : Bool) :
    Good cfg.bb w (cloneBlueprint cfg pol i run sub w a A newOid p first) := by
  have hc := create_good cfg pol i hw hA hg (op := .clone newOid p) rfl (w' := w) rfl p.oid p.name true
  fun_cases cloneBlueprint cfg pol i run sub w a A newOid p first
  · exact hc _ _
  · have hy := hsub _ p.oid p.name (hc none first).inv
    exact Good.cons (hc _ _) (hy.append (clonePhase2_good hrun hsub hy.inv a newOid p false))

theorem execClone_good (hrun : GoodRun cfg.bb run) (hsub : GoodSub cfg.bb sub) (hw : Inv w) (hA : getO w.objs a = some A)
    (newOid : Oid) (p : Path) : Good cfg.bb w (execClone cfg pol i run sub w a A newOid p) := by
  have hv := fun (h : clonePre w A newOid p = none) =>
    virtCore_good (pol := pol) (i := i) hrun hw (.of_actor hA (clonePre_none h)) (op := .clone newOid p) rfl true p false
  fun_cases execClone cfg pol i run sub w a A newOid p
  · exact Good.same_quiet hw _  -- refused by `clonePre`
  · exact clonePhase2_good hrun hsub hw a newOid p true
  · have hv := hv ‹_›  -- no file: compile_object made the blueprint
    exact hv.append (clonePhase2_good hrun hsub hv.inv a newOid p false)
  · have hv := hv ‹_›  -- no file, and compile_object made nothing
    exact hv.append (Good.same_quiet hv.inv _)
  · have hg : ¬ (a ≠ masterOid ∧ A.euid = none) := (getO_some hA).2 ▸ clonePre_none ‹_›
    exact withVo_good hw rfl _ _ _ _ fun _ =>
      withCfPre_good hrun hw hA rfl _ _ _ _ fun _ _ f hW hA2 h =>
        cloneBlueprint_good hrun hsub hW hA2 (h hg) newOid p f

/-- after a function pointer ran the harness reports `fpEuid` of the very snapshot that closes the segment -/
theorem fpClause_fpEuid (w : World) (a t : Oid) (op : Op) :
    fpClause { seg w a op none [] (some (fpEuid w.objs t)) false with fpOwner := some t } = true :=
  decide_eq_true rfl

theorem execWith_good (hrun : GoodRun cfg.bb run) (hsub : GoodSub cfg.bb sub) :
    GoodExec cfg.bb (execWith cfg pol i run sub) := by
  intro nested w a op hw
  have keep : ∀ {x}, Good cfg.bb w x →
      Inv x.1 ∧ Chain cfg.bb w.objs x.2 x.1.objs ∧ (nested = true → Keeps w.objs x.1.objs) :=
    fun h => ⟨h.inv, h.chain, fun _ => h.keeps⟩
  fun_cases execWith cfg pol i run sub nested w a op
  · exact keep (missing_good hw ‹_› _ _ _)
  · exact keep (seteuidInt_good hw ‹_› _)
  · exact keep (seteuidStr_good hw ‹_› pol i _)
  · exact keep (export_good hw ‹_› _)
  · exact keep (execLoad_good hrun hsub hw ‹_› _)
  · exact keep (execClone_good hrun hsub hw ‹_› _ _)
  · exact keep (Good.same_quiet hw _)  -- destruct inside a create() script: refused
  · next A hA t hnest =>
    -- destruct outside create() scripts: nothing is claimed to stay
    have h := dest_fine (cfg := cfg) hw hA ((pol.root i).getD cfg.root) t
    exact ⟨h.inv, h.chain, fun hn => absurd hn hnest⟩
  · exact keep (Good.same_quiet hw _)  -- reload inside a create() script, refused
  · exact keep (execReload_good hsub hw _)
  · exact keep (Good.same_quiet hw _)  -- via: no owner
  · next t op' _ _ _ =>
    have hy := hrun w t op' hw
    exact keep (Good.cons (Good.same_quiet hw _) (hy.append (Good.same_quiet hy.inv _ (hr := { fp := fpClause_fpEuid .. }))))
  · exact keep (Good.same_quiet hw _)  -- bind: no owner
  · exact keep (Good.same_quiet hw _)  -- bind: not a bindable op
  · exact keep (Good.same_quiet hw _)  -- bind: the master has no valid_bind
  · exact keep (Good.same_quiet hw _)  -- bind: valid_bind raised an error
  · exact keep (Good.same_quiet hw _)  -- bind: valid_bind refused
  · next t op' _ _ _ v _ _ _ _ _ =>
    have hy := hrun w t op' hw
    -- the function runs as `t`: bound to itself, or the master's valid_bind approved
    have hb : bindClause { seg w a (.bind t op') none [] none true with
        vb := if t = a then none else some (a, t, v), bindTo := some t } = true := by
      by_cases hta : t = a
      · simp [bindClause, seg, hta]
      · have happ : v.approved = true := eq_true_of_ne_false fun h => ‹¬ (t ≠ a ∧ v.approved = false)› ⟨hta, h⟩
        simp [bindClause, seg, hta, happ]
    exact keep (Good.cons (Good.same_quiet hw _ (hr := { bind := hb })) (hy.append (Good.same_quiet hy.inv _ (hr := { fp := fpClause_fpEuid .. }))))

theorem exec_good (cfg : Cfg) (pol : Policy) (i : Nat) : ∀ fuel, GoodExec cfg.bb (exec cfg pol i fuel)
  | 0 => execWith_good (fun _ _ _ hw => Good.nil hw) (fun _ _ _ hw => Good.nil hw)
  | fuel + 1 =>
    execWith_good (exec_good cfg pol i fuel).run fun w o key hw =>
      runScript_good (exec_good cfg pol i fuel).run o (pol.script i key) w hw

end NV.C20
