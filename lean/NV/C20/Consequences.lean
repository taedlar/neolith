/-
C20 — consequences of the specification, for EVERY trace the oracle accepts (the model's traces by `model_satisfies_spec`, and
every trace of the real driver that the check judged `ok`): statements in the terms of the property itself, independent of the
model.

`euid_names_granted`: no effective uid ever appears out of nothing.  Every euid name found in any snapshot of an accepted trace
was either present before the trace started or GRANTED BY THE MASTER during it: approved in a valid_seteuid call, or given to a
reloaded master by set_master.  (The backbone rule only hands an already granted name on to a new object.)

The clauses are Boolean programs; they are first put in readable form (`euidClause_explained`, `uidClause_explained`,
`made_explained`, `madeOk_explained`), and the consequences are read off those.
-/
import NV.C20.Registry
import NV.C20.Spec

namespace NV.C20

theorem euidClause_explained {P S : List Obj} {r : StepRec} (h : euidClause P r = true) (hs : r.snap = some S)
    {e p : Obj} (he : e ∈ S) (hp : getO P e.oid = some p) (hm : isMade r e.oid = false) (hne : e.euid ≠ p.euid) :
    r.actor = e.oid ∧
      ((r.op = .seteuidInt 0 ∧ e.euid = none) ∨
       (∃ s a, r.op = .seteuidStr s ∧ r.vs = some (e.oid, s, a) ∧ a.approved = true ∧ e.euid = some s)) := by
  simp only [euidClause, hs, List.all_eq_true] at h
  have h := h e he
  simp only [hp, hm, hne, euidChangeOk, Bool.false_or, Bool.or_eq_true, Bool.and_eq_true, decide_eq_true_eq, false_or] at h
  refine ⟨h.1, ?_⟩
  have h2 := h.2
  split at h2
  · next n hop =>
    simp only [Bool.and_eq_true, decide_eq_true_eq] at h2
    exact Or.inl ⟨by rw [hop, h2.1], h2.2⟩
  · next s hop =>
    split at h2
    · next o u a hv =>
      simp only [Bool.and_eq_true, decide_eq_true_eq] at h2
      obtain ⟨⟨⟨rfl, rfl⟩, h5⟩, h6⟩ := h2
      exact Or.inr ⟨u, a, hop, hv, h5, h6⟩
    · cases h2
  · cases h2

theorem uidClause_explained {P S : List Obj} {r : StepRec} (h : uidClause P r = true) (hs : r.snap = some S)
    {e p : Obj} (he : e ∈ S) (hp : getO P e.oid = some p) (hm : isMade r e.oid = false) (hne : e.uid ≠ p.uid) :
    ∃ A, getO P r.actor = some A ∧ r.op = .exportUid e.oid ∧ r.res = some (.int 1) ∧ A.euid ≠ none ∧
      p.euid = none ∧ e.uid = A.euid := by
  simp only [uidClause, hs, List.all_eq_true] at h
  have h := h e he
  simp only [hp, hm, hne, uidChangeOk, Bool.false_or, Bool.or_eq_true, decide_eq_true_eq, false_or] at h
  split at h
  · next t A hop hA =>
    simp only [Bool.and_eq_true, decide_eq_true_eq] at h
    obtain ⟨⟨⟨⟨rfl, h2⟩, h3⟩, h4⟩, h5⟩ := h
    exact ⟨A, hA, hop, h2, fun hn => by simp [hn] at h3, h4, h5⟩
  · cases h

/-- the known clause: an object in the snapshot was there before or was announced in this segment - and then by a creation
    that shows the very names the snapshot shows, and that the creation clause has judged -/
theorem made_explained {bb : Option Name} {P S : List Obj} {r : StepRec} (hk : knownClause P r = true)
    (hc : creationClause bb P r = true) (hs : r.snap = some S) {e : Obj} (he : e ∈ S) :
    (∃ p, getO P e.oid = some p ∧ isMade r e.oid = false) ∨
    ∃ c ∈ r.creations, ∃ m, c.made = some m ∧ m.uid = e.uid ∧ m.euid = e.euid ∧ madeOk bb P r c = true := by
  simp only [knownClause, hs, Bool.and_eq_true, List.all_eq_true, Bool.or_eq_true, decide_eq_true_eq] at hk
  obtain ⟨_, hobjs, hmades⟩ := hk
  obtain ⟨⟨_, hprev⟩, hwf⟩ := hobjs e he
  cases hm : isMade r e.oid with
  | false =>
    cases hp : getO P e.oid with
    | none => simp [hp, hm] at hprev
    | some p => exact Or.inl ⟨p, rfl, rfl⟩
  | true =>
    simp only [isMade, List.any_eq_true] at hm
    obtain ⟨c, hcm, hm⟩ := hm
    cases hmade : c.made with
    | none => simp [hmade] at hm
    | some m =>
      simp only [hmade, decide_eq_true_eq] at hm
      have hkc := hmades c hcm
      simp only [hmade, hm, hwf, Bool.and_eq_true, decide_eq_true_eq] at hkc
      exact Or.inr ⟨c, hcm, m, hmade, hkc.1.symm, hkc.2.symm, List.all_eq_true.mp hc c hcm⟩

theorem madeOk_explained {bb : Option Name} {P : List Obj} {r : StepRec} {c : Creation} {m : Obj}
    (h : madeOk bb P r c = true) (hm : c.made = some m) :
    (∃ a A, c.ans = some a ∧ getO P r.actor = some A ∧
      ((m.uid = some (creatorName a) ∧ m.euid = none) ∨ (m.uid = A.euid ∧ m.euid = A.euid))) ∨
    (c.ans = none ∧
      ((∃ p, getO P m.oid = some p ∧ m.uid = p.uid ∧ m.euid = none) ∨ (m.uid = some "NONAME" ∧ m.euid = none) ∨
       (r.op = .dest masterOid ∧ m.oid = masterOid ∧ m.euid = m.uid))) := by
  simp only [madeOk, hm] at h
  split at h
  · next a ha =>
    split at h
    · simp at h
    · next A hA =>
      simp only [Bool.and_eq_true, Bool.or_eq_true, decide_eq_true_eq] at h
      obtain ⟨_, _, hrule⟩ := h
      exact Or.inl ⟨a, A, ha, hA, hrule.imp id fun ⟨⟨_, hu⟩, he⟩ => ⟨hu, he⟩⟩
  · next ha =>
    simp only [Bool.or_eq_true, Bool.and_eq_true, decide_eq_true_eq] at h
    refine Or.inr ⟨ha, ?_⟩
    rcases h with (h | ⟨⟨_, hu⟩, he⟩) | ⟨⟨⟨⟨hop, ho⟩, _⟩, he⟩, _⟩
    · split at h
      · next p hp =>
        simp only [Bool.and_eq_true, decide_eq_true_eq] at h
        obtain ⟨⟨_, hu⟩, he⟩ := h
        exact Or.inl ⟨p, hp, hu, he⟩
      · cases h
    · exact Or.inr (Or.inl ⟨hu, he⟩)
    · exact Or.inr (Or.inr ⟨hop, ho, he⟩)

/-- the clauses the consequences rest on, from the oracle's verdict on one segment -/
theorem judgeStep_known_euid_uid_creation {bb : Option Name} {P : List Obj} {r : StepRec} (h : judgeStep bb P r = []) :
    knownClause P r = true ∧ euidClause P r = true ∧ uidClause P r = true ∧ creationClause bb P r = true := by
  unfold judgeStep at h
  split at h
  · cases h
  · rw [List.filterMap_eq_nil_iff] at h
    have hall : ∀ c ∈ clauses bb P r, c.1 = true := fun c hc => by simpa using h c hc
    exact ⟨hall _ (.head _), hall _ (.tail _ (.head _)), hall _ (.tail _ (.tail _ (.head _))),
      hall _ (.tail _ (.tail _ (.tail _ (.head _))))⟩

/-- the euid names the master lets into the world in one segment: a name it approved in valid_seteuid, the uid = euid a reloaded
    master is given -/
def grantedBy (r : StepRec) : List Name :=
  (match r.vs with
   | some (_, s, a) => if a.approved then [s] else []
   | none => []) ++
  r.creations.filterMap fun c =>
    match c.made with
    | some m => if c.ans.isNone ∧ r.op = .dest masterOid ∧ m.oid = masterOid then m.euid else none
    | none => none

theorem mem_grantedBy_vs {r : StepRec} {o : Oid} {s : Name} {a : Ans} (hv : r.vs = some (o, s, a))
    (ha : a.approved = true) : s ∈ grantedBy r := by
  simp [grantedBy, hv, ha]

theorem mem_grantedBy_master {r : StepRec} {c : Creation} {m : Obj} {s : Name} (hc : c ∈ r.creations)
    (hm : c.made = some m) (ha : c.ans = none) (hop : r.op = .dest masterOid) (ho : m.oid = masterOid)
    (hs : m.euid = some s) : s ∈ grantedBy r :=
  List.mem_append_right _ (List.mem_filterMap.mpr ⟨c, hc, by simp [hm, ha, hop, ho, hs]⟩)

/-- every euid name in `S` is one of `J` -/
def euidsIn (J : List Name) (S : List Obj) : Prop := ∀ e ∈ S, ∀ s, e.euid = some s → s ∈ J

theorem euidsIn.mono {J J' : List Name} {S : List Obj} (h : euidsIn J S) (hJ : ∀ s ∈ J, s ∈ J') : euidsIn J' S :=
  fun e he s hs => hJ s (h e he s hs)

theorem step_euids {bb : Option Name} {P S : List Obj} {r : StepRec} {J : List Name} (hk : knownClause P r = true)
    (he : euidClause P r = true) (hcr : creationClause bb P r = true) (hs : r.snap = some S) (hJ : euidsIn J P) :
    euidsIn (J ++ grantedBy r) S := by
  intro e heS s hes
  rw [List.mem_append]
  rcases made_explained hk hcr hs heS with ⟨p, hp, hm⟩ | ⟨c, hc, m, hmade, _, hme, hmo⟩
  · by_cases hne : e.euid = p.euid
    · exact Or.inl (hJ p (getO_some hp).1 s (hne ▸ hes))
    · -- its own seteuid: to 0, or to a name the master approved in this segment
      rcases (euidClause_explained he hs heS hp hm hne).2 with ⟨_, h0⟩ | ⟨s', a, _, hv, ha, h1⟩
      · rw [h0] at hes; cases hes
      · cases hes.symm.trans h1
        exact Or.inr (mem_grantedBy_vs hv ha)
  · -- announced in this segment: the creator's euid (backbone rule), or a reloaded master's
    rw [← hme] at hes
    rcases madeOk_explained hmo hmade with ⟨_, A, _, hA, h | h⟩ | ⟨ha, ⟨_, _, _, h⟩ | h | ⟨hop, hmaster, _⟩⟩
    · rw [h.2] at hes; cases hes
    · exact Or.inl (hJ A (getO_some hA).1 s (h.2 ▸ hes))
    · rw [h] at hes; cases hes
    · rw [h.2] at hes; cases hes
    · exact Or.inr (mem_grantedBy_master hc hmade ha hop hmaster hes)

/-- the names the master gives to new objects in one segment: its creator_file answers ("NONAME" for anything but a string) -/
def namedBy (r : StepRec) : List Name :=
  r.creations.filterMap fun c =>
    match c.ans with
    | some a => some (creatorName a)
    | none => none

theorem mem_namedBy {r : StepRec} {c : Creation} {a : Ans} (hc : c ∈ r.creations) (ha : c.ans = some a) :
    creatorName a ∈ namedBy r :=
  List.mem_filterMap.mpr ⟨c, hc, by simp [ha]⟩

/-- every uid name in `S` is one of `U` -/
def uidsIn (U : List Name) (S : List Obj) : Prop := ∀ e ∈ S, ∀ s, e.uid = some s → s ∈ U

theorem uidsIn.mono {U U' : List Name} {S : List Obj} (h : uidsIn U S) (hU : ∀ s ∈ U, s ∈ U') : uidsIn U' S :=
  fun e he s hs => hU s (h e he s hs)

theorem step_uids {bb : Option Name} {P S : List Obj} {r : StepRec} {U J : List Name} (hk : knownClause P r = true)
    (hu : uidClause P r = true) (hcr : creationClause bb P r = true) (hs : r.snap = some S) (hU : uidsIn U P) (hJ : euidsIn J P) :
    uidsIn (U ++ J ++ "NONAME" :: (namedBy r ++ grantedBy r)) S := by
  intro e heS s hes
  simp only [List.mem_append, List.mem_cons]
  rcases made_explained hk hcr hs heS with ⟨p, hp, hm⟩ | ⟨c, hc, m, hmade, hmu, _, hmo⟩
  · by_cases hne : e.uid = p.uid
    · exact Or.inl (Or.inl (hU p (getO_some hp).1 s (hne ▸ hes)))
    · -- export_uid: the new uid is the exporting actor's euid
      obtain ⟨A, hA, _, _, _, _, h1⟩ := uidClause_explained hu hs heS hp hm hne
      exact Or.inl (Or.inr (hJ A (getO_some hA).1 s (h1 ▸ hes)))
  · rw [← hmu] at hes
    rcases madeOk_explained hmo hmade with ⟨a, A, ha, hA, h | h⟩ | ⟨ha, ⟨p, hp, h, _⟩ | h | ⟨hop, hmaster, heu⟩⟩
    · cases hes.symm.trans h.1
      exact Or.inr (Or.inr (Or.inl (mem_namedBy hc ha)))
    · exact Or.inl (Or.inr (hJ A (getO_some hA).1 s (h.1 ▸ hes)))
    · exact Or.inl (Or.inl (hU p (getO_some hp).1 s (h ▸ hes)))
    · cases hes.symm.trans h.1
      exact Or.inr (Or.inl rfl)
    · exact Or.inr (Or.inr (Or.inr (mem_grantedBy_master hc hmade ha hop hmaster (heu ▸ hes))))

theorem uidsIn_own (P : List Obj) : uidsIn (P.filterMap (·.uid)) P :=
  fun e he _ hs => List.mem_filterMap.mpr ⟨e, he, hs⟩

theorem euidsIn_own (P : List Obj) : euidsIn (P.filterMap (·.euid)) P :=
  fun e he _ hs => List.mem_filterMap.mpr ⟨e, he, hs⟩

/-- Both kinds of names in one induction along a trace the oracle accepts: the uid names need the euid names (export_uid and the
    backbone rule turn euids into uids), so the two invariants travel together. -/
theorem names_decided {bb : Option Name} : ∀ (trace : List StepRec) (P : List Obj) (i : Nat) (U J : List Name),
    judgeFrom bb P i trace = [] → uidsIn U P → euidsIn J P →
    ∀ r ∈ trace, ∀ S, r.snap = some S →
      euidsIn (J ++ trace.flatMap grantedBy) S ∧
      uidsIn (U ++ J ++ "NONAME" :: trace.flatMap (fun r => namedBy r ++ grantedBy r)) S := by
  intro trace
  induction trace with
  | nil => intro P i U J _ _ _ r hr; cases hr
  | cons x rest ih =>
    intro P i U J hj hU hJ r hr S hS
    simp only [judgeFrom, List.append_eq_nil_iff, List.map_eq_nil_iff] at hj
    obtain ⟨hk, he, hu, hc⟩ := judgeStep_known_euid_uid_creation hj.1
    -- the oracle demands a snapshot in every segment
    obtain ⟨Sx, hSx⟩ : ∃ Sx, x.snap = some Sx := by
      cases h : x.snap with
      | none => simp [knownClause, h] at hk
      | some Sx => exact ⟨Sx, rfl⟩
    have hstepJ := step_euids hk he hc hSx hJ
    have hstepU := step_uids hk hu hc hSx hU hJ
    rw [List.flatMap_cons, List.flatMap_cons, ← List.append_assoc J]
    -- the lists of names only grow along the trace: those after `x` and those after `rest` both lie in those after `x :: rest`,
    -- which is all the two `mono` steps below check (membership in appended lists)
    rcases List.mem_cons.mp hr with rfl | hr
    · cases hSx.symm.trans hS
      refine ⟨hstepJ.mono fun s hs => List.mem_append_left _ hs, hstepU.mono fun s hs => ?_⟩
      simp only [List.mem_append, List.mem_cons] at hs ⊢
      grind
    · obtain ⟨h1, h2⟩ := ih Sx (i + 1) _ _ (by simpa [hSx] using hj.2) hstepU hstepJ r hr S hS
      refine ⟨h1, h2.mono fun s hs => ?_⟩
      simp only [List.mem_append, List.mem_cons] at hs ⊢
      grind

/-- **No effective uid appears out of nothing.**  In a trace the oracle accepts (from the snapshot `P`), every euid name of every
    snapshot is one that was present in `P` or that the master granted in the trace so far or later up to that point - approved in
    a valid_seteuid call, or given to a reloaded master. -/
theorem euid_names_granted {bb : Option Name} : ∀ (trace : List StepRec) (P : List Obj) (i : Nat) (J : List Name),
    judgeFrom bb P i trace = [] → euidsIn J P →
    ∀ r ∈ trace, ∀ S, r.snap = some S → euidsIn (J ++ trace.flatMap grantedBy) S :=
  fun trace P i J hj hJ r hr S hS => (names_decided trace P i _ J hj (uidsIn_own P) hJ r hr S hS).1

/-- **Every uid is a name the master decided on.**  In a trace the oracle accepts, every uid name of every snapshot was present
    at the start (as a uid, or as an euid: export_uid and the backbone rule turn euids into uids), is "NONAME", is a creator_file
    answer given in the trace, or is a name the master granted as an euid (`grantedBy`). -/
theorem uid_names_decided {bb : Option Name} : ∀ (trace : List StepRec) (P : List Obj) (i : Nat) (U J : List Name),
    judgeFrom bb P i trace = [] → uidsIn U P → euidsIn J P →
    ∀ r ∈ trace, ∀ S, r.snap = some S →
      uidsIn (U ++ J ++ "NONAME" :: trace.flatMap (fun r => namedBy r ++ grantedBy r)) S :=
  fun trace P i U J hj hU hJ r hr S hS => (names_decided trace P i U J hj hU hJ r hr S hS).2

/-- the same, for a whole configuration: before the first step the only euid is the root uid of the first master (none without
    get_root_uid()) -/
theorem euid_names_granted_from_start (cfg : Cfg) (trace : List StepRec) (h : judgeEv cfg trace = []) :
    ∀ r ∈ trace, ∀ S, r.snap = some S → euidsIn ((if cfg.noRoot then [] else [cfg.root]) ++ trace.flatMap grantedBy) S := by
  apply euid_names_granted trace (initObjs cfg) 0 _ h
  intro e he s hes
  rcases List.mem_cons.mp he with rfl | he
  · cases hn : cfg.noRoot <;> simp [hn] at hes ⊢
    exact hes.symm
  · -- the simul_efun object, if there is one, has no euid
    split at he
    · cases List.mem_singleton.mp he; cases hes
    · cases he

end NV.C20
