/-
C20 — executable model of the uid/euid rules of the driver.

Mirrors, line by line (current source, i.e. including this property's `fix:` commits):
  src/simulate.c  give_uid_to_object   -> `giveUid`      creator_file answer kinds (string / anything else = "NONAME"),
                                                         same-uid-as-creator rule (uid copied, euid stays 0),
                                                         AUTO_TRUST_BACKBONE rule (only when the creator HAS an euid),
                                                         otherwise uid = answer, euid = 0
                  load_object          -> `doLoad`       object-table lookup first (find_or_load_object), then
                                                         "no effective user" test with the master exemption, file
                                                         existence, default uid "NONAME" before the object becomes
                                                         visible, master creator_file (an error in the apply leaves a
                                                         loaded, never created object behind: `half`)
                  clone_object         -> `execClone`    (`clonePre`, `cloneBlueprint`, `clonePhase2`, `cloneSelf`, `cloneTail`)
                                                         euid test with the master exemption, blueprint find-or-load, the test
                                                         again, make_new_name counter, give_uid_to_object, create
                  set_master           -> `World.init`   master uid = euid = get_root_uid(); `doDest` of the master:
                                                         destruct_object reloads it (a load on behalf of the caller)
  lib/efuns/uids.c f_seteuid           -> `doSeteuidInt` / `doSeteuidStr` (0 always allowed, other ints bad argument,
                                                         strings only with MASTER_APPROVED(valid_seteuid))
                  f_export_uid         -> `doExport`     caller euid 0 = error; target euid != 0 = 0; else target UID
                                                         := caller EUID
                  f_getuid             -> `getuid`       NULL uid = crash (explicit outcome)
  lib/lpc/object.c reload_object       -> `doReload`     euid := 0, create() again
  lib/lpc/operator.c f_bind           -> `.bind` case of `execWith`: same owner = no master call; master valid_bind (error
                                                         propagates, NULL / 0 refuse = error); the function then runs as the NEW owner
  src/simulate.c  set_master           -> `initObjs` (first load, with / without get_root_uid(): `Cfg.noRoot`) and `doDest` of the
                                                         master with `Policy.root` (the reloaded master announces another root uid: it
                                                         gets that name through add_uid, nobody else's names change)
                  give_uid_to_object   -> `withCfPre`: the creator's uids are read AFTER the creator_file apply; the verification
                                                         master may drop its own euid inside it (`Policy.cfDrop`)
  the simul_efun object                -> actor `se` (`Cfg.simul`): "NONAME" / 0 from before the master existed, no exemption;
                                                         destruct_object refuses to destruct it (`Err.simulDest`)

Compile-time options come from NV/Gen/C20.lean (`autoTrustBackbone`; AUTO_SETEUID is recorded there, the source has
no code depending on it - the plugin checks that).

Nested creation: create() of a scripted object runs the op list the case attached to its file name
(`Policy.script`; `Policy.co` is master::compile_object), with the object under construction as actor and the uid/euid it has at that moment; the model
runs these scripts recursively (`exec`, bounded by fuel; with fuel 0 scripts are skipped) and emits one `StepRec`
per SEGMENT (the events between two uid snapshots): creation segment, the nested ops' segments, result segment.
Inside a create() script the harness refuses destruct/reload_object, and it never lets two live objects share a
registry id (`nobj`); the model mirrors both.  The inherit-chain counter of load_object (`num_objects_this_thread`,
limit MaxInheritDepth = 30, reset by clone_object and by every error) is not modelled: the generated nestings stay
far below it, where it has no influence on the outcome.

The mudlib side is the scripted harness of harness/mudlib/c20 (registry of object ids, one op per step, `new` line
from create(), uid snapshot after every step); master applies are an oracle `Policy`.
-/
import NV.Gen.C20

namespace NV.C20

abbrev Name := String
abbrev Oid := String

/-- `#ifdef AUTO_TRUST_BACKBONE` of lib/efuns/options.h, regenerated on every run -/
def autoTrustBackbone : Bool := decide (NV.Gen.C20.autoTrustBackbone ≠ 0)

/-- what a master apply did: returned a string / an int / an array (any other non-number) / raised an error /
    returned 0 through `return 0` (`none`, semantically the int 0) -/
inductive Ans where
  | str (s : String)
  | int (n : Int)
  | arr
  | err
  | none
  deriving Repr, BEq, DecidableEq

/-- src/apply.h MASTER_APPROVED on the returned svalue (`err` never reaches the macro: the error unwinds first) -/
def Ans.approved : Ans → Bool
  | .str _ => true
  | .int n => decide (n ≠ 0)
  | .arr => true
  | .err => false
  | .none => false

/-- mudlib configuration: get_root_uid() and get_bb_uid() of the master (backbone may be unset);
    `noRoot`: the master defines no get_root_uid() - set_master then leaves the first master with what
    give_uid_to_object gave it before a master existed ("NONAME" / 0), `root` is unused;
    `simul`: the simul_efun object (loaded before the master: "NONAME" / 0, no exemption anywhere) is an actor, id `se` -/
structure Cfg where
  root : Name
  bb : Option Name
  noRoot : Bool := false
  simul : Bool := false
  /-- the master defines no valid_bind(): apply_master_ob returns NULL, which MASTER_APPROVED refuses -/
  noVb : Bool := false

structure Path where
  dir : String
  file : String
  deriving Repr, BEq, DecidableEq

def Path.name (p : Path) : String := "/c20/" ++ p.dir ++ "/" ++ p.file
def Path.oid (p : Path) : Oid := p.dir ++ p.file

def dirs : List String := ["u1", "u2", "bb", "root", "odd"]
def files : List String := ["a", "b", "c"]
/-- the inheriting blueprint of the harness mudlib: /c20/u1/i.c is nothing but `inherit "/c20/u2/a";` -/
def inhChild : Path := ⟨"u1", "i"⟩
def inhParent : Path := ⟨"u2", "a"⟩
/-- the blueprint a file inherits (its program must be loaded before the file compiles) -/
def Path.parent (p : Path) : Option Path := if p = inhChild then some inhParent else none

/-- the source files present in harness/mudlib/c20 -/
def Path.exists (p : Path) : Bool := (dirs.contains p.dir && files.contains p.file) || decide (p = inhChild)

def masterOid : Oid := "m"
def simulOid : Oid := "se"
/-- object ids a clone may not take: the master's, the simul_efun object's and the blueprints' own ids -/
def reservedOids : List Oid := masterOid :: simulOid :: "u1i" :: dirs.flatMap (fun d => files.map (fun f => d ++ f))

structure Obj where
  oid : Oid
  name : String                 -- file_name()
  uid : Option Name             -- object_t.uid  (none = NULL)
  euid : Option Name            -- object_t.euid (none = NULL = 0)
  deriving Repr, BEq, DecidableEq

inductive Op where
  | seteuidStr (s : Name)
  | seteuidInt (n : Int)
  | exportUid (target : Oid)
  | load (p : Path)
  | clone (newOid : Oid) (p : Path)
  | dest (target : Oid)
  | reload (target : Oid)
  | via (owner : Oid) (op : Op)      -- evaluate a function pointer made by `owner` that performs `op`
  | bind (newOwner : Oid) (op : Op)  -- bind() an efun pointer (load_object / clone_object) to `newOwner`, then run it
  deriving Repr, BEq, DecidableEq

/-- what master::compile_object does for a path: no policy for that directory (returns 0, nothing logged) /
    returns 0 / returns a non-object / raises an error / clones the template and returns the clone -/
inductive CoAns where
  | silent
  | none
  | nonobj (n : Int)
  | err
  | tmpl (p : Path)
  deriving Repr, BEq, DecidableEq

/-- master policy oracle: answers may depend on the step number (policies are switchable), on the name passed
    to creator_file, and on (object, uid) for valid_seteuid; `script` is the op list create() of the object with
    that file name runs (blueprint: its path, clone: path ++ "#") -/
structure Policy where
  cf : Nat → String → Ans
  vs : Nat → Oid → Name → Ans
  script : Nat → String → List Op
  co : Nat → String → CoAns
  /-- re-entrancy: while answering creator_file(name) the verification master first calls back into the creating
      object - only when that is the master itself - and makes it seteuid(0) -/
  cfDrop : Nat → String → Bool := fun _ _ => false
  /-- master::valid_bind(doer, old owner = doer, new owner) for f_bind -/
  vb : Nat → Oid → Oid → Ans := fun _ _ _ => .int 1
  /-- what master::get_root_uid() answers now, when it no longer is the name of the first load (`none`: still `cfg.root`);
      get_bb_uid() may change as well - set_master ignores it after the first load, so the model has nothing for it -/
  root : Nat → Option Name := fun _ => none
  /-- master::valid_object(ob) for a blueprint of that name that load_object is about to create (`none`: the master has no
      opinion - nothing is logged, the load goes on) -/
  vo : Nat → String → Option Ans := fun _ _ => none

inductive Err where
  | noEuidLoad | noEuidClone | exportZero | badArg | policy | simulDest | bindDenied | voDenied
  deriving Repr, BEq, DecidableEq

inductive Res where
  | int (n : Int)
  | oid (o : Oid)
  | nobj
  | err (e : Err)
  deriving Repr, BEq, DecidableEq

/-- one creator_file consultation and/or one create() (`new` line) -/
structure Creation where
  name : String
  ans : Option Ans              -- the master's creator_file answer (none: the master was not asked)
  made : Option Obj             -- the object as its create() saw itself (none: creation aborted)
  deriving Repr, BEq, DecidableEq

/-- everything observable about one step: the event the oracle sees -/
structure StepRec where
  actor : Oid
  op : Op
  vs : Option (Oid × Name × Ans) := none
  creations : List Creation := []
  res : Option Res := none
  snap : Option (List Obj) := none
  crash : Bool := false
  first : Bool := true          -- this segment starts the op (rendering only)
  co : Option (String × CoAns) := none     -- master::compile_object was asked (path, what it did)
  vsnap : List Oid := []        -- ids whose object is virtual (virtualp) at the snapshot
  vb : Option (Oid × Oid × Ans) := none    -- master::valid_bind was asked (doer = old owner, new owner, verdict)
  bindTo : Option Oid := none   -- this segment starts a bind(): the function will run as that object
  vo : Option (String × Ans) := none      -- master::valid_object was asked about the blueprint of that name
  fpOwner : Option Oid := none  -- this segment ends a via / bind op: its result is geteuid(function) of a function owned by that object
  deriving Repr, BEq, DecidableEq

/-! registry: association list keyed by `oid` -/

def getO : List Obj → Oid → Option Obj
  | [], _ => none
  | o :: l, k => if o.oid = k then some o else getO l k

def delO : List Obj → Oid → List Obj
  | [], _ => []
  | o :: l, k => if o.oid = k then delO l k else o :: delO l k

/-- replace or insert -/
def setO (l : List Obj) (o : Obj) : List Obj := o :: delO l o.oid

structure World where
  objs : List Obj               -- registered live objects (the master is `m`)
  loaded : List String          -- names of blueprints in the driver's object table
  half : List String            -- subset of `loaded`: entered into the table, never given uids by the master nor created
  cloneSeq : Nat                -- make_new_name counter
  virt : List String := []      -- names in the object table that are virtual objects (O_VIRTUAL)
  vSeq : Nat := 0               -- the verification master's counter of compiled objects (`v<n>`)
  curName : List (Oid × String) := []   -- objects the driver renamed (virtual objects): current file_name
  virtOids : List Oid := []     -- registered objects with O_VIRTUAL
  deriving Repr

/-- file_name() now: virtual objects were renamed after their creation -/
def World.nameOf (w : World) (o : Obj) : String :=
  match w.curName.find? (fun e => e.1 = o.oid) with
  | some e => e.2
  | none => o.name

/-- registry id of the object that carries `name` now -/
def World.oidOfName (w : World) (name : String) (dflt : Oid) : Oid :=
  match w.curName.find? (fun e => e.2 = name) with
  | some e => e.1
  | none => dflt

/-- the objects that exist before the first step.  set_master (first load): uid = euid = get_root_uid(), and without
    get_root_uid() the uids give_uid_to_object assigned before the master existed: "NONAME" / 0 - which is also what the
    simul_efun object has (it is loaded before the master) -/
def initObjs (cfg : Cfg) : List Obj :=
  { oid := masterOid, name := "/c20/master", uid := some (if cfg.noRoot then "NONAME" else cfg.root),
    euid := if cfg.noRoot then none else some cfg.root } ::
  (if cfg.simul then [{ oid := simulOid, name := "/c20/simul", uid := some "NONAME", euid := none }] else [])

def World.init (cfg : Cfg) : World :=
  { objs := initObjs cfg, loaded := [], half := [], cloneSeq := 1 }

def creatorName : Ans → Name
  | .str s => s
  | _ => "NONAME"

/-- give_uid_to_object with a current_object (`creator`) -/
def giveUid (cfg : Cfg) (creator : Obj) (a : Ans) : Option Name × Option Name :=
  let cn := creatorName a
  if creator.uid = some cn then (creator.uid, none)
  else if autoTrustBackbone = true ∧ cfg.bb = some cn ∧ creator.euid ≠ none then (creator.euid, creator.euid)
  else (some cn, none)

/-- f_getuid: a NULL uid is dereferenced -/
def getuid (o : Obj) : Except Unit Name :=
  match o.uid with
  | some n => .ok n
  | none => .error ()

def crashes (creations : List Creation) (snap : List Obj) : Bool :=
  creations.any (fun c => match c.made with
    | some m => m.uid.isNone
    | none => false) || snap.any (fun o => o.uid.isNone)

/-- master creator_file + give_uid_to_object + create() for one new object;
    third component: false when the master apply raised an error -/
def create (cfg : Cfg) (pol : Policy) (i : Nat) (w : World) (creator : Obj) (oid : Oid) (name : String)
    (blueprint : Bool) : World × Creation × Bool :=
  let a := pol.cf i name
  let w1 := if blueprint then { w with loaded := name :: w.loaded } else w
  if a = .err then
    (if blueprint then { w1 with half := name :: w1.half } else w1, { name := name, ans := some a, made := none }, false)
  else
    let ue := giveUid cfg creator a
    let o : Obj := { oid := oid, name := name, uid := ue.1, euid := ue.2 }
    ({ w1 with objs := setO w1.objs o }, { name := name, ans := some a, made := some o }, true)

def doSeteuidInt (w : World) (A : Obj) (n : Int) : World × List Creation × Option (Oid × Name × Ans) × Res :=
  if n = 0 then ({ w with objs := setO w.objs { A with euid := none } }, [], none, .int 1)
  else (w, [], none, .err .badArg)

def doSeteuidStr (pol : Policy) (i : Nat) (w : World) (A : Obj) (s : Name) :
    World × List Creation × Option (Oid × Name × Ans) × Res :=
  let a := pol.vs i A.oid s
  if a = .err then (w, [], some (A.oid, s, a), .err .policy)
  else if a.approved then ({ w with objs := setO w.objs { A with euid := some s } }, [], some (A.oid, s, a), .int 1)
  else (w, [], some (A.oid, s, a), .int 0)

def doExport (w : World) (A : Obj) (t : Oid) : World × List Creation × Option (Oid × Name × Ans) × Res :=
  match getO w.objs t with
  | none => (w, [], none, .nobj)
  | some T =>
    if A.euid = none then (w, [], none, .err .exportZero)
    else if T.euid ≠ none then (w, [], none, .int 0)
    else ({ w with objs := setO w.objs { T with uid := A.euid } }, [], none, .int 1)

def doLoad (cfg : Cfg) (pol : Policy) (i : Nat) (w : World) (A : Obj) (p : Path) :
    World × List Creation × Option (Oid × Name × Ans) × Res :=
  -- harness: an object that would be registered under a taken id is not loaded
  if (p.name ∉ w.loaded ∨ p.name ∈ w.half) ∧ getO w.objs p.oid ≠ none then (w, [], none, .nobj)
  else if p.name ∈ w.loaded then
    if p.name ∈ w.half then
      -- found in the object table but never created: the harness initialises it late (create() body)
      let o : Obj := { oid := p.oid, name := p.name, uid := some "NONAME", euid := none }
      ({ w with objs := setO w.objs o, half := w.half.filter (· ≠ p.name) },
       [{ name := p.name, ans := none, made := some o }], none, .oid p.oid)
    else (w, [], none, .oid (w.oidOfName p.name p.oid))
  else if A.oid ≠ masterOid ∧ A.euid = none then (w, [], none, .err .noEuidLoad)
  else if p.exists = false then (w, [], none, .int 0)
  else
    let (w1, c, ok) := create cfg pol i w A p.oid p.name true
    (w1, [c], none, if ok then .oid p.oid else .err .policy)

/-- harness guards and the euid test at the top of clone_object; `none` = go on -/
def clonePre (w : World) (A : Obj) (newOid : Oid) (p : Path) : Option Res :=
  if newOid ∈ reservedOids ∨ getO w.objs newOid ≠ none then some .nobj
  else if p.name ∉ w.loaded ∧ getO w.objs p.oid ≠ none then some .nobj
  else if p.name ∉ w.loaded ∧ p.parent ≠ none then some .nobj      -- harness: inheriting blueprints are loaded, not cloned unloaded
  else if A.oid ≠ masterOid ∧ A.euid = none then some (.err .noEuidClone)
  else none

/-- the clone itself: make_new_name, give_uid_to_object, create() -/
def cloneSelf (cfg : Cfg) (pol : Policy) (i : Nat) (w : World) (A : Obj) (newOid : Oid) (p : Path) :
    World × Creation × Bool :=
  create cfg pol i { w with cloneSeq := w.cloneSeq + 1 } A newOid (p.name ++ "#" ++ toString w.cloneSeq) false

def doDest (cfg : Cfg) (rootNow : Name) (w : World) (A : Obj) (t : Oid) : World × List Creation × Option (Oid × Name × Ans) × Res :=
  match getO w.objs t with
  | none => (w, [], none, .nobj)
  | some T =>
    if t = masterOid then
      -- destruct_object(master_ob): load_object of a new master on behalf of the caller (its euid test), the old
      -- master's creator_file answers for the master file (not logged), then set_master: uid = euid = get_root_uid()
      -- = `rootNow`, what the NEW master answers - through add_uid: a uid record of its own (or the existing one of
      -- that name); the root uid record of the first load is never renamed, every other object keeps its names
      -- (harness: a master without get_root_uid() is not reloaded - its uids would come from that unlogged answer)
      if cfg.noRoot = true then (w, [], none, .nobj)
      else if A.oid ≠ masterOid ∧ A.euid = none then (w, [], none, .err .noEuidLoad)
      else
        let M' : Obj := { T with uid := some rootNow, euid := some rootNow }
        ({ w with objs := setO w.objs M' }, [{ name := w.nameOf T, ans := none, made := some M' }], none, .int 1)
    else if t = simulOid then
      -- destruct_object: "*Cannot destruct simul_efun_object while master_object exists."
      (w, [], none, .err .simulDest)
    else ({ w with objs := delO w.objs t, loaded := w.loaded.filter (· ≠ w.nameOf T),
                   virt := w.virt.filter (· ≠ w.nameOf T), curName := w.curName.filter (·.1 ≠ t),
                   virtOids := w.virtOids.filter (· ≠ t) }, [], none, .int 1)

def doReload (w : World) (t : Oid) : World × List Creation × Option (Oid × Name × Ans) × Res :=
  match getO w.objs t with
  | none => (w, [], none, .nobj)
  | some T =>
    -- (also of the master object: reload_object(master()) is open to everybody and resets the master's euid)
    let o : Obj := { T with euid := none }
    ({ w with objs := setO w.objs o }, [{ name := w.nameOf T, ans := none, made := some o }], none, .int 1)

/-- one segment record: what happened between two uid snapshots, in the context (actor, op) of the innermost
    running op; closed by the snapshot of every registered object (getuid on each) -/
def seg (w1 : World) (a : Oid) (op : Op) (vs : Option (Oid × Name × Ans)) (cs : List Creation) (res : Option Res)
    (first : Bool) : StepRec :=
  { actor := a, op := op, vs := vs, creations := cs, res := res, snap := some w1.objs,
    crash := crashes cs w1.objs, first := first, vsnap := w1.virtOids }

/-- segment in which master::compile_object was asked -/
def segCo (w1 : World) (a : Oid) (op : Op) (first : Bool) (co : String × CoAns) : StepRec :=
  { seg w1 a op none [] none first with co := some co }

/-- file-name key of the create() script: clones share `<path>#` -/
def scriptKey (name : String) : String :=
  match name.splitOn "#" with
  | [b, _] => b ++ "#"
  | _ => name

/-- runner of a create() script: world, acting object id, script key -/
abbrev Sub := World → Oid → String → World × List StepRec
/-- runner of one (nested) op -/
abbrev Run := World → Oid → Op → World × List StepRec

def single (a : Oid) (op : Op) (x : World × List Creation × Option (Oid × Name × Ans) × Res) : World × List StepRec :=
  (x.1, [seg x.1 a op x.2.2.1 x.2.1 (some x.2.2.2) true])

def singleF (a : Oid) (op : Op) (x : World × List Creation × Option (Oid × Name × Ans) × Res) (first : Bool) :
    World × List StepRec :=
  (x.1, [seg x.1 a op x.2.2.1 x.2.1 (some x.2.2.2) first])

/-- give_uid_to_object asks master::creator_file(name) through apply_master_ob and reads current_object->uid / ->euid
    only AFTERWARDS: what the apply did to the creating object counts.  The verification master can (policy `cfDrop`)
    call back into the creating object when that is the master itself and make it `seteuid(0)` before it answers:
    the open segment of the op is closed, the nested op runs (`run`), and the creation `k` continues from the world
    after it with the creating object re-read.  `active`: the op really reaches creator_file. -/
def withCfPre (pol : Policy) (i : Nat) (run : Run) (active : Bool) (w : World) (a : Oid) (op : Op) (first : Bool)
    (name : String) (k : World → Obj → Bool → World × List StepRec) : World × List StepRec :=
  match getO w.objs a with
  | none => (w, [seg w a op none [] (some .nobj) first])
  | some A =>
    if active = true ∧ pol.cfDrop i name = true ∧ a = masterOid then
      let y := run w masterOid (.seteuidInt 0)
      match getO y.1.objs a with
      | none => (y.1, seg w a op none [] none first :: y.2 ++ [seg y.1 a op none [] (some .nobj) false])
      | some A2 =>
        let r := k y.1 A2 false
        (r.1, seg w a op none [] none first :: y.2 ++ r.2)
    else k w A first

/-- the object a one-creation phase really created (creator_file was asked and create() ran) -/
def createdNow : List Creation → Option Obj
  | [c] => if c.ans.isSome then c.made else none
  | _ => none

/-! virtual objects -/

inductive VOut where
  | obj (v : Oid)
  | zero
  | err
  deriving Repr, BEq, DecidableEq

def VOut.res : VOut → Res
  | .obj v => .oid v
  | .zero => .int 0
  | .err => .err .policy

/-- load_virtual_object: master::compile_object(path) on behalf of the running op (a, op).  With a template policy
    the verification master clones the template as `v<n>` (an op of the master like any other, with everything
    that nests in it) and returns it; the driver renames that object - to the virtual path (load_object), or to
    `<path>#<n>` (the virtual branch of clone_object).  No give_uid_to_object: it keeps the uids the master's clone got. -/
def virtCore (pol : Policy) (i : Nat) (run : Run) (w : World) (a : Oid) (op : Op) (first : Bool) (p : Path)
    (asClone : Bool) : World × List StepRec × VOut :=
  match pol.co i p.name with
  | .silent => (w, [], .zero)
  | .none => (w, [segCo w a op first (p.name, .none)], .zero)
  | .nonobj n => (w, [segCo w a op first (p.name, .nonobj n)], .zero)
  | .err => (w, [segCo w a op first (p.name, .err)], .err)
  | .tmpl t =>
    let v : Oid := "v" ++ toString (w.vSeq + 1)
    let w1 : World := { w with vSeq := w.vSeq + 1 }
    let y := run w1 masterOid (.clone v t)
    let ok : Bool := decide ((y.2.getLast?.bind (·.res)) = some (.oid v))
    let s1 := segCo w1 a op first (p.name, .tmpl t)
    if ok = true ∧ (getO y.1.objs v).isSome then
      let nm := if asClone then p.name ++ "#" ++ toString y.1.cloneSeq else p.name
      let w3 : World :=
        { y.1 with curName := (v, nm) :: y.1.curName, virtOids := v :: y.1.virtOids,
                   loaded := if asClone then y.1.loaded else p.name :: y.1.loaded,
                   virt := if asClone then y.1.virt else p.name :: y.1.virt,
                   cloneSeq := if asClone then y.1.cloneSeq + 1 else y.1.cloneSeq }
      (w3, s1 :: y.2, .obj v)
    else (y.1, s1 :: y.2, .zero)

/-- load_object reaches the file system check with no file there: the conditions under which compile_object is asked -/
def needsCompile (w : World) (A : Obj) (p : Path) : Bool :=
  decide (¬ ((p.name ∉ w.loaded ∨ p.name ∈ w.half) ∧ getO w.objs p.oid ≠ none) ∧ p.name ∉ w.loaded ∧
    ¬ (A.oid ≠ masterOid ∧ A.euid = none) ∧ p.exists = false)

/-- load_object, once the new blueprint is in the object table (default uid "NONAME"): master valid_object(ob) through the
    non-catching apply.  An error in it unwinds out of load_object and leaves the loaded, never created object behind
    (`half`, like an error in creator_file); a refusing verdict (`mret && !MASTER_APPROVED(mret)`) destructs the object again
    and raises the error; an approving one lets the load go on (`k`) - the verification master closes the segment with a
    snapshot then.  `active`: the op really reaches this point. -/
def withVo (pol : Policy) (i : Nat) (active : Bool) (w : World) (a : Oid) (op : Op) (first : Bool) (name : String)
    (k : Bool → World × List StepRec) : World × List StepRec :=
  match (if active then pol.vo i name else none) with
  | none => k first
  | some v =>
    if v = .err then
      let w1 : World := { w with loaded := name :: w.loaded, half := name :: w.half }
      (w1, [{ seg w1 a op none [] (some (.err .policy)) first with vo := some (name, v) }])
    else if v.approved = false then
      (w, [{ seg w a op none [] (some (.err .voDenied)) first with vo := some (name, v) }])
    else
      let r := k false
      (r.1, { seg w a op none [] none first with vo := some (name, v) } :: r.2)

/-- load_object reaches creator_file: not found in the object table, euid test passed, the file exists -/
def loadCreates (w : World) (A : Obj) (p : Path) : Bool :=
  decide (¬ ((p.name ∉ w.loaded ∨ p.name ∈ w.half) ∧ getO w.objs p.oid ≠ none) ∧ p.name ∉ w.loaded ∧
    ¬ (A.oid ≠ masterOid ∧ A.euid = none) ∧ p.exists = true)

/-- load_object of an ordinary (non virtual) path `p` from world `w`, as part of the op `op` (the load op itself, or the load of
    the file that inherits `p`).  `k = some ..`: the nested load_object of an inherited file - after its create() the caller
    goes on (`k`) instead of returning a result -/
def execLoadCore (cfg : Cfg) (pol : Policy) (i : Nat) (sub : Sub) (w : World) (a : Oid) (A : Obj) (p : Path) (op : Op)
    (first : Bool) (k : Option (World → World × List StepRec)) : World × List StepRec :=
  let x := doLoad cfg pol i w A p
  match createdNow x.2.1 with
  | none => singleF a op x first
  | some o =>
    let y := sub x.1 o.oid p.name
    match k with
    | none => (y.1, seg x.1 a op none x.2.1 none first :: y.2 ++ [seg y.1 a op none [] (some x.2.2.2) false])
    | some k =>
      let z := k y.1
      (z.1, seg x.1 a op none x.2.1 none first :: y.2 ++ z.2)

/-- valid_object, creator_file (with the master's callback), creation and create() script of blueprint `p` -/
def loadPlain (cfg : Cfg) (pol : Policy) (i : Nat) (run : Run) (sub : Sub) (w : World) (a : Oid) (A : Obj) (p : Path) (op : Op)
    (first : Bool) (k : Option (World → World × List StepRec)) : World × List StepRec :=
  withVo pol i (loadCreates w A p) w a op first p.name fun f0 =>
    withCfPre pol i run (loadCreates w A p) w a op f0 p.name
      (fun W A2 f => execLoadCore cfg pol i sub W a A2 p op f k)

def execLoad (cfg : Cfg) (pol : Policy) (i : Nat) (run : Run) (sub : Sub) (w : World) (a : Oid) (A : Obj) (p : Path) :
    World × List StepRec :=
  if needsCompile w A p = true then
    let v := virtCore pol i run w a (.load p) true p false
    (v.1, v.2.1 ++ [seg v.1 a (.load p) none [] (some v.2.2.res) v.2.1.isEmpty])
  else
    match p.parent with
    | some q =>
      if loadCreates w A p = true ∧ q.name ∉ w.loaded then
        -- compiling `p` finds the program it inherits missing: load_object(q) for the SAME current_object (its own euid test,
        -- valid_object, creator_file, create()), then load_object(p) starts again from the top (test repeated)
        loadPlain cfg pol i run sub w a A q (.load p) true (some fun W =>
          match getO W.objs a with
          | none => (W, [seg W a (.load p) none [] (some .nobj) false])
          | some A' => loadPlain cfg pol i run sub W a A' p (.load p) false none)
      else loadPlain cfg pol i run sub w a A p (.load p) true none
    | none => loadPlain cfg pol i run sub w a A p (.load p) true none

/-- second half of clone_object from world `w` (after the blueprint's create() script): the clone is made by the
    same object `A'` with the uids it has now, then the clone's create() script runs -/
def cloneTail (cfg : Cfg) (pol : Policy) (i : Nat) (sub : Sub) (w : World) (a : Oid) (A' : Obj) (newOid : Oid)
    (p : Path) (first : Bool) : World × List StepRec :=
  let op := Op.clone newOid p
  let c := cloneSelf cfg pol i w A' newOid p
  if c.2.2 = false then (c.1, [seg c.1 a op none [c.2.1] (some (.err .policy)) first])
  else
    let y := sub c.1 newOid (p.name ++ "#")
    (y.1, seg c.1 a op none [c.2.1] none first :: y.2 ++ [seg y.1 a op none [] (some (.oid newOid)) false])

/-- clone_object once find_or_load_object has returned the blueprint (world `w`, segments so far not empty iff
    `first = false`): the repeated euid test (third fix: commit), then the virtual branch or the ordinary clone -/
def clonePhase2 (cfg : Cfg) (pol : Policy) (i : Nat) (run : Run) (sub : Sub) (w : World) (a : Oid) (newOid : Oid)
    (p : Path) (first : Bool) : World × List StepRec :=
  let op := Op.clone newOid p
  match getO w.objs a with
  | none => (w, [seg w a op none [] (some .nobj) first])        -- the caller is gone (not reachable: see Keeps)
  | some A' =>
    if A'.oid ≠ masterOid ∧ A'.euid = none then (w, [seg w a op none [] (some (.err .noEuidClone)) first])
    else if p.name ∈ w.virt then
      let v := virtCore pol i run w a op first p true
      (v.1, v.2.1 ++ [seg v.1 a op none [] (some v.2.2.res) (first && v.2.1.isEmpty)])
    else
      -- make_new_name, then init_object = give_uid_to_object: creator_file for the clone's name
      withCfPre pol i run true w a op first (p.name ++ "#" ++ toString w.cloneSeq)
        (fun W A2 f => cloneTail cfg pol i sub W a A2 newOid p f)

/-- clone_object of a path whose blueprint has to be loaded first: creator_file + create() of the blueprint, its
    script, then the second half -/
def cloneBlueprint (cfg : Cfg) (pol : Policy) (i : Nat) (run : Run) (sub : Sub) (w : World) (a : Oid) (A : Obj)
    (newOid : Oid) (p : Path) (first : Bool) : World × List StepRec :=
  let op := Op.clone newOid p
  let b := create cfg pol i w A p.oid p.name true
  if b.2.2 = false then (b.1, [seg b.1 a op none [b.2.1] (some (.err .policy)) first])
  else
    -- blueprint created just now: its segment and its create() script
    let y := sub b.1 p.oid p.name
    let t := clonePhase2 cfg pol i run sub y.1 a newOid p false
    (t.1, seg b.1 a op none [b.2.1] none first :: y.2 ++ t.2)

def execClone (cfg : Cfg) (pol : Policy) (i : Nat) (run : Run) (sub : Sub) (w : World) (a : Oid) (A : Obj)
    (newOid : Oid) (p : Path) : World × List StepRec :=
  let op := Op.clone newOid p
  match clonePre w A newOid p with
  | some r => (w, [seg w a op none [] (some r) true])
  | none =>
    if p.name ∈ w.loaded then clonePhase2 cfg pol i run sub w a newOid p true
    else if p.exists = false then
      -- find_or_load_object -> load_object -> no file: a virtual object
      let v := virtCore pol i run w a op true p false
      match v.2.2 with
      | .obj _ =>
        let t := clonePhase2 cfg pol i run sub v.1 a newOid p false
        (t.1, v.2.1 ++ t.2)
      | out => (v.1, v.2.1 ++ [seg v.1 a op none [] (some out.res) v.2.1.isEmpty])
    else
      withVo pol i true w a op true p.name fun f0 =>
        withCfPre pol i run true w a op f0 p.name (fun W A2 f => cloneBlueprint cfg pol i run sub W a A2 newOid p f)

def execReload (sub : Sub) (w : World) (a : Oid) (t : Oid) : World × List StepRec :=
  let x := doReload w t
  match x.2.1 with
  | [c] =>
    (match c.made with
     | some o =>
       let y := sub x.1 o.oid (scriptKey (w.nameOf o))
       (y.1, seg x.1 a (.reload t) none x.2.1 none true :: y.2 ++ [seg y.1 a (.reload t) none [] (some x.2.2.2) false])
     | none => single a (.reload t) x)
  | _ => single a (.reload t) x

/-- inside a create() script the harness lets reload_object through only for objects whose own create() has no script -/
def reloadRefused (pol : Policy) (i : Nat) (w : World) (t : Oid) : Bool :=
  match getO w.objs t with
  | some T => !(pol.script i (scriptKey (w.nameOf T))).isEmpty
  | none => false

/-- geteuid(function): the euid of the function's owner, as the harness prints it -/
def fpEuid (S : List Obj) (t : Oid) : Res :=
  match getO S t with
  | some T' => (match T'.euid with
    | some n => .oid ("s:" ++ n)
    | none => .int 0)
  | none => .int 0

/-- efun pointers the harness binds: load_object / clone_object -/
def bindable : Op → Bool
  | .load _ => true
  | .clone _ _ => true
  | _ => false

/-- one op of `a`; `run` runs the nested op of the master inside compile_object, `sub` the create() scripts of the
    objects made; `nested` = the op is itself part of a create() script (destruct refused by the harness) -/
def execWith (cfg : Cfg) (pol : Policy) (i : Nat) (run : Run) (sub : Sub) (nested : Bool) (w : World) (a : Oid)
    (op : Op) : World × List StepRec :=
  match getO w.objs a with
  | none => (w, [seg w a op none [] (some .nobj) true])
  | some A =>
    match op with
    | .seteuidInt n => single a op (doSeteuidInt w A n)
    | .seteuidStr s => single a op (doSeteuidStr pol i w A s)
    | .exportUid t => single a op (doExport w A t)
    | .load p => execLoad cfg pol i run sub w a A p
    | .clone o p => execClone cfg pol i run sub w a A o p
    | .dest t => if nested then (w, [seg w a op none [] (some .nobj) true]) else single a op (doDest cfg ((pol.root i).getD cfg.root) w A t)
    | .reload t =>
      if nested = true ∧ reloadRefused pol i w t = true then (w, [seg w a op none [] (some .nobj) true])
      else execReload sub w a t
    | .via t op' =>
      -- the function runs with its OWNER as current_object (whose euid counts for what it creates); afterwards
      -- the harness reports geteuid(function) = the owner's euid
      match getO w.objs t with
      | none => (w, [seg w a op none [] (some .nobj) true])
      | some _ =>
        let y := run w t op'
        (y.1, seg w a op none [] none true :: y.2 ++
          [{ seg y.1 a op none [] (some (fpEuid y.1.objs t)) false with fpOwner := some t }])
    | .bind t op' =>
      -- lib/lpc/operator.c f_bind: same owner = nothing to do (the master is not asked); otherwise master
      -- valid_bind(doer, old owner, new owner) through the NON-catching apply, refusal iff !MASTER_APPROVED = error;
      -- the bound function then runs with the NEW owner as current_object (its euid counts); afterwards the harness
      -- reports geteuid(bound function) = the new owner's euid
      match getO w.objs t with
      | none => (w, [seg w a op none [] (some .nobj) true])
      | some _ =>
        if bindable op' = false then (w, [seg w a op none [] (some .nobj) true])
        else
          let v := pol.vb i a t
          let asked : Option (Oid × Oid × Ans) := if t = a then none else some (a, t, v)
          if t ≠ a ∧ cfg.noVb = true then
            -- no valid_bind in the master: nothing is logged, the NULL result refuses
            (w, [seg w a op none [] (some (.err .bindDenied)) true])
          else if t ≠ a ∧ v = .err then (w, [{ seg w a op none [] (some (.err .policy)) true with vb := asked, bindTo := none }])
          else if t ≠ a ∧ v.approved = false then
            (w, [{ seg w a op none [] (some (.err .bindDenied)) true with vb := asked, bindTo := none }])
          else
            let y := run w t op'
            (y.1, { seg w a op none [] none true with vb := asked, bindTo := some t } :: y.2 ++
              [{ seg y.1 a op none [] (some (fpEuid y.1.objs t)) false with fpOwner := some t }])

def runScript (f : Run) (w : World) (o : Oid) : List Op → World × List StepRec
  | [] => (w, [])
  | op :: ops =>
    let r := f w o op
    let r2 := runScript f r.1 o ops
    (r2.1, r.2 ++ r2.2)

/-- ops with nested create() scripts and nested master ops, recursion bounded by fuel (fuel 0: scripts are skipped,
    the master's compile_object makes nothing) -/
def exec (cfg : Cfg) (pol : Policy) (i : Nat) : Nat → Bool → World → Oid → Op → World × List StepRec
  | 0, nested, w, a, op => execWith cfg pol i (fun w _ _ => (w, [])) (fun w _ _ => (w, [])) nested w a op
  | fuel + 1, nested, w, a, op =>
    execWith cfg pol i (exec cfg pol i fuel true)
      (fun w o key => runScript (exec cfg pol i fuel true) w o (pol.script i key)) nested w a op

/-- one harness step `do <actor> <op>` -/
def step (cfg : Cfg) (pol : Policy) (fuel : Nat) (i : Nat) (w : World) (a : Oid) (op : Op) : World × List StepRec :=
  exec cfg pol i fuel false w a op

/-- the trace of a history from world `w` (step numbers from `i`); a crashed driver performs nothing more -/
def runFrom (cfg : Cfg) (pol : Policy) (fuel : Nat) : Nat → World → List (Oid × Op) → List StepRec
  | _, _, [] => []
  | i, w, (a, op) :: rest =>
    let x := step cfg pol fuel i w a op
    x.2 ++ (if x.2.any (·.crash) then [] else runFrom cfg pol fuel (i + 1) x.1 rest)

/-- the event trace of a history -/
def events (cfg : Cfg) (pol : Policy) (fuel : Nat) (hist : List (Oid × Op)) : List StepRec :=
  runFrom cfg pol fuel 0 (World.init cfg) hist

end NV.C20
