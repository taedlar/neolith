/-
C20 — translator ties.  NV/Gen/C20.lean is regenerated on every run from the working tree (props/c20_extract.py: clang
AST + a text scan of all sources): the path conditions of the euid tests of load_object / clone_object
(`loadRefuses`, `cloneEntryRefuses`, `cloneRetestRefuses`), the refusal condition of f_seteuid (MASTER_APPROVED expanded:
`seteuidRefuses`), the inventory of every write to `object_t.uid` / `.euid` in the driver (`uidWrites`, `uidRenamers`),
the order of the statements that matter in load_object / clone_object / init_object / make_new_name / destruct_object
(`*Shape`), and the decision trees obtained by symbolic execution of give_uid_to_object, f_seteuid, f_export_uid,
reload_object, set_master, f_bind, load_virtual_object (`*Tree`: a `Leaf` per path - writes, value handed back, master
applies asked, how the path ends - as a function of the Boolean atoms of the C conditions).  Each lemma states that the
regenerated definition is what NV/C20/Model.lean does at that place (`Err.render` alone comes from Drive.lean); they are
obligations of the check, so a changed C line breaks one of them (or leaves the translator's grammar = broken tie).

All of these are finite facts about regenerated tables.  Where both sides are closed literal tables the proof is `rfl`
(the kernel compares string literals as such); the rest is `decide +kernel`: deciding string equality means decoding
both strings into UTF-8 byte lists, and having the elaborator do that before the kernel does it again costs twice as much
and tells nobody anything.  A proof must not lean on HOW a regenerated tree is written (order of its tests): only on
what it computes.
-/
import NV.Gen.C20
import NV.C20.Model
import NV.C20.Drive

namespace NV.C20

open NV.Gen.C20

/-- load_object (master loaded, a current_object): the test fails exactly when the model's
    `A.oid ≠ masterOid ∧ A.euid = none` holds (doLoad, needsCompile, doDest of the master) -/
theorem tie_load_guard (A : Obj) :
    loadRefuses true true (decide (A.oid = masterOid)) A.euid.isSome = true ↔ (A.oid ≠ masterOid ∧ A.euid = none) := by
  unfold loadRefuses
  cases h : A.euid <;> by_cases hm : A.oid = masterOid <;> simp [hm]

/-- loads started by the driver itself (no current_object) are never refused, whatever else holds -/
theorem tie_load_no_current : ∀ m e : Bool, loadRefuses true false m e = false := by decide +kernel

theorem tie_load_test_first : loadTestFirst = 1 := by decide +kernel

/-- clone_object, test on entry = the model's `clonePre` -/
theorem tie_clone_entry (A : Obj) :
    cloneEntryRefuses true (decide (A.oid = masterOid)) A.euid.isSome = true ↔ (A.oid ≠ masterOid ∧ A.euid = none) := by
  unfold cloneEntryRefuses
  cases h : A.euid <;> by_cases hm : A.oid = masterOid <;> simp [hm]

/-- clone_object, repeated test = the model's `clonePhase2` -/
theorem tie_clone_retest (A : Obj) :
    cloneRetestRefuses true (decide (A.oid = masterOid)) A.euid.isSome = true ↔ (A.oid ≠ masterOid ∧ A.euid = none) := by
  unfold cloneRetestRefuses
  cases h : A.euid <;> by_cases hm : A.oid = masterOid <;> simp [hm]

/-- entry test, then find_or_load_object, then the repeated test, then the virtual branch and every creation -/
theorem tie_clone_order : cloneOrderOk = 1 := by decide +kernel

/-- f_export_uid: error exactly for a caller with euid 0 (doExport) -/
theorem tie_export_error (A : Obj) : exportErrors A.euid.isSome = true ↔ A.euid = none := by
  unfold exportErrors
  cases h : A.euid <;> simp

/-- the svalue the master returned, as the refusal condition sees it -/
def ansIsNumber : Ans → Bool
  | .int _ => true
  | .none => true
  | _ => false

def ansNumber : Ans → Bool
  | .int n => decide (n ≠ 0)
  | _ => false

def ansIsString : Ans → Bool
  | .str _ => true
  | _ => false

/-- f_seteuid's refusal condition on a returned value = `¬ Ans.approved` (doSeteuidStr) -/
theorem tie_seteuid_verdict (a : Ans) (h : a ≠ .err) :
    seteuidRefuses false true (ansIsNumber a) (ansNumber a) = !a.approved := by
  unfold seteuidRefuses
  cases a <;> simp [ansIsNumber, ansNumber, Ans.approved] at *

/-- a NULL result (no valid_seteuid in the master) refuses; no master object at all approves -/
theorem tie_seteuid_null_verdict : (∀ x y : Bool, seteuidRefuses false false x y = true) ∧
    (∀ r x y : Bool, seteuidRefuses true r x y = false) := by decide +kernel

/-- the driver rules by which an object's uid / euid may be written; each names the model definition that mirrors it -/
inductive WriteRule where
  | seteuidZero      -- f_seteuid, number branch: own euid := 0 without the master              `doSeteuidInt`
  | seteuidApproved  -- f_seteuid after MASTER_APPROVED(valid_seteuid): own euid := argument     `doSeteuidStr`
  | exportUid        -- f_export_uid: target uid := caller's euid                                `doExport`
  | reloadReset      -- reload_object: euid := 0                                                 `doReload`
  | preMaster        -- give_uid_to_object before a master exists: "NONAME" / 0                  `initObjs`
  | creatorSame      -- give_uid_to_object, same uid as the creator                              `giveUid` branch 1
  | creatorBackbone  -- give_uid_to_object, backbone rule                                        `giveUid` branch 2
  | creatorDefault   -- give_uid_to_object, uid := creator_file answer, euid := 0                `giveUid` branch 3
  | loadDefault      -- load_object: default uid before the object can be found                  `World.half`, late init in `doLoad`
  | masterRoot       -- set_master: uid = euid = get_root_uid()                                  `initObjs`, `doDest` of the master
  deriving DecidableEq, Repr

/-- the table: which rule a write site falls under (`none` = a write the model knows nothing of) -/
def writeRule (w : UidWrite) : Option WriteRule :=
  if w.file = "lib/efuns/uids.c" ∧ w.fn = "f_seteuid" ∧ w.stmt = "(current_object->euid = 0)" then some .seteuidZero
  else if w.file = "lib/efuns/uids.c" ∧ w.fn = "f_seteuid" ∧ w.stmt = "(current_object->euid = add_uid(sp->u.string))" then
    some .seteuidApproved
  else if w.file = "lib/efuns/uids.c" ∧ w.fn = "f_export_uid" ∧ w.stmt = "(ob->uid = current_object->euid)" then some .exportUid
  else if w.file = "lib/lpc/object.c" ∧ w.fn = "reload_object" ∧ w.stmt = "(obj->euid = 0)" then some .reloadReset
  else if w.file = "src/simulate.c" ∧ w.fn = "load_object" ∧ w.stmt = "(ob->uid = add_uid(\"NONAME\"))" then some .loadDefault
  else if w.file = "src/simulate.c" ∧ w.fn = "set_master" ∧
      (w.stmt = "(master_ob->uid = set_root_uid(uid))" ∨ w.stmt = "(master_ob->uid = add_uid(uid))" ∨
       w.stmt = "(master_ob->euid = master_ob->uid)") then some .masterRoot
  else if w.file = "src/simulate.c" ∧ w.fn = "give_uid_to_object" then
    if w.applies = [] then
      (if w.stmt = "(ob->uid = add_uid(\"NONAME\"))" ∨ w.stmt = "(ob->euid = 0)" then some .preMaster else none)
    else if w.stmt = "(ob->uid = current_object->uid)" then some .creatorSame
    else if w.stmt = "(ob->uid = current_object->euid)" ∨ w.stmt = "(ob->euid = current_object->euid)" then some .creatorBackbone
    else if w.stmt = "(ob->uid = add_uid(creator_name))" ∨ w.stmt = "(ob->euid = 0)" then some .creatorDefault
    else none
  else none

def refusalGuard : String := s!"unless !((ret == -1) || (ret && ((ret->type != {tNumber}) || ret->u.number)))"
def sameUidCond : String := "(current_object->uid && (strcmp(current_object->uid->name, creator_name) == 0))"
def backboneCond : String := "((backbone_uid && current_object->euid) && !strcmp(backbone_uid->name, creator_name))"
def afterCreatorFile : List String := [s!"unless (get_machine_state() < {msMudlibLimbo})", "unless (ret == -1)"]

/-- what dominates a write of each kind: the master apply that was asked before it and the guards on the way -/
def governed (w : UidWrite) : Bool :=
  -- (the guards must be AMONG the dominating conditions: further, unrelated guards of a refactored function do no harm; what
  -- exactly happens on each path is the business of the decision-tree ties below)
  match writeRule w with
  | none => false
  | some .seteuidZero => decide (w.applies = []) && w.path.contains "unless sp->u.number" && w.path.contains s!"if (sp->type & {tNumber})"
  | some .seteuidApproved =>
    w.applies.contains "valid_seteuid" && w.path.contains s!"unless (sp->type & {tNumber})" && w.path.contains refusalGuard
  | some .exportUid => w.path.contains "unless (current_object->euid == 0)"     -- (the target test: `tie_export_write_dominated`)
  | some .reloadReset => true
  | some .preMaster => decide (w.applies = []) && w.path.contains s!"if (get_machine_state() < {msMudlibLimbo})"
  | some .creatorSame =>
    w.applies.contains "creator_file" && afterCreatorFile.all w.path.contains && w.path.contains "if current_object" &&
      w.path.contains ("if " ++ sameUidCond)
  | some .creatorBackbone =>
    w.applies.contains "creator_file" && afterCreatorFile.all w.path.contains && w.path.contains ("unless " ++ sameUidCond) &&
      w.path.contains "if current_object" && w.path.contains ("if " ++ backboneCond)
  | some .creatorDefault => w.applies.contains "creator_file" && afterCreatorFile.all w.path.contains
  | some .loadDefault => true
  | some .masterRoot =>
    -- the record-renaming set_root_uid only at the FIRST load; a reloaded master gets its uid through add_uid
    w.applies.contains "get_root_uid" && w.path.contains "if uid" &&
      (if w.stmt = "(master_ob->uid = set_root_uid(uid))" then w.path.contains "if first_load"
       else if w.stmt = "(master_ob->uid = add_uid(uid))" then w.path.contains "else first_load"
       else (w.path.contains "if first_load" || w.path.contains "else first_load"))

/-- EVERY write to an object's uid / euid anywhere in src/ and lib/ (regenerated: text scan of all sources + clang AST
    of every function that touches the fields) falls under one of the enumerated rules, and is dominated by what that
    rule needs: the seteuid write by an approving valid_seteuid verdict, the three creation writes by the
    creator_file apply and give_uid_to_object's conditions, the export write by the two euid tests, the master's
    by get_root_uid.  A new assignment site (or a site that lost its guard) makes this false. -/
theorem tie_uid_writes_governed : uidWrites.all governed = true := by decide +kernel

/-- the inventory itself, site by site in (file, function, source) order: 16 writes in 6 functions -/
theorem tie_uid_write_inventory :
    uidWrites.map (fun w => (w.fn, w.stmt)) = [
      ("f_export_uid", "(ob->uid = current_object->euid)"),
      ("f_seteuid", "(current_object->euid = 0)"),
      ("f_seteuid", "(current_object->euid = add_uid(sp->u.string))"),
      ("reload_object", "(obj->euid = 0)"),
      ("give_uid_to_object", "(ob->uid = add_uid(\"NONAME\"))"),
      ("give_uid_to_object", "(ob->euid = 0)"),
      ("give_uid_to_object", "(ob->uid = current_object->uid)"),
      ("give_uid_to_object", "(ob->uid = current_object->euid)"),
      ("give_uid_to_object", "(ob->euid = current_object->euid)"),
      ("give_uid_to_object", "(ob->uid = add_uid(creator_name))"),
      ("give_uid_to_object", "(ob->euid = 0)"),
      ("load_object", "(ob->uid = add_uid(\"NONAME\"))"),
      ("set_master", "(master_ob->uid = set_root_uid(uid))"),
      ("set_master", "(master_ob->euid = master_ob->uid)"),
      ("set_master", "(master_ob->uid = add_uid(uid))"),
      ("set_master", "(master_ob->euid = master_ob->uid)")] ∧
    uidWrites.map (·.file) = ["lib/efuns/uids.c", "lib/efuns/uids.c", "lib/efuns/uids.c", "lib/lpc/object.c",
      "src/simulate.c", "src/simulate.c", "src/simulate.c", "src/simulate.c", "src/simulate.c", "src/simulate.c",
      "src/simulate.c", "src/simulate.c", "src/simulate.c", "src/simulate.c", "src/simulate.c", "src/simulate.c"] := ⟨rfl, rfl⟩

/-- uid names are interned records shared by pointer (userid_t): a name and its record stay in bijection - which is why the
    model may use names - as long as no record is renamed.  The two functions that rename one IN PLACE (set_root_uid,
    set_backbone_uid) are called from set_master only, and only in its first-load branch: at that moment no object but the
    master holds a uid.  A reloaded master takes the add_uid path (`doDest`: nobody else's names change). -/
theorem tie_uid_records_never_renamed :
    uidRenamers = [("src/simulate.c", "set_master", "set_backbone_uid", s!"if first_load && if (ret && (ret->type == {tString}))"),
                   ("src/simulate.c", "set_master", "set_root_uid", "if first_load && if uid")] := by decide +kernel

/-- the rules are exhaustive the other way round too: every rule of the table has a site (no dead model rule) -/
theorem tie_uid_rules_all_used :
    ∀ r : WriteRule, (uidWrites.any fun w => decide (writeRule w = some r)) = true := by
  -- one evaluation over the list of all rules: the rule of each site is computed once and shared
  have h : ([.seteuidZero, .seteuidApproved, .exportUid, .reloadReset, .preMaster, .creatorSame, .creatorBackbone,
      .creatorDefault, .loadDefault, .masterRoot] : List WriteRule).all
      (fun r => uidWrites.any fun w => decide (writeRule w = some r)) = true := by decide +kernel
  intro r; cases r <;> exact List.all_eq_true.mp h _ (by decide)

/-- init_object is give_uid_to_object and nothing else -/
theorem tie_init_object_shape : initObjectShape = ["return", "give_uid_to_object(ob)"] := rfl

/-- load_object past the file checks = `create` with `blueprint := true` (only the statements that matter are regenerated):
    the default uid is assigned BEFORE the object enters the object table (so the half-made object of `World.half` has a
    uid), valid_object / creator_file are asked through the non-catching apply, give_uid_to_object runs before create() -/
theorem tie_load_tail_shape :
    loadTailShape = [
      "get_empty_object", "(ob->uid = add_uid(\"NONAME\"))", "enter_object_hash(ob)",
      s!"if (get_machine_state() >= {msMudlibLimbo})", "apply_master_ob(\"valid_object\", 1)",
      s!"if (mret && !((mret == -1) || (mret && ((mret->type != {tNumber}) || mret->u.number))))",
      "if init_object(ob)", "call_create(ob, 0)"] := by decide +kernel

/-- clone_object = `clonePre` / `clonePhase2` / `virtCore` / `cloneTail` (only the statements that matter): entry test,
    blueprint, repeated test, virtual branch (compile_object again, make_new_name, no uids, no create()), ordinary clone:
    make_new_name (`cloneSeq`), give_uid_to_object BEFORE the clone enters the object table, then create() -/
theorem tie_clone_shape :
    cloneShape = [
      "if (current_object && (current_object->euid == 0))", "error(\"*Attempt to create object without effective UID.\")",
      "find_or_load_object(str1)", "if ((current_object && (current_object != master_ob)) && (current_object->euid == 0))",
      "error(\"*Attempt to create object without effective UID.\")",
      s!"if (!(ob->flags & {oVirtual}) || strrchr(str1, '#'))", "if (((ob->ref == 1) && !ob->super) && !ob->contains)",
      "if !(v = load_virtual_object(str1))", "make_new_name(str1)", "enter_object_hash(new_ob)", "get_empty_object",
      "make_new_name(ob->name)", "init_object(new_ob)", "enter_object_hash(new_ob)", "call_create(new_ob, num_arg)"] := by rfl

/-- make_new_name = `World.cloneSeq` (starts at 1 in `World.init`, `cloneSelf` / `virtCore` use it and add 1): one static
    counter, initialised to 1, the name is `<str>#<counter>`, incremented once per call -/
theorem tie_make_new_name_shape :
    makeNewNameShape = ["decl static i = 1", "sprintf(\"%s#%d\", str, i)", "post++ i"] ∧ (World.init ⟨"", none, false, false, false⟩).cloneSeq = 1 :=
  ⟨rfl, rfl⟩

/-- destruct_object, as far as the master and the simul_efun object are concerned = `doDest`: the simul_efun object is not
    destructed while a master exists (`Err.simulDest`); a destructed master is replaced by `load_object` of the same name -
    a load on behalf of the CALLER (the euid test of `doDest`) - and then `set_master` (uid = euid = get_root_uid()) -/
theorem tie_destruct_vital_shape :
    destructVitalShape = [
      "if ((ob == simul_efun_ob) && master_ob)", "error(\"*Cannot destruct simul_efun_object while master_object exists.\")",
      "(new_ob = load_object(tmp, 0))", "set_master(new_ob)", "set_simul_efun(new_ob)"] := rfl

/-- the error texts the model prints (`Err.render`, NV/C20/Drive.lean) are the driver's (harness form: newline dropped,
    blanks as `_`) -/
theorem tie_error_texts :
    errTexts = [Err.render .noEuidLoad, Err.render .noEuidClone, Err.render .exportZero, Err.render .simulDest,
                Err.render .bindDenied] := rfl

/-- f_bind = the `.bind` case of `execWith`: binding to the present owner returns at once (the master is not asked); the two
    unbindable kinds are errors before the master is asked; otherwise master valid_bind through the NON-catching apply, refusal
    iff !MASTER_APPROVED (the same expansion as in f_seteuid: `seteuidRefuses`; a NULL result - no valid_bind - refuses:
    `Cfg.noVb`) = error WITHOUT a new owner; only an approved bind sets the new owner -/
theorem tie_bind_tree : ∀ sameOwner localFn notBindable noMaster res isNumber number : Bool,
    bindTree sameOwner localFn notBindable noMaster res isNumber number =
      (if sameOwner then { writes := [], res := "", asked := [], exit := "return" }
       else if localFn || notBindable then { writes := [], res := "", asked := [], exit := "error:error" }
       else if seteuidRefuses noMaster res isNumber number then { writes := [], res := "", asked := ["valid_bind"], exit := "error:error" }
       else { writes := [("new_fp->hdr.owner", "ob")], res := "", asked := ["valid_bind"], exit := "end" }) := by decide +kernel

/-- load_virtual_object = `virtCore`: nothing before a master exists; compile_object through the non-catching apply; anything
    but an object = 0; the object is handed back as it is - no uid / euid is written, give_uid_to_object is not called -/
theorem tie_load_virtual_tree : ∀ v isObject : Bool,
    loadVirtualTree true v isObject = { writes := [], res := "0", asked := [], exit := "return" } ∧
    loadVirtualTree false v isObject =
      { writes := [], res := (if v && isObject then "v" else "0"), asked := ["compile_object"], exit := "return" } := by decide +kernel

def retLeaf (ws : List (String × String)) (asked : List String) : Leaf := { writes := ws, res := "", asked := asked, exit := "return" }

/-- `giveUid` / `creatorName` / `create`, written over the atoms of the C conditions -/
def giveUidExpected (ret retString cur curUid uidDiffers bbSet curEuid bbDiffers : Bool) : Leaf :=
  let nm := if ret && retString then "add_uid(<answer>)" else "add_uid(<lit:NONAME>)"
  if cur && curUid && !uidDiffers then retLeaf [("ob->uid", "current_object->uid")] ["creator_file"]
  else if cur && decide (NV.Gen.C20.autoTrustBackbone ≠ 0) && bbSet && curEuid && !bbDiffers then
    retLeaf [("ob->uid", "current_object->euid"), ("ob->euid", "current_object->euid")] ["creator_file"]
  else retLeaf [("ob->uid", nm), ("ob->euid", "0")] ["creator_file"]

/-- give_uid_to_object once a master exists and answers: on EVERY path creator_file was asked before anything is written; same
    uid as the creator -> the creator's UID record, euid untouched; backbone rule (only with AUTO_TRUST_BACKBONE, a backbone uid, a
    creator euid, the backbone name) -> uid AND euid = the creator's EUID; otherwise uid = the answer ("NONAME" for anything but a
    string), euid = 0.  No other path, no other write. -/
theorem tie_giveuid_tree : ∀ ret retString cur curUid uidDiffers bbSet curEuid bbDiffers : Bool,
    giveUidTree false false ret retString cur curUid uidDiffers bbSet curEuid bbDiffers =
      giveUidExpected ret retString cur curUid uidDiffers bbSet curEuid bbDiffers := by decide +kernel

/-- before a master exists: "NONAME" / 0 and nobody is asked (`initObjs`: simul_efun object, master without get_root_uid);
    no master object at all: the new object is destructed and the load fails -/
theorem tie_giveuid_tree_premaster : ∀ a b c d e f g h i : Bool,
    giveUidTree true a b c d e f g h i = retLeaf [("ob->uid", "add_uid(\"NONAME\")"), ("ob->euid", "0")] [] ∧
    (giveUidTree false true b c d e f g h i).exit = "error:error" := by decide +kernel

/-- value of a right-hand side of the tree for a given creator and creator_file answer -/
def rhsVal (creator : Obj) (a : Ans) (rhs : String) : Option (Option Name) :=
  if rhs = "current_object->uid" then some creator.uid
  else if rhs = "current_object->euid" then some creator.euid
  else if rhs = "0" then some none
  else if rhs = "add_uid(<lit:NONAME>)" ∨ rhs = "add_uid(\"NONAME\")" then some (some "NONAME")
  else if rhs = "add_uid(<answer>)" then (match a with
    | .str s => some (some s)
    | _ => none)
  else none

/-- perform the writes of a leaf on the (uid, euid) of the new object (get_empty_object: both NULL) -/
def applyWrites (creator : Obj) (a : Ans) : List (String × String) → Option Name × Option Name → Option (Option Name × Option Name)
  | [], ue => some ue
  | (l, r) :: ws, ue =>
    match rhsVal creator a r with
    | none => none
    | some v =>
      if l = "ob->uid" then applyWrites creator a ws (v, ue.2)
      else if l = "ob->euid" then applyWrites creator a ws (ue.1, v)
      else none

/-- **give_uid_to_object = `giveUid`, for every configuration, creator and creator_file answer**: running the writes of the
    regenerated tree - with its atoms read off the creator and the answer - on a fresh object gives exactly the model's
    (uid, euid).  (A wrong-but-plausible operand, e.g. the creator's uid where its euid belongs, falsifies this.) -/
theorem tie_giveuid_semantics (cfg : Cfg) (creator : Obj) (a : Ans) :
    applyWrites creator a
      (giveUidTree false false true (ansIsString a) true creator.uid.isSome (decide (creator.uid ≠ some (creatorName a)))
        cfg.bb.isSome creator.euid.isSome (decide (cfg.bb ≠ some (creatorName a)))).writes (none, none) =
      some (giveUid cfg creator a) := by
  -- the tree's conditions, over the atoms read off creator and answer, are the model's
  have c1 : (true && creator.uid.isSome && !decide (creator.uid ≠ some (creatorName a))) =
      decide (creator.uid = some (creatorName a)) := by
    cases creator.uid <;> simp
  have c2 : (true && decide (NV.Gen.C20.autoTrustBackbone ≠ 0) && cfg.bb.isSome && creator.euid.isSome &&
      !decide (cfg.bb ≠ some (creatorName a))) =
      decide (autoTrustBackbone = true ∧ cfg.bb = some (creatorName a) ∧ creator.euid ≠ none) := by
    cases cfg.bb <;> cases creator.euid <;> simp [autoTrustBackbone]
  rw [tie_giveuid_tree]
  simp only [giveUidExpected, giveUid, c1, c2, decide_eq_true_eq]
  split
  · simp [retLeaf, applyWrites, rhsVal]
  · split
    · simp [retLeaf, applyWrites, rhsVal]
    · cases a <;> simp [retLeaf, applyWrites, rhsVal, ansIsString, creatorName]

/-- f_seteuid: number argument = no master call at all (non-zero: bad argument, zero: own euid := 0, result 1); string
    argument: valid_seteuid is asked FIRST, a refusing verdict (`seteuidRefuses`, bridged to `Ans.approved` by
    `tie_seteuid_verdict`) returns 0 WITHOUT a write, otherwise own euid := the argument, result 1 (`doSeteuidInt`, `doSeteuidStr`) -/
theorem tie_seteuid_tree : ∀ argIsNumber argNonZero noMaster ret isNumber number : Bool,
    seteuidTree argIsNumber argNonZero noMaster ret isNumber number =
      (if argIsNumber then
        (if argNonZero then { writes := [], res := "", asked := [], exit := "error:bad_arg" }
         else { writes := [("current_object->euid", "0")], res := "1", asked := [], exit := "return" })
       else if seteuidRefuses noMaster ret isNumber number then
        { writes := [], res := "const0", asked := ["valid_seteuid"], exit := "return" }
       else { writes := [("current_object->euid", "add_uid(sp->u.string)")], res := "const1", asked := ["valid_seteuid"], exit := "end" }) := by
  decide +kernel

/-- f_export_uid: caller without euid = error and nothing else; target with an euid = 0 and NO write; otherwise the target's UID :=
    the caller's EUID, 1; the master is never asked (`doExport`) -/
theorem tie_export_tree : ∀ curEuid tgtEuid : Bool,
    exportTree curEuid tgtEuid =
      (if !curEuid then { writes := [], res := "", asked := [], exit := "error:error" }
       else if tgtEuid then { writes := [], res := "const0", asked := [], exit := "end" }
       else { writes := [("ob->uid", "current_object->euid")], res := "const1", asked := [], exit := "end" }) := by decide +kernel

/-- **f_export_uid = `doExport`, for every world, caller and registered target**: the regenerated tree, with its atoms read off the
    two objects, raises the error exactly when the model does, hands back 1 exactly when the model does, and writes - the
    target's uid := the caller's euid - exactly when the model changes the world (in that way) -/
theorem tie_export_semantics (w : World) (A T : Obj) (t : Oid) (hT : getO w.objs t = some T) :
    let l := exportTree A.euid.isSome T.euid.isSome
    (l.exit = "error:error" ↔ (doExport w A t).2.2.2 = .err .exportZero) ∧
    (l.res = "const1" ↔ (doExport w A t).2.2.2 = .int 1) ∧
    (l.res = "const0" ↔ (doExport w A t).2.2.2 = .int 0) ∧
    (l.writes = [("ob->uid", "current_object->euid")] → (doExport w A t).1.objs = setO w.objs { T with uid := A.euid }) ∧
    (l.writes = [] → (doExport w A t).1.objs = w.objs) := by
  simp only [tie_export_tree]
  unfold doExport
  simp only [hT]
  cases hA : A.euid <;> cases hTe : T.euid <;> simp

/-- **f_seteuid(number) = `doSeteuidInt`**: bad argument exactly for a non-zero number; otherwise result 1 and the own euid
    cleared - the only write - without anybody being asked -/
theorem tie_seteuid_int_semantics (w : World) (A : Obj) (n : Int) (x y z u : Bool) :
    let l := seteuidTree true (decide (n ≠ 0)) x y z u
    (l.exit = "error:bad_arg" ↔ (doSeteuidInt w A n).2.2.2 = .err .badArg) ∧
    (l.writes = [("current_object->euid", "0")] ↔ (doSeteuidInt w A n).1.objs = setO w.objs { A with euid := none } ∧
      (doSeteuidInt w A n).2.2.2 = .int 1) ∧
    l.asked = [] := by
  simp only [tie_seteuid_tree]
  unfold doSeteuidInt
  by_cases hn : n = 0 <;> simp [hn]

/-- **f_seteuid(string) = `doSeteuidStr`** for every master verdict that is not an error (an error unwinds before the test):
    the euid is written - to the argument, after valid_seteuid was asked - exactly when the model sets it (`Ans.approved`),
    and 0 is handed back without a write exactly when the model refuses -/
theorem tie_seteuid_str_semantics (pol : Policy) (i : Nat) (w : World) (A : Obj) (s : Name) (h : pol.vs i A.oid s ≠ .err) (x : Bool) :
    let a := pol.vs i A.oid s
    let l := seteuidTree false x false true (ansIsNumber a) (ansNumber a)
    l.asked = ["valid_seteuid"] ∧
    (l.writes = [("current_object->euid", "add_uid(sp->u.string)")] ↔
      (doSeteuidStr pol i w A s).1.objs = setO w.objs { A with euid := some s } ∧ (doSeteuidStr pol i w A s).2.2.2 = .int 1) ∧
    (l.writes = [] ↔ (doSeteuidStr pol i w A s).1.objs = w.objs ∧ (doSeteuidStr pol i w A s).2.2.2 = .int 0) := by
  have hv := tie_seteuid_verdict (pol.vs i A.oid s) h
  simp only [tie_seteuid_tree, hv]
  unfold doSeteuidStr
  simp only [h, if_false]
  cases hap : (pol.vs i A.oid s).approved <;> simp

/-- reload_object: euid := 0 BEFORE create() runs again, the uid is not touched (`doReload`, `execReload`) -/
theorem tie_reload_tree :
    reloadTree true = { writes := [("obj->euid", "0"), ("call_create", "call_create(obj, 0)")], res := "", asked := [], exit := "end" } ∧
    reloadTree false = { writes := [], res := "", asked := [], exit := "return" } := ⟨rfl, rfl⟩

/-- set_master: get_root_uid() is asked on every load, get_bb_uid() only on the FIRST; a string answer gives uid = euid = that
    name - through set_root_uid (which may rename a record) on the first load only, through add_uid on a reload (`doDest`,
    `Policy.root`); without a string answer nothing is written (`Cfg.noRoot`); the backbone uid is set on the first load only -/
theorem tie_set_master_tree : ∀ rootRet rootIsString bbRet bbIsString : Bool,
    setMasterTree true false true rootRet rootIsString bbRet bbIsString =
      { writes := (if rootRet && rootIsString then [("master_ob->uid", "set_root_uid(<root-answer>)"), ("master_ob->euid", "master_ob->uid")] else []) ++
                  (if bbRet && bbIsString then [("set_backbone_uid", "set_backbone_uid(ret->u.string)")] else []),
        res := "", asked := ["get_root_uid", "get_bb_uid"], exit := "end" } ∧
    setMasterTree true false false rootRet rootIsString bbRet bbIsString =
      { writes := (if rootRet && rootIsString then [("master_ob->uid", "add_uid(<root-answer>)"), ("master_ob->euid", "master_ob->uid")] else []),
        res := "", asked := ["get_root_uid"], exit := "end" } := by decide +kernel

/-- **reload_object = `doReload`** for every world and registered target: the tree's only uid / euid write is `euid := 0`, before
    create(); the model clears exactly the target's euid, keeps its uid and announces it without a creator_file call -/
theorem tie_reload_semantics (w : World) (t : Oid) (T : Obj) (hT : getO w.objs t = some T) :
    (reloadTree true).writes = [("obj->euid", "0"), ("call_create", "call_create(obj, 0)")] ∧
    (doReload w t).1.objs = setO w.objs { T with euid := none } ∧
    (doReload w t).2.1 = [{ name := w.nameOf T, ans := none, made := some { T with euid := none } }] ∧
    (doReload w t).2.2.2 = .int 1 := by
  refine ⟨rfl, ?_, ?_, ?_⟩ <;> simp only [doReload, hT]

/-- **set_master = `initObjs` (first load) and `doDest` of the master (reload)**, for every configuration:
    first load - with get_root_uid() answering a string the tree writes uid := that name, euid := uid, and the model's first
    master has uid = euid = `cfg.root`; without it the tree writes nothing and the model's master keeps the pre-master
    "NONAME" / 0 of give_uid_to_object (`tie_giveuid_tree_premaster`);
    reload - uid := add_uid(name the NEW master answers), euid := uid, and `doDest` gives the master exactly `rootNow` / `rootNow` -/
theorem tie_set_master_semantics (cfg : Cfg) (bbRet bbIsString : Bool) (rootNow : Name) (w : World) (A M : Obj)
    (hM : getO w.objs masterOid = some M) (hr : cfg.noRoot = false) (hg : ¬ (A.oid ≠ masterOid ∧ A.euid = none)) :
    ((setMasterTree true false true true (!cfg.noRoot) bbRet bbIsString).writes.take 2 =
        (if cfg.noRoot then [] else [("master_ob->uid", "set_root_uid(<root-answer>)"), ("master_ob->euid", "master_ob->uid")]) ++
        (if cfg.noRoot && bbRet && bbIsString then [("set_backbone_uid", "set_backbone_uid(ret->u.string)")] else [])) ∧
    ((initObjs cfg).head?.map (fun m => (m.uid, m.euid)) = some (some cfg.root, some cfg.root)) ∧
    ((setMasterTree true false false true true bbRet bbIsString).writes =
        [("master_ob->uid", "add_uid(<root-answer>)"), ("master_ob->euid", "master_ob->uid")]) ∧
    ((doDest cfg rootNow w A masterOid).1.objs = setO w.objs { M with uid := some rootNow, euid := some rootNow }) := by
  refine ⟨?_, ?_, ?_, ?_⟩
  · rw [(tie_set_master_tree true (!cfg.noRoot) bbRet bbIsString).1]
    cases bbRet <;> cases bbIsString <;> simp [hr]
  · simp [initObjs, hr]
  · rw [(tie_set_master_tree true true bbRet bbIsString).2]; simp
  · unfold doDest
    simp [hM, hr, hg]

/-- a master WITHOUT get_root_uid(): set_master writes nothing, the model's first master is what give_uid_to_object made of it
    before a master existed -/
theorem tie_set_master_noroot (cfg : Cfg) (bbRet bbIsString : Bool) (hr : cfg.noRoot = true) :
    ((setMasterTree true false true true (!cfg.noRoot) bbRet bbIsString).writes.all (fun w => w.1 != "master_ob->uid" && w.1 != "master_ob->euid") = true) ∧
    ((initObjs cfg).head?.map (fun m => (m.uid, m.euid)) = some (some "NONAME", none)) := by
  refine ⟨?_, ?_⟩
  · rw [(tie_set_master_tree true (!cfg.noRoot) bbRet bbIsString).1]
    cases bbRet <;> cases bbIsString <;> simp [hr]
  · simp [initObjs, hr]

/-- **give_uid_to_object before a master exists = the pre-master objects of `initObjs`**: the writes of the pre-master leaf give
    "NONAME" / 0 - exactly the uids of the simul_efun object (`cfg.simul`) and of a first master without get_root_uid()
    (`cfg.noRoot`, see `tie_set_master_noroot`: set_master then writes nothing) -/
theorem tie_premaster_semantics (cfg : Cfg) (creator : Obj) (a : Ans) (b c d e f g h i j : Bool) :
    applyWrites creator a (giveUidTree true b c d e f g h i j).writes (none, none) = some (some "NONAME", none) ∧
    (cfg.simul = true → (initObjs cfg).getLast?.map (fun o => (o.oid, o.uid, o.euid)) = some (simulOid, some "NONAME", none)) ∧
    (cfg.noRoot = true → (initObjs cfg).head?.map (fun o => (o.uid, o.euid)) = some (some "NONAME", none)) := by
  refine ⟨?_, ?_, ?_⟩
  · rw [(tie_giveuid_tree_premaster b c d e f g h i j).1]
    simp [retLeaf, applyWrites, rhsVal]
  · intro hs; simp [initObjs, hs]
  · intro hn; simp [initObjs, hn]

/-! ### dominance, semantically: on EVERY path of the regenerated trees a uid / euid write is preceded by what its rule needs -/

def bools : List Bool := [false, true]

/-- f_seteuid: the own euid is written to a non-zero value only on paths on which valid_seteuid was asked and its verdict
    does not refuse; it is cleared only on the number path with argument 0, where nobody is asked -/
theorem tie_seteuid_write_dominated : ∀ argIsNumber argNonZero noMaster ret isNumber number : Bool,
    let l := seteuidTree argIsNumber argNonZero noMaster ret isNumber number
    (("current_object->euid", "add_uid(sp->u.string)") ∈ l.writes →
        l.asked = ["valid_seteuid"] ∧ argIsNumber = false ∧ seteuidRefuses noMaster ret isNumber number = false) ∧
    (("current_object->euid", "0") ∈ l.writes → argIsNumber = true ∧ argNonZero = false ∧ l.asked = []) ∧
    l.writes.all (fun w => w.1 == "current_object->euid") = true := by decide +kernel

/-- give_uid_to_object: once a master exists EVERY write of the new object's uid / euid comes after the creator_file apply; the
    creator's EUID reaches the new object only through the backbone rule (a backbone uid, a creator euid, the backbone name), the
    creator's UID only through the same-uid rule -/
theorem tie_giveuid_writes_dominated : ∀ noMaster ret retString cur curUid uidDiffers bbSet curEuid bbDiffers : Bool,
    let l := giveUidTree false noMaster ret retString cur curUid uidDiffers bbSet curEuid bbDiffers
    ((l.writes.any fun w => w.1 == "ob->uid" || w.1 == "ob->euid") = true → l.asked = ["creator_file"] ∧ noMaster = false) ∧
    ((l.writes.any fun w => w.2 == "current_object->euid") = true →
        cur = true ∧ bbSet = true ∧ curEuid = true ∧ bbDiffers = false ∧ (curUid = false ∨ uidDiffers = true)) ∧
    ((l.writes.any fun w => w.2 == "current_object->uid") = true → cur = true ∧ curUid = true ∧ uidDiffers = false) := by decide +kernel

/-- f_export_uid: the target's uid is written only for a caller WITH an euid and a target WITHOUT one, and it is the caller's
    euid that is written; no euid is written on any path -/
theorem tie_export_write_dominated : ∀ curEuid tgtEuid : Bool,
    let l := exportTree curEuid tgtEuid
    (l.writes ≠ [] → curEuid = true ∧ tgtEuid = false ∧ l.writes = [("ob->uid", "current_object->euid")]) := by decide +kernel

/-- set_master: the master's uid / euid are written only after get_root_uid() returned a string; the record-renaming
    set_root_uid / set_backbone_uid only on the first load -/
theorem tie_master_write_dominated : ∀ obSet obDestructed firstLoad rootRet rootIsString bbRet bbIsString : Bool,
    let l := setMasterTree obSet obDestructed firstLoad rootRet rootIsString bbRet bbIsString
    (l.writes ≠ [] → "get_root_uid" ∈ l.asked) ∧
    ((l.writes.any fun w => w.1 == "master_ob->uid") = true → rootRet = true ∧ rootIsString = true) ∧
    ((l.writes.any fun w => w.2 == "set_root_uid(<root-answer>)" || w.1 == "set_backbone_uid") = true → firstLoad = true) := by decide +kernel

/-- f_bind: a function gets a new owner only on the path on which valid_bind was asked and did not refuse -/
theorem tie_bind_write_dominated : ∀ sameOwner localFn notBindable noMaster res isNumber number : Bool,
    let l := bindTree sameOwner localFn notBindable noMaster res isNumber number
    (l.writes ≠ [] → l.asked = ["valid_bind"] ∧ seteuidRefuses noMaster res isNumber number = false ∧ l.exit = "end") := by decide +kernel

end NV.C20
