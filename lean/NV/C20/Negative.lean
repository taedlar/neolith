/-
C20 — the oracle rejects what it should: NEGATIVE examples for every clause of `judgeEv` (each a concrete trace
that violates exactly the idea of one clause, checked by evaluation), after a positive control on the common prefix.
-/
import NV.C20.Spec

namespace NV.C20.Negative

open NV.C20

def M : Obj := { oid := "m", name := "", uid := some "Root", euid := some "Root" }
def ob (oid : Oid) (uid euid : Option Name) : Obj := { oid := oid, name := "", uid := uid, euid := euid }
def pa : Path := ⟨"u1", "a"⟩
def pb : Path := ⟨"u2", "a"⟩
def mk (oid : Oid) (name : String) (ans : Ans) (uid euid : Option Name) : Creation :=
  { name := name, ans := some ans, made := some (ob oid uid euid) }

def A0 : Obj := ob "u1a" (some "u1") none
def A1 : Obj := ob "u1a" (some "u1") (some "u1")
def B0 : Obj := ob "u2a" (some "u2") none

/-- the master loads /c20/u1/a and /c20/u2/a (euid 0 each) -/
def pre : List StepRec :=
  [{ actor := "m", op := .load pa, creations := [mk "u1a" "/c20/u1/a" (.str "u1") (some "u1") none], snap := some [M, A0] },
   { actor := "m", op := .load pa, res := some (.oid "u1a"), snap := some [M, A0], first := false },
   { actor := "m", op := .load pb, creations := [mk "u2a" "/c20/u2/a" (.str "u2") (some "u2") none], snap := some [M, A0, B0] },
   { actor := "m", op := .load pb, res := some (.oid "u2a"), snap := some [M, A0, B0], first := false }]

/-- u1a sets its euid with the master's approval -/
def setA : StepRec :=
  { actor := "u1a", op := .seteuidStr "u1", vs := some ("u1a", "u1", .int 1), res := some (.int 1), snap := some [M, A1, B0] }

def J (t : List StepRec) : List String := judgeEv { root := "Root", bb := some "Backbone" } t

/-! positive controls -/
example : J pre = [] := by decide
example : J (pre ++ [setA]) = [] := by decide
example : J (pre ++ [setA, { actor := "u1a", op := .exportUid "u2a", res := some (.int 1), snap := some [M, A1, ob "u2a" (some "u1") none] }]) = [] := by decide

/-! euid clause -/
-- another object's op changes u1a's euid
example : J (pre ++ [{ actor := "u2a", op := .seteuidInt 0, res := some (.int 1), snap := some [M, A1, B0] }]) ≠ [] := by decide
-- the master refused, the euid changed all the same
example : J (pre ++ [{ actor := "u1a", op := .seteuidStr "u1", vs := some ("u1a", "u1", .int 0), res := some (.int 0), snap := some [M, A1, B0] }]) ≠ [] := by decide
-- approved for "u1", but the euid became something else
example : J (pre ++ [{ actor := "u1a", op := .seteuidStr "u1", vs := some ("u1a", "u1", .int 1), res := some (.int 1), snap := some [M, ob "u1a" (some "u1") (some "Root"), B0] }]) ≠ [] := by decide
-- the master was not asked at all
example : J (pre ++ [{ actor := "u1a", op := .seteuidStr "u1", res := some (.int 1), snap := some [M, A1, B0] }]) ≠ [] := by decide
-- the master's apply raised an error (counts as refusal), the euid changed
example : J (pre ++ [{ actor := "u1a", op := .seteuidStr "u1", vs := some ("u1a", "u1", .err), res := some (.err .policy), snap := some [M, A1, B0] }]) ≠ [] := by decide
-- seteuid(5) is a bad argument, not a way to get an euid
example : J (pre ++ [{ actor := "u1a", op := .seteuidInt 5, res := some (.int 1), snap := some [M, A1, B0] }]) ≠ [] := by decide
-- an euid appears during somebody's load
example : J (pre ++ [{ actor := "m", op := .load pa, res := some (.oid "u1a"), snap := some [M, A1, B0] }]) ≠ [] := by decide

/-! uid clause -/
-- uid changes without export_uid
example : J (pre ++ [{ actor := "u1a", op := .seteuidInt 0, res := some (.int 1), snap := some [M, ob "u1a" (some "Root") none, B0] }]) ≠ [] := by decide
-- export by a caller whose euid is 0
example : J (pre ++ [{ actor := "u1a", op := .exportUid "u2a", res := some (.int 1), snap := some [M, A0, ob "u2a" (some "u1") none] }]) ≠ [] := by decide
-- export onto a target that has an euid
example : J (pre ++ [setA, { actor := "m", op := .exportUid "u1a", res := some (.int 1), snap := some [M, ob "u1a" (some "Root") (some "u1"), B0] }]) ≠ [] := by decide
-- the target gets a uid that is not the caller's euid
example : J (pre ++ [setA, { actor := "u1a", op := .exportUid "u2a", res := some (.int 1), snap := some [M, A1, ob "u2a" (some "Root") none] }]) ≠ [] := by decide
-- export_uid returned 0 and changed the uid all the same
example : J (pre ++ [setA, { actor := "u1a", op := .exportUid "u2a", res := some (.int 0), snap := some [M, A1, ob "u2a" (some "u1") none] }]) ≠ [] := by decide
-- export_uid changed a third object's uid
example : J (pre ++ [setA, { actor := "u1a", op := .exportUid "u2a", res := some (.int 1), snap := some [ob "m" (some "u1") (some "Root"), A1, B0] }]) ≠ [] := by decide

/-! creation clause -/
-- an object is created for a non-master actor whose euid is 0
example : J (pre ++ [{ actor := "u1a", op := .load ⟨"u1", "b"⟩, creations := [mk "u1b" "/c20/u1/b" (.str "u1") (some "u1") none], snap := some [M, A0, B0, ob "u1b" (some "u1") none] }]) ≠ [] := by decide
-- the uid is not what creator_file said
example : J (pre ++ [{ actor := "m", op := .load ⟨"u1", "b"⟩, creations := [mk "u1b" "/c20/u1/b" (.str "u1") (some "Root") none], snap := some [M, A0, B0, ob "u1b" (some "Root") none] }]) ≠ [] := by decide
-- the new object has an euid although the answer is not the backbone uid
example : J (pre ++ [{ actor := "m", op := .load ⟨"u1", "b"⟩, creations := [mk "u1b" "/c20/u1/b" (.str "u1") (some "u1") (some "u1")], snap := some [M, A0, B0, ob "u1b" (some "u1") (some "u1")] }]) ≠ [] := by decide
-- backbone answer: the euid must be the creator's, not somebody else's
example : J (pre ++ [setA, { actor := "u1a", op := .load ⟨"bb", "a"⟩, creations := [mk "bba" "/c20/bb/a" (.str "Backbone") (some "Root") (some "Root")], snap := some [M, A1, B0, ob "bba" (some "Root") (some "Root")] }]) ≠ [] := by decide
-- creator_file raised an error and the object was made all the same
example : J (pre ++ [{ actor := "m", op := .load ⟨"u1", "b"⟩, creations := [mk "u1b" "/c20/u1/b" .err (some "NONAME") none], snap := some [M, A0, B0, ob "u1b" (some "NONAME") none] }]) ≠ [] := by decide
-- an object is created by an op that creates nothing
example : J (pre ++ [{ actor := "m", op := .seteuidInt 0, creations := [mk "u1b" "/c20/u1/b" (.str "u1") (some "u1") none], res := some (.int 1), snap := some [ob "m" (some "Root") none, A0, B0, ob "u1b" (some "u1") none] }]) ≠ [] := by decide
-- an object announces itself without creator_file having been asked, with a uid of its choice
example : J (pre ++ [{ actor := "m", op := .load ⟨"u1", "b"⟩, creations := [{ name := "/c20/u1/b", ans := none, made := some (ob "u1b" (some "Root") none) }], res := some (.oid "u1b"), snap := some [M, A0, B0, ob "u1b" (some "Root") none] }]) ≠ [] := by decide
-- reload_object must keep the uid and clear the euid
example : J (pre ++ [setA, { actor := "m", op := .reload "u1a", creations := [{ name := "/c20/u1/a", ans := none, made := some A1 }], snap := some [M, A1, B0] }]) ≠ [] := by decide
-- the master is reloaded for an actor without euid
example : J (pre ++ [{ actor := "u1a", op := .dest "m", creations := [{ name := "/c20/master", ans := none, made := some M }], res := some (.int 1), snap := some [M, A0, B0] }]) ≠ [] := by decide

/-! noeuid clause -/
-- creator_file is consulted for an euid-0 actor (even if nothing is made)
example : J (pre ++ [{ actor := "u1a", op := .clone "c1" pb, creations := [{ name := "/c20/u2/a#1", ans := some (.str "u2"), made := none }], res := some (.err .policy), snap := some [M, A0, B0] }]) ≠ [] := by decide
-- compile_object is consulted for an euid-0 actor
example : J (pre ++ [{ actor := "u1a", op := .clone "c1" ⟨"u1", "v1"⟩, co := some ("/c20/u1/v1", .none), snap := some [M, A0, B0] }]) ≠ [] := by decide
example : J (pre ++ [{ actor := "u1a", op := .load ⟨"u1", "v1"⟩, co := some ("/c20/u1/v1", .tmpl pb), snap := some [M, A0, B0] }]) ≠ [] := by decide
-- the same calls are fine for the master, and for u1a once it has an euid (positive controls)
example : J (pre ++ [{ actor := "m", op := .load ⟨"u1", "v1"⟩, co := some ("/c20/u1/v1", .none), snap := some [M, A0, B0] }]) = [] := by decide
example : J (pre ++ [setA, { actor := "u1a", op := .load ⟨"u1", "v1"⟩, co := some ("/c20/u1/v1", .none), snap := some [M, A1, B0] }]) = [] := by decide

/-! export clause -/
-- result 1 for a caller with euid 0 (nothing else changes)
example : J (pre ++ [{ actor := "u1a", op := .exportUid "u2a", res := some (.int 1), snap := some [M, A0, B0] }]) ≠ [] := by decide
-- a caller with euid 0 must get the error, not 0
example : J (pre ++ [{ actor := "u1a", op := .exportUid "u2a", res := some (.int 0), snap := some [M, A0, B0] }]) ≠ [] := by decide
-- result 1 onto a target with an euid (uid unchanged because equal)
example : J (pre ++ [setA, { actor := "u1a", op := .exportUid "u1a", res := some (.int 1), snap := some [M, A1, B0] }]) ≠ [] := by decide

/-! asked clause -/
-- valid_seteuid was asked about another object
example : J (pre ++ [{ actor := "u1a", op := .seteuidStr "u1", vs := some ("u2a", "u1", .int 0), res := some (.int 0), snap := some [M, A0, B0] }]) ≠ [] := by decide
-- ... about another uid
example : J (pre ++ [{ actor := "u1a", op := .seteuidStr "u1", vs := some ("u1a", "zed", .int 0), res := some (.int 0), snap := some [M, A0, B0] }]) ≠ [] := by decide
-- ... not at all (and nothing changed)
example : J (pre ++ [{ actor := "u1a", op := .seteuidStr "u1", res := some (.int 0), snap := some [M, A0, B0] }]) ≠ [] := by decide

/-! known clause -/
-- an object nobody announced appears
example : J (pre ++ [{ actor := "m", op := .seteuidInt 5, res := some (.err .badArg), snap := some [M, A0, B0, ob "x" (some "Root") (some "Root")] }]) ≠ [] := by decide
-- an object without uid
example : J (pre ++ [{ actor := "m", op := .seteuidInt 5, res := some (.err .badArg), snap := some [M, ob "u1a" none none, B0] }]) ≠ [] := by decide
-- the snapshot disagrees with what the new object's create() saw
example : J (pre ++ [{ actor := "m", op := .load ⟨"u1", "b"⟩, creations := [mk "u1b" "/c20/u1/b" (.str "u1") (some "u1") none], snap := some [M, A0, B0, ob "u1b" (some "u1") (some "Root")] }]) ≠ [] := by decide
-- the announced object is missing from the snapshot
example : J (pre ++ [{ actor := "m", op := .load ⟨"u1", "b"⟩, creations := [mk "u1b" "/c20/u1/b" (.str "u1") (some "u1") none], snap := some [M, A0, B0] }]) ≠ [] := by decide
-- the same id twice in a snapshot
example : J (pre ++ [{ actor := "m", op := .seteuidInt 5, res := some (.err .badArg), snap := some [M, A0, B0, ob "u1a" (some "u1") (some "Root")] }]) ≠ [] := by decide
-- the driver crashed / printed no snapshot
example : J (pre ++ [{ actor := "m", op := .seteuidInt 0, crash := true }]) ≠ [] := by decide
example : J (pre ++ [{ actor := "m", op := .seteuidInt 5, res := some (.err .badArg) }]) ≠ [] := by decide

/-! bind clause -/
def bindOp : Op := .bind "u1a" (.load ⟨"u1", "b"⟩)
-- positive control: the master approved exactly this doer and new owner, the function may run
example : J (pre ++ [setA, { actor := "u2a", op := bindOp, vb := some ("u2a", "u1a", .int 1), bindTo := some "u1a", snap := some [M, A1, B0] }]) = [] := by decide
-- positive control: binding to oneself needs nobody
example : J (pre ++ [setA, { actor := "u1a", op := bindOp, bindTo := some "u1a", snap := some [M, A1, B0] }]) = [] := by decide
-- positive control: a refused bind() ends with the error in its first segment
example : J (pre ++ [setA, { actor := "u2a", op := bindOp, vb := some ("u2a", "u1a", .int 0), bindTo := some "u1a", res := some (.err .bindDenied), snap := some [M, A1, B0] }]) = [] := by decide
-- the function runs although the master was not asked
example : J (pre ++ [setA, { actor := "u2a", op := bindOp, bindTo := some "u1a", snap := some [M, A1, B0] }]) ≠ [] := by decide
-- ... although the master refused
example : J (pre ++ [setA, { actor := "u2a", op := bindOp, vb := some ("u2a", "u1a", .int 0), bindTo := some "u1a", snap := some [M, A1, B0] }]) ≠ [] := by decide
-- ... although the master's apply raised an error
example : J (pre ++ [setA, { actor := "u2a", op := bindOp, vb := some ("u2a", "u1a", .err), bindTo := some "u1a", snap := some [M, A1, B0] }]) ≠ [] := by decide
-- the master approved another new owner
example : J (pre ++ [setA, { actor := "u2a", op := bindOp, vb := some ("u2a", "m", .int 1), bindTo := some "u1a", snap := some [M, A1, B0] }]) ≠ [] := by decide
-- the master approved another doer
example : J (pre ++ [setA, { actor := "u2a", op := bindOp, vb := some ("u1a", "u1a", .int 1), bindTo := some "u1a", snap := some [M, A1, B0] }]) ≠ [] := by decide

/-! other configurations: the initial snapshot is part of the specification -/
def Jc (c : Cfg) (t : List StepRec) : List String := judgeEv c t
-- a master without get_root_uid() starts with "NONAME" / 0: a trace that shows it as root from the start is rejected
example : Jc { root := "Root", bb := none, noRoot := true } [{ actor := "m", op := .seteuidInt 5, res := some (.err .badArg), snap := some [M] }] ≠ [] := by decide
example : Jc { root := "Root", bb := none, noRoot := true } [{ actor := "m", op := .seteuidInt 5, res := some (.err .badArg), snap := some [ob "m" (some "NONAME") none] }] = [] := by decide
-- without a backbone uid a "Backbone" answer gives no euid
example : Jc { root := "Root", bb := none } [{ actor := "m", op := .load ⟨"bb", "a"⟩, creations := [mk "bba" "/c20/bb/a" (.str "Backbone") (some "Root") (some "Root")], snap := some [M, ob "bba" (some "Root") (some "Root")] }] ≠ [] := by decide
example : J [{ actor := "m", op := .load ⟨"bb", "a"⟩, creations := [mk "bba" "/c20/bb/a" (.str "Backbone") (some "Root") (some "Root")], snap := some [M, ob "bba" (some "Root") (some "Root")] }] = [] := by decide
-- the simul_efun object exists from the start (uid NONAME, euid 0) and gets no object created on its behalf
example : Jc { root := "Root", bb := some "Backbone", simul := true } [{ actor := "se", op := .load ⟨"u1", "a"⟩, creations := [mk "u1a" "/c20/u1/a" (.str "u1") (some "u1") none], snap := some [M, ob "se" (some "NONAME") none, A0] }] ≠ [] := by decide
-- a master reload that renames somebody else's uid (the class of the independently written change C20-4)
example : J (pre ++ [{ actor := "m", op := .dest "m", creations := [{ name := "/c20/master", ans := none, made := some (ob "m" (some "zed") (some "zed")) }], res := some (.int 1), snap := some [ob "m" (some "zed") (some "zed"), A0, B0] }]) = [] := by decide
example : J (pre ++ [{ actor := "m", op := .dest "m", creations := [{ name := "/c20/master", ans := none, made := some (ob "m" (some "zed") (some "zed")) }], res := some (.int 1), snap := some [ob "m" (some "zed") (some "zed"), ob "u1a" (some "zed") none, B0] }]) ≠ [] := by decide

/-! fp clause: geteuid(function) after a via / bind op is the euid of the function's (new) owner -/
-- positive: u1a has euid u1 (setA); the result that ends `u2a via,u1a,..` is s:u1
example : J (pre ++ [setA, { actor := "u2a", op := .via "u1a" (.seteuidInt 5), res := some (.oid "s:u1"), fpOwner := some "u1a", first := false, snap := some [M, A1, B0] }]) = [] := by decide
-- it reports the evaluator's euid (0) instead
example : J (pre ++ [setA, { actor := "u2a", op := .via "u1a" (.seteuidInt 5), res := some (.int 0), fpOwner := some "u1a", first := false, snap := some [M, A1, B0] }]) ≠ [] := by decide
-- it reports the owner's uid although the owner has no euid
example : J (pre ++ [{ actor := "u2a", op := .via "u1a" (.seteuidInt 5), res := some (.oid "s:u1"), fpOwner := some "u1a", first := false, snap := some [M, A0, B0] }]) ≠ [] := by decide

/-! vo clause: a blueprint master::valid_object refused is not created -/
-- positive: refusal ends the op with the error, nothing is announced
example : J (pre ++ [{ actor := "m", op := .load ⟨"u1", "b"⟩, vo := some ("/c20/u1/b", .int 0), res := some (.err .voDenied), snap := some [M, A0, B0] }]) = [] := by decide
-- positive: approval, the segment is closed and the load goes on
example : J (pre ++ [{ actor := "m", op := .load ⟨"u1", "b"⟩, vo := some ("/c20/u1/b", .int 1), snap := some [M, A0, B0] }]) = [] := by decide
-- refused, created all the same
example : J (pre ++ [{ actor := "m", op := .load ⟨"u1", "b"⟩, vo := some ("/c20/u1/b", .int 0), creations := [mk "u1b" "/c20/u1/b" (.str "u1") (some "u1") none], snap := some [M, A0, B0, ob "u1b" (some "u1") none] }]) ≠ [] := by decide
-- refused, but the op goes on as if nothing had happened
example : J (pre ++ [{ actor := "m", op := .load ⟨"u1", "b"⟩, vo := some ("/c20/u1/b", .none), snap := some [M, A0, B0] }]) ≠ [] := by decide
-- the apply raised an error and the op reports success
example : J (pre ++ [{ actor := "m", op := .load ⟨"u1", "b"⟩, vo := some ("/c20/u1/b", .err), res := some (.oid "u1b"), snap := some [M, A0, B0] }]) ≠ [] := by decide

end NV.C20.Negative
