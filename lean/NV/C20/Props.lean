/-
C20 — property theorems.  All statements quantify over EVERY mudlib configuration `cfg` (root uid or a master without
get_root_uid(), backbone uid or none, master with / without valid_bind(), simul_efun object as actor or not), EVERY master policy `pol` (arbitrary functions of the step number and the apply's arguments: approve, refuse,
odd values, runtime errors, switching at any time) and EVERY history `hist` of (actor, operation) pairs
(load / clone / seteuid(string|int) / export_uid / destruct / reload_object / function-pointer evaluation / bind() by the
master, the simul_efun object or any other object, existing or not), EVERY assignment of create() scripts to file names (`pol.script`: ops an object under construction
performs from inside its create(), nested to any depth), EVERY compile_object policy `pol.co` (virtual objects), EVERY
valid_bind policy `pol.vb`, EVERY choice of creator_file calls in which the master drops its own euid (`pol.cfDrop`), EVERY sequence
of get_root_uid() answers (`pol.root`) and EVERY fuel (nesting bound of the model).
`events cfg pol fuel hist` is the model's event trace (one record per segment between two uid snapshots); the clauses are those of the oracle
`judgeEv` (NV/C20/Spec.lean), which is also run on every trace of the real driver.
-/
import NV.C20.Exec
import NV.C20.Consequences

namespace NV.C20

theorem Chain.nocrash {bb : Option Name} : ∀ {s : List StepRec} {P Q : List Obj},
    Chain bb P s Q → s.any (·.crash) = false
  | [], _, _, _ => rfl
  | _ :: _, _, _, ⟨_, hr, hc⟩ => by simp [hr.nocrash, hc.nocrash]

/-- the segments of a whole history chain: every step is `exec` from a world with the invariant, and none crashes -/
theorem runFrom_chain (cfg : Cfg) (pol : Policy) (fuel : Nat) :
    ∀ (hist : List (Oid × Op)) (i : Nat) (w : World), Inv w →
      ∃ Q, Chain cfg.bb w.objs (runFrom cfg pol fuel i w hist) Q
  | [], _, _, _ => ⟨_, rfl⟩
  | (a, op) :: rest, i, w, hw => by
    obtain ⟨hinv, hchain, _⟩ := exec_good cfg pol i fuel false w a op hw
    obtain ⟨Q, hQ⟩ := runFrom_chain cfg pol fuel rest (i + 1) _ hinv
    simp only [runFrom, step, hchain.nocrash, Bool.false_eq_true, if_false]
    exact ⟨Q, hchain.append hQ⟩

theorem events_chain (cfg : Cfg) (pol : Policy) (fuel : Nat) (hist : List (Oid × Op)) :
    ∃ Q, Chain cfg.bb (World.init cfg).objs (events cfg pol fuel hist) Q :=
  runFrom_chain cfg pol fuel hist 0 (World.init cfg) (Inv_init cfg)

theorem judgeStep_nil {bb : Option Name} {P : List Obj} {w1 : World} {r : StepRec} (h : StepOK bb P w1 r) :
    judgeStep bb P r = [] := by
  simp [judgeStep, clauses, h.nocrash, h.known, h.euid, h.uid, h.creation, h.noeuid, h.exportc, h.asked, h.bind, h.fp, h.voc]

theorem Chain.judge {bb : Option Name} : ∀ {s : List StepRec} {P Q : List Obj}, Chain bb P s Q →
    ∀ i, judgeFrom bb P i s = []
  | [], _, _, _, _ => rfl
  | _ :: _, _, _, ⟨_, hr, hc⟩, i => by simp [judgeFrom, judgeStep_nil hr, hr.snap, hc.judge (i + 1)]

/-- **Top theorem.**  The specification oracle accepts the event trace of every history under every master policy:
    no clause of property C20 (euid, uid, creation, no-euid-no-creation, export preconditions, master asked, bind only
    with the master's valid_bind approval, geteuid(function) = the owner's euid, no blueprint the master's valid_object refused
    is created, every object known and with a uid, no crash) is ever violated by the model. -/
theorem model_satisfies_spec (cfg : Cfg) (pol : Policy) (fuel : Nat) (hist : List (Oid × Op)) :
    judgeEv cfg (events cfg pol fuel hist) = [] :=
  (events_chain cfg pol fuel hist).elim fun _ h => h.judge 0

/-- non-vacuity: a history on which objects are created, seteuid is approved and refused, export succeeds -/
example :
    let pol : Policy := { cf := fun _ n => if n = "/c20/bb/a" then .str "Backbone" else .str "u1",
                          vs := fun _ _ u => if u = "zed" then .int 0 else .int 1, script := fun _ _ => [], co := fun _ _ => .silent }
    let tr := events { root := "Root", bb := some "Backbone" } pol 3
      [("m", .load ⟨"u1", "a"⟩), ("u1a", .seteuidStr "zed"), ("u1a", .seteuidStr "u1"), ("u1a", .load ⟨"bb", "a"⟩),
       ("m", .load ⟨"u1", "b"⟩), ("u1a", .exportUid "u1b"), ("u1b", .clone "c1" ⟨"u1", "a"⟩)]
    (tr.filterMap (·.res)) =
      [.oid "u1a", .int 0, .int 1, .oid "bba", .oid "u1b", .int 1, .err .noEuidClone] := by decide +kernel

/-- non-vacuity with nested creation: `u1a` (euid u1) loads `/c20/u2/a`, which gets uid u2 / euid 0 and whose
    create() tries to load `/c20/u2/b` and to clone: both are refused inside the still running outer load; after
    its own approved seteuid the nested load succeeds -/
example :
    let pol : Policy := { cf := fun _ n => if n = "/c20/u1/a" then .str "u1" else .str "u2", vs := fun _ _ _ => .int 1,
                          script := fun _ k => if k = "/c20/u2/a" then
                            [.load ⟨"u2", "b"⟩, .clone "c1" ⟨"u2", "b"⟩, .seteuidStr "u2", .load ⟨"u2", "b"⟩] else [],
                          co := fun _ _ => .silent }
    let tr := events { root := "Root", bb := some "Backbone" } pol 3
      [("m", .load ⟨"u1", "a"⟩), ("u1a", .seteuidStr "u1"), ("u1a", .load ⟨"u2", "a"⟩)]
    (tr.map (fun r => (r.actor, r.res))) =
      [("m", none), ("m", some (.oid "u1a")), ("u1a", some (.int 1)), ("u1a", none),
       ("u2a", some (.err .noEuidLoad)), ("u2a", some (.err .noEuidClone)), ("u2a", some (.int 1)),
       ("u2a", none), ("u2a", some (.oid "u2b")), ("u1a", some (.oid "u2a"))] := by decide +kernel

/-- non-vacuity with a virtual object: the master's compile_object clones a template for `/c20/u1/v1`; an object
    with euid 0 may find the loaded virtual object but its clone_object of it is refused before compile_object is
    asked again; with an euid the clone is handed out as `v2` -/
example :
    let pol : Policy := { cf := fun _ _ => .str "u1", vs := fun _ _ _ => .int 1, script := fun _ _ => [],
                          co := fun _ n => if n = "/c20/u1/v1" then .tmpl ⟨"u2", "a"⟩ else .silent }
    let tr := events { root := "Root", bb := some "Backbone" } pol 3
      [("m", .load ⟨"u1", "v1"⟩), ("m", .load ⟨"u1", "a"⟩), ("u1a", .load ⟨"u1", "v1"⟩),
       ("u1a", .clone "c1" ⟨"u1", "v1"⟩), ("u1a", .seteuidStr "u1"), ("u1a", .clone "c1" ⟨"u1", "v1"⟩)]
    (tr.filterMap (fun r => r.res.map (fun x => (r.actor, x)))) =
      [("m", .oid "v1"), ("m", .oid "v1"), ("m", .oid "u1a"), ("u1a", .oid "v1"), ("u1a", .err .noEuidClone),
       ("u1a", .int 1), ("m", .oid "v2"), ("u1a", .oid "v2")] ∧
    (tr.filter (fun r => r.co.isSome)).map (·.actor) = ["m", "u1a"] := by decide +kernel

/-- clause `c` holds at every step of a trace, each step judged against the snapshot before it -/
def holdsAlong (c : List Obj → StepRec → Bool) : List Obj → List StepRec → Prop
  | _, [] => True
  | P, r :: rs => c P r = true ∧ holdsAlong c (r.snap.getD P) rs

theorem Chain.holdsAlong {bb : Option Name} (c : List Obj → StepRec → Bool)
    (hc : ∀ P w1 r, StepOK bb P w1 r → c P r = true) :
    ∀ {s : List StepRec} {P Q : List Obj}, Chain bb P s Q → holdsAlong c P s
  | [], _, _, _ => trivial
  | _ :: _, _, _, ⟨w1, hr, h⟩ => ⟨hc _ w1 _ hr, hr.snap ▸ Chain.holdsAlong c hc h⟩

/-- the snapshot the first step is judged against (`initObjs`): the master with uid = euid = get_root_uid() (set_master;
    "NONAME" / 0 for a master without get_root_uid()) and, in configuration `simul`, the simul_efun object "NONAME" / 0 -/
abbrev snap0 (cfg : Cfg) : List Obj := (World.init cfg).objs

/-- An object's euid differs from the snapshot before the step only if the object was (re)created in this step
    (creation clause) or the step is ITS OWN seteuid: `seteuid(0)` giving 0, or `seteuid(s)` for which the master's
    valid_seteuid was asked about exactly this object and `s`, approved, giving `s`. -/
theorem euid_changes_only_by_own_approved_seteuid (cfg : Cfg) (pol : Policy) (fuel : Nat) (hist : List (Oid × Op)) :
    holdsAlong euidClause (snap0 cfg) (events cfg pol fuel hist) :=
  (events_chain cfg pol fuel hist).elim fun _ => Chain.holdsAlong _ fun _ _ _ h => h.euid

/-- An object's uid differs from the snapshot before the step only if it was (re)created in this step or the step is
    an export_uid onto it that returned 1, by an actor whose euid was not 0, while the object's own euid was 0; the
    new uid is that actor's euid. -/
theorem uid_changes_only_at_creation_or_export (cfg : Cfg) (pol : Policy) (fuel : Nat) (hist : List (Oid × Op)) :
    holdsAlong uidClause (snap0 cfg) (events cfg pol fuel hist) :=
  (events_chain cfg pol fuel hist).elim fun _ => Chain.holdsAlong _ fun _ _ _ h => h.uid

/-- Every object announced by a create() was made by a load/clone of an actor that is the master or has an euid,
    after creator_file answered without error, with uid = the answer ("NONAME" for a non-string) and euid 0 - or,
    answer = backbone uid and creator with an euid, uid = euid = the creator's euid.  Without a creator_file call
    only reload_object (uid kept, euid 0) and the late initialisation of an object whose creation the master's
    error aborted (uid "NONAME", euid 0) announce an object. -/
theorem creation_only_as_master_decides (cfg : Cfg) (pol : Policy) (fuel : Nat) (hist : List (Oid × Op)) :
    holdsAlong (creationClause cfg.bb) (snap0 cfg) (events cfg pol fuel hist) :=
  (events_chain cfg pol fuel hist).elim fun _ => Chain.holdsAlong _ fun _ _ _ h => h.creation

/-- An actor other than the master whose euid is 0 causes no creator_file call (no object is created on its
    behalf) and its clone_object never returns an object. -/
theorem no_euid_no_creation (cfg : Cfg) (pol : Policy) (fuel : Nat) (hist : List (Oid × Op)) :
    holdsAlong noEuidClause (snap0 cfg) (events cfg pol fuel hist) :=
  (events_chain cfg pol fuel hist).elim fun _ => Chain.holdsAlong _ fun _ _ _ h => h.noeuid

/-- export_uid returns 1 only from a caller with euid ≠ 0 onto a target with euid 0; a caller with euid 0 gets the
    error "Illegal to export uid 0". -/
theorem export_preconditions (cfg : Cfg) (pol : Policy) (fuel : Nat) (hist : List (Oid × Op)) :
    holdsAlong exportClause (snap0 cfg) (events cfg pol fuel hist) :=
  (events_chain cfg pol fuel hist).elim fun _ => Chain.holdsAlong _ fun _ _ _ h => h.exportc

/-- every seteuid(string) of an existing object asks the master, about exactly that object and string -/
theorem seteuid_always_asks_master (cfg : Cfg) (pol : Policy) (fuel : Nat) (hist : List (Oid × Op)) :
    holdsAlong askedClause (snap0 cfg) (events cfg pol fuel hist) :=
  (events_chain cfg pol fuel hist).elim fun _ => Chain.holdsAlong _ fun _ _ _ h => h.asked

theorem Chain.mem {bb : Option Name} : ∀ {s : List StepRec} {P Q : List Obj}, Chain bb P s Q →
    ∀ r ∈ s, ∃ P' w1, StepOK bb P' w1 r
  | [], _, _, _, _, hm => nomatch hm
  | _ :: _, P, _, ⟨w1, hr, h⟩, r, hm => by
    rcases List.mem_cons.mp hm with rfl | hm
    · exact ⟨P, w1, hr⟩
    · exact h.mem r hm

/-- The model never reaches the crash outcome (NULL uid dereferenced by getuid) - with the two `fix:` commits;
    before them both witnesses of notes/C20.md crashed the real driver. -/
theorem no_crash (cfg : Cfg) (pol : Policy) (fuel : Nat) (hist : List (Oid × Op)) :
    ∀ r ∈ events cfg pol fuel hist, r.crash = false := by
  intro r hr
  obtain ⟨_, hc⟩ := events_chain cfg pol fuel hist
  obtain ⟨_, _, h⟩ := hc.mem r hr
  exact h.nocrash

/-- "An object must have a uid": every object in every snapshot has a non-NULL uid -/
theorem every_object_has_uid (cfg : Cfg) (pol : Policy) (fuel : Nat) (hist : List (Oid × Op)) :
    ∀ r ∈ events cfg pol fuel hist, ∀ S, r.snap = some S → ∀ e ∈ S, e.uid ≠ none := by
  intro r hr S hs e he
  obtain ⟨_, hc⟩ := events_chain cfg pol fuel hist
  obtain ⟨_, w1, h⟩ := hc.mem r hr
  cases hs.symm.trans h.snap
  exact h.inv.uid e he

/-- non-vacuity of `no_crash` / `every_object_has_uid`: the history that crashed the unrepaired driver (master
    drops its euid, then loads an object whose creator_file answer is the backbone uid) now yields uid "Backbone" -/
example :
    let pol : Policy := { cf := fun _ _ => .str "Backbone", vs := fun _ _ _ => .int 1, script := fun _ _ => [], co := fun _ _ => .silent }
    ((events { root := "Root", bb := some "Backbone" } pol 1 [("m", .seteuidInt 0), ("m", .load ⟨"bb", "a"⟩)]).map
        (fun r => r.snap.map (fun S => S.map (fun o => (o.oid, o.uid, o.euid))))).getLast? =
      some (some [("bba", some "Backbone", none), ("m", some "Root", none)]) := by decide +kernel

/-- non-vacuity, bind(): `u2a` (euid 0) binds a load to `u1a` (euid u1): refused while valid_bind says 0, the
    load then runs as `u1a` and creates; bound to itself nobody is asked and the euid test refuses -/
example :
    let pol : Policy := { cf := fun _ _ => .str "u1", vs := fun _ _ _ => .int 1, script := fun _ _ => [], co := fun _ _ => .silent,
                          vb := fun i _ _ => if i = 3 then .int 0 else .int 1 }
    let tr := events { root := "Root", bb := some "Backbone" } pol 3
      [("m", .load ⟨"u1", "a"⟩), ("m", .load ⟨"u2", "a"⟩), ("u1a", .seteuidStr "u1"),
       ("u2a", .bind "u1a" (.load ⟨"u1", "b"⟩)), ("u2a", .bind "u1a" (.load ⟨"u1", "b"⟩)), ("u2a", .bind "u2a" (.load ⟨"u1", "c"⟩))]
    (tr.filterMap (fun r => r.res.map (fun x => (r.actor, x)))) =
      [("m", .oid "u1a"), ("m", .oid "u2a"), ("u1a", .int 1), ("u2a", .err .bindDenied),
       ("u1a", .oid "u1b"), ("u2a", .oid "s:u1"), ("u2a", .err .noEuidLoad), ("u2a", .int 0)] ∧
    (tr.filterMap (·.vb)).map (·.2.2) = [.int 0, .int 1] := by decide +kernel

def polDropRoot : Policy :=
  { cf := fun _ _ => .str "Backbone", vs := fun _ _ _ => .int 1, script := fun _ _ => [], co := fun _ _ => .silent,
    cfDrop := fun i _ => decide (i = 0), root := fun i => if i = 1 then some "zed" else none }

/-- uid / euid of everybody after each segment -/
def uidsAlong (tr : List StepRec) : List (Oid × List (Oid × Option Name × Option Name)) :=
  tr.map (fun r => (r.actor, (r.snap.getD []).map (fun o => (o.oid, o.uid, o.euid))))

/-- non-vacuity, re-entrancy and master reload: creator_file makes the master drop its euid before it answers
    "Backbone" - the new object gets uid "Backbone" and NO euid (not the dropped "Root"); a master reloaded after
    get_root_uid() changed to "zed" is zed / zed while the object created before keeps its names -/
example :
    uidsAlong (events { root := "Root", bb := some "Backbone" } polDropRoot 2 [("m", .load ⟨"bb", "a"⟩), ("m", .dest "m")]) =
      [("m", [("m", some "Root", some "Root")]),
       ("m", [("m", some "Root", none)]),
       ("m", [("bba", some "Backbone", none), ("m", some "Root", none)]),
       ("m", [("bba", some "Backbone", none), ("m", some "Root", none)]),
       ("m", [("m", some "zed", some "zed"), ("bba", some "Backbone", none)])] := by decide +kernel

/-- **No effective uid out of nothing (model).**  Every euid name in every snapshot of every history is the root uid of the
    first master or a name the master granted on the way: approved in a valid_seteuid call, or given to a reloaded master
    (`euid_names_granted_from_start` holds for EVERY trace the oracle accepts, hence also for the real driver's traces that the
    check judged `ok`; here it is instantiated with the model's) -/
theorem model_euid_names_granted (cfg : Cfg) (pol : Policy) (fuel : Nat) (hist : List (Oid × Op)) :
    ∀ r ∈ events cfg pol fuel hist, ∀ S, r.snap = some S →
      euidsIn ((if cfg.noRoot then [] else [cfg.root]) ++ (events cfg pol fuel hist).flatMap grantedBy) S :=
  euid_names_granted_from_start cfg _ (model_satisfies_spec cfg pol fuel hist)

/-- **Every uid is a name the master decided on (model).**  Every uid name in every snapshot of every history is the first
    master's uid, "NONAME", a creator_file answer given in the history, or a name the master granted as an euid -/
theorem model_uid_names_decided (cfg : Cfg) (pol : Policy) (fuel : Nat) (hist : List (Oid × Op)) :
    ∀ r ∈ events cfg pol fuel hist, ∀ S, r.snap = some S →
      uidsIn ((initObjs cfg).filterMap (·.uid) ++ (initObjs cfg).filterMap (·.euid) ++
        "NONAME" :: (events cfg pol fuel hist).flatMap (fun r => namedBy r ++ grantedBy r)) S :=
  uid_names_decided _ (initObjs cfg) 0 _ _ (model_satisfies_spec cfg pol fuel hist) (uidsIn_own _) (euidsIn_own _)

end NV.C20
