/-
C20 — the registry of live objects (an association list keyed by `oid`) and the invariant of the model's world:
keys are distinct and every registered object has a uid.
-/
import NV.C20.Model

namespace NV.C20

theorem mem_delO {l : List Obj} {k : Oid} {e : Obj} : e ∈ delO l k ↔ e ∈ l ∧ e.oid ≠ k := by
  induction l with
  | nil => simp [delO]
  | cons o l ih => by_cases h : o.oid = k <;> simp only [delO, h, if_true, if_false, ih, List.mem_cons] <;> grind

theorem getO_delO (l : List Obj) (k k' : Oid) : getO (delO l k) k' = if k' = k then none else getO l k' := by
  induction l with
  | nil => simp [delO, getO]
  | cons o l ih =>
    by_cases h : o.oid = k
    · by_cases h2 : k' = k
      · simpa [delO, h, h2] using ih
      · simp [delO, getO, h, ih, h2, Ne.symm h2]
    · by_cases h3 : o.oid = k'
      · simp [delO, getO, h3, show ¬ k' = k from fun x => h (h3.trans x)]
      · simp [delO, getO, h, ih, h3]

theorem getO_setO (l : List Obj) (o : Obj) (k : Oid) :
    getO (setO l o) k = if o.oid = k then some o else getO l k := by
  by_cases h : o.oid = k
  · simp [setO, getO, h]
  · simp [setO, getO, h, getO_delO, Ne.symm h]

theorem mem_setO {l : List Obj} {o e : Obj} : e ∈ setO l o ↔ e = o ∨ (e ∈ l ∧ e.oid ≠ o.oid) := by
  simp [setO, mem_delO]

theorem getO_some {l : List Obj} {k : Oid} {e : Obj} (h : getO l k = some e) : e ∈ l ∧ e.oid = k := by
  induction l with
  | nil => simp [getO] at h
  | cons o l ih =>
    by_cases h1 : o.oid = k
    · simp only [getO, h1, if_true, Option.some.injEq] at h
      exact h ▸ ⟨List.mem_cons_self, h1⟩
    · simp only [getO, h1, if_false] at h
      exact ⟨List.mem_cons_of_mem _ (ih h).1, (ih h).2⟩

/-- keys are distinct: every member is what a lookup of its key finds -/
def WF (l : List Obj) : Prop := ∀ e ∈ l, getO l e.oid = some e

theorem WF_delO {l : List Obj} (h : WF l) (k : Oid) : WF (delO l k) := by
  intro e he
  rw [mem_delO] at he
  rw [getO_delO, if_neg he.2, h e he.1]

theorem WF_setO {l : List Obj} (h : WF l) (o : Obj) : WF (setO l o) := by
  intro e he
  rw [getO_setO]
  rcases mem_setO.mp he with rfl | ⟨he, hne⟩
  · rw [if_pos rfl]
  · rw [if_neg (Ne.symm hne), h e he]

/-- every object registered in `P` is still registered in `Q` -/
def Keeps (P Q : List Obj) : Prop := ∀ x, getO P x ≠ none → getO Q x ≠ none

theorem Keeps.refl (P : List Obj) : Keeps P P := fun _ h => h

theorem Keeps.trans {P Q R : List Obj} (h1 : Keeps P Q) (h2 : Keeps Q R) : Keeps P R := fun x h => h2 x (h1 x h)

theorem Keeps.setO (P : List Obj) (o : Obj) : Keeps P (setO P o) := by
  intro x hx
  rw [getO_setO]
  split
  · exact Option.some_ne_none o
  · exact hx

structure Inv (w : World) : Prop where
  wf : WF w.objs
  uid : ∀ e ∈ w.objs, e.uid ≠ none

theorem Inv_init (cfg : Cfg) : Inv (World.init cfg) := by
  cases hs : cfg.simul <;> constructor <;>
    simp [WF, World.init, initObjs, hs, getO, masterOid, simulOid]

theorem Inv_setO {w : World} (h : Inv w) (o : Obj) (ho : o.uid ≠ none) (w1 : World) (hw1 : w1.objs = setO w.objs o) :
    Inv w1 := by
  constructor
  · rw [hw1]; exact WF_setO h.wf o
  · intro e he
    rw [hw1] at he
    rcases mem_setO.mp he with rfl | ⟨he, _⟩
    · exact ho
    · exact h.uid e he

theorem Inv_same {w : World} (h : Inv w) (w1 : World) (hw1 : w1.objs = w.objs) : Inv w1 :=
  ⟨hw1 ▸ h.wf, hw1 ▸ h.uid⟩

end NV.C20
