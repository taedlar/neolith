/-
C20 — one segment at a time.  `StepOK` is what a segment has to establish (invariant kept, no crash, every oracle clause
against the snapshot before it); `Chain` strings segments together, `Good` adds that nothing registered disappears.
A segment of the model does one of four things to the registry, and there is one lemma for each: nothing (`Good.same`,
`Good.same_quiet`), one object changed in place by its own op (`Good.change`), one object announced by a create()
(`Good.made`), one removed (`Fine.removed`, destruct only: `Fine`).  Then the operations of the model, each the segment it is.

The model's functions are taken apart with `fun_cases` (one goal per branch of the definition, the call replaced by what
the branch returns); the shape lemmas take the record `r` explicitly, written `_` where they are used (it is read off the
goal), and their closing arguments default to `rfl`, which is all a record made by `seg` needs.
-/
import NV.C20.Registry
import NV.C20.Spec

namespace NV.C20

structure StepOK (bb : Option Name) (P : List Obj) (w1 : World) (r : StepRec) : Prop where
  inv : Inv w1
  snap : r.snap = some w1.objs
  nocrash : r.crash = false
  known : knownClause P r = true
  euid : euidClause P r = true
  uid : uidClause P r = true
  creation : creationClause bb P r = true
  noeuid : noEuidClause P r = true
  exportc : exportClause P r = true
  asked : askedClause P r = true
  bind : bindClause r = true
  fp : fpClause r = true
  voc : voClause r = true

theorem crashes_false {cs : List Creation} {S : List Obj} (hS : ∀ e ∈ S, e.uid ≠ none)
    (M : ∀ c ∈ cs, ∀ m, c.made = some m → getO S m.oid = some m) : crashes cs S = false := by
  have hu : ∀ e ∈ S, e.uid.isNone = false := fun e he =>
    Option.isNone_eq_false_iff.mpr (Option.isSome_iff_ne_none.mpr (hS e he))
  simp only [crashes, Bool.or_eq_false_iff, List.any_eq_false, Bool.not_eq_true]
  refine ⟨fun c hc => ?_, hu⟩
  cases hm : c.made with
  | none => rfl
  | some m => exact hu m (getO_some (M c hc m hm)).1

/-- The general form: every object of the new snapshot is as before, or announced in this segment, or changed in a way its
    clause allows; every announced object is in the snapshot as announced.  The three snapshot clauses follow. -/
theorem StepOK.of_each_obj {bb : Option Name} {P : List Obj} {w1 : World} {r : StepRec} (hinv : Inv w1)
    (hs : r.snap = some w1.objs) (hc : r.crash = crashes r.creations w1.objs)
    (H : ∀ e ∈ w1.objs, getO P e.oid = some e ∨ isMade r e.oid = true ∨
      ∃ p, getO P e.oid = some p ∧ (e.euid = p.euid ∨ euidChangeOk r e = true) ∧
        (e.uid = p.uid ∨ uidChangeOk P r p e = true))
    (M : ∀ c ∈ r.creations, ∀ m, c.made = some m → getO w1.objs m.oid = some m)
    (hcre : creationClause bb P r = true) (hno : noEuidClause P r = true) (hex : exportClause P r = true)
    (hask : askedClause P r = true) (hb : bindClause r = true) (hf : fpClause r = true) (hv : voClause r = true) :
    StepOK bb P w1 r := by
  have hc : r.crash = false := hc.trans (crashes_false hinv.uid M)
  refine ⟨hinv, hs, hc, ?_, ?_, ?_, hcre, hno, hex, hask, hb, hf, hv⟩
  · simp only [knownClause, hc, hs, Bool.not_false, Bool.true_and, Bool.and_eq_true, List.all_eq_true]
    refine ⟨fun e he => ?_, fun c hc' => ?_⟩
    · have hu : e.uid.isSome = true := Option.isSome_iff_ne_none.mpr (hinv.uid e he)
      rcases H e he with h | h | ⟨p, h, _⟩ <;> simp [hu, h, hinv.wf e he]
    · cases hm : c.made with
      | none => rfl
      | some m => simp [M c hc' m hm]
  · simp only [euidClause, hs, List.all_eq_true]
    intro e he
    rcases H e he with h | h | ⟨p, h, h2, _⟩
    · simp [h]
    · cases getO P e.oid <;> simp [h]
    · rcases h2 with h2 | h2 <;> simp [h, h2]
  · simp only [uidClause, hs, List.all_eq_true]
    intro e he
    rcases H e he with h | h | ⟨p, h, _, h3⟩
    · simp [h]
    · cases getO P e.oid <;> simp [h]
    · rcases h3 with h3 | h3 <;> simp [h, h3]

/-! ### clauses that most segments satisfy for a trivial reason -/

def Op.skippedByExportAsked : Op → Bool
  | .exportUid _ => false
  | .seteuidStr _ => false
  | _ => true

theorem skippedByExportAsked_of_creating {op : Op} (h : isCreatingOp op = true) : op.skippedByExportAsked = true := by
  cases op <;> first | rfl | cases h

theorem exportClause_of_skipped {P : List Obj} {r : StepRec} (h : r.op.skippedByExportAsked = true) : exportClause P r = true := by
  unfold exportClause
  split
  · next heq => rw [heq] at h; cases h
  · rfl

theorem askedClause_of_skipped {P : List Obj} {r : StepRec} (h : r.op.skippedByExportAsked = true) : askedClause P r = true := by
  unfold askedClause
  split
  · next heq _ => rw [heq] at h; cases h
  · rfl

/-- the actor passed the euid test of load_object / clone_object -/
def Passed (P : List Obj) (a : Oid) : Prop := ∃ A, getO P a = some A ∧ ¬ (a ≠ masterOid ∧ A.euid = none)

theorem Passed.of_actor {w : World} {a : Oid} {A : Obj} (hA : getO w.objs a = some A)
    (hg : ¬ (A.oid ≠ masterOid ∧ A.euid = none)) : Passed w.objs a :=
  ⟨A, hA, (getO_some hA).2 ▸ hg⟩

/-- the test as the creation clause writes it -/
theorem passed_bool {a : Oid} {A : Obj} (hg : ¬ (a ≠ masterOid ∧ A.euid = none)) :
    (decide (a = masterOid) || A.euid.isSome) = true := by
  cases h : A.euid <;> simp_all

theorem noEuid_of_passed {P : List Obj} {r : StepRec} (h : Passed P r.actor) : noEuidClause P r = true := by
  obtain ⟨A, hA, hg⟩ := h
  simp only [noEuidClause, hA, if_neg hg]

/-- nobody was asked on the actor's behalf -/
theorem noEuid_of_none {P : List Obj} {r : StepRec} (h : r.creations.all (fun c => c.ans.isNone) = true)
    (hco : r.co = none) : noEuidClause P r = true := by
  unfold noEuidClause
  split
  · rfl
  · split <;> simp [h, hco]

def Chain (bb : Option Name) : List Obj → List StepRec → List Obj → Prop
  | P, [], Q => P = Q
  | P, r :: rs, Q => ∃ w1, StepOK bb P w1 r ∧ Chain bb w1.objs rs Q

theorem Chain.append {bb : Option Name} : ∀ {s1 : List StepRec} {P Q R : List Obj} {s2 : List StepRec},
    Chain bb P s1 Q → Chain bb Q s2 R → Chain bb P (s1 ++ s2) R := by
  intro s1
  induction s1 with
  | nil => intro P Q R s2 h1 h2; cases h1; exact h2
  | cons r rs ih => intro P Q R s2 ⟨w1, hr, hc⟩ h2; exact ⟨w1, hr, ih hc h2⟩

theorem Chain.single {bb : Option Name} {P : List Obj} {w1 : World} {r : StepRec} (h : StepOK bb P w1 r) :
    Chain bb P [r] w1.objs := ⟨w1, h, rfl⟩

/-- What every piece of the model's output is shown to be: from a world with the invariant it leads to a world with the
    invariant, its segments chain from the one registry to the other, and nothing registered disappears on the way. -/
structure Good (bb : Option Name) (w : World) (x : World × List StepRec) : Prop where
  inv : Inv x.1
  chain : Chain bb w.objs x.2 x.1.objs
  keeps : Keeps w.objs x.1.objs

/-- `Good` without the promise that nothing disappears: all a destruct can offer -/
structure Fine (bb : Option Name) (w : World) (x : World × List StepRec) : Prop where
  inv : Inv x.1
  chain : Chain bb w.objs x.2 x.1.objs

theorem Good.fine {bb : Option Name} {w : World} {x : World × List StepRec} (h : Good bb w x) : Fine bb w x :=
  ⟨h.inv, h.chain⟩

theorem Good.nil {bb : Option Name} {w : World} (hw : Inv w) : Good bb w (w, []) := ⟨hw, rfl, Keeps.refl _⟩

theorem Good.append {bb : Option Name} {w : World} {x y : World × List StepRec} (hx : Good bb w x) (hy : Good bb x.1 y) :
    Good bb w (y.1, x.2 ++ y.2) :=
  ⟨hy.inv, hx.chain.append hy.chain, hx.keeps.trans hy.keeps⟩

theorem Good.cons {bb : Option Name} {w w1 : World} {r : StepRec} {x : World × List StepRec} (h : Good bb w (w1, [r]))
    (hx : Good bb w1 x) : Good bb w (x.1, r :: x.2) :=
  h.append hx

theorem Good.of_objs_eq {bb : Option Name} {w : World} {x : World × List StepRec} (h : Good bb w x) {w' : World}
    (hobjs : w'.objs = x.1.objs := by rfl) : Good bb w (w', x.2) :=
  ⟨Inv_same h.inv w' hobjs, hobjs ▸ h.chain, hobjs ▸ h.keeps⟩

/-- `r` is closed by the uid snapshot of `w1`, and what the bind / fp / vo clauses look at is in order: for a record made by
    `seg` and not decorated afterwards all five hold by `rfl` -/
structure Closes (w1 : World) (r : StepRec) : Prop where
  snap : r.snap = some w1.objs := by rfl
  crash : r.crash = crashes r.creations w1.objs := by rfl
  bind : bindClause r = true := by rfl
  fp : fpClause r = true := by rfl
  vo : voClause r = true := by rfl

/-- a segment that leaves the registry as it is and announces nothing -/
theorem Good.same {bb : Option Name} {w w1 : World} (hw : Inv w) (r : StepRec)
    (hno : noEuidClause w.objs r = true) (hex : exportClause w.objs r = true) (hask : askedClause w.objs r = true)
    (hcs : ∀ c ∈ r.creations, c.made = none := by simp [seg]) (hr : Closes w1 r := by exact {})
    (hobjs : w1.objs = w.objs := by rfl) : Good bb w (w1, [r]) := by
  have h : StepOK bb w.objs w1 r := by
    refine StepOK.of_each_obj (Inv_same hw w1 hobjs) hr.snap hr.crash (fun e he => Or.inl (hw.wf e (hobjs ▸ he)))
      (fun c hc m hm => ?_) ?_ hno hex hask hr.bind hr.fp hr.vo
    · rw [hcs c hc] at hm; cases hm
    · simp only [creationClause, List.all_eq_true]
      intro c hc
      simp [madeOk, hcs c hc]
  exact ⟨h.inv, Chain.single h, hobjs ▸ Keeps.refl _⟩

/-- `Good.same` with its clause hypotheses discharged: no creations, an op the export and asked clauses skip (`hop`: by `rfl`
    when the op is a constructor), and compile_object not asked or the actor past the euid test -/
theorem Good.same_quiet {bb : Option Name} {w w1 : World} (hw : Inv w) (r : StepRec)
    (hno : r.co = none ∨ Passed w.objs r.actor := by exact Or.inl rfl)
    (hcs : r.creations = [] := by rfl) (hop : r.op.skippedByExportAsked = true := by rfl) (hr : Closes w1 r := by exact {})
    (hobjs : w1.objs = w.objs := by rfl) : Good bb w (w1, [r]) :=
  Good.same hw r (hno.elim (noEuid_of_none (by simp [hcs])) noEuid_of_passed) (exportClause_of_skipped hop)
    (askedClause_of_skipped hop) (by simp [hcs]) hr hobjs

/-- a refused op (`nobj`) of an existing or missing actor -/
theorem nobj_seg_ok {bb : Option Name} {w : World} (hw : Inv w) (a : Oid) (op : Op)
    (hop : ∀ t, op ≠ .exportUid t) (hop2 : ∀ s, op ≠ .seteuidStr s) :
    StepOK bb w.objs w (seg w a op none [] (some .nobj) true) := by
  have hp : op.skippedByExportAsked = true := by
    cases op <;> first | rfl | exact absurd rfl (hop _) | exact absurd rfl (hop2 _)
  obtain ⟨w1, h, he⟩ := (Good.same_quiet (bb := bb) hw (seg w a op none [] (some .nobj) true) (hop := hp)).chain
  exact { h with inv := hw, snap := (show w1.objs = w.objs from he) ▸ h.snap }

/-- a segment in which an object's own op changed it in place, in a way the euid and uid clauses allow -/
theorem Good.change {bb : Option Name} {w w1 : World} (hw : Inv w) {o p : Obj} (hp : getO w.objs o.oid = some p)
    (ho : o.uid ≠ none) (r : StepRec)
    (heu : o.euid = p.euid ∨ euidChangeOk r o = true) (hu : o.uid = p.uid ∨ uidChangeOk w.objs r p o = true)
    (hex : exportClause w.objs r = true) (hask : askedClause w.objs r = true)
    (hcs : r.creations = [] := by rfl) (hco : r.co = none := by rfl) (hr : Closes w1 r := by exact {})
    (hobjs : w1.objs = setO w.objs o := by rfl) : Good bb w (w1, [r]) := by
  have hinv : Inv w1 := Inv_setO hw o ho w1 hobjs
  have h : StepOK bb w.objs w1 r := by
    refine StepOK.of_each_obj hinv hr.snap hr.crash (fun e he => ?_) (by simp [hcs]) (by simp [creationClause, hcs])
      (noEuid_of_none (by simp [hcs]) hco) hex hask hr.bind hr.fp hr.vo
    rcases mem_setO.mp (hobjs ▸ he) with rfl | ⟨he, _⟩
    · exact Or.inr (Or.inr ⟨p, hp, heu, hu⟩)
    · exact Or.inl (hw.wf e he)
  exact ⟨hinv, Chain.single h, hobjs ▸ Keeps.setO _ _⟩

/-- a segment in which one object was announced by a create() (made, re-created, or initialised late) -/
theorem Good.made {bb : Option Name} {w w1 : World} (hw : Inv w) {o : Obj} {c : Creation} (hm : c.made = some o)
    (ho : o.uid ≠ none) (r : StepRec) (hcs : r.creations = [c])
    (hcre : madeOk bb w.objs r c = true) (hno : noEuidClause w.objs r = true)
    (hop : r.op.skippedByExportAsked = true := by rfl) (hr : Closes w1 r := by exact {})
    (hobjs : w1.objs = setO w.objs o := by rfl) : Good bb w (w1, [r]) := by
  have hinv : Inv w1 := Inv_setO hw o ho w1 hobjs
  have h : StepOK bb w.objs w1 r := by
    refine StepOK.of_each_obj hinv hr.snap hr.crash (fun e he => ?_) (fun c' hc' m hm' => ?_)
      (by simp [creationClause, hcs, hcre]) hno (exportClause_of_skipped hop) (askedClause_of_skipped hop) hr.bind hr.fp hr.vo
    · rcases mem_setO.mp (hobjs ▸ he) with rfl | ⟨he, _⟩
      · exact Or.inr (Or.inl (by simp [isMade, hcs, hm]))
      · exact Or.inl (hw.wf e he)
    · rw [hcs, List.mem_singleton] at hc'
      rw [hc', hm] at hm'
      cases hm'
      rw [hobjs, getO_setO, if_pos rfl]
  exact ⟨hinv, Chain.single h, hobjs ▸ Keeps.setO _ _⟩

/-- a segment in which an object was removed and nothing else happened (destruct): the one shape without `Keeps` -/
theorem Fine.removed {bb : Option Name} {w w1 : World} (hw : Inv w) (k : Oid) (r : StepRec)
    (hcs : r.creations = [] := by rfl) (hco : r.co = none := by rfl) (hop : r.op.skippedByExportAsked = true := by rfl)
    (hr : Closes w1 r := by exact {}) (hobjs : w1.objs = delO w.objs k := by rfl) :
    Fine bb w (w1, [r]) := by
  have h : StepOK bb w.objs w1 r :=
    StepOK.of_each_obj ⟨hobjs ▸ WF_delO hw.wf k, fun e he => hw.uid e (mem_delO.mp (hobjs ▸ he)).1⟩ hr.snap hr.crash
      (fun e he => Or.inl (hw.wf e (mem_delO.mp (hobjs ▸ he)).1)) (by simp [hcs]) (by simp [creationClause, hcs])
      (noEuid_of_none (by simp [hcs]) hco) (exportClause_of_skipped hop) (askedClause_of_skipped hop) hr.bind hr.fp hr.vo
  exact ⟨h.inv, Chain.single h⟩

variable {bb : Option Name} {w : World} {a : Oid} {A : Obj}

/-- an op of an actor that is not registered: refused, whatever it is -/
theorem missing_good (hw : Inv w) (hA : getO w.objs a = none) (op : Op) (res : Option Res) (first : Bool) :
    Good bb w (w, [seg w a op none [] res first]) :=
  Good.same hw _ (noEuid_of_none rfl rfl) (by unfold exportClause; split <;> simp [seg, hA])
    (by unfold askedClause; split <;> simp_all [seg])

theorem seteuidInt_good (hw : Inv w) (hA : getO w.objs a = some A) (n : Int) :
    Good bb w (single a (.seteuidInt n) (doSeteuidInt w A n)) := by
  obtain ⟨hAm, rfl⟩ := getO_some hA
  fun_cases doSeteuidInt w A n
  · next hn =>
    exact Good.change hw (o := { A with euid := none }) hA (hw.uid A hAm) _
      (Or.inr (by simp [euidChangeOk, seg, hn])) (Or.inl rfl) (exportClause_of_skipped rfl) (askedClause_of_skipped rfl)
  · exact Good.same_quiet hw _

theorem seteuidStr_good (hw : Inv w) (hA : getO w.objs a = some A) (pol : Policy) (i : Nat) (s : Name) :
    Good bb w (single a (.seteuidStr s) (doSeteuidStr pol i w A s)) := by
  obtain ⟨hAm, rfl⟩ := getO_some hA
  have hask : ∀ w1 res, askedClause w.objs (seg w1 A.oid (.seteuidStr s) (some (A.oid, s, pol.vs i A.oid s)) [] res true) = true :=
    fun _ _ => by simp [askedClause, seg, hA]
  fun_cases doSeteuidStr pol i w A s
  · exact Good.same hw _ (noEuid_of_none rfl rfl) rfl (hask _ _)
  · next hap =>
    exact Good.change hw (o := { A with euid := some s }) hA (hw.uid A hAm) _
      (Or.inr (by simp +zetaDelta [euidChangeOk, seg, hap])) (Or.inl rfl) rfl (hask _ _)
  · exact Good.same hw _ (noEuid_of_none rfl rfl) rfl (hask _ _)

theorem export_good (hw : Inv w) (hA : getO w.objs a = some A) (t : Oid) :
    Good bb w (single a (.exportUid t) (doExport w A t)) := by
  obtain ⟨_, rfl⟩ := getO_some hA
  fun_cases doExport w A t
  · next hT =>
    exact Good.same hw _ (noEuid_of_none rfl rfl) (by simp [exportClause, seg, hA, hT]) rfl
  · next T hT h1 =>
    exact Good.same hw _ (noEuid_of_none rfl rfl) (by simp [exportClause, seg, hA, hT, h1]) rfl
  · next T hT h1 h2 =>
    exact Good.same hw _ (noEuid_of_none rfl rfl) (by simp [exportClause, seg, hA, hT, h1]) rfl
  · next T hT h1 h2 =>
    obtain ⟨_, rfl⟩ := getO_some hT
    have hsome : A.euid.isSome = true := Option.isSome_iff_ne_none.mpr h1
    have h2 : T.euid = none := by simpa using h2
    exact Good.change hw (o := { T with uid := A.euid }) hT h1 _ (Or.inl rfl)
      (Or.inr (by simp [uidChangeOk, seg, hA, hsome, h2]))
      (by simp [exportClause, seg, hA, hT, hsome, h2, h1]) rfl

/-- destruct, outside create() scripts: the one op that removes an object, so there is no `Keeps` -/
theorem dest_fine {cfg : Cfg} (hw : Inv w) (hA : getO w.objs a = some A) (rootNow : Name) (t : Oid) :
    Fine cfg.bb w (single a (.dest t) (doDest cfg rootNow w A t)) := by
  obtain ⟨_, rfl⟩ := getO_some hA
  fun_cases doDest cfg rootNow w A t
  · exact (Good.same_quiet hw _).fine  -- no target
  · exact (Good.same_quiet hw _).fine  -- the master, without get_root_uid(): not reloaded
  · exact (Good.same_quiet hw _).fine  -- the master, for an actor without euid: refused
  · next T hT hm _ hg _ =>  -- the master: reloaded
    obtain ⟨_, rfl⟩ := getO_some hT
    exact (Good.made hw (o := { T with uid := some rootNow, euid := some rootNow }) rfl (by simp) _ rfl
      (by simp +zetaDelta [madeOk, seg, hm, hA, passed_bool hg]) (noEuid_of_none rfl rfl)).fine
  · exact (Good.same_quiet hw _).fine  -- the simul_efun object: refused
  · exact Fine.removed hw t _

/-- every blueprint's registry id is reserved: a clone cannot take it (`clonePre`) -/
theorem exists_reserved {p : Path} (h : p.exists = true) : p.oid ∈ reservedOids := by
  simp only [Path.exists, Bool.or_eq_true, Bool.and_eq_true, List.contains_iff_mem, decide_eq_true_eq] at h
  rcases h with ⟨hd, hf⟩ | rfl
  · exact List.mem_cons_of_mem _ (List.mem_cons_of_mem _ (List.mem_cons_of_mem _
      (List.mem_flatMap.mpr ⟨p.dir, hd, List.mem_map.mpr ⟨p.file, hf, rfl⟩⟩)))
  · decide

theorem giveUid_spec (cfg : Cfg) (A : Obj) (a : Ans) :
    (giveUid cfg A a).1 ≠ none ∧
    (((giveUid cfg A a).1 = some (creatorName a) ∧ (giveUid cfg A a).2 = none) ∨
     (cfg.bb = some (creatorName a) ∧ A.euid.isSome = true ∧ (giveUid cfg A a).1 = A.euid ∧
       (giveUid cfg A a).2 = A.euid)) := by
  fun_cases giveUid cfg A a
  · next h1 => simp +zetaDelta [h1]
  · next h2 =>
    exact ⟨h2.2.2, Or.inr ⟨h2.2.1, Option.isSome_iff_ne_none.mpr h2.2.2, rfl, rfl⟩⟩
  · simp +zetaDelta

theorem madeOk_created {bb : Option Name} {P : List Obj} {r : StepRec} {A : Obj} {a : Ans} {o : Obj} {name : String}
    (hop : isCreatingOp r.op = true) (hact : getO P r.actor = some A)
    (hg : ¬ (r.actor ≠ masterOid ∧ A.euid = none)) (ha : a ≠ .err)
    (hrule : (o.uid = some (creatorName a) ∧ o.euid = none) ∨
      (bb = some (creatorName a) ∧ A.euid.isSome = true ∧ o.uid = A.euid ∧ o.euid = A.euid)) :
    madeOk bb P r { name := name, ans := some a, made := some o } = true := by
  simp only [madeOk, hop, hact, passed_bool hg, ha, ne_eq, not_false_eq_true, decide_true, Bool.true_and]
  rcases hrule with ⟨h1, h2⟩ | ⟨h1, h2, h3, h4⟩
  · simp [h1, h2]
  · simp [h1, h2, h3, h4]

theorem create_err {cfg : Cfg} {pol : Policy} {i : Nat} {w : World} {A : Obj} {oid : Oid} {name : String} {bp : Bool}
    (h : pol.cf i name = .err) :
    (create cfg pol i w A oid name bp).1.objs = w.objs ∧
    (create cfg pol i w A oid name bp).2.1 = { name := name, ans := some .err, made := none } ∧
    (create cfg pol i w A oid name bp).2.2 = false ∧
    (create cfg pol i w A oid name bp).1.cloneSeq = w.cloneSeq := by
  cases bp <;> simp [create, h]

theorem create_ok {cfg : Cfg} {pol : Policy} {i : Nat} {w : World} {A : Obj} {oid : Oid} {name : String} {bp : Bool}
    (h : pol.cf i name ≠ .err) :
    (create cfg pol i w A oid name bp).1.objs =
      setO w.objs { oid := oid, name := name, uid := (giveUid cfg A (pol.cf i name)).1,
                    euid := (giveUid cfg A (pol.cf i name)).2 } ∧
    (create cfg pol i w A oid name bp).2.1 =
      { name := name, ans := some (pol.cf i name),
        made := some { oid := oid, name := name, uid := (giveUid cfg A (pol.cf i name)).1,
                       euid := (giveUid cfg A (pol.cf i name)).2 } } ∧
    (create cfg pol i w A oid name bp).2.2 = true := by
  cases bp <;> simp [create, h]

/-- master creator_file + give_uid_to_object + create() on behalf of an actor that passed the euid test, as one segment of
    a load or clone: an error in the apply leaves the registry alone, otherwise the new object is announced as `giveUid` says -/
theorem create_good (cfg : Cfg) (pol : Policy) (i : Nat) (hw : Inv w) (hA : getO w.objs a = some A)
    (hg : ¬ (a ≠ masterOid ∧ A.euid = none)) {op : Op} (hop : isCreatingOp op = true) {w' : World}
    (hobjs : w'.objs = w.objs) (oid : Oid) (name : String) (bp : Bool) (res : Option Res) (first : Bool) :
    Good cfg.bb w ((create cfg pol i w' A oid name bp).1,
      [seg (create cfg pol i w' A oid name bp).1 a op none [(create cfg pol i w' A oid name bp).2.1] res first]) := by
  have hpl := skippedByExportAsked_of_creating hop
  have hno : ∀ r : StepRec, r.actor = a → noEuidClause w.objs r = true := fun r hr => noEuid_of_passed ⟨A, hr ▸ hA, hr ▸ hg⟩
  by_cases hcf : pol.cf i name = .err
  · obtain ⟨e1, e2, _⟩ := create_err (cfg := cfg) (w := w') (A := A) (oid := oid) (bp := bp) hcf
    rw [e2]
    exact Good.same hw _ (hno _ rfl) (exportClause_of_skipped hpl) (askedClause_of_skipped hpl) (hobjs := e1.trans hobjs)
  · obtain ⟨e1, e2, _⟩ := create_ok (cfg := cfg) (w := w') (A := A) (oid := oid) (bp := bp) hcf
    have hu := giveUid_spec cfg A (pol.cf i name)
    rw [e2]
    exact Good.made hw rfl hu.1 _ rfl (madeOk_created hop hA hg hcf hu.2) (hno _ rfl) hpl (hobjs := hobjs ▸ e1)

/-- load_object does not ask valid_seteuid -/
theorem doLoad_vs (cfg : Cfg) (pol : Policy) (i : Nat) (w : World) (A : Obj) (p : Path) :
    (doLoad cfg pol i w A p).2.2.1 = none := by
  fun_cases doLoad cfg pol i w A p <;> rfl

/-- load_object as far as `doLoad` goes, as one segment of the op `.load p'` (the load itself, or the load of the file that
    inherits `p`); the euid test is its own. -/
theorem doLoad_good {cfg : Cfg} {pol : Policy} {i : Nat} (hw : Inv w) (hA : getO w.objs a = some A) (p p' : Path)
    (res : Option Res) (first : Bool) :
    Good cfg.bb w ((doLoad cfg pol i w A p).1,
      [seg (doLoad cfg pol i w A p).1 a (.load p') none (doLoad cfg pol i w A p).2.1 res first]) := by
  obtain ⟨_, rfl⟩ := getO_some hA
  fun_cases doLoad cfg pol i w A p
  · exact Good.same_quiet hw _  -- the id is taken
  · -- loaded but never created: initialised late
    exact Good.made hw (o := { oid := p.oid, name := p.name, uid := some "NONAME", euid := none }) rfl
      (by simp) _ rfl (by simp +zetaDelta [madeOk, seg]) (noEuid_of_none rfl rfl)
  · exact Good.same_quiet hw _  -- loaded: found
  · exact Good.same_quiet hw _  -- no euid: refused
  · exact Good.same_quiet hw _  -- no file
  · have h := create_good cfg pol i hw hA ‹¬ (A.oid ≠ masterOid ∧ A.euid = none)› (op := .load p') rfl rfl p.oid p.name
      true res first
    rwa [‹create cfg pol i w A p.oid p.name true = _›] at h

end NV.C20
