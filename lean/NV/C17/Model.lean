/-
C17 — executable model of lib/lpc/program/binaries.c (as it is in the repository, i.e. with the `fix:` commits of
this property applied; the code before those commits is kept in `NV/C17/Witness.lean`).

  (a) the staleness decision of `load_binary` (`check_times`, magic / driver_id / config_id, include list, name check,
      inherited sources and inherited binaries, "inherited program not loaded yet") and the retry loop of `load_object`
      around it, over a file system of modification times;
  (b) `sort_function_table`: permutation table by `quickSort`, inverse table, the in-place sort by n-1 swaps driven by
      `sorttmp`/`invtmp`, the `f_index` remap loops of the COMPRESS_FUNCTION_TABLES build, the `type_start` copy;
  (c) `locate_out` / `locate_in`;
  (d) `patch_out` / `patch_in` of string switch tables.

C arrays are `Arr` = size + total function; every C access is an explicit bounds-checked `read`/`write` that yields
`none` (= the C program would touch memory outside the array: crash) when the index is out of range.
`quickSort` is modelled from its code (NV/C17/QSort.lean mirrors lib/misc/qsort.c: median swap, partition loop, the two
recursive calls); its contract — stays inside the array, permutation, sorted for a strict order — is proved in
NV/C17/QSortLemmas.lean and used by the theorems of NV/C17/SortTable.lean and NV/C17/Relocate.lean.
-/
import NV.Gen.C17
import NV.C17.QSort

namespace NV.C17

/-! ## C arrays -/

structure Arr (α : Type) where
  size : Nat
  get : Nat → α

namespace Arr
def ofList {α} [Inhabited α] (l : List α) : Arr α := ⟨l.length, fun i => l.getD i default⟩
def toList {α} (a : Arr α) : List α := (List.range a.size).map a.get
def set {α} (a : Arr α) (i : Nat) (v : α) : Arr α := ⟨a.size, fun j => if j = i then v else a.get j⟩
/-- `a[i]` as an rvalue -/
def read {α} (a : Arr α) (i : Nat) : Option α := if i < a.size then some (a.get i) else none
/-- `a[i] = v` -/
def write {α} (a : Arr α) (i : Nat) (v : α) : Option (Arr α) := if i < a.size then some (a.set i v) else none
end Arr

/-! ## (b) sort_function_table -/

/-- `for (i = 0; i < num; i++) inverse[temp[i]] = i;` (inverse was CALLOCATEd: all zero) -/
def inverseLoop (temp : Arr Nat) : Nat → Arr Nat → Option (Arr Nat)
  | 0, inv => some inv
  | k + 1, inv => do
    let inv ← inverseLoop temp k inv
    let t ← temp.read k
    inv.write t k

def mkInverse (temp : Arr Nat) : Option (Arr Nat) :=
  inverseLoop temp temp.size ⟨temp.size, fun _ => 0⟩

structure SwapSt (α : Type) where
  tab : Arr α
  sorttmp : Arr Nat
  invtmp : Arr Nat

/-- one iteration of the swap loop (binaries.c):
      where = sorttmp[i]; if (i == where) continue;
      cft = tab[i]; tab[i] = tab[where]; sorttmp[invtmp[i]] = where; invtmp[where] = invtmp[i]; tab[where] = cft; -/
def swapStep {α} (s : SwapSt α) (i : Nat) : Option (SwapSt α) := do
  let wh ← s.sorttmp.read i
  if i = wh then pure s
  else do
    let cft ← s.tab.read i
    let x ← s.tab.read wh
    let tab1 ← s.tab.write i x
    let ii ← s.invtmp.read i
    let st ← s.sorttmp.write ii wh
    let iv ← s.invtmp.write wh ii
    let tab2 ← tab1.write wh cft
    pure ⟨tab2, st, iv⟩

/-- iterations i, i+1, ..., i+fuel-1 -/
def swapFrom {α} (s : SwapSt α) (i : Nat) : Nat → Option (SwapSt α)
  | 0 => some s
  | fuel + 1 => do
    let s' ← swapStep s i
    swapFrom s' (i + 1) fuel

/-- `for (i = 0; i < num - 1; i++) ...` with sorttmp/invtmp initialised as copies of temp/inverse -/
def swapLoop {α} (tab : Arr α) (temp inverse : Arr Nat) : Option (Arr α) :=
  (swapFrom ⟨tab, temp, inverse⟩ 0 (tab.size - 1)).map (·.tab)

/-- the compressed runtime-function table header (`compressed_offset_table_t`) -/
structure CT where
  firstDefined : Nat
  firstOverload : Nat
  numCompressed : Nat
  numDeleted : Nat
  index : List Nat
  deriving Repr, BEq, Inhabited

def isInherited (flags : Nat) : Bool := flags &&& Gen.C17.nameInherited != 0

/-- the slots of `function_offsets` whose `def.f_index` the two remap loops rewrite, in visiting order
    (`none`: an index outside `index[]` / `function_flags[]` would be read) -/
def visitedSlots (ct : CT) (flags : Arr Nat) (numTotal : Nat) : Option (List Nat) := do
  if ct.numDeleted > ct.firstDefined then none
  let nOv := ct.firstDefined - ct.numCompressed
  let nDef := numTotal - ct.firstDefined
  let nReal := ct.firstDefined - ct.numDeleted
  let idx := Arr.ofList ct.index
  let ov ← (List.range nOv).mapM (fun i => do
    let j ← idx.read i
    if j = Gen.C17.compressedSkip then pure none
    else do
      let f ← flags.read (ct.firstOverload + i)
      pure (if isInherited f then none else some j))
  let df ← (List.range nDef).mapM (fun i => do
    let f ← flags.read (ct.firstDefined + i)
    pure (if isInherited f then none else some (nReal + i)))
  pure (ov.filterMap id ++ df.filterMap id)

/-- `function_offsets[s].def.f_index = inverse[function_offsets[s].def.f_index]` for the visited slots in order -/
def remapSlots (inverse : Arr Nat) : List Nat → Arr Nat → Option (Arr Nat)
  | [], o => some o
  | s :: rest, o => do
    let old ← o.read s
    let nw ← inverse.read old
    let o' ← o.write s nw
    remapSlots inverse rest o'

/-- the repaired type_start loop: `old_start[i] = type_start[i]`, then `type_start[i] = old_start[temp[i]]`, i < num.
    All indices are checked up front (an access outside either array is the crash outcome `none`). -/
def permuteTypeStart {τ} (ts : Arr τ) (temp : Arr Nat) (num : Nat) : Option (Arr τ) :=
  if num ≤ ts.size ∧ num ≤ temp.size ∧ (List.range num).all (fun i => decide (temp.get i < num)) then
    some ⟨ts.size, fun i => if i < num then ts.get (temp.get i) else ts.get i⟩
  else none

/-- the part of a `program_t` that `sort_function_table` touches -/
structure FunTabs (α τ : Type) where
  table : List α                 -- function_table[0 .. num_functions_defined)
  flags : List Nat               -- function_flags[0 .. num_functions_total)
  offs : List Nat                -- function_offsets[*].def.f_index (raw 16 bits of every slot)
  ct : CT
  typeStart : Option (List τ)    -- none: prog->type_start == 0

/-- `for (i = 0; i < num; i++) temp[i] = i; comp_prog = prog;
    quickSort (temp, num, sizeof (int), compare_compiler_funcs)`; `lt x y` = the comparison answers < 0 -/
def sortPerm {α} (lt : α → α → Bool) [Inhabited α] (table : List α) : Option (List Nat) :=
  quickSortL (fun x y => lt (table.getD x default) (table.getD y default)) (List.range table.length)

def sortFunctionTable {α τ} [Inhabited α] [Inhabited τ] (lt : α → α → Bool) (p : FunTabs α τ) :
    Option (FunTabs α τ) := do
  let num := p.table.length
  if num = 0 then pure p
  else do
    let temp := Arr.ofList (← sortPerm lt p.table)
    let inverse ← mkInverse temp
    let tab ← swapLoop (Arr.ofList p.table) temp inverse
    let slots ← visitedSlots p.ct (Arr.ofList p.flags) p.flags.length
    let offs ← remapSlots inverse slots (Arr.ofList p.offs)
    let ts ← match p.typeStart with
      | none => pure none
      | some ts => do
        let r ← permuteTypeStart (Arr.ofList ts) temp num
        pure (some r.toList)
    pure { p with table := tab.toList, offs := offs.toList, typeStart := ts }

/-- a `compiler_function_t` as far as the comparison looks at it, plus a payload -/
structure CF where
  key : Nat            -- address of the name (or its rank among the names: only the order matters)
  hash : Bool          -- name[0] == '#'
  tag : String         -- payload that identifies the entry (name, type, runtime index, address)
  deriving Repr, BEq, Inhabited

/-- `compare_compiler_funcs (x, y) <= 0` in binaries.c: names starting with '#' last, otherwise by address -/
def cfLe (a b : CF) : Bool :=
  if a.hash then b.hash
  else if b.hash then true
  else a.key ≤ b.key

/-- `compare_compiler_funcs (x, y) < 0` (what qSort asks): `n1[0] == '#'` → 0 or 1, never negative;
    `n2[0] == '#'` → -1; otherwise `n1 < n2` -/
def cfLt (a b : CF) : Bool :=
  if a.hash then false
  else if b.hash then true
  else a.key < b.key

/-! ## (c) locate_out / locate_in -/

/-- the pointer members of `program_t` that are relocated, as 64-bit machine words -/
structure ProgPtrs where
  program : BitVec 64
  functionTable : BitVec 64
  functionFlags : BitVec 64
  functionOffsets : BitVec 64
  functionCompressed : BitVec 64
  strings : BitVec 64
  variableTable : BitVec 64
  variableTypes : BitVec 64
  inherit : BitVec 64
  classes : BitVec 64
  classMembers : BitVec 64
  argumentTypes : BitVec 64
  typeStart : BitVec 64
  deriving DecidableEq, Repr

/-- `locate_out (prog)`: `DIFF (x, prog)`; inherit only `if (prog->inherit)`, argument_types / type_start only
    `if (prog->type_start)` -/
def locateOut (b : BitVec 64) (p : ProgPtrs) : ProgPtrs :=
  { program := p.program - b, functionTable := p.functionTable - b, functionFlags := p.functionFlags - b,
    functionOffsets := p.functionOffsets - b, functionCompressed := p.functionCompressed - b,
    strings := p.strings - b, variableTable := p.variableTable - b, variableTypes := p.variableTypes - b,
    inherit := if p.inherit ≠ 0 then p.inherit - b else p.inherit,
    classes := p.classes - b, classMembers := p.classMembers - b,
    argumentTypes := if p.typeStart ≠ 0 then p.argumentTypes - b else p.argumentTypes,
    typeStart := if p.typeStart ≠ 0 then p.typeStart - b else p.typeStart }

/-- `locate_in (prog)`: `ADD (x, prog)` -/
def locateIn (b : BitVec 64) (p : ProgPtrs) : ProgPtrs :=
  { program := p.program + b, functionTable := p.functionTable + b, functionFlags := p.functionFlags + b,
    functionOffsets := p.functionOffsets + b, functionCompressed := p.functionCompressed + b,
    strings := p.strings + b, variableTable := p.variableTable + b, variableTypes := p.variableTypes + b,
    inherit := if p.inherit ≠ 0 then p.inherit + b else p.inherit,
    classes := p.classes + b, classMembers := p.classMembers + b,
    argumentTypes := if p.typeStart ≠ 0 then p.argumentTypes + b else p.argumentTypes,
    typeStart := if p.typeStart ≠ 0 then p.typeStart + b else p.typeStart }

/-- the C names of the members of `ProgPtrs`, in the order in which `locateOut` / `locateIn` (and the C functions) treat
    them, each with the member whose being non-NULL guards its relocation ("" = unconditional: `inherit` is NULL in a
    program without inherits, `argument_types` / `type_start` without `#pragma save_types`).  Compared with the assignments read from locate_out and
    locate_in on every run (`relocation_members_tied`). -/
def relocatedMembers : List (String × String) :=
  [("program", ""), ("function_table", ""), ("function_flags", ""), ("function_offsets", ""),
   ("function_compressed", ""), ("strings", ""), ("variable_table", ""), ("variable_types", ""),
   ("inherit", "inherit"), ("classes", ""), ("class_members", ""), ("argument_types", "type_start"),
   ("type_start", "type_start")]

/-- pointer members of `program_t` that do not point into the program block: `load_binary` re-creates them
    (`p->name = make_shared_string (name)`, `p->file_info = DXALLOC …`, `p->line_info = &p->file_info[…]`) -/
def rebuiltMembers : List String := ["name", "line_info", "file_info"]

/-- what the code generator stores with `ins_intptr`: the key of a switch table entry — the address of a program
    string for a string switch (the ONE address-valued operand in the byte code, recorded in the patch list), the 0
    label, or the number of a numeric case -/
def modelIntptrOperands : List String :=
  ["(intptr_t)PROG_STRING (pn->r.number)", "(intptr_t) 0", "(intptr_t) pn->r.expr"]

/-- the pointers stored INSIDE the saved block (elements of the tables the 13 relocated members point at): the name of
    every function, the program of every inherit entry, every string and every variable name.  They are meaningless in
    the file; `load_binary` re-creates each one from the name sections / the loaded parents.  Everything else in the
    block is an index, a count or a code offset. -/
def modelBlockPointers : List String :=
  ["compiler_function_t.name", "inherit_t.prog", "strings[]", "variable_table[]"]

/-- statements of qSort + quickSort that NV/C17/QSort.lean mirrors -/
def modelQsortStatements : Nat := 13

def ProgPtrs.fields (p : ProgPtrs) : List (BitVec 64) :=
  [p.program, p.functionTable, p.functionFlags, p.functionOffsets, p.functionCompressed, p.strings, p.variableTable,
   p.variableTypes, p.inherit, p.classes, p.classMembers, p.argumentTypes, p.typeStart]

/-! ## (d) string switch tables -/

/-- one 10-byte entry of a switch table: key (string address, or string-table index inside a saved binary) + jump address -/
structure SwEntry where
  key : Int
  addr : Nat
  deriving Repr, BEq, DecidableEq, Inhabited

/-- `(char) b` on this ABI -/
def sext8 (b : Nat) : Int := if b % 256 < 128 then (b % 256 : Nat) else (b % 256 : Nat) - 256
/-- `(short) v` -/
def sext16 (v : Nat) : Int := if v % 65536 < 32768 then (v % 65536 : Nat) else (v % 65536 : Nat) - 65536

/-- the test in front of both patch loops: `p[i] == F_SWITCH && p[i + 1] >> 4 != 0xf` with `char *p`
    (arithmetic shift of a signed char: never 15, so every listed F_SWITCH passes) -/
def patchApplies (opcode typeByte : Nat) : Bool :=
  sext8 opcode == (Gen.C17.fSwitch : Int) && (sext8 typeByte) / 16 != 15

/-- a 16-bit patch entry as `patch_out` / `patch_in` see it: `i = (<cast>) patches[--len]` with `short *patches` and
    `int i` — through `(unsigned short)` the program offset itself, without it sign-extended -/
def readPatchOffset (cast : String) (raw : Nat) : Int :=
  if cast = "unsigned short" then ((raw % 65536 : Nat) : Int) else sext16 raw

/-- a table bound read with COPY_SHORT into a variable of the given C type -/
def readTableBound (ty : String) (raw : Nat) : Int :=
  if ty = "unsigned short" then ((raw % 65536 : Nat) : Int) else sext16 raw

/-- `store_prog_string (s)` for a string that is in the table: its index -/
def indexOfPtr (strings : List Int) (p : Int) : Option Nat :=
  let i := strings.findIdx (· == p)
  if i < strings.length then some i else none

/-- patch_out on one table: addresses become string-table indices, the 0 label becomes -1 -/
def patchOutTable (strings : List Int) (es : List SwEntry) : Option (List SwEntry) :=
  es.mapM (fun e => if e.key = 0 then some { e with key := -1 }
                    else (indexOfPtr strings e.key).map (fun i => { e with key := (i : Int) }))

/-- `str_case_cmp (a, b) <= 0`: the keys compared as `intptr_t` -/
def swLe (a b : SwEntry) : Bool := a.key ≤ b.key

/-- `str_case_cmp (a, b) < 0` (what qSort asks) -/
def swLt (a b : SwEntry) : Bool := a.key < b.key

/-- patch_in on one table: indices become the addresses of the re-created strings, then
    `quickSort (&p[start], (break_addr - start) / SWITCH_CASE_SIZE, SWITCH_CASE_SIZE, str_case_cmp)` -/
def patchInTable (strings : List Int) (es : List SwEntry) : Option (List SwEntry) := do
  let es' ← es.mapM (fun e =>
    if e.key = -1 then some { e with key := 0 }
    else if e.key < 0 then none
    else (strings[e.key.toNat]?).map (fun p => { e with key := p }))
  quickSortL swLt es'

/-! ## (a) the staleness decision -/

structure BinFile where
  magic : String
  driverId : Nat
  configId : Nat
  includes : List String       -- the include list without its '!' entries: the files that were read
  absent : List String := []   -- the '!' entries: files an #include looked for first and did not find
  name : String
  inherits : List String       -- names as written: "dir/file.c"
  intact : Bool := true        -- the trailing checksum matches the bytes before it
  deriving Repr, BEq, DecidableEq, Inhabited

/-- "<SaveBinaryDir>/<name>" with the last character replaced by 'b' -/
def stdBinOf (binDir : String) (name : String) : String :=
  binDir ++ "/" ++ (name.dropEnd 1).toString ++ "b"

/-- object name of a source name ("a/b.c" ↦ "a/b") -/
def stdObjOf (name : String) : String :=
  if name.endsWith ".c" then (name.dropEnd 2).toString else name

/-- what `inherited_program_newer` reads from a loaded program: the files named in its line number information
    (its source and every file it included) and the names of the programs it inherits -/
structure LoadedProg where
  files : List String
  inherits : List String
  gen : Nat := 0                          -- which program block this is (a new number for every load of the name)
  loadTime : Nat := 0                     -- `ob->load_time` of the object that owns it
  linked : List (String × Nat) := []      -- `prog->inherit[i].prog`: name and block number of every inherited program
  deriving Repr, BEq, DecidableEq, Inhabited

structure World where
  files : List (String × Nat) := []       -- path relative to the mudlib ↦ st_mtime (sources, includes, binaries)
  bins : List (String × BinFile) := []    -- binary path ↦ what the decision reads from it
  loaded : List String := []              -- names of loaded objects ("dir/file")
  progs : List (String × LoadedProg) := []  -- program name ("dir/file.c") ↦ the program in memory
  configId : Nat := 0                     -- config_id as sampled when the simul_efun object was loaded
  simulPath : String := ""                -- simul_efun_path ("" = none configured)
  binOf : String → String := stdBinOf "c17bin"   -- source name ↦ path of its binary (SaveBinaryDir = /c17bin)
  objOf : String → String := stdObjOf            -- source name ↦ object name

instance : Inhabited World := ⟨{}⟩

def World.mtime (w : World) (path : String) : Option Nat := w.files.lookup path

/-- `check_times (mtime, nm)`: -1 the file does not exist, 0 it is newer than `mtime`, 1 otherwise -/
def checkTimes (w : World) (mtime : Nat) (nm : String) : Int :=
  match w.mtime nm with
  | none => -1
  | some t => if (if Gen.C17.checkTimesStrict then t > mtime else t ≥ mtime) then 0 else 1

def binPath (w : World) (name : String) : String := w.binOf name

def objName (w : World) (name : String) : String := w.objOf name

inductive Decision where
  | use
  | stale (why : String)
  | needs (inh : String)
  deriving Repr, BEq, DecidableEq

/-- `inherited_program_newer (mtime, prog)`: a file the program was built from, its saved binary, or the same for a
    program it inherits, is newer than `mtime`.  The recursion of the C code follows program pointers (a finite acyclic
    graph); the model follows names with fuel, and running out of fuel or meeting a name without a program counts as
    "newer" (the binary is then not used), so a `false` answer always comes from a completed walk. -/
def treeNewer (w : World) (mtime : Nat) : Nat → String → Bool
  | 0, _ => true
  | fuel + 1, name =>
    match w.progs.lookup name with
    | none => true
    | some lp =>
      lp.files.any (fun f => checkTimes w mtime f == 0) || checkTimes w mtime (binPath w name) == 0 ||
        lp.inherits.any (fun p => treeNewer w mtime fuel p)

/-- more than the driver's inherit chain limit -/
def treeFuel : Nat := 64

/-- the loop over the inherit names in load_binary -/
def checkInherits (w : World) (mtime : Nat) : List String → Decision
  | [] => .use
  | inh :: rest =>
    if checkTimes w mtime inh ≤ 0 ∨ checkTimes w mtime (binPath w inh) = 0 then .stale "inherited"
    else if !(w.loaded.contains (objName w inh)) then .needs inh
    else if treeNewer w mtime treeFuel inh then .stale "behind-inherited"
    else checkInherits w mtime rest

/-- `inherited_program_outdated (prog)` for the program block number `g` of `name` that an heir is linked with: it is
    no longer the program of the loaded object of that name (`find_object_by_name` fails or `ob->prog != prog`), one of
    the files it was built from was modified after the object was loaded (`check_times (ob->load_time, file) == 0`),
    or the same holds for a program it inherits.  Fuel as in `treeNewer`: out of fuel counts as outdated. -/
def progOutdated (w : World) : Nat → String → Nat → Bool
  | 0, _, _ => true
  | fuel + 1, name, g =>
    match w.progs.lookup name with
    | none => true
    | some lp =>
      !(w.loaded.contains (objName w name)) || lp.gen != g ||
        lp.files.any (fun f => checkTimes w lp.loadTime f == 0) ||
        lp.linked.any (fun pg => progOutdated w fuel pg.1 pg.2)

/-- the test at the head of `save_binary`: no inherited program is outdated -/
def saveAllowed (w : World) (linked : List (String × Nat)) : Bool :=
  !(linked.any (fun pg => progOutdated w treeFuel pg.1 pg.2))

def magicId : String := Gen.C17.magicId
def driverId : Nat := Gen.C17.driverId

/-- `load_binary (name)`, in the order of the code -/
def loadBinary (w : World) (name : String) : Decision :=
  match w.mtime (binPath w name), w.bins.lookup (binPath w name) with
  | some mtime, some b =>
    if !b.intact then .stale "damaged"
    else if checkTimes w mtime name ≤ 0 then .stale "source"
    else if b.magic ≠ magicId then .stale "magic"
    else if b.driverId ≠ driverId then .stale "driver"
    else if b.configId ≠ w.configId then .stale "config"
    else if w.simulPath ≠ "" ∧ checkTimes w mtime w.simulPath = 0 then .stale "simul"
    else if b.includes.any (fun i => checkTimes w mtime i ≤ 0) then .stale "include"
    else if b.absent.any (fun f => checkTimes w mtime f ≠ -1) then .stale "shadowed"
    else if b.name.length > 0 ∧ b.name ≠ name then .stale "name"
    else checkInherits w mtime b.inherits
  | _, _ => .stale "nobinary"

/-- `inc_open` (lib/lpc/lex.c) for one #include directive: the candidates in search order (the file next to the
    including file, then `<include dir>/<name>` for every include directory); the first one that exists is opened, and
    — when it was not the first candidate — every candidate tried before it is noted as missing
    (`add_program_missing_file`: a '!' entry in the include list of the binary) -/
def incOpen (w : World) : List String → Option (String × List String)
  | [] => none
  | c :: rest =>
    if (w.mtime c).isSome then some (c, [])
    else (incOpen w rest).map (fun r => (r.1, c :: r.2))

/-- the include list as the binary stores it: '!' entries are the files that were looked for and missing -/
def readIncludes (l : List String) : List String := l.filter (fun i => !(i.startsWith "!"))
def missingIncludes (l : List String) : List String :=
  (l.filter (fun i => i.startsWith "!")).map (fun i => (i.drop 1).toString)

/-- what the generator declares about a program: what a compile records -/
structure ProgDecl where
  name : String                -- "dir/file.c"
  save : Bool                  -- #pragma save_binary
  refuse : Bool := false       -- the master's valid_save_binary() refuses this program
  includes : List String
  inherits : List String
  deriving Repr, BEq, Inhabited

inductive Ev where
  | lb (name : String) (d : Decision)
  | sv (name : String) (t : Nat) (includes : List String)
  | svSkipped (name : String)      -- `#pragma save_binary` in force, but save_binary() returned without writing
  | loadfail (name : String)
  deriving Repr, BEq, DecidableEq

structure Sys where
  w : World := {}
  decls : List ProgDecl := []
  vnow : Nat := 1000           -- clock of the files the driver writes
  ctime : Nat := 0             -- `current_time`: the load time of objects loaded now
  gens : Nat := 0              -- program blocks created so far
  evs : List Ev := []          -- newest first
  deriving Inhabited

def Sys.decl (s : Sys) (name : String) : Option ProgDecl := s.decls.find? (·.name == name)

/-- the end of a compile (`epilog`): with `#pragma save_binary` in force `save_binary` is called, which writes the binary
    (current `config_id`, modification time = now) unless the master refuses (`valid_save_binary`) or an inherited program
    is outdated -/
def saveStep (s : Sys) (d : ProgDecl) (linked : List (String × Nat)) : Sys :=
  if !d.save then s
  else if d.refuse || !(saveAllowed s.w linked) then { s with evs := Ev.svSkipped d.name :: s.evs }
  else
    let bp := binPath s.w d.name
    let b : BinFile := { magic := magicId, driverId := driverId, configId := s.w.configId,
                         includes := readIncludes d.includes, absent := missingIncludes d.includes,
                         name := d.name, inherits := d.inherits }
    { s with w := { s.w with files := (bp, s.vnow) :: s.w.files.filter (·.1 != bp),
                             bins := (bp, b) :: s.w.bins.filter (·.1 != bp) },
             vnow := s.vnow + 1, evs := Ev.sv d.name s.vnow d.includes :: s.evs }

/-- the object exists now: a new program block, linked with the blocks of the inherited programs as loaded -/
def enterProgram (s : Sys) (name : String) (d : ProgDecl) (linked : List (String × Nat)) : Sys :=
  let lp : LoadedProg := { files := name :: readIncludes d.includes, inherits := d.inherits, gen := s.gens + 1,
                           loadTime := s.ctime,
                           linked := linked }
  { s with gens := s.gens + 1,
           w := { s.w with loaded := objName s.w name :: s.w.loaded,
                           progs := (name, lp) :: s.w.progs.filter (·.1 != name) } }

/-- `prog->inherit[i].prog` for a program compiled or loaded now -/
def linkNow (w : World) (inherits : List String) : List (String × Nat) :=
  inherits.map (fun p => (p, ((w.progs.lookup p).map (·.gen)).getD 0))

/-- `load_object (name)`: try the binary; otherwise compile, which aborts at the first inherit that is not loaded;
    in both cases the inherit is loaded and everything starts again.  `useBin = false`: binaries are neither read nor
    written (the harness's reference compile of the current sources). -/
def loadObject (s : Sys) (name : String) (useBin : Bool := true) : Nat → Sys × Bool
  | 0 => (s, false)
  | fuel + 1 =>
    match s.w.mtime name, s.decl name with
    | some _, some d =>
      let dec := if useBin then loadBinary s.w name else .stale "disabled"
      let s := if useBin then { s with evs := Ev.lb name dec :: s.evs } else s
      let retryWith (s : Sys) (inh : String) : Sys × Bool :=
        let (s, ok) := loadObject s inh useBin fuel
        if !ok then (s, false)
        else if s.w.loaded.contains (objName s.w name) then (s, true)
        else loadObject s name useBin fuel
      match dec with
      | .use => (enterProgram s name d (linkNow s.w d.inherits), true)
      | .needs inh => retryWith s inh
      | .stale _ =>
        match d.inherits.find? (fun i => !(s.w.loaded.contains (objName s.w i))) with
        | some inh => retryWith s inh
        | none =>
          let linked := linkNow s.w d.inherits
          let s := if useBin then saveStep s d linked else s
          (enterProgram s name d linked, true)
    | _, _ => ({ s with evs := Ev.loadfail name :: s.evs }, false)

/-- the mudlib-relative name of the configured simul_efun file (leading slashes dropped, ".c" optional) -/
def simulPathOf (simulFile : String) : String :=
  let nm := (simulFile.dropWhile (· == '/')).toString
  if nm.endsWith ".c" then nm else nm ++ ".c"

/-- `binaries_simul_efun_loaded ()` (start-up and every (re)load of the simul_efun object):
    config_id = st_mtime of the simul_efun file (0 when it cannot be stat'ed) -/
def sampleConfigId (w : World) (simulFile : String) : World :=
  let nm := simulPathOf simulFile
  { w with configId := (w.mtime nm).getD 0, simulPath := nm }

/-! ## (e) the patch list: which switches `save_binary` will convert -/

/-- what the code generator sees while it compiles one file, in order -/
inductive GenEv where
  | pragmaSaveBinary (on : Bool)            -- `#pragma save_binary` / `#pragma no_save_binary`
  | stringSwitch (site : Nat)               -- NODE_SWITCH_STRINGS generated; F_SWITCH at program offset `site`
  | otherSwitch (site : Nat)                -- NODE_SWITCH_NUMBERS / _DIRECT / _RANGES
  deriving Repr, BEq, DecidableEq

/-- `i_generate_node`: `if (expr->kind == NODE_SWITCH_STRINGS) add_to_mem_block (A_PATCH, &sw, sizeof sw)` — for every
    string switch, whatever the pragma state at that moment -/
def genPatches : List GenEv → List Nat
  | [] => []
  | .stringSwitch site :: rest => site :: genPatches rest
  | _ :: rest => genPatches rest

/-- the F_SWITCH instructions with string tables in the generated program -/
def stringSwitchSites : List GenEv → List Nat
  | [] => []
  | .stringSwitch site :: rest => site :: stringSwitchSites rest
  | _ :: rest => stringSwitchSites rest

/-- `epilog`: the program is saved iff `pragmas & PRAGMA_SAVE_BINARY` at the END of the file -/
def savedAtEnd (evs : List GenEv) : Bool :=
  evs.foldl (fun st e => match e with | .pragmaSaveBinary on => on | _ => st) false

end NV.C17
