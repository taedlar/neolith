/-
C17 — the byte-level format round-trips: what `save_binary` writes, `load_binary` reads back section by section, for
every program image whose lengths fit their length fields (the cases in which the C code does not truncate with its
`(uint16_t)` / `(uint32_t)` casts: `save_binary` refuses programs and include lists above USHRT_MAX and strings of
USHRT_MAX or more) and whose four counts in the program block are the numbers of names written.
-/
import NV.C17.BinFile

namespace NV.C17

theorem leBytes_length (k v : Nat) : (leBytes k v).length = k := by
  induction k generalizing v with
  | zero => rfl
  | succ k ih => simp [leBytes, ih]

theorem leValue_leBytes (k v : Nat) (h : v < 256 ^ k) : leValue (leBytes k v) = v := by
  induction k generalizing v with
  | zero => rw [Nat.lt_one_iff.mp h]; rfl
  | succ k ih =>
    simp only [leBytes, leValue, ih (v / 256) (Nat.div_lt_of_lt_mul (Nat.pow_succ' ▸ h)), UInt8.toNat_ofNat']
    omega

theorem readLE_put (k v : Nat) (rest : Bytes) (h : v < 256 ^ k) :
    readLE k (leBytes k v ++ rest) = some (v, rest) := by
  have hl := leBytes_length k v
  rw [readLE, if_pos (by rw [List.length_append, hl]; exact Nat.le_add_right k _), List.take_left' hl,
    List.drop_left' hl, leValue_leBytes k v h]

theorem readN_put (s rest : Bytes) : readN s.length (s ++ rest) = some (s, rest) := by
  unfold readN
  simp

theorem getField_put (w : Nat) (s rest : Bytes) (h : s.length < 256 ^ w) :
    getField w (putField w s ++ rest) = some (s, rest) := by
  unfold getField putField
  rw [List.append_assoc, readLE_put w s.length (s ++ rest) h]
  exact readN_put s rest

theorem getFields_put (w : Nat) (ss : List Bytes) (rest : Bytes) (h : ∀ s, s ∈ ss → s.length < 256 ^ w) :
    getFields w ss.length (putFields w ss ++ rest) = some (ss, rest) := by
  induction ss with
  | nil => rfl
  | cons s more ih =>
    obtain ⟨hs, hm⟩ := List.forall_mem_cons.mp h
    simp only [putFields, List.length_cons, getFields, List.append_assoc, getField_put w s _ hs, ih hm]

/-- the lengths fit their length fields, the ids fit their fields -/
structure WellSized (b : BinImage) : Prop where
  driver : b.driverId < 256 ^ 4
  config : b.configId < 256 ^ 8
  includes : b.includes.length < 256 ^ 2
  name : b.name.length < 256 ^ 2
  program : b.program.length < 256 ^ 4
  inheritNames : ∀ s, s ∈ b.inheritNames → s.length < 256 ^ 2
  strings : ∀ s, s ∈ b.strings → s.length < 256 ^ 2
  varNames : ∀ s, s ∈ b.varNames → s.length < 256 ^ 2
  funNames : ∀ s, s ∈ b.funNames → s.length < 256 ^ 2
  lineInfo : b.lineInfo.length < 256 ^ 2
  patches : b.patches.length < 256 ^ 2

/-- the counts inside the program block are the numbers of names written after it -/
structure CountsAgree (b : BinImage) : Prop where
  inherits : u16At b.program Gen.C17.offNumInherited = b.inheritNames.length
  strings : u16At b.program Gen.C17.offNumStrings = b.strings.length
  vars : u16At b.program Gen.C17.offNumVariablesDefined = b.varNames.length
  funs : u16At b.program Gen.C17.offNumFunctionsDefined = b.funNames.length

/-- one read of the decoder succeeds, and the rest of the decoder goes on from what it left -/
theorem read_then {α β : Type} {x : Option α} {a : α} {f : α → Option β} {r : β} (hx : x = some a)
    (hf : f a = some r) : x >>= f = some r := by
  rw [hx]; exact hf

theorem decodeBody_encodeBody (b : BinImage) (hs : WellSized b) (hc : CountsAgree b) :
    decodeBody b.magic.length (encodeBody b) = some b := by
  have hlast : putField 2 b.patches = putField 2 b.patches ++ [] := (List.append_nil _).symm
  unfold decodeBody encodeBody
  rw [hlast]
  simp only [List.append_assoc]
  refine read_then (readN_put _ _) ?_
  refine read_then (readLE_put 4 _ _ hs.driver) ?_
  refine read_then (readLE_put 8 _ _ hs.config) ?_
  refine read_then (getField_put 2 _ _ hs.includes) ?_
  refine read_then (getField_put 2 _ _ hs.name) ?_
  refine read_then (getField_put 4 _ _ hs.program) ?_
  refine read_then (hc.inherits ▸ getFields_put 2 _ _ hs.inheritNames) ?_
  refine read_then (hc.strings ▸ getFields_put 2 _ _ hs.strings) ?_
  refine read_then (hc.vars ▸ getFields_put 2 _ _ hs.varNames) ?_
  refine read_then (hc.funs ▸ getFields_put 2 _ _ hs.funNames) ?_
  refine read_then (getField_put 2 _ _ hs.lineInfo) ?_
  exact read_then (getField_put 2 _ _ hs.patches) rfl

/-- a body followed by its checksum passes the checksum test -/
theorem decodeFile_with_sum (n : Nat) (body : Bytes) :
    decodeFile n (body ++ leBytes 4 (fnv1a body).toNat) = decodeBody n body := by
  have hsum : (fnv1a body).toNat < 256 ^ 4 := by simpa using (fnv1a body).toNat_lt
  unfold decodeFile
  rw [List.length_append, leBytes_length, if_neg (Nat.not_lt.mpr (Nat.le_add_left 4 _)), Nat.add_sub_cancel,
    List.take_left' rfl, List.drop_left' rfl, leValue_leBytes 4 _ hsum]
  simp only [bne_self_eq_false, Bool.false_eq_true, if_false]

/-- **binary_file_roundtrip**: `load_binary` reads back, section by section, exactly what `save_binary` wrote — for every
    image that fits its length fields and whose counts agree — and the checksum it verifies first is the one written last. -/
theorem binary_file_roundtrip (b : BinImage) (hs : WellSized b) (hc : CountsAgree b) :
    decodeFile b.magic.length (encodeFile b) = some b :=
  (decodeFile_with_sum _ _).trans (decodeBody_encodeBody b hs hc)

/-- **decoded_file_has_valid_checksum**: whatever the bytes, a file of fewer than 4 bytes is not decoded, and a decoded file's
    checksum field equals the FNV-1a of everything before it (nothing is read before that test) -/
theorem decoded_file_has_valid_checksum (n : Nat) (file : Bytes) (b : BinImage) (h : decodeFile n file = some b) :
    4 ≤ file.length ∧ (fnv1a (file.take (file.length - 4))).toNat = leValue (file.drop (file.length - 4)) := by
  unfold decodeFile at h
  by_cases h1 : file.length < 4
  · simp [h1] at h
  · simp only [h1, if_false] at h
    by_cases h2 : ((fnv1a (file.take (file.length - 4))).toNat != leValue (file.drop (file.length - 4))) = true
    · simp [h2] at h
    · refine ⟨by omega, ?_⟩
      simpa using h2

theorem readLE_length {k : Nat} {bs rest : Bytes} {v : Nat} (h : readLE k bs = some (v, rest)) :
    k + rest.length = bs.length := by
  unfold readLE at h
  split at h
  · rename_i hk
    cases h
    rw [List.length_drop, Nat.add_sub_cancel' hk]
  · cases h

theorem readN_length {n : Nat} {bs s rest : Bytes} (h : readN n bs = some (s, rest)) :
    s.length = n ∧ n + rest.length = bs.length := by
  unfold readN at h
  split at h
  · rename_i hn
    cases h
    rw [List.length_drop, List.length_take, Nat.min_eq_left hn, Nat.add_sub_cancel' hn]
    exact ⟨rfl, rfl⟩
  · cases h

/-- every read is checked against what is left of the file: a field whose length field promises more bytes than remain
    is the `none` (= "corrupted" / short fread) outcome, never a read beyond the end -/
theorem getField_checks_length (w : Nat) (bs s rest : Bytes) (h : getField w bs = some (s, rest)) :
    w + s.length + rest.length = bs.length := by
  unfold getField at h
  split at h
  · cases h
  · rename_i n r hle
    rw [← readLE_length hle, (readN_length h).1, Nat.add_assoc, (readN_length h).2]

/-- **byte_model_follows_source_layout**: the byte-level model writes and reads the sections that the `[WRITE_*]` and
    `[READ_*]` blocks of binaries.c name, in their order, with their length-field widths; the ids of the preamble have
    the widths the C variables have; the four counts are 16-bit members of `program_t` (all read from the source or
    produced by the C compiler on every run) -/
theorem byte_model_follows_source_layout :
    Gen.C17.writeLayout = modelLayout ∧ Gen.C17.readLayout = ("CHECKSUM", 32) :: modelLayout.dropLast ∧
      Gen.C17.driverIdBytes = 4 ∧ Gen.C17.configIdBytes = 8 ∧ Gen.C17.magicId.length = 4 ∧
      Gen.C17.sizeofCount = 2 ∧ Gen.C17.sizeofFunctionNumber = 2 ∧
      Gen.C17.offNumInherited + 2 ≤ Gen.C17.sizeofProgram ∧ Gen.C17.offNumStrings + 2 ≤ Gen.C17.sizeofProgram ∧
      Gen.C17.offNumVariablesDefined + 2 ≤ Gen.C17.sizeofProgram ∧ Gen.C17.offNumFunctionsDefined + 2 ≤ Gen.C17.sizeofProgram :=
  ⟨rfl, rfl, rfl, rfl, rfl, rfl, rfl, by decide, by decide, by decide, by decide⟩

/-- **layout_write_read_agree**: the sections of the file between preamble and checksum are written and read in the same
    order and with length fields of the same width (both lists are regenerated from the `[WRITE_*]` / `[READ_*]` blocks
    of binaries.c on every run: moving, dropping or resizing a block on one side only breaks this obligation). -/
theorem layout_write_read_agree :
    Gen.C17.writeLayout.filter (fun s => s.1 != "CHECKSUM") = Gen.C17.readLayout.filter (fun s => s.1 != "CHECKSUM") := by
  decide +kernel

/-- **layout_checksum_covers_file**: the checksum is the last thing written and the first thing verified -/
theorem layout_checksum_covers_file :
    Gen.C17.writeLayout.getLast? = some ("CHECKSUM", 32) ∧ Gen.C17.readLayout.head? = some ("CHECKSUM", 32) :=
  ⟨rfl, rfl⟩

/-- non-vacuity: a small image (2 strings, 1 function, no inherits); the program block has the size of `program_t` and the
    counts sit at the offsets the C compiler reports on this run, the driver id is the one in the source -/
def sampleImage : BinImage :=
  { magic := [78, 69, 79, 76], driverId := Gen.C17.driverId, configId := 1000, includes := [104, 46, 104, 0],
    name := [97, 46, 99], program := sampleProgram 0 2 0 1, inheritNames := [], strings := [[120], [121, 122]],
    varNames := [], funNames := [[102]],
    lineInfo := [4, 0, 2, 0], patches := [] }

set_option maxRecDepth 16384 in
example : decodeFile 4 (encodeFile sampleImage) = some sampleImage :=
  binary_file_roundtrip sampleImage (by constructor <;> decide +kernel) (by constructor <;> decide +kernel)

end NV.C17
