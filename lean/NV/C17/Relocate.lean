/-
C17 — addresses in a saved program (NV/C17/Model.lean, parts (c), (d), (e)): `locate_out` / `locate_in` turn the pointer
members of `program_t` into offsets and back, `patch_out` / `patch_in` do the same for the keys of string switch tables
(and `patch_in` leaves every table in the order `f_switch` searches), and the patch list names every string switch.
The inventories read from the source on every run (pointer members of `program_t`, pointers inside the block,
`ins_intptr` operands, the C types on the patch path) are compared with what the model covers.
-/
import NV.C17.Model
import NV.C17.QSortLemmas

namespace NV.C17

theorem bv_sub_ne_zero (x b : BitVec 64) (h : x ≠ b) : x - b ≠ 0 :=
  fun hc => h (by simpa [hc] using (BitVec.sub_add_cancel x b).symm)

/-- a member `x` relocated under the guard `g` (`inherit` and `type_start` guard themselves, `type_start` guards
    `argument_types`): written at `b1` and read at `b2` it moves by `b2 - b1` when the guard is set, and stays when the
    guard is NULL — provided a set guard does not sit at `b1` itself, where its offset 0 would read as NULL -/
theorem relocate_guarded (b1 b2 g x : BitVec 64) (h : g = 0 ∨ g ≠ b1) :
    (if (if g ≠ 0 then g - b1 else g) ≠ 0 then (if g ≠ 0 then x - b1 else x) + b2 else (if g ≠ 0 then x - b1 else x))
      = if g ≠ 0 then x - b1 + b2 else x := by
  by_cases hz : g = 0
  · simp [hz]
  · simp only [ne_eq, hz, not_false_eq_true, if_true, bv_sub_ne_zero g b1 (h.resolve_left hz)]

/-- **relocate_roundtrip**: `locate_in ∘ locate_out = id` on every program whose guarded members (`inherit`,
    `type_start`) are NULL or do not coincide with the program's own address (in a real program they point behind the
    header). -/
theorem relocate_roundtrip (b : BitVec 64) (p : ProgPtrs) (h : p.typeStart = 0 ∨ p.typeStart ≠ b)
    (hi : p.inherit = 0 ∨ p.inherit ≠ b) : locateIn b (locateOut b p) = p := by
  cases p
  simp only [locateIn, locateOut, relocate_guarded b b _ _ h, relocate_guarded b b _ _ hi, BitVec.sub_add_cancel,
    ite_self]

/-- **relocate_offsets_preserved**: written at address `b1` and loaded at address `b2`, every relocated member keeps its
    offset from the start of the program block (the 10 unconditional members; with a non-NULL `inherit` / `type_start`
    also the guarded ones), and a NULL `inherit` stays NULL (no wild pointer after a load). -/
theorem relocate_offsets_preserved (b1 b2 : BitVec 64) (p : ProgPtrs) :
    let q := locateIn b2 (locateOut b1 p)
    q.program - b2 = p.program - b1 ∧ q.functionTable - b2 = p.functionTable - b1 ∧
    q.functionFlags - b2 = p.functionFlags - b1 ∧ q.functionOffsets - b2 = p.functionOffsets - b1 ∧
    q.functionCompressed - b2 = p.functionCompressed - b1 ∧ q.strings - b2 = p.strings - b1 ∧
    q.variableTable - b2 = p.variableTable - b1 ∧ q.variableTypes - b2 = p.variableTypes - b1 ∧
    q.classes - b2 = p.classes - b1 ∧ q.classMembers - b2 = p.classMembers - b1 ∧
    (p.inherit = 0 → q.inherit = 0) ∧
    (p.inherit ≠ 0 → p.inherit ≠ b1 → q.inherit - b2 = p.inherit - b1) ∧
    (p.typeStart ≠ 0 → p.typeStart ≠ b1 →
      q.argumentTypes - b2 = p.argumentTypes - b1 ∧ q.typeStart - b2 = p.typeStart - b1) := by
  simp only [locateIn, locateOut, BitVec.add_sub_cancel, true_and]
  refine ⟨?_, ?_, ?_⟩
  · intro h0
    simp [h0]
  · intro hz hb
    simp only [ne_eq, if_pos hz, if_pos (bv_sub_ne_zero p.inherit b1 hb), BitVec.add_sub_cancel]
  · intro hz hb
    simp only [ne_eq, if_pos hz, if_pos (bv_sub_ne_zero p.typeStart b1 hb), BitVec.add_sub_cancel, and_self]

example : locateIn 0x5000#64 (locateOut 0x1000#64
    ⟨0x10a8, 0x1100, 0x1200, 0x1300, 0x1400, 0x1500, 0x1600, 0x1700, 0, 0x1800, 0x1900, 0x1a00, 0x1b00⟩)
    = ⟨0x50a8, 0x5100, 0x5200, 0x5300, 0x5400, 0x5500, 0x5600, 0x5700, 0, 0x5800, 0x5900, 0x5a00, 0x5b00⟩ := by
  decide +kernel

/-- **relocation_members_tied**: the members that `locate_out` and `locate_in` relocate in the source — read from both
    functions on every run, each with the member that guards it (`if (prog->inherit)`, `if (prog->type_start)`) — are exactly the members of the model's
    `ProgPtrs`, in the same order and under the same guard, on both sides -/
theorem relocation_members_tied :
    Gen.C17.locateOutMembers = relocatedMembers ∧ Gen.C17.locateInMembers = relocatedMembers ∧
      relocatedMembers.length = (ProgPtrs.fields ⟨0, 0, 0, 0, 0, 0, 0, 0, 0, 0, 0, 0, 0⟩).length :=
  ⟨rfl, rfl, rfl⟩

/-- **every_pointer_member_handled**: every pointer-typed member of `program_t` (read from lib/lpc/program.h on every
    run) is either relocated by locate_out/locate_in or is one of the members that do not point into the program
    block, and those `load_binary` assigns itself; a pointer member added to the struct breaks this obligation until it
    is put into one of the two lists -/
theorem every_pointer_member_handled :
    (∀ m, m ∈ Gen.C17.programPointerMembers → m ∈ relocatedMembers.map (·.1) ∨ m ∈ rebuiltMembers) ∧
      (∀ m, m ∈ rebuiltMembers → m ∈ Gen.C17.loadBinaryAssigns) ∧
      (∀ m, m ∈ relocatedMembers.map (·.1) → m ∈ Gen.C17.programPointerMembers) := by
  decide +kernel

/-- **only_switch_keys_are_addresses**: the operands the code generator stores as machine words (`ins_intptr`, read from
    icode.c on every run) are the three kinds of switch-table key the model knows; the only address among them is the
    string-switch key, which is what the patch list covers (`all_string_switches_patched`).  A new address-valued operand
    (a function name, a class name …) emitted into the byte code breaks this obligation. -/
theorem only_switch_keys_are_addresses : Gen.C17.intptrOperands = modelIntptrOperands := rfl

/-- **every_block_pointer_recreated**: every pointer stored inside the saved program block — the pointer-typed members of
    the structures that live there and the elements of the `char **` tables, read from lib/lpc/program.h on every run — is
    one of the four the model knows, and `load_binary` assigns each of them after reading the block (assignments read from
    load_binary).  A new pointer member in one of these structures, or a dropped re-creation, breaks the obligation. -/
theorem every_block_pointer_recreated :
    (∀ p, p ∈ Gen.C17.blockStructPointers ++ Gen.C17.blockPointerTables → p ∈ modelBlockPointers) ∧
      (∀ p, p ∈ modelBlockPointers → p ∈ Gen.C17.blockPointersRecreated) ∧
      (∀ p, p ∈ modelBlockPointers → p ∈ Gen.C17.blockStructPointers ++ Gen.C17.blockPointerTables) := by
  decide +kernel

/-- **patch_offsets_read_unsigned**: with the C types read from the source on this run — the 16-bit entry the code
    generator records, the cast through which patch_out and patch_in read it, the type of the table bounds — every program
    offset below 65536 arrives unchanged (in particular offsets and tables above 32767 are not sign-extended), on the
    saving and on the loading side.  A narrowed type or a dropped cast breaks this obligation. -/
theorem patch_offsets_read_unsigned (raw : Nat) (h : raw < 65536) :
    readPatchOffset Gen.C17.patchOutOffsetCast raw = raw ∧ readPatchOffset Gen.C17.patchInOffsetCast raw = raw ∧
      readTableBound Gen.C17.patchOutBoundsType raw = raw ∧ readTableBound Gen.C17.patchInBoundsType raw = raw ∧
      Gen.C17.patchEntryType = "short" := by
  have : raw % 65536 = raw := Nat.mod_eq_of_lt h
  refine ⟨?_, ?_, ?_, ?_, by decide⟩ <;>
    simp [readPatchOffset, readTableBound, Gen.C17.patchOutOffsetCast, Gen.C17.patchInOffsetCast,
      Gen.C17.patchOutBoundsType, Gen.C17.patchInBoundsType, this]

theorem swLe_trans (a b c : SwEntry) : swLe a b = true → swLe b c = true → swLe a c = true := by
  simp only [swLe, decide_eq_true_eq]; omega

theorem swLe_total (a b : SwEntry) : (swLe a b || swLe b a) = true := by
  simp only [swLe, Bool.or_eq_true, decide_eq_true_eq]; omega

theorem swLt_asymm (a b : SwEntry) : swLt a b = true → swLt b a = false := by
  simp only [swLt, decide_eq_true_eq, decide_eq_false_iff_not]; omega

theorem swLt_trans (a b c : SwEntry) : swLt a b = true → swLt b c = true → swLt a c = true := by
  simp only [swLt, decide_eq_true_eq]; omega

theorem quickSort_switch_table (es : List SwEntry) :
    ∃ out, quickSortL swLt es = some out ∧ out.Perm es ∧ out.Pairwise (fun a b => a.key ≤ b.key) := by
  obtain ⟨out, e, hp, hs⟩ := quickSortL_spec swLt es
  refine ⟨out, e, hp, (hs ⟨swLt_asymm, swLt_trans⟩).imp ?_⟩
  intro a b h
  simp only [swLt, decide_eq_false_iff_not] at h
  omega

/-- **switch_tables_sorted_after_patch**: whatever addresses the strings of a reloaded program received, after
    `patch_in` every string switch table is in ascending order of the key compared as a signed 64-bit integer — the
    order `f_switch` assumes in its binary search (`s < r` / `s > r` on `intptr_t`) — and holds the same entries. -/
theorem switch_tables_sorted_after_patch (strings : List Int) (es out : List SwEntry)
    (h : patchInTable strings es = some out) :
    out.Pairwise (fun a b => a.key ≤ b.key) ∧
      ∃ es', es.mapM (fun e =>
        if e.key = -1 then some { e with key := 0 }
        else if e.key < 0 then none
        else (strings[e.key.toNat]?).map (fun p => { e with key := p })) = some es' ∧ out.Perm es' := by
  obtain ⟨es', hm, hq⟩ := Option.bind_eq_some_iff.mp h
  obtain ⟨o, e, hp, hs⟩ := quickSort_switch_table es'
  cases hq.symm.trans e
  exact ⟨hs, es', hm, hp⟩

/-- `patch_in` converts every table whose indices are inside the string table (it cannot fail in the sort) -/
theorem patch_in_total (strings : List Int) (es es' : List SwEntry)
    (hm : es.mapM (fun e =>
        if e.key = -1 then some { e with key := 0 }
        else if e.key < 0 then none
        else (strings[e.key.toNat]?).map (fun p => { e with key := p })) = some es') :
    ∃ out, patchInTable strings es = some out ∧ out.Perm es' ∧ out.Pairwise (fun a b => a.key ≤ b.key) := by
  rw [patchInTable, hm]
  exact quickSort_switch_table es'

/-- non-vacuity: indices 0..3 and the 0 label, strings at far apart addresses (more than 2^32 between them) -/
example : patchInTable [4096, 8192, 100, 6442450944] [⟨0, 10⟩, ⟨1, 11⟩, ⟨2, 12⟩, ⟨3, 13⟩, ⟨-1, 9⟩]
    = some [⟨0, 9⟩, ⟨100, 12⟩, ⟨4096, 10⟩, ⟨8192, 11⟩, ⟨6442450944, 13⟩] := by
  decide +kernel

theorem mapM_roundtrip {α β : Type} (f : α → Option β) (g : β → Option α)
    (hfg : ∀ a b, f a = some b → g b = some a) :
    ∀ (l : List α) (l' : List β), l.mapM f = some l' → l'.mapM g = some l := by
  intro l
  induction l with
  | nil => intro l' h; cases h; rfl
  | cons a rest ih =>
    intro l' h
    simp only [List.mapM_cons, Option.bind_eq_bind, Option.bind_eq_some_iff, Option.pure_def,
      Option.some.injEq] at h
    obtain ⟨b, hb, bs, hbs, rfl⟩ := h
    simp only [List.mapM_cons, hfg a b hb, ih bs hbs, Option.bind_eq_bind, Option.bind_some, Option.pure_def]

theorem indexOfPtr_getElem? (strings : List Int) (p : Int) (i : Nat) (h : indexOfPtr strings p = some i) :
    strings[i]? = some p := by
  simp only [indexOfPtr] at h
  split at h
  · rename_i hlt
    cases h
    rw [List.getElem?_eq_getElem hlt]
    simpa using List.findIdx_getElem (w := hlt)
  · cases h

/-- one switch-table entry: the index that `patch_out` stores leads `patch_in` back to the same address -/
theorem patch_entry_roundtrip (strings : List Int) (e e' : SwEntry)
    (h : (if e.key = 0 then some { e with key := -1 }
          else (indexOfPtr strings e.key).map (fun i => { e with key := (i : Int) })) = some e') :
    (if e'.key = -1 then some { e' with key := 0 }
     else if e'.key < 0 then none
     else (strings[e'.key.toNat]?).map (fun p => { e' with key := p })) = some e := by
  split at h
  · rename_i hz
    cases h
    rw [if_pos rfl, ← hz]
  · obtain ⟨i, hi, rfl⟩ := Option.map_eq_some_iff.mp h
    have hne : ¬ (i : Int) = -1 := by omega
    have hnn : ¬ (i : Int) < 0 := by omega
    simp only [hne, hnn, if_false, Int.toNat_natCast, indexOfPtr_getElem? strings e.key i hi, Option.map_some]

/-- **patch_roundtrip**: `patch_in ∘ patch_out` restores every string switch table that `patch_out` can convert (every
    key is the 0 label or the address of a string of the program): the same entries with the same addresses, in the
    order `f_switch` searches — for ANY table, sorted or not, and any string table. -/
theorem patch_roundtrip (strings : List Int) (es mid : List SwEntry)
    (h : patchOutTable strings es = some mid) :
    ∃ out, patchInTable strings mid = some out ∧ out.Perm es ∧ out.Pairwise (fun a b => a.key ≤ b.key) :=
  patch_in_total strings mid es (mapM_roundtrip _ _ (patch_entry_roundtrip strings) es mid h)

/-- non-vacuity: a table with the 0 label; addresses more than 2^32 apart -/
example : patchOutTable [4096, 8192, 100, 6442450944] [⟨0, 9⟩, ⟨100, 12⟩, ⟨4096, 10⟩, ⟨6442450944, 13⟩]
    = some [⟨-1, 9⟩, ⟨2, 12⟩, ⟨0, 10⟩, ⟨3, 13⟩] := by decide +kernel

/-- **all_string_switches_patched**: the patch list handed to `save_binary` names exactly the string switches of the
    program, in generation order — unconditionally: the code appends to A_PATCH for every NODE_SWITCH_STRINGS whatever
    the pragma state when the switch is generated (the site is read from icode.c on every run), so a
    `#pragma save_binary` below a function, in an include file, or re-enabled after `#pragma no_save_binary` still
    finds every table in the list when `epilog` decides to save. -/
theorem all_string_switches_patched (evs : List GenEv) : genPatches evs = stringSwitchSites evs := by
  induction evs with
  | nil => rfl
  | cons e rest ih => cases e <;> simp [genPatches, stringSwitchSites, ih]

/-- in particular for a program that is saved although the pragma came after its switches -/
example :
    let evs := [GenEv.stringSwitch 12, .otherSwitch 40, .stringSwitch 90, .pragmaSaveBinary false, .stringSwitch 130,
                .pragmaSaveBinary true]
    savedAtEnd evs = true ∧ genPatches evs = [12, 90, 130] := by decide

end NV.C17
