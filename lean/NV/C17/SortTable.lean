/-
C17 — `sort_function_table` (NV/C17/Model.lean, part (b)): the permutation table that `quickSort` leaves is inverted
correctly, the n-1 swaps driven by `sorttmp`/`invtmp` apply it to the function table in place without leaving the arrays
(`swap_loop_correct`, invariant `SwapInv`), the result is the table in the order of `compare_compiler_funcs`
(`perm_sort_correct`, `function_table_sorted`), the remapped `f_index` slots and the `type_start` array follow.
-/
import NV.C17.Model
import NV.C17.QSortLemmas

namespace NV.C17

section
variable {α : Type}

namespace Arr

theorem read_of_lt {a : Arr α} {i : Nat} (h : i < a.size) : a.read i = some (a.get i) := if_pos h

theorem write_of_lt {a : Arr α} {i : Nat} (h : i < a.size) (v : α) : a.write i v = some (a.set i v) := if_pos h

@[simp] theorem get_set_self (a : Arr α) (i : Nat) (v : α) : (a.set i v).get i = v := if_pos rfl

theorem get_set_ne (a : Arr α) {i j : Nat} (v : α) (h : j ≠ i) : (a.set i v).get j = a.get j := if_neg h

theorem get_ofList [Inhabited α] (l : List α) (i : Nat) (h : i < l.length) : (ofList l).get i = l[i] := by
  simp [ofList, List.getD_eq_getElem?_getD, h]

theorem toList_ofList [Inhabited α] (l : List α) : (ofList l).toList = l :=
  List.ext_getElem (by simp [toList, ofList]) fun i _ h => by simp [toList, get_ofList l i h]

end Arr

/-- the state after the five assignments of one iteration, with `wh = sorttmp[i]` and `ii = invtmp[i]` -/
def exchanged (s : SwapSt α) (i wh ii : Nat) : SwapSt α :=
  ⟨(s.tab.set i (s.tab.get wh)).set wh (s.tab.get i), s.sorttmp.set ii wh, s.invtmp.set wh ii⟩

theorem swapStep_of_bounds {s : SwapSt α} {i n : Nat} (szT : s.tab.size = n) (szS : s.sorttmp.size = n)
    (szV : s.invtmp.size = n) (hi : i < n) (hw : s.sorttmp.get i < n) (hii : s.invtmp.get i < n) :
    swapStep s i =
      some (if i = s.sorttmp.get i then s else exchanged s i (s.sorttmp.get i) (s.invtmp.get i)) := by
  unfold swapStep exchanged
  rw [Arr.read_of_lt (szS ▸ hi)]
  by_cases hwi : i = s.sorttmp.get i
  · simp only [Option.bind_eq_bind, Option.bind_some, if_pos hwi, Option.pure_def]
  · simp only [Option.bind_eq_bind, Option.bind_some, if_neg hwi, Option.pure_def,
      Arr.read_of_lt (szT ▸ hi), Arr.read_of_lt (szT ▸ hw), Arr.write_of_lt (szT ▸ hi), Arr.read_of_lt (szV ▸ hi),
      Arr.write_of_lt (szS ▸ hii), Arr.write_of_lt (szV ▸ hw),
      Arr.write_of_lt (a := s.tab.set i (s.tab.get (s.sorttmp.get i))) (szT ▸ hw)]

/-- `g` undoes `f` on [i, n), which `f` maps into itself -/
def InvOn (i n : Nat) (f g : Arr Nat) : Prop :=
  ∀ k, i ≤ k → k < n → i ≤ f.get k ∧ f.get k < n ∧ g.get (f.get k) = k

/-- `f` fixes `i`: nothing else in [i, n) is sent to `i` -/
theorem InvOn.skip {i n : Nat} {f g : Arr Nat} (h : InvOn i n f g) (hi : i < n) (hw : f.get i = i) :
    InvOn (i + 1) n f g := by
  have hv := (h i (Nat.le_refl i) hi).2.2
  intro k hk hkn
  obtain ⟨g1, g2, g3⟩ := h k (Nat.le_of_succ_le hk) hkn
  refine ⟨Nat.lt_of_le_of_ne g1 fun hc => ?_, g2, g3⟩
  rw [← hc, ← hw, hv] at g3
  exact Nat.ne_of_lt hk g3

/-- `i` is taken out of the cycle it lies on: what was sent to `i` (from `g i`) is now sent where `i` was sent.  Only
    this direction of the inverse pair is needed, so the other direction is the same lemma with `f` and `g` exchanged -/
theorem InvOn.step {i n : Nat} {f g : Arr Nat} (h : InvOn i n f g) (hi : i < n) :
    InvOn (i + 1) n (f.set (g.get i) (f.get i)) (g.set (f.get i) (g.get i)) := by
  obtain ⟨f1, f2, f3⟩ := h i (Nat.le_refl i) hi
  intro k hk hkn
  obtain ⟨g1, g2, g3⟩ := h k (Nat.le_of_succ_le hk) hkn
  by_cases hk' : k = g.get i
  · rw [hk', Arr.get_set_self, Arr.get_set_self]
    exact ⟨Nat.lt_of_le_of_ne f1 fun hc => by rw [← hc, ← hk'] at f3; exact Nat.ne_of_lt hk f3.symm, f2, rfl⟩
  · have hne_i : f.get k ≠ i := fun hc => by rw [hc] at g3; exact hk' g3.symm
    have hne_w : f.get k ≠ f.get i := fun hc => by rw [hc, f3] at g3; exact Nat.ne_of_lt hk g3
    rw [Arr.get_set_ne _ _ hk', Arr.get_set_ne _ _ hne_w]
    exact ⟨Nat.lt_of_le_of_ne g1 hne_i.symm, g2, g3⟩

/-- invariant before iteration `i`: positions below `i` are final; on the rest `sorttmp` ("where is the entry that
    belongs at k") and `invtmp` ("where does the entry at j belong") are mutually inverse bijections of [i, n), and the
    entry at `j` is the one that belongs at `invtmp[j]` -/
structure SwapInv (n : Nat) (T0 : Nat → α) (σ : Nat → Nat) (i : Nat) (s : SwapSt α) : Prop where
  szT : s.tab.size = n
  szS : s.sorttmp.size = n
  szV : s.invtmp.size = n
  done : ∀ k, k < i → s.tab.get k = T0 (σ k)
  fwd : InvOn i n s.sorttmp s.invtmp
  bwd : InvOn i n s.invtmp s.sorttmp
  rest : ∀ j, i ≤ j → j < n → s.tab.get j = T0 (σ (s.invtmp.get j))

variable {n : Nat} {T0 : Nat → α} {σ : Nat → Nat} {i : Nat} {s : SwapSt α}

/-- `i == where`: the entry that belongs at `i` is there already, and no other position points at `i` -/
theorem SwapInv.skip (h : SwapInv n T0 σ i s) (hi : i < n) (hw : i = s.sorttmp.get i) :
    SwapInv n T0 σ (i + 1) s := by
  have hv : s.invtmp.get i = i := by have := (h.fwd i (Nat.le_refl i) hi).2.2; rwa [← hw] at this
  refine ⟨h.szT, h.szS, h.szV, Nat.forall_lt_succ_right.mpr ⟨h.done, ?_⟩, h.fwd.skip hi hw.symm, h.bwd.skip hi hv,
    fun j hj => h.rest j (Nat.le_of_succ_le hj)⟩
  have := h.rest i (Nat.le_refl i) hi
  rwa [hv] at this

/-- the exchange: the entry for `i` comes from `wh = sorttmp[i]`; the entry that was at `i` now sits at `wh` and still
    belongs at `ii = invtmp[i]`, so `sorttmp[ii]` and `invtmp[wh]` are redirected (`InvOn.step`, once for each array) -/
theorem SwapInv.swap (h : SwapInv n T0 σ i s) (hi : i < n) (hw : i ≠ s.sorttmp.get i) :
    SwapInv n T0 σ (i + 1) (exchanged s i (s.sorttmp.get i) (s.invtmp.get i)) := by
  obtain ⟨f1, f2, f3⟩ := h.fwd i (Nat.le_refl i) hi
  refine ⟨h.szT, h.szS, h.szV, ?_, h.fwd.step hi, h.bwd.step hi, ?_⟩ <;> dsimp only [exchanged]
  · intro k hk
    rcases Nat.lt_succ_iff_lt_or_eq.mp hk with hk | rfl
    · rw [Arr.get_set_ne _ _ (Nat.ne_of_lt (Nat.lt_of_lt_of_le hk f1)), Arr.get_set_ne _ _ (Nat.ne_of_lt hk)]
      exact h.done k hk
    · rw [Arr.get_set_ne _ _ hw, Arr.get_set_self, h.rest _ f1 f2, f3]
  · intro j hj hjn
    by_cases hj' : j = s.sorttmp.get i
    · rw [hj', Arr.get_set_self, Arr.get_set_self]
      exact h.rest i (Nat.le_refl i) hi
    · rw [Arr.get_set_ne _ _ hj', Arr.get_set_ne _ _ hj', Arr.get_set_ne _ _ (Nat.ne_of_gt hj)]
      exact h.rest j (Nat.le_of_succ_le hj) hjn

theorem swapStep_inv (h : SwapInv n T0 σ i s) (hi : i < n) :
    ∃ s', swapStep s i = some s' ∧ SwapInv n T0 σ (i + 1) s' := by
  refine ⟨_, swapStep_of_bounds h.szT h.szS h.szV hi (h.fwd i (Nat.le_refl i) hi).2.1
    (h.bwd i (Nat.le_refl i) hi).2.1, ?_⟩
  split
  · exact h.skip hi ‹_›
  · exact h.swap hi ‹_›

theorem swapFrom_inv :
    ∀ (fuel i : Nat) (s : SwapSt α), SwapInv n T0 σ i s → i + fuel ≤ n →
      ∃ s', swapFrom s i fuel = some s' ∧ SwapInv n T0 σ (i + fuel) s' := by
  intro fuel
  induction fuel with
  | zero => intro i s h _; exact ⟨s, rfl, h⟩
  | succ f ih =>
    intro i s h hle
    obtain ⟨s1, e1, h1⟩ := swapStep_inv h (Nat.lt_of_lt_of_le (Nat.lt_add_of_pos_right (Nat.succ_pos f)) hle)
    obtain ⟨s2, e2, h2⟩ := ih (i + 1) s1 h1 (Nat.add_right_comm i 1 f ▸ hle)
    refine ⟨s2, ?_, Nat.add_right_comm i 1 f ▸ h2⟩
    simp only [swapFrom, e1, Option.bind_eq_bind, Option.bind_some, e2]

/-- after all but one iterations the last position is right as well -/
theorem swapInv_final {m : Nat} (h : SwapInv (m + 1) T0 σ m s) : ∀ k, k < m + 1 → s.tab.get k = T0 (σ k) := by
  obtain ⟨g1, g2, _⟩ := h.bwd m (Nat.le_refl m) (Nat.lt_succ_self m)
  have := h.rest m (Nat.le_refl m) (Nat.lt_succ_self m)
  rw [Nat.le_antisymm (Nat.le_of_lt_succ g2) g1] at this
  exact Nat.forall_lt_succ_right.mpr ⟨h.done, this⟩

end

/-- **swap_loop_correct**: for every table and every permutation `temp` with inverse table `inverse`, the loop of n-1
    swaps driven by `sorttmp`/`invtmp` never leaves the arrays and leaves `tab[k] = old tab[temp[k]]` everywhere. -/
theorem swap_loop_correct {α : Type} (tab : Arr α) (temp inverse : Arr Nat) (n : Nat)
    (hT : tab.size = n) (hS : temp.size = n) (hV : inverse.size = n)
    (h1 : ∀ i, i < n → temp.get i < n ∧ inverse.get (temp.get i) = i)
    (h2 : ∀ j, j < n → inverse.get j < n ∧ temp.get (inverse.get j) = j) :
    ∃ out, swapLoop tab temp inverse = some out ∧ out.size = n ∧ ∀ k, k < n → out.get k = tab.get (temp.get k) := by
  have inv0 : SwapInv n tab.get temp.get 0 ⟨tab, temp, inverse⟩ :=
    ⟨hT, hS, hV, fun k hk => absurd hk (Nat.not_lt_zero k),
      fun k _ hk => ⟨Nat.zero_le _, h1 k hk⟩, fun j _ hj => ⟨Nat.zero_le _, h2 j hj⟩,
      fun j _ hj => congrArg tab.get (h2 j hj).2.symm⟩
  unfold swapLoop
  rw [hT]
  cases n with
  | zero => exact ⟨tab, rfl, hT, fun k hk => absurd hk (Nat.not_lt_zero k)⟩
  | succ m =>
    obtain ⟨s', e, hinv⟩ := swapFrom_inv m 0 _ inv0 (by rw [Nat.zero_add]; exact Nat.le_succ m)
    rw [Nat.zero_add] at hinv
    exact ⟨s'.tab, by rw [Nat.add_sub_cancel, e]; rfl, hinv.szT, swapInv_final hinv⟩

theorem inverseLoop_spec (temp : Arr Nat) (n : Nat) (hn : temp.size = n)
    (hr : ∀ i, i < n → temp.get i < n)
    (hinj : ∀ i j, i < n → j < n → temp.get i = temp.get j → i = j) :
    ∀ k, k ≤ n → ∃ inv, inverseLoop temp k ⟨n, fun _ => 0⟩ = some inv ∧ inv.size = n ∧
      ∀ i, i < k → inv.get (temp.get i) = i := by
  intro k
  induction k with
  | zero => intro _; exact ⟨_, rfl, rfl, fun i hi => absurd hi (Nat.not_lt_zero i)⟩
  | succ k ih =>
    intro hk
    obtain ⟨inv, e, hs, hv⟩ := ih (Nat.le_of_succ_le hk)
    refine ⟨inv.set (temp.get k) k, ?_, hs, ?_⟩
    · simp only [inverseLoop, e, Option.bind_eq_bind, Option.bind_some, Arr.read_of_lt (hn ▸ hk),
        Arr.write_of_lt (hs ▸ hr k hk)]
    · refine Nat.forall_lt_succ_right.mpr ⟨fun i hi => ?_, Arr.get_set_self _ _ _⟩
      rw [Arr.get_set_ne _ _ fun hc => Nat.ne_of_lt hi (hinj i k (Nat.lt_of_lt_of_le hi (Nat.le_of_succ_le hk)) hk hc)]
      exact hv i hi

/-- the number of `;` in qSort + quickSort, counted in lib/misc/qsort.c on every run, is the number the model in
    NV/C17/QSort.lean was written against (only the count is compared here: a statement added or dropped breaks this
    obligation, a changed one does not) -/
theorem qsort_statements_tied : Gen.C17.qsortStatements = modelQsortStatements := rfl

/-- **sort_perm_from_quicksort**: `quickSort (temp, num, sizeof (int), compare_compiler_funcs)` — the model of the code
    of lib/misc/qsort.c, not a library sort — never leaves `temp`, and leaves in it a rearrangement of 0..num-1 that,
    for a comparison that is a strict order, lists the table in non-descending order -/
theorem sort_perm_from_quicksort {α : Type} [Inhabited α] (lt : α → α → Bool) (table : List α) :
    ∃ temp, sortPerm lt table = some temp ∧ temp.Perm (List.range table.length) ∧
      ((∀ x y, lt x y = true → lt y x = false) → (∀ x y z, lt x y = true → lt y z = true → lt x z = true) →
        temp.Pairwise (fun i j => lt (table.getD j default) (table.getD i default) = false)) := by
  obtain ⟨l', e, hp, hs⟩ :=
    quickSortL_spec (fun x y => lt (table.getD x default) (table.getD y default)) (List.range table.length)
  exact ⟨l', e, hp, fun asym trans => hs ⟨fun x y => asym _ _, fun x y z => trans _ _ _⟩⟩

theorem mkInverse_permTable (n : Nat) (l : List Nat) (hp : l.Perm (List.range n)) :
    let temp := Arr.ofList l
    ∃ inv, mkInverse temp = some inv ∧ inv.size = n ∧
      (∀ i, i < n → temp.get i < n ∧ inv.get (temp.get i) = i) ∧
      (∀ j, j < n → inv.get j < n ∧ temp.get (inv.get j) = j) := by
  intro temp
  cases hp.length_eq.trans List.length_range
  have hr : ∀ i, i < l.length → temp.get i < l.length := fun i hi => by
    rw [Arr.get_ofList l i hi]
    exact List.mem_range.mp (hp.mem_iff.mp (List.getElem_mem hi))
  -- the entries of a permutation of 0..n-1 are pairwise distinct, and every j < n is among them
  obtain ⟨inv, e, hs, hv⟩ := inverseLoop_spec temp l.length rfl hr (fun i j hi hj e => by
    rw [Arr.get_ofList l i hi, Arr.get_ofList l j hj] at e
    exact (List.getElem_inj (hp.nodup_iff.mpr List.nodup_range)).mp e) l.length (Nat.le_refl _)
  refine ⟨inv, e, hs, fun i hi => ⟨hr i hi, hv i hi⟩, fun j hj => ?_⟩
  obtain ⟨i, hi, rfl⟩ := List.getElem_of_mem (hp.mem_iff.mpr (List.mem_range.mpr hj))
  rw [← Arr.get_ofList l i hi, hv i hi]
  exact ⟨hi, rfl⟩

/-- the table read through a permutation table: entry k is the old entry number `temp[k]` -/
def sortedBy {α : Type} [Inhabited α] (temp : List Nat) (table : List α) : List α :=
  temp.map (fun x => table.getD x default)

theorem sortedBy_perm {α : Type} [Inhabited α] (temp : List Nat) (table : List α)
    (hp : temp.Perm (List.range table.length)) : (sortedBy temp table).Perm table :=
  (hp.map _).trans (.of_eq (Arr.toList_ofList table))

/-- **perm_sort_correct**: for every function table and every comparison `lt` that is a strict order, the code of
    `sort_function_table` — `quickSort` on the permutation table (the code of qsort.c), inverse table, n-1 swaps — does
    not leave its arrays and yields the table in non-descending order, a permutation of the old table. -/
theorem perm_sort_correct {α : Type} [Inhabited α] (lt : α → α → Bool)
    (asym : ∀ x y, lt x y = true → lt y x = false)
    (trans : ∀ x y z, lt x y = true → lt y z = true → lt x z = true) (table : List α) :
    ∃ temp inv out, sortPerm lt table = some temp ∧ mkInverse (Arr.ofList temp) = some inv ∧
      swapLoop (Arr.ofList table) (Arr.ofList temp) inv = some out ∧
      out.toList = sortedBy temp table ∧
      (out.toList).Pairwise (fun a b => lt b a = false) ∧ (out.toList).Perm table := by
  obtain ⟨temp, et, hp, hsorted⟩ := sort_perm_from_quicksort lt table
  obtain ⟨inv, e, hs, h1, h2⟩ := mkInverse_permTable table.length temp hp
  have hlen : temp.length = table.length := hp.length_eq.trans List.length_range
  obtain ⟨out, eo, hsz, hv⟩ := swap_loop_correct (Arr.ofList table) (Arr.ofList temp) inv table.length
    rfl hlen hs h1 h2
  have hl : out.toList = sortedBy temp table := by
    rw [Arr.toList, hsz, List.map_congr_left fun k hk => hv k (List.mem_range.mp hk), ← hlen]
    exact List.map_map.symm.trans (congrArg (List.map _) (Arr.toList_ofList temp))
  refine ⟨temp, inv, out, et, e, eo, hl, ?_, ?_⟩
  · rw [hl]
    exact List.pairwise_map.mpr (hsorted asym trans)
  · rw [hl]; exact sortedBy_perm temp table hp

theorem cfLe_trans (a b c : CF) : cfLe a b = true → cfLe b c = true → cfLe a c = true := by
  unfold cfLe
  cases a.hash <;> cases b.hash <;> cases c.hash <;> simp <;> omega

theorem cfLe_total (a b : CF) : (cfLe a b || cfLe b a) = true := by
  unfold cfLe
  cases a.hash <;> cases b.hash <;> simp <;> omega

/-- `compare_compiler_funcs (x, y) < 0` is a strict order, and "not below" is `<= 0` the other way round -/
theorem cfLt_asymm (a b : CF) : cfLt a b = true → cfLt b a = false := by
  unfold cfLt
  cases a.hash <;> cases b.hash <;> simp <;> omega

theorem cfLt_trans (a b c : CF) : cfLt a b = true → cfLt b c = true → cfLt a c = true := by
  unfold cfLt
  cases a.hash <;> cases b.hash <;> cases c.hash <;> simp <;> omega

theorem cfLt_false_iff (a b : CF) : cfLt b a = false ↔ cfLe a b = true := by
  unfold cfLt cfLe
  cases a.hash <;> cases b.hash <;> simp

/-- the function table after `sort_function_table` is in the order of `compare_compiler_funcs` -/
theorem function_table_sorted (table : List CF) :
    ∃ temp inv out, sortPerm cfLt table = some temp ∧ mkInverse (Arr.ofList temp) = some inv ∧
      swapLoop (Arr.ofList table) (Arr.ofList temp) inv = some out ∧
      (out.toList).Pairwise (fun a b => cfLe a b = true) ∧ (out.toList).Perm table := by
  obtain ⟨temp, inv, out, h1, h2, h3, _, h5, h6⟩ := perm_sort_correct cfLt cfLt_asymm cfLt_trans table
  exact ⟨temp, inv, out, h1, h2, h3, h5.imp (fun h => (cfLt_false_iff _ _).mp h), h6⟩

/-- non-vacuity: the real comparison order on a table with a '#' function in the middle -/
example := function_table_sorted
  [⟨30, false, "c"⟩, ⟨5, true, "#global_init#"⟩, ⟨10, false, "a"⟩, ⟨20, false, "b"⟩]

example :
    let t : List CF := [⟨30, false, "c"⟩, ⟨5, true, "#global_init#"⟩, ⟨10, false, "a"⟩, ⟨20, false, "b"⟩]
    sortPerm cfLt t = some [2, 3, 0, 1] ∧
    (do let inv ← mkInverse (Arr.ofList [2, 3, 0, 1])
        let out ← swapLoop (Arr.ofList t) (Arr.ofList [2, 3, 0, 1]) inv
        pure (out.toList.map (·.tag))) = some ["a", "b", "c", "#global_init#"] := by
  refine ⟨by decide +kernel, by decide +kernel⟩

theorem remapSlots_eq (inverse : Arr Nat) (n : Nat) (hinv : inverse.size = n) :
    ∀ (slots : List Nat) (o : Arr Nat), slots.Nodup → (∀ s, s ∈ slots → s < o.size ∧ o.get s < n) →
      remapSlots inverse slots o = some ⟨o.size, fun s => if s ∈ slots then inverse.get (o.get s) else o.get s⟩ := by
  intro slots
  induction slots with
  | nil => intro o _ _; rfl
  | cons a rest ih =>
    intro o hnd hb
    obtain ⟨hna, hnd'⟩ := List.nodup_cons.mp hnd
    obtain ⟨ha1, ha2⟩ := hb a List.mem_cons_self
    have hne : ∀ s, s ∈ rest → s ≠ a := fun s hs hc => hna (hc ▸ hs)
    simp only [remapSlots, Option.bind_eq_bind, Option.bind_some, Arr.read_of_lt ha1,
      Arr.read_of_lt (hinv ▸ ha2), Arr.write_of_lt ha1]
    rw [ih _ hnd' fun s hs => by rw [Arr.get_set_ne _ _ (hne s hs)]; exact hb s (List.mem_cons_of_mem a hs)]
    refine congrArg (fun f => some (Arr.mk o.size f)) (funext fun s => ?_)
    by_cases hs : s = a
    · rw [hs, if_neg hna, if_pos List.mem_cons_self, Arr.get_set_self]
    · simp only [Arr.get_set_ne _ _ hs, List.mem_cons, hs, false_or]

/-- **remap_points_at_same_function**: when the slots the two remap loops visit are pairwise distinct and hold valid
    function numbers, every visited `f_index` is replaced by its image under `inverse`, i.e. it designates the same
    `compiler_function_t` in the sorted table as before in the unsorted one; all other slots are untouched. -/
theorem remap_points_at_same_function {α : Type} (tab out : Arr α) (temp inverse offs : Arr Nat) (n : Nat)
    (slots : List Nat)
    (hV : inverse.size = n)
    (hout : ∀ k, k < n → out.get k = tab.get (temp.get k))
    (h2 : ∀ j, j < n → inverse.get j < n ∧ temp.get (inverse.get j) = j)
    (hnd : slots.Nodup) (hb : ∀ s, s ∈ slots → s < offs.size ∧ offs.get s < n) :
    ∃ offs', remapSlots inverse slots offs = some offs' ∧ offs'.size = offs.size ∧
      (∀ s, s ∈ slots → offs'.get s < n ∧ out.get (offs'.get s) = tab.get (offs.get s)) ∧
      (∀ s, s ∉ slots → offs'.get s = offs.get s) := by
  refine ⟨_, remapSlots_eq inverse n hV slots offs hnd hb, rfl, fun s hs' => ?_, fun s hs' => if_neg hs'⟩
  obtain ⟨k1, k2⟩ := h2 (offs.get s) (hb s hs').2
  dsimp only
  rw [if_pos hs', hout _ k1, k2]
  exact ⟨k1, rfl⟩

/-- **type_start_follows**: the parallel `type_start` array is permuted exactly like the function table
    (this is the repaired loop; the loop as it was is refuted in Witness.lean). -/
theorem type_start_follows {τ : Type} (ts : Arr τ) (temp : Arr Nat) (num : Nat)
    (h1 : num ≤ ts.size) (h2 : num ≤ temp.size) (h3 : ∀ i, i < num → temp.get i < num) :
    ∃ out, permuteTypeStart ts temp num = some out ∧ out.size = ts.size ∧
      (∀ i, i < num → out.get i = ts.get (temp.get i)) ∧ (∀ i, num ≤ i → out.get i = ts.get i) := by
  have hall : (List.range num).all (fun i => decide (temp.get i < num)) = true :=
    List.all_eq_true.mpr fun i hi => decide_eq_true (h3 i (List.mem_range.mp hi))
  exact ⟨_, if_pos ⟨h1, h2, hall⟩, rfl, fun i hi => if_pos hi, fun i hi => if_neg (Nat.not_lt.mpr hi)⟩

example : (permuteTypeStart (Arr.ofList [100, 101, 102, 103]) (Arr.ofList [3, 1, 2, 0]) 4).map Arr.toList
    = some [103, 101, 102, 100] := by decide +kernel

end NV.C17
