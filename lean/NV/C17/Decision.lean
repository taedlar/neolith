/-
C17 — the decisions of lib/lpc/program/binaries.c over modification times (NV/C17/Model.lean, part (a)):
`load_binary` uses a binary exactly under the property's rule (`loadBinary_use_iff`, from which `never_stale` and
`fresh_binary_used` are read off), the rule reaches every program behind the inherit lists
(`never_stale_transitive`), include directives still resolve as the binary recorded them, and `save_binary` writes
only against parents that are current.  Counterexamples for the code as it was before the `fix:` commits are in
NV/C17/Witness.lean.
-/
import NV.C17.Model

namespace NV.C17

theorem checkTimes_none {w : World} {nm : String} (mt : Nat) (h : w.mtime nm = none) : checkTimes w mt nm = -1 := by
  simp only [checkTimes, h]

theorem checkTimes_some {w : World} {nm : String} {t : Nat} (mt : Nat) (h : w.mtime nm = some t) :
    checkTimes w mt nm = if t > mt then 0 else 1 := by
  simp only [checkTimes, h, Gen.C17.checkTimesStrict, if_true]

theorem checkTimes_pos (w : World) (mt : Nat) (nm : String) :
    ¬ (checkTimes w mt nm ≤ 0) ↔ ∃ t, w.mtime nm = some t ∧ t ≤ mt := by
  cases h : w.mtime nm with
  | none => simp [checkTimes_none mt h]
  | some t => rw [checkTimes_some mt h]; split <;> simp <;> omega

theorem checkTimes_ne_zero (w : World) (mt : Nat) (nm : String) :
    ¬ (checkTimes w mt nm = 0) ↔ ∀ t, w.mtime nm = some t → t ≤ mt := by
  cases h : w.mtime nm with
  | none => simp [checkTimes_none mt h]
  | some t => rw [checkTimes_some mt h]; split <;> simp <;> omega

theorem checkTimes_missing (w : World) (mt : Nat) (nm : String) :
    checkTimes w mt nm = -1 ↔ w.mtime nm = none := by
  cases h : w.mtime nm with
  | none => simp [checkTimes_none mt h]
  | some t => rw [checkTimes_some mt h]; split <;> simp

/-! ## load_binary

`load_binary` is a chain of tests, each of which ends with "out of date" or falls through to the next.  The chain
answers "use" iff every test falls through (`stale_else_use`, `needs_else_use`); each test, negated, is one clause of
the property's rule. -/

theorem stale_else_use {c : Prop} [Decidable c] {why : String} {d : Decision} :
    (if c then Decision.stale why else d) = .use ↔ ¬ c ∧ d = .use := by
  by_cases h : c <;> simp [h]

theorem needs_else_use {c : Prop} [Decidable c] {inh : String} {d : Decision} :
    (if c then Decision.needs inh else d) = .use ↔ ¬ c ∧ d = .use := by
  by_cases h : c <;> simp [h]

/-- what "every inherited program is not newer and is loaded" means -/
def InheritsFresh (w : World) (mt : Nat) (inhs : List String) : Prop :=
  ∀ i, i ∈ inhs →
    (∃ t, w.mtime i = some t ∧ t ≤ mt) ∧ (∀ t, w.mtime (binPath w i) = some t → t ≤ mt) ∧
      w.loaded.contains (objName w i) = true ∧ treeNewer w mt treeFuel i = false

theorem checkInherits_use (w : World) (mt : Nat) (inhs : List String) :
    checkInherits w mt inhs = .use ↔ InheritsFresh w mt inhs := by
  induction inhs with
  | nil => simp [checkInherits, InheritsFresh]
  | cons a rest ih =>
    rw [checkInherits, stale_else_use, needs_else_use, stale_else_use, ih, not_or, checkTimes_pos, checkTimes_ne_zero]
    simp only [InheritsFresh, List.forall_mem_cons, Bool.not_eq_true', Bool.not_eq_true, Bool.not_eq_false, and_assoc]

/-- the conditions under which the property allows a saved binary to be used: the binary exists; magic, driver id and
    config id (the simul_efun file's modification time when the simul_efun object was loaded) are the current ones and
    the simul_efun file itself is not newer than the binary; nothing behind an inherited program (the files it was built
    from, its saved binary, the programs it inherits in turn — `treeNewer`, see `never_stale_transitive`) is newer; the source file,
    every include file and every inherited source exist and are NOT NEWER than the binary (equal modification times are
    allowed: the property says "newer"); no inherited program has a binary newer than this one; the inherited programs
    are loaded; the binary was saved under this name -/
def MayUse (w : World) (name : String) : Prop :=
  ∃ mt b, w.mtime (binPath w name) = some mt ∧ w.bins.lookup (binPath w name) = some b ∧
    b.intact = true ∧ b.magic = magicId ∧ b.driverId = driverId ∧ b.configId = w.configId ∧
    (w.simulPath = "" ∨ ∀ t, w.mtime w.simulPath = some t → t ≤ mt) ∧
    (∃ t, w.mtime name = some t ∧ t ≤ mt) ∧
    (∀ i, i ∈ b.includes → ∃ t, w.mtime i = some t ∧ t ≤ mt) ∧
    (∀ f, f ∈ b.absent → w.mtime f = none) ∧
    (b.name.length = 0 ∨ b.name = name) ∧
    InheritsFresh w mt b.inherits

theorem simul_not_newer (w : World) (mt : Nat) :
    ¬ (w.simulPath ≠ "" ∧ checkTimes w mt w.simulPath = 0) ↔
      (w.simulPath = "" ∨ ∀ t, w.mtime w.simulPath = some t → t ≤ mt) := by
  rw [← checkTimes_ne_zero, Decidable.not_and_iff_not_or_not, Decidable.not_not]

theorem includes_not_newer (w : World) (mt : Nat) (l : List String) :
    ¬ (l.any (fun i => checkTimes w mt i ≤ 0) = true) ↔ ∀ i, i ∈ l → ∃ t, w.mtime i = some t ∧ t ≤ mt := by
  simp only [List.any_eq_true, decide_eq_true_eq, not_exists, not_and, checkTimes_pos]

theorem absent_still_missing (w : World) (mt : Nat) (l : List String) :
    ¬ (l.any (fun f => checkTimes w mt f ≠ -1) = true) ↔ ∀ f, f ∈ l → w.mtime f = none := by
  simp only [List.any_eq_true, decide_eq_true_eq, not_exists, not_and, Decidable.not_not, checkTimes_missing]

theorem name_matches (saved name : String) :
    ¬ (saved.length > 0 ∧ saved ≠ name) ↔ (saved.length = 0 ∨ saved = name) := by
  rw [Decidable.not_and_iff_not_or_not, Decidable.not_not, Nat.not_lt, Nat.le_zero]

/-- the decision of `load_binary` is exactly the property's rule (both are the same conjunction; only the place of the
    source-file test differs: second in the code, after the simul_efun file in `MayUse`) -/
theorem loadBinary_use_iff (w : World) (name : String) : loadBinary w name = .use ↔ MayUse w name := by
  unfold loadBinary MayUse
  cases hm : w.mtime (binPath w name) with
  | none => simp
  | some mt =>
    cases hb : w.bins.lookup (binPath w name) with
    | none => simp
    | some b =>
      -- test by test, in the order of the code: each falls through under its clause of the rule
      show (if !b.intact then Decision.stale "damaged" else _) = Decision.use ↔ _
      rw [stale_else_use, Bool.not_eq_true', Bool.not_eq_false,   -- damaged
        stale_else_use, checkTimes_pos,                           -- source
        stale_else_use, Decidable.not_not,                        -- magic
        stale_else_use, Decidable.not_not,                        -- driver
        stale_else_use, Decidable.not_not,                        -- config
        stale_else_use, simul_not_newer,                          -- simul
        stale_else_use, includes_not_newer,                       -- include
        stale_else_use, absent_still_missing,                     -- shadowed
        stale_else_use, name_matches,                             -- name
        checkInherits_use]
      constructor
      · rintro ⟨hintact, hsrc, hmagic, hdriver, hconfig, hrest⟩
        exact ⟨mt, b, rfl, rfl, hintact, hmagic, hdriver, hconfig, hrest.1, hsrc, hrest.2⟩
      · rintro ⟨mt', b', hm', hb', hintact, hmagic, hdriver, hconfig, hsimul, hsrc, hrest⟩
        cases hm'
        cases hb'
        exact ⟨hintact, hsrc, hmagic, hdriver, hconfig, hsimul, hrest⟩

/-- **never_stale**: for all modification times, ids and file contents, `load_binary` answers "use the binary" only if
    no dependency's modification time exceeds the binary's (comparison `>` as coded in check_times, read from the
    source into `Gen.C17.checkTimesStrict`) and both ids match. -/
theorem never_stale (w : World) (name : String) (h : loadBinary w name = .use) : MayUse w name :=
  (loadBinary_use_iff w name).mp h

/-- the converse: whenever those conditions hold the binary is used (the decision is exactly the property's rule,
    not merely a safe approximation of it) -/
theorem fresh_binary_used (w : World) (name : String) (h : MayUse w name) : loadBinary w name = .use :=
  (loadBinary_use_iff w name).mpr h

/-- the clauses of `MayUse`, each under a name, for the binary `b` with modification time `mt` (the four facts of
    `InheritsFresh` apart) -/
structure MayUseWith (w : World) (name : String) (mt : Nat) (b : BinFile) : Prop where
  binTime : w.mtime (binPath w name) = some mt
  binary : w.bins.lookup (binPath w name) = some b
  intact : b.intact = true
  magic : b.magic = magicId
  driver : b.driverId = driverId
  config : b.configId = w.configId
  simul : w.simulPath = "" ∨ ∀ t, w.mtime w.simulPath = some t → t ≤ mt
  source : ∃ t, w.mtime name = some t ∧ t ≤ mt
  includes : ∀ i, i ∈ b.includes → ∃ t, w.mtime i = some t ∧ t ≤ mt
  absent : ∀ f, f ∈ b.absent → w.mtime f = none
  name : b.name.length = 0 ∨ b.name = name
  inhSource : ∀ i, i ∈ b.inherits → ∃ t, w.mtime i = some t ∧ t ≤ mt
  inhBinary : ∀ i, i ∈ b.inherits → ∀ t, w.mtime (binPath w i) = some t → t ≤ mt
  inhLoaded : ∀ i, i ∈ b.inherits → w.loaded.contains (objName w i) = true
  inhTree : ∀ i, i ∈ b.inherits → treeNewer w mt treeFuel i = false

/-- the one place that reads `MayUse` by position; every user takes its facts from here, by name -/
theorem MayUse.clauses {w : World} {name : String} : MayUse w name → ∃ mt b, MayUseWith w name mt b := by
  rintro ⟨mt, b, h1, h2, h3, h4, h5, h6, h7, h8, h9, h10, h11, hinh⟩
  exact ⟨mt, b, h1, h2, h3, h4, h5, h6, h7, h8, h9, h10, h11, fun i hi => (hinh i hi).1, fun i hi => (hinh i hi).2.1,
    fun i hi => (hinh i hi).2.2.1, fun i hi => (hinh i hi).2.2.2⟩

/-- the programs reachable from `q` through the inherit lists of the loaded programs -/
inductive Reach (w : World) : String → String → Prop where
  | refl (q : String) : Reach w q q
  | step {q p r : String} (lp : LoadedProg) : w.progs.lookup q = some lp → p ∈ lp.inherits → Reach w p r → Reach w q r

/-- one more step at the far end of a chain -/
theorem Reach.tail {w : World} {a b r : String} (hab : Reach w a b) (lp : LoadedProg)
    (hl : w.progs.lookup b = some lp) (hr : r ∈ lp.inherits) : Reach w a r := by
  induction hab with
  | refl x => exact Reach.step lp hl hr (Reach.refl _)
  | step lp' hl' hp' _ ih => exact Reach.step lp' hl' hp' (ih hl)

/-- what `treeNewer` finds at one program it passes without answering "newer": the program `lp` in memory under `name`,
    none of the files it was built from, nor its saved binary, newer than `mt` -/
structure ProgNotNewer (w : World) (mt : Nat) (name : String) (lp : LoadedProg) : Prop where
  prog : w.progs.lookup name = some lp
  files : ∀ f, f ∈ lp.files → ∀ t, w.mtime f = some t → t ≤ mt
  binary : ∀ t, w.mtime (binPath w name) = some t → t ≤ mt

theorem treeNewer_false (w : World) (mt : Nat) {fuel : Nat} {name : String} (h : treeNewer w mt fuel name = false) :
    ∃ lp n, ProgNotNewer w mt name lp ∧ ∀ p, p ∈ lp.inherits → treeNewer w mt n p = false := by
  cases fuel with
  | zero => simp [treeNewer] at h
  | succ n =>
    unfold treeNewer at h
    cases hl : w.progs.lookup name with
    | none => simp [hl] at h
    | some lp =>
      simp only [hl, Bool.or_eq_false_iff, List.any_eq_false, beq_iff_eq, beq_eq_false_iff_ne, ne_eq,
        checkTimes_ne_zero] at h
      exact ⟨lp, n, ⟨hl, h.1.1, h.1.2⟩, fun p hp => by simpa using h.2 p hp⟩

theorem treeNewer_false_reach (w : World) (mt : Nat) {q r : String} (hr : Reach w q r) {fuel : Nat}
    (h : treeNewer w mt fuel q = false) : ∃ lp, ProgNotNewer w mt r lp := by
  induction hr generalizing fuel with
  | refl q =>
    obtain ⟨lp, _, here, _⟩ := treeNewer_false w mt h
    exact ⟨lp, here⟩
  | step lp hl hp _ ih =>
    obtain ⟨lp', n, here, hrec⟩ := treeNewer_false w mt h
    cases hl.symm.trans here.prog
    exact ih (hrec _ hp)

/-- **never_stale_transitive**: when `load_binary` uses a binary, then for EVERY program reachable from it through
    inherit lists — directly or through any chain of parents, saved or not — every file that program was built from
    (its source and all its includes) and its saved binary are not newer than the binary. -/
theorem never_stale_transitive (w : World) (name : String) (h : loadBinary w name = .use) :
    ∃ mt b, w.mtime (binPath w name) = some mt ∧ w.bins.lookup (binPath w name) = some b ∧
      ∀ i, i ∈ b.inherits → ∀ r, Reach w i r →
        ∃ lp, w.progs.lookup r = some lp ∧ (∀ f, f ∈ lp.files → ∀ t, w.mtime f = some t → t ≤ mt) ∧
          (∀ t, w.mtime (binPath w r) = some t → t ≤ mt) := by
  obtain ⟨mt, b, u⟩ := (never_stale w name h).clauses
  exact ⟨mt, b, u.binTime, u.binary, fun i hi r hr =>
    (treeNewer_false_reach w mt hr (u.inhTree i hi)).imp fun _ at_r => ⟨at_r.prog, at_r.files, at_r.binary⟩⟩

/-- non-vacuity: a inherits b inherits c (b has no saved binary).  The binary of a is used; a newer include, a changed
    config id, a newer simul_efun file, a newer c, or a newer header of b make the same binary stale -/
example :
    let bo : String → String := fun n => if n = "d/a.c" then "B/a" else if n = "d/b.c" then "B/b" else "B/c"
    let oo : String → String := fun n => if n = "d/b.c" then "d/b" else "?"
    let w : World := { files := [("B/a", 200), ("d/a.c", 100), ("d/x.h", 200), ("d/b.c", 150), ("d/c.c", 120),
                                 ("d/y.h", 110), ("sim.c", 50)],
                       bins := [("B/a", { magic := magicId, driverId := driverId, configId := 50,
                                          includes := ["d/x.h"], name := "d/a.c", inherits := ["d/b.c"] })],
                       progs := [("d/b.c", { files := ["d/b.c", "d/y.h"], inherits := ["d/c.c"] }),
                                 ("d/c.c", { files := ["d/c.c"], inherits := [] })],
                       loaded := ["d/b"], configId := 50, simulPath := "sim.c", binOf := bo, objOf := oo }
    loadBinary w "d/a.c" = .use ∧
      loadBinary { w with files := ("d/x.h", 201) :: w.files } "d/a.c" = .stale "include" ∧
      loadBinary { w with configId := 51 } "d/a.c" = .stale "config" ∧
      loadBinary { w with bins := w.bins.map (fun e => (e.1, { e.2 with intact := false })) } "d/a.c" = .stale "damaged" ∧
      loadBinary { w with files := ("sim.c", 201) :: w.files } "d/a.c" = .stale "simul" ∧
      loadBinary { w with files := ("d/c.c", 201) :: w.files } "d/a.c" = .stale "behind-inherited" ∧
      loadBinary { w with files := ("d/y.h", 201) :: w.files } "d/a.c" = .stale "behind-inherited" := by
  decide +kernel

/-- what `inc_open` takes for an include directive: the first candidate that exists (the same definition as
    `resolveInclude` in Witness.lean, where the full statement is refuted for a binary without '!' entries) -/
def resolveIncludeP (w : World) (cands : List String) : Option String :=
  cands.find? (fun c => (w.mtime c).isSome)

theorem resolveIncludeP_skips_missing (w : World) (pre post : List String) (r : String) {t : Nat}
    (hpre : ∀ c, c ∈ pre → w.mtime c = none) (hr : w.mtime r = some t) :
    resolveIncludeP w (pre ++ r :: post) = some r :=
  List.find?_eq_some_iff_append.mpr ⟨by simp [hr], pre, post, rfl, fun c hc => by simp [hpre c hc]⟩

/-- **include_resolution_partial**: when a binary is used, an include directive still resolves to the file the binary
    recorded for it PROVIDED no candidate earlier in the search order exists (the side condition that the finding
    C17-include-shadowed is about: without the '!' entries `load_binary` cannot see a new file in front of a recorded
    one; with them the condition is discharged, `includes_resolve_as_recorded`) -/
theorem include_resolution_partial (w : World) (name : String) (pre post : List String) (r : String)
    (h : loadBinary w name = .use) (hr : ∀ b, w.bins.lookup (binPath w name) = some b → r ∈ b.includes)
    (hpre : ∀ c, c ∈ pre → w.mtime c = none) : resolveIncludeP w (pre ++ r :: post) = some r := by
  obtain ⟨mt, b, u⟩ := (never_stale w name h).clauses
  obtain ⟨t, ht, _⟩ := u.includes r (hr b u.binary)
  exact resolveIncludeP_skips_missing w pre post r hpre ht

/-- what `inc_open` found and what it noted as missing -/
theorem incOpen_spec (w : World) : ∀ (cands : List String) (r : String) (missed : List String),
    incOpen w cands = some (r, missed) →
      (∃ post, cands = missed ++ r :: post) ∧ (w.mtime r).isSome = true ∧ ∀ c, c ∈ missed → w.mtime c = none := by
  intro cands
  induction cands with
  | nil => intro r missed h; simp [incOpen] at h
  | cons c rest ih =>
    intro r missed h
    rw [incOpen] at h
    split at h
    · rename_i hc
      cases h
      exact ⟨⟨rest, rfl⟩, hc, nofun⟩
    · rename_i hc
      obtain ⟨p, hp, e⟩ := Option.map_eq_some_iff.mp h
      cases e
      obtain ⟨⟨post, e⟩, hex, hmiss⟩ := ih p.1 p.2 hp
      exact ⟨⟨post, congrArg (c :: ·) e⟩, hex, List.forall_mem_cons.mpr ⟨by simpa using hc, hmiss⟩⟩

theorem incOpen_fst (w : World) : ∀ cands : List String, (incOpen w cands).map (·.1) = resolveIncludeP w cands := by
  intro cands
  induction cands with
  | nil => rfl
  | cons c rest ih =>
    unfold incOpen resolveIncludeP
    by_cases hc : (w.mtime c).isSome = true
    · simp [hc]
    · simp only [hc, Bool.false_eq_true, if_false, List.find?_cons, Option.map_map]
      exact ih

/-- **includes_resolve_as_recorded**: the FULL include-resolution statement, for the code with the '!' entries.  Take any
    #include directive (its candidates in search order) as `inc_open` resolved it when the program was compiled in world
    `w0`: it opened `r` and noted the candidates `missed` before it.  If the binary lists `r` among the files read and
    every noted candidate among its '!' entries, then whenever `load_binary` uses the binary in a later world `w`, the
    directive still resolves to `r` — no file that shadows a recorded include file goes unnoticed, whatever its
    modification time. -/
theorem includes_resolve_as_recorded (w0 w : World) (name : String) (b : BinFile) (cands : List String) (r : String)
    (missed : List String) (hcomp : incOpen w0 cands = some (r, missed))
    (hb : w.bins.lookup (binPath w name) = some b) (hr : r ∈ b.includes) (hm : ∀ c, c ∈ missed → c ∈ b.absent)
    (h : loadBinary w name = .use) : resolveIncludeP w cands = some r := by
  obtain ⟨⟨post, rfl⟩, _, _⟩ := incOpen_spec w0 cands r missed hcomp
  obtain ⟨mt, b', u⟩ := (never_stale w name h).clauses
  cases hb.symm.trans u.binary
  obtain ⟨t, ht, _⟩ := u.includes r hr
  exact resolveIncludeP_skips_missing w missed post r (fun c hc => u.absent c (hm c hc)) ht

/-- non-vacuity: "s.h" found in /include when a.c was compiled (d/s.h noted as missing); later d/s.h appears, older than
    everything: the binary is not used any more; without the new file it is, and the directive resolves as recorded -/
example :
    let w0 : World := { files := [("d/a.c", 100), ("include/s.h", 90)] }
    let bin : BinFile := { magic := magicId, driverId := driverId, configId := 0, includes := ["include/s.h"],
                           absent := ["d/s.h"], name := "d/a.c", inherits := [] }
    let w : World := { files := [("B/a", 200), ("d/a.c", 100), ("include/s.h", 90)], bins := [("B/a", bin)],
                       binOf := fun _ => "B/a" }
    incOpen w0 ["d/s.h", "include/s.h"] = some ("include/s.h", ["d/s.h"]) ∧
      loadBinary w "d/a.c" = .use ∧ resolveIncludeP w ["d/s.h", "include/s.h"] = some "include/s.h" ∧
      loadBinary { w with files := ("d/s.h", 80) :: w.files } "d/a.c" = .stale "shadowed" := by
  decide +kernel

/-- **parent_include_shadow_partial**: the part of the open finding C17-unsaved-parent-include-shadowed that does hold —
    when a binary is used, the file that an include directive of ANY inherited program (direct or not, saved or not)
    resolves to now, being one of the files that program in memory was built from, is not newer than the binary.  A
    shadowing file NEWER than the binary is therefore always noticed; only an older one slips through. -/
theorem parent_include_shadow_partial (w : World) (name : String) (h : loadBinary w name = .use) :
    ∃ mt b, w.mtime (binPath w name) = some mt ∧ w.bins.lookup (binPath w name) = some b ∧
      ∀ i, i ∈ b.inherits → ∀ q, Reach w i q → ∀ lp, w.progs.lookup q = some lp → ∀ cands r,
        resolveIncludeP w cands = some r → r ∈ lp.files → ∀ t, w.mtime r = some t → t ≤ mt := by
  obtain ⟨mt, b, hm, hb, hall⟩ := never_stale_transitive w name h
  refine ⟨mt, b, hm, hb, ?_⟩
  intro i hi q hq lp hl cands r _ hr t ht
  obtain ⟨lp', hl', hfiles, _⟩ := hall i hi q hq
  cases hl.symm.trans hl'
  exact hfiles r hr t ht

/-! ## save_binary: no binary for a program laid out for a parent that is no longer current -/

/-- the program blocks reachable from a linked block through `prog->inherit[]` -/
inductive ReachL (w : World) : String × Nat → String × Nat → Prop where
  | refl (q : String × Nat) : ReachL w q q
  | step {q p r : String × Nat} (lp : LoadedProg) : w.progs.lookup q.1 = some lp → p ∈ lp.linked → ReachL w p r →
      ReachL w q r

/-- what `progOutdated` finds at one block it passes without answering "outdated": block number `g` is still the program
    `lp` of the loaded object of its name, and no file it was built from has been modified since that object was loaded -/
structure ProgCurrent (w : World) (name : String) (g : Nat) (lp : LoadedProg) : Prop where
  prog : w.progs.lookup name = some lp
  gen : lp.gen = g
  loaded : w.loaded.contains (objName w name) = true
  files : ∀ f, f ∈ lp.files → ∀ t, w.mtime f = some t → t ≤ lp.loadTime

theorem progOutdated_false (w : World) {fuel : Nat} {name : String} {g : Nat} (h : progOutdated w fuel name g = false) :
    ∃ lp n, fuel = n + 1 ∧ ProgCurrent w name g lp ∧ ∀ pg, pg ∈ lp.linked → progOutdated w n pg.1 pg.2 = false := by
  cases fuel with
  | zero => simp [progOutdated] at h
  | succ n =>
    unfold progOutdated at h
    cases hl : w.progs.lookup name with
    | none => simp [hl] at h
    | some lp =>
      simp only [hl, Bool.or_eq_false_iff, List.any_eq_false, beq_iff_eq, checkTimes_ne_zero, Bool.not_eq_false',
        bne_eq_false_iff_eq] at h
      exact ⟨lp, n, rfl, ⟨hl, h.1.1.2, h.1.1.1, h.1.2⟩, fun pg hpg => by simpa using h.2 pg hpg⟩

theorem progOutdated_false_reach (w : World) {q r : String × Nat} (hr : ReachL w q r) {fuel : Nat}
    (h : progOutdated w fuel q.1 q.2 = false) : ∃ lp, ProgCurrent w r.1 r.2 lp := by
  induction hr generalizing fuel with
  | refl q =>
    obtain ⟨lp, _, _, here, _⟩ := progOutdated_false w h
    exact ⟨lp, here⟩
  | step lp hl hp _ ih =>
    obtain ⟨lp', n, _, here, hrec⟩ := progOutdated_false w h
    cases hl.symm.trans here.prog
    exact ih (hrec _ hp)

theorem saveAllowed_iff (w : World) (linked : List (String × Nat)) :
    saveAllowed w linked = true ↔ ∀ pg, pg ∈ linked → progOutdated w treeFuel pg.1 pg.2 = false := by
  simp only [saveAllowed, Bool.not_eq_true', List.any_eq_false, Bool.not_eq_true]

theorem saveStep_evs (s : Sys) (d : ProgDecl) (linked : List (String × Nat)) :
    (saveStep s d linked).evs =
      if !d.save then s.evs
      else if d.refuse || !(saveAllowed s.w linked) then Ev.svSkipped d.name :: s.evs
      else Ev.sv d.name s.vnow d.includes :: s.evs := by
  unfold saveStep
  split
  · rfl
  · split <;> rfl

/-- **saved_only_against_current_parents**: `save_binary` writes a binary only if EVERY program block the new program
    is linked with — its parents and, through them, every block reachable by `prog->inherit[]`, at any depth — is still
    the program of the loaded object of its name and none of the files it was built from (its source, its includes) has
    been modified since that object was loaded.  So the layout baked into a saved binary (variable and function index
    offsets of the inherited programs) is the layout the current sources give. -/
theorem saved_only_against_current_parents (s : Sys) (d : ProgDecl) (linked : List (String × Nat)) (t : Nat)
    (incs : List String) (h : Ev.sv d.name t incs ∈ (saveStep s d linked).evs) (hnew : Ev.sv d.name t incs ∉ s.evs) :
    ∀ pg, pg ∈ linked → ∀ r, ReachL s.w pg r →
      ∃ lp, s.w.progs.lookup r.1 = some lp ∧ lp.gen = r.2 ∧ s.w.loaded.contains (objName s.w r.1) = true ∧
        (∀ f, f ∈ lp.files → ∀ t, s.w.mtime f = some t → t ≤ lp.loadTime) := by
  -- a new `sv` event means the last branch of `saveStep` was taken: `saveAllowed` answered true
  rw [saveStep_evs] at h
  split at h
  · exact absurd h hnew
  · split at h
    · exact absurd ((List.mem_cons.mp h).resolve_left (by simp)) hnew
    · rename_i hok
      simp only [Bool.or_eq_true, not_or, Bool.not_eq_true', Bool.not_eq_false, saveAllowed_iff] at hok
      intro pg hpg r hr
      exact (progOutdated_false_reach s.w hr (hok.2 pg hpg)).imp fun _ at_r =>
        ⟨at_r.prog, at_r.gen, at_r.loaded, at_r.files⟩

/-- and it is not more cautious than that: with current parents a `#pragma save_binary` program is saved -/
theorem current_parents_are_saved (s : Sys) (d : ProgDecl) (linked : List (String × Nat)) (hs : d.save = true)
    (hr : d.refuse = false) (ha : saveAllowed s.w linked = true) :
    Ev.sv d.name s.vnow d.includes ∈ (saveStep s d linked).evs := by
  simp [saveStep_evs, hs, hr, ha]

/-- non-vacuity: a inherits b (block 3, loaded at 1013) inherits c (block 2).  Saved; but not after b.c was edited at
    1024 while b stays loaded, not after c was loaded again (block 5) under b, not with a header of c touched -/
example :
    let w : World := { files := [("a.c", 1002), ("b.c", 1001), ("c.c", 1000), ("c.h", 999)],
                       progs := [("b.c", { files := ["b.c"], inherits := ["c.c"], gen := 3, loadTime := 1013, linked := [("c.c", 2)] }),
                                 ("c.c", { files := ["c.c", "c.h"], inherits := [], gen := 2, loadTime := 1013 })],
                       loaded := ["b", "c"],
                       objOf := fun n => if n = "b.c" then "b" else if n = "c.c" then "c" else "?",
                       binOf := fun n => if n = "b.c" then "B/b" else if n = "c.c" then "B/c" else "B/a" }
    saveAllowed w [("b.c", 3)] = true ∧
      saveAllowed { w with files := ("b.c", 1024) :: w.files } [("b.c", 3)] = false ∧
      saveAllowed { w with files := ("c.h", 1024) :: w.files } [("b.c", 3)] = false ∧
      saveAllowed { w with progs := ("c.c", { files := ["c.c"], inherits := [], gen := 5, loadTime := 1030 }) :: w.progs }
        [("b.c", 3)] = false ∧
      saveAllowed { w with loaded := ["c"] } [("b.c", 3)] = false := by
  decide +kernel

end NV.C17
