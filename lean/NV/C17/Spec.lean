/-
C17 — specification oracle ("judge").  It reads the case (the history of file writes, modification times, restarts and
reloads, the dependency declarations, the unit-test inputs) and the canonical trace of the real driver, and decides
whether property C17 held.  It knows nothing about sorttmp/invtmp, check_times or the order of the tests in
load_binary:

  * never stale: whenever the driver reports that it used a saved binary (`lb <prog> use`), no dependency of the
    program — its source, a file it includes, the source or the binary of a program it inherits, the simul_efun
    file — has a modification time greater than that of the binary ("newer"; equal times are allowed);
  * equal programs: the structural dump of a program loaded from its binary equals the dump of its last fresh compile:
    header, strings, variables, inherits, classes, line information, code (switch tables masked), the same functions
    (name, type, runtime index, address, argument types), every function's runtime entry still pointing at it, the
    same switch tables as sets; function table and string switch tables sorted by address; same result for every call;
  * the unit-test outputs are what sorting / relocating / patching mean (sorted, same elements, indices follow).
-/
import NV.Common.Proto
import NV.C17.BinFile

namespace NV.C17

open NV.Proto

def csv (s : String) : List String := if s == "-" || s == "" then [] else s.splitOn ","
def csvNat (s : String) : List Nat := (csv s).filterMap String.toNat?
def csvInt (s : String) : List Int := (csv s).filterMap String.toInt?

/-- value of key=... in a token list -/
def kv (ts : List String) (k : String) : String :=
  match ts.find? (·.startsWith (k ++ "=")) with
  | some t => (t.drop (k.length + 1)).toString
  | none => "-"

def stripSlash (s : String) : String := (s.dropWhile (· == '/')).toString

/-- insertion sort (the oracle's own notion of "sorted") -/
def insertBy {α} (lt : α → α → Bool) (x : α) : List α → List α
  | [] => [x]
  | y :: ys => if lt y x then y :: insertBy lt x ys else x :: y :: ys
def isort {α} (lt : α → α → Bool) (l : List α) : List α := l.foldl (fun acc x => insertBy lt x acc) []

def strictlyIncreasing : List Int → Bool
  | a :: b :: rest => a < b && strictlyIncreasing (b :: rest)
  | _ => true

/-! ### dumps -/

structure CfLine where
  pos : Nat
  name : String
  rank : Int
  rest : String        -- type rtidx addr ts args
  rtidx : Nat
  deriving Repr, BEq, Inhabited

def parseCf (ts : List String) : Option CfLine :=
  match ts with
  | [pos, name, rank, ty, rt, addr, tsv, args] => do
    some { pos := ← pos.toNat?, name := name, rank := ← rank.toInt?, rtidx := ← rt.toNat?,
           rest := s!"{ty} {rt} {addr} {tsv} {args}" }
  | _ => none

structure Dump where
  lines : List (List String) := []    -- every D line of the program, tokens after "D <tag>"
  deriving Inhabited

def Dump.kind (d : Dump) (k : String) : List (List String) := (d.lines.filter (fun l => l.head? == some k)).map (·.drop 1)
def Dump.cfs (d : Dump) : List CfLine := (d.kind "cf").filterMap parseCf
def Dump.other (d : Dump) : List (List String) := d.lines.filter (fun l => !(["cf", "ro", "sw"].contains (l.headD "")))

/-- runtime slot of runtime index `ri` according to the compressed-table header, if it has one -/
def slotOf (ct : List String) (ri : Nat) : Option Nat :=
  match ct with
  | [fd, fo, nc, nd, ix] =>
    match fd.toNat?, fo.toNat?, nc.toNat?, nd.toNat? with
    | some fd, some fo, some nc, some nd =>
      let idx := csvNat ix
      if ri ≥ fd then some (ri - nd)
      else if fo ≤ ri ∧ ri < fo + (fd - nc) then
        match idx[ri - fo]? with
        | some 255 => none
        | some j => some j
        | none => none
      else none
    | _, _, _, _ => none
  | _ => none

/-- names of the functions whose runtime entry points back at their place in the table -/
def backPointers (d : Dump) : List (String × Bool) :=
  let ct := ((d.kind "ct").head?).getD []
  let ro := (((d.kind "ro").head?).getD []).headD "-"
  let slots := (csv ro).map (fun s => ((s.splitOn ":").getD 2 "").toNat?.getD 0)
  let flags := csvNat ((((d.kind "fl").head?).getD []).headD "-")
  d.cfs.filterMap (fun f =>
    match slotOf ct f.rtidx with
    | some s => if (flags.getD f.rtidx 0) % 2 == 1 then none else some (f.name, slots.getD s 99999 == f.pos)
    | none => none)

def tableSorted (d : Dump) : Bool :=
  let cfs := d.cfs
  let plain := cfs.filter (fun f => !f.name.startsWith "#")
  let nHash := cfs.length - plain.length
  strictlyIncreasing (plain.map (·.rank)) && (cfs.drop plain.length).all (·.name.startsWith "#") &&
    (cfs.take plain.length).all (fun f => !f.name.startsWith "#") && nHash ≤ 1

structure SwLine where
  head : String                  -- at type start end default
  ents : List (Int × Nat × Int)  -- idx addr rank
  deriving Repr, BEq

def parseSw (ts : List String) : Option SwLine :=
  match ts with
  | [at', ty, st, en, df, ents] =>
    let es := (csv ents).filterMap (fun e =>
      match e.splitOn ":" with
      | [i, a, r] => do some (← i.toInt?, ← a.toNat?, ← r.toInt?)
      | _ => none)
    if es.length == (csv ents).length then some { head := s!"{at'} {ty} {st} {en} {df}", ents := es } else none
  | _ => none

def swSorted (s : SwLine) : Bool := strictlyIncreasing (s.ents.map (·.2.2))

def entLt (a b : Int × Nat) : Bool := a.1 < b.1 || (a.1 == b.1 && a.2 < b.2)

/-- the compressed runtime table is consistent: the slots of functions defined here (what `find_func_entry` returns for
    a runtime index without NAME_INHERITED) are pairwise distinct, exist, and hold a function number of this program -/
def runtimeTableOk (d : Dump) : Bool :=
  let ct := ((d.kind "ct").head?).getD []
  let nSlots := (csv ((((d.kind "ro").head?).getD []).headD "-")).length
  let slotsF := (csv ((((d.kind "ro").head?).getD []).headD "-")).map (fun s => ((s.splitOn ":").getD 2 "").toNat?.getD 0)
  let flags := csvNat ((((d.kind "fl").head?).getD []).headD "-")
  let nfd := d.cfs.length
  let defSlots := (List.range flags.length).filterMap (fun ri =>
    if (flags.getD ri 0) % 2 == 1 then none else slotOf ct ri)
  defSlots.all (fun s => s < nSlots && slotsF.getD s 99999 < nfd) && defSlots.eraseDups.length == defSlots.length

/-- checks on any dump (fresh or reloaded): lookup tables in address order -/
def wellFormed (tag : String) (d : Dump) : List String :=
  (if tableSorted d then [] else [s!"function-table-not-sorted {tag}"]) ++
  (if runtimeTableOk d then [] else [s!"runtime-table-malformed {tag}"]) ++
  ((d.kind "sw").filterMap (fun l =>
    match parseSw l with
    | some s => if swSorted s then none else some s!"switch-table-not-sorted {tag} at={s.head}"
    | none => some s!"switch-table-unreadable {tag} {l}"))

/-- the reloaded program `b` against the freshly compiled `f` -/
def sameProgram (tag : String) (f b : Dump) : List String :=
  let o1 := f.other
  let o2 := b.other
  let d1 :=
    if o1 == o2 then []
    else
      let diff := (o1.zip o2).find? (fun p => p.1 != p.2)
      match diff with
      | some (x, y) => [s!"program-differs {tag} fresh=[{" ".intercalate x}] binary=[{" ".intercalate y}]"]
      | none => [s!"program-differs {tag} fresh-lines={o1.length} binary-lines={o2.length}"]
  let key (c : CfLine) := s!"{c.name} {c.rest}"
  let fs1 := isort (· < ·) (f.cfs.map key)
  let fs2 := isort (· < ·) (b.cfs.map key)
  let d2 :=
    if fs1 == fs2 then []
    else
      match (fs1.zip fs2).find? (fun p => p.1 != p.2) with
      | some (x, y) => [s!"functions-differ {tag} fresh=[{x}] binary=[{y}]"]
      | none => [s!"functions-differ {tag} count {fs1.length} {fs2.length}"]
  let bp1 := backPointers f
  let bp2 := backPointers b
  let d3 := bp1.filterMap (fun (n, ok) =>
    if ok then
      match bp2.find? (·.1 == n) with
      | some (_, true) => none
      | _ => some s!"runtime-entry-lost-its-function {tag} {n}"
    else none)
  let na (l : List String) := (csv (l.headD "-")).map (fun s => " ".intercalate ((s.splitOn ":").take 2))
  let ro1 := na (((f.kind "ro").head?).getD [])
  let ro2 := na (((b.kind "ro").head?).getD [])
  let d4 := if ro1 == ro2 then [] else [s!"runtime-table-differs {tag}"]
  let sw1 := (f.kind "sw").filterMap parseSw
  let sw2 := (b.kind "sw").filterMap parseSw
  let d5 :=
    if sw1.length != sw2.length || sw1.length != (f.kind "sw").length then [s!"switch-tables-differ {tag} count"]
    else (sw1.zip sw2).filterMap (fun (x, y) =>
      let e1 := isort entLt (x.ents.map (fun e => (e.1, e.2.1)))
      let e2 := isort entLt (y.ents.map (fun e => (e.1, e.2.1)))
      if x.head == y.head && e1 == e2 then none else some s!"switch-tables-differ {tag} at={x.head}")
  d1 ++ d2 ++ d3 ++ d4 ++ d5

/-! ### histories -/

structure Decl where
  name : String
  includes : List String
  inherits : List String
  save : Bool := false              -- #pragma save_binary in force at the end of the file
  ssw : Option Nat := none          -- number of string switches in the source (declared by the generator)
  refuse : Bool := false            -- the master refuses to have this program saved
  deriving Repr, Inhabited

structure JState where
  files : List (String × Nat) := []            -- path ↦ mtime, from the case lines
  binT : List (String × Nat) := []             -- program name ↦ mtime of its saved binary (from `sv` lines)
  decls : List Decl := []
  simulTouchedSinceRestart : Bool := false
  fresh : List (String × Dump) := []
  freshR : List (String × List String) := []
  -- current reload block
  inBlock : Bool := false
  used : List String := []                     -- programs loaded from their binary in this block ("dir/file.c")
  cur : List (String × Dump) := []
  curR : List String := []
  top : String := ""
  bad : List String := []
  pendingUnit : List (List String) := []       -- unit commands whose output has not been seen yet
  foreign : List String := []                  -- binaries of another driver build / configuration / program name
  binOwner : List (String × String) := []      -- binary ↦ the program whose saved binary its content is (copies)
  damaged : List String := []                  -- programs whose saved binary was damaged since it was written
  expects : List (String × String) := []       -- call ↦ the value the source text prescribes (string switch cases)
  -- which version of every program is in memory (independent of the implementation's data structures: load numbers)
  ctime : Nat := 0                             -- the driver's clock, from the `now` lines
  loadCount : Nat := 0
  mem : List (String × (Nat × Nat)) := []      -- program ↦ (number of the load that put it into memory, clock then)
  links : List (String × List (String × Nat)) := []   -- program ↦ its parents and the load numbers it was linked with
  poisoned : List (String × List (String × Nat)) := [] -- saved binary ↦ parents that were out of date when it was compiled
  incsearch : List (String × List String) := []  -- program ↦ the candidates of one include directive, in search order
  resolved : List (String × List (Option String)) := [] -- saved binary ↦ what each of its directives resolved to then
  resolvedParents : List (String × List (String × List (Option String))) := []
    -- saved binary ↦ for every program it inherits (at any depth): what that program's directives resolved to then
  deriving Inhabited

def JState.flag (s : JState) (v : String) : JState := { s with bad := v :: s.bad }
def JState.mt (s : JState) (p : String) : Option Nat := s.files.lookup p
def setKey {β} (l : List (String × β)) (k : String) (v : β) : List (String × β) := (k, v) :: l.filter (·.1 != k)

def simulPath : String := "simul_efun.c"

def declOf (s : JState) (prog : String) : Decl :=
  (s.decls.find? (·.name == prog)).getD { name := prog, includes := [], inherits := [] }

/-- programs inherited through other programs (not directly) -/
def indirectInherits (s : JState) (prog : String) : List String :=
  let direct := (declOf s prog).inherits
  let rec go (frontier : List String) (seen : List String) (fuel : Nat) : List String :=
    match fuel with
    | 0 => seen
    | fuel + 1 =>
      let next := (frontier.flatMap (fun q => (declOf s q).inherits)).filter (fun q => !(seen.contains q))
      if next.isEmpty then seen else go next.eraseDups (seen ++ next.eraseDups) fuel
  (go direct direct 20).filter (fun q => !(direct.contains q))

/-- the version of `p` with load number `g` is not what loading `p` now would give: it was replaced since, one of its
    files was modified after it was loaded, or the same holds for a parent it is linked with -/
def outdatedO (s : JState) : Nat → String → Nat → Bool
  | 0, _, _ => true
  | fuel + 1, p, g =>
    match s.mem.lookup p with
    | none => false          -- never seen entering memory: no claim
    | some (g', t) =>
      g' != g || (p :: (declOf s p).includes).any (fun f => match s.mt f with | some m => m > t | none => false) ||
        ((s.links.lookup p).getD []).any (fun q => outdatedO s fuel q.1 q.2)

/-- a program enters memory (compiled or loaded from its binary): a new load number, linked with the parents as loaded -/
def registerLoad (s : JState) (prog : String) : JState :=
  let g := s.loadCount + 1
  let ls := (declOf s prog).inherits.map (fun p => (p, ((s.mem.lookup p).map (·.1)).getD 0))
  { s with loadCount := g, mem := setKey s.mem prog (g, s.ctime), links := setKey s.links prog ls }

/-- what every declared include directive of `prog` resolves to now: the first candidate that exists -/
def resolveNow (s : JState) (prog : String) : List (Option String) :=
  (s.incsearch.filter (·.1 == prog)).map (fun d => d.2.find? (fun c => (s.mt c).isSome))

/-- the property's rule, computed from the history alone -/
def staleReasons (s : JState) (prog : String) : List String :=
  match s.binT.lookup prog with
  | none => [s!"binary-used-but-never-saved {prog}"]
  | some b =>
    let newer (p : String) : Bool := match s.mt p with | some t => t > b | none => false
    let newerBin (p : String) : Bool := match s.binT.lookup p with | some t => t > b | none => false
    let d := declOf s prog
    (if newer prog then [s!"stale-binary-used {prog} dep=source"] else []) ++
    (d.includes.filter newer).map (fun i => s!"stale-binary-used {prog} dep=include:{i}") ++
    (d.inherits.filter newer).map (fun i => s!"stale-binary-used {prog} dep=inherited-source:{i}") ++
    (d.inherits.filter newerBin).map (fun i => s!"stale-binary-used {prog} dep=inherited-binary:{i}") ++
    -- a program inherited through another one, or a file such a program or a direct parent includes
    ((indirectInherits s prog).filter (fun q => newer q || newerBin q)).map
      (fun q => s!"stale-binary-used {prog} dep=indirectly-inherited:{q}") ++
    ((d.inherits ++ indirectInherits s prog).flatMap (fun q => ((declOf s q).includes.filter newer).map
      (fun i => s!"stale-binary-used {prog} dep=include-of-inherited:{q}:{i}"))) ++
    (if newer simulPath then
      (if s.simulTouchedSinceRestart then [s!"stale-binary-used {prog} dep=simul_efun (touched while the driver runs)"]
       else [s!"stale-binary-used {prog} dep=simul_efun"]) else [])

def caseLine (s : JState) (line : String) : JState :=
  match toks line with
  | ["file", p, _] => { s with files := setKey s.files (stripSlash p) 2000000000,
                               simulTouchedSinceRestart := s.simulTouchedSinceRestart || stripSlash p == simulPath }
  | ["mtime", p, t] =>
    match t.toNat? with
    | some t => { s with files := setKey s.files (stripSlash p) t,
                         simulTouchedSinceRestart := s.simulTouchedSinceRestart || stripSlash p == simulPath }
    | none => s
  | "prog" :: name :: rest =>
    { s with decls := { name := name, includes := csv (kv rest "inc"), inherits := csv (kv rest "inh"),
                        save := kv rest "save" == "1", ssw := (kv rest "ssw").toNat?,
                        refuse := kv rest "refuse" == "1" } :: s.decls.filter (·.name != name) }
  | ["expect", call, res] => { s with expects := (call, res) :: s.expects.filter (·.1 != call) }
  | ["now", t] => { s with ctime := max s.ctime (t.toNat?.getD 0) }
  | "incsearch" :: prog :: cands => { s with incsearch := s.incsearch ++ [(prog, cands)] }
  | "usort" :: rest => { s with pendingUnit := s.pendingUnit ++ [("usort" :: rest)] }
  | "ureloc" :: rest => { s with pendingUnit := s.pendingUnit ++ [("ureloc" :: rest)] }
  | "upatch" :: rest => { s with pendingUnit := s.pendingUnit ++ [("upatch" :: rest)] }
  | "utimes" :: rest => { s with pendingUnit := s.pendingUnit ++ [("utimes" :: rest)] }
  | "uqsort" :: rest => { s with pendingUnit := s.pendingUnit ++ [("uqsort" :: rest)] }
  | _ => s

/-! ### unit outputs -/

/-- expected result of usort, from the meaning of sorting: positions ordered by key with the '#' entry last -/
def usortExpect (cmd : List String) : List Nat × List Nat :=
  let k := csvNat (kv cmd "k")
  let h := (kv cmd "h").toInt?.getD (-1)
  let idx := List.range k.length
  let lt (a b : Nat) : Bool :=
    let ha := (a : Int) == h
    let hb := (b : Int) == h
    if ha then false else if hb then true else k.getD a 0 < k.getD b 0
  let order := isort lt idx
  (order, k)

def judgeUnit (cmd : List String) (out : List String) : List String :=
  match cmd with
  | "usort" :: _ =>
    match out with
    | ["ft", ft] =>
      let (order, _) := usortExpect cmd
      if csvNat ft == order then [] else [s!"usort-table-not-sorted got={ft} want={order}"]
    | ["of", ofs] =>
      -- every rewritten slot must designate the same entry: new[of'] = old[of]; unvisited slots unchanged.
      -- the oracle does not know which slots are visited; it accepts either, but a changed slot must be right
      let (order, _) := usortExpect cmd
      let old := csvNat (kv cmd "of")
      let new := csvNat ofs
      let okSlot (p : Nat × Nat) : Bool := p.1 == p.2 || order.getD p.2 99999 == p.1
      if old.length == new.length && (old.zip new).all okSlot then [] else [s!"usort-findex-wrong got={ofs}"]
    | ["ts", ts] =>
      let (order, _) := usortExpect cmd
      let old := csvNat (kv cmd "ts")
      if old.isEmpty then (if ts == "-" then [] else ["usort-typestart-appeared"])
      else if csvNat ts == order.map (fun i => old.getD i 0) then [] else [s!"usort-typestart-does-not-follow got={ts}"]
    | _ => [s!"usort-unexpected-output {out}"]
  | "ureloc" :: _ =>
    match out with
    | ["reloc", r] =>
      let f := csvNat (kv cmd "f")
      let got := csv r
      let tsNull := f.getD 12 0 == 0
      let ok := (List.range 13).all (fun i =>
        let want :=
          -- a NULL `inherit` (no inherits) stays NULL; without save_types the two type members are left alone
          if i == 8 && f.getD i 0 == 0 then "null"
          else if i ≥ 11 && tsNull then (if f.getD i 0 == 0 then "null" else "wild")
          else if f.getD i 0 == 0 then "wild" else toString (f.getD i 0)
        got.getD i "" == want)
      if ok then [] else [s!"reloc-offsets-not-preserved got={r}"]
    | _ => [s!"ureloc-unexpected-output {out}"]
  | "uqsort" :: _ =>
    -- what sorting means, not how qsort.c does it: nothing torn, the same elements, and — when the comparison table is
    -- a strict order on the values that occur — no later element below an earlier one
    match out with
    | ["qs", r] =>
      let v := csvNat (kv cmd "v")
      let m := (kv cmd "m").toNat?.getD 1
      let sz := (kv cmd "sz").toNat?.getD 4
      let c := (kv cmd "c").toList
      let lt (x y : Nat) : Bool := c.getD (x * m + y) '0' == '-'
      let got := csv r
      if got.contains "torn" then ["qsort-element-torn"] else
      let vals := got.map (fun e => ((e.splitOn ":").headD "").toNat?.getD 99999)
      let tags := got.map (fun e => ((e.splitOn ":").getD 1 "").toNat?.getD 99999)
      let permOk :=
        if sz > 4 then isort (fun a b => decide (a < b)) tags == List.range v.length &&
                       (vals.zip tags).all (fun p => v.getD p.2 99998 == p.1)
        else isort (fun a b => decide (a < b)) vals == isort (fun a b => decide (a < b)) v
      let dom := v.eraseDups
      let strict := dom.all (fun x => dom.all (fun y => !(lt x y && lt y x) &&
                      dom.all (fun z => !(lt x y && lt y z) || lt x z)))
      let rec sortedFrom : List Nat → Bool
        | [] => true
        | x :: rest => rest.all (fun y => !(lt y x)) && sortedFrom rest
      (if permOk then [] else [s!"qsort-not-a-permutation got={r}"]) ++
      (if !strict || sortedFrom vals then [] else [s!"qsort-not-sorted got={r}"])
    | _ => [s!"uqsort-unexpected-output {out}"]
  | "utimes" :: b :: f :: _ =>
    match out with
    | ["times", r] =>
      let want : Int := match f.toNat?, b.toNat? with
        | some f, some b => if f > b then 0 else 1
        | _, _ => -1
      if r.toInt? == some want then [] else [s!"check-times-wrong got={r} want={want}"]
    | _ => [s!"utimes-unexpected-output {out}"]
  | _ => []

/-- upatch prints one `sw k ...` line per table -/
def judgePatchLine (cmd : List String) (k : Nat) (ents : String) : List String :=
  let sp := csvInt (kv cmd "sp")
  let tables := (kv cmd "sw").splitOn ";"
  let pad := (kv cmd "pad").toNat?.getD 0
  let want := (csv (tables.getD k "-")).filterMap (fun e => match e.splitOn ":" with
    | [i, a] => do some (← i.toInt?, ← a.toNat?)
    | _ => none)
  let got := (csv ents).filterMap (fun e => match e.splitOn ":" with
    | [i, a] => do some (← i.toInt?, ← a.toNat?)
    | _ => none)
  let ptr (i : Int) : Int := if i < 0 then 0 else sp.getD i.toNat 0
  let sortedOk := strictlyIncreasing (got.map (fun e => ptr e.1))
  let same := isort entLt got == isort entLt want
  (if same then [] else [s!"patch-table-changed table={k} pad={pad}"]) ++
  (if sortedOk then [] else [s!"patch-table-not-sorted table={k} pad={pad}"])

/-! ### the trace -/

def unitOutputsOf (cmd : List String) : Nat :=
  match cmd with
  | "usort" :: _ => 3
  | "upatch" :: rest => ((kv rest "sw").splitOn ";").length
  | _ => 1

structure UnitProgress where
  seen : Nat := 0

def endBlock (s : JState) : JState :=
  -- every dumped program
  let s := s.cur.foldl (fun s (tag, d) =>
    let s := (wellFormed tag d).foldl JState.flag s
    let dc := declOf s (tag ++ ".c")
    let s :=
      match dc.save, dc.ssw with
      | true, some n =>
        -- a saved program: every string switch of the source must be in the patch list
        if (d.kind "sw").length == n then s
        else s.flag s!"string-switch-not-in-patch-list {tag} patched={(d.kind "sw").length} in-source={n}"
      | _, _ => s
    if s.used.contains (tag ++ ".c") then
      match s.fresh.lookup tag with
      | some f => (sameProgram tag f d).foldl JState.flag s
      | none => s.flag s!"binary-used-without-fresh-compile {tag}"
    else { s with fresh := setKey s.fresh tag d }) s
  let allFromBinary := !s.cur.isEmpty && s.cur.all (fun (tag, _) => s.used.contains (tag ++ ".c"))
  let s :=
    if allFromBinary then
      match s.freshR.lookup s.top with
      | some r =>
        if r == s.curR.reverse then s
        else
          match (r.zip s.curR.reverse).find? (fun p => p.1 != p.2) with
          | some (x, y) => s.flag s!"call-results-differ {s.top} fresh=[{x}] binary=[{y}]"
          | none => s.flag s!"call-results-differ {s.top} count"
      | none => s
    else { s with freshR := setKey s.freshR s.top s.curR.reverse }
  { s with inBlock := false, used := [], cur := [], curR := [] }

def traceLine (s : JState) (unitSeen : Nat) (line : String) : JState × Nat :=
  match toks line with
  | ["begin", _] => ({ s with inBlock := true, used := [], cur := [], curR := [] }, unitSeen)
  | ["end", _] => (endBlock s, unitSeen)
  | ["corrupted", name] => ({ s with damaged := name :: s.damaged }, unitSeen)
  | ["foreign", name, _] => ({ s with foreign := name :: s.foreign }, unitSeen)
  | ["copybin", src, dst] =>
    -- the file (content, modification time, damage) of src now also stands at dst's place; it is a foreign binary there
    -- unless its content is the binary that was saved for dst (a copy that came back)
    let owner := (s.binOwner.lookup src).getD src
    let tampered := s.foreign.contains src && owner == src
    let fg := s.foreign.filter (fun x => x != dst)
    let fg := if owner != dst || tampered then dst :: fg else fg
    let dm := s.damaged.filter (fun x => x != dst)
    let dm := if s.damaged.contains src then dst :: dm else dm
    let bt := match s.binT.lookup src with | some t => setKey s.binT dst t | none => s.binT
    ({ s with foreign := fg, damaged := dm, binT := bt, binOwner := setKey s.binOwner dst owner }, unitSeen)
  | ["lb", name, "use"] =>
    let s := (staleReasons s name).foldl JState.flag s
    let s := if s.damaged.contains name then s.flag s!"damaged-binary-used {name}" else s
    let s := if s.foreign.contains name then s.flag s!"foreign-binary-used {name}" else s
    -- the binary was compiled against a version of a parent that was already out of date then, and that parent has
    -- been loaded again since: the layout in the binary is not the one the current sources give
    let s := (((s.poisoned.lookup name).getD []).filter (fun q => ((s.mem.lookup q.1).map (·.1)) != some q.2)).foldl
      (fun s q => s.flag s!"stale-binary-used {name} dep=compiled-against-older-version-of:{q.1}") s
    -- the same for the directives of the programs it inherits: the binary was laid out for parents built from those files
    let s :=
      ((s.resolvedParents.lookup name).getD []).foldl (fun (s : JState) (q : String × List (Option String)) =>
        ((q.2.zip (resolveNow s q.1)).filter (fun (p : Option String × Option String) => p.1 != p.2)).foldl
          (fun (s : JState) (p : Option String × Option String) =>
            s.flag s!"stale-binary-used {name} dep=include-of-inherited-shadowed-by:{p.2.getD "?"}:{q.1}") s) s
    -- an include directive that would now find another file (a new file earlier in the search path)
    let s :=
      match s.resolved.lookup name with
      | some was =>
        ((was.zip (resolveNow s name)).filter (fun (p : Option String × Option String) => p.1 != p.2)).foldl
          (fun (s : JState) (p : Option String × Option String) =>
            s.flag s!"stale-binary-used {name} dep=include-shadowed-by:{p.2.getD "?"}") s
      | none => s
    (registerLoad { s with used := name :: s.used } name, unitSeen)
  | ["lb", name, "stale"] => (registerLoad s name, unitSeen)
  | ["lb", _, "needs", _] => (s, unitSeen)
  | "sv" :: name :: t :: _ =>
    let old := ((s.links.lookup name).getD []).filter (fun q => outdatedO s 64 q.1 q.2)
    match t.toNat? with
    | some t =>
      let dm := s.damaged.filter (fun x => x != name)
      let fg := s.foreign.filter (fun x => x != name)
      ({ s with binT := setKey s.binT name t, damaged := dm, foreign := fg, binOwner := setKey s.binOwner name name,
                poisoned := setKey s.poisoned name old,
                resolved := setKey s.resolved name (resolveNow s name),
                resolvedParents := setKey s.resolvedParents name
                  (((declOf s name).inherits ++ indirectInherits s name).eraseDups.map (fun q => (q, resolveNow s q))) },
       unitSeen)
    | none =>
      -- not written: right only when the program was compiled against an out-of-date parent or the master refuses
      if old.isEmpty && !(declOf s name).refuse then (s.flag s!"save-failed {name}", unitSeen) else (s, unitSeen)
  | "restarted" :: _ => ({ s with simulTouchedSinceRestart := false }, unitSeen)
  | "D" :: tag :: rest =>
    let d := (s.cur.lookup tag).getD {}
    let s := if s.top == "" || s.cur.isEmpty then { s with top := tag } else s
    ({ s with cur := (s.cur.filter (·.1 != tag)) ++ [(tag, { lines := d.lines ++ [rest] })] }, unitSeen)
  | "R" :: rest =>
    let s := { s with curR := " ".intercalate rest :: s.curR }
    match rest with
    | [call, res] =>
      match s.expects.lookup call with
      | some want =>
        -- every string case must be reachable, after a compile and after a load from the binary alike
        if res == "\"" ++ want ++ "\"" then (s, unitSeen)
        else (s.flag s!"string-case-unreachable {call} got={res} want={want}", unitSeen)
      | none => (s, unitSeen)
    | _ => (s, unitSeen)
  | "sw" :: k :: ents :: [] =>
    match s.pendingUnit with
    | cmd :: more =>
      let s := (judgePatchLine cmd (k.toNat?.getD 0) ents).foldl JState.flag s
      if unitSeen + 1 ≥ unitOutputsOf cmd then ({ s with pendingUnit := more }, 0) else (s, unitSeen + 1)
    | [] => (s.flag s!"unexpected {line}", unitSeen)
  | t :: rest =>
    if ["ft", "of", "ts", "reloc", "times", "qs"].contains t then
      match s.pendingUnit with
      | cmd :: more =>
        let s := (judgeUnit cmd (t :: rest)).foldl JState.flag s
        if unitSeen + 1 ≥ unitOutputsOf cmd then ({ s with pendingUnit := more }, 0) else (s, unitSeen + 1)
      | [] => (s.flag s!"unexpected {line}", unitSeen)
    else (s.flag s!"failure-{t} {line}", unitSeen)
  | [] => (s, unitSeen)

/-- the case lines are interleaved with the trace by position: a case line that produces output (`reload`, `restart`,
    unit commands) is applied when its output arrives; lines that only change the history are applied in order. -/
def judge (caseLines : List String) (trace : List String) : List String :=
  -- walk the case; consume trace lines for the commands that print
  let rec go (cl : List String) (tr : List String) (s : JState) (fuel : Nat) : JState :=
    match fuel with
    | 0 => s
    | fuel + 1 =>
      match cl with
      | [] => tr.foldl (fun s l => (traceLine s 0 l).1) s
      | c :: rest =>
        let s := caseLine s c
        match toks c with
        | "reloadf" :: top :: _ =>
          -- the reference compile of the current sources (no binaries involved): its dumps and call results are what
          -- every later load from a binary is compared with
          let blk := tr.takeWhile (fun l => !(l.startsWith "end "))
          let after := tr.drop blk.length
          let s := { s with top := top }
          let s := (blk ++ after.take 1).foldl (fun s l => (traceLine s 0 l).1) s
          let s := if after.isEmpty then s.flag s!"reload-did-not-finish {top}" else s
          go rest (after.drop 1) s fuel
        | "reloadp" :: top :: _ =>
          let blk := tr.takeWhile (fun l => !(l.startsWith "end "))
          let after := tr.drop blk.length
          let s := { s with top := top }
          let s := (blk ++ after.take 1).foldl (fun s l => (traceLine s 0 l).1) s
          let s := if after.isEmpty then s.flag s!"reload-did-not-finish {top}" else s
          go rest (after.drop 1) s fuel
        | "reload" :: top :: _ =>
          -- consume up to and including the matching `end`
          let blk := tr.takeWhile (fun l => !(l.startsWith "end "))
          let after := tr.drop blk.length
          let s := { s with top := top }
          let s := (blk ++ after.take 1).foldl (fun s l => (traceLine s 0 l).1) s
          let s := if after.isEmpty then s.flag s!"reload-did-not-finish {top}" else s
          go rest (after.drop 1) s fuel
        | ["badload", name] =>
          -- the error report of the master and the harness line
          match tr with
          | l :: e :: b :: tr' =>
            if l == s!"lb {name}.c stale" && e.startsWith "err *Error in loading object" && b == s!"badload {name} failed"
            then go rest tr' s fuel
            else go rest tr' (s.flag s!"badload-unexpected {b}") fuel
          | _ => go rest [] (s.flag "badload-without-output") fuel
        | ["bindump", obj] =>
          -- the bytes of a saved binary: they must be a well-formed file (checksum, every section inside the file)
          -- that names the program it was saved for
          let chunks := tr.takeWhile (fun l => l.startsWith s!"bin {obj} ")
          let after := tr.drop chunks.length
          let s :=
            match after.head? with
            | some l =>
              if l.startsWith s!"binsum {obj} " && !chunks.isEmpty then
                match decodeFile 4 (unhexBytes (String.join (chunks.map (fun l => ((toks l).getD 2 ""))))) with
                | none => s.flag s!"saved-binary-undecodable {obj}"
                | some b =>
                  if b.name == (obj ++ ".c").toUTF8.toList then s
                  else s.flag s!"saved-binary-names-another-program {obj}"
              else if l == s!"bindump {obj} unavailable" && chunks.isEmpty then s
              else s.flag s!"bindump-unexpected {l}"
            | none => s.flag s!"bindump-without-output {obj}"
          go rest (after.drop 1) s fuel
        | "restart" :: _ =>
          match tr with
          | l :: tr' => go rest tr' (traceLine s 0 l).1 fuel
          | [] => go rest [] (s.flag "restart-without-output") fuel
        | cmd :: _ =>
          if ["usort", "ureloc", "upatch", "utimes", "uqsort"].contains cmd then
            let n := unitOutputsOf (toks c)
            let outs := tr.take n
            let (s, _) := outs.foldl (fun (p : JState × Nat) l => traceLine p.1 p.2 l) (s, 0)
            let s := if outs.length < n then { (s.flag s!"unit-output-missing {cmd}") with pendingUnit := [] } else s
            go rest (tr.drop n) s fuel
          else go rest tr s fuel
        | [] => go rest tr s fuel
  let s := go caseLines trace {} (caseLines.length + 2)
  s.bad.reverse

end NV.C17
