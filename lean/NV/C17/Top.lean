/-
C17 — clause-level theorems: what the MODEL decides passes the ORACLE's clauses (Spec.lean, computed from the history
alone), for every world and every oracle state that describe the same files, binaries and declarations.  When the model
of `load_binary` uses a binary, the never-stale rule `staleReasons` finds no reason against it, the binary is neither
damaged nor foreign, and every include directive resolves as it did when the binary was saved; when the model of
`save_binary` writes a binary, the oracle finds no outdated parent.  So on the `lb … use` and `sv` lines of its own
traces the model is never flagged by these clauses.
-/
import NV.C17.Spec
import NV.C17.Decision

namespace NV.C17

/-- the oracle's breadth-first walk over its declarations answers only members of a set that holds the two start lists
    and is closed under "inherits" -/
theorem indirect_go_closed (s : JState) (P : String → Prop)
    (hstep : ∀ p r, P p → r ∈ (declOf s p).inherits → P r) :
    ∀ (fuel : Nat) (frontier seen : List String), (∀ q, q ∈ frontier → P q) → (∀ q, q ∈ seen → P q) →
      ∀ q, q ∈ indirectInherits.go s frontier seen fuel → P q := by
  intro fuel
  induction fuel with
  | zero => intro frontier seen _ hs q hq; exact hs q hq
  | succ fuel ih =>
    intro frontier seen hf hs q hq
    unfold indirectInherits.go at hq
    simp only at hq
    split at hq
    · exact hs q hq
    · have hnext : ∀ r, r ∈ ((frontier.flatMap (fun q => (declOf s q).inherits)).filter (fun q => !(seen.contains q))) →
          P r := by
        intro r hr
        obtain ⟨p, hp, hrp⟩ := List.mem_flatMap.mp (List.mem_filter.mp hr).1
        exact hstep p r (hf p hp) hrp
      refine ih _ _ (fun r hr => hnext r (List.mem_eraseDups.mp hr)) (fun r hr => ?_) q hq
      rcases List.mem_append.mp hr with h | h
      · exact hs r h
      · exact hnext r (List.mem_eraseDups.mp h)

/-- the oracle state and the model's world describe the same situation -/
structure SameSituation (s : JState) (w : World) (name : String) (b : BinFile) (mt : Nat) : Prop where
  files : ∀ p, s.mt p = w.mtime p
  bin : s.binT.lookup name = some mt
  bins : ∀ q t, s.binT.lookup q = some t → w.mtime (binPath w q) = some t
  includes : ∀ i, i ∈ (declOf s name).includes → i ∈ b.includes ∨ w.mtime i = none   -- ('!' entries name no file)
  inherits : (declOf s name).inherits = b.inherits
  parents : ∀ i q, i ∈ b.inherits → Reach w i q → ∀ lp, w.progs.lookup q = some lp →
    lp.inherits = (declOf s q).inherits ∧ (∀ f, f ∈ q :: (declOf s q).includes → f ∈ lp.files)
  simul : w.simulPath = simulPath

/-- the programs the oracle's walk finds behind the inherit list are programs the model's walk reached -/
theorem indirect_in_reach (s : JState) (w : World) (name : String) (b : BinFile) (mt : Nat)
    (hc : SameSituation s w name b mt)
    (hall : ∀ i, i ∈ b.inherits → ∀ r, Reach w i r → ∃ lp, w.progs.lookup r = some lp) :
    ∀ q, q ∈ indirectInherits s name → ∃ i, i ∈ b.inherits ∧ Reach w i q := by
  intro q hq
  have hstart : ∀ q, q ∈ (declOf s name).inherits → ∃ i, i ∈ b.inherits ∧ Reach w i q :=
    fun q hq => ⟨q, hc.inherits ▸ hq, Reach.refl q⟩
  refine indirect_go_closed s _ ?_ 20 _ _ hstart hstart q (List.mem_filter.mp hq).1
  rintro p r ⟨i, hi, hp⟩ hr
  obtain ⟨lp, hl⟩ := hall i hi p hp
  exact ⟨i, hi, hp.tail lp hl ((hc.parents i p hi hp lp hl).1 ▸ hr)⟩

/-- the oracle's test "newer than `mt`" on a modification time that is not -/
theorem not_newer {o : Option Nat} {mt : Nat} :
    (∀ t, o = some t → t ≤ mt) → (match o with | some t => decide (t > mt) | none => false) = false := by
  cases o with
  | none => exact fun _ => rfl
  | some t => exact fun h => decide_eq_false (Nat.not_lt.mpr (h t rfl))

/-- **model_use_passes_stale_clause**: for all worlds, histories and programs — if the model of `load_binary` answers
    "use" for a binary, the oracle's never-stale rule, evaluated on an oracle state that describes the same files,
    binaries and declarations, reports nothing (no `stale-binary-used …`, no `binary-used-but-never-saved`). -/
theorem model_use_passes_stale_clause (s : JState) (w : World) (name : String) (b : BinFile) (mt : Nat)
    (h : loadBinary w name = .use) (hm : w.mtime (binPath w name) = some mt)
    (hb : w.bins.lookup (binPath w name) = some b) (hc : SameSituation s w name b mt) :
    staleReasons s name = [] := by
  obtain ⟨mt', b', u⟩ := (never_stale w name h).clauses
  cases hm.symm.trans u.binTime
  cases hb.symm.trans u.binary
  have le_of_some : ∀ {p : String}, (∃ t, w.mtime p = some t ∧ t ≤ mt) → ∀ t, w.mtime p = some t → t ≤ mt := by
    rintro p ⟨t, ht, hle⟩ t' ht'
    cases ht.symm.trans ht'
    exact hle
  -- everything reachable from a direct parent: its files (the oracle's declaration of it names some of them) and its binary
  have reachFacts := fun i hi r (hr : Reach w i r) => treeNewer_false_reach w mt hr (u.inhTree i hi)
  have fileOfReach : ∀ i, i ∈ b.inherits → ∀ q, Reach w i q → ∀ f, f ∈ q :: (declOf s q).includes →
      ∀ t, w.mtime f = some t → t ≤ mt := by
    intro i hi q hq f hf
    obtain ⟨lp, at_q⟩ := reachFacts i hi q hq
    exact at_q.files f ((hc.parents i q hi hq lp at_q.prog).2 f hf)
  -- the oracle's walk over its declarations stays inside what the model's walk reached
  have indirectFacts := indirect_in_reach s w name b mt hc fun i hi r hr => (reachFacts i hi r hr).imp fun _ at_r => at_r.prog
  have newer := fun {p : String} (h : ∀ t, w.mtime p = some t → t ≤ mt) => not_newer (o := s.mt p) (hc.files p ▸ h)
  have newerBin := fun {q : String} (h : ∀ t, w.mtime (binPath w q) = some t → t ≤ mt) =>
    not_newer (o := s.binT.lookup q) fun t ht => h t (hc.bins q t ht)
  unfold staleReasons
  rw [hc.bin]
  simp only [List.append_eq_nil_iff, List.map_eq_nil_iff, List.filter_eq_nil_iff, List.flatMap_eq_nil_iff,
    Bool.or_eq_true, not_or, Bool.not_eq_true]
  refine ⟨⟨⟨⟨⟨⟨?_, ?_⟩, ?_⟩, ?_⟩, ?_⟩, ?_⟩, ?_⟩
  · exact if_neg (ne_true_of_eq_false (newer (le_of_some u.source)))
  · intro i hi
    refine newer ?_
    rcases hc.includes i hi with hin | hnone
    · exact le_of_some (u.includes i hin)
    · intro t ht; rw [hnone] at ht; cases ht
  · intro i hi
    exact newer (le_of_some (u.inhSource i (hc.inherits ▸ hi)))
  · intro i hi
    exact newerBin (u.inhBinary i (hc.inherits ▸ hi))
  · intro q hq
    obtain ⟨i, hi, hr⟩ := indirectFacts q hq
    obtain ⟨_, at_q⟩ := reachFacts i hi q hr
    exact ⟨newer (fileOfReach i hi q hr q List.mem_cons_self), newerBin at_q.binary⟩
  · intro q hq f hf
    obtain ⟨i, hi, hr⟩ : ∃ i, i ∈ b.inherits ∧ Reach w i q := by
      rcases List.mem_append.mp hq with h1 | h1
      · exact ⟨q, hc.inherits ▸ h1, Reach.refl q⟩
      · exact indirectFacts q h1
    exact newer (fileOfReach i hi q hr f (List.mem_cons_of_mem q hf))
  · have hs : ∀ t, w.mtime simulPath = some t → t ≤ mt := by
      rw [← hc.simul]
      exact u.simul.resolve_left fun h0 => absurd (hc.simul ▸ h0) (by decide)
    exact if_neg (ne_true_of_eq_false (newer hs))

/-- the oracle's bookkeeping of what is in memory and the model's world describe the same situation -/
structure SameMemory (s : JState) (w : World) : Prop where
  files : ∀ p, s.mt p = w.mtime p
  progs : ∀ p lp, w.progs.lookup p = some lp →
    (s.mem.lookup p = none ∨ s.mem.lookup p = some (lp.gen, lp.loadTime)) ∧
      (∀ f, f ∈ p :: (declOf s p).includes → f ∈ lp.files) ∧ (s.links.lookup p).getD [] = lp.linked

theorem progOutdated_false_oracle (s : JState) (w : World) (hc : SameMemory s w) :
    ∀ fuel p g, progOutdated w fuel p g = false → outdatedO s fuel p g = false := by
  intro fuel
  induction fuel with
  | zero => intro p g h; simp [progOutdated] at h
  | succ fuel ih =>
    intro p g h
    obtain ⟨lp, n, hn, at_p, hlinked⟩ := progOutdated_false w h
    cases hn
    obtain ⟨hmem, hdecl, hlinks⟩ := hc.progs p lp at_p.prog
    unfold outdatedO
    rcases hmem with hm | hm
    · rw [hm]
    · rw [hm, hlinks]
      simp only [Bool.or_eq_false_iff, bne_eq_false_iff_eq, List.any_eq_false, Bool.not_eq_true]
      exact ⟨⟨at_p.gen, fun f hf => not_newer (hc.files f ▸ at_p.files f (hdecl f hf))⟩,
        fun q hq => ih q.1 q.2 (hlinked q hq)⟩

/-- **model_save_passes_outdated_clause**: whenever the model's `save_binary` test lets a program be saved, the oracle's
    own bookkeeping (load numbers, clock, declarations) finds no outdated parent among the programs it is linked with:
    a binary written by the model is never "poisoned" (the list `old` the oracle computes at the `sv` line, with its
    own walk limit 64), so the clause `compiled-against-older-version-of` cannot fire on it. -/
theorem model_save_passes_outdated_clause (s : JState) (w : World) (linked : List (String × Nat)) (hc : SameMemory s w)
    (h : saveAllowed w linked = true) : linked.filter (fun q => outdatedO s 64 q.1 q.2) = [] :=
  List.filter_eq_nil_iff.mpr fun q hq =>
    ne_true_of_eq_false (progOutdated_false_oracle s w hc 64 q.1 q.2 ((saveAllowed_iff w linked).mp h q hq))

/-- **model_use_passes_damaged_and_foreign_clauses**: the oracle flags the use of a binary it knows to be damaged (checksum),
    written by another driver build or configuration (magic, driver id, config id) or saved for another program (name).
    When the model answers "use" the binary is none of these. -/
theorem model_use_passes_damaged_and_foreign_clauses (w : World) (name : String) (h : loadBinary w name = .use) :
    ∃ b, w.bins.lookup (binPath w name) = some b ∧ b.intact = true ∧ b.magic = magicId ∧ b.driverId = driverId ∧
      b.configId = w.configId ∧ (b.name.length = 0 ∨ b.name = name) := by
  obtain ⟨_, b, u⟩ := (never_stale w name h).clauses
  exact ⟨b, u.binary, u.intact, u.magic, u.driver, u.config, u.name⟩

/-- **model_use_passes_shadow_clause**: the clause `include-shadowed-by` of the oracle compares what every declared include
    directive of the program resolved to when the binary was saved (oracle state `s0`, world `w0`) with what it resolves
    to when the binary is used (`s`, `w`).  If the binary lists what `inc_open` did at compile time (the file read among
    `includes`, every missed candidate among the '!' entries) and the model's `load_binary` uses it, both lists are equal:
    the clause cannot fire on a `lb … use` line of the model. -/
theorem model_use_passes_shadow_clause (s0 s : JState) (w0 w : World) (name : String) (b : BinFile)
    (hf0 : ∀ p, s0.mt p = w0.mtime p) (hf : ∀ p, s.mt p = w.mtime p) (hdecl : s0.incsearch = s.incsearch)
    (hdirs : ∀ d, d ∈ s.incsearch → d.1 = name →
      ∃ r missed, incOpen w0 d.2 = some (r, missed) ∧ r ∈ b.includes ∧ ∀ c, c ∈ missed → c ∈ b.absent)
    (hb : w.bins.lookup (binPath w name) = some b) (h : loadBinary w name = .use) :
    resolveNow s0 name = resolveNow s name := by
  unfold resolveNow
  rw [hdecl, funext hf0, funext hf]
  apply List.map_congr_left
  intro d hd
  obtain ⟨hd1, hd2⟩ := List.mem_filter.mp hd
  obtain ⟨r, missed, hopen, hr, hm⟩ := hdirs d hd1 (by simpa using hd2)
  have h0 := incOpen_fst w0 d.2
  rw [hopen] at h0
  exact h0.symm.trans (includes_resolve_as_recorded w0 w name b d.2 r missed hopen hb hr hm h).symm

/-- non-vacuity: a program with an include file and the simul_efun file, all older than its binary -/
example :
    let w : World := { files := [("B/a", 200), ("d/a.c", 100), ("d/x.h", 150), ("simul_efun.c", 50)],
                       bins := [("B/a", { magic := magicId, driverId := driverId, configId := 50, includes := ["d/x.h"],
                                          name := "d/a.c", inherits := [] })],
                       configId := 50, simulPath := "simul_efun.c", binOf := fun _ => "B/a" }
    let s : JState := { files := w.files, binT := [("d/a.c", 200)],
                        decls := [{ name := "d/a.c", includes := ["d/x.h"], inherits := [] }] }
    loadBinary w "d/a.c" = .use ∧ staleReasons s "d/a.c" = [] ∧
      staleReasons { s with files := ("d/x.h", 201) :: s.files } "d/a.c" = ["stale-binary-used d/a.c dep=include:d/x.h"] := by
  decide +kernel

end NV.C17
