/-
C17 — the contract of `quickSort` (lib/misc/qsort.c) proved from the model of its code (NV/C17/QSort.lean):
for EVERY comparison function it stays inside the array, terminates within the fuel and only rearranges the elements
(`quickSort_perm`; the driver also calls it with mudlib-supplied comparators, `sort_array`); for a comparison that is a strict
order (asymmetric, transitive — `compare_compiler_funcs`, `str_case_cmp`) the result is sorted (`quickSort_sorted`).

The array is read as a list `pre ++ seg ++ post`, `seg` being the segment [left, right] a call of `qSort` works on, and
positions are lengths: `left = pre.length`.  "Rearranges only the segment" is then `pre ++ seg' ++ post` with `seg'` a
permutation of `seg`, "sorted" is `List.Pairwise`, and the partition stage leaves `seg = lo ++ p :: hi` with `lo` below the
pivot and `hi` not (`partition_spec`); the two recursive calls work on `lo` and `hi` (`qSort_spec`).  Every `doSwap` of the
code exchanges the two ends of a block (`swapAt_front`, `swapAt_back`).
-/
import NV.C17.QSort

namespace NV.C17

variable {α : Type}

/-- position `A.length` of an array that reads `A ++ x :: C` -/
theorem getElem?_split {a : Array α} {A C : List α} {x : α} {i : Nat} (h : a.toList = A ++ x :: C) (hi : i = A.length) :
    a[i]? = some x := by
  rw [← Array.getElem?_toList, h, hi]; simp

theorem swapAt_self {a : Array α} {A C : List α} {x : α} {i : Nat} (h : a.toList = A ++ x :: C) (hi : i = A.length) :
    swapAt a i i = some a := by
  have hlt := (Array.getElem?_eq_some_iff.mp (getElem?_split h hi)).1
  simp [swapAt, hlt, Array.swap_def]

theorem set_split {l A C : List α} {x : α} {i : Nat} (h : l = A ++ x :: C) (hi : i = A.length) (y : α) :
    l.set i y = A ++ y :: C := by
  subst h hi; simp

theorem swapAt_append {a : Array α} {A B C : List α} {x y : α} {i j : Nat}
    (h : a.toList = A ++ x :: (B ++ y :: C)) (hi : i = A.length) (hj : j = A.length + 1 + B.length) :
    ∃ a', swapAt a i j = some a' ∧ a'.toList = A ++ y :: (B ++ x :: C) := by
  have hj2 : j = (A ++ x :: B).length := by simp [hj]; omega
  have h2 : a.toList = (A ++ x :: B) ++ y :: C := by simp [h]
  obtain ⟨hi', ei⟩ := Array.getElem?_eq_some_iff.mp (getElem?_split h hi)
  obtain ⟨hj', ej⟩ := Array.getElem?_eq_some_iff.mp (getElem?_split h2 hj2)
  refine ⟨_, dif_pos ⟨hi', hj'⟩, ?_⟩
  rw [Array.toList_swap, ei, ej, set_split h hi,
    set_split (A := A ++ y :: B) (C := C) (x := y) (by simp) (by simpa using hj2)]
  simp

/-- `x`, found behind the block `H`, is exchanged with the block's first element (with itself when `H` is empty) -/
theorem swapAt_front {a : Array α} {A H C : List α} {x : α} {i j : Nat}
    (h : a.toList = A ++ (H ++ x :: C)) (hi : i = A.length) (hj : j = A.length + H.length) :
    ∃ a' H', swapAt a i j = some a' ∧ a'.toList = A ++ x :: (H' ++ C) ∧ H'.Perm H := by
  cases H with
  | nil =>
    cases hi.trans hj.symm
    exact ⟨a, [], swapAt_self h hi, h, .refl _⟩
  | cons u H0 =>
    obtain ⟨a', e, h'⟩ := swapAt_append (B := H0) (j := j) h hi (by rw [hj, List.length_cons]; omega)
    exact ⟨a', H0 ++ [u], e, by simp [h'], List.perm_append_singleton u H0⟩

/-- the element `p` in front of the block `H` is exchanged with the block's last element -/
theorem swapAt_back {a : Array α} {A H C : List α} {p : α} {i j : Nat}
    (h : a.toList = A ++ p :: (H ++ C)) (hi : i = A.length) (hj : j = A.length + H.length) :
    ∃ a' H', swapAt a i j = some a' ∧ a'.toList = A ++ (H' ++ p :: C) ∧ H'.Perm H := by
  rcases List.eq_nil_or_concat H with rfl | ⟨H0, v, rfl⟩
  · cases hi.trans hj.symm
    exact ⟨a, [], swapAt_self h hi, h, .refl _⟩
  · obtain ⟨a', e, h'⟩ := swapAt_append (B := H0) (y := v) (C := C) (j := j) (by simpa using h) hi (by simp at hj; omega)
    exact ⟨a', v :: H0, e, by simp [h'], by simpa using (List.perm_append_singleton v H0).symm⟩

/-- the loop `for (i = left + 1; i <= right; i++)` on the array `A ++ hi ++ rest ++ post`: `A` ends with the elements found
    below the pivot `p = A[left]` so far, `hi` are those found not below it, `rest` is still to be looked at -/
theorem partLoop_spec (lt : α → α → Bool) (p : α) (left : Nat) (post : List α) :
    ∀ (rest A hi : List α) (a : Array α) (i last : Nat),
      a.toList = A ++ (hi ++ (rest ++ post)) → A[left]? = some p → last + 1 = A.length → i = A.length + hi.length →
      (∀ x, x ∈ hi → lt x p = false) →
      ∃ a' lo' hi', partLoop lt left rest.length i last a = some (a', last + lo'.length) ∧
        a'.toList = A ++ (lo' ++ (hi' ++ post)) ∧ (lo' ++ hi').Perm (hi ++ rest) ∧
        (∀ x, x ∈ lo' → lt x p = true) ∧ (∀ x, x ∈ hi' → lt x p = false) := by
  intro rest
  induction rest with
  | nil => intro A hi a i last h _ _ _ g; exact ⟨a, [], hi, rfl, h, .of_eq (List.append_nil hi).symm, nofun, g⟩
  | cons x rest ih =>
    intro A hi a i last h hp hl hidx g
    have hleft := (List.getElem?_eq_some_iff.mp hp).1
    have ex : a[i]? = some x := getElem?_split (A := A ++ hi) (C := rest ++ post)
      (h.trans (List.append_assoc _ _ _).symm) (hidx.trans List.length_append.symm)
    have ep : a[left]? = some p :=
      (Array.getElem?_toList ..).symm.trans ((congrArg (·[left]?) h).trans ((List.getElem?_append_left hleft).trans hp))
    rw [List.length_cons, partLoop, ex, ep]
    dsimp only
    by_cases hlt : lt x p = true
    · obtain ⟨a1, hi1, e1, h1, hp1⟩ := swapAt_front (x := x) (C := rest ++ post) h hl hidx
      rw [if_pos hlt, e1]
      dsimp only
      obtain ⟨a', lo', hi', e, h', hq, r1, r2⟩ := ih (A ++ [x]) hi1 a1 (i + 1) (last + 1)
        (h1.trans (List.append_cons _ _ _)) ((List.getElem?_append_left hleft).trans hp)
        (List.length_append.trans (congrArg (· + 1) hl.symm)).symm
        (by rw [List.length_append, hp1.length_eq, hidx, Nat.add_right_comm]; rfl)
        fun y hy => g y (hp1.mem_iff.mp hy)
      refine ⟨a', x :: lo', hi', e.trans (by rw [List.length_cons, Nat.add_right_comm, Nat.add_assoc]),
        h'.trans (List.append_assoc A [x] _), ?_, List.forall_mem_cons.mpr ⟨hlt, r1⟩, r2⟩
      exact ((hq.trans (hp1.append_right rest)).cons x).trans List.perm_middle.symm
    · rw [if_neg hlt]
      obtain ⟨a', lo', hi', e, h', hq, r1, r2⟩ := ih A (hi ++ [x]) a (i + 1) last
        (h.trans (congrArg (A ++ ·) (List.append_cons hi x _))) hp hl
        (by rw [List.length_append, hidx]; rfl) (List.forall_mem_append.mpr ⟨g, by simpa using hlt⟩)
      exact ⟨a', lo', hi', e, h', hq.trans (.of_eq (List.append_cons hi x rest).symm), r1, r2⟩

/-- the median of the `n` positions [l, r] lies `m < n` positions behind `l` -/
theorem mid_bounds {l r n : Nat} (hlr : l < r) (hr : r + 1 = l + n) : ∃ m, l + m = (l + r) / 2 ∧ m < n :=
  have h : l ≤ (l + r) / 2 ∧ (l + r) / 2 ≤ r := by omega
  (Nat.le.dest h.1).imp fun m hm => ⟨hm, by omega⟩

theorem rest_length {l r n k : Nat} (hr : r + 1 = l + n) (hk : n = k + 1) : k = r - l := by
  subst hk; cases Nat.succ.inj hr; exact (Nat.add_sub_cancel_left ..).symm

/-- what `qSort` does between its entry test and its two recursive calls, on the segment `seg` = positions
    [left, right] of the array `pre ++ seg ++ post` -/
theorem partition_spec (lt : α → α → Bool) {a : Array α} {pre seg post : List α} {left right : Nat}
    (h : a.toList = pre ++ (seg ++ post)) (hl : left = pre.length) (hr : right + 1 = pre.length + seg.length)
    (hlr : left < right) :
    ∃ a1 a2 a3 lo hi p, swapAt a left ((left + right) / 2) = some a1 ∧
      partLoop lt left (right - left) (left + 1) left a1 = some (a2, left + lo.length) ∧
      swapAt a2 left (left + lo.length) = some a3 ∧
      a3.toList = pre ++ (lo ++ p :: (hi ++ post)) ∧ (lo ++ p :: hi).Perm seg ∧
      (∀ x, x ∈ lo → lt x p = true) ∧ (∀ x, x ∈ hi → lt x p = false) := by
  subst hl
  -- the median `seg[m]` goes to the front
  obtain ⟨m, hm, hms⟩ := mid_bounds hlr hr
  -- (equations between appends are given as terms: `simp` would fold `take ++ seg[m] :: drop` back into `seg`)
  have hseg : seg = seg.take m ++ seg[m] :: seg.drop (m + 1) :=
    (List.take_append_drop m seg).symm.trans (congrArg _ (List.drop_eq_getElem_cons hms))
  obtain ⟨a1, H, e1, h1, hp1⟩ := swapAt_front (a := a) (A := pre) (H := seg.take m) (x := seg[m])
    (C := seg.drop (m + 1) ++ post) (i := pre.length) (j := pre.length + m)
    (h.trans (congrArg (pre ++ ·) ((congrArg (· ++ post) hseg).trans (List.append_assoc _ _ _))))
    rfl (by rw [List.length_take, Nat.min_eq_left (Nat.le_of_lt hms)])
  -- the loop over the rest of the segment
  have hn : (H ++ seg.drop (m + 1)).length = right - pre.length := by
    refine rest_length hr ((congrArg List.length hseg).trans ?_)
    rw [List.length_append, List.length_append, List.length_cons, hp1.length_eq]; rfl
  obtain ⟨a2, lo, hi, e2, h2, hp2, g1, g2⟩ := partLoop_spec lt seg[m] pre.length post (H ++ seg.drop (m + 1))
    (pre ++ [seg[m]]) [] a1 (pre.length + 1) pre.length
    (h1.trans ((List.append_cons pre _ _).trans (congrArg ((pre ++ [seg[m]]) ++ ·) (List.append_assoc H _ post).symm)))
    List.getElem?_concat_length (List.length_append (as := pre) (bs := [seg[m]])).symm
    (List.length_append (as := pre) (bs := [seg[m]])).symm nofun
  rw [hn] at e2
  -- the pivot goes behind the elements below it
  obtain ⟨a3, lo', e3, h3, hp3⟩ := swapAt_back (i := pre.length) (j := pre.length + lo.length)
    (h2.trans (List.append_cons pre _ _).symm) rfl rfl
  rw [← hp3.length_eq] at e2 e3
  refine ⟨a1, a2, a3, lo', hi, seg[m], hm.symm ▸ e1, e2, e3, h3, ?_, fun x hx => g1 x (hp3.mem_iff.mp hx), g2⟩
  have : (lo' ++ hi).Perm (seg.take m ++ seg.drop (m + 1)) :=
    (hp3.append_right hi).trans (hp2.trans (hp1.append_right _))
  exact List.perm_middle.trans ((this.cons _).trans (List.perm_middle.symm.trans (.of_eq hseg.symm)))

/-- a comparison `lt x y` = "`compar (&x, &y) < 0`" that is a strict order -/
structure StrictOrder (lt : α → α → Bool) : Prop where
  asymm : ∀ x y, lt x y = true → lt y x = false
  trans : ∀ x y z, lt x y = true → lt y z = true → lt x z = true

/-- a pivot between two sorted halves: an element before the pivot is below it, one after it is not, so by transitivity
    the later one is not below the earlier one -/
theorem sorted_around_pivot {lt : α → α → Bool} (so : StrictOrder lt) {p : α} {lo hi : List α}
    (g1 : ∀ x, x ∈ lo → lt x p = true) (g2 : ∀ x, x ∈ hi → lt x p = false)
    (s1 : lo.Pairwise (fun x y => lt y x = false)) (s2 : hi.Pairwise (fun x y => lt y x = false)) :
    (lo ++ p :: hi).Pairwise (fun x y => lt y x = false) := by
  refine List.pairwise_append.mpr ⟨s1, List.pairwise_cons.mpr ⟨g2, s2⟩, fun x hx y hy => ?_⟩
  rcases List.mem_cons.mp hy with rfl | hy
  · exact so.asymm _ _ (g1 x hx)
  · cases hyx : lt y x with
    | false => rfl
    | true => exact (so.trans y x p hyx (g1 x hx)).symm.trans (g2 y hy)

theorem pairwise_short {R : α → α → Prop} : ∀ {l : List α}, l.length ≤ 1 → l.Pairwise R
  | [], _ => .nil
  | [_], _ => List.pairwise_singleton _ _

theorem qSort_trivial (lt : α → α → Bool) (fuel : Nat) (a : Array α) (left right rm : Nat) (h : left ≥ right) :
    qSort lt fuel a left right rm = some a := by
  cases fuel <;> simp [qSort, h]

/-- the lengths around the two recursive calls: the segment of `nseg` elements behind `np` others was split into `nlo`
    elements, the pivot and `nhi` elements -/
theorem split_bounds {np nlo nhi nseg f right : Nat} (hlen : nlo + (nhi + 1) = nseg) (hf : nseg ≤ f + 1)
    (hr : right + 1 = np + nseg) : nlo ≤ f ∧ nhi ≤ f ∧ right + 1 = np + (nlo + 1) + nhi ∧ np + nlo ≤ right := by
  omega

/-- `last - 1` as the right end of the left part [l, last) -/
theorem pred_bounds {l last r rm : Nat} (hr : last ≤ r) (h1 : r ≤ rm) :
    last ≤ last - 1 + 1 ∧ (l < last - 1 → last - 1 + 1 = last) ∧ last - 1 ≤ rm := by
  omega

/-- `qSort` on the segment `seg` = positions [left, right] of `pre ++ seg ++ post`, with fuel for the recursion depth:
    it succeeds (no access outside the array, fuel suffices), rearranges only the segment, and — for a strict order —
    leaves it sorted.  The two hypotheses on `right` say `right = left + seg.length - 1` as the C code computes it (an
    empty segment has `right + 1 = left`, or `right = left = 0` after `last - 1` with `last = 0`) without subtraction. -/
theorem qSort_spec (lt : α → α → Bool) (rm : Nat) :
    ∀ (fuel : Nat) (a : Array α) (pre seg post : List α) (left right : Nat),
      a.toList = pre ++ (seg ++ post) → left = pre.length → pre.length + seg.length ≤ right + 1 →
      (left < right → right + 1 = pre.length + seg.length) → right ≤ rm → seg.length ≤ fuel →
      ∃ a' seg', qSort lt fuel a left right rm = some a' ∧ a'.toList = pre ++ (seg' ++ post) ∧ seg'.Perm seg ∧
        (StrictOrder lt → seg'.Pairwise (fun x y => lt y x = false)) := by
  intro fuel
  induction fuel with
  | zero =>
    intro a pre seg post left right h hl _ hB _ hf
    cases List.eq_nil_of_length_eq_zero (Nat.le_zero.mp hf)
    exact ⟨a, [], qSort_trivial lt 0 a left right rm (Nat.le_of_not_lt fun hlt => by have := hB hlt; omega), h,
      .refl _, fun _ => .nil⟩
  | succ f ih =>
    intro a pre seg post left right h hl hA hB h1 hf
    by_cases htriv : right ≤ left
    · exact ⟨a, seg, qSort_trivial lt _ a left right rm htriv, h, .refl _, fun _ => pairwise_short
        (Nat.le_of_add_le_add_left (Nat.le_trans hA (Nat.succ_le_succ (hl ▸ htriv))))⟩
    · have hr := hB (Nat.lt_of_not_le htriv)
      obtain ⟨a1, a2, a3, lo, hi, p, e1, e2, e3, h3, hp, g1, g2⟩ := partition_spec lt h hl hr (Nat.lt_of_not_le htriv)
      subst hl
      have hlen := hp.length_eq
      rw [List.length_append, List.length_cons] at hlen
      obtain ⟨c1, c2, c3, c4⟩ := split_bounds hlen hf hr
      obtain ⟨d1, d2, d3⟩ := pred_bounds (l := pre.length) c4 h1
      obtain ⟨a4, lo', e4, h4, hp4, s4⟩ := ih a3 pre lo (p :: (hi ++ post)) pre.length (pre.length + lo.length - 1) h3 rfl
        d1 d2 d3 c1
      have hpl : (pre ++ (lo' ++ [p])).length = pre.length + (lo.length + 1) := by
        rw [List.length_append, List.length_append, hp4.length_eq]; rfl
      obtain ⟨a5, hi', e5, h5, hp5, s5⟩ := ih a4 (pre ++ (lo' ++ [p])) hi post (pre.length + lo.length + 1) right
        (h4.trans (by simp)) hpl.symm (hpl ▸ Nat.le_of_eq c3.symm) (fun _ => hpl ▸ c3) h1 c2
      refine ⟨a5, lo' ++ p :: hi', ?_, h5.trans (by simp), (hp4.append (hp5.cons p)).trans hp, fun so => ?_⟩
      · rw [qSort, if_neg (not_or.mpr ⟨htriv, Nat.not_lt.mpr h1⟩)]
        simp only [e1, e2, e3, e4, e5]
      · exact sorted_around_pivot so (fun x hx => g1 x (hp4.mem_iff.mp hx)) (fun x hx => g2 x (hp5.mem_iff.mp hx))
          (s4 so) (s5 so)

theorem quickSort_spec (lt : α → α → Bool) (a : Array α) :
    ∃ a', quickSort lt a = some a' ∧ a'.toList.Perm a.toList ∧
      (StrictOrder lt → a'.toList.Pairwise (fun x y => lt y x = false)) := by
  unfold quickSort
  split
  · rename_i h
    exact ⟨a, rfl, .refl _, fun _ => pairwise_short (Nat.le_of_lt_succ h)⟩
  · rename_i h
    have hsz : a.size - 1 + 1 = a.size := Nat.sub_add_cancel (Nat.le_of_succ_le (Nat.not_lt.mp h))
    obtain ⟨a', seg', e, h', hp, hs⟩ := qSort_spec lt (a.size - 1) a.size a [] a.toList [] 0 (a.size - 1)
      (List.append_nil _).symm rfl (Nat.le_of_eq ((Nat.zero_add _).trans hsz.symm))
      (fun _ => hsz.trans (Nat.zero_add _).symm)
      (Nat.le_refl _) (Nat.le_refl _)
    rw [List.nil_append, List.append_nil] at h'
    exact ⟨a', e, h' ▸ hp, h' ▸ hs⟩

/-- **quickSort_perm**: for EVERY comparison function (consistent or not) `quickSort` stays inside the array, needs no
    more recursion depth than the number of elements, and returns a rearrangement of its input -/
theorem quickSort_perm (lt : α → α → Bool) (a : Array α) :
    ∃ a', quickSort lt a = some a' ∧ a'.Perm a := by
  obtain ⟨a', e, hp, _⟩ := quickSort_spec lt a
  exact ⟨a', e, Array.perm_iff_toList_perm.mpr hp⟩

/-- **quickSort_sorted**: for a strict order the result is in non-descending order -/
theorem quickSort_sorted (lt : α → α → Bool) (asym : ∀ x y, lt x y = true → lt y x = false)
    (trans : ∀ x y z, lt x y = true → lt y z = true → lt x z = true) (a a' : Array α)
    (h : quickSort lt a = some a') : a'.toList.Pairwise (fun x y => lt y x = false) := by
  obtain ⟨a'', e, _, hs⟩ := quickSort_spec lt a
  cases h.symm.trans e
  exact hs ⟨asym, trans⟩

theorem quickSortL_spec (lt : α → α → Bool) (l : List α) :
    ∃ l', quickSortL lt l = some l' ∧ l'.Perm l ∧
      (StrictOrder lt → l'.Pairwise (fun x y => lt y x = false)) := by
  obtain ⟨a', e, hp, hs⟩ := quickSort_spec lt l.toArray
  exact ⟨a'.toList, by simp [quickSortL, e], hp, hs⟩

end NV.C17
