/-
C17 — the code of lib/lpc/program/binaries.c (and string_case_compare in compiler.c) as it was BEFORE the `fix:`
commits of this property, with Lean-checked counterexamples of the statements that the repaired code satisfies
(NV/C17/Decision.lean, SortTable.lean, Relocate.lean).  Each witness was replayed on the real driver first (see
notes/C17.md); the corpus cases corpus/C17/*.case keep the inputs, and reverting a fix makes `./check C17` report a
VIOLATION on them.  The last section is about the code as it is: the full statement behind the open finding
C17-unsaved-parent-include-shadowed, refuted (what does hold is `parent_include_shadow_partial` in Decision.lean).
-/
import NV.C17.Decision

namespace NV.C17

/-! ### 1. sort_function_table: `for (i = 0; i < num; i++) type_start[i] = type_start[temp[i]];` in place -/

def oldTypeStartLoop {τ} (temp : Arr Nat) : Nat → Nat → Arr τ → Option (Arr τ)
  | 0, _, ts => some ts
  | fuel + 1, i, ts => do
    let t ← temp.read i
    let v ← ts.read t
    let ts' ← ts.write i v
    oldTypeStartLoop temp fuel (i + 1) ts'

/-- the statement `type_start_follows` for the old loop -/
def OldTypeStartFollows : Prop :=
  ∀ (ts temp : List Nat), ts.length = temp.length → (∀ i, i < temp.length → temp.getD i 0 < temp.length) →
    (oldTypeStartLoop (Arr.ofList temp) temp.length 0 (Arr.ofList ts)).map Arr.toList
      = some ((List.range temp.length).map (fun i => ts.getD (temp.getD i 0) 0))

/-- two functions whose order is exchanged by the sort: both end up with the second one's argument types -/
theorem old_type_start_loop_wrong : ¬ OldTypeStartFollows := by
  intro h
  have := h [100, 101] [1, 0] rfl (by decide)
  revert this
  decide

example : (oldTypeStartLoop (Arr.ofList [1, 0]) 2 0 (Arr.ofList [100, 101])).map Arr.toList = some [101, 101] := by decide

/-! ### 2. str_case_cmp / string_case_compare: `return (int)(s1 - s2);` -/

/-- `(int) x` for a 64-bit difference -/
def trunc32 (x : Int) : Int :=
  let m := x % 4294967296
  if m < 2147483648 then m else m - 4294967296

def oldSwLe (a b : SwEntry) : Bool := trunc32 (a.key - b.key) ≤ 0

/-- the order the tables were sorted by contradicts the order `f_switch` searches by as soon as two strings are 2 GiB
    apart: an entry with the larger address is "≤" the one with the smaller, strictly -/
theorem old_str_case_cmp_missorts :
    ∃ a b : SwEntry, oldSwLe a b = true ∧ oldSwLe b a = false ∧ b.key < a.key :=
  ⟨⟨2147483649, 1⟩, ⟨0, 2⟩, by decide, by decide, by decide⟩

/-- and it is not even an order: not transitive -/
theorem old_str_case_cmp_not_transitive :
    ∃ a b c : SwEntry, oldSwLe a b = true ∧ oldSwLe b c = true ∧ oldSwLe a c = false :=
  ⟨⟨0, 1⟩, ⟨1500000000, 2⟩, ⟨3000000000, 3⟩, by decide, by decide, by decide⟩

/-! ### 3. patch_out / patch_in: `short` patch offsets -/

/-- a string switch at program offset 32768 or beyond was addressed through a negative index -/
theorem old_patch_offset_negative (v : Nat) (h1 : 32768 ≤ v) (h2 : v < 65536) : sext16 v < 0 := by
  unfold sext16
  split <;> omega

example : sext16 37074 = -28462 := by decide

/-! ### 4. init_binaries: `stat (CONFIG_STR (__SIMUL_EFUN_FILE__), &st)` with the configured "/simul_efun.c" -/

/-- the old code handed the mudlib path, leading slash included, to stat(): a path in the root of the real file system,
    never one of the mudlib's files (whose paths are relative) -/
def oldSampleConfigId (w : World) (simulFile : String) : Nat := (w.mtime simulFile).getD 0

/-- whatever the modification time of the simul_efun file, config_id was 0 -/
theorem old_config_id_blind (t : Nat) :
    oldSampleConfigId { files := [("simul_efun.c", t)] } "/simul_efun.c" = 0 := by
  simp [oldSampleConfigId, World.mtime, List.lookup]

/-! ### 5. load_binary before the repairs of C17-transitive-inherit and C17-simul-unsampled (notes/C17.md, defects 5 and 6;
    also without the checksum and the '!' entries of the later repairs): only the binary's own lists; config_id sampled
    at start-up only -/

def oldCheckInherits (w : World) (mtime : Nat) : List String → Decision
  | [] => .use
  | inh :: rest =>
    if checkTimes w mtime inh ≤ 0 ∨ checkTimes w mtime (binPath w inh) = 0 then .stale "inherited"
    else if !(w.loaded.contains (objName w inh)) then .needs inh
    else oldCheckInherits w mtime rest

def oldLoadBinary (w : World) (name : String) : Decision :=
  match w.mtime (binPath w name), w.bins.lookup (binPath w name) with
  | some mtime, some b =>
    if checkTimes w mtime name ≤ 0 then .stale "source"
    else if b.magic ≠ magicId then .stale "magic"
    else if b.driverId ≠ driverId then .stale "driver"
    else if b.configId ≠ w.configId then .stale "config"
    else if b.includes.any (fun i => checkTimes w mtime i ≤ 0) then .stale "include"
    else if b.name.length > 0 ∧ b.name ≠ name then .stale "name"
    else oldCheckInherits w mtime b.inherits
  | _, _ => .stale "nobinary"

def witnessWorld : World :=
  let bo : String → String := fun n => if n = "a.c" then "B/a" else if n = "b.c" then "B/b" else "B/c"
  let oo : String → String := fun n => if n = "b.c" then "b" else "?"
  { files := [("B/a", 200), ("a.c", 100), ("b.c", 150), ("c.c", 300), ("h.h", 300), ("sim.c", 300)],
    bins := [("B/a", { magic := magicId, driverId := driverId, configId := 0,
                       includes := [], name := "a.c", inherits := ["b.c"] })],
    progs := [("b.c", { files := ["b.c", "h.h"], inherits := ["c.c"] }), ("c.c", { files := ["c.c"], inherits := [] })],
    loaded := ["b"], configId := 0, simulPath := "sim.c", binOf := bo, objOf := oo }

/-- a inherits b inherits c; b has no saved binary; c, a header of b and the simul_efun file are all newer than a's
    binary: the old decision used the binary — even a damaged one (there was no checksum) —, the repaired one does not -/
theorem old_indirect_inherit_not_checked :
    oldLoadBinary witnessWorld "a.c" = .use ∧
      oldLoadBinary { witnessWorld with bins := witnessWorld.bins.map (fun e => (e.1, { e.2 with intact := false })) } "a.c" = .use ∧
      loadBinary witnessWorld "a.c" = .stale "simul" ∧
      loadBinary { witnessWorld with simulPath := "" } "a.c" = .stale "behind-inherited" := by
  decide +kernel

/-! ### 6. why the patch list must not depend on the pragma state at generation time -/

/-- a code generator that records a string switch only while `#pragma save_binary` is already set -/
def condGenPatches : Bool → List GenEv → List Nat
  | _, [] => []
  | _, .pragmaSaveBinary on :: rest => condGenPatches on rest
  | st, .stringSwitch site :: rest => if st then site :: condGenPatches st rest else condGenPatches st rest
  | st, _ :: rest => condGenPatches st rest

/-- with the pragma below the function, the program is saved but its switch is not in the list: the table keeps the
    string addresses of the saving process -/
theorem conditional_patch_list_misses_switch :
    ∃ evs, savedAtEnd evs = true ∧ condGenPatches false evs ≠ stringSwitchSites evs :=
  ⟨[.stringSwitch 12, .pragmaSaveBinary true], by decide, by decide⟩

/-! ### 7. save_binary before fix ad8ef67 (notes/C17.md, round 5): a program compiled against an outdated parent in memory
    was saved -/

/-- the old `save_binary`: `#pragma save_binary` in force ⇒ written, whatever the state of the inherited programs -/
def oldSaveStep (s : Sys) (d : ProgDecl) (_linked : List (String × Nat)) : Sys :=
  if !d.save then s
  else
    let bp := binPath s.w d.name
    let b : BinFile := { magic := magicId, driverId := driverId, configId := s.w.configId,
                         includes := d.includes, name := d.name, inherits := d.inherits }
    { s with w := { s.w with files := (bp, s.vnow) :: s.w.files.filter (·.1 != bp),
                             bins := (bp, b) :: s.w.bins.filter (·.1 != bp) },
             vnow := s.vnow + 1, evs := Ev.sv d.name s.vnow d.includes :: s.evs }

/-- b.c was edited at 1024 while b (loaded at 1013, not saved) stays in memory; a is compiled again at 1034.  The old code
    saves a's binary — laid out for the old b — with modification time 1034; once b is loaded again from its new source
    nothing is newer than that binary: `load_binary` uses it (first conjuncts).  The repaired `save_binary` does not
    write it. -/
theorem old_saved_against_outdated_parent :
    let w0 : World := { files := [("a.c", 1002), ("b.c", 1024)],
                        progs := [("b.c", { files := ["b.c"], inherits := [], gen := 1, loadTime := 1013 })],
                        loaded := ["b"],
                        objOf := fun n => if n = "b.c" then "b" else "?",
                        binOf := fun n => if n = "b.c" then "B/b" else "B/a" }
    let s0 : Sys := { w := w0, vnow := 1034, ctime := 1034 }
    let d : ProgDecl := { name := "a.c", save := true, includes := [], inherits := ["b.c"] }
    let s1 := oldSaveStep s0 d [("b.c", 1)]
    -- later: b loaded again from the edited source at 1054
    let w2 : World := { s1.w with progs := [("b.c", { files := ["b.c"], inherits := [], gen := 2, loadTime := 1054 })] }
    s1.evs = [Ev.sv "a.c" 1034 []] ∧ loadBinary w2 "a.c" = .use ∧
      (saveStep s0 d [("b.c", 1)]).evs = [Ev.svSkipped "a.c"] := by
  decide +kernel

/-! ### 8. load_binary and a binary without '!' entries (finding C17-include-shadowed): an include file shadowed by a new
    file earlier in the search path -/

/-- `inc_open` (lib/lpc/lex.c): an include directive takes the first candidate that exists — the file next to the
    including file, then `<include dir>/<name>` for every configured include directory in order -/
def resolveInclude (w : World) (cands : List String) : Option String :=
  cands.find? (fun c => (w.mtime c).isSome)

/-- the function the theorems of Decision.lean speak of: what is refuted below is their statement without its side
    condition, not a statement about another resolution -/
example : resolveInclude = resolveIncludeP := rfl

/-- the full statement: when a binary is used, every include directive of the program still resolves to the file the
    binary recorded for it -/
def IncludesResolveAsRecorded_Full : Prop :=
  ∀ (w : World) (name : String) (b : BinFile) (cands : List String) (r : String),
    loadBinary w name = .use → w.bins.lookup (binPath w name) = some b → r ∈ b.includes → r ∈ cands →
      resolveInclude w cands = some r

/-- a.c includes "s.h", found as include/s.h when a.c was compiled and saved (200); later d/s.h appears (modification
    time 80, older than everything): the binary is used, a compile would now read d/s.h -/
def shadowBin : BinFile :=
  { magic := magicId, driverId := driverId, configId := 0, includes := ["include/s.h"], name := "d/a.c", inherits := [] }

def shadowWorld : World :=
  { files := [("B/a", 200), ("d/a.c", 100), ("include/s.h", 90), ("d/s.h", 80)],
    bins := [("B/a", shadowBin)],
    binOf := fun _ => "B/a" }

theorem shadow_facts :
    loadBinary shadowWorld "d/a.c" = .use ∧
      shadowWorld.bins.lookup (binPath shadowWorld "d/a.c") = some shadowBin ∧
      resolveInclude shadowWorld ["d/s.h", "include/s.h"] = some "d/s.h" := by
  decide +kernel

theorem include_shadowing_not_seen : ¬ IncludesResolveAsRecorded_Full := by
  intro h
  obtain ⟨h1, h2, h3⟩ := shadow_facts
  have := h shadowWorld "d/a.c" shadowBin ["d/s.h", "include/s.h"] "include/s.h" h1 h2 (by simp [shadowBin]) (by simp)
  rw [h3] at this
  simp at this

/-! ### 9. open finding C17-unsaved-parent-include-shadowed: the include of an UNSAVED parent is shadowed -/

/-- the full statement: when a binary is used, every include directive of a program it inherits (a directive whose
    present resolution is one of the files that program in memory was built from) resolves to the same file as in the
    world `w0` in which the binary was saved — provided no file that existed then has changed its time -/
def ParentDirectivesResolveAsAtSave_Full : Prop :=
  ∀ (w0 w : World) (name : String) (b : BinFile) (i q : String) (lp : LoadedProg) (cands : List String),
    loadBinary w name = .use → w.bins.lookup (binPath w name) = some b → i ∈ b.inherits → Reach w i q →
    w.progs.lookup q = some lp → (∀ r, resolveInclude w cands = some r → r ∈ lp.files) →
    (∀ c, c ∈ w0.files.map (·.1) → w.mtime c = w0.mtime c) →
      resolveInclude w cands = resolveInclude w0 cands

def pshadowBin : BinFile :=
  { magic := magicId, driverId := driverId, configId := 0, includes := [], name := "d/a.c", inherits := ["d/b.c"] }

/-- when a's binary was saved -/
def pshadowWorld0 : World :=
  { files := [("d/a.c", 100), ("d/b.c", 95), ("include/s.h", 90)], binOf := fun n => if n = "d/a.c" then "B/a" else "B/b" }

/-- later: d/s.h has appeared (time 80, older than everything); b, which has no binary, was compiled again and read d/s.h -/
def pshadowWorld : World :=
  { files := [("B/a", 200), ("d/a.c", 100), ("d/b.c", 95), ("include/s.h", 90), ("d/s.h", 80)],
    bins := [("B/a", pshadowBin)],
    progs := [("d/b.c", { files := ["d/b.c", "d/s.h"], inherits := [] })],
    loaded := ["d/b"], binOf := fun n => if n = "d/a.c" then "B/a" else "B/b", objOf := fun n => if n = "d/b.c" then "d/b" else "?" }

theorem pshadow_facts :
    loadBinary pshadowWorld "d/a.c" = .use ∧ pshadowWorld.bins.lookup (binPath pshadowWorld "d/a.c") = some pshadowBin ∧
      pshadowWorld.progs.lookup "d/b.c" = some { files := ["d/b.c", "d/s.h"], inherits := [] } ∧
      resolveInclude pshadowWorld ["d/s.h", "include/s.h"] = some "d/s.h" ∧
      resolveInclude pshadowWorld0 ["d/s.h", "include/s.h"] = some "include/s.h" ∧
      (∀ c, c ∈ pshadowWorld0.files.map (·.1) → pshadowWorld.mtime c = pshadowWorld0.mtime c) := by
  decide +kernel

/-- a's binary (laid out for b as built from include/s.h) is used although b is now built from d/s.h -/
theorem unsaved_parent_include_shadowing_not_seen : ¬ ParentDirectivesResolveAsAtSave_Full := by
  intro h
  obtain ⟨h1, h2, h3, h4, h5, h6⟩ := pshadow_facts
  have := h pshadowWorld0 pshadowWorld "d/a.c" pshadowBin "d/b.c" "d/b.c" _ ["d/s.h", "include/s.h"] h1 h2
    (by simp [pshadowBin]) (Reach.refl _) h3 (by intro r hr; rw [h4] at hr; cases hr; simp)
    h6
  rw [h4, h5] at this
  simp at this

end NV.C17
