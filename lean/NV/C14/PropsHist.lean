/-
C14 — property theorems about the ghost history (`histR` = every byte ever stored into the ring, `sentR` = every byte
accepted by send()), complementing `model_satisfies_spec`.
-/
import NV.C14.Flush

namespace NV.C14

/-- `only_tail_lost` / `cr_lf_never_split_dropped`: from every state satisfying the ring invariant, for every text and every
send script, the write loop of add_message / add_vmessage stores exactly `expand (data.take n)` - the CR-LF image of a
prefix of the *text*, so never half of a CR LF pair and never anything but a tail is missing - and `n` is the whole text
unless the loop stopped on a dead connection or on a buffer (after a flush attempt) without room for the next item. -/
theorem only_tail_lost (data : List Byte) (s : St) (h : Inv s) (hg : s.gone = false) (he : HistEq s) :
    ∃ n, n ≤ data.length ∧ (addLoop data s).1.histR.reverse = s.histR.reverse ++ expand (data.take n) ∧
      (n < data.length →
        (addLoop data s).1.gone = true ∨ ∃ c, data[n]? = some c ∧ N < (addLoop data s).1.len + itemLen c) := by
  have _ := he  -- not needed: what the loop stores does not depend on what was stored or sent before
  obtain ⟨n, w⟩ := addLoop_wrote data s h hg
  exact ⟨n, w.le, w.hist, w.short⟩

/-- non-vacuity of `only_tail_lost`: the fresh connection satisfies its hypotheses -/
example : Inv (St.init []) ∧ (St.init []).gone = false ∧ HistEq (St.init []) :=
  ⟨init_inv [], rfl, rfl⟩

/-- `n` bytes of text `w`, written from state `pre`, were kept: all of it, unless the connection was (or became) unusable
or the ring, after the flush attempt that did not drain enough, had no room for the next item `w[n]` -/
def TailLossOK (pre : St) (w : List Byte) (n : Nat) : Prop :=
  n ≤ w.length ∧
  (n < w.length →
    pre.gone = true ∨ (addLoop w pre).1.gone = true ∨
    ∃ c, w[n]? = some c ∧ N < (addLoop w pre).1.len + itemLen c)

/-- what a whole add_message / add_vmessage call stores is the image of a prefix of its text (the tail of the call stores
nothing), and what was stored is still either sent or in the ring -/
theorem addMessage_hist (v : Bool) (d : List Byte) (s : St) (h : Inv s) :
    ∃ n, TailLossOK s d n ∧ (addMessage v d s).1.histR.reverse = s.histR.reverse ++ expand (d.take n) ∧
      (addMessage v d s).1.sentR.reverse ++ contents (addMessage v d s).1
        = s.sentR.reverse ++ contents s ++ expand (d.take n) := by
  cases hg : s.gone with
  | true =>
    rw [addMessage_gone hg]
    exact ⟨0, ⟨Nat.zero_le _, fun _ => .inl hg⟩, (List.append_nil _).symm, (List.append_nil _).symm⟩
  | false =>
    obtain ⟨n, w⟩ := addLoop_wrote d s h hg
    have hok : TailLossOK s d n := ⟨w.le, fun hlt => .inr (w.short hlt)⟩
    rw [addMessage_alive hg]
    split
    · exact ⟨n, hok, w.hist, w.sent⟩
    · have p := tailOf_post v s.console w.inv
      exact ⟨n, hok, by rw [p.histR]; exact w.hist, by rw [p.sent]; exact w.sent⟩

theorem write_stores_prefix_image (v : Bool) (d : List Byte) (s : St) (h : Inv s) (he : HistEq s) :
    HistEq (addMessage v d s).1 ∧
    ∃ n, n ≤ d.length ∧ (addMessage v d s).1.histR.reverse = s.histR.reverse ++ expand (d.take n) := by
  obtain ⟨n, hok, h2, h3⟩ := addMessage_hist v d s h
  refine ⟨?_, n, hok.1, h2⟩
  unfold HistEq at *
  rw [h2, h3, he]

/-- the text an operation hands to add_message / add_vmessage -/
def writeText : Op → Option (List Byte)
  | .write _ d => some d
  | .writeQ _ d => some d
  | _ => none

/-- operations other than writes store nothing, and lose nothing of what is in the ring unsent -/
theorem step_quiet {s : St} (h : Inv s) {op : Op} (hw : writeText op = none) :
    (step s op).1.histR = s.histR ∧
    (step s op).1.sentR.reverse ++ contents (step s op).1 = s.sentR.reverse ++ contents s := by
  have p := (flushMsg_flushed h).post
  have viaFlush := And.intro p.histR p.sent
  exact step_cases (P := fun r => r.1.histR = s.histR ∧ r.1.sentR.reverse ++ contents r.1 = s.sentR.reverse ++ contents s)
    s op (edit := fun _ _ _ _ _ _ => ⟨rfl, rfl⟩) (line := ⟨rfl, rfl⟩) (dump := fun _ => ⟨rfl, rfl⟩)
    (flush := viaFlush) (flushQ := viaFlush) (close := fun _ _ => viaFlush) (peerfin := ⟨rfl, rfl⟩)
    (write := fun _ _ ho => by rw [ho] at hw; cases hw) (writeQ := fun _ _ ho => by rw [ho] at hw; cases hw)

/-- the texts handed to add_message / add_vmessage by an op list, in order -/
def writesOf : List Op → List (List Byte)
  | [] => []
  | .write _ d :: ops => d :: writesOf ops
  | .writeQ _ d :: ops => d :: writesOf ops
  | _ :: ops => writesOf ops

/-- for every write of a run: the state it started from, and its text -/
def preStates : St → List Op → List (St × List Byte)
  | _, [] => []
  | s, .write v d :: ops => (s, d) :: preStates (step s (.write v d)).1 ops
  | s, .writeQ v d :: ops => (s, d) :: preStates (step s (.writeQ v d)).1 ops
  | s, op :: ops => preStates (step s op).1 ops

theorem preStates_cons (s : St) (op : Op) (ops : List Op) :
    preStates s (op :: ops) = ((writeText op).map (s, ·)).toList ++ preStates (step s op).1 ops := by
  cases op <;> rfl

theorem writesOf_cons (op : Op) (ops : List Op) : writesOf (op :: ops) = (writeText op).toList ++ writesOf ops := by
  cases op <;> rfl

theorem preStates_texts (s : St) (ops : List Op) : (preStates s ops).map (·.2) = writesOf ops := by
  induction ops generalizing s with
  | nil => rfl
  | cons op ops ih => rw [preStates_cons, writesOf_cons, List.map_append, ih]; cases writeText op <;> rfl

/-- `R` holds between the elements of two lists of equal length, position by position -/
inductive ForallTwo {α β : Type} (R : α → β → Prop) : List α → List β → Prop
  | nil : ForallTwo R [] []
  | cons {a b as bs} : R a b → ForallTwo R as bs → ForallTwo R (a :: as) (b :: bs)

theorem ForallTwo.length_eq {α β : Type} {R : α → β → Prop} {as : List α} {bs : List β} (h : ForallTwo R as bs) :
    as.length = bs.length := by
  induction h with
  | nil => rfl
  | cons _ _ ih => simp [ih]

/-- a run stores, write by write, the image of a prefix of each text, and what it stored is sent or still in the ring -/
theorem runFrom_hist : ∀ (ops : List Op) (s : St), GInv s →
    ∃ ns : List Nat, ForallTwo (fun p n => TailLossOK p.1 p.2 n) (preStates s ops) ns ∧
      (runFrom s ops).1.histR.reverse =
        s.histR.reverse ++ (List.zipWith (fun p n => expand (p.2.take n)) (preStates s ops) ns).flatten ∧
      (runFrom s ops).1.sentR.reverse ++ contents (runFrom s ops).1 =
        s.sentR.reverse ++ contents s ++ (List.zipWith (fun p n => expand (p.2.take n)) (preStates s ops) ns).flatten := by
  intro ops
  induction ops with
  | nil => exact fun _ _ => ⟨[], .nil, (List.append_nil _).symm, (List.append_nil _).symm⟩
  | cons op ops ih =>
    intro s hgi
    obtain ⟨ns, f, e1, e2⟩ := ih _ (step_ginv op hgi)
    rw [runFrom, preStates_cons]
    cases hw : writeText op with
    | none =>
      obtain ⟨q1, q2⟩ := step_quiet hgi.inv hw
      exact ⟨ns, f, by rw [e1, q1]; rfl, by rw [e2, q2]; rfl⟩
    | some d =>
      have hst : ∃ v, (step s op).1 = (addMessage v d s).1 := by
        cases op with
        | write v d' => cases hw; exact ⟨v, rfl⟩
        | writeQ v d' => cases hw; exact ⟨v, rfl⟩
        | _ => cases hw
      obtain ⟨v, hst⟩ := hst
      obtain ⟨n, hok, h2, h3⟩ := addMessage_hist v d s hgi.inv
      refine ⟨n :: ns, .cons hok f, ?_, ?_⟩
      · rw [e1, hst, h2, List.append_assoc]; rfl
      · rw [e2, hst, h3, List.append_assoc]; rfl

/-- state form of `delivered_is_ordered_prefix_image`: after every run, the bytes accepted by send() followed by the ring
contents are exactly the bytes ever stored, in the order they were stored - nothing duplicated, nothing reordered. -/
theorem sent_then_ring_is_stored (script : List SendRes) (ops : List Op) (console : Bool := false) :
    HistEq (run script ops console).1 := by
  obtain ⟨_, _, e1, e2⟩ := runFrom_hist ops _ (init_ginv script console)
  exact e1.trans e2.symm

/-- **`delivered_is_ordered_prefix_image`.**  For every send script and every list of operations there are per-write prefix
lengths `ns` - one for each text written, each the whole text unless the connection was unusable or the ring was still
without room for the next item after the flush attempt (`TailLossOK`) - such that the bytes accepted by send() followed by
the ring contents are exactly the concatenation, in write order, of the CR-LF images of those prefixes.  Nothing is
duplicated, reordered or invented; only tails of individual messages can be missing. -/
theorem delivered_is_ordered_prefix_image (script : List SendRes) (ops : List Op) (console : Bool := false) :
    ∃ ns : List Nat,
      ForallTwo (fun p n => TailLossOK p.1 p.2 n) (preStates (St.init script console) ops) ns ∧
      (run script ops console).1.sentR.reverse ++ contents (run script ops console).1 =
        (List.zipWith (fun p n => expand (p.2.take n)) (preStates (St.init script console) ops) ns).flatten := by
  obtain ⟨ns, f, _, e2⟩ := runFrom_hist ops _ (init_ginv script console)
  exact ⟨ns, f, e2⟩

/-- non-vacuity: two writes give two prefixes -/
example (script : List SendRes) : ∃ ns : List Nat, ns.length = 2 := by
  obtain ⟨ns, f, _⟩ := delivered_is_ordered_prefix_image script [.write false [65], .flush, .write true [10]]
  exact ⟨ns, by have := f.length_eq; simpa [preStates] using this.symm⟩

/-- the prefixes are taken from exactly the texts written, in order -/
theorem delivered_texts (script : List SendRes) (ops : List Op) (console : Bool := false) :
    (preStates (St.init script console) ops).map (·.2) = writesOf ops := preStates_texts _ _

end NV.C14
