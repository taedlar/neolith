/-
C14 — what is promised about pending bytes when a connection is closed.

`remove_interactive` makes ONE `flush_message` attempt and then sets CLOSING; whatever is still in the ring is discarded
with the structure.  Proved here, for every state satisfying the ring invariant and every send script:
  * `close_loses_only_unsent_suffix` - the bytes accepted by the socket during that attempt are a prefix (in order, exactly
    once) of what was pending; what is lost is the remaining suffix - never a middle part, nothing is sent twice;
  * `close_delivers_all_when_socket_accepts` - if the socket accepts (every remaining scripted result is an accept of any
    size >= 1 byte, or the script is exhausted), EVERYTHING pending is delivered before the close, in order;
  * `peerfin_sends_nothing` - after the peer's EOF (recv() == 0: NET_DEAD first) pending bytes are discarded without a send.
-/
import NV.C14.Flush

namespace NV.C14

/-- with an accepting socket the send loop drains the ring, whatever sizes the partial sends have -/
theorem flushLoop_drains : ∀ (fuel : Nat) (s : St), Inv s → s.gone = false → s.len < fuel → AllAcc s.script →
    (flushLoop fuel s).1.len = 0 ∧ (flushLoop fuel s).2.2 = true :=
  fun fuel s h hg hf ha => (flushLoop_flushed fuel s h hg hf).drains hg ha

/-- **close: only an unsent suffix is lost.**  The bytes the socket accepted during the flush attempt of
`remove_interactive`, followed by what was still in the ring when it was discarded, are exactly the bytes sent so far
followed by what was pending - so the delivered part is a prefix of the pending bytes, in order, exactly once. -/
theorem close_loses_only_unsent_suffix (s : St) (h : Inv s) :
    (step s .close).1.sentR.reverse ++ contents (flushMsg s).1 = s.sentR.reverse ++ contents s := by
  have hp := (flushMsg_flushed h).post.sent
  rw [step_close]
  split
  · rename_i hc
    rw [flushMsg_gone (closed_gone hc)]
  · exact hp

/-- **close with an accepting socket delivers everything pending**, in order, before the connection goes away -/
theorem close_delivers_all_when_socket_accepts (s : St) (h : Inv s) (hg : s.gone = false) (ha : AllAcc s.script) :
    (step s .close).1.sentR.reverse = s.sentR.reverse ++ contents s := by
  -- the attempt drains the ring, so nothing is left behind when it is discarded
  have hsfx := close_loses_only_unsent_suffix s h
  rw [(contents_eq_nil _).mpr ((flushMsg_flushed h).drains hg ha).1, List.append_nil] at hsfx
  exact hsfx

/-- peer EOF: NET_DEAD is set before remove_interactive, so its flush sends nothing - pending bytes are discarded -/
theorem peerfin_sends_nothing (s : St) : (step s .peerfin).1.sentR = s.sentR ∧
    ∀ e ∈ (step s .peerfin).2, ∀ n r a, e ≠ Ev.send n r a := by
  rw [step_peerfin]
  split
  · refine ⟨rfl, fun e he n r a => ?_⟩
    rw [List.mem_singleton.mp he]
    unfold stEv
    split <;> exact nofun
  · refine ⟨rfl, fun e he n r a => ?_⟩
    rcases List.mem_cons.mp he with rfl | h
    · exact nofun
    · rw [List.mem_singleton.mp h]; exact nofun

/-- non-vacuity: the hypotheses hold for a ring with one pending byte and a socket that accepts one byte at a time -/
example : (step (put (St.init [.acc 0]) 65) .close).1.sentR.reverse
    = (put (St.init [.acc 0]) 65).sentR.reverse ++ contents (put (St.init [.acc 0]) 65) := by
  have hi : Inv (put (St.init [.acc 0]) 65) := put_inv (init_inv _) (by decide) 65
  refine close_delivers_all_when_socket_accepts _ hi ?_ ?_
  · rw [put_eq (init_inv _)]; rfl
  · rw [put_eq (init_inv _)]
    intro r hr
    have : r = SendRes.acc 0 := by simpa [St.init] using hr
    exact ⟨0, this⟩

end NV.C14
