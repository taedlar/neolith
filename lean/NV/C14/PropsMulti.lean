/-
C14 — several users: routing, snoop relation, tagging and re-entrancy as THEOREMS.

`Multi.lean` runs a world of users: operations addressed to one user, driver passes that visit every user, snoop links,
and add_message re-entered from a snooper's `receive_snoop` (`writeW`).  Here it is proved, for every world, every list
of world operations and every user `k`:

  * `world_user_stream` - the events tagged `k` in the world trace (minus the snoop texts `k` receives as a snooper and
    the harness's `lpcerr` notes) are exactly the events of a SINGLE-USER run `runFrom s0 ops_k` of `k`'s own state, and
    `k`'s final state is the final state of that run.  So no operation on another user, no snoop link, no nested
    add_message from LPC code ever touches `k`'s ring except through add_message / flush_message / remove_interactive on
    `k` itself.
  * `multi_user_stream_ok` / `multi_model_satisfies_spec` - hence the specification oracle accepts every user's stream
    of every world run (the top theorem for several users, re-entrancy included).
  * `multi_delivered_is_stored` - and for every user the bytes accepted by its socket followed by its ring contents are
    the bytes stored for it, in order.
-/
import NV.C14.Multi
import NV.C14.Sim
import NV.C14.PropsHist

namespace NV.C14

/-- events that concern the user's own ring: everything but snoop forwarding, the harness's error notes and the
formatting requests `vreq` (`jstep` ignores all three) -/
def ringEv : Ev → Bool
  | .snoop _ _ => false
  | .lpcerr => false
  | .vreq _ => false
  | _ => true

/-- the stream of user `k`: the events tagged `k`, in trace order -/
def userEvs (k : Nat) (es : List TEv) : List Ev := (es.filter (fun e => e.1 == k)).map (·.2)

theorem userEvs_append (k : Nat) (a b : List TEv) : userEvs k (a ++ b) = userEvs k a ++ userEvs k b := by
  unfold userEvs; rw [List.filter_append, List.map_append]

theorem runFrom_append (s : St) (a b : List Op) :
    runFrom s (a ++ b) = ((runFrom (runFrom s a).1 b).1, (runFrom s a).2 ++ (runFrom (runFrom s a).1 b).2) := by
  induction a generalizing s with
  | nil => rfl
  | cons op a ih => rw [List.cons_append, runFrom, runFrom, ih, List.append_assoc]

theorem judgeFrom_filter_ringEv (j : J) (es : List Ev) : judgeFrom j (es.filter ringEv) = judgeFrom j es := by
  unfold judgeFrom
  rw [List.foldl_filter]
  congr; funext j e
  cases e <;> rfl

theorem tagEv_snd (u : Nat) (e : Ev) : (tagEv u e).2 = e := by cases e <;> rfl

/-- one event that is no ring event, whoever it is tagged for -/
theorem userEvs_nonring (k t : Nat) {e : Ev} (h : ringEv e = false) : (userEvs k [(t, e)]).filter ringEv = [] := by
  unfold userEvs
  rw [List.filter_cons, List.filter_nil]
  split
  · rw [List.map_singleton, List.filter_cons_of_neg (by rw [h]; exact nofun)]; rfl
  · rfl

/-- the events of a step of user `u`, seen from user `k`'s ring stream: its own ring events, nothing of anybody else's -/
theorem userEvs_tag (k u : Nat) (evs : List Ev) :
    (userEvs k (evs.map (tagEv u))).filter ringEv = if u = k then evs.filter ringEv else [] := by
  unfold userEvs
  rw [List.filter_map, List.filter_filter, List.filter_map, List.map_map,
    show (fun x : TEv => x.2) ∘ tagEv u = id from funext (tagEv_snd u), List.map_id]
  -- a ring event keeps the tag of the user that produced it
  rw [List.filter_congr (q := fun e => ringEv e && u == k) fun e _ => by cases e <;> rfl]
  split
  · rename_i hu; simp [hu]
  · rename_i hu; simp [hu]

theorem getU_setU_ne (w : World) {u k : Nat} (h : u ≠ k) (s : St) : getU (setU w u s) k = getU w k := by
  simp [getU, setU, h]

theorem getU_lt {w : World} {k : Nat} {s : St} (h : getU w k = some s) : k < w.length := by
  unfold getU at h
  cases hk : w[k]? with
  | none => rw [hk] at h; cases h
  | some o => exact (List.getElem?_eq_some_iff.mp hk).1

theorem getU_setU_same (w : World) (k : Nat) (s : St) (h : k < w.length) : getU (setU w k s) k = some s := by
  simp [getU, setU, h]

theorem dropSnooper_length (w : World) (u : Nat) : (dropSnooper w u).length = w.length := by simp [dropSnooper]

theorem setU_length (w : World) (u : Nat) (s : St) : (setU w u s).length = w.length := by simp [setU]

theorem getU_dropSnooper (w : World) (u k : Nat) :
    getU (dropSnooper w u) k
      = (getU w k).map (fun s => if s.snoopBy = some u then { s with snoopBy := none } else s) := by
  unfold getU dropSnooper
  rw [List.getElem?_map]
  cases w[k]? with
  | none => rfl
  | some o => cases o <;> rfl

/-- user `k` started in state `s0`; its state in `w` and its ring stream in `es` are those of a single-user run -/
def Tracks (k : Nat) (s0 : St) (w : World) (es : List TEv) : Prop :=
  ∃ ops, getU w k = some (runFrom s0 ops).1 ∧ (userEvs k es).filter ringEv = (runFrom s0 ops).2.filter ringEv

/-- the world transition `r` from `w` (new world, events emitted) is, for user `k`, a single-user run from its state.
A structure and not a definition, so that unification cannot unfold it when `pres_comp` is matched against a transition
of `Multi.lean` (as a definition it makes `pres_stepM` twice, `pres_inputW` four times as dear to check) -/
structure PresAt (k : Nat) (w : World) (r : World × List TEv) : Prop where
  run : ∀ s, getU w k = some s → Tracks k s r.1 r.2

theorem Tracks.extend {k : Nat} {s0 : St} {w : World} {es : List TEv} (h : Tracks k s0 w es) (w' : World)
    (new : List TEv)
    (hs : ∀ s, getU w k = some s → ∃ ops', getU w' k = some (runFrom s ops').1 ∧
      (userEvs k new).filter ringEv = (runFrom s ops').2.filter ringEv) :
    Tracks k s0 w' (es ++ new) := by
  obtain ⟨ops, h1, h2⟩ := h
  obtain ⟨ops', g1, g2⟩ := hs _ h1
  refine ⟨ops ++ ops', ?_, ?_⟩
  · rw [runFrom_append]; exact g1
  · rw [runFrom_append, userEvs_append, List.filter_append, List.filter_append, h2, g2]

theorem pres_id (k : Nat) (w : World) : PresAt k w (w, []) := ⟨fun _ hs => ⟨[], hs, rfl⟩⟩

theorem pres_comp {k : Nat} {w : World} {r r2 : World × List TEv} (h1 : PresAt k w r)
    (h2 : PresAt k r.1 r2) : PresAt k w (r2.1, r.2 ++ r2.2) :=
  ⟨fun s hs => (h1.run s hs).extend r2.1 r2.2 h2.run⟩

/-- events that are not ring events of `k` (a `vreq` or `lpcerr` note, snoop texts) -/
theorem pres_note (k : Nat) (w : World) (new : List TEv) (hn : (userEvs k new).filter ringEv = []) :
    PresAt k w (w, new) := ⟨fun _ hs => ⟨[], hs, hn⟩⟩

theorem pres_dropSnooper (k : Nat) (w : World) (u : Nat) : PresAt k w (dropSnooper w u, []) := by
  refine ⟨fun s hs => ?_⟩
  unfold Tracks
  rw [getU_dropSnooper, hs]
  by_cases hc : s.snoopBy = some u
  · exact ⟨[.snoopBy none], by rw [Option.map_some, if_pos hc]; rfl, rfl⟩
  · exact ⟨[], by rw [Option.map_some, if_neg hc]; rfl, rfl⟩

theorem pres_setSnoop (k : Nat) (w : World) (j : Nat) (sj : St) (x : Option Nat)
    (hj : getU w j = some sj) : PresAt k w (setU w j { sj with snoopBy := x }, []) := by
  refine ⟨fun s hs => ?_⟩
  by_cases hjk : j = k
  · subst hjk
    rw [hj] at hs
    cases hs
    exact ⟨[.snoopBy x], by rw [getU_setU_same _ _ _ (getU_lt hj)]; rfl, rfl⟩
  · exact ⟨[], by rw [getU_setU_ne _ hjk]; exact hs, rfl⟩

/-- the basic transition: a single-user `step` of user `u` (with the snoop links it severs when the user goes away) -/
theorem pres_stepAt (k : Nat) (w : World) (u : Nat) (op : Op) : PresAt k w (stepAt w u op) := by
  refine ⟨fun s hs => ?_⟩
  unfold stepAt
  cases hu : getU w u with
  | none => exact ⟨[], hs, rfl⟩
  | some su =>
    dsimp only [Tracks]
    rw [userEvs_tag]
    by_cases huk : u = k
    · subst huk
      rw [hu] at hs
      cases hs
      have hlt := getU_lt hu
      rw [if_pos rfl]
      split
      · refine ⟨[op, .snoopBy none], ?_, congrArg (List.filter ringEv) (List.append_nil _).symm⟩
        rw [getU_setU_same _ _ _ (by rw [dropSnooper_length, setU_length]; exact hlt)]; rfl
      · refine ⟨[op], ?_, congrArg (List.filter ringEv) (List.append_nil _).symm⟩
        rw [getU_setU_same _ _ _ hlt]; rfl
    · rw [if_neg huk]
      split
      · rw [getU_setU_ne _ huk, getU_dropSnooper, getU_setU_ne _ huk, ← getU_dropSnooper]
        exact (pres_dropSnooper k w u).run s hs
      · rw [getU_setU_ne _ huk]
        exact ⟨[], hs, rfl⟩

theorem pres_stepEach (k : Nat) (f : Nat → Op) : ∀ (us : List Nat) (w : World), PresAt k w (stepEach f us w) := by
  intro us
  induction us with
  | nil => exact pres_id k
  | cons u us ih => exact fun w => pres_comp (pres_stepAt k w u (f u)) (ih _)

theorem pres_andThen {k : Nat} {w : World} {r : World × List TEv} {f : World → WR}
    (h1 : PresAt k w r) (h2 : PresAt k r.1 ((f r.1).1, (f r.1).2.1)) :
    PresAt k w ((andThen r f).1, (andThen r f).2.1) :=
  pres_comp h1 h2

theorem pres_reactStep (k : Nat) (rec : World → Nat → Bool → List Byte → WR)
    (hrec : ∀ w u v d, PresAt k w ((rec w u v d).1, (rec w u v d).2.1)) (w : World) (b : Nat) (d : List Byte) :
    PresAt k w ((reactStep rec w b d).1, (reactStep rec w b d).2.1) := by
  unfold reactStep
  split
  · exact pres_id k w
  · split
    · exact pres_id k w
    · refine pres_andThen (pres_stepAt k w b .popReact) ?_
      split
      · exact pres_id k _
      · exact pres_id k _
      · split
        · exact hrec _ _ _ _
        · exact pres_id k _
      · split
        · exact hrec _ _ _ _
        · exact pres_id k _
      · split
        · exact pres_stepAt k _ _ .closeQ
        · exact pres_id k _

/-- add_message as seen by the world - the call itself and everything the snooper's LPC code does in response, to any
depth - changes user `k` only through single-user steps of `k` -/
theorem pres_writeW (k : Nat) : ∀ (fuel : Nat) (w : World) (u : Nat) (v : Bool) (d : List Byte),
    PresAt k w ((writeW fuel w u v d).1, (writeW fuel w u v d).2.1) := by
  intro fuel
  induction fuel with
  | zero => exact fun w _ _ _ => pres_id k w
  | succ fuel ih =>
    intro w u v d
    rw [writeW]
    refine pres_andThen (pres_stepAt k w u (.writeQ v d)) ?_
    split
    · exact pres_id k _
    · exact pres_reactStep k (writeW fuel) ih _ _ _

theorem pres_tactW (k : Nat) (u : Nat) : ∀ (acts : List TAct) (w : World), PresAt k w (tactW w u acts) := by
  intro acts
  induction acts with
  | nil => exact pres_id k
  | cons a r ih => exact fun w => pres_comp (pres_stepAt k w u _) (ih _)

/-- the replies copy_chars writes while it decodes input change a user only through single-user steps of that user -/
theorem pres_inputW (k : Nat) (u : Nat) : ∀ (bs : List Byte) (lm : Nat) (w : World), PresAt k w (inputW w u bs lm) := by
  intro bs
  induction bs with
  | nil => exact fun _ w => pres_id k w
  | cons b bs ih =>
    intro lm w
    rw [inputW]
    split
    · exact pres_id k w
    · rename_i s _
      exact pres_comp (pres_comp (pres_stepAt k w u (.telSet (telByte lm s.tel b).tel ((telByte lm s.tel b).lm != lm)))
        (pres_tactW k u (telByte lm s.tel b).acts _)) (ih (telByte lm s.tel b).lm _)

theorem pres_stepM (k : Nat) (w : World) (op : MOp) : PresAt k w (stepM w op) := by
  cases op with
  | on u o => exact pres_stepAt k w u o
  | all o => exact pres_stepEach k _ _ w
  | hangup u fin => exact pres_stepEach k _ _ w
  | snoop a b =>
    simp only [stepM]
    split
    · refine ite_ind (pres_id k w) ?_
      split
      · exact pres_comp (pres_dropSnooper k w a) (pres_setSnoop k (dropSnooper w a) b _ (some a) ‹_›)
      · exact pres_dropSnooper k w a
    · exact pres_id k w
  | unsnoop a =>
    simp only [stepM]
    split
    · exact ite_ind (pres_id k w) (pres_dropSnooper k w a)
    · exact pres_id k w
  | input u bs =>
    simp only [stepM]
    refine ite_ind ?_ (pres_stepEach k _ _ w)
    refine pres_comp (pres_comp (pres_comp (pres_inputW k u bs (lmNow w) w) (pres_note k _ (inputSnoopW (inputW w u bs (lmNow w)).1 u bs) ?_))
      (ite_ind (pres_stepAt k _ u .flushQ) (pres_id k _))) (pres_stepEach k _ _ _)
    unfold inputSnoopW
    split
    · exact userEvs_nonring k _ rfl
    · rfl
  | writeR u v d =>
    simp only [stepM]
    refine pres_comp (pres_comp (pres_comp (pres_note k w (if v = true then [(u, Ev.vreq d)] else []) ?_)
      (pres_writeW k (fuelOf w) w u v d))
      (pres_note k _ (if (writeW (fuelOf w) w u v d).2.2 = true then [] else [(u, Ev.lpcerr)]) ?_))
      (pres_stepEach k _ _ _)
    · split
      · exact userEvs_nonring k _ rfl
      · rfl
    · split
      · rfl
      · exact userEvs_nonring k _ rfl

theorem pres_runM (k : Nat) : ∀ (ops : List MOp) (w : World), PresAt k w (runM w ops) := by
  intro ops
  induction ops with
  | nil => exact pres_id k
  | cons op ops ih => exact fun w => pres_comp (pres_stepM k w op) (ih _)

/-- **Routing.**  For every world, every list of world operations (single-user operations, driver passes over all users,
snoop links set / replaced / refused / cleared, add_message with re-entrant snooper reactions) and every user `k`: the
events tagged `k` - snoop texts received and error notes aside - are exactly the events of one single-user run of `k`'s
own state, and `k`'s final state is the final state of that run. -/
theorem world_user_stream (w : World) (ops : List MOp) (k : Nat) (s0 : St) (h : getU w k = some s0) :
    ∃ opsk, getU (runM w ops).1 k = some (runFrom s0 opsk).1 ∧
      (userEvs k (runM w ops).2).filter ringEv = (runFrom s0 opsk).2.filter ringEv :=
  (pres_runM k ops w).run s0 h

/-- the oracle accepts user `k`'s stream of every world run, from any state that satisfies the single-user invariant
(`j` = the oracle's state for the stream so far); the invariant holds again afterwards, so runs compose -/
theorem multi_user_stream_ok (w : World) (ops : List MOp) (k : Nat) (s0 : St) (j : J) (h : getU w k = some s0)
    (hgi : GInv s0) (hr : Rel s0 none j) :
    ∃ s', getU (runM w ops).1 k = some s' ∧ GInv s' ∧ Rel s' none (judgeFrom j (userEvs k (runM w ops).2)) := by
  obtain ⟨opsk, h1, h2⟩ := world_user_stream w ops k s0 h
  refine ⟨_, h1, runFrom_ginv opsk s0 hgi, ?_⟩
  rw [← judgeFrom_filter_ringEv, h2, judgeFrom_filter_ringEv]
  exact runFrom_rel opsk s0 j hgi hr

/-- **Top theorem for several users**: in a world run, the stream of every user that started as a fresh connection
satisfies the specification oracle - whatever the other users do, whoever snoops whom, whatever the snoopers' LPC code
writes, destructs or raises from inside add_message. -/
theorem multi_model_satisfies_spec (w : World) (ops : List MOp) (k : Nat) (script : List SendRes) (console : Bool)
    (h : getU w k = some (St.init script console)) : judgeEv (userEvs k (runM w ops).2) = [] := by
  obtain ⟨_, _, _, hr⟩ := multi_user_stream_ok w ops k _ {} h (init_ginv script console) (init_rel script console)
  unfold judgeEv
  rw [hr.bad]; rfl

/-- in a world run, for every user: bytes accepted by its socket followed by its ring contents = bytes stored for it -/
theorem multi_delivered_is_stored (w : World) (ops : List MOp) (k : Nat) (script : List SendRes) (console : Bool)
    (h : getU w k = some (St.init script console)) :
    ∃ s', getU (runM w ops).1 k = some s' ∧ HistEq s' := by
  obtain ⟨opsk, h1, _⟩ := world_user_stream w ops k _ h
  exact ⟨_, h1, sent_then_ring_is_stored script opsk console⟩

/-- non-vacuity: user 2 snoops user 1, echoes, then destructs user 1; the stream judged is user 2's (the snooper's) -/
example : judgeEv (userEvs 2 (runM [none, some (St.init [.wouldBlock] false), some (St.init [] false)]
    [.snoop 2 1, .on 2 (.react [.echo, .dest 1]), .writeR 1 false [104, 10], .writeR 1 true [65], .all .cycle]).2) = [] :=
  multi_model_satisfies_spec _ _ 2 [] false rfl

end NV.C14
