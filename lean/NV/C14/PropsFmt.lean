/-
C14 — the formatting clause of the oracle (`judgeFmt`, Spec.lean) holds for the model: add_vmessage formats with vasprintf,
so the text it stores (`wbeg true d`) is byte for byte the text it was asked to format (`vreq d`), for every length.
-/
import NV.C14.Flush

namespace NV.C14

/-- no formatting request among these events -/
def NoReq (es : List Ev) : Prop := ∀ e ∈ es, ∀ d, e ≠ Ev.vreq d

theorem NoReq.nil : NoReq [] := fun _ h => by cases h

theorem NoReq.append {a b : List Ev} (ha : NoReq a) (hb : NoReq b) : NoReq (a ++ b) :=
  List.forall_mem_append.mpr ⟨ha, hb⟩

theorem NoReq.cons {e : Ev} {es : List Ev} (he : ∀ d, e ≠ Ev.vreq d) (hs : NoReq es) : NoReq (e :: es) :=
  List.forall_mem_cons.mpr ⟨he, hs⟩

/-- events without a request leave the formatting clause where it is -/
theorem fold_noReq {es : List Ev} (h : NoReq es) : es.foldl fstep (none, []) = (none, []) :=
  List.foldlRecOn es fstep (motive := (· = (none, []))) rfl fun _ hb e he => by
    subst hb
    cases e <;> first | rfl | exact absurd rfl (h _ he _)

theorem single_noReq {e : Ev} (h : ∀ d, e ≠ Ev.vreq d) : NoReq [e] := NoReq.cons h NoReq.nil

/-- no formatting request in what one iteration of the send loop emits -/
def outcomeNoReq : Outcome → Prop
  | .cont _ ev => ∀ d, ev ≠ Ev.vreq d
  | .stop _ evs _ => NoReq evs

theorem sendStep_noReq (s : St) : outcomeNoReq (sendStep s) := by
  unfold sendStep
  by_cases h0 : s.len = 0
  · rw [if_pos h0]; exact NoReq.nil
  · rw [if_neg h0]
    dsimp only
    by_cases h1 : chunkLen s = 0 ∨ N < s.cons + chunkLen s ∨ s.len < chunkLen s
    · rw [if_pos h1]; exact single_noReq nofun
    · rw [if_neg h1]
      generalize (pop s.script).1 = r
      cases r with
      | acc k => exact fun _ => nofun
      | _ => exact ite_ind (P := outcomeNoReq) (single_noReq nofun) (single_noReq nofun)

theorem flushLoop_noReq : ∀ (fuel : Nat) (s : St), NoReq (flushLoop fuel s).2.1 := by
  intro fuel
  induction fuel with
  | zero => exact fun _ => single_noReq nofun
  | succ fuel ih =>
    intro s
    have h := sendStep_noReq s
    rw [flushLoop]
    cases hs : sendStep s with
    | stop s' evs ok => rw [hs] at h; exact h
    | cont s' ev => rw [hs] at h; exact NoReq.cons h (ih s')

theorem flushMsg_noReq (s : St) : NoReq (flushMsg s).2.1 := by
  unfold flushMsg
  split
  · exact NoReq.nil
  · exact flushLoop_noReq _ _

theorem guardFull_noReq (s : St) (thr : Nat) : NoReq (guardFull s thr).2.1 := by
  by_cases hl : s.len = thr
  · rw [guardFull_eq hl]; exact flushMsg_noReq s
  · rw [guardFull_ne hl]; exact NoReq.nil

theorem makeRoom_noReq (c : Byte) (s : St) : NoReq (makeRoom c s).2.1 := by
  unfold makeRoom
  dsimp only
  split
  · refine NoReq.append (guardFull_noReq _ _) ?_
    split
    · exact guardFull_noReq _ _
    · exact NoReq.nil
  · exact guardFull_noReq _ _

theorem addLoop_noReq : ∀ (data : List Byte) (s : St), NoReq (addLoop data s).2.1 := by
  intro data
  induction data with
  | nil => exact fun _ => NoReq.nil
  | cons c cs ih =>
    intro s
    rw [addLoop_cons]
    split
    · exact NoReq.append (makeRoom_noReq c s) (ih _)
    · exact makeRoom_noReq c s

theorem snoopEvs_noReq (s : St) (d : List Byte) : NoReq (snoopEvs s d) := by
  unfold snoopEvs
  split
  · exact NoReq.nil
  · exact single_noReq nofun

theorem tailOf_noReq (v console : Bool) (r : St) : NoReq (tailOf v console r).2 :=
  tailOf_cases (P := fun t => NoReq t.2) v console r (flushMsg_noReq r) (fun _ => NoReq.nil) NoReq.nil

/-- add_message / add_vmessage: the first event is the `wbeg` with the text as it will be stored, nothing after it is a request -/
theorem addMessage_shape (v : Bool) (d : List Byte) (s : St) :
    ∃ rest, (addMessage v d s).2 = Ev.wbeg v d :: rest ∧ NoReq rest := by
  cases hg : s.gone with
  | true =>
    rw [addMessage_gone hg]
    exact ⟨_, rfl, single_noReq nofun⟩
  | false =>
    rw [addMessage_alive hg]
    split
    · exact ⟨_, rfl, NoReq.append (addLoop_noReq d s) (single_noReq nofun)⟩
    · exact ⟨_, rfl, NoReq.append (NoReq.append (NoReq.append (addLoop_noReq d s) (tailOf_noReq _ _ _))
        (single_noReq nofun)) (snoopEvs_noReq s d)⟩

theorem stEv_noReq (s : St) : NoReq [stEv s] := by
  unfold stEv
  split <;> exact single_noReq nofun

/-- every operation leaves the formatting clause satisfied -/
theorem step_fmt (s : St) (op : Op) : (step s op).2.foldl fstep (none, []) = (none, []) := by
  refine step_cases (P := fun r => r.2.foldl fstep (none, []) = (none, [])) s op
    (edit := fun _ _ _ _ _ _ => rfl) (line := fold_noReq (stEv_noReq s)) (dump := fun _ => rfl)
    (flush := fold_noReq (NoReq.append (flushMsg_noReq s) (stEv_noReq _))) (flushQ := fold_noReq (flushMsg_noReq s))
    (close := ?close) (peerfin := rfl) (write := ?write) (writeQ := ?writeQ)
  case close =>
    intro tl htl
    refine fold_noReq (NoReq.append (flushMsg_noReq s) (NoReq.cons nofun ?_))
    rcases htl with rfl | rfl
    · exact single_noReq nofun
    · exact NoReq.nil
  case write =>
    intro v d _
    obtain ⟨rest, h, hr⟩ := addMessage_shape v d s
    dsimp only
    rw [h]
    cases v with
    | false => exact fold_noReq (NoReq.append (NoReq.cons nofun hr) (stEv_noReq _))
    | true =>
      have h1 : fstep (fstep (none, []) (Ev.vreq d)) (Ev.wbeg true d) = (none, []) := by
        show (none, if (true && d == d) = true then [] else _) = (none, [])
        rw [beq_self_eq_true d]; rfl
      simp only [if_true, List.cons_append, List.nil_append, List.foldl_cons]
      rw [h1]
      exact fold_noReq (NoReq.append hr (stEv_noReq _))
  case writeQ =>
    intro v d _
    obtain ⟨rest, h, hr⟩ := addMessage_shape v d s
    rw [h]
    exact fold_noReq (NoReq.cons nofun hr)

theorem runFrom_fmt : ∀ (ops : List Op) (s : St), (runFrom s ops).2.foldl fstep (none, []) = (none, []) := by
  intro ops
  induction ops with
  | nil => exact fun _ => rfl
  | cons op ops ih => intro s; rw [runFrom, List.foldl_append, step_fmt, ih]

/-- **Formatting clause.**  For every script and every list of operations the model's trace satisfies `judgeFmt`: whatever
its length, the text add_vmessage stores is exactly the text it was asked to format. -/
theorem model_formats_exactly (script : List SendRes) (ops : List Op) (console : Bool := false) :
    judgeFmt (events (run script ops console)) = [] := by
  unfold judgeFmt events run
  rw [runFrom_fmt]
  rfl

/-- the clause is not vacuous: a formatting step that drops the last byte of the text is rejected -/
example : judgeFmt [.vreq [65, 66], .wbeg true [65], .wend] ≠ [] := by decide

/-- ... and so is a request that never reaches the ring code -/
example : judgeFmt [.vreq [65, 66], .wend] ≠ [] := by decide

end NV.C14
