/-
C14 — the model side, without the oracle.  First the model as the proofs take it: equations for its functions, none resting
on more of the invariant than `chunk_in_bounds`; three pieces of `sendStep`, `addLoop` and `addMessage` get names of their
own (`afterSend`, `makeRoom`, `tailOf`), each followed by the equation that gives the model's function in terms of it; the
operations by cases (`step_cases`).  Then what these functions preserve and leave: one iteration of the send loop and a
flush attempt (`Flushed`), the ring-full tests and the write loop (`Guarded`, `ItemStored`, `Wrote`), the invariant every
operation keeps (`GInv`).
The proofs about the model in Sim, Props, PropsHist, PropsClose and PropsFmt go through these (`sendStep_cases`, `Flushed`,
`Wrote`, `addMessage_alive`, `step_cases`, `step_ginv`); they unfold the model themselves only for what is not here: `stEv`,
`snoopEvs`, and in PropsFmt, which asks which events occur in ANY state (no invariant), `sendStep`, `flushLoop`, `flushMsg`.
-/
import NV.C14.Ring
import NV.C14.Fit

namespace NV.C14

theorem ite_ind {c : Prop} [Decidable c] {α : Type} {P : α → Prop} {a b : α} (ha : P a) (hb : P b) :
    P (if c then a else b) := by
  split <;> assumption

/-- the state after send() accepted the first `m` bytes of the chunk -/
def afterSend (s : St) (m : Nat) : St := consume s m (bytesAt s.buf s.cons m) (pop s.script).2

theorem sendStep_empty {s : St} (hl : s.len = 0) : sendStep s = .stop { s with want := wantAfterDrain s } [] true := by
  unfold sendStep; rw [if_pos hl]

/-- with output pending and the chunk in bounds (`chunk_in_bounds`) an iteration is the call of send() -/
theorem sendStep_pending {s : St} (h : Inv s) (hl : s.len ≠ 0) :
    sendStep s =
      match (pop s.script).1 with
      | .acc k => .cont (afterSend s (min (k + 1) (chunkLen s)))
          (.send (chunkLen s) .acc (bytesAt s.buf s.cons (min (k + 1) (chunkLen s))))
      | r =>
        if keepsData r.errno then
          .stop { s with script := (pop s.script).2, want := wantAfterRefusal s } [.send (chunkLen s) r.res []] true
        else .stop { s with script := (pop s.script).2, dead := true } [.send (chunkLen s) r.res []] false := by
  obtain ⟨c1, c2, c3⟩ := chunk_in_bounds h hl
  unfold sendStep
  rw [if_neg hl]
  exact if_neg (fun hc => hc.elim (Nat.ne_of_gt c1)
    (fun hc => hc.elim (Nat.not_lt.mpr c2) (Nat.not_lt.mpr c3)))

theorem flushLoop_stop {fuel : Nat} {s s' : St} {evs : List Ev} {ok : Bool} (h : sendStep s = .stop s' evs ok) :
    flushLoop (fuel + 1) s = (s', evs, ok) := by rw [flushLoop, h]

theorem flushLoop_cont {fuel : Nat} {s s' : St} {ev : Ev} (h : sendStep s = .cont s' ev) :
    flushLoop (fuel + 1) s = ((flushLoop fuel s').1, ev :: (flushLoop fuel s').2.1, (flushLoop fuel s').2.2) := by
  rw [flushLoop, h]

theorem flushMsg_alive {s : St} (hg : s.gone = false) : flushMsg s = flushLoop (s.len + 1) s := by
  unfold flushMsg; simp [hg]

theorem flushMsg_gone {s : St} (hg : s.gone = true) : flushMsg s = (s, [], false) := by
  unfold flushMsg; simp [hg]

theorem guardFull_ne {s : St} {thr : Nat} (hl : s.len ≠ thr) : guardFull s thr = (s, [], .go) := by
  unfold guardFull; rw [if_neg hl]

theorem guardFull_eq {s : St} {thr : Nat} (hl : s.len = thr) :
    guardFull s thr = ((flushMsg s).1, (flushMsg s).2.1,
      if (flushMsg s).2.2 = false then .ret else if (flushMsg s).1.len = thr then .brk else .go) := by
  unfold guardFull; rw [if_pos hl]
  dsimp only
  split
  · rfl
  · split <;> rfl

/-- the two ring-full tests in front of storing item `c` (the second one only before a CR LF pair), as one step -/
def makeRoom (c : Byte) (s : St) : St × List Ev × Go :=
  let g1 := guardFull s N
  match g1.2.2 with
  | .go =>
    let g2 := if c = LF then guardFull g1.1 (N - 1) else (g1.1, [], .go)
    (g2.1, g1.2.1 ++ g2.2.1, g2.2.2)
  | g => (g1.1, g1.2.1, g)

theorem addLoop_cons (c : Byte) (cs : List Byte) (s : St) :
    addLoop (c :: cs) s =
      match (makeRoom c s).2.2 with
      | .go => ((addLoop cs (putItem (makeRoom c s).1 c)).1,
          (makeRoom c s).2.1 ++ (addLoop cs (putItem (makeRoom c s).1 c)).2.1,
          (addLoop cs (putItem (makeRoom c s).1 c)).2.2)
      | g => ((makeRoom c s).1, (makeRoom c s).2.1, g) := by
  rw [addLoop]
  simp only [thrFull_eq, thrLF_eq]
  unfold makeRoom
  dsimp only
  cases (guardFull s N).2.2 <;> rfl

/-- what add_vmessage (`v`) / add_message do after the write loop left `r` (unless add_message `return`ed from the loop):
add_vmessage flushes if bytes are pending; add_message flushes the console user and asks for write notification for any
other -/
def tailOf (v console : Bool) (r : St) : St × List Ev :=
  if v then (if r.len ≠ 0 then ((flushMsg r).1, (flushMsg r).2.1) else (r, []))
  else if console then ((flushMsg r).1, (flushMsg r).2.1)
  else ({ r with want := true }, [])

theorem tailOf_cases {P : St × List Ev → Prop} (v console : Bool) (r : St)
    (flush : P ((flushMsg r).1, (flushMsg r).2.1)) (nothing : r.len = 0 → P (r, []))
    (want : P ({ r with want := true }, [])) : P (tailOf v console r) := by
  unfold tailOf
  split
  · split
    · exact flush
    · rename_i h0
      exact nothing (Decidable.not_not.mp h0)
  · split
    · exact flush
    · exact want

/-- on a connection that is gone both only announce themselves -/
theorem addMessage_gone {s : St} (hg : s.gone = true) (v : Bool) (d : List Byte) :
    addMessage v d s = (s, [.wbeg v d, .wend]) := by
  unfold addMessage; rw [if_pos hg]

/-- `add_message` / `add_vmessage` on a live connection: the write loop; then, unless add_message `return`ed from the loop
on a broken connection, the tail and the snoop forwarding -/
theorem addMessage_alive {s : St} (hg : s.gone = false) (v : Bool) (d : List Byte) :
    addMessage v d s =
      if v = false ∧ (addLoop d s).2.2 = .ret then
        ((addLoop d s).1, .wbeg v d :: ((addLoop d s).2.1 ++ [.wend]))
      else
        ((tailOf v s.console (addLoop d s).1).1,
         .wbeg v d :: ((addLoop d s).2.1 ++ (tailOf v s.console (addLoop d s).1).2 ++ [.wend] ++ snoopEvs s d)) := by
  unfold addMessage tailOf
  rw [if_neg (by rw [hg]; exact nofun)]
  cases v with
  | true =>
    simp only [↓reduceIte, Bool.true_eq_false, false_and]
    split <;> rfl
  | false =>
    simp only [↓reduceIte, Bool.false_eq_true, true_and]
    by_cases hret : (addLoop d s).2.2 = .ret
    · simp only [hret, ↓reduceIte, List.append_nil]
      split <;> rfl
    · simp only [hret, ↓reduceIte]
      split
      · rfl
      · rw [List.append_nil]

theorem step_close (s : St) : step s .close =
    if s.closed then (s, [stEv s])
    else ({ (flushMsg s).1 with closed := true }, (flushMsg s).2.1 ++ [.close, .stClosed]) := rfl

theorem step_peerfin (s : St) : step s .peerfin =
    if s.closed then (s, [stEv s]) else ({ s with dead := true, closed := true }, [.close, .stClosed]) := rfl

/-- what an operation can be, as far as the ring is concerned: an edit of fields the ring code does not read, the state
line alone, a ring dump, a flush (with or without state line), a close after a flush attempt, the peer's EOF, an
add_message / add_vmessage call -/
theorem step_cases {P : St × List Ev → Prop} (s : St) (op : Op)
    (edit : ∀ sn sc re te tl lm,
      P ({ s with snoopBy := sn, script := sc, react := re, telnet := te, tel := tl, lmSet := lm }, []))
    (line : P (s, [stEv s]))
    (dump : ∀ bs, P (s, [.dump bs]))
    (flush : P ((flushMsg s).1, (flushMsg s).2.1 ++ [stEv (flushMsg s).1]))
    (flushQ : P ((flushMsg s).1, (flushMsg s).2.1))
    (close : ∀ tl, tl = [.stClosed] ∨ tl = [] →
      P ({ (flushMsg s).1 with closed := true }, (flushMsg s).2.1 ++ .close :: tl))
    (peerfin : P ({ s with dead := true, closed := true }, [.close, .stClosed]))
    (write : ∀ v d, op = .write v d → P ((addMessage v d s).1,
      (if v then [Ev.vreq d] else []) ++ (addMessage v d s).2 ++ [stEv (addMessage v d s).1]))
    (writeQ : ∀ v d, op = .writeQ v d → P (addMessage v d s)) : P (step s op) := by
  have quiet : P (s, []) := edit s.snoopBy s.script s.react s.telnet s.tel s.lmSet
  cases op with
  | sendres rs => exact edit ..
  | write v d => exact write v d rfl
  | flush => exact ite_ind line flush
  | cycle => exact ite_ind line flush
  | wready => exact ite_ind line flush
  | close => exact ite_ind line (close _ (.inl rfl))
  | peerfin => exact ite_ind line peerfin
  | dump => exact dump _
  | snoopBy k => exact edit ..
  | writeQ v d => exact writeQ v d rfl
  | closeQ => exact ite_ind quiet (close _ (.inr rfl))
  | showSt => exact line
  | react rs => exact edit ..
  | popReact => exact edit ..
  | setTelnet => exact edit ..
  | flushQ => exact ite_ind quiet flushQ
  | telSet t lm => exact edit ..

/-- facts every step of a flush preserves -/
structure StepPost (s s' : St) : Prop where
  inv : Inv s'
  len_le : s'.len ≤ s.len
  closed : s'.closed = s.closed
  histR : s'.histR = s.histR
  sent : s'.sentR.reverse ++ contents s' = s.sentR.reverse ++ contents s
  console : s'.console = s.console

theorem StepPost.refl {s : St} (h : Inv s) : StepPost s s := ⟨h, Nat.le_refl _, rfl, rfl, rfl, rfl⟩

theorem StepPost.trans {a b c : St} (h1 : StepPost a b) (h2 : StepPost b c) : StepPost a c :=
  ⟨h2.inv, Nat.le_trans h2.len_le h1.len_le, h2.closed.trans h1.closed, h2.histR.trans h1.histR,
   h2.sent.trans h1.sent, h2.console.trans h1.console⟩

/-- everything ever stored into the ring = everything accepted by send(), then what is still in the ring -/
def HistEq (s : St) : Prop := s.histR.reverse = s.sentR.reverse ++ contents s

theorem afterSend_post {s : St} (h : Inv s) (hl : s.len ≠ 0) {m : Nat} (hm1 : 1 ≤ m) (hmc : m ≤ chunkLen s) :
    StepPost s (afterSend s m) ∧ (afterSend s m).len < s.len ∧ (afterSend s m).gone = s.gone ∧
      contents s = bytesAt s.buf s.cons m ++ contents (afterSend s m) := by
  obtain ⟨_, c2, c3⟩ := chunk_in_bounds h hl
  have hml : m ≤ s.len := Nat.le_trans hmc c3
  -- send() read the head of the contents, what stays is the rest
  have hc : contents s = bytesAt s.buf s.cons m ++ contents (afterSend s m) := by
    rw [bytesAt_eq_take (Nat.le_trans (Nat.add_le_add_left hmc _) c2) hml]
    exact (List.take_append_drop ..).symm.trans (congrArg _ (consume_contents ..).symm)
  have hlen : (afterSend s m).len = s.len - m := by unfold afterSend; rw [consume_eq]
  refine ⟨⟨consume_inv h hml _ _, hlen ▸ Nat.sub_le .., rfl, rfl, ?_, rfl⟩,
    hlen ▸ Nat.sub_lt (Nat.pos_of_ne_zero hl) hm1, rfl, hc⟩
  show ((bytesAt s.buf s.cons m).reverse ++ s.sentR).reverse ++ _ = _
  rw [hc, List.reverse_append, List.reverse_reverse, List.append_assoc]

/-- one iteration with output pending: send() takes `m ≥ 1` bytes of the chunk, or refuses and the data is kept, or fails
and the connection is dead -/
theorem sendStep_cases {s : St} (h : Inv s) (hl : s.len ≠ 0) :
    (∃ m, 1 ≤ m ∧ m ≤ chunkLen s ∧
      sendStep s = .cont (afterSend s m) (.send (chunkLen s) .acc (bytesAt s.buf s.cons m))) ∨
    ((∀ k, (pop s.script).1 ≠ .acc k) ∧ keepsData (pop s.script).1.errno = true ∧
      sendStep s = .stop { s with script := (pop s.script).2, want := wantAfterRefusal s }
        [.send (chunkLen s) (pop s.script).1.res []] true) ∨
    ((∀ k, (pop s.script).1 ≠ .acc k) ∧ keepsData (pop s.script).1.errno = false ∧
      sendStep s = .stop { s with script := (pop s.script).2, dead := true }
        [.send (chunkLen s) (pop s.script).1.res []] false) := by
  rw [sendStep_pending h hl]
  generalize (pop s.script).1 = r
  by_cases hacc : ∃ k, r = .acc k
  · obtain ⟨k, rfl⟩ := hacc
    exact .inl ⟨_, Nat.le_min.mpr ⟨Nat.succ_pos k, (chunk_in_bounds h hl).1⟩, Nat.min_le_right .., rfl⟩
  · have hn : ∀ k, r ≠ .acc k := fun k hk => hacc ⟨k, hk⟩
    right
    cases hk : keepsData r.errno with
    -- every result but an accept falls into the wildcard arm of the match
    | true => exact .inl ⟨hn, rfl, by cases r with | acc k => exact absurd rfl (hn k) | _ => exact if_pos hk⟩
    | false =>
      exact .inr ⟨hn, rfl, by cases r with | acc k => exact absurd rfl (hn k) | _ => exact if_neg (hk ▸ Bool.false_ne_true)⟩

/-- the trace of one flush attempt on pending bytes `q`, as an observer of the socket sees it: sends that each take a
non-empty head of what is pending, until nothing is pending, or one send is refused (`ok`, the rest `q'` is kept) or fails -/
inductive FlushTr : List Byte → List Ev → List Byte → Bool → Prop
  | drained : FlushTr [] [] [] true
  | took {a q q' : List Byte} {n : Nat} {evs : List Ev} {ok : Bool} : a ≠ [] → a.length ≤ n → n ≤ a.length + q.length →
      FlushTr q evs q' ok → FlushTr (a ++ q) (.send n .acc a :: evs) q' ok
  | stopped {q : List Byte} {n : Nat} {r : SendRes} : (∀ k, r ≠ .acc k) → 0 < n → n ≤ q.length →
      FlushTr q [.send n r.res []] q (keepsData r.errno)

theorem FlushTr.length_le {q q' : List Byte} {evs : List Ev} {ok : Bool} (t : FlushTr q evs q' ok) :
    q'.length ≤ q.length := by
  induction t with
  | drained => exact Nat.le_refl _
  | took _ _ _ _ ih => rw [List.length_append]; exact Nat.le_trans ih (Nat.le_add_left _ _)
  | stopped _ _ _ => exact Nat.le_refl _

/-- the socket accepts: every remaining scripted result is an accept (of at least one byte, any size) -/
def AllAcc (rs : List SendRes) : Prop := ∀ r ∈ rs, ∃ k, r = SendRes.acc k

theorem allAcc_pop {rs : List SendRes} (h : AllAcc rs) : (∃ k, (pop rs).1 = .acc k) ∧ AllAcc (pop rs).2 := by
  cases rs with
  | nil => exact ⟨⟨N, rfl⟩, fun r hr => by cases hr⟩
  | cons r rs => exact List.forall_mem_cons.mp h

/-- what a flush attempt `r` from state `s` leaves: `flush_message` returns 0 exactly when the connection is unusable,
and after a `return 1` with bytes still pending a later flush is guaranteed -/
structure Flushed (s : St) (r : St × List Ev × Bool) : Prop where
  post : StepPost s r.1
  gone_eq_not_ok : r.1.gone = !r.2.2
  want : r.1.gone = false → r.1.len ≠ 0 → (r.1.want || r.1.console) = true
  trace : s.gone = false → FlushTr (contents s) r.2.1 (contents r.1) r.2.2
  drains : s.gone = false → AllAcc s.script → r.1.len = 0 ∧ r.2.2 = true

/-- a stop of the send loop changes flags and the script only -/
theorem StepPost.flags {s : St} (h : Inv s) (rs : List SendRes) (w d : Bool) :
    StepPost s { s with script := rs, want := w, dead := d } :=
  ⟨h.of_eq rfl rfl rfl rfl rfl, Nat.le_refl _, rfl, rfl, rfl, rfl⟩

theorem flushLoop_flushed : ∀ (fuel : Nat) (s : St), Inv s → s.gone = false → s.len < fuel →
    Flushed s (flushLoop fuel s) := by
  intro fuel
  induction fuel with
  | zero => exact fun _ _ _ hf => absurd hf (Nat.not_lt_zero _)
  | succ fuel ih =>
    intro s h hg hf
    by_cases hl : s.len = 0
    · rw [flushLoop_stop (sendStep_empty hl)]
      refine ⟨.flags h _ _ _, hg, fun _ h0 => absurd hl h0, fun _ => ?_, fun _ _ => ⟨hl, rfl⟩⟩
      show FlushTr (contents s) [] (contents s) true
      rw [(contents_eq_nil s).mpr hl]
      exact .drained
    · obtain ⟨c1, _, c3⟩ := chunk_in_bounds h hl
      rw [← contents_length s] at c3
      have stuck : (∀ k, (pop s.script).1 ≠ .acc k) → ¬ AllAcc s.script :=
        fun hn ha => (allAcc_pop ha).1.elim fun k hk => hn k hk
      rcases sendStep_cases h hl with ⟨m, hm1, hmc, hs⟩ | ⟨hn, hk, hs⟩ | ⟨hn, hk, hs⟩
      · rw [flushLoop_cont hs]
        obtain ⟨p, hlt, hg', hc⟩ := afterSend_post h hl hm1 hmc
        have ih := ih (afterSend s m) p.inv (hg'.trans hg) (Nat.lt_of_lt_of_le hlt (Nat.le_of_lt_succ hf))
        refine ⟨p.trans ih.post, ih.gone_eq_not_ok, ih.want, fun _ => ?_, fun _ ha => ih.drains (hg'.trans hg) (allAcc_pop ha).2⟩
        -- the bytes taken are the head of the contents, what follows is the trace of the rest
        have hlen := bytesAt_length s.buf s.cons m
        rw [hc] at c3 ⊢
        exact .took (List.ne_nil_of_length_pos (hlen.symm ▸ hm1)) (hlen.symm ▸ hmc) (List.length_append ▸ c3)
          (ih.trace (hg'.trans hg))
      · rw [flushLoop_stop hs]
        refine ⟨.flags h _ _ _, hg, fun _ _ => ?_, fun _ => hk ▸ .stopped hn c1 c3, fun _ ha => absurd ha (stuck hn)⟩
        show (wantAfterRefusal s || s.console) = true
        cases hc : s.console with
        | true => exact Bool.or_true _
        | false => rw [wantAfterRefusal, hc]; rfl
      · rw [flushLoop_stop hs]
        exact ⟨.flags h _ _ _, Bool.or_true _, fun hx => absurd ((Bool.or_true _).symm.trans hx) nofun, fun _ => hk ▸ .stopped hn c1 c3, fun _ ha => absurd ha (stuck hn)⟩

theorem flushMsg_flushed {s : St} (h : Inv s) : Flushed s (flushMsg s) := by
  cases hg : s.gone with
  | true =>
    have void {P : Prop} (hx : s.gone = false) : P := absurd (hg.symm.trans hx) nofun
    rw [flushMsg_gone hg]
    exact ⟨.refl h, hg, void, void, void⟩
  | false => rw [flushMsg_alive hg]; exact flushLoop_flushed _ s h hg (Nat.lt_succ_self _)

/-- what a ring-full test of the write loop (`r`, from state `s`) leaves, by its outcome: the loop goes on only on a usable
connection with `room`, it `break`s on a ring that is still `full`, it `return`s on a connection that is gone -/
structure Guarded (s : St) (r : St × List Ev × Go) (room full : St → Prop) : Prop where
  post : StepPost s r.1
  go : r.2.2 = .go → r.1.gone = false ∧ room r.1
  brk : r.2.2 = .brk → full r.1
  ret : r.2.2 = .ret → r.1.gone = true

/-- a ring-full test of the write loop: flush when the length is at the threshold -/
theorem guardFull_outcome {s : St} {thr : Nat} (h : Inv s) (hg : s.gone = false) (hle : s.len ≤ thr) :
    Guarded s (guardFull s thr) (·.len < thr) (·.len = thr) := by
  by_cases hl : s.len = thr
  · have f := flushMsg_flushed h
    have hgone := f.gone_eq_not_ok
    have hle' := Nat.le_trans f.post.len_le hle
    rw [guardFull_eq hl]
    cases hok : (flushMsg s).2.2 with
    | false =>
      rw [hok] at hgone
      exact ⟨f.post, nofun, nofun, fun _ => hgone⟩
    | true =>
      rw [hok] at hgone
      rw [if_neg nofun]
      by_cases hlt : (flushMsg s).1.len = thr
      · rw [if_pos hlt]; exact ⟨f.post, nofun, fun _ => hlt, nofun⟩
      · rw [if_neg hlt]; exact ⟨f.post, fun _ => ⟨hgone, Nat.lt_of_le_of_ne hle' hlt⟩, nofun, nofun⟩
  · rw [guardFull_ne hl]
    exact ⟨.refl h, fun _ => ⟨hg, Nat.lt_of_le_of_ne hle hl⟩, nofun, nofun⟩

/-- the room-making step in front of item `c`: the loop goes on only with room for the item; it `break`s on a ring
that still has no room; it `return`s on a dead connection -/
theorem makeRoom_outcome {s : St} (c : Byte) (h : Inv s) (hg : s.gone = false) :
    Guarded s (makeRoom c s) (·.len + itemLen c ≤ N) (N < ·.len + itemLen c) := by
  have g1 := guardFull_outcome (thr := N) h hg h.len_le
  unfold makeRoom
  dsimp only
  cases hg1 : (guardFull s N).2.2 with
  | go =>
    obtain ⟨a1, a2⟩ := g1.go hg1
    dsimp only
    by_cases hc : c = LF
    · rw [if_pos hc, show itemLen c = 2 from if_pos hc]
      have g2 := guardFull_outcome (thr := N - 1) g1.post.inv a1 (Nat.le_sub_one_of_lt a2)
      refine ⟨g1.post.trans g2.post, fun hgo => ⟨(g2.go hgo).1, Nat.succ_le_of_lt (Nat.add_lt_of_lt_sub (g2.go hgo).2)⟩,
        fun hb => ?_, g2.ret⟩
      rw [g2.brk hb, ← Nat.sub_add_cancel N_pos]
      exact Nat.lt_succ_self _
    · rw [if_neg hc, show itemLen c = 1 from if_neg hc]
      exact ⟨g1.post, fun _ => ⟨a1, a2⟩, nofun, nofun⟩
  | brk =>
    refine ⟨g1.post, nofun, fun _ => ?_, nofun⟩
    show N < (guardFull s N).1.len + itemLen c
    rw [g1.brk hg1]
    exact Nat.lt_add_of_pos_right (itemLen_pos c)
  | ret => exact ⟨g1.post, nofun, nofun, fun _ => g1.ret hg1⟩

/-- `s'` is `s` with item `c` stored at the producer end of the ring -/
structure ItemStored (s : St) (c : Byte) (s' : St) : Prop where
  inv : Inv s'
  ring : contents s' = contents s ++ item c
  len : s'.len = s.len + itemLen c
  gone : s'.gone = s.gone
  sentR : s'.sentR = s.sentR
  histR : s'.histR = (item c).reverse ++ s.histR

theorem putItem_stores {s : St} (h : Inv s) (c : Byte) (hl : s.len + itemLen c ≤ N) : ItemStored s c (putItem s c) := by
  unfold putItem
  by_cases hc : c = LF
  · have hi : item c = [CR, c] := (if_pos hc).trans (hc ▸ rfl)
    have hil : itemLen c = 2 := if_pos hc
    rw [if_pos hc]
    rw [hil] at hl
    have l0 : s.len < N := Nat.lt_of_lt_of_le (Nat.lt_add_of_pos_right (by decide)) hl
    have h1 := put_inv h l0 CR
    have l1 : (put s CR).len = s.len + 1 := put_len h CR
    have l1' : (put s CR).len < N := l1 ▸ Nat.lt_of_succ_le hl
    exact ⟨put_inv h1 l1' c, by rw [hi, put_contents h1 l1', put_contents h l0, List.append_assoc]; rfl,
      by rw [hil, put_len h1, l1], by rw [put_gone, put_gone],
      by rw [put_sentR, put_sentR], by rw [hi, put_histR h1, put_histR h]; rfl⟩
  · have hi : item c = [c] := if_neg hc
    have hil : itemLen c = 1 := if_neg hc
    rw [if_neg hc]
    rw [hil] at hl
    exact ⟨put_inv h (Nat.lt_of_succ_le hl) c, hi ▸ put_contents h (Nat.lt_of_succ_le hl) c, hil ▸ put_len h c, put_gone c,
      put_sentR c, hi ▸ put_histR h c⟩

/-- what the write loop `r` made of text `data` from state `s`: it stored the wire image of the first `n` bytes of the
text - all of it unless the connection is gone (the loop `return`ed) or the ring has no room for the next item - and what
it stored is in the ring or was sent -/
structure Wrote (s : St) (data : List Byte) (r : St × List Ev × Go) (n : Nat) : Prop where
  inv : Inv r.1
  ret : r.2.2 = .ret → r.1.gone = true
  le : n ≤ data.length
  hist : r.1.histR.reverse = s.histR.reverse ++ expand (data.take n)
  sent : r.1.sentR.reverse ++ contents r.1 = s.sentR.reverse ++ contents s ++ expand (data.take n)
  short : n < data.length → r.1.gone = true ∨ ∃ c, data[n]? = some c ∧ N < r.1.len + itemLen c

/-- the loop stopped in front of the first item -/
theorem Wrote.stop {s g : St} {c : Byte} {cs : List Byte} {evs : List Ev} {how : Go} (p : StepPost s g)
    (hstop : g.gone = true ∨ N < g.len + itemLen c) (hret : how = .ret → g.gone = true) :
    Wrote s (c :: cs) (g, evs, how) 0 where
  inv := p.inv
  ret := hret
  le := Nat.zero_le _
  hist := by rw [p.histR]; exact (List.append_nil _).symm
  sent := by rw [p.sent]; exact (List.append_nil _).symm
  short := fun _ => hstop.imp_right fun h => ⟨c, rfl, h⟩

theorem addLoop_wrote : ∀ (data : List Byte) (s : St), Inv s → s.gone = false →
    ∃ n, Wrote s data (addLoop data s) n := by
  intro data
  induction data with
  | nil =>
    exact fun s h hg => ⟨0, h, nofun, Nat.le_refl _, (List.append_nil _).symm, (List.append_nil _).symm,
      fun hlt => absurd hlt (Nat.lt_irrefl 0)⟩
  | cons c cs ih =>
    intro s h hg
    have m := makeRoom_outcome c h hg
    have p := m.post
    rw [addLoop_cons]
    cases hm : (makeRoom c s).2.2 with
    | go =>
      obtain ⟨a1, a2⟩ := m.go hm
      have i := putItem_stores p.inv c a2
      obtain ⟨n, r⟩ := ih _ i.inv (i.gone.trans a1)
      refine ⟨n + 1, r.inv, r.ret, Nat.succ_le_succ r.le, ?_, ?_, fun hlt => r.short (Nat.lt_of_succ_lt_succ hlt)⟩
      · rw [r.hist, i.histR, p.histR, List.reverse_append, List.reverse_reverse, List.append_assoc]; rfl
      · rw [r.sent, i.sentR, i.ring, ← List.append_assoc, p.sent, List.append_assoc (s.sentR.reverse ++ contents s)]; rfl
    | brk => exact ⟨0, .stop p (.inr (m.brk hm)) nofun⟩
    | ret => exact ⟨0, .stop p (.inl (m.ret hm)) (fun _ => m.ret hm)⟩

/-- invariant at operation boundaries: the ring invariant, and pending output always has write notification requested -/
structure GInv (s : St) : Prop where
  inv : Inv s
  want : s.gone = false → s.len ≠ 0 → (s.want || s.console) = true

theorem Flushed.ginv {s : St} {r : St × List Ev × Bool} (f : Flushed s r) : GInv r.1 := ⟨f.post.inv, f.want⟩

theorem tailOf_post (v console : Bool) {r : St} (h : Inv r) : StepPost r (tailOf v console r).1 :=
  tailOf_cases (P := fun t => StepPost r t.1) v console r (flushMsg_flushed h).post (fun _ => .refl h) (.flags h _ _ _)

theorem tailOf_ginv (v console : Bool) {r : St} (h : Inv r) : GInv (tailOf v console r).1 :=
  tailOf_cases (P := fun t => GInv t.1) v console r (flushMsg_flushed h).ginv (fun h0 => ⟨h, fun _ hl => absurd h0 hl⟩)
    ⟨h.of_eq rfl rfl rfl rfl rfl, fun _ _ => rfl⟩

theorem GInv.of_gone {s : St} (h : Inv s) (hg : s.gone = true) : GInv s :=
  ⟨h, fun hx => absurd (hg.symm.trans hx) nofun⟩

theorem addMessage_ginv {s : St} (v : Bool) (d : List Byte) (hgi : GInv s) : GInv (addMessage v d s).1 := by
  cases hg : s.gone with
  | true => rw [addMessage_gone hg]; exact hgi
  | false =>
    obtain ⟨_, w⟩ := addLoop_wrote d s hgi.inv hg
    rw [addMessage_alive hg]
    split
    · rename_i hq
      exact .of_gone w.inv (w.ret hq.2)
    · exact tailOf_ginv v s.console w.inv

theorem step_ginv {s : St} (op : Op) (hgi : GInv s) : GInv (step s op).1 :=
  have fl := (flushMsg_flushed hgi.inv).ginv
  step_cases (P := fun r => GInv r.1) s op
    (edit := fun _ _ _ _ _ _ => ⟨hgi.inv.of_eq rfl rfl rfl rfl rfl, hgi.want⟩) (line := hgi) (dump := fun _ => hgi)
    (flush := fl) (flushQ := fl) (close := fun _ _ => .of_gone (fl.inv.of_eq rfl rfl rfl rfl rfl) (Bool.true_or _))
    (peerfin := .of_gone (hgi.inv.of_eq rfl rfl rfl rfl rfl) (Bool.true_or _))
    (write := fun v d _ => addMessage_ginv v d hgi) (writeQ := fun v d _ => addMessage_ginv v d hgi)

theorem runFrom_ginv : ∀ (ops : List Op) (s : St), GInv s → GInv (runFrom s ops).1 := by
  intro ops
  induction ops with
  | nil => exact fun _ h => h
  | cons op ops ih => exact fun s h => ih _ (step_ginv op h)

theorem init_ginv (script : List SendRes) (console : Bool := false) : GInv (St.init script console) :=
  ⟨init_inv script console, fun _ hl => absurd rfl hl⟩

end NV.C14
