/-
C14 — the ring: the definitions regenerated from src/comm.c are the ring operations (bridges), the ring invariant, and
the logical contents of the ring under put / consume.
-/
import NV.C14.Model
import NV.C14.Spec

namespace NV.C14

theorem N_pos : 0 < N := by decide

/-- the regenerated buffer size is what the proofs need: at least two cells (room for one CR LF pair) -/
theorem N_two_le : 2 ≤ N := by decide

theorem closed_gone {s : St} (h : s.closed = true) : s.gone = true := by simp [St.gone, h]

/-! ### bridges: the definitions regenerated from src/comm.c (`NV.Gen.C14`, C `int` arithmetic) are the ring operations

A source change that alters the chunk rule, an index update, a ring-full test or the errno classification changes `Gen`,
and the corresponding bridge below no longer proves. -/

/-- `ip->message_producer = (ip->message_producer + 1) % MESSAGE_BUF_SIZE` -/
theorem producerNext_eq (s : St) : producerNext s = (s.prod + 1) % N := rfl

/-- `ip->message_consumer = (ip->message_consumer + num_bytes) % MESSAGE_BUF_SIZE` -/
theorem consumerNext_eq (s : St) (m : Nat) : consumerNext s m = (s.cons + m) % N := rfl

/-- `ip->message_length -= num_bytes` -/
theorem lengthAfterSend_eq (s : St) (m : Nat) : lengthAfterSend s m = s.len - m := Int.toNat_sub _ _

/-- the contiguous-chunk rule: `consumer < producer ? producer - consumer : SIZE - consumer` -/
theorem chunkLen_eq (s : St) : chunkLen s = if s.cons < s.prod then s.prod - s.cons else N - s.cons := by
  unfold chunkLen NV.Gen.C14.chunkLen
  rw [apply_ite Int.toNat, Int.toNat_sub, Int.toNat_sub]
  simp only [Int.ofNat_lt]

/-- the ring-full test of add_message compares the length with the buffer size -/
theorem thrFull_eq (s : St) : thrFull s = N := rfl

/-- before a CR LF pair the test is against size - 1 -/
theorem thrLF_eq (s : St) : thrLF s = N - 1 := Int.toNat_sub N 1

/-- the errno values for which flush_message keeps the data are exactly EWOULDBLOCK and EINTR -/
theorem keepsData_eq (e : Nat) : keepsData e = specKeeps e := by
  unfold keepsData specKeeps NV.Gen.C14.keepErrnos
  simp only [List.contains_cons, List.contains_nil, Bool.or_false]
  rfl

theorem keepsData_pipe : keepsData NV.Gen.C14.ePipe = false := by decide

/-- LF and CR as located in the source are the ASCII codes, and differ -/
theorem LF_CR_values : LF = 10 ∧ CR = 13 := by decide

theorem consume_eq (s : St) (m : Nat) (bs : List Byte) (rs : List SendRes) :
    consume s m bs rs =
      { s with cons := (s.cons + m) % N, len := s.len - m, script := rs, sentR := bs.reverse ++ s.sentR } := by
  unfold consume; rw [consumerNext_eq, lengthAfterSend_eq]

/-- `(c + l) % N` for an index and a length inside the ring: at most one wrap -/
theorem mod_wrap {c l : Nat} (hc : c < N) (hl : l ≤ N) :
    (c + l) % N = if c + l < N then c + l else c + l - N := by
  split
  · exact Nat.mod_eq_of_lt ‹_›
  · rename_i h
    rw [Nat.mod_eq_sub_mod (Nat.not_lt.mp h)]
    exact Nat.mod_eq_of_lt (Nat.sub_lt_left_of_lt_add (Nat.not_lt.mp h) (Nat.add_lt_add_of_lt_of_le hc hl))

/-- two different offsets below `N` from the same index are different cells -/
theorem mod_add_ne {x d : Nat} (hd : 0 < d) (hdN : d < N) : (x + d) % N ≠ x % N := by
  rw [← Nat.mod_add_mod, mod_wrap (Nat.mod_lt _ N_pos) (Nat.le_of_lt hdN)]
  have := Nat.mod_lt x N_pos
  split <;> omega

/-- the ring invariant (memory safety of every index the C code uses follows from it, see `chunk_in_bounds`, `put_inv`) -/
structure Inv (s : St) : Prop where
  size : s.buf.size = N
  cons_lt : s.cons < N
  len_le : s.len ≤ N
  prod_eq : s.prod = (s.cons + s.len) % N
  nofault : s.fault = false

theorem Inv.prod_lt {s : St} (h : Inv s) : s.prod < N := by
  rw [h.prod_eq]; exact Nat.mod_lt _ N_pos

/-- the invariant reads these five fields only -/
theorem Inv.of_eq {s s' : St} (h : Inv s) (h1 : s'.buf = s.buf) (h2 : s'.cons = s.cons) (h3 : s'.len = s.len)
    (h4 : s'.prod = s.prod) (h5 : s'.fault = s.fault) : Inv s' :=
  ⟨h1 ▸ h.size, h2 ▸ h.cons_lt, h3 ▸ h.len_le, by rw [h4, h2, h3]; exact h.prod_eq, h5 ▸ h.nofault⟩

theorem init_inv (script : List SendRes) (console : Bool := false) : Inv (St.init script console) :=
  ⟨Array.size_replicate, N_pos, Nat.zero_le _, rfl, rfl⟩

/-- under the invariant the chunk is all that is pending, up to the end of the buffer -/
theorem chunkLen_min {s : St} (h : Inv s) (hl : s.len ≠ 0) : chunkLen s = min s.len (N - s.cons) := by
  rw [chunkLen_eq, h.prod_eq, mod_wrap h.cons_lt h.len_le]
  by_cases hw : s.cons + s.len < N
  · -- the producer has not wrapped: it is ahead of the consumer by what is pending
    rw [if_pos hw, if_pos (Nat.lt_add_of_pos_right (Nat.pos_of_ne_zero hl)), Nat.add_sub_cancel_left,
      Nat.min_eq_left (Nat.le_sub_of_add_le' (Nat.le_of_lt hw))]
  · -- it has wrapped (or the ring is full): the chunk ends at the end of the buffer
    rw [if_neg hw, if_neg (Nat.not_lt.mpr (Nat.sub_le_of_le_add (Nat.add_le_add_left h.len_le _))),
      Nat.min_eq_right (Nat.sub_le_of_le_add (Nat.add_comm s.cons s.len ▸ Nat.not_lt.mp hw))]

/-- `chunk never crosses the end`: in every state satisfying the ring invariant with pending output, the chunk handed to
send() is non-empty, ends at or before the end of the buffer, and is not longer than what is pending -/
theorem chunk_in_bounds {s : St} (h : Inv s) (hl : s.len ≠ 0) :
    1 ≤ chunkLen s ∧ s.cons + chunkLen s ≤ N ∧ chunkLen s ≤ s.len := by
  rw [chunkLen_min h hl]
  exact ⟨Nat.le_min.mpr ⟨Nat.pos_of_ne_zero hl, Nat.sub_pos_of_lt h.cons_lt⟩,
    Nat.le_trans (Nat.add_le_add_left (Nat.min_le_right ..) _) (Nat.le_of_eq (Nat.add_sub_cancel' (Nat.le_of_lt h.cons_lt))),
    Nat.min_le_left ..⟩

theorem contents_length (s : St) : (contents s).length = s.len := by
  unfold contents; rw [List.length_map, List.length_range]

theorem contents_eq_nil (s : St) : contents s = [] ↔ s.len = 0 := by
  rw [← List.length_eq_zero_iff, contents_length]

theorem bytesAt_length (buf : Array Byte) (st n : Nat) : (bytesAt buf st n).length = n := by
  unfold bytesAt; rw [List.length_map, List.length_range]

theorem put_eq {s : St} (h : Inv s) (b : Byte) :
    put s b = { s with buf := s.buf.setIfInBounds s.prod b, prod := (s.prod + 1) % N, len := s.len + 1,
                       histR := b :: s.histR } := by
  unfold put
  rw [if_pos h.prod_lt, producerNext_eq]

theorem put_inv {s : St} (h : Inv s) (hl : s.len < N) (b : Byte) : Inv (put s b) := by
  rw [put_eq h]
  refine ⟨(Array.size_setIfInBounds ..).trans h.size, h.cons_lt, hl, ?_, h.nofault⟩
  show (s.prod + 1) % N = (s.cons + (s.len + 1)) % N
  rw [h.prod_eq, Nat.mod_add_mod, Nat.add_assoc]

theorem put_contents {s : St} (h : Inv s) (hl : s.len < N) (b : Byte) :
    contents (put s b) = contents s ++ [b] := by
  rw [put_eq h]
  show List.map (fun i => (s.buf.setIfInBounds s.prod b).getD ((s.cons + i) % N) 0) (List.range (s.len + 1)) = _
  rw [List.range_succ, List.map_append]
  refine congr (congrArg _ (List.map_congr_left fun i hi => ?_)) ?_
  · have hi' : i < s.len := List.mem_range.mp hi
    -- cell `i` of the contents is not the cell the producer writes
    have hne : s.prod ≠ (s.cons + i) % N := by
      rw [h.prod_eq, ← Nat.add_sub_cancel' (Nat.le_of_lt hi'), ← Nat.add_assoc]
      exact mod_add_ne (Nat.sub_pos_of_lt hi') (Nat.lt_of_le_of_lt (Nat.sub_le ..) hl)
    rw [Array.getD_eq_getD_getElem?, Array.getD_eq_getD_getElem?, Array.getElem?_setIfInBounds_ne hne]
  · show [(s.buf.setIfInBounds s.prod b).getD ((s.cons + s.len) % N) 0] = [b]
    rw [← h.prod_eq, Array.getD_eq_getD_getElem?,
      Array.getElem?_setIfInBounds_self_of_lt (h.size.symm ▸ h.prod_lt)]
    rfl

@[simp] theorem put_len {s : St} (h : Inv s) (b : Byte) : (put s b).len = s.len + 1 := by rw [put_eq h]
@[simp] theorem put_dead {s : St} (b : Byte) : (put s b).dead = s.dead := by unfold put; split <;> rfl
@[simp] theorem put_closed {s : St} (b : Byte) : (put s b).closed = s.closed := by unfold put; split <;> rfl
@[simp] theorem put_gone {s : St} (b : Byte) : (put s b).gone = s.gone := by simp [St.gone]
@[simp] theorem put_sentR {s : St} (b : Byte) : (put s b).sentR = s.sentR := by unfold put; split <;> rfl
theorem put_histR {s : St} (h : Inv s) (b : Byte) : (put s b).histR = b :: s.histR := by rw [put_eq h]

/-- non-vacuity of `chunk_in_bounds`: a state with the ring invariant and pending output -/
example : ∃ s : St, Inv s ∧ s.len ≠ 0 :=
  ⟨put (St.init []) 65, put_inv (init_inv []) (by decide) 65, by rw [put_len (init_inv [])]; decide⟩

theorem consume_inv {s : St} (h : Inv s) {m : Nat} (hm : m ≤ s.len) (bs : List Byte) (rs : List SendRes) :
    Inv (consume s m bs rs) := by
  rw [consume_eq]
  refine ⟨h.size, Nat.mod_lt _ N_pos, Nat.le_trans (Nat.sub_le ..) h.len_le, ?_, h.nofault⟩
  show s.prod = ((s.cons + m) % N + (s.len - m)) % N
  rw [Nat.mod_add_mod, h.prod_eq, Nat.add_assoc, Nat.add_sub_cancel' hm]

theorem drop_map_range {α : Type} (f : Nat → α) (m n : Nat) :
    ((List.range n).map f).drop m = (List.range (n - m)).map (fun i => f (m + i)) := by
  rw [← List.map_drop, List.range_eq_range', List.drop_range', Nat.zero_add, Nat.mul_one, List.range'_eq_map_range,
    List.map_map]
  rfl

theorem consume_contents (s : St) (m : Nat) (bs : List Byte) (rs : List SendRes) :
    contents (consume s m bs rs) = (contents s).drop m := by
  rw [consume_eq]
  show List.map (fun i => s.buf.getD (((s.cons + m) % N + i) % N) 0) (List.range (s.len - m)) = _
  unfold contents
  rw [drop_map_range]
  apply List.map_congr_left
  intro i _
  rw [Nat.mod_add_mod, Nat.add_assoc]

/-- what send() reads (`buf + consumer`, no wrapping) is the head of the logical contents -/
theorem bytesAt_eq_take {s : St} {m : Nat} (hm : s.cons + m ≤ N) (hml : m ≤ s.len) :
    bytesAt s.buf s.cons m = (contents s).take m := by
  unfold bytesAt contents
  rw [← List.map_take, List.take_range, Nat.min_eq_left hml]
  apply List.map_congr_left
  intro i hi
  rw [Nat.mod_eq_of_lt (Nat.lt_of_lt_of_le (Nat.add_lt_add_left (List.mem_range.mp hi) _) hm)]

end NV.C14
