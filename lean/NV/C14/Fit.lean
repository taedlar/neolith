/-
C14 — lemmas about the oracle alone: its reference semantics (`item`, `expand`, `fit`), `refill` / `refused`, and `jstep`
on an accepting send().
-/
import NV.C14.Spec

namespace NV.C14

theorem item_length (c : Byte) : (item c).length = itemLen c := by
  unfold item itemLen; split <;> rfl

theorem itemLen_pos (c : Byte) : 1 ≤ itemLen c := by
  unfold itemLen; split <;> decide

theorem itemLen_le_two (c : Byte) : itemLen c ≤ 2 := by
  unfold itemLen; split <;> decide

theorem expand_append (a b : List Byte) : expand (a ++ b) = expand a ++ expand b := by
  induction a with
  | nil => rfl
  | cons c cs ih => rw [List.cons_append, expand, expand, ih, List.append_assoc]

theorem fit_nil (room : Nat) : fit room [] = ([], []) := rfl

theorem fit_cons_fits {room : Nat} {c : Byte} (h : itemLen c ≤ room) (cs : List Byte) :
    fit room (c :: cs) = (item c ++ (fit (room - itemLen c) cs).1, (fit (room - itemLen c) cs).2) := by
  rw [fit, if_pos h]

theorem fit_cons_full {room : Nat} {c : Byte} (h : ¬ itemLen c ≤ room) (cs : List Byte) :
    fit room (c :: cs) = ([], c :: cs) := by
  rw [fit, if_neg h]

theorem fit_length_le (room : Nat) (d : List Byte) : (fit room d).1.length ≤ room := by
  induction d generalizing room with
  | nil => exact Nat.zero_le _
  | cons c cs ih =>
    by_cases h : itemLen c ≤ room
    · rw [fit_cons_fits h, List.length_append, item_length]
      exact Nat.add_le_of_le_sub' h (ih _)
    · rw [fit_cons_full h]; exact Nat.zero_le _

/-- `fit` can be resumed: filling `room + extra` is filling `room`, then filling what became free -/
theorem fit_resume (room extra : Nat) (d : List Byte) :
    fit (room + extra) d =
      ((fit room d).1 ++ (fit (room - (fit room d).1.length + extra) (fit room d).2).1,
       (fit (room - (fit room d).1.length + extra) (fit room d).2).2) := by
  induction d generalizing room with
  | nil => rfl
  | cons c cs ih =>
    by_cases h : itemLen c ≤ room
    · rw [fit_cons_fits (Nat.le_trans h (Nat.le_add_right _ _)), fit_cons_fits h, Nat.sub_add_comm h, ih,
        List.length_append, item_length, Nat.sub_add_eq, List.append_assoc]
    · rw [fit_cons_full h]
      rfl

/-- a text without LF is cut at the room -/
theorem fit_replicate {c : Byte} (hc : c ≠ LF) (room n : Nat) :
    fit room (List.replicate n c) = (List.replicate (min room n) c, List.replicate (n - room) c) := by
  induction n generalizing room with
  | zero => simp [fit_nil]
  | succ n ih =>
    have hi : itemLen c = 1 := if_neg hc
    rw [List.replicate_succ]
    cases room with
    | zero => rw [fit_cons_full (by omega)]; simp [List.replicate_succ]
    | succ room =>
      rw [fit_cons_fits (by omega), hi, Nat.add_sub_cancel, ih, item, if_neg hc, Nat.succ_min_succ, Nat.add_sub_add_right]
      rfl

/-- the kept part is the wire image of a prefix of the text, the rest is the matching suffix -/
theorem fit_prefix (room : Nat) (d : List Byte) :
    ∃ n, n ≤ d.length ∧ (fit room d).1 = expand (d.take n) ∧ (fit room d).2 = d.drop n := by
  induction d generalizing room with
  | nil => exact ⟨0, Nat.le_refl _, rfl, rfl⟩
  | cons c cs ih =>
    by_cases h : itemLen c ≤ room
    · obtain ⟨n, hn, h1, h2⟩ := ih (room - itemLen c)
      rw [fit_cons_fits h]
      exact ⟨n + 1, Nat.succ_le_succ hn, congrArg (item c ++ ·) h1, h2⟩
    · rw [fit_cons_full h]
      exact ⟨0, Nat.zero_le _, rfl, rfl⟩

theorem refill_some {j : J} {d : List Byte} (hc : j.cur = some d) :
    refill j = { j with q := j.q ++ (fit (N - j.q.length) d).1, cur := some (fit (N - j.q.length) d).2,
                        progress := false } := by
  simp only [refill, hc]

theorem refill_none {j : J} (hc : j.cur = none) : refill j = j := by
  simp only [refill, hc]

theorem refill_bad (j : J) : (refill j).bad = j.bad := by unfold refill; split <;> rfl

theorem refill_dead (j : J) : (refill j).dead = j.dead := by unfold refill; split <;> rfl

theorem refused_bad (j : J) : (refused j).bad = j.bad := by
  unfold refused; split
  · split
    · exact refill_bad j
    · rfl
  · rfl

theorem refused_cons {j : J} {c : Byte} {cs : List Byte} (hc : j.cur = some (c :: cs)) :
    refused j = if j.progress then refill j else { j with cur := some [] } := by
  simp only [refused, hc]

theorem refused_dead (j : J) : (refused j).dead = j.dead := by
  unfold refused; split
  · split
    · exact refill_dead j
    · rfl
  · rfl

/-- the oracle on a send() that accepted `a`, a non-empty head of what is owed, no longer than what was offered -/
theorem jstep_acc {j : J} {n : Nat} {a q' : List Byte} (hd : j.dead = false) (hq : j.q = a ++ q') (ha : a ≠ [])
    (han : a.length ≤ n) (hn : n ≤ a.length + q'.length) :
    jstep j (.send n .acc a) =
      if q'.isEmpty then refill { j with q := q' } else { j with q := q', progress := true } := by
  have c1 : ¬ a.length + q'.length < n := Nat.not_lt.mpr hn
  have c2 : ¬ n < a.length := Nat.not_lt.mpr han
  simp [jstep, hd, hq, c1, c2, ha]

end NV.C14
