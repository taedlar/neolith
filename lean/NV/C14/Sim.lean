/-
C14 — simulation between the model (ring) and the oracle (reference stream): every event the model emits is accepted by
`jstep`, and the oracle's queue stays equal to the ring contents (plus, inside a write, what will be stored next).
From the trace of a flush attempt up to whole runs; the invariant the model keeps by itself is in Flush.lean.
-/
import NV.C14.Flush

namespace NV.C14

theorem judgeFrom_append (j : J) (a b : List Ev) : judgeFrom j (a ++ b) = judgeFrom (judgeFrom j a) b :=
  List.foldl_append

theorem judgeFrom_cons (j : J) (e : Ev) (es : List Ev) : judgeFrom j (e :: es) = judgeFrom (jstep j e) es := rfl

theorem judgeFrom_nil (j : J) : judgeFrom j [] = j := rfl

/-- the oracle agrees with model state `s`; `rest` = what the oracle still holds of the text being written -/
structure Rel (s : St) (rest : Option (List Byte)) (j : J) : Prop where
  bad : j.bad = []
  dead : j.dead = s.gone
  q : s.gone = false → j.q = contents s ∧ j.cur = rest

/-- the oracle has just refilled from text `d`; the model is about to store exactly those items one by one -/
structure RelF (s : St) (d : List Byte) (j : J) : Prop where
  bad : j.bad = []
  dead : j.dead = s.gone
  q : s.gone = false →
    j.q = contents s ++ (fit (N - s.len) d).1 ∧ j.cur = some (fit (N - s.len) d).2 ∧ j.progress = false

/-- on a connection that is gone the oracle only has to be dead and without a flag -/
theorem Rel.of_gone {s : St} {j : J} (hb : j.bad = []) (hd : j.dead = true) (hg : s.gone = true)
    (rest : Option (List Byte)) : Rel s rest j :=
  ⟨hb, hd.trans hg.symm, fun hx => absurd (hg.symm.trans hx) nofun⟩

theorem Rel.toRelF_nil {s : St} {j : J} (h : Rel s (some []) j) (hp : j.progress = false) : RelF s [] j :=
  ⟨h.bad, h.dead, fun hg => by obtain ⟨a, b⟩ := h.q hg; simp [fit_nil, a, b, hp]⟩

theorem RelF.toRel_nil {s : St} {j : J} (h : RelF s [] j) : Rel s (some []) j :=
  ⟨h.bad, h.dead, fun hg => by obtain ⟨a, b, _⟩ := h.q hg; simp [fit_nil] at a b; exact ⟨a, b⟩⟩

/-- `RelF` is `Rel` right after a refill: the oracle's progress mark is down (`Rel` says nothing about the mark) -/
theorem RelF.progress_false {s : St} {d : List Byte} {j : J} (h : RelF s d j) (hg : s.gone = false) :
    j.progress = false := (h.q hg).2.2

/-- when the head item does not fit, "refilled" and "not refilled" coincide -/
theorem RelF.toRel_full {s : St} {c : Byte} {cs : List Byte} {j : J} (h : RelF s (c :: cs) j)
    (hfull : ¬ itemLen c ≤ N - s.len) : Rel s (some (c :: cs)) j :=
  ⟨h.bad, h.dead, fun hg => by
    obtain ⟨a, b, _⟩ := h.q hg
    rw [fit_cons_full hfull] at a b
    exact ⟨a.trans (List.append_nil _), b⟩⟩

/-- the relation does not read the flags a stop of the send loop changes -/
theorem Rel.flags {s : St} {rest : Option (List Byte)} {j : J} (h : Rel s rest j) (rs : List SendRes) (w : Bool) :
    Rel { s with script := rs, want := w } rest j := ⟨h.bad, h.dead, h.q⟩

/-- what the oracle holds of the text may be replaced (and its progress mark, which the relation does not read, set) -/
theorem Rel.set_cur {s : St} {x : Option (List Byte)} {j : J} (h : Rel s x j) (y : Option (List Byte)) (p : Bool) :
    Rel s y { j with cur := y, progress := p } := ⟨h.bad, h.dead, fun hg => ⟨(h.q hg).1, rfl⟩⟩

/-- the oracle refills from the text it still holds: what it takes is what the model will store -/
theorem Rel.refilled {s : St} {d : List Byte} {j : J} (hr : Rel s (some d) j) : RelF s d (refill j) := by
  refine ⟨(refill_bad j).trans hr.bad, (refill_dead j).trans hr.dead, fun hg => ?_⟩
  obtain ⟨hq, hc⟩ := hr.q hg
  rw [refill_some hc, hq, contents_length]
  exact ⟨rfl, rfl, rfl⟩

/-- effect of a send() that returned -1: the regenerated errno classification agrees with the oracle's -/
theorem jstep_err {j : J} {n : Nat} {r : SendRes} (hr : ∀ k, r ≠ .acc k) (hd : j.dead = false)
    (hn : ¬ j.q.length < n) :
    jstep j (.send n r.res []) = if keepsData r.errno = true then refused j else { j with dead := true } := by
  cases r with
  | acc k => exact absurd rfl (hr k)
  | wouldBlock => simp [jstep, hd, hn, SendRes.res, SendRes.errno, keepsData_eq, specKeeps]
  | intr => simp [jstep, hd, hn, SendRes.res, SendRes.errno, keepsData_eq, specKeeps]
  | pipe => simp [jstep, hd, hn, SendRes.res, SendRes.errno, keepsData_pipe]
  | err e => simp [jstep, hd, hn, SendRes.res, SendRes.errno, keepsData_eq]

/-- nothing left to take from the text: refills are no-ops -/
def inert (rest : Option (List Byte)) : Prop := ∀ c cs, rest ≠ some (c :: cs)

theorem inert_none : inert none := fun _ _ => nofun

theorem inert_nil : inert (some []) := fun _ _ h => nomatch h

theorem Rel.refill_inert {s : St} {rest : Option (List Byte)} {j : J} (hr : Rel s rest j) (hi : inert rest) :
    Rel s rest (refill j) := by
  refine ⟨(refill_bad j).trans hr.bad, (refill_dead j).trans hr.dead, fun hg => ?_⟩
  obtain ⟨hq, hc⟩ := hr.q hg
  cases rest with
  | none => rw [refill_none hc]; exact ⟨hq, hc⟩
  | some d =>
    cases d with
    | nil => rw [refill_some hc]; exact ⟨(List.append_nil _).trans hq, rfl⟩
    | cons c cs => exact absurd rfl (hi c cs)

theorem Rel.refused_inert {s : St} {rest : Option (List Byte)} {j : J} (hr : Rel s rest j) (hi : inert rest) :
    Rel s rest (refused j) := by
  refine ⟨(refused_bad j).trans hr.bad, (refused_dead j).trans hr.dead, fun hg => ?_⟩
  obtain ⟨hq, hc⟩ := hr.q hg
  unfold refused
  split
  · rename_i c cs hcur
    exact absurd (hc.symm.trans hcur) (hi c cs)
  · exact ⟨hq, hc⟩

theorem FlushTr.of_nil {evs : List Ev} {q' : List Byte} {ok : Bool} (t : FlushTr [] evs q' ok) :
    evs = [] ∧ q' = [] ∧ ok = true := by
  generalize hq : ([] : List Byte) = q at t
  cases t with
  | drained => exact ⟨rfl, rfl, rfl⟩
  | took ha _ _ _ => exact absurd (List.append_eq_nil_iff.mp hq.symm).1 ha
  | stopped _ h0 hn => subst hq; exact absurd (Nat.lt_of_lt_of_le h0 hn) (Nat.lt_irrefl _)

/-- what the oracle makes of the trace of a flush attempt: the bytes taken leave its queue, and the attempt ends with the
connection dead, or with a refill (drained), or with a refusal - one after progress exactly if bytes were taken -/
theorem FlushTr.judge {q q' : List Byte} {evs : List Ev} {ok : Bool} (t : FlushTr q evs q' ok) :
    ∀ j : J, j.dead = false → j.q = q → q ≠ [] →
    ∃ p, (q' ≠ [] → p = (j.progress || decide (q'.length < q.length))) ∧
      judgeFrom j evs =
        if ok = false then { j with q := q', progress := p, dead := true }
        else if q' = [] then refill { j with q := q', progress := p }
        else refused { j with q := q', progress := p } := by
  induction t with
  | drained => exact fun _ _ _ h => absurd rfl h
  | @took a q q' n evs ok ha han hn t ih =>
    intro j hd hq _
    rw [judgeFrom_cons, jstep_acc hd hq ha han hn]
    by_cases h0 : q = []
    · subst h0
      obtain ⟨rfl, rfl, rfl⟩ := t.of_nil
      exact ⟨j.progress, fun h => absurd rfl h, rfl⟩
    · rw [if_neg (mt List.isEmpty_iff.mp h0)]
      obtain ⟨p, hp, hj⟩ := ih { j with q := q, progress := true } hd rfl h0
      refine ⟨p, fun h => (hp h).trans ?_, hj⟩
      rw [Bool.true_or, decide_eq_true, Bool.or_true]
      rw [List.length_append]
      exact Nat.lt_of_le_of_lt t.length_le (Nat.lt_add_of_pos_left (List.length_pos_iff.mpr ha))
  | @stopped q n r hn h0 hle =>
    intro j hd hq hne
    subst hq
    rw [judgeFrom_cons, judgeFrom_nil, jstep_err hn hd (Nat.not_lt.mpr hle)]
    refine ⟨j.progress, fun _ => by rw [decide_eq_false (Nat.lt_irrefl _), Bool.or_false], ?_⟩
    cases keepsData r.errno with
    | false => rfl
    | true => exact (if_neg hne).symm

/-- after a flush attempt that left the connection usable, the oracle's queue is the ring contents again -/
theorem Rel.flushed {s : St} {rest : Option (List Byte)} {j : J} {r : St × List Ev × Bool} (hr : Rel s rest j)
    (f : Flushed s r) (hg : s.gone = false) (hok : r.2.2 = true) (p : Bool) :
    Rel r.1 rest { j with q := contents r.1, progress := p } :=
  have hg' : r.1.gone = false := by rw [f.gone_eq_not_ok, hok]; rfl
  ⟨hr.bad, hr.dead.trans (hg.trans hg'.symm), fun _ => ⟨rfl, (hr.q hg).2⟩⟩

/-- a flush while the oracle has nothing to refill (top-level flushes, the trailing flush of add_vmessage) -/
theorem flushMsg_inert {s : St} {rest : Option (List Byte)} {j : J} (hi : inert rest) (h : Inv s)
    (hr : Rel s rest j) : Rel (flushMsg s).1 rest (judgeFrom j (flushMsg s).2.1) := by
  cases hg : s.gone with
  | true => rw [flushMsg_gone hg]; exact hr
  | false =>
    by_cases hl : s.len = 0
    · rw [flushMsg_alive hg, flushLoop_stop (sendStep_empty hl)]
      exact hr.flags _ _
    · have f := flushMsg_flushed h
      obtain ⟨p, _, hj⟩ := (f.trace hg).judge j (hr.dead.trans hg) (hr.q hg).1
        (mt (contents_eq_nil s).mp hl)
      rw [hj]
      cases hok : (flushMsg s).2.2 with
      | false =>
        rw [if_pos rfl]
        exact .of_gone (j := { j with q := _, progress := p, dead := true }) hr.bad rfl (by rw [f.gone_eq_not_ok, hok]; rfl) _
      | true =>
        have hr1 := hr.flushed f hg hok p
        rw [if_neg (nofun : ¬ true = false)]
        split
        · exact hr1.refill_inert hi
        · exact hr1.refused_inert hi

/-- a ring-full test in front of item `c`, which does not fit at the threshold: the loop goes on with the oracle refilled,
or stops (ring still full, or connection dead) with the oracle holding nothing more of the text -/
theorem guardFull_rel {s : St} {j : J} {c : Byte} {cs : List Byte} {thr : Nat} (h : Inv s) (hg : s.gone = false)
    (hr : RelF s (c :: cs) j) (hthr : ¬ itemLen c ≤ N - thr) (hthr0 : thr ≠ 0) :
    ((guardFull s thr).2.2 = .go → RelF (guardFull s thr).1 (c :: cs) (judgeFrom j (guardFull s thr).2.1)) ∧
    ((guardFull s thr).2.2 ≠ .go → Rel (guardFull s thr).1 (some []) (judgeFrom j (guardFull s thr).2.1)) := by
  by_cases hl : s.len = thr
  · have hrel := hr.toRel_full (hl ▸ hthr)
    have f := flushMsg_flushed h
    obtain ⟨p, hp, hj⟩ := (f.trace hg).judge j (hrel.dead.trans hg) (hrel.q hg).1
      (mt (contents_eq_nil s).mp (hl ▸ hthr0))
    rw [guardFull_eq hl]
    dsimp only
    rw [hj]
    cases hok : (flushMsg s).2.2 with
    | false =>
      rw [if_pos rfl, if_pos rfl]
      exact ⟨nofun, fun _ => .of_gone (j := { j with q := _, progress := p, dead := true }) hrel.bad rfl
        (by rw [f.gone_eq_not_ok, hok]; rfl) _⟩
    | true =>
      have hr1 := hrel.flushed f hg hok p
      have hc : ({ j with q := contents (flushMsg s).1, progress := p } : J).cur = some (c :: cs) := (hrel.q hg).2
      rw [if_neg (nofun : ¬ true = false), if_neg (nofun : ¬ true = false)]
      by_cases hlt : (flushMsg s).1.len = thr
      · -- nothing was taken: the refusal finds no progress mark and the oracle gives the rest of the text up
        have hne : contents (flushMsg s).1 ≠ [] := mt (contents_eq_nil _).mp (hlt ▸ hthr0)
        have hp0 : p = false := by
          rw [hp hne, hr.progress_false hg, contents_length, contents_length, hlt, hl,
            decide_eq_false (Nat.lt_irrefl _)]; rfl
        subst hp0
        rw [if_pos hlt, if_neg hne, refused_cons hc, if_neg (nofun : ¬ false = true)]
        exact ⟨nofun, fun _ => hr1.set_cur (some []) _⟩
      · rw [if_neg hlt]
        refine ⟨fun _ => ?_, fun hx => absurd rfl hx⟩
        split
        · exact hr1.refilled
        · rename_i hne
          have hp1 : p = true := by
            rw [hp hne, contents_length, contents_length,
              decide_eq_true (Nat.lt_of_le_of_ne f.post.len_le (hl ▸ hlt)), Bool.or_true]
          subst hp1
          rw [refused_cons hc, if_pos rfl]
          exact hr1.refilled
  · rw [guardFull_ne hl]
    exact ⟨fun _ => hr, fun hx => absurd rfl hx⟩

theorem makeRoom_rel {s : St} {j : J} {c : Byte} {cs : List Byte} (h : Inv s) (hg : s.gone = false)
    (hr : RelF s (c :: cs) j) :
    ((makeRoom c s).2.2 = .go → RelF (makeRoom c s).1 (c :: cs) (judgeFrom j (makeRoom c s).2.1)) ∧
    ((makeRoom c s).2.2 ≠ .go → Rel (makeRoom c s).1 (some []) (judgeFrom j (makeRoom c s).2.1)) := by
  have g1 := guardFull_outcome (thr := N) h hg h.len_le
  obtain ⟨a1, a2⟩ := guardFull_rel (thr := N) h hg hr
    (by rw [Nat.sub_self]; exact Nat.not_le.mpr (itemLen_pos c)) (Nat.ne_of_gt N_pos)
  unfold makeRoom
  dsimp only
  cases hg1 : (guardFull s N).2.2 with
  | go =>
    dsimp only
    by_cases hc : c = LF
    · rw [if_pos hc, judgeFrom_append]
      exact guardFull_rel g1.post.inv (g1.go hg1).1 (a1 hg1)
        (by rw [show itemLen c = 2 from if_pos hc, Nat.sub_sub_self N_pos]; exact nofun)
        (Nat.sub_ne_zero_of_lt N_two_le)
    · rw [if_neg hc, judgeFrom_append]
      exact ⟨fun _ => a1 hg1, fun hx => absurd rfl hx⟩
  | brk => exact ⟨nofun, fun _ => a2 (by rw [hg1]; exact nofun)⟩
  | ret => exact ⟨nofun, fun _ => a2 (by rw [hg1]; exact nofun)⟩

/-- storing the head item on the model side = the oracle had already taken it -/
theorem RelF.put {s : St} {c : Byte} {cs : List Byte} {j : J} (h : Inv s) (hr : RelF s (c :: cs) j)
    (hl : s.len + itemLen c ≤ N) : RelF (putItem s c) cs j := by
  have i := putItem_stores h c hl
  refine ⟨hr.bad, hr.dead.trans i.gone.symm, fun hg => ?_⟩
  obtain ⟨a, b, p⟩ := hr.q (i.gone.symm.trans hg)
  rw [fit_cons_fits (Nat.le_sub_of_add_le' hl)] at a b
  rw [i.len, i.ring, ← Nat.sub_sub, List.append_assoc]
  exact ⟨a, b, p⟩

/-- the write loop against the oracle: whatever the outcome, the oracle ends up holding exactly the ring contents -/
theorem addLoop_rel : ∀ (data : List Byte) (s : St) (j : J), Inv s → s.gone = false → RelF s data j →
    Rel (addLoop data s).1 (some []) (judgeFrom j (addLoop data s).2.1) := by
  intro data
  induction data with
  | nil => exact fun _ _ _ _ hr => hr.toRel_nil
  | cons c cs ih =>
    intro s j h hg hr
    have m := makeRoom_outcome c h hg
    obtain ⟨a1, a2⟩ := makeRoom_rel h hg hr
    rw [addLoop_cons]
    cases hm : (makeRoom c s).2.2 with
    | go =>
      dsimp only
      rw [judgeFrom_append]
      obtain ⟨b1, b2⟩ := m.go hm
      have i := putItem_stores m.post.inv c b2
      exact ih _ _ i.inv (i.gone.trans b1) ((a1 hm).put m.post.inv b2)
    | brk => exact a2 (by rw [hm]; exact nofun)
    | ret => exact a2 (by rw [hm]; exact nofun)

theorem judgeFrom_snoopEvs (j : J) (s : St) (d : List Byte) : judgeFrom j (snoopEvs s d) = j := by
  unfold snoopEvs; cases s.snoopBy <;> rfl

/-- the state line after an operation raises no flag -/
theorem st_ok {s : St} {j : J} (hgi : GInv s) (hr : Rel s none j) : jstep j (stEv s) = j := by
  unfold stEv
  by_cases hc : s.closed = true
  · rw [if_pos hc]
    have : j.dead = true := hr.dead.trans (closed_gone hc)
    simp [jstep, this]
  · rw [if_neg hc]
    cases hd : j.dead with
    | true => simp [jstep, hd]
    | false =>
      have hg : s.gone = false := hr.dead.symm.trans hd
      have hlen : j.q.length = s.len := by rw [(hr.q hg).1]; exact contents_length s
      by_cases h0 : s.len = 0
      · have hq0 : j.q = [] := List.eq_nil_of_length_eq_zero (hlen.trans h0)
        simp [jstep, hd, hq0, h0]
      · have hw := hgi.want hg h0
        simp [jstep, hd, hlen, hw]

/-- the tail of add_message / add_vmessage: the oracle has nothing more to take from the text -/
theorem tailOf_rel (v console : Bool) {r : St} {j : J} (h : Inv r) (hr : Rel r (some []) j) :
    Rel (tailOf v console r).1 (some []) (judgeFrom j (tailOf v console r).2) :=
  tailOf_cases (P := fun t => Rel t.1 (some []) (judgeFrom j t.2)) v console r (flushMsg_inert inert_nil h hr)
    (fun _ => hr) (hr.flags _ _)

theorem addMessage_rel {s : St} {j : J} (v : Bool) (d : List Byte) (h : Inv s) (hr : Rel s none j) :
    Rel (addMessage v d s).1 none (judgeFrom j (addMessage v d s).2) := by
  cases hg : s.gone with
  | true =>
    have hjd : j.dead = true := hr.dead.trans hg
    rw [addMessage_gone hg]
    simp only [judgeFrom_cons, judgeFrom_nil, jstep, hjd, if_true]
    exact .of_gone (j := { j with cur := none, dead := true }) hr.bad rfl hg _
  | false =>
    -- at `wbeg` the oracle takes what fits of the text: exactly what the write loop is about to store
    have hrf : RelF s d (jstep j (.wbeg v d)) := by
      show RelF s d (if j.dead = true then _ else _)
      rw [if_neg (by rw [hr.dead.trans hg]; exact nofun)]
      exact (hr.set_cur (some d) false).refilled
    obtain ⟨_, w⟩ := addLoop_wrote d s h hg
    have r5 := addLoop_rel d s _ h hg hrf
    rw [addMessage_alive hg]
    split
    · -- add_message `return`ed on a broken connection
      dsimp only
      rw [judgeFrom_cons, judgeFrom_append, judgeFrom_cons, judgeFrom_nil]
      exact r5.set_cur none _
    · dsimp only
      rw [judgeFrom_cons, judgeFrom_append, judgeFrom_append, judgeFrom_append, judgeFrom_snoopEvs, judgeFrom_cons,
        judgeFrom_nil]
      exact (tailOf_rel v s.console w.inv r5).set_cur none _

/-- every operation is accepted by the oracle -/
theorem step_rel {s : St} {j : J} (op : Op) (hgi : GInv s) (hr : Rel s none j) :
    Rel (step s op).1 none (judgeFrom j (step s op).2) := by
  have flr := flushMsg_inert inert_none hgi.inv hr
  -- the state line after an operation that left `s'` and emitted `evs`
  have line : ∀ {s' : St} (evs : List Ev), GInv s' → Rel s' none (judgeFrom j evs) →
      Rel s' none (judgeFrom j (evs ++ [stEv s'])) := by
    intro s' evs a b
    rw [judgeFrom_append, judgeFrom_cons, judgeFrom_nil, st_ok a b]
    exact b
  refine step_cases (P := fun r => Rel r.1 none (judgeFrom j r.2)) s op
    (edit := fun _ _ _ _ _ _ => ⟨hr.bad, hr.dead, hr.q⟩)
    (line := line [] hgi hr) (dump := fun _ => hr) (flush := line _ (flushMsg_flushed hgi.inv).ginv flr) (flushQ := flr)
    (close := ?close) (peerfin := .of_gone (s := { s with dead := true, closed := true }) (j := judgeFrom j [.close, .stClosed]) hr.bad rfl
      (Bool.true_or _) _)
    (write := ?write) (writeQ := fun v d _ => addMessage_rel v d hgi.inv hr)
  case close =>
    intro tl htl
    have hg : ({ (flushMsg s).1 with closed := true } : St).gone = true := Bool.true_or _
    dsimp only
    rw [judgeFrom_append]
    rcases htl with rfl | rfl
    · exact .of_gone (j := judgeFrom _ [.close, .stClosed]) flr.bad rfl hg _
    · exact .of_gone (j := judgeFrom _ [.close]) flr.bad rfl hg _
  case write =>
    intro v d _
    have hv : judgeFrom j (if v = true then [Ev.vreq d] else []) = j := by cases v <;> rfl
    exact line ((if v = true then [Ev.vreq d] else []) ++ (addMessage v d s).2) (addMessage_ginv v d hgi)
      (by rw [judgeFrom_append, hv]; exact addMessage_rel v d hgi.inv hr)

theorem runFrom_rel : ∀ (ops : List Op) (s : St) (j : J), GInv s → Rel s none j →
    Rel (runFrom s ops).1 none (judgeFrom j (runFrom s ops).2) := by
  intro ops
  induction ops with
  | nil => exact fun _ _ _ hr => hr
  | cons op ops ih =>
    intro s j hgi hr
    rw [runFrom, judgeFrom_append]
    exact ih _ _ (step_ginv op hgi) (step_rel op hgi hr)

theorem init_rel (script : List SendRes) (console : Bool := false) : Rel (St.init script console) none {} :=
  ⟨rfl, rfl, fun _ => ⟨rfl, rfl⟩⟩

end NV.C14
