/-
C14 — executable model of the per-user output ring of src/comm.c.

Mirrors, line by line:
  add_message()   src/comm.c   (LF -> CR LF, flush when the ring is full, drop the tail, request write notification)
  add_vmessage()  src/comm.c   (same loop, `break` instead of `return` on a broken connection, trailing flush)
  flush_message() src/comm.c   (contiguous-chunk rule, partial sends, EWOULDBLOCK/EINTR keep the data and request
                                write notification, any other errno sets NET_DEAD, drained => write interest off)
and the callers of flush_message that matter for a network user:
  get_user_command()   (per cycle:   `if (ip->message_length) flush_message (ip)`)        op `cycle`
  process_io()         (EVENT_WRITE: `flush_message (ip)`, delivered only while write interest is registered) op `wready`
  remove_interactive() (`flush_message (ip); ip->iflags |= CLOSING; ... FREE (ip)`)        op `close`
  get_user_data()      (recv()==0: `iflags |= NET_DEAD; remove_interactive()`)            op `peerfin`
  print_prompt(), telnet negotiation, ...  (plain `flush_message (ip)`)                  op `flush`

The socket is an oracle: a list of scripted `send()` results (`SendRes`); when the script is exhausted the socket accepts
everything it is offered.  A C access outside `message_buf[MESSAGE_BUF_SIZE]`, and a `send()` of zero bytes (which the C
loop would repeat forever), are the explicit `fault` outcome; `no_fault` (Props) shows it never happens.

The console user (`ip == all_users[0]`, write(2) to stdout) is the field `St.console`; snoop forwarding (`receive_snoop`)
is the `snoop` event (`snoopEvs`), what the snooper's LPC code does with the text is in Multi.lean.
Left out (named in notes/C14.md): `FLUSH_OUTPUT_IMMEDIATELY` builds, `out_of_band` (MSG_OOB flag of the first send), the
statistics counters.

`sentR`/`histR` are ghost fields (reverse lists of all bytes accepted by send / ever stored into the ring); no decision of the
model reads them.
-/
import NV.Gen.C14
import NV.C14.Telnet

namespace NV.C14

abbrev Byte := UInt8

/-- `MESSAGE_BUF_SIZE`, regenerated from the source on every run -/
def N : Nat := NV.Gen.C14.messageBufSize

/-- `'\n'` / `'\r'` as located in add_message -/
def LF : Byte := UInt8.ofNat NV.Gen.C14.lfByte
def CR : Byte := UInt8.ofNat NV.Gen.C14.crByte

/-- one scripted result of `send()`; `acc k` accepts `min (k+1) offered` bytes (send never returns 0 for a non-empty chunk) -/
inductive SendRes where
  | acc (k : Nat)
  | wouldBlock
  | intr
  | pipe
  | err (e : Nat)
  deriving Repr, DecidableEq, Inhabited

/-- result of a `send()` call as it appears in the trace -/
inductive Res where
  | acc
  | wouldBlock
  | intr
  | pipe
  | err (e : Nat)
  deriving Repr, DecidableEq, Inhabited

/-- the errno a scripted result stands for (the named ones come from the platform's <errno.h> via `Gen`) -/
def SendRes.errno : SendRes → Nat
  | .acc _ => 0
  | .wouldBlock => NV.Gen.C14.eWouldBlock
  | .intr => NV.Gen.C14.eIntr
  | .pipe => NV.Gen.C14.ePipe
  | .err e => e

def SendRes.res : SendRes → Res
  | .acc _ => .acc
  | .wouldBlock => .wouldBlock
  | .intr => .intr
  | .pipe => .pipe
  | .err e => .err e

/-- flush_message's errno classification, as regenerated from the source: these errno values keep the data and ask for
write notification (`return 1`); every other one sets NET_DEAD (`return 0`) -/
def keepsData (e : Nat) : Bool := NV.Gen.C14.keepErrnos.contains e

/-- observable events; the specification oracle (Spec.lean) reads these and nothing else -/
inductive Ev where
  /-- `add_message` (`v = false`) / `add_vmessage` (`v = true`) called with this text -/
  | wbeg (v : Bool) (data : List Byte)
  /-- that call returned -/
  | wend
  /-- one `send()` call: bytes offered, result, bytes accepted -/
  | send (offered : Nat) (res : Res) (accepted : List Byte)
  /-- the connection was removed (`remove_interactive` completed) -/
  | close
  /-- state after an operation: write interest, producer, consumer, length, NET_DEAD -/
  | st (want : Bool) (p c l : Nat) (dead : Bool)
  | stClosed
  /-- ring contents, consumer first (correspondence only) -/
  | dump (bytes : List Byte)
  /-- `receive_snoop (text, snooper)`: the whole text of a write is handed to the user `snooper` who snoops this one -/
  | snoop (snooper : Nat) (data : List Byte)
  /-- an LPC error (raised by a snooper's receive_snoop) reached the caller of add_message -/
  | lpcerr
  /-- the caller asked add_vmessage to format exactly this text (`"%s"` / `"%s%s"` of the pieces): the `wbeg v` that
  follows shows what the formatting step produced -/
  | vreq (data : List Byte)
  /-- out-of-bounds access / endless loop in the C code -/
  | fault (what : String)
  deriving Repr, DecidableEq

/-- one scripted reaction of the harness user object's `receive_snoop` (harness/mudlib/c14/user.c): what the snooper's
LPC code does with the text it is handed - this is how add_message is re-entered from inside add_message -/
inductive React where
  /-- `receive (text[0..1999])`: echo to the snooper itself -/
  | echo
  /-- `tell_object (user j, "[me>j]\n")` if user `j` is still interactive -/
  | tell (j : Nat)
  /-- `destruct (user j)` if user `j` is still interactive (`j` may be the snooper itself or the user being written to) -/
  | dest (j : Nat)
  /-- `error ()` -/
  | err
  | nop
  deriving Repr, DecidableEq, Inhabited

structure St where
  /-- `message_buf[MESSAGE_BUF_SIZE]` -/
  buf : Array Byte
  /-- `message_producer` -/
  prod : Nat := 0
  /-- `message_consumer` -/
  cons : Nat := 0
  /-- `message_length` -/
  len : Nat := 0
  /-- `iflags & NET_DEAD` -/
  dead : Bool := false
  /-- `iflags & CLOSING`; the structure is freed right after, `who->interactive == 0` -/
  closed : Bool := false
  /-- write notification requested from the async runtime (`EVENT_WRITE` registered) -/
  want : Bool := false
  fault : Bool := false
  /-- `ip == all_users[0]`: the console user - write(2) to stdout instead of send(), no write notification, add_message
  flushes at its end, process_io flushes it on every pass -/
  console : Bool := false
  /-- `ip->snoop_by`: the user (number) who snoops this one -/
  snoopBy : Option Nat := none
  /-- remaining scripted send results -/
  script : List SendRes := []
  /-- remaining scripted reactions of this user's `receive_snoop` (read only by the several-user world, Multi.lean) -/
  react : List React := []
  /-- `connection_type == PORT_TELNET`: input goes through the telnet decoder copy_chars -/
  telnet : Bool := false
  /-- telnet decoder state of `copy_chars` (`ip->state`, `sb_buf`) -/
  tel : Tel := {}
  /-- this user's input has stored `MODE_EDIT | MODE_TRAPSIG` into the global `telnet_sb_lm_mode[4]` -/
  lmSet : Bool := false
  /-- ghost: all bytes accepted by send so far, newest first -/
  sentR : List Byte := []
  /-- ghost: all bytes ever stored into the ring, newest first -/
  histR : List Byte := []

def St.init (script : List SendRes := []) (console : Bool := false) : St :=
  { buf := Array.replicate N 0, script := script, console := console }

/-- `iflags & (NET_DEAD | CLOSING)` (or no interactive any more) -/
def St.gone (s : St) : Bool := s.closed || s.dead

/-- `n` bytes of the buffer from index `start` (no wrapping: what `send (fd, buf + start, n)` reads) -/
def bytesAt (buf : Array Byte) (start n : Nat) : List Byte :=
  (List.range n).map (fun i => buf.getD (start + i) 0)

/-- logical contents of the ring, oldest byte first -/
def contents (s : St) : List Byte :=
  (List.range s.len).map (fun i => s.buf.getD ((s.cons + i) % N) 0)

/-- the regenerated `ip->message_producer = ...;` of add_message, on the state's fields (C `int`s, hence `Int`) -/
def producerNext (s : St) : Nat := (NV.Gen.C14.producerNext s.cons s.prod s.len N 0).toNat

/-- `message_buf[producer] = b; producer = <producerNext>; length++` -/
def put (s : St) (b : Byte) : St :=
  if s.prod < N then
    { s with buf := s.buf.setIfInBounds s.prod b, prod := producerNext s, len := s.len + 1, histR := b :: s.histR }
  else { s with fault := true }

/-- the chunk length handed to `send()`: the regenerated if/else of flush_message -/
def chunkLen (s : St) : Nat := (NV.Gen.C14.chunkLen s.cons s.prod s.len N 0).toNat

/-- the regenerated `ip->message_consumer = ...;` / `ip->message_length -= ...;` of flush_message after `m` bytes -/
def consumerNext (s : St) (m : Nat) : Nat := (NV.Gen.C14.consumerNext s.cons s.prod s.len N m).toNat
def lengthAfterSend (s : St) (m : Nat) : Nat := (NV.Gen.C14.lengthAfterSend s.cons s.prod s.len N m).toNat

/-- the regenerated right-hand sides of the ring-full tests `ip->message_length == ...` of add_message -/
def thrFull (s : St) : Nat := (NV.Gen.C14.fullThr s.cons s.prod s.len N 0).toNat
def thrLF (s : St) : Nat := (NV.Gen.C14.lfThr s.cons s.prod s.len N 0).toNat

/-- next scripted result; an exhausted script accepts everything -/
def pop : List SendRes → SendRes × List SendRes
  | [] => (.acc N, [])
  | r :: rs => (r, rs)

/-- `consumer = (consumer + m) % SIZE; length -= m` -/
def consume (s : St) (m : Nat) (bs : List Byte) (rs : List SendRes) : St :=
  { s with cons := consumerNext s m, len := lengthAfterSend s m, script := rs, sentR := bs.reverse ++ s.sentR }

/-- `if (ip != all_users[0]) async_runtime_modify (.., EVENT_READ, ..)` after a drain -/
def wantAfterDrain (s : St) : Bool := if s.console then s.want else false

/-- `if (ip != all_users[0]) async_runtime_modify (.., EVENT_READ | EVENT_WRITE, ..)` after EWOULDBLOCK / EINTR -/
def wantAfterRefusal (s : St) : Bool := if s.console then s.want else true

inductive Outcome where
  | cont (s : St) (ev : Ev)
  | stop (s : St) (evs : List Ev) (ok : Bool)

/-- one iteration of the `while (ip->message_length != 0)` loop of flush_message -/
def sendStep (s : St) : Outcome :=
  if s.len = 0 then .stop { s with want := wantAfterDrain s } [] true
  else
    let n := chunkLen s
    if n = 0 ∨ N < s.cons + n ∨ s.len < n then .stop { s with fault := true } [.fault "chunk"] false
    else
      let rs := (pop s.script).2
      match (pop s.script).1 with
      | .acc k =>
        let m := min (k + 1) n
        let bs := bytesAt s.buf s.cons m
        .cont (consume s m bs rs) (.send n .acc bs)
      | r =>
        -- `num_bytes == -1`: the regenerated errno classification decides
        if keepsData r.errno then .stop { s with script := rs, want := wantAfterRefusal s } [.send n r.res []] true
        else .stop { s with script := rs, dead := true } [.send n r.res []] false

/-- the send loop; every iteration that continues consumed at least one byte, so `len + 1` fuel always suffices -/
def flushLoop : Nat → St → St × List Ev × Bool
  | 0, s => ({ s with fault := true }, [.fault "fuel"], false)
  | fuel + 1, s =>
    match sendStep s with
    | .stop s' evs ok => (s', evs, ok)
    | .cont s' ev =>
      let r := flushLoop fuel s'
      (r.1, ev :: r.2.1, r.2.2)

/-- `flush_message (ip)`: result `false` is the C return value 0 (connection unusable) -/
def flushMsg (s : St) : St × List Ev × Bool :=
  if s.gone then (s, [], false) else flushLoop (s.len + 1) s

inductive Go where
  | go
  | brk
  | ret
  deriving Repr, DecidableEq

/-- `if (length == thr) { if (!flush_message (ip)) return; if (length == thr) break; }` -/
def guardFull (s : St) (thr : Nat) : St × List Ev × Go :=
  if s.len = thr then
    let r := flushMsg s
    if r.2.2 = false then (r.1, r.2.1, .ret)
    else if r.1.len = thr then (r.1, r.2.1, .brk)
    else (r.1, r.2.1, .go)
  else (s, [], .go)

/-- store one input byte: CR LF for LF -/
def putItem (s : St) (c : Byte) : St :=
  if c = LF then put (put s CR) c else put s c

/-- the `for (cp = data; *cp; cp++)` loop of add_message / add_vmessage -/
def addLoop : List Byte → St → St × List Ev × Go
  | [], s => (s, [], .go)
  | c :: cs, s =>
    let g1 := guardFull s (thrFull s)
    match g1.2.2 with
    | .go =>
      let g2 := if c = LF then guardFull g1.1 (thrLF g1.1) else (g1.1, [], .go)
      match g2.2.2 with
      | .go =>
        let r := addLoop cs (putItem g2.1 c)
        (r.1, g1.2.1 ++ g2.2.1 ++ r.2.1, r.2.2)
      | g => (g2.1, g1.2.1 ++ g2.2.1, g)
    | g => (g1.1, g1.2.1, g)

/-- `if (ip->snoop_by) receive_snoop (data, ip->snoop_by->ob);` -/
def snoopEvs (s : St) (data : List Byte) : List Ev :=
  match s.snoopBy with
  | none => []
  | some k => [.snoop k data]

/-- `add_message (who, data)` (`v = false`) / `add_vmessage (who, "%s", data)` (`v = true`).  The `wend` event is the
hook point just before the snoop forwarding (or an early `return`); the forwarding is the LAST thing both functions do
with the user (`fix:` commit: add_message used `ip` after `receive_snoop`, whose LPC code can free it or raise an error) -/
def addMessage (v : Bool) (data : List Byte) (s : St) : St × List Ev :=
  if s.gone then (s, [.wbeg v data, .wend])
  else
    let r := addLoop data s
    if v then
      -- `if ((ip->message_length != 0) && !flush_message (ip)) debug_message (...)`
      let f := if r.1.len ≠ 0 then flushMsg r.1 else (r.1, [], true)
      -- add_vmessage snoops after its trailing flush, also after a `break` on a broken connection
      (f.1, .wbeg v data :: (r.2.1 ++ f.2.1 ++ [.wend] ++ snoopEvs s data))
    else if s.console then
      -- `if (ip == all_users[0]) flush_message (ip);` (not reached after the `return` of a broken connection)
      let f := if r.2.2 = .ret then (r.1, [], true) else flushMsg r.1
      let sn := if r.2.2 = .ret then [] else snoopEvs s data
      (f.1, .wbeg v data :: (r.2.1 ++ f.2.1 ++ [.wend] ++ sn))
    else
      -- a broken connection `return`s before `async_runtime_modify (.., EVENT_READ | EVENT_WRITE, ..)`
      let s2 := if r.2.2 = .ret then r.1 else { r.1 with want := true }
      -- the `return` of a broken connection also skips the snoop forwarding
      let sn := if r.2.2 = .ret then [] else snoopEvs s data
      (s2, .wbeg v data :: (r.2.1 ++ [.wend] ++ sn))

inductive Op where
  | sendres (rs : List SendRes)
  | write (v : Bool) (data : List Byte)
  | flush
  | cycle
  | wready
  | close
  | peerfin
  | dump
  /-- `new_set_snoop`: user `k` starts (`some k`) / nobody any longer (`none`) snoops this user -/
  | snoopBy (k : Option Nat)
  /-- an add_message / add_vmessage call made by LPC code (no state line is printed after it) -/
  | writeQ (v : Bool) (data : List Byte)
  /-- `remove_interactive` reached from LPC code (`destruct`): flush, CLOSING, descriptor closed; no state line -/
  | closeQ
  /-- the state line alone -/
  | showSt
  /-- more scripted reactions for this user's `receive_snoop` -/
  | react (rs : List React)
  /-- `react = react[1..]`: the user's `receive_snoop` took its next scripted reaction -/
  | popReact
  /-- the connection is a PORT_TELNET one -/
  | setTelnet
  /-- a plain `flush_message (ip)` call made by the driver in the middle of something (copy_chars): no state line -/
  | flushQ
  /-- copy_chars processed one input byte: new decoder state; `lm`: it stored into the global `telnet_sb_lm_mode[4]` -/
  | telSet (t : Tel) (lm : Bool)
  deriving Repr

def stEv (s : St) : Ev :=
  -- the console is flushed by every process_io pass: a future flush is always guaranteed
  if s.closed then .stClosed else .st (s.want || s.console) s.prod s.cons s.len s.dead

def step (s : St) : Op → St × List Ev
  | .sendres rs => ({ s with script := s.script ++ rs }, [])
  | .write v d =>
    let r := addMessage v d s
    -- add_vmessage formats first (vasprintf: the whole text, whatever its length); add_message takes the text as it is
    (r.1, (if v then [Ev.vreq d] else []) ++ r.2 ++ [stEv r.1])
  | .flush =>
    if s.closed then (s, [stEv s])
    else let r := flushMsg s; (r.1, r.2.1 ++ [stEv r.1])
  | .cycle =>
    if s.closed ∨ s.len = 0 then (s, [stEv s])
    else let r := flushMsg s; (r.1, r.2.1 ++ [stEv r.1])
  | .wready =>
    if s.closed ∨ (s.want = false ∧ s.console = false) then (s, [stEv s])
    else let r := flushMsg s; (r.1, r.2.1 ++ [stEv r.1])
  | .close =>
    if s.closed then (s, [stEv s])
    else
      let r := flushMsg s
      ({ r.1 with closed := true }, r.2.1 ++ [.close, .stClosed])
  | .peerfin =>
    if s.closed then (s, [stEv s])
    else ({ s with dead := true, closed := true }, [.close, .stClosed])
  | .dump => (s, [.dump (if s.closed then [] else contents s)])
  | .snoopBy k => ({ s with snoopBy := k }, [])
  | .writeQ v d => addMessage v d s
  | .closeQ =>
    if s.closed then (s, [])
    else
      let r := flushMsg s
      ({ r.1 with closed := true }, r.2.1 ++ [.close])
  | .showSt => (s, [stEv s])
  | .react rs => ({ s with react := s.react ++ rs }, [])
  | .popReact => ({ s with react := s.react.tail }, [])
  | .setTelnet => ({ s with telnet := true }, [])
  | .flushQ =>
    if s.closed then (s, [])
    else let r := flushMsg s; (r.1, r.2.1)
  | .telSet t lm => ({ s with tel := t, lmSet := s.lmSet || lm }, [])

def runFrom : St → List Op → St × List Ev
  | s, [] => (s, [])
  | s, op :: ops =>
    let r := step s op
    let r2 := runFrom r.1 ops
    (r2.1, r.2 ++ r2.2)

/-- a fresh connection, an initial send script, a list of operations -/
def run (script : List SendRes) (ops : List Op) (console : Bool := false) : St × List Ev :=
  runFrom (St.init script console) ops

def events (r : St × List Ev) : List Ev := r.2

end NV.C14
