/-
C14 — property theorems.  All statements are for every initial send script, every list of operations (writes of any
length and content, any further scripted send results, every flush trigger, closes) - no bound on sizes or steps.
The top theorem rests on the simulation in Sim.lean, the ring-invariant theorems on `runFrom_ginv` (Flush.lean).
-/
import NV.C14.Sim

namespace NV.C14

/-- **Top theorem.**  The specification oracle accepts the event trace of every run of the model: whatever the writes and
whatever the socket answers (full, partial of any size, EWOULDBLOCK, EINTR, EPIPE, other errors), every byte accepted by
send() is the next byte of the reference stream (CR-LF expansion of the texts, in order, exactly once), nothing is sent
after a close, the pending count always equals what is owed (so only a tail given up on a full, refusing socket - or a
dead connection - is ever lost, and a CR LF pair is kept or dropped as a whole), pending output always has write
notification requested, and no out-of-bounds access or endless loop occurs. -/
theorem model_satisfies_spec (script : List SendRes) (ops : List Op) (console : Bool := false) :
    judgeEv (events (run script ops console)) = [] := by
  have h := runFrom_rel ops (St.init script console) {} (init_ginv script console) (init_rel script console)
  unfold judgeEv events run
  rw [h.bad]; rfl

/-- non-vacuity: a run that wraps nothing but exercises partial send, EWOULDBLOCK, CR LF, a close -/
example : judgeEv (events (run [.acc 2, .wouldBlock]
    [.write false [104, 105, 10], .flush, .write true [10, 10], .sendres [.pipe], .write false [65], .close])) = [] :=
  model_satisfies_spec _ _

/-- non-vacuity for the console user (write(2) path, flush at the end of add_message) -/
example : judgeEv (events (run [.acc 0, .intr] [.write false [104, 10], .wready, .write true [65]] true)) = [] :=
  model_satisfies_spec _ _ true

/-- the oracle is not trivially satisfied: a trace that delivers a byte twice is rejected -/
example : judgeEv [.wbeg false [65], .wend, .send 1 .acc [65], .send 1 .acc [65]] ≠ [] := by decide

/-- `ring_inv`: after every run `producer = (consumer + length) mod N`, `length ≤ N`, `consumer < N`, the buffer has `N`
cells and no out-of-range access happened (`fault = false`).  Every prefix of a run is a run, so this holds between any two
operations; inside an operation it is re-established after every single put / send (`put_inv`, `consume_inv`). -/
theorem ring_inv (script : List SendRes) (ops : List Op) (console : Bool := false) : Inv (run script ops console).1 :=
  (runFrom_ginv ops _ (init_ginv script console)).inv

/-- all indices are inside `message_buf` -/
theorem ring_indices_in_bounds (script : List SendRes) (ops : List Op) (console : Bool := false) :
    (run script ops console).1.prod < N ∧ (run script ops console).1.cons < N ∧ (run script ops console).1.len ≤ N ∧
    (run script ops console).1.buf.size = N :=
  let h := ring_inv script ops console
  ⟨h.prod_lt, h.cons_lt, h.len_le, h.size⟩

/-- no out-of-bounds access, no zero-length send loop -/
theorem no_fault (script : List SendRes) (ops : List Op) (console : Bool := false) :
    (run script ops console).1.fault = false :=
  (ring_inv script ops console).nofault

/-- liveness side of delivery: whenever output is pending on a live connection, a later flush is guaranteed - write
notification is requested from the event loop (network user), or the user is the console user, which process_io flushes
on every pass -/
theorem write_interest_when_pending (script : List SendRes) (ops : List Op) (console : Bool := false)
    (hg : (run script ops console).1.gone = false) (hl : (run script ops console).1.len ≠ 0) :
    ((run script ops console).1.want || (run script ops console).1.console) = true :=
  (runFrom_ginv ops _ (init_ginv script console)).want hg hl

end NV.C14
