/-
C14 — several users.  Every user has its own `St` and is advanced by the single-user `step` only, so the event stream of
each user is, by construction, the event stream of a single-user run (`runFrom`) of the operations routed to it - the
theorems of Props*.lean apply to each user separately.  The world adds only
  * routing: `on k op` (one user), `all op` (get_user_command / process_io / flush_messages() visit every user),
    `hangup k fin` (the peer of user `k` went away; the same process_io pass serves the write-ready events of the others);
  * the snoop relation (`new_set_snoop`, cleared by `remove_interactive`), kept in the `snoopBy` fields;
  * tagging: an event belongs to the user that produced it, a `snoop` event to the snooper that receives the text;
  * re-entrancy: `receive_snoop` is LPC code.  The harness user object carries out one scripted reaction per call
    (`React`): echo the text to itself, tell another user, destruct a user (also the one being written to), raise an
    error.  `writeW` is add_message / add_vmessage as seen by the whole world: the single-user call, then - it is the
    last thing the C functions do - the snooper's reaction, which may call add_message again (`fuel` = number of scripted
    reactions left + 2, every nested call consumes one).
Every change of a user's state is a single-user `step` (or an edit of its `snoopBy` field, which is `step _ (.snoopBy _)`);
`PropsMulti.lean` proves from this that each user's stream is a single-user run and satisfies the oracle.
-/
import NV.C14.Model

namespace NV.C14

inductive MOp where
  | on (k : Nat) (op : Op)
  | all (op : Op)
  /-- peer of user `k` closed (`fin = false`: EPOLLHUP -> remove_interactive) or half-closed (`fin = true`: recv()==0) -/
  | hangup (k : Nat) (fin : Bool)
  /-- `new_set_snoop (user k, user j)`: `k` snoops `j` -/
  | snoop (k j : Nat)
  /-- `new_set_snoop (user k, 0)` -/
  | unsnoop (k : Nat)
  /-- add_message / add_vmessage to user `k` in a case that scripts `receive_snoop` reactions: the call can reach every
  user, so the state of every user is shown after it -/
  | writeR (k : Nat) (v : Bool) (data : List Byte)
  /-- the peer of telnet user `k` sent these bytes; one poll + process_io pass: `k`: EVENT_READ (get_user_data ->
  copy_chars -> replies) then EVENT_WRITE; every other user: its write-ready event -/
  | input (k : Nat) (bs : List Byte)
  deriving Repr

/-- a user slot: `none` until the user connects -/
abbrev World := List (Option St)

abbrev TEv := Nat × Ev

def tagEv (k : Nat) : Ev → TEv
  | .snoop sn d => (sn, .snoop sn d)
  | e => (k, e)

def getU (w : World) (k : Nat) : Option St := (w[k]?).join

def setU (w : World) (k : Nat) (s : St) : World := w.set k (some s)

/-- `remove_interactive` of user `k`: `ip->snoop_on->snoop_by = 0` (and its own links die with the structure) -/
def dropSnooper (w : World) (k : Nat) : World :=
  w.map (fun o => o.map (fun s => if s.snoopBy = some k then { s with snoopBy := none } else s))

def stepAt (w : World) (k : Nat) (op : Op) : World × List TEv :=
  match getU w k with
  | none => (w, [])
  | some s =>
    let r := step s op
    let w1 := setU w k r.1
    -- the user went away during this operation: it no longer snoops anybody, nobody snoops it
    let w2 := if r.1.closed && !s.closed then setU (dropSnooper w1 k) k { r.1 with snoopBy := none } else w1
    (w2, r.2.map (tagEv k))

def stepEach (f : Nat → Op) : List Nat → World → World × List TEv
  | [], w => (w, [])
  | k :: ks, w =>
    let r := stepAt w k (f k)
    let r2 := stepEach f ks r.1
    (r2.1, r.2 ++ r2.2)

/-- `for (tmp = on; tmp; tmp = tmp->snoop_on) if (tmp == by) return 0;` - does `j` (transitively) snoop `k`? -/
def snoopsChain (w : World) (k : Nat) : Nat → Nat → Bool
  | 0, _ => false
  | fuel + 1, cur =>
    if cur = k then true
    else
      -- `cur->snoop_on`: the user whose snoopBy is `cur`
      match (List.range w.length).find? (fun u => (getU w u).any (fun s => s.snoopBy = some cur && !s.closed)) with
      | none => false
      | some nxt => snoopsChain w k fuel nxt

/-- world, events, `false` = an LPC error is unwinding to the caller of the outermost add_message (no reaction of
`reactStep` produces it: receive_snoop runs under safe_apply; only `writeW` out of fuel does) -/
abbrev WR := World × List TEv × Bool

def andThen (r : World × List TEv) (f : World → WR) : WR :=
  let r2 := f r.1
  (r2.1, r.2 ++ r2.2.1, r2.2.2)

/-- the user whose `receive_snoop` was called by this add_message (its `snoop` event, tagged with the snooper) -/
def snoopCall (es : List TEv) : Option Nat :=
  es.findSome? fun e => match e.2 with
    | .snoop b _ => some b
    | _ => none

/-- `"[" + oid + ">" + j + "]\n"` -/
def tellText (b j : Nat) : List Byte := (s!"[{b}>{j}]\n").toList.map (fun c => UInt8.ofNat c.toNat)

/-- `users ()` contains user `j` (still interactive; NET_DEAD users are still listed) -/
def interactiveU (w : World) (j : Nat) : Bool := (getU w j).any (fun s => !s.closed)

/-- `receive_snoop (text)` in user `b` (harness/mudlib/c14/user.c): take the next scripted reaction and carry it out;
`rec` is add_message as seen by the world (one level less of fuel) -/
def reactStep (rec : World → Nat → Bool → List Byte → WR) (w : World) (b : Nat) (d : List Byte) : WR :=
  match getU w b with
  | none => (w, [], true)
  | some sb =>
    match sb.react with
    | [] => (w, [], true)
    | t :: _ =>
      andThen (stepAt w b .popReact) fun w2 =>
        match t with
        | .nop => (w2, [], true)
        -- receive_snoop runs under safe_apply (fix 4a7340a): the error ends the snooper's receive_snoop and nothing else
        | .err => (w2, [], true)
        | .echo => if interactiveU w2 b then rec w2 b false (d.take 2000) else (w2, [], true)
        | .tell j => if interactiveU w2 j then rec w2 j false (tellText b j) else (w2, [], true)
        | .dest j => if interactiveU w2 j then (let r := stepAt w2 j .closeQ; (r.1, r.2, true)) else (w2, [], true)

/-- add_message (`v = false`) / add_vmessage to user `k`, with everything the snooper's LPC code does in response -/
def writeW : Nat → World → Nat → Bool → List Byte → WR
  | 0, w, _, _, _ => (w, [], false)
  | fuel + 1, w, k, v, d =>
    let r := stepAt w k (.writeQ v d)
    andThen r fun w1 =>
      match snoopCall r.2 with
      | none => (w1, [], true)
      | some b => reactStep (writeW fuel) w1 b d

/-- the output calls copy_chars makes for one input byte, carried out on user `k` -/
def tactW (w : World) (k : Nat) : List TAct → World × List TEv
  | [] => (w, [])
  | a :: r =>
    let x := stepAt w k (match a with
      | .msg v d => .writeQ v d
      | .fl => .flushQ)
    let y := tactW x.1 k r
    (y.1, x.2 ++ y.2)

/-- `copy_chars (buf, .., num_bytes, ip)` for user `k`: byte by byte; `lm` = the global `telnet_sb_lm_mode[4]` -/
def inputW (w : World) (k : Nat) : List Byte → Nat → World × List TEv
  | [], _ => (w, [])
  | b :: bs, lm =>
    match getU w k with
    | none => (w, [])
    | some s =>
      let r := telByte lm s.tel b
      let x := stepAt w k (.telSet r.tel (r.lm != lm))
      let y := tactW x.1 k r.acts
      let z := inputW y.1 k bs r.lm
      (z.1, x.2 ++ y.2 ++ z.2)

/-- `telnet_sb_lm_mode[4]` now: its initialiser, or `MODE_EDIT | MODE_TRAPSIG` once any user's WILL LINEMODE stored that -/
def lmNow (w : World) : Nat :=
  if w.any (fun o => o.any (fun s => s.lmSet)) then NV.Gen.C14.modeEDIT ||| NV.Gen.C14.modeTRAPSIG
  else NV.Gen.C14.telSbLmMode.getD NV.Gen.C14.lmModeIndex 0

/-- get_user_data: `if (ip->snoop_by ..) receive_snoop (buf, ip->snoop_by->ob)` - the raw input as a C string -/
def inputSnoopW (w : World) (k : Nat) (bs : List Byte) : List TEv :=
  match (getU w k).bind (fun s => s.snoopBy) with
  | some b => [(b, Ev.snoop b (cstr bs))]
  | none => []

/-- input can be fed to a live PORT_TELNET user only (otherwise the pass is a plain write-ready pass) -/
def canInput (w : World) (k : Nat) : Bool := (getU w k).any (fun s => !s.closed && s.telnet && !s.console)

/-- more than the number of scripted reactions left: every nested add_message consumes one -/
def fuelOf (w : World) : Nat := w.foldl (fun n o => n + (o.map (fun s => s.react.length)).getD 0) 2

def stepM (w : World) : MOp → World × List TEv
  | .on k op => stepAt w k op
  | .all op => stepEach (fun _ => op) (List.range w.length) w
  | .hangup k fin =>
    stepEach (fun u => if u = k then (if fin then .peerfin else .close) else .wready) (List.range w.length) w
  | .snoop k j =>
    match getU w k, getU w j with
    | some sk, some sj =>
      -- error() unless both are still interactive; a snoop loop is refused
      if sk.closed || sj.closed || snoopsChain w k (w.length + 1) j then (w, [])
      else
        let w1 := dropSnooper w k
        (match getU w1 j with
         | some sj' => setU w1 j { sj' with snoopBy := some k }
         | none => w1, [])
    | _, _ => (w, [])
  | .unsnoop k =>
    match getU w k with
    | some sk => if sk.closed then (w, []) else (dropSnooper w k, [])
    | none => (w, [])
  | .input k bs =>
    if canInput w k then
      let want0 := (getU w k).any (fun s => s.want)
      let a := inputW w k bs (lmNow w)
      let sn := inputSnoopW a.1 k bs
      -- EVENT_WRITE of the same event record (interest as registered when the events were collected)
      let f := if want0 then stepAt a.1 k .flushQ else (a.1, [])
      let rest := stepEach (fun u => if u = k then .showSt else .wready) (List.range w.length) f.1
      (rest.1, a.2 ++ sn ++ f.2 ++ rest.2)
    else stepEach (fun _ => .wready) (List.range w.length) w
  | .writeR k v d =>
    let r := writeW (fuelOf w) w k v d
    -- the harness catches the error after the call and prints `lpcerr`, then the state of every user
    let e : List TEv := if r.2.2 then [] else [(k, Ev.lpcerr)]
    let sts := stepEach (fun _ => .showSt) (List.range w.length) r.1
    -- add_vmessage called by the harness: the text it is asked to format
    let pre : List TEv := if v then [(k, Ev.vreq d)] else []
    (sts.1, pre ++ r.2.1 ++ e ++ sts.2)

def runM : World → List MOp → World × List TEv
  | w, [] => (w, [])
  | w, op :: ops =>
    let r := stepM w op
    let r2 := runM r.1 ops
    (r2.1, r.2 ++ r2.2)

end NV.C14
