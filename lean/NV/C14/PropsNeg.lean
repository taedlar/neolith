/-
C14 — oracle audit: traces the specification oracle must REJECT, several per clause (`judgeEv ... ≠ []`), and a few it must
accept, so that no clause is vacuous.  Bytes: 65 = 'A', 66 = 'B', 10 = LF, 13 = CR.  `st want p c l dead`.
-/
import NV.C14.Fit

namespace NV.C14

/-! ### delivered-mismatch: order, exactly once, nothing invented, LF as CR LF -/
example : judgeEv [.wbeg false [65, 66], .wend, .send 2 .acc [66, 65]] ≠ [] := by decide +kernel            -- reordered
example : judgeEv [.wbeg false [65], .wend, .send 1 .acc [65], .send 1 .acc [65]] ≠ [] := by decide +kernel -- duplicated
example : judgeEv [.wbeg false [65], .wend, .send 1 .acc [66]] ≠ [] := by decide +kernel                     -- invented
example : judgeEv [.wbeg false [65, 10], .wend, .send 2 .acc [65, 10]] ≠ [] := by decide +kernel             -- LF without CR
example : judgeEv [.wbeg false [10], .wend, .send 2 .acc [10, 13]] ≠ [] := by decide +kernel                 -- LF CR instead of CR LF
example : judgeEv [.wbeg false [65], .wend, .wbeg false [66], .wend, .send 1 .acc [66]] ≠ [] := by decide +kernel -- first message skipped
example : judgeEv [.send 1 .acc [65]] ≠ [] := by decide +kernel                                               -- nothing was written

/-! ### bad-accept / offered-more-than-owed -/
example : judgeEv [.wbeg false [65], .wend, .send 1 .acc []] ≠ [] := by decide +kernel                       -- accepted nothing
example : judgeEv [.wbeg false [65, 66], .wend, .send 1 .acc [65, 66]] ≠ [] := by decide +kernel             -- more than offered
example : judgeEv [.wbeg false [65], .wend, .send 2 .wouldBlock []] ≠ [] := by decide +kernel                -- offers 2, owes 1
example : judgeEv [.send 1 .intr []] ≠ [] := by decide +kernel                                                -- offers from an empty queue

/-! ### send-after-close: EPIPE / other errno / close / peer EOF end the connection -/
example : judgeEv [.wbeg false [65], .wend, .send 1 .pipe [], .send 1 .acc [65]] ≠ [] := by decide +kernel
example : judgeEv [.wbeg false [65], .wend, .send 1 (.err 104) [], .send 1 .wouldBlock []] ≠ [] := by decide +kernel
example : judgeEv [.wbeg false [65], .wend, .close, .send 1 .acc [65]] ≠ [] := by decide +kernel
/-- but EWOULDBLOCK / EINTR (also given as a plain errno) keep the connection: the same continuation is accepted -/
example : judgeEv [.wbeg false [65], .wend, .send 1 (.err NV.Gen.C14.eIntr) [], .send 1 .acc [65]] = [] := by decide +kernel
example : judgeEv [.wbeg false [65], .wend, .send 1 .wouldBlock [], .send 1 .acc [65]] = [] := by decide +kernel

/-! ### pending-count-mismatch: bytes lost (or kept) that the reference does not lose (keep) -/
example : judgeEv [.wbeg false [65, 66], .wend, .st true 1 0 1 false] ≠ [] := by decide +kernel     -- a byte lost while open and not full
example : judgeEv [.wbeg false [65], .wend, .st true 0 0 0 false] ≠ [] := by decide +kernel         -- the whole message lost
example : judgeEv [.wbeg false [10], .wend, .st true 1 0 1 false] ≠ [] := by decide +kernel         -- half of a CR LF pair kept
example : judgeEv [.wbeg false [65], .wend, .st true 2 0 2 false] ≠ [] := by decide +kernel         -- one byte too many kept
example : judgeEv [.wbeg false [65, 66], .wend, .send 2 .acc [65], .st true 2 1 0 false] ≠ [] := by decide +kernel -- rest dropped after a partial send
/-- a write interrupted by EINTR on a queue that is not full must keep everything -/
example : judgeEv [.wbeg false [65], .wend, .wbeg true [66], .send 2 .intr [], .wend, .st true 1 0 1 false] ≠ [] := by
  decide +kernel
/-- and the honest traces are accepted -/
example : judgeEv [.wbeg false [65, 10], .wend, .st true 3 0 3 false, .send 3 .acc [65, 13], .st true 3 2 1 false] = [] := by
  decide +kernel

/-! ### pending-without-write-interest -/
example : judgeEv [.wbeg false [65], .wend, .st false 1 0 1 false] ≠ [] := by decide +kernel
example : judgeEv [.wbeg false [65], .wend, .send 1 .wouldBlock [], .st false 1 0 1 false] ≠ [] := by decide +kernel
example : judgeEv [.wbeg false [65, 66], .wend, .send 2 .acc [65], .send 1 .intr [], .st false 2 1 1 false] ≠ [] := by decide +kernel
/-- nothing pending: no interest needed; dead connection: nothing is owed any more -/
example : judgeEv [.wbeg false [65], .wend, .send 1 .acc [65], .st false 1 1 0 false] = [] := by decide +kernel
example : judgeEv [.wbeg false [65], .wend, .send 1 .pipe [], .st false 1 0 1 true] = [] := by decide +kernel

/-! ### closed-without-close-event / crash -/
example : judgeEv [.wbeg false [65], .wend, .stClosed] ≠ [] := by decide +kernel
example : judgeEv [.stClosed] ≠ [] := by decide +kernel
example : judgeEv [.close, .stClosed] = [] := by decide +kernel
example : judgeEv [.fault "index 4096 out of bounds"] ≠ [] := by decide +kernel
example : judgeEv [.wbeg false [65], .fault "sanitizer", .wend] ≠ [] := by decide +kernel

/-! ### the give-up rule, at the real capacity `N`

(the oracle does not demand a send attempt before a tail is dropped from a full queue - the property allows the loss
whenever the buffer is full; it does demand that the text goes on whenever an attempt made room) -/

/-- a text `d` that fills the queue (`q`, `N` bytes) and has a rest; the send is refused before a byte was taken: the oracle
gives the rest up (`refused`, no progress), so the state line with `N` pending bytes is accepted -/
theorem giveUp_accepted {d q r : List Byte} {c : Byte} (hf : fit N d = (q, c :: r)) (hq : q.length = N) :
    judgeEv [.wbeg false d, .send N .wouldBlock [], .wend, .st true 0 0 N false] = [] := by
  -- `wbeg` takes `q` and leaves `c :: r`; the refused send finds no progress mark, so the oracle gives `c :: r` up
  have h : jstep (jstep {} (.wbeg false d)) (.send N .wouldBlock []) = { q := q, cur := some [] } := by
    simp [jstep, refill, hf, hq, refused_cons (j := { q := q, cur := some (c :: r) }) rfl]
  show (jstep (jstep (jstep (jstep {} (.wbeg false d)) (.send N .wouldBlock [])) .wend)
    (.st true 0 0 N false)).bad.reverse = []
  rw [h]
  simp [jstep, hq]

/-- the same text, but the socket first takes `a` and leaves `q` (`n` bytes): the refused send that follows comes after
progress, so the oracle refills (`t`, not empty) and a state line that still reports `n` pending bytes is flagged -/
theorem drop_after_progress_rejected {d a q r t r' : List Byte} {c : Byte} {off n p k : Nat}
    (hf : fit N d = (a ++ q, c :: r)) (ha : a ≠ []) (hq : q.length = n) (hn : 0 < n) (h1 : off ≤ a.length + n)
    (h2 : a.length ≤ off) (hr : fit (N - n) (c :: r) = (t, r')) (ht : t ≠ []) :
    judgeEv [.wbeg false d, .send off .acc a, .send n .wouldBlock [], .wend, .st true p k n false] ≠ [] := by
  have hq0 : q ≠ [] := fun h => by rw [h] at hq; exact absurd hq (Nat.ne_of_lt hn)
  -- the accepting send leaves `q` owed and sets the progress mark, so the refused send refills: `t` is owed as well
  have h : jstep (jstep (jstep {} (.wbeg false d)) (.send off .acc a)) (.send n .wouldBlock []) =
      { q := q ++ t, cur := some r' } := by
    simp [jstep, refill, refused, hf, ha, hq, hq0, hr, Nat.not_lt.mpr h1, Nat.not_lt.mpr h2]
  show (jstep (jstep (jstep (jstep (jstep {} (.wbeg false d)) (.send off .acc a)) (.send n .wouldBlock [])) .wend)
    (.st true p k n false)).bad.reverse ≠ []
  rw [h]
  simp [jstep, J.flag, hq, ht]

/-- `N + 5` bytes `'A'`: `N` of them fit -/
theorem fit_As : fit N (List.replicate (N + 5) 65) = (List.replicate N 65, List.replicate 5 65) := by
  rw [fit_replicate (by decide), Nat.min_eq_left (Nat.le_add_right _ _), Nat.add_sub_cancel_left]

set_option maxRecDepth 200000 in
/-- full queue, send refused with no progress: dropping the rest of the text is accepted ... -/
example : judgeEv [.wbeg false (List.replicate (N + 5) 65), .send N .wouldBlock [], .wend, .st true 0 0 N false] = [] :=
  giveUp_accepted (c := 65) (r := List.replicate 4 65) fit_As List.length_replicate

set_option maxRecDepth 200000 in
/-- ... but not when the refused send came after progress in the same attempt (room was made: the text must go on) -/
example : judgeEv [.wbeg false (List.replicate (N + 5) 65), .send N .acc [65, 65, 65, 65, 65, 65], .send (N - 6) .wouldBlock [],
    .wend, .st true 0 6 (N - 6) false] ≠ [] := by
  have h6 : 6 < N := by decide
  refine drop_after_progress_rejected (q := List.replicate (N - 6) 65) (c := 65) (r := List.replicate 4 65)
    (t := List.replicate 5 65) (r' := []) ?_ (List.cons_ne_nil _ _) List.length_replicate (by omega)
    (show N ≤ 6 + (N - 6) by omega) (Nat.le_of_lt h6) ?_ (List.cons_ne_nil 65 (List.replicate 4 65))
  · rw [fit_As, show [65, 65, 65, 65, 65, 65] = List.replicate 6 (65 : Byte) from rfl, List.replicate_append_replicate,
      Nat.add_sub_cancel' (Nat.le_of_lt h6)]
    rfl
  · rw [Nat.sub_sub_self (Nat.le_of_lt h6)]; rfl

/-- a queue that is not full never justifies a loss -/
example : judgeEv [.wbeg false (List.replicate 10 65), .wend, .st true 5 0 5 false] ≠ [] := by decide +kernel

end NV.C14
