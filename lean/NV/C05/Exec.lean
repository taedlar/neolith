/-
C05 — the core induction: every op tree, from every machine state and for every position of the injected fault,
either completes with both stacks and the error-context chain exactly as they were, or ends in an error whose
state EXTENDS the start state (stacks grown on top, chain unchanged); it crashes only when there is no error
context at all to deliver an error to (`fatal("failed longjmp")`).  A completed op tree also leaves the two guards
(`num_objects_this_thread`, `restrict_destruct`) as they were and `last_verb` as it was or cleared, whatever was caught
inside it, because `restore_context` puts back the values `save_context` recorded.  The three statements (`Good`,
`GuardsKept`, `VK`) go through one induction together (`Inv`).
-/
import NV.C05.Raise

namespace NV.C05

/-- a completed evaluation leaves last_verb as it was, or cleared -/
def VK (m : M) : Res → Prop
  | .ok m' => m'.lastVerb = m.lastVerb ∨ m'.lastVerb = 0
  | _ => True

/-- what a completed evaluation leaves of the scalars an error context saves: both guards as they were, last_verb as
    it was or cleared (user_parser clears it after a verb function returned, also for a nested command) -/
structure Kept (m m' : M) : Prop where
  ld : m'.loadDepth = m.loadDepth
  rd : m'.restrictDestruct = m.restrictDestruct
  verb : m'.lastVerb = m.lastVerb ∨ m'.lastVerb = 0

/-- `Good`, `GuardsKept` and `VK` together (`Inv.good`, `Inv.guards`, `Inv.vk`), the two clauses about a completed run
    as one `Kept`: what the induction carries -/
def Inv (m : M) : Res → Prop
  | .ok m' => Same m m' ∧ Kept m m'
  | .err m' => Ext m m'
  | .crash _ _ => m.ctxs = []

theorem Kept.rfl' (m : M) : Kept m m := ⟨rfl, rfl, .inl rfl⟩

theorem Kept.trans {a b c : M} (h1 : Kept a b) (h2 : Kept b c) : Kept a c :=
  ⟨h2.ld.trans h1.ld, h2.rd.trans h1.rd, h2.verb.elim (fun e => h1.verb.imp (e.trans ·) (e.trans ·)) .inr⟩

theorem Fixed.kept {m m' : M} (h : Fixed m m') : Kept m m' := ⟨h.ld, h.rd, .inl h.verb⟩

theorem Kept.left {m a x : M} (h : Kept a x) (hl : a.loadDepth = m.loadDepth) (hd : a.restrictDestruct = m.restrictDestruct)
    (hb : a.lastVerb = m.lastVerb) : Kept m x := Kept.trans ⟨hl, hd, .inl hb⟩ h

theorem Kept.congr {m a b : M} (h : Kept m a) (hl : b.loadDepth = a.loadDepth) (hd : b.restrictDestruct = a.restrictDestruct)
    (hb : b.lastVerb = a.lastVerb) : Kept m b := h.trans ⟨hl, hd, .inl hb⟩

theorem Inv.good {m : M} {r : Res} (h : Inv m r) : Good m r := by
  cases r with
  | ok m' => exact h.1
  | err m' => exact h
  | crash w m' => exact h

theorem Inv.guards {m : M} {r : Res} (h : Inv m r) : GuardsKept m r := by
  cases r with
  | ok m' => exact ⟨h.2.ld, h.2.rd⟩
  | err m' => trivial
  | crash w m' => trivial

theorem Inv.vk {m : M} {r : Res} (h : Inv m r) : VK m r := by
  cases r with
  | ok m' => exact h.2.verb
  | err m' => trivial
  | crash w m' => trivial

theorem Inv.ok {m x : M} (hs : Same m x) (hk : Kept m x) : Inv m (.ok x) := ⟨hs, hk⟩

theorem Inv.of_same {m m1 : M} {r : Res} (h : Same m m1) (hk : Kept m m1) (hr : Inv m1 r) : Inv m r := by
  cases r with
  | ok m' => exact ⟨h.trans hr.1, hk.trans hr.2⟩
  | err m' => exact h.toExt.trans hr
  | crash w m' => exact (h.ctxs.symm.trans hr)

/-- a construct that runs its body in `m2` (built on top of `m`) and finishes it with `F`, which lets errors and crashes
    through (by computation, for every finisher of the model): only what `F` does with a completed body is left to show -/
theorem Inv.finish {m m2 : M} {r : Res} {F : Res → Res} (he : Ext m m2) (hr : Inv m2 r)
    (hok : ∀ x, Same m2 x → Kept m2 x → Inv m (F (.ok x)))
    (herr : ∀ x, F (.err x) = .err x := by intros; rfl) (hcr : ∀ w x, F (.crash w x) = .crash w x := by intros; rfl) :
    Inv m (F r) := by
  cases r with
  | ok x => exact hok x hr.1 hr.2
  | err x => rw [herr]; exact he.trans hr
  | crash w x => rw [hcr]; exact he.ctxs.symm.trans hr

theorem RSpec.inv {m : M} {r : Res} (h : RSpec m r) : Inv m r := by
  cases r with
  | ok m' => exact h.elim
  | err m' => exact h.1
  | crash w m' => exact h

theorem raise_inv (msg : String) {m m0 : M} (h : Ext m m0) : Inv m (raise msg m0) := (raise_rspec msg h).inv

theorem throwVal_inv (v : String) {m m0 : M} (h : Ext m m0) : Inv m (throwVal v m0) := by
  unfold throwVal
  split
  · exact longjmp_ind (fun _ heq => h.ctxs.symm.trans heq) fun _ => ⟨h.vs, h.cs, h.ctxs⟩
  · exact raise_inv _ h

theorem thenTick_inv {m : M} {r : Res} (h : Inv m r) : Inv m (thenTick r) := by
  cases r with
  | ok m1 =>
    simp only [thenTick]
    split
    · exact raise_inv _ (h.1.trans (tick_same m1)).toExt
    · exact .ok (h.1.trans (tick_same m1)) (h.2.trans (tick_fixed m1).2.2.kept)
  | err m1 => exact h
  | crash w m1 => exact h

/-- what `restore_context` makes of a state `m` for the recovery point saved in `s` -/
structure Restored (s m m' : M) : Prop where
  vs : m'.vs = s.vs
  cs : m'.cs = s.cs
  cg : m'.cg = s.cg
  ld : m'.loadDepth = s.loadDepth
  rd : m'.restrictDestruct = s.restrictDestruct
  verb : m'.lastVerb = s.lastVerb
  ctxs : m'.ctxs = m.ctxs
  catchValue : m'.catchValue = m.catchValue
  errState : m'.errState = m.errState

theorem Restored.kept {s m m' : M} (h : Restored s m m') : Kept s m' := ⟨h.ld, h.rd, .inl h.verb⟩

/-- **restore_context is exact** on every state whose stacks extend those of the state `s` the context was saved in,
    whatever was pushed since; the frame registers are those saved in the first frame pushed after the save, and the handlers of
    the popped slots ran, top first -/
theorem restore_exact {s m : M} {dv : List Slot} {dc : List Frame} (h : Extends s m dv dc) :
    ∃ m', restoreContext (ctxOf s) m = .ok m' ∧ Restored s m m' ∧ m'.r = firstSaved dc m.r ∧
      m'.ran = (handlerIds dv).reverse ++ m.ran :=
  ⟨_, restoreContext_eq h.vs h.cs rfl rfl, ⟨rfl, rfl, rfl, rfl, rfl, rfl, rfl, rfl, rfl⟩, rfl, rfl⟩

/-- the same for an error state that extends a state built on `s` -/
theorem restore_of_ext {s m2 m : M} {dv : List Slot} {dc : List Frame} (he : Ext m2 m) (h2 : Extends s m2 dv dc) :
    ∃ m', restoreContext (ctxOf s) m = .ok m' ∧ Restored s m m' := by
  obtain ⟨dv', dc', h⟩ := he.extends_from h2
  obtain ⟨m', h1, hR, _⟩ := restore_exact h
  exact ⟨m', h1, hR⟩

/-- do_catch after its body (which ran on the catch frame, under the context saved in `m`) -/
theorem catchFinish_inv {m m2 : M} {r : Res} {f : Frame} (hv : m2.vs = m.vs) (hc : m2.cs = f :: m.cs)
    (hx : m2.ctxs = ctxOf m :: m.ctxs) (hk : Kept m m2) (hr : Inv m2 r) :
    Inv m (catchFinish (ctxOf m) m.ctxs r) := by
  cases r with
  | ok m4 =>
    have hp5 := popFrame_cons (m := { m4 with catchValue := CV.num 0 }) (f := f) (rest := m.cs) (hr.1.cs.trans hc)
    simp only [catchFinish, hp5]
    rw [afterCatch_cons (s := Slot.val) (t := m.vs) (congrArg (Slot.val :: ·) (hr.1.vs.trans hv))]
    exact .ok ⟨rfl, rfl, rfl⟩ ((hk.trans hr.2).congr rfl rfl rfl)
  | err m5 =>
    obtain ⟨m6, h1, hR⟩ := restore_of_ext (s := m) (dv := []) (dc := [f]) hr ⟨hv, hc⟩
    have hE : ∀ x : M, x.vs = List.replicate 1 Slot.val ++ m6.vs → x.cs = m6.cs → x.ctxs = m.ctxs → Ext m x :=
      fun x a b c => Ext.mk' [Slot.val] [] (by rw [a, hR.vs]; rfl) (by rw [b, hR.cs]; rfl) c
    simp only [catchFinish, h1]
    refine ite_ind (P := Inv m) (fun _ => ite_ind (P := Inv m) (fun _ => ?_) (fun _ => ?_)) (fun _ => ?_)
    · exact raise_inv _ (hE _ rfl rfl rfl)
    · exact raise_inv _ (hE _ rfl rfl rfl)
    · rw [afterCatch_cons (s := Slot.val) (t := m.vs) (congrArg (Slot.val :: ·) hR.vs)]
      exact .ok ⟨rfl, hR.cs, rfl⟩ (hR.kept.congr rfl rfl rfl)
  | crash w m1 =>
    have : m2.ctxs = [] := hr
    rw [hx] at this; cases this

/-- the longjmp path of a recovery point that was set in `m` (safe_apply, safe_call_function_pointer, the driver-level
    ones): `restore_context; pop_context` on any error state that extends a state built on `m` completes with the stacks,
    chain and saved scalars of `m` -/
theorem recover_err {F : Res → Res} {m m3 m6 : M} {dv : List Slot} {dc : List Frame}
    (hFerr : F (.err m6) = match restoreContext (ctxOf m) m6 with
      | .ok m7 => .ok (popContext m.ctxs m7)
      | r => r)
    (he : Ext m3 m6) (h3 : Extends m m3 dv dc) :
    ∃ m', F (.err m6) = .ok m' ∧ Same m m' ∧ Kept m m' ∧ m'.cg = m.cg ∧ m'.lastVerb = m.lastVerb := by
  obtain ⟨m7, h1, hR⟩ := restore_of_ext he h3
  exact ⟨popContext m.ctxs m7, by rw [hFerr, h1], ⟨hR.vs, hR.cs, rfl⟩, hR.kept.congr rfl rfl rfl, hR.cg, hR.verb⟩

/-- what safe_apply (`k = .other masterVal`, one frame) and safe_call_function_pointer (`k = .fpLocal owner`, two frames)
    do after the called function, for a recovery point set in `m`, is the same code `F`: after a normal return leave the
    call, drop its result, pop_context; after a longjmp restore_context, pop_context -/
structure SafeFinisher (k : CallKind) (declared : Nat) (m : M) (F : Res → Res) : Prop where
  ok : ∀ m5, F (.ok m5) = match leaveCall k declared m5 with
    | .ok m6 => (match popN 1 m6 with
      | some m7 => .ok (popContext m.ctxs m7)
      | none => .crash "value stack underflow" m6)
    | r => r
  err : ∀ m6, F (.err m6) = match restoreContext (ctxOf m) m6 with
    | .ok m7 => .ok (popContext m.ctxs m7)
    | r => r

theorem safeFinish_is (declared : Nat) (m : M) :
    SafeFinisher (.other masterVal) declared m (safeFinish (ctxOf m) m.ctxs declared) := ⟨fun _ => rfl, fun _ => rfl⟩

theorem safeFpFinish_is (owner : Val) (declared : Nat) (m : M) :
    SafeFinisher (.fpLocal owner) declared m (safeFpFinish owner (ctxOf m) m.ctxs declared) := ⟨fun _ => rfl, fun _ => rfl⟩

/-- such a finisher always COMPLETES (it absorbs every error of the callee) with both stacks and the chain of `m` — for every
    number of passed and declared arguments -/
theorem safeFinishK_spec {k : CallKind} {F : Res → Res} {declared : Nat} {m m3 : M} {r : Res} {fs : List Frame} {e0 : Ctx}
    (hF : SafeFinisher k declared m F)
    (hv : m3.vs = List.replicate declared Slot.val ++ m.vs) (hl : fs.length = framesOf k) (hc : m3.cs = fs ++ m.cs)
    (hx : m3.ctxs = e0 :: m.ctxs) (hr : Good m3 r) :
    ∃ m', F r = .ok m' ∧ Same m m' ∧ (∀ x, r = .ok x → Kept x m') ∧ (∀ x, r = .err x → Kept m m') := by
  cases r with
  | ok m5 =>
    have hp7 := popN_vals 1 (m := { m5 with vs := Slot.val :: m.vs, cs := m.cs, r := firstSaved fs m5.r }) (rest := m.vs) rfl
    refine ⟨popContext m.ctxs { m5 with vs := m.vs, cs := m.cs, r := firstSaved fs m5.r },
      by rw [hF.ok, leaveCall_eq (k := k) (hr.vs.trans hv) hl (hr.cs.trans hc)]; simp only [hp7], ⟨rfl, rfl, rfl⟩, ?_, ?_⟩
    · rintro x ⟨⟩; exact ⟨rfl, rfl, .inl rfl⟩
    · rintro x ⟨⟩
  | err m6 =>
    obtain ⟨m', h1, hs, hk, _⟩ := recover_err (hF.err m6) hr ⟨hv, hc⟩
    exact ⟨m', h1, hs, (fun _ h => nomatch h), fun _ _ => hk⟩
  | crash w m1 =>
    have : m3.ctxs = [] := hr
    rw [hx] at this; cases this

theorem safeFinish_total {declared : Nat} {m m3 : M} {r : Res} {f : Frame} {e0 : Ctx}
    (hv : m3.vs = List.replicate declared Slot.val ++ m.vs) (hc : m3.cs = f :: m.cs)
    (hx : m3.ctxs = e0 :: m.ctxs) (hr : Good m3 r) :
    ∃ m', safeFinish (ctxOf m) m.ctxs declared r = .ok m' ∧ Same m m' := by
  obtain ⟨m', h, hs, _⟩ := safeFinishK_spec (safeFinish_is declared m) (fs := [f]) hv rfl hc hx hr
  exact ⟨m', h, hs⟩

theorem safeFpFinish_total {declared : Nat} {m m3 : M} {r : Res} {owner : Val} {f g : Frame} {e0 : Ctx}
    (hv : m3.vs = List.replicate declared Slot.val ++ m.vs) (hc : m3.cs = f :: g :: m.cs)
    (hx : m3.ctxs = e0 :: m.ctxs) (hr : Good m3 r) :
    ∃ m', safeFpFinish owner (ctxOf m) m.ctxs declared r = .ok m' ∧ Same m m' := by
  obtain ⟨m', h, hs, _⟩ := safeFinishK_spec (safeFpFinish_is owner declared m) (fs := [f, g]) hv rfl hc hx hr
  exact ⟨m', h, hs⟩

/-- the same for the induction: with the invariant for the body, the saved scalars are kept as well -/
theorem safeFinishK_kept {k : CallKind} {F : Res → Res} {declared : Nat} {m m3 : M} {r : Res} {fs : List Frame} {e0 : Ctx}
    (hF : SafeFinisher k declared m F)
    (hv : m3.vs = List.replicate declared Slot.val ++ m.vs) (hl : fs.length = framesOf k) (hc : m3.cs = fs ++ m.cs)
    (hx : m3.ctxs = e0 :: m.ctxs) (hk : Kept m m3) (hr : Inv m3 r) : ∃ m', F r = .ok m' ∧ Same m m' ∧ Kept m m' := by
  obtain ⟨m', h, hs, hok, herr⟩ := safeFinishK_spec hF hv hl hc hx hr.good
  refine ⟨m', h, hs, ?_⟩
  cases r with
  | ok x => exact (hk.trans hr.2).trans (hok x rfl)
  | err x => exact herr x rfl
  | crash w x => exact absurd (hx.symm.trans (show m3.ctxs = [] from hr)) (List.cons_ne_nil _ _)

/-- the recovery point of safe_apply / safe_call_function_pointer: the context saved with the arguments on the stack,
    moved below them, is the context of the state before they were pushed -/
theorem safeCtx_ctxOf (nargs : Nat) (m : M) : safeCtx nargs (ctxOf (pushVals nargs m)) = ctxOf m := by
  simp [safeCtx, pushVals, ctxOf]

/-- the arguments of a safe apply that is refused (control stack full) are dropped again -/
theorem popN_pushVals (n : Nat) (m : M) : popN n (pushVals n m) = some m := popN_vals n rfl

/-- **a safe apply / safe function-pointer call completes**, after its context `e0` was saved (state `m2`): the frames are
    pushed, the arguments adjusted, the body runs, the finisher `F` (see `safeFinishK_spec`) absorbs whatever it does -/
theorem safeCall_completes {k : CallKind} {F : Res → Res} {nargs declared : Nat} {body : Prog} {m m2 : M} {e0 : Ctx}
    (hF : SafeFinisher k declared m F) (h2 : m2 = { pushVals nargs m with ctxs := e0 :: m.ctxs })
    (hb : ∀ m3, Inv m3 (exec body m3)) :
    ∃ m3 m', adjustArgs nargs declared (enterCall k declared m2) = some m3 ∧ F (thenTick (exec body m3)) = .ok m' ∧
      Same m m' ∧ Kept m m' := by
  subst h2
  obtain ⟨fs, r, hfl, he⟩ := enterCall_eq k declared { pushVals nargs m with ctxs := e0 :: m.ctxs }
  obtain ⟨m3, ha, h3v, h3c, h3f⟩ := adjustArgs_spec (nargs := nargs) (declared := declared)
    (m1 := enterCall k declared { pushVals nargs m with ctxs := e0 :: m.ctxs }) (rest := m.vs) (by rw [he]; rfl)
  rw [he] at h3c h3f
  obtain ⟨m', hf, h⟩ := safeFinishK_kept hF h3v hfl h3c h3f.ctxs (h3f.kept.left rfl rfl rfl) (thenTick_inv (hb m3))
  exact ⟨m3, m', ha, hf, h⟩

/-- **safe_apply completes** whatever the applied function does, for every number of passed and declared arguments
    (refused at a full control stack: the arguments are dropped again) -/
theorem safeApply_completes (nargs declared : Nat) {body : Prog} (hb : ∀ m3, Inv m3 (exec body m3)) (m : M) :
    ∃ m', execCore (.safeApply nargs declared body) m = .ok m' ∧ Same m m' ∧ Kept m m' := by
  simp only [execCore]
  split
  · exact ⟨m, by simp only [popN_pushVals], Same.rfl' m, Kept.rfl' m⟩
  · rename_i econ0 m2 hs
    obtain ⟨he, h2⟩ := saveContext_of_some hs
    obtain ⟨m3, m', ha, hf, hi⟩ := safeCall_completes (safeFinish_is declared m) h2 hb
    exact ⟨m', by rw [he, safeCtx_ctxOf]; simp only [ha, hf], hi⟩

theorem vitalFinish_good {b : Bool} {tmp : Val} {m m2 : M} {r : Res} (hv : m2.vs = Slot.handler fixNamesId :: m.vs)
    (hc : m2.cs = m.cs) (hx : m2.ctxs = m.ctxs) (hr : Good m2 r) : Good m (vitalFinish b tmp r) := by
  cases r with
  | ok m1 =>
    simp only [vitalFinish, dropTop_cons (hr.vs.trans hv)]
    cases b <;> exact ⟨rfl, hr.cs.trans hc, hr.ctxs.trans hx⟩
  | err m1 => exact (Ext.mk' [Slot.handler fixNamesId] [] hv hc hx).trans hr
  | crash w m1 => exact hx.symm.trans hr

theorem verbFinish_good {m m2 : M} {r : Res} (hs : Same m m2) (hr : Good m2 r) : Good m (verbFinish r) := by
  cases r with
  | ok m1 => exact hs.trans ⟨hr.vs, hr.cs, hr.ctxs⟩
  | err m1 => exact hs.toExt.trans hr
  | crash w m1 => exact hs.ctxs.symm.trans hr

theorem hbFinish_good {m : M} {r : Res} (hr : Good m r) : Good m (hbFinish r) := by
  cases r with
  | ok m1 => exact ⟨hr.vs, hr.cs, hr.ctxs⟩
  | err m1 => exact hr
  | crash w m1 => exact hr

theorem depthCheck_of_some {k : CallKind} {m1 mFull : M} (h : depthCheck k m1 = some mFull) : Ext m1 mFull := by
  unfold depthCheck at h
  by_cases h1 : m1.cs.length ≥ m1.maxDepth
  · rw [if_pos h1] at h; cases h; exact Ext.rfl' m1
  · rw [if_neg h1] at h
    by_cases h2 : (framesOf k == 2) = true ∧ m1.cs.length + 1 ≥ m1.maxDepth
    · rw [if_pos h2] at h; cases h; exact Ext.mk' [] [⟨.fake, m1.r⟩] rfl rfl rfl
    · rw [if_neg h2] at h; cases h

theorem tooDeep_inv {k : CallKind} {m m1 mFull : M} (he : Ext m m1) (h : depthCheck k m1 = some mFull) :
    Inv m (raise "***Too deep recursion." { mFull with errState := mFull.errState ||| Gen.C05.esStackFull }) :=
  raise_inv _ ((he.trans (depthCheck_of_some h)).trans (Ext.mk' [] [] rfl rfl rfl))

/-- destruct_object of a vital object up to the reload: the fix_object_names slot pushed, both names recorded, then the
    object's own name blanked -/
def vitalEnter (b : Bool) (m : M) : M :=
  let m1 : M := { m with vs := Slot.handler fixNamesId :: m.vs, savedMasterName := m.masterName, savedSimulName := m.simulName }
  if b then { m1 with masterName := 0 } else { m1 with simulName := 0 }

theorem vitalEnter_vs (b : Bool) (m : M) : (vitalEnter b m).vs = Slot.handler fixNamesId :: m.vs := by cases b <;> rfl

theorem vitalEnter_cs (b : Bool) (m : M) : (vitalEnter b m).cs = m.cs := by cases b <;> rfl

theorem vitalEnter_fixed (b : Bool) (m : M) : Fixed m (vitalEnter b m) := by
  cases b <;> exact ⟨rfl, rfl, rfl, rfl, rfl, rfl⟩

theorem vitalEnter_saved (b : Bool) (m : M) :
    (vitalEnter b m).savedMasterName = m.masterName ∧ (vitalEnter b m).savedSimulName = m.simulName := by
  cases b <;> exact ⟨rfl, rfl⟩

/-- the `.vital` op when the object's name is not blank: the reload runs from `vitalEnter`, `vitalFinish` gets the name back -/
theorem vital_eq (b : Bool) (body : Prog) (m : M) (hn : (if b then m.masterName else m.simulName) ≠ 0) :
    execCore (.vital b body) m = vitalFinish b (if b then m.masterName else m.simulName) (exec body (vitalEnter b m)) := by
  have : ((if b then m.masterName else m.simulName) == 0) = false := by simpa using hn
  simp only [execCore, this, Bool.false_eq_true, ↓reduceIte, vitalEnter]

/-- the model records the names the object had BEFORE blanking: whatever the reload does, the slot restores them -/
theorem vital_records_before_blanking (b : Bool) (body : Prog) (m : M)
    (hn : (if b then m.masterName else m.simulName) ≠ 0) :
    ∃ m2 : M, execCore (.vital b body) m = vitalFinish b (if b then m.masterName else m.simulName) (exec body m2) ∧
      m2.savedMasterName = m.masterName ∧ m2.savedSimulName = m.simulName ∧ m2.vs = Slot.handler fixNamesId :: m.vs :=
  ⟨vitalEnter b m, vital_eq b body m hn, (vitalEnter_saved b m).1, (vitalEnter_saved b m).2, vitalEnter_vs b m⟩

/-- a destruct of a vital object whose name is blank (its reload is in progress) is refused before anything is recorded -/
theorem vital_nested_refused (b : Bool) (body : Prog) (m : M) (hn : (if b then m.masterName else m.simulName) = 0) :
    execCore (.vital b body) m = raise "*Destruction of vital object is already in progress." m := by
  cases b
  · have : (m.simulName == 0) = true := by simpa using hn
    simp only [execCore, Bool.false_eq_true, ↓reduceIte, this]
  · have : (m.masterName == 0) = true := by simpa using hn
    simp only [execCore, ↓reduceIte, this]

/-- destruct_object of a vital object around the reload (which ran from `vitalEnter b m`) -/
theorem vital_inv (b : Bool) (tmp : Val) {m : M} {r : Res} (hr : Inv (vitalEnter b m) r) : Inv m (vitalFinish b tmp r) := by
  have hv := vitalEnter_vs b m
  have hc := vitalEnter_cs b m
  have hf := vitalEnter_fixed b m
  refine Inv.finish (F := vitalFinish b tmp) (Ext.mk' [Slot.handler fixNamesId] [] hv hc hf.ctxs) hr fun x hs hk => ?_
  simp only [vitalFinish, dropTop_cons (hs.vs.trans hv)]
  have hk' := hf.kept.trans hk
  cases b <;> exact .ok ⟨rfl, hs.cs.trans hc, hs.ctxs.trans hf.ctxs⟩ ⟨hk'.ld, hk'.rd, hk'.verb⟩

theorem execOp_inv_of {o : Op} (h : ∀ m, Inv m (execCore o m)) (m : M) : Inv m (execOp o m) := by
  unfold execOp
  split
  · exact h _
  · exact h _
  · split
    · exact raise_inv _ (tick_same m).toExt
    · exact Inv.of_same (tick_same m) (tick_fixed m).2.2.kept (h _)

theorem call_inv (k : CallKind) (nargs declared : Nat) (body : Prog) (m : M) (hb : ∀ m2, Inv m2 (exec body m2)) :
    Inv m (execCore (.call k nargs declared body) m) := by
  simp only [execCore]
  cases hd : depthCheck k (pushVals nargs m) with
  | some mFull =>
    exact tooDeep_inv (m1 := pushVals nargs m) (Ext.mk' (List.replicate nargs Slot.val) [] rfl rfl rfl) hd
  | none =>
    obtain ⟨fs, r, hfl, he⟩ := enterCall_eq k declared (pushVals nargs m)
    obtain ⟨m2, ha, h2v, h2c, h2f⟩ := adjustArgs_spec (nargs := nargs) (declared := declared)
      (m1 := enterCall k declared (pushVals nargs m)) (rest := m.vs) (by rw [he]; rfl)
    have h2c : m2.cs = fs ++ m.cs := by rw [h2c, he]; rfl
    have h2f : Fixed m m2 := by rw [he] at h2f; exact ⟨h2f.ctxs, h2f.cg, h2f.ld, h2f.rd, h2f.verb, h2f.nva⟩
    simp only [ha]
    have hfin : ∀ r, Inv m2 r → Inv m (callFinish k declared r) := fun r hr =>
      Inv.finish (Ext.mk' _ fs h2v h2c h2f.ctxs) hr fun x hs hk => by
        rw [callFinish_eq (k := k) (hs.vs.trans h2v) hfl (hs.cs.trans h2c)]
        exact .ok ⟨rfl, rfl, hs.ctxs.trans h2f.ctxs⟩ ((h2f.kept.trans hk).congr rfl rfl rfl)
    exact ite_ind (P := fun r => Inv m (callFinish k declared r)) (fun _ => hfin _ (thenTick_inv (hb m2))) (fun _ => hfin _ (hb m2))

/-- an apply made by C code (driver-level evaluations, call_heart_beat): frame pushed, body, F_RETURN, frame popped, result
    dropped -/
theorem topBody_inv (ob : Val) {p : Prog} (hb : ∀ m2, Inv m2 (exec p m2)) (m : M) : Inv m (topBody ob p m) := by
  refine Inv.finish (F := callFinish (.other ob) 0) (m2 := enterCall (.other ob) 0 m) (Ext.mk' [] [⟨.function, m.r⟩] rfl rfl rfl)
    (thenTick_inv (hb _)) fun x hs hk => ?_
  rw [callFinish_eq (k := .other ob) (declared := 0) (fs := [⟨.function, m.r⟩]) (vs0 := m.vs) (cs0 := m.cs) hs.vs rfl hs.cs]
  exact .ok ⟨rfl, rfl, hs.ctxs⟩ ⟨hk.ld, hk.rd, hk.verb⟩

theorem execCore_cb (k : CallKind) (nargs declared : Nat) (body : Prog) (m : M) :
    execCore (.cb k nargs declared body) m = execCore (.call k nargs declared body) m := by
  simp only [execCore]

mutual
theorem exec_inv : ∀ (p : Prog) (m : M), Inv m (exec p m)
  | .nil, m => by simp only [exec]; exact .ok (Same.rfl' m) (Kept.rfl' m)
  | .cons o p, m => by
    have h1 := execOp_inv_of (execCore_inv o) m
    simp only [exec]
    generalize execOp o m = r at h1 ⊢
    cases r with
    | ok m1 => exact Inv.of_same h1.1 h1.2 (exec_inv p m1)
    | err m1 => exact h1
    | crash w m1 => exact h1

theorem execCore_inv : ∀ (o : Op) (m : M), Inv m (execCore o m)
  | .say s, m => by simp only [execCore]; exact .ok ⟨rfl, rfl, rfl⟩ ⟨rfl, rfl, .inl rfl⟩
  | .tmp n body, m => by
    simp only [execCore]
    refine Inv.finish (F := tmpFinish n) (m2 := pushVals n m) (Ext.mk' (List.replicate n Slot.val) [] rfl rfl rfl)
      (exec_inv body _) fun x hs hk => ?_
    simp only [tmpFinish, popN_vals n (rest := m.vs) hs.vs]
    exact .ok ⟨rfl, hs.cs, hs.ctxs⟩ ⟨hk.ld, hk.rd, hk.verb⟩
  | .handler id body, m => by
    simp only [execCore]
    refine Inv.finish (F := handlerFinish) (m2 := { m with vs := Slot.handler (id + 1) :: m.vs, efunCtx := (id + 1) :: m.efunCtx })
      (Ext.mk' [Slot.handler (id + 1)] [] rfl rfl rfl) (exec_inv body _) fun x hs hk => ?_
    simp only [handlerFinish, dropTop_cons hs.vs]
    exact .ok ⟨rfl, hs.cs, hs.ctxs⟩ ⟨hk.ld, hk.rd, hk.verb⟩
  | .setReg r v, m => by
    simp only [execCore]
    cases r <;> exact .ok ⟨rfl, rfl, rfl⟩ ⟨rfl, rfl, .inl rfl⟩
  | .withCg v body, m => by
    simp only [execCore]
    exact Inv.finish (F := withCgFinish m.cg) (m2 := { m with cg := v }) (Ext.mk' [] [] rfl rfl rfl)
      (exec_inv body _) fun x hs hk => .ok ⟨hs.vs, hs.cs, hs.ctxs⟩ ⟨hk.ld, hk.rd, hk.verb⟩
  | .install site fails, m => by
    simp only [execCore]
    refine ite_ind (P := Inv m) (fun _ => ite_ind (P := Inv m) (fun _ => ?_) (fun _ => ?_)) (fun _ => ?_)
    · exact raise_inv _ (Ext.mk' [] [] rfl rfl rfl)
    · exact raise_inv _ (Ext.rfl' m)
    · exact .ok ⟨rfl, rfl, rfl⟩ ⟨rfl, rfl, .inl rfl⟩
  | .call k nargs declared body, m => call_inv k nargs declared body m fun m2 => exec_inv body m2
  | .cb k nargs declared body, m => by
    rw [execCore_cb]; exact call_inv k nargs declared body m fun m2 => exec_inv body m2
  | .catch_ body, m => by
    simp only [execCore]
    split
    · exact raise_inv _ (Ext.rfl' m)
    · rename_i econ m1 hs
      obtain ⟨rfl, rfl⟩ := saveContext_of_some hs
      exact catchFinish_inv (f := ⟨.catch_, m.r⟩) (m2 := { pushFrame .catch_ { m with ctxs := ctxOf m :: m.ctxs } with catchValue := .num 1 })
        rfl rfl rfl ⟨rfl, rfl, .inl rfl⟩ (thenTick_inv (exec_inv body _))
  | .sayCatch, m => by simp only [execCore]; exact .ok ⟨rfl, rfl, rfl⟩ ⟨rfl, rfl, .inl rfl⟩
  | .safeApply nargs declared body, m => by
    obtain ⟨m', h, hi⟩ := safeApply_completes nargs declared (fun m3 => exec_inv body m3) m
    rw [h]; exact hi
  | .safeFp owner nargs declared body, m => by
    simp only [execCore]
    split
    · simp only [popN_pushVals]; exact .ok (Same.rfl' m) (Kept.rfl' m)
    · rename_i econ0 m2 hs
      obtain ⟨he, h2⟩ := saveContext_of_some hs
      rw [he, safeCtx_ctxOf]
      split
      · rename_i mFull hd
        -- the function frame does not fit: the error is raised under the context just saved, which absorbs it
        have hr := raise_rspec "***Too deep recursion." (m0 := { mFull with errState := mFull.errState ||| Gen.C05.esStackFull })
          ((depthCheck_of_some hd).trans (Ext.mk' [] [] rfl rfl rfl))
        generalize raise "***Too deep recursion." { mFull with errState := mFull.errState ||| Gen.C05.esStackFull } = q at hr ⊢
        cases q with
        | ok x => exact hr.elim
        | err m6 =>
          obtain ⟨m', h1, hs, hk, _⟩ := recover_err ((safeFpFinish_is owner declared m).err m6)
            (dv := List.replicate nargs Slot.val) (dc := []) hr.1 (h2 ▸ ⟨rfl, rfl⟩)
          rw [h1]
          exact .ok hs hk
        | crash w x => rw [h2] at hr; cases hr
      · obtain ⟨m3, m', ha, hf, hi⟩ := safeCall_completes (safeFpFinish_is owner declared m) h2 fun m3 => exec_inv body m3
        simp only [ha, hf]; exact hi
  | .raise msg, m => by simp only [execCore]; exact raise_inv _ (Ext.rfl' m)
  | .craise msg, m => by simp only [execCore]; exact raise_inv _ (Ext.rfl' m)
  | .throw_ v, m => by simp only [execCore]; exact throwVal_inv _ (Ext.rfl' m)
  | .raiseLimit, m => by simp only [execCore]; exact raise_inv _ (Ext.mk' [] [] rfl rfl rfl)
  | .load body, m => by
    simp only [execCore]
    refine Inv.finish (F := loadFinish m.cg) (m2 := { m with loadDepth := m.loadDepth + 1 }) (Ext.mk' [] [] rfl rfl rfl)
      (exec_inv body _) fun x hs hk => .ok ⟨hs.vs, hs.cs, hs.ctxs⟩ ⟨?_, hk.rd, hk.verb⟩
    have h : x.loadDepth = m.loadDepth + 1 := hk.ld
    show x.loadDepth - 1 = m.loadDepth
    omega
  | .dhook v body, m => by
    simp only [execCore]
    exact Inv.finish (F := dhookFinish m.restrictDestruct) (m2 := { m with restrictDestruct := v }) (Ext.mk' [] [] rfl rfl rfl)
      (exec_inv body _) fun x hs hk => .ok ⟨hs.vs, hs.cs, hs.ctxs⟩ ⟨hk.ld, rfl, hk.verb⟩
  | .vital isMaster body, m => by
    by_cases hn : (if isMaster then m.masterName else m.simulName) = 0
    · rw [vital_nested_refused _ _ _ hn]; exact raise_inv _ (Ext.rfl' m)
    · rw [vital_eq _ _ _ hn]; exact vital_inv isMaster _ (exec_inv body _)
  | .spread n, m => by simp only [execCore]; exact .ok ⟨rfl, rfl, rfl⟩ ⟨rfl, rfl, .inl rfl⟩
  | .consume, m => by simp only [execCore]; exact .ok ⟨rfl, rfl, rfl⟩ ⟨rfl, rfl, .inl rfl⟩
  | .verb v body, m => by
    simp only [execCore]
    exact Inv.finish (F := verbFinish) (m2 := { m with lastVerb := v }) (Ext.mk' [] [] rfl rfl rfl)
      (exec_inv body _) fun x hs hk => .ok ⟨hs.vs, hs.cs, hs.ctxs⟩ ⟨hk.ld, hk.rd, .inr rfl⟩
  | .heartBeat ob cgv body, m => by
    simp only [execCore]
    cases hd : depthCheck (.other ob) { m with hbCur := ob, cg := cgv } with
    | some mFull => exact tooDeep_inv (m1 := { m with hbCur := ob, cg := cgv }) (Ext.mk' [] [] rfl rfl rfl) hd
    | none =>
      exact Inv.finish (F := hbFinish) (m2 := { m with hbCur := ob, cg := cgv }) (Ext.mk' [] [] rfl rfl rfl)
        (topBody_inv ob (fun m2 => exec_inv body m2) _)
        fun x hs hk => .ok ⟨hs.vs, hs.cs, hs.ctxs⟩ ⟨hk.ld, hk.rd, hk.verb⟩
end

theorem exec_good : ∀ (p : Prog) (m : M), Good m (exec p m) := fun p m => (exec_inv p m).good

theorem execCore_good : ∀ (o : Op) (m : M), Good m (execCore o m) := fun o m => (execCore_inv o m).good

theorem exec_guards : ∀ (p : Prog) (m : M), GuardsKept m (exec p m) := fun p m => (exec_inv p m).guards

theorem execCore_guards : ∀ (o : Op) (m : M), GuardsKept m (execCore o m) := fun o m => (execCore_inv o m).guards

theorem exec_vk : ∀ (p : Prog) (m : M), VK m (exec p m) := fun p m => (exec_inv p m).vk

theorem execCore_vk : ∀ (o : Op) (m : M), VK m (execCore o m) := fun o m => (execCore_inv o m).vk

end NV.C05
