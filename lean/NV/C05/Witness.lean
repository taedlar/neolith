/-
C05 — Lean-checked witnesses: what the repaired defects (input_to, safe_apply, the two guards, the vital-object names)
looked like on the model (small instances), why the side conditions / explicit crash outcome are needed, and instances
of the behaviour at the depth limit, of nested efun callbacks and of the heart-beat switch-off.  The ones about single primitives hold by `rfl`; `exec` is defined
by well-founded recursion and does not evaluate in the kernel, so the ones that run a program are evaluated by `simp`
with the model's definitions (the local simp set below), or follow from a general theorem.
-/
import NV.C05.Props

namespace NV.C05

attribute [local simp] execCore exec execOp saveContext pushFrame tick raise raiseInner throwVal catchable resetGuards
  runHandler runHandlerN tickOr pushVals longjmp thenTick catchFinish safeFinish callFinish leaveCall safeCtx
  restoreContext popFrame popN popStack afterCatch popContext limitBits handlerRegs masterVal enterCall
  adjustArgs framesOf hasReturnTick depthCheck setRegister topBody topFinish tmpFinish loadFinish dhookFinish
  hbOffStep hbFinish verbFinish vitalFinish runSlotHandler fixNamesId dropTop handlerFinish

def okInstalled : Res → Option (List String)
  | .ok m => some m.installed
  | _ => none

def okDepth : Res → Option (Nat × Nat × Nat)     -- (values, frames, contexts) after a completed construct
  | .ok m => some (m.vs.length, m.cs.length, m.ctxs.length)
  | _ => none

def isCrash : Res → Bool
  | .crash _ _ => true
  | _ => false

/-- input_to as it was before `fix: input_to()/get_char() validate the callback …`: set_call first, error after -/
def preFixInputTo : InstallSite := { name := "input_to", failMsg := "nf", beforeLastError := true }
def fixedInputTo : InstallSite := { name := "input_to", failMsg := "nf", beforeLastError := false }

/-- the defect: `catch(input_to("no_such_fn"))` completes, and the half-installed sentence is still there -/
theorem prefix_input_to_leaves_sentence :
    okInstalled (execCore (.catch_ (.cons (.install preFixInputTo true) .nil)) {}) = some ["input_to"] := by
  simp [okInstalled, preFixInputTo]

/-- the repaired order: nothing is installed -/
theorem fixed_input_to_leaves_nothing :
    okInstalled (execCore (.catch_ (.cons (.install fixedInputTo true) .nil)) {}) = some [] := by
  simp [okInstalled, fixedInputTo]

/-- the state in which an error arrives inside a master function that was safe_apply'd with two arguments but
    declares none (they were dropped on entry): the value stack is empty, one frame, one context -/
def surplusErr : M :=
  { vs := [], cs := [Frame.mk FK.function {}], ctxs := [Ctx.mk 2 0 0 0 0 0] }

def leakErr : M :=
  { vs := [Slot.val, Slot.val], cs := [Frame.mk FK.function {}], ctxs := [Ctx.mk 1 0 0 0 0 0] }

/-- the defect repaired by `fix: safe_apply() removes its arguments …`: with the context as saved (save_sp counts
    the two arguments) restore_context computes a negative pop count — the crash outcome -/
theorem prefix_safe_apply_surplus_crashes :
    isCrash (safeFinish { saveSp := 2, saveCsp := 0, saveCg := 0 } [] 0 (.err surplusErr)) = true := rfl

/-- the same state with the repaired context (`save_sp = sp - num_arg`): recovery completes on empty stacks -/
theorem fixed_safe_apply_surplus_recovers :
    okDepth (safeFinish (safeCtx 2 { saveSp := 2, saveCsp := 0, saveCg := 0 }) [] 0 (.err surplusErr)) = some (0, 0, 0) := rfl

/-- and the leak: one argument, one declared, error in the callee — as saved, the argument stays on the stack -/
theorem prefix_safe_apply_leaks_argument :
    okDepth (safeFinish (Ctx.mk 1 0 0 0 0 0) [] 1 (.err leakErr)) = some (1, 0, 0) := rfl

/-- end to end through the model's (repaired) safe_apply: two arguments, none declared, the callee raises -/
theorem fixed_safe_apply_end_to_end :
    okDepth (execCore (.safeApply 2 0 (.cons (.raise "*boom") .nil)) {}) = some (0, 0, 0) := by
  obtain ⟨m', h, hv, hc, hx, _⟩ := safeApply_all_arities 2 0 (.cons (.raise "*boom") .nil) {}
  simp only [h, okDepth, hv, hc, hx, List.length_nil]

/-- the explicit crash outcome: `pop_n_elems (sp - save_sp)` with sp below save_sp -/
theorem negative_pop_is_a_crash :
    isCrash (restoreContext { saveSp := 2, saveCsp := 0, saveCg := 0 } { vs := [Slot.val] }) = true := rfl

/-- why the all-registers clause of `restore_is_inverse` needs its hypothesis: when the first frame pushed after the
    save holds other register values (a register was changed between the save and the push), those are what
    `restore_context` yields -/
theorem changed_register_is_not_restored :
    ∃ m', restoreContext (ctxOf {}) { cs := [Frame.mk FK.function { co := 9 }], r := { co := 3 } } = .ok m' ∧ m'.r.co = 9 :=
  ⟨_, rfl, rfl⟩

def errChain : Res → Option Nat
  | .err m => some m.ctxs.length
  | _ => none

/-- the control stack is full (2 of 2 frames) and one error context exists -/
def fullStack : M :=
  { maxDepth := 2, cs := [Frame.mk FK.function {}, Frame.mk FK.function {}], ctxs := [Ctx.mk 0 0 0 0 0 0] }

/-- a catch placed exactly where save_context refuses: the error "*Can't catch too deep recursion" leaves with the
    chain of one context it found — nothing was linked (a seeded change that linked before the test left 2 / a
    dangling head) -/
theorem catch_at_limit_keeps_chain :
    errChain (execCore (.catch_ (.cons (.say "x") .nil)) fullStack) = some 1 := by
  have h := guards_reset_first_level "*Can't catch too deep recursion error." fullStack
  rw [catch_refused _ _ rfl]
  generalize raise "*Can't catch too deep recursion error." fullStack = r at h ⊢
  cases r with
  | ok x => exact h.elim
  | err m' => simp only [errChain, h.2.2]; rfl
  | crash w x => cases h

/-- a safe apply placed there completes without applying anything: stacks and chain as before -/
theorem safe_apply_at_limit_keeps_chain :
    okDepth (execCore (.safeApply 1 1 (.cons (.say "x") .nil)) fullStack) = some (0, 2, 1) := by
  obtain ⟨m', h, hv, hc, hx, _⟩ := safeApply_all_arities 1 1 (.cons (.say "x") .nil) fullStack
  simp only [h, okDepth, hv, hc, hx]; rfl

def errLoadDepth : Res → Option Int
  | .err m => some m.loadDepth
  | _ => none

def inCatchLoading : M :=
  { loadDepth := 3, inMudlibHandler := true, cs := [Frame.mk FK.catch_ {}], ctxs := [Ctx.mk 0 0 0 0 0 0] }

/-- `throw()` goes straight to longjmp without `error_handler`: unlike an error, a thrown value caught by a catch
    does NOT reset the load-depth guard (observation recorded in notes/C05.md) -/
theorem throw_does_not_reset_guards : errLoadDepth (throwVal "t" inCatchLoading) = some 3 := rfl

def okGuards : Res → Option (Int × Val)
  | .ok m => some (m.loadDepth, m.restrictDestruct)
  | _ => none

/-- the defect repaired by `fix: error contexts save and restore the load-depth and destruct-restriction guards`, on
    the model of the repaired code: `catch(load_object(X))` with a `throw()` in X's create() — the thrown value skips
    `error_handler` (guards untouched, see above) but `restore_context` puts back the values of the catch point -/
theorem caught_throw_in_load_restores_guards :
    okGuards (execCore (.catch_ (.cons (.load (.cons (.throw_ "t") .nil)) .nil)) {}) = some (0, 0) := by
  simp [okGuards]

/-- a catch inside create() (load in progress, depth 1) that catches an error continues at depth 1, so the
    enclosing load ends at 0 — before the repair the counter was cleared by error_handler and ended at -1 -/
theorem catch_in_create_keeps_depth :
    okGuards (execCore (.load (.cons (.catch_ (.cons (.raise "*e") .nil)) .nil)) {}) = some (0, 0) := by
  simp [okGuards]

/-- a throw inside a move_or_destruct() hook caught around destruct(): the restriction is that of the catch point -/
theorem caught_throw_in_dhook_restores_guards :
    okGuards (execCore (.catch_ (.cons (.dhook 7 (.cons (.throw_ "t") .nil)) .nil)) {}) = some (0, 0) := by
  simp [okGuards]

theorem error_resets_guards_example : errLoadDepth (raise "*e" inCatchLoading) = some 0 := rfl

/-- destruct(master()) whose reload fails in create() of the new copy, inside a catch: the fix_object_names slot is run by the
    unwinding and the master carries its name again; the load-depth guard is back as well -/
def vitalBoom : Res :=
  execCore (.catch_ (Prog.ofList [.tmp 1 (Prog.ofList [.vital true (Prog.ofList [.load (Prog.ofList [.raise "*boom"])])])])) {}

theorem failed_master_reload_restores_name :
    (match vitalBoom with | .ok m => some (m.masterName, m.simulName, m.loadDepth, m.vs.length, m.ran) | _ => none) =
      some (1, 2, 0, 0, [fixNamesId]) := by
  simp [vitalBoom, Prog.ofList]

/-- a destruct of the master from inside its own reload is refused before anything is recorded: only the outer destruct has
    pushed a slot, and when the refusal unwinds to the catch that one slot restores the name -/
def vitalNested : Res :=
  execCore (.catch_ (Prog.ofList [.vital true (Prog.ofList [.vital true (Prog.ofList [.say "never"])])])) {}

theorem nested_master_destruct_keeps_name :
    (match vitalNested with | .ok m => some (m.masterName, m.out.length) | _ => none) = some (1, 1) := by
  simp [vitalNested, Prog.ofList]

/-- sort_array inside the comparison callback of a sort_array; the inner callback raises an error that the outer callback
    catches: the inner context is unlinked by its slot (the list holds the outer context only: the trampoline's global points
    at the outer sort again), and when the outer sort returns the list is empty -/
def nestedSort (inner : Prog) : Res :=
  execCore (.handler 7 (Prog.ofList [.cb .local_ 2 2 (Prog.ofList [.catch_ (Prog.ofList [.handler 8 (Prog.ofList [.cb .local_ 2 2 inner])]),
    .say "in-outer-callback"])])) { cs := [Frame.mk FK.function {}], ctxs := [Ctx.mk 0 0 0 0 0 0] }

theorem nested_sort_error_unlinks_inner_context :
    (match nestedSort (Prog.ofList [.raise "*boom"]) with | .ok m => some (m.efunCtx, m.ran, m.vs.length) | _ => none) = some ([], [9], 0) := by
  simp [nestedSort, Prog.ofList]

/-- … seen from inside: right after the catch the list holds exactly the outer context -/
def nestedSortInside : Res :=
  exec (Prog.ofList [.catch_ (Prog.ofList [.handler 8 (Prog.ofList [.cb .local_ 2 2 (Prog.ofList [.raise "*boom"])])])])
    { vs := [Slot.handler 8], efunCtx := [8], cs := [Frame.mk FK.function {}], ctxs := [Ctx.mk 0 0 0 0 0 0] }

theorem after_caught_inner_error_the_outer_context_is_current :
    (match nestedSortInside with | .ok m => some m.efunCtx | _ => none) = some [8] := by
  simp [nestedSortInside, Prog.ofList]

/-- a heart beat that raises an error: recovered by the backend's own context (both stacks empty at the next poll point),
    and error_handler has switched the heart beat of that object off -/
def hbBoom : TopResult := runBackend (Prog.ofList [.heartBeat 5 0 (Prog.ofList [.raise "*boom"])]) 0 {}

theorem heart_beat_error_switches_it_off :
    hbBoom.result = "fault-top" ∧ hbBoom.after.hbOff = [5] ∧ hbBoom.after.hbCur = 0 ∧ hbBoom.after.vs.length = 0 ∧
    hbBoom.after.cs.length = 0 := by
  simp [hbBoom, runBackend, clearState, Prog.ofList]

/-- … and an error inside a safe apply made from heart_beat() switches it off as well, although heart_beat() goes on
    (error_handler does not look at which context receives the error) -/
def hbSafeBoom : TopResult :=
  runBackend (Prog.ofList [.heartBeat 5 0 (Prog.ofList [.safeApply 0 0 (Prog.ofList [.raise "*boom"]), .say "after"])]) 0 {}

theorem safe_apply_error_in_heart_beat_switches_it_off :
    hbSafeBoom.result = "done be" ∧ hbSafeBoom.after.hbOff = [5] := by
  simp [hbSafeBoom, runBackend, clearState, Prog.ofList]

end NV.C05
