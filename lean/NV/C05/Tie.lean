/-
C05 — bridging lemmas between the model and the statement shapes regenerated from the source on every run
(`NV/Gen/C05.lean`, written by `gen_extra` of props/c05.py from src/error_context.c, src/apply.c, src/frame.c,
lib/lpc/functional.c).  A changed C line changes the generated definition and breaks the lemma that mentions it
(obligation broken), independently of the correspondence run.
-/
import NV.C05.Prims

namespace NV.C05

/-- save_context stores `sp` and `csp` unchanged: the model's context is built from the regenerated expressions -/
theorem tie_save_context (m : M) :
    (ctxOf m).saveSp = Gen.C05.saveContextSaveSp m.vs.length ∧ (ctxOf m).saveCsp = Gen.C05.saveContextSaveCsp m.cs.length :=
  ⟨rfl, rfl⟩

/-- safe_apply / safe_call_function_pointer move their recovery point below the arguments: `safeCtx` is that expression -/
theorem tie_safe_recovery_point (e : Ctx) (n : Nat) :
    (safeCtx n e).saveSp = Gen.C05.safeApplySaveSp e.saveSp n ∧ (safeCtx n e).saveSp = Gen.C05.safeFpSaveSp e.saveSp n :=
  ⟨rfl, rfl⟩

/-- restore_context truncates to `save_csp + 1` and pops ONE frame (the model's `drop … (saveCsp + 1)` + one `popFrame`) -/
theorem tie_restore_offset : Gen.C05.restoreCspOffset = 1 ∧ Gen.C05.restorePopFrameCalls = 1 := by decide

/-- both depth tests compare with `&control_stack[MaxCallDepth - 1]` (the model: `cs.length ≥ maxDepth`) -/
theorem tie_depth_tests : Gen.C05.saveContextDepthOffset = 1 ∧ Gen.C05.pushDepthOffset = 1 := by decide

/-- statement orders / presences the model relies on -/
theorem tie_statement_shapes :
    Gen.C05.saveContextRefusesBeforeLinking = true ∧ Gen.C05.saveContextSavesGuards = true ∧
    Gen.C05.restorePopsUnconditionally = true ∧ Gen.C05.restoreRestoresCgAndGuards = true ∧
    Gen.C05.popContextRelinksAndClears = true ∧ Gen.C05.errorHandlerResetsGuardsFirst = true ∧
    Gen.C05.safeApplyPopsArgsAfterRestore = false ∧ Gen.C05.safeFpPopsArgsAfterRestore = false ∧
    Gen.C05.catchKeepsLimitBit = true ∧ Gen.C05.catchPushesFrameRightAfterSave = true := by decide

/-- the frame-kind codes printed in shapes and tested by `catchable` are the regenerated ones -/
theorem tie_frame_codes :
    FK.code .function = Gen.C05.frameFunction ∧ FK.code .funp = Gen.C05.frameFunp ∧
    FK.code .catch_ = Gen.C05.frameCatch ∧ FK.code .fake = Gen.C05.frameFake ∧
    Gen.C05.frameCatch &&& Gen.C05.frameMask = Gen.C05.frameCatch := by decide +kernel

/-! ### which global variables an error unwinding has to put back (regenerated lists, `gen_globals` of props/c05.py) -/

/-- every field of `error_context_t` except the jmp_buf itself is written by save_context -/
theorem tie_context_fields_saved : ∀ f ∈ Gen.C05.ctxFields, f = "context" ∨ f ∈ Gen.C05.ctxSaved := by decide +kernel

/-- **every field saved is restored**: each field save_context writes is read back by restore_context, or — the link to the
    enclosing context — by pop_context -/
theorem tie_every_field_saved_is_restored :
    ∀ f ∈ Gen.C05.ctxSaved, f ∈ Gen.C05.ctxRestored ∨ f ∈ Gen.C05.ctxPopped := by decide +kernel

/-- the global variables an error context holds are exactly the ones the model's `Ctx` (+ the chain) holds:
    `saveCg, (chain), saveCsp, saveVerb, saveLd, saveRd, saveSp` -/
theorem tie_context_globals :
    Gen.C05.ctxHolds.map (·.2) =
      ["command_giver", "current_error_context", "csp", "last_verb", "num_objects_this_thread", "restrict_destruct", "sp"] := by decide +kernel

/-- the registers a control-stack frame saves are exactly the fields of the model's `Saved`
    (`callerType, co, prevOb, fp, prog, pc, fio, vio`; `framekind` is the frame's own tag) -/
theorem tie_frame_registers :
    (Gen.C05.frameSaved.map (·.2)).filter (· ∈ Gen.C05.coreGlobals) =
      ["caller_type", "current_object", "previous_ob", "fp", "current_prog", "pc", "function_index_offset", "variable_index_offset"] := by decide +kernel

/-- every register push_control_stack saves is restored by pop_control_stack from the same frame field -/
theorem tie_frame_saved_is_restored :
    ∀ p ∈ Gen.C05.frameSaved, p.2 ∈ Gen.C05.coreGlobals → (p.2, p.1) ∈ Gen.C05.frameRestored := by
  -- `tie_frame_registers` says which saved values are globals; only those eight are looked up in `frameRestored`
  have h8 : ∀ p ∈ Gen.C05.frameSaved, p.2 ∈ ["caller_type", "current_object", "previous_ob", "fp", "current_prog", "pc",
      "function_index_offset", "variable_index_offset"] → (p.2, p.1) ∈ Gen.C05.frameRestored := by decide +kernel
  intro p hp hg
  refine h8 p hp ?_
  rw [← tie_frame_registers]
  exact List.mem_filter.2 ⟨List.mem_map.2 ⟨p, hp, rfl⟩, by simpa using hg⟩

/-- how each global variable of the interpreter core is dealt with when an error unwinds -/
inductive GClass
  | frame        -- saved in every control-stack frame, restored by pop_control_stack (restore_context pops the first frame)
  | context      -- saved in the error context, restored by restore_context / pop_context
  | handler      -- put back by error_handler itself before the longjmp (or by the receiving construct: do_catch, pop_context)
  | loop         -- cleared by the resume point (top of the backend loop)
  | balanced     -- pushed and popped around a call that cannot longjmp past it (`tie_command_giver_stack`)
  | scratch      -- written before every use, never read across an evaluation
  | fixed        -- set up at start-up / a table / a statistic; not evaluation state
  deriving DecidableEq, Repr

def classOf (g : String) : Option GClass :=
  if g ∈ ["caller_type", "current_object", "previous_ob", "fp", "current_prog", "pc", "function_index_offset",
          "variable_index_offset"] then some .frame
  else if g ∈ ["command_giver", "current_error_context", "csp", "sp", "num_objects_this_thread", "restrict_destruct",
               "last_verb"] then some .context
  else if g ∈ ["in_error", "in_mudlib_error_handler", "mudlib_error_handler_context", "handler_limit_state", "error_state",
               "catch_value"] then some .handler
  else if g ∈ ["current_interactive"] then some .loop
  else if g ∈ ["cgsp", "command_giver_stack", "command_giver_held"] then some .balanced
  else if g ∈ ["num_varargs", "st_num_arg", "call_origin", "apply_ret_value", "global_lvalue_byte", "global_lvalue_range",
               "global_lvalue_range_sv", "lvalue_byte_in_buffer", "illegal_sentence_action", "inherit_file"] then some .scratch
  else if g ∈ ["apply_low_cache_hits", "apply_low_call_others", "apply_low_collisions", "apply_low_slots_used", "cache",
               "const0", "const0u", "const1", "control_stack", "efun_table", "end_of_stack", "start_of_stack", "master_ob",
               "obj_list", "obj_list_destruct", "proceeding_fatal_error", "saved_master_name", "saved_simul_name",
               "type_names"] then some .fixed
  else none

/-- one sweep over the regenerated lists: every global has a class, the two classes the model relies on are backed by the
    regenerated save lists, and no hook variable is among the globals.  (One declaration: the kernel converts each string
    literal it compares once per declaration, and converting the 54 names is most of what such a check costs.) -/
theorem globals_classified :
    (∀ g ∈ Gen.C05.coreGlobals,
      (classOf g).isSome = true ∧ (classOf g = some .frame → g ∈ Gen.C05.frameSaved.map (·.2)) ∧
      (classOf g = some .context → g ∈ Gen.C05.ctxHolds.map (·.2))) ∧
    ∀ g ∈ Gen.C05.hookGlobals, g ∉ Gen.C05.coreGlobals := by decide +kernel

/-- **no unclassified interpreter global**: a global variable added to interpret.c / frame.c / stack.c / error_context.c /
    apply.c / simulate.c has to be looked at (is it saved? reset?) before this obligation holds again -/
theorem tie_all_globals_classified : ∀ g ∈ Gen.C05.coreGlobals, (classOf g).isSome = true :=
  fun g hg => (globals_classified.1 g hg).1

/-- every global classified `frame` really is saved by push_control_stack, every one classified `context` by save_context -/
theorem tie_classes_match_source :
    (∀ g ∈ Gen.C05.coreGlobals, classOf g = some .frame → g ∈ Gen.C05.frameSaved.map (·.2)) ∧
    (∀ g ∈ Gen.C05.coreGlobals, classOf g = some .context → g ∈ Gen.C05.ctxHolds.map (·.2)) :=
  ⟨fun g hg => (globals_classified.1 g hg).2.1, fun g hg => (globals_classified.1 g hg).2.2⟩

/-- the command_giver save stack has one user and nothing between its push and its pop can longjmp -/
theorem tie_command_giver_stack : Gen.C05.cgStackUsers = 1 ∧ Gen.C05.cgStackUnsafeCalls = [] := by decide

/-- the efuns the generator drives with a `handler` slot (and destruct_object of a vital object) still leave a
    T_ERROR_HANDLER slot across their callbacks (inventory `Gen.C05.callbackSites`, regenerated from the source) -/
theorem tie_callback_handlers :
    ∀ f ∈ ["f_unique_array", "f_sort_array", "f_unique_mapping", "destruct_object"], (f, true) ∈ Gen.C05.callbackSites := by decide +kernel

/-- catch_value is a global that every catch() run by the master's error handler overwrites: error_handler assigns the
    message to it only after that handler has returned (the model's `raise`: `runHandler … true`, THEN `catchValue := .msg msg`) -/
theorem tie_catch_value_order : Gen.C05.errorHandlerSetsCatchValueAfterHandler = true := by decide

/-- an error raised inside the master's handler clears "in the mudlib error handler" only when it is delivered to the
    context that was current at the handler's entry.  The model's handler (`runHandlerN`) never saves a context of its own,
    so in the model every second-level error abandons the handler and `raiseInner` / `raise` clear the flag
    unconditionally; handlers that run catch() themselves are exercised on the real driver (`b-handler-script-*`). -/
theorem tie_handler_flag : Gen.C05.errorHandlerKeepsFlagInsideHandler = true := by decide

/-- the limit bits (ES_STACK_FULL / ES_MAX_EVAL_COST) of the error the master's handler runs for are recorded at the entry,
    set again when the handler returns and re-instated for an error that abandons the handler — in the same guarded block
    that clears the flag; an error caught by the handler's own catch sees its own state.  In the model nothing inside the
    handler clears `errState` (`runHandlerN` completes no catch), so `raiseInner` / `raise` deliver it unchanged. -/
theorem tie_handler_limit_state : Gen.C05.errorHandlerKeepsLimitState = true := by decide

/-- variables of verification hooks (only mentioned inside `#ifdef NEOLITH_VERIF`) are not part of `coreGlobals` -/
theorem tie_hook_globals_apart : ∀ g ∈ Gen.C05.hookGlobals, g ∉ Gen.C05.coreGlobals := globals_classified.2

/-- the T_ERROR_HANDLER slots the model knows (`handler id` ops; `fixNamesId` for destruct_object) still exist in the source -/
theorem tie_error_handler_slots :
    ∀ p ∈ [("simulate.c", "fix_object_names"), ("array.c", "unique_array_error_handler"), ("array.c", "sort_array_unlink"),
           ("mapping.c", "unique_mapping_error_handler"), ("parse.c", "parse_clean_up")], p ∈ Gen.C05.errorHandlerSlots := by decide +kernel

/-- destruct_object of a vital object: slot pushed and both names recorded BEFORE the name is blanked (the model's `.vital`
    case builds `m1` — slot + recorded names — from `m`, and blanks in `m2`); fix_object_names restores both (`runSlotHandler`) -/
theorem tie_vital_destruct_order :
    Gen.C05.destructRecordsNamesBeforeBlanking = true ∧ Gen.C05.fixObjectNamesRestoresBoth = true := by decide

/-- every registered handler still puts back the C state its efun keeps across callbacks: sort_array_unlink pops the sort
    context AND points the comparison trampoline's global (`sort_array_ftc`) at the enclosing sort again; the unique_* handlers
    unlink their list heads; fix_object_names restores both names.  (Model: `runSlotHandler` — fix_object_names restores the
    names, every other handler unlinks the head of `efunCtx`; `popN_unlinks_efun_contexts`.  On the driver: nested efun-callback
    cases, no crash, outer result correct by value.) -/
theorem tie_handler_effects :
    ∀ p ∈ [("sort_array_unlink", "sort_array_ftc"), ("sort_array_unlink", "sort_ctx_top"),
           ("unique_array_error_handler", "g_u_list"), ("unique_mapping_error_handler", "g_u_m_list"),
           ("fix_object_names", "master_ob->name"), ("fix_object_names", "simul_efun_ob->name")],
      p ∈ Gen.C05.handlerAssigns := by decide +kernel

/-- F_EFUNV takes and clears the spread count before it checks the argument types: an error raised BY the instruction
    (Bad argument N) finds num_varargs = 0 (the model: `consume`, then the `craise` of the type error) -/
theorem tie_spread_count : Gen.C05.efunvClearsSpreadCountBeforeTypeCheck = true := by decide

/-- restore_context unwinds the control stack only when a frame was pushed since the recovery point was set
    (the model: `if m1.cs.length > e.saveCsp then … popFrame … else some m1`) -/
theorem tie_restore_frameless : Gen.C05.restoreTestsCspBeforeUnwinding = true := by decide

/-- restore_context clears the spread count (regenerated: the statement is there) -/
theorem tie_restore_clears_spread_count : Gen.C05.restoreClearsSpreadCount = true := by decide

/-- no handler of a T_ERROR_HANDLER slot calls back into LPC or raises an error: running one while the stack is unwound
    cannot start another unwinding (the model's `runSlotHandler` is a plain state update) -/
theorem tie_error_handlers_are_leaves : Gen.C05.errorHandlersThatCallBack = [] := by decide

/-- the recovery points of backend.c have the shape `runBackend` / the sweep ops mirror; error_handler switches the
    heart beat off last (the model's `hbOffStep` sits in the same three branches) -/
theorem tie_backend_shapes :
    Gen.C05.backendRecoveryShape = true ∧ Gen.C05.sweepRecoveryShape = true ∧
    Gen.C05.heartBeatSetsRegistersBeforeFrame = true ∧ Gen.C05.errorHandlerHeartBeatOffLast = true := by decide

end NV.C05
