/-
C05 — how the primitives of the model act on the value stack, the control stack, the error-context chain and the
scalars an error context saves.  Each primitive is characterised once, here; the invariants (NV/C05/Exec.lean) and the
property theorems are proved from these statements without unfolding the primitives again.
-/
import NV.C05.Model

namespace NV.C05

/-- ids of the T_ERROR_HANDLER slots of a stack segment, top first -/
def handlerIds : List Slot → List Nat
  | [] => []
  | .val :: t => handlerIds t
  | .handler id :: t => id :: handlerIds t

/-- `m'` is `m` except for the value stack, the list of executed handlers and what a slot handler writes
    (`runSlotHandler`: the two vital-object names, `efunCtx`) -/
def SameButVsRan (m m' : M) : Prop :=
  m' = { m with vs := m'.vs, ran := m'.ran, masterName := m'.masterName, simulName := m'.simulName, efunCtx := m'.efunCtx }

/-- the context `save_context` stores in state `s` -/
def ctxOf (s : M) : Ctx :=
  { saveSp := s.vs.length, saveCsp := s.cs.length, saveCg := s.cg, saveLd := s.loadDepth, saveRd := s.restrictDestruct,
    saveVerb := s.lastVerb }

/-- a property of both branches is a property of the `if` (`split` is slow on the large state terms of this model) -/
theorem ite_ind {α : Sort _} {P : α → Prop} {c : Prop} [Decidable c] {a b : α} (ha : c → P a) (hb : ¬c → P b) :
    P (if c then a else b) := by
  by_cases h : c
  · rw [if_pos h]; exact ha h
  · rw [if_neg h]; exact hb h

/-- what pushing and popping (values, frames) never touches: the chain and the scalars an error context saves -/
structure Fixed (m m' : M) : Prop where
  ctxs : m'.ctxs = m.ctxs
  cg : m'.cg = m.cg
  ld : m'.loadDepth = m.loadDepth
  rd : m'.restrictDestruct = m.restrictDestruct
  verb : m'.lastVerb = m.lastVerb
  nva : m'.numVarargs = m.numVarargs

theorem Fixed.rfl' (m : M) : Fixed m m := ⟨rfl, rfl, rfl, rfl, rfl, rfl⟩

theorem Fixed.trans {a b c : M} (h1 : Fixed a b) (h2 : Fixed b c) : Fixed a c :=
  ⟨h2.ctxs.trans h1.ctxs, h2.cg.trans h1.cg, h2.ld.trans h1.ld, h2.rd.trans h1.rd, h2.verb.trans h1.verb,
    h2.nva.trans h1.nva⟩

theorem Fixed.stacks (m : M) (vs : List Slot) (cs : List Frame) (r : Saved) : Fixed m { m with vs := vs, cs := cs, r := r } :=
  ⟨rfl, rfl, rfl, rfl, rfl, rfl⟩

theorem SameButVsRan.fixed {m m' : M} (h : SameButVsRan m m') : Fixed m m' :=
  have h : m' = _ := h
  ⟨(congrArg M.ctxs h :), (congrArg M.cg h :), (congrArg M.loadDepth h :), (congrArg M.restrictDestruct h :),
    (congrArg M.lastVerb h :), (congrArg M.numVarargs h :)⟩

theorem SameButVsRan.cs {m m' : M} (h : SameButVsRan m m') : m'.cs = m.cs :=
  (congrArg M.cs (show m' = _ from h) :)

theorem popStack_val {m : M} {t : List Slot} (h : m.vs = .val :: t) : popStack m = some { m with vs := t } := by
  unfold popStack; rw [h]

theorem popStack_handler {m : M} {id : Nat} {t : List Slot} (h : m.vs = .handler id :: t) :
    popStack m = some (runSlotHandler id { m with vs := t, ran := id :: m.ran }) := by
  unfold popStack; rw [h]

theorem popN_succ {n : Nat} {m m1 : M} (h : popStack m = some m1) : popN (n + 1) m = popN n m1 := by
  simp only [popN, h]

theorem popStack_cons {m : M} {s : Slot} {t : List Slot} (h : m.vs = s :: t) :
    ∃ m', popStack m = some m' ∧ m'.vs = t ∧ m'.ran = handlerIds [s] ++ m.ran ∧ SameButVsRan m m' := by
  cases s with
  | val => exact ⟨_, popStack_val h, rfl, rfl, rfl⟩
  | handler id => exact ⟨_, popStack_handler h, rfl, rfl, rfl⟩

/-- ids of the efun contexts registered by the slots of a stack segment, top first (the fix_object_names slot registers none) -/
def efunIds (dv : List Slot) : List Nat := (handlerIds dv).filter (· != fixNamesId)

/-- unwinding a stack segment, in closed form: the slots are gone, the handlers of its T_ERROR_HANDLER slots ran top first,
    fix_object_names (if among them) put the two recorded names back, every other handler unlinked one efun context -/
theorem popN_segment (dv : List Slot) : ∀ (m : M) (rest : List Slot), m.vs = dv ++ rest →
    popN dv.length m = some
      { m with vs := rest, ran := (handlerIds dv).reverse ++ m.ran,
               masterName := if fixNamesId ∈ handlerIds dv then m.savedMasterName else m.masterName,
               simulName := if fixNamesId ∈ handlerIds dv then m.savedSimulName else m.simulName,
               efunCtx := m.efunCtx.drop (efunIds dv).length } := by
  induction dv with
  | nil => intro m rest h; simp only [List.nil_append] at h; subst h; rfl
  | cons s dv ih =>
    intro m rest h
    cases s with
    | val => exact (popN_succ (popStack_val h)).trans (ih { m with vs := dv ++ rest } rest rfl)
    | handler id =>
      -- the handler ran on the state without the slot; what it wrote is what the closed form says for `id :: ids`
      refine (popN_succ (popStack_handler h)).trans ((ih _ rest rfl).trans (congrArg some ?_))
      by_cases h1 : id = fixNamesId
      · subst h1; simp [efunIds, handlerIds, runSlotHandler]
      · simp [efunIds, handlerIds, runSlotHandler, h1, Ne.symm h1]

theorem popN_append (dv : List Slot) : ∀ (m : M) (rest : List Slot), m.vs = dv ++ rest →
    ∃ m', popN dv.length m = some m' ∧ m'.vs = rest ∧ m'.ran = (handlerIds dv).reverse ++ m.ran ∧ SameButVsRan m m' :=
  fun m rest h => ⟨_, popN_segment dv m rest h, rfl, rfl, rfl⟩

/-- popping plain values runs no handler: only the value stack changes -/
theorem popN_vals : ∀ (n : Nat) {m : M} {rest : List Slot}, m.vs = List.replicate n Slot.val ++ rest →
    popN n m = some { m with vs := rest }
  | 0, m, rest, h => by cases (show m.vs = rest from h); rfl
  | n + 1, m, rest, h =>
    (popN_succ (popStack_val (t := List.replicate n Slot.val ++ rest) h)).trans (popN_vals n rfl)

/-- whatever `popN` pops: `n` slots are gone and nothing else has moved -/
theorem popN_of_some : ∀ (n : Nat) (m m' : M), popN n m = some m' →
    ∃ dv, dv.length = n ∧ m.vs = dv ++ m'.vs ∧ m'.cs = m.cs ∧ Fixed m m'
  | 0, m, m', h => by cases h; exact ⟨[], rfl, rfl, rfl, Fixed.rfl' m⟩
  | n + 1, m, m', h => by
    simp only [popN] at h
    cases hv : m.vs with
    | nil => simp only [popStack, hv] at h; cases h
    | cons s t =>
      obtain ⟨m1, h1, hv1, _, hs1⟩ := popStack_cons hv
      rw [h1] at h
      obtain ⟨dv, hl, hd, hc, hf⟩ := popN_of_some n m1 m' h
      exact ⟨s :: dv, by simp [hl], by rw [← hv1, hd]; rfl, hc.trans hs1.cs, hs1.fixed.trans hf⟩

/-- unwinding a stack segment that contains the fix_object_names slot puts both names back to the recorded ones, unwinding
    a segment without it leaves them alone -/
theorem popN_fixNames (dv : List Slot) : ∀ (m : M) (rest : List Slot), m.vs = dv ++ rest →
    ∃ m', popN dv.length m = some m' ∧
      (fixNamesId ∈ handlerIds dv → m'.masterName = m.savedMasterName ∧ m'.simulName = m.savedSimulName) ∧
      (fixNamesId ∉ handlerIds dv → m'.masterName = m.masterName ∧ m'.simulName = m.simulName) ∧
      m'.savedMasterName = m.savedMasterName ∧ m'.savedSimulName = m.savedSimulName :=
  fun m rest h => ⟨_, popN_segment dv m rest h, fun hin => ⟨if_pos hin, if_pos hin⟩, fun hnin => ⟨if_neg hnin, if_neg hnin⟩, rfl, rfl⟩

/-- `sp--`: the slot goes, its handler does not run -/
theorem dropTop_cons {m : M} {s : Slot} {t : List Slot} (h : m.vs = s :: t) : dropTop m = some { m with vs := t } := by
  unfold dropTop; rw [h]

theorem popFrame_cons {m : M} {f : Frame} {rest : List Frame} (h : m.cs = f :: rest) :
    popFrame m = some { m with r := f.saved, cs := rest } := by
  unfold popFrame; rw [h]

theorem popFrame_of_some {m m' : M} (h : popFrame m = some m') : ∃ f rest, m.cs = f :: rest ∧ m' = { m with r := f.saved, cs := rest } := by
  cases hc : m.cs with
  | nil => simp only [popFrame, hc] at h; cases h
  | cons f rest => rw [popFrame_cons hc] at h; cases h; exact ⟨f, rest, rfl, rfl⟩

/-- a dispatched instruction moves the fault countdown (and records the shape when it fires), nothing else -/
theorem tick_eq (m : M) : ∃ f s, (tick m).2 = { m with fault := f, shape := s } := by
  unfold tick
  split
  · exact ⟨_, _, rfl⟩
  · exact ⟨_, _, rfl⟩
  · split <;> exact ⟨_, _, rfl⟩

theorem tick_fixed (m : M) : (tick m).2.vs = m.vs ∧ (tick m).2.cs = m.cs ∧ Fixed m (tick m).2 := by
  obtain ⟨f, s, h⟩ := tick_eq m
  rw [h]; exact ⟨rfl, rfl, rfl, rfl, rfl, rfl, rfl, rfl⟩

theorem enterCall_eq (k : CallKind) (d : Nat) (m : M) :
    ∃ fs r, fs.length = framesOf k ∧ enterCall k d m = { m with r := r, cs := fs ++ m.cs } := by
  cases k with
  | local_ => exact ⟨[⟨.function, m.r⟩], _, rfl, rfl⟩
  | other ob => exact ⟨[⟨.function, m.r⟩], _, rfl, rfl⟩
  | fpLocal owner => exact ⟨[⟨.function, _⟩, ⟨.fake, m.r⟩], _, rfl, rfl⟩
  | functional owner => exact ⟨[⟨.funp, _⟩, ⟨.fake, m.r⟩], _, rfl, rfl⟩
  | efunp owner => exact ⟨[⟨.fake, m.r⟩], _, rfl, rfl⟩

theorem adjustArgs_spec {nargs declared : Nat} {m1 : M} {rest : List Slot}
    (hv : m1.vs = List.replicate nargs Slot.val ++ rest) :
    ∃ m2, adjustArgs nargs declared m1 = some m2 ∧ m2.vs = List.replicate declared Slot.val ++ rest ∧
      m2.cs = m1.cs ∧ Fixed m1 m2 := by
  unfold adjustArgs
  split
  · have hsplit : m1.vs = List.replicate (nargs - declared) Slot.val ++ (List.replicate declared Slot.val ++ rest) := by
      rw [hv, ← List.append_assoc, List.replicate_append_replicate]
      congr 2; omega
    exact ⟨_, popN_vals _ hsplit, rfl, rfl, Fixed.stacks m1 _ _ _⟩
  · refine ⟨_, rfl, ?_, rfl, Fixed.stacks m1 _ _ _⟩
    show List.replicate (declared - nargs) Slot.val ++ m1.vs = _
    rw [hv, ← List.append_assoc, List.replicate_append_replicate]
    congr 2; omega

/-- the registers a returning call and `restore_context` end with: those saved in the frame of `dc` that was pushed first (its
    last), the current ones when `dc` is empty -/
def firstSaved (dc : List Frame) (r : Saved) : Saved :=
  match dc.getLast? with
  | some f => f.saved
  | none => r

theorem firstSaved_eq {dc : List Frame} {r x : Saved} (hnil : dc = [] → r = x) (hlast : ∀ f, dc.getLast? = some f → f.saved = x) :
    firstSaved dc r = x := by
  unfold firstSaved
  cases hd : dc.getLast? with
  | none => exact hnil (List.getLast?_eq_none_iff.mp hd)
  | some f => exact hlast f hd

/-- leaving a call whose locals and frames sit on top of `vs0` / `cs0`: the result is pushed, the frames are gone, the
    frame registers are those saved in the frame pushed first -/
theorem leaveCall_eq {k : CallKind} {declared : Nat} {m4 : M} {vs0 : List Slot} {cs0 fs : List Frame}
    (hv : m4.vs = List.replicate declared Slot.val ++ vs0) (hl : fs.length = framesOf k) (hc : m4.cs = fs ++ cs0) :
    leaveCall k declared m4 = .ok { m4 with vs := Slot.val :: vs0, cs := cs0, r := firstSaved fs m4.r } := by
  have two_or_one : framesOf k = 1 ∨ framesOf k = 2 := by cases k <;> simp [framesOf]
  rcases two_or_one with h1 | h2
  · rw [h1] at hl
    match fs, hl with
    | [f], _ =>
      have hne : (framesOf k == 2) = false := by rw [h1]; rfl
      simp only [leaveCall, popN_vals declared hv, popFrame_cons (m := pushVals 1 { m4 with vs := vs0 }) (f := f) (rest := cs0) hc, hne]
      rfl
  · rw [h2] at hl
    match fs, hl with
    | [f, g], _ =>
      have heq : (framesOf k == 2) = true := by rw [h2]; rfl
      simp only [leaveCall, popN_vals declared hv, popFrame_cons (m := pushVals 1 { m4 with vs := vs0 }) (f := f) (rest := g :: cs0) hc,
        heq, popFrame_cons (m := { pushVals 1 { m4 with vs := vs0 } with r := f.saved, cs := g :: cs0 }) (f := g) (rest := cs0) rfl]
      rfl

/-- after the callee's body completed in a state with the locals and the call's frames on top: everything the call
    pushed is gone again -/
theorem callFinish_eq {k : CallKind} {declared : Nat} {m4 : M} {vs0 : List Slot} {cs0 fs : List Frame}
    (hv : m4.vs = List.replicate declared Slot.val ++ vs0) (hl : fs.length = framesOf k) (hc : m4.cs = fs ++ cs0) :
    callFinish k declared (.ok m4) = .ok { m4 with vs := vs0, cs := cs0, r := firstSaved fs m4.r } := by
  simp only [callFinish, leaveCall_eq hv hl hc,
    popN_vals 1 (m := { m4 with vs := Slot.val :: vs0, cs := cs0, r := firstSaved fs m4.r }) (rest := vs0) rfl]

theorem saveContext_of_some {m m1 : M} {econ : Ctx} (h : saveContext m = some (econ, m1)) :
    econ = ctxOf m ∧ m1 = { m with ctxs := econ :: m.ctxs } := by
  simp only [saveContext] at h
  split at h
  · cases h
  · cases h; exact ⟨rfl, rfl⟩

theorem saveContext_verb {m m1 : M} {econ : Ctx} (h : saveContext m = some (econ, m1)) : econ.saveVerb = m.lastVerb := by
  rw [(saveContext_of_some h).1]; rfl

/-- save_context refuses exactly when the control stack holds MaxCallDepth frames (`csp == &control_stack[MAX-1]`);
    a refusal returns before anything is stored or linked: there is no new state, the caller continues in `m` -/
theorem saveContext_refuses_iff (m : M) : saveContext m = none ↔ m.maxDepth ≤ m.cs.length := by
  unfold saveContext
  constructor
  · intro h
    split at h
    · assumption
    · cases h
  · intro h
    simp [h]

/-- a restore_context that completes has put the saved scalars back, cut the control stack (to some `cs`, with frame
    registers `r`) and then popped the value stack down to the saved depth -/
theorem restoreContext_of_ok {e : Ctx} {m m' : M} (h : restoreContext e m = .ok m') :
    ∃ cs r, e.saveSp ≤ m.vs.length ∧
      popN (m.vs.length - e.saveSp) { m with cg := e.saveCg, loadDepth := e.saveLd, restrictDestruct := e.saveRd,
                                               lastVerb := e.saveVerb, numVarargs := 0, cs := cs, r := r } = some m' := by
  simp only [restoreContext] at h
  split at h
  · cases h
  · rename_i m2 h2
    have g2 : ∃ cs r, m2 = { m with cg := e.saveCg, loadDepth := e.saveLd, restrictDestruct := e.saveRd,
                                    lastVerb := e.saveVerb, numVarargs := 0, cs := cs, r := r } := by
      split at h2
      · obtain ⟨f, rest, _, rfl⟩ := popFrame_of_some h2; exact ⟨rest, f.saved, rfl⟩
      · cases h2; exact ⟨m.cs, m.r, rfl⟩
    obtain ⟨cs, r, rfl⟩ := g2
    split at h
    · cases h
    · rename_i hlt
      split at h
      · cases h
      · rename_i m3 h3
        cases h
        exact ⟨cs, r, Nat.le_of_not_lt hlt, h3⟩

/-- restore_context puts back what save_context stored, whatever the stacks look like -/
theorem restoreContext_saved {e : Ctx} {m m' : M} (h : restoreContext e m = .ok m') :
    m'.cg = e.saveCg ∧ m'.loadDepth = e.saveLd ∧ m'.restrictDestruct = e.saveRd ∧ m'.lastVerb = e.saveVerb ∧
      m'.numVarargs = 0 := by
  obtain ⟨cs, r, _, hp⟩ := restoreContext_of_ok h
  obtain ⟨_, _, _, _, f⟩ := popN_of_some _ _ _ hp
  exact ⟨f.cg, f.ld, f.rd, f.verb, f.nva⟩

/-- `restore_context` puts `last_verb` back (the repaired code: save_context records it) -/
theorem restoreContext_verb {e : Ctx} {m m' : M} (h : restoreContext e m = .ok m') : m'.lastVerb = e.saveVerb :=
  (restoreContext_saved h).2.2.2.1

/-- **state-restored includes the interpreter's scratch state**: after `restore_context` the spread count is 0, whatever the
    abandoned evaluation left in it (an error raised at the consuming instruction before it executed) -/
theorem restoreContext_spread {e : Ctx} {m m' : M} (h : restoreContext e m = .ok m') : m'.numVarargs = 0 :=
  (restoreContext_saved h).2.2.2.2

theorem restoreContext_guards {e : Ctx} {m5 m6 : M} (h : restoreContext e m5 = .ok m6) :
    m6.loadDepth = e.saveLd ∧ m6.restrictDestruct = e.saveRd :=
  ⟨(restoreContext_saved h).2.1, (restoreContext_saved h).2.2.1⟩

/-- **frameless error**: when no frame was pushed since the recovery point was set (and no value either), restore_context
    leaves the control stack and ALL frame registers exactly as they are — it does not read the stale frame above csp -/
theorem restoreContext_frameless (e : Ctx) (m : M) (hc : m.cs.length = e.saveCsp) (hv : m.vs.length = e.saveSp) :
    ∃ m', restoreContext e m = .ok m' ∧ m'.cs = m.cs ∧ m'.r = m.r ∧ m'.vs = m.vs := by
  refine ⟨{ m with cg := e.saveCg, loadDepth := e.saveLd, restrictDestruct := e.saveRd, lastVerb := e.saveVerb, numVarargs := 0 }, ?_, rfl, rfl, rfl⟩
  simp [restoreContext, hc, hv, popN]

/-- the control-stack step of `restoreContext` (the `if` its body opens with, in the form `simp only [restoreContext]` shows
    it) on a control stack that extends `cs0`: `csp = save_csp + 1`, one pop_control_stack -/
theorem restoreContext_cutFrames (x : M) (dc cs0 : List Frame) (hc : x.cs = dc ++ cs0) :
    (if x.cs.length > cs0.length then popFrame { x with cs := x.cs.drop (x.cs.length - (cs0.length + 1)) } else some x) =
      some { x with cs := cs0, r := firstSaved dc x.r } := by
  rcases List.eq_nil_or_concat dc with hnil | ⟨dc', f, hcat⟩
  · subst hnil
    have : cs0 = x.cs := hc.symm
    subst this
    rw [if_neg (Nat.lt_irrefl _)]; rfl
  · subst hcat
    have hlen : x.cs.length > cs0.length := by rw [hc]; simp; omega
    have hdrop : x.cs.drop (x.cs.length - (cs0.length + 1)) = f :: cs0 := by
      rw [hc, show (dc'.concat f ++ cs0).length - (cs0.length + 1) = dc'.length by simp]; simp
    rw [if_pos hlen, hdrop, popFrame_cons (f := f) (rest := cs0) rfl]
    simp [firstSaved]

/-- restore_context in closed form, on a state whose stacks extend the stacks at the save point (`vs0`, `cs0`): the saved
    scalars are back, the control stack is cut with the registers of the first frame pushed after the save, and the value-stack
    segment above the save point is unwound (`popN_segment`) -/
theorem restoreContext_eq {e : Ctx} {m' : M} {dv vs0 : List Slot} {dc cs0 : List Frame} (hv : m'.vs = dv ++ vs0)
    (hc : m'.cs = dc ++ cs0) (hsp : vs0.length = e.saveSp) (hcsp : cs0.length = e.saveCsp) :
    restoreContext e m' = .ok
      { m' with cg := e.saveCg, loadDepth := e.saveLd, restrictDestruct := e.saveRd, lastVerb := e.saveVerb, numVarargs := 0,
                cs := cs0, r := firstSaved dc m'.r, vs := vs0, ran := (handlerIds dv).reverse ++ m'.ran,
                masterName := if fixNamesId ∈ handlerIds dv then m'.savedMasterName else m'.masterName,
                simulName := if fixNamesId ∈ handlerIds dv then m'.savedSimulName else m'.simulName,
                efunCtx := m'.efunCtx.drop (efunIds dv).length } := by
  have h2 := restoreContext_cutFrames
    { m' with cg := e.saveCg, loadDepth := e.saveLd, restrictDestruct := e.saveRd, lastVerb := e.saveVerb, numVarargs := 0 } dc cs0 hc
  have hp := popN_segment dv
    { m' with cg := e.saveCg, loadDepth := e.saveLd, restrictDestruct := e.saveRd, lastVerb := e.saveVerb, numVarargs := 0,
              cs := cs0, r := firstSaved dc m'.r } vs0 hv
  have hlt : ¬ (m'.vs.length < vs0.length) := by rw [hv]; simp
  have hn : m'.vs.length - vs0.length = dv.length := by rw [hv]; simp
  simp only [restoreContext, ← hsp, ← hcsp, h2, hlt, ↓reduceIte, hn, hp]

/-- restore_context on a state whose stacks extend the stacks at the save point: the value stack and the control
    stack are back, command_giver is the saved one, the chain is untouched, exactly the handlers of the popped
    segment ran (top first), and the registers are those saved in the first frame pushed after the save -/
theorem restoreContext_ext (m' : M) (dv : List Slot) (vs0 : List Slot) (dc : List Frame) (cs0 : List Frame)
    (cg0 : Val) (hv : m'.vs = dv ++ vs0) (hc : m'.cs = dc ++ cs0) (ld0 : Int := 0) (rd0 : Val := 0) (vb0 : Val := 0) :
    ∃ m'', restoreContext { saveSp := vs0.length, saveCsp := cs0.length, saveCg := cg0, saveLd := ld0, saveRd := rd0, saveVerb := vb0 } m' = .ok m'' ∧
      m''.vs = vs0 ∧ m''.cs = cs0 ∧ m''.cg = cg0 ∧ m''.ctxs = m'.ctxs ∧
      m''.ran = (handlerIds dv).reverse ++ m'.ran ∧
      (dc = [] → m''.r = m'.r) ∧ (∀ f, dc.getLast? = some f → m''.r = f.saved) ∧
      m''.loadDepth = ld0 ∧ m''.restrictDestruct = rd0 ∧
      m''.catchValue = m'.catchValue ∧ m''.errState = m'.errState ∧ m''.installed = m'.installed ∧ m''.lastVerb = vb0 :=
  ⟨_, restoreContext_eq hv hc rfl rfl, rfl, rfl, rfl, rfl, rfl, fun hnil => by rw [hnil]; rfl,
    fun f hf => by simp only [firstSaved, hf], rfl, rfl, rfl, rfl, rfl, rfl⟩

theorem afterCatch_cons {link : List Ctx} {mm : M} {s : Slot} {t : List Slot} (h : mm.vs = s :: t) :
    afterCatch link mm = .ok { popContext link mm with vs := t } := by
  simp only [afterCatch, h]

theorem afterCatch_of_ok {link : List Ctx} {mm m' : M} (h : afterCatch link mm = .ok m') : ∃ t, m' = { popContext link mm with vs := t } := by
  unfold afterCatch at h
  cases hv : mm.vs with
  | nil => rw [hv] at h; cases h
  | cons s t => rw [hv] at h; cases h; exact ⟨t, rfl⟩

/-- `longjmp` delivers the error unchanged when an error context exists, and is fatal when there is none -/
theorem longjmp_ind {P : Res → Prop} {x : M} (hcr : ∀ w, x.ctxs = [] → P (.crash w x)) (herr : x.ctxs ≠ [] → P (.err x)) :
    P (longjmp x) := by
  unfold longjmp
  split
  · rename_i h; exact hcr _ h
  · rename_i h; exact herr (h ▸ List.cons_ne_nil _ _)

theorem longjmp_err {x m' : M} (h : longjmp x = .err m') : m' = x := by
  unfold longjmp at h; split at h <;> cases h; rfl

end NV.C05
