/-
C05 driver: parses the case lines that the harness executes against the real driver and runs the model
(`model` mode) or the specification oracle on an implementation trace (`judge` mode).

Case lines (shared with harness/c05/c05.c):
  src <path> <hex>                 LPC source written below the scratch mudlib (ignored by the model)
  load <oid> <path> | clone <oid> <path>      objects; the model only needs their names
  user <oid>                       make the object interactive (ignored by the model)
  maxdepth <n>                     MaxCallDepth of this case
  setcg <oid|0>                    command_giver at driver level
  # ops <s-expressions>            abstract op list of the LPC function evaluated by the next inject/run
  inject <oid> <fn> [co|po <oid>]  fault at every instruction k of <oid>-><fn>()
  injectsafe <oid> <fn> <n>        the evaluation is safe_apply(fn, ob, n) from driver level; ops = (safe n declared …)
  injectco                         fault at every instruction of the real call_out() sweep (callbacks scheduled by prep)
  injectbe cmd|hb|reset|cleanup    fault at every instruction of one cycle of the real backend(); ops = (becmd u1 t …) | (behb t …) |
                                   (bereset t …) | (becleanup t …)
  run <oid> <fn>                   one evaluation without fault (side effects stay)
  input <oid> <text>               next input line of an interactive (pending input_to)
op syntax:  (say t) (tmp n ops) (handler id ops) (setreg co|po|cg oid) (withcg oid ops) (install site ok|bad)
  (call local|other|fplocal|functional|efunp oid nargs declared ops) (cb … same, a callback made by an efun: no tick) (catch ops) (saycatch) (safe nargs declared ops) (safefp oid nargs declared ops)
  (raise t) (throw t) (limit) (load ops) (dhook oid ops)
-/
import NV.Common.Proto
import NV.C05.Model
import NV.C05.Spec

namespace NV.C05

open NV.Proto

/-- the sites where efuns install state outside the registers, from the source (see notes/C05.md):
    none of them installs before its last possible error any more (input_to / get_char did before the fix) -/
def installSites : List InstallSite :=
  [ { name := "input_to", failMsg := "Function 'no_such_fn' not found in input_to", beforeLastError := false },
    { name := "get_char", failMsg := "Function 'no_such_fn' not found in get_char", beforeLastError := false },
    { name := "add_action", failMsg := "*Bad argument 1 to add_action()", beforeLastError := false },
    { name := "call_out", failMsg := "*Bad argument 2 to call_out()", beforeLastError := false },
    { name := "set_heart_beat", failMsg := "*Bad argument 1 to set_heart_beat()", beforeLastError := false } ]

def siteOf (name : String) : InstallSite :=
  match installSites.find? (fun s => s.name == name) with
  | some s => s
  | none => { name := name, failMsg := "*no such site", beforeLastError := false }

structure Names where
  objs : List String := []          -- oid i has value i + 2 (0 = NULL, 1 = master)

def Names.valOf (n : Names) (oid : String) : Val :=
  if oid == "0" then 0 else if oid == "master" then masterVal else
  match n.objs.idxOf? oid with
  | some i => i + 2
  | none => 0

def Names.nameOf (n : Names) (v : Val) : String :=
  if v == 0 then "0" else if v == masterVal then "master" else
  match n.objs[v - 2]? with
  | some s => s
  | none => "other"

/-! ### op parser -/

def tokenize (s : String) : List String :=
  toks ((s.replace "(" " ( ").replace ")" " ) ")

mutual
/-- ops up to the closing parenthesis (not consumed) or the end -/
def parseOps (n : Names) : Nat → List String → Option (List Op × List String)
  | 0, _ => none
  | _ + 1, [] => some ([], [])
  | _ + 1, ")" :: rest => some ([], ")" :: rest)
  | fuel + 1, "(" :: rest =>
    match parseOp n fuel rest with
    | some (o, ")" :: rest') =>
      match parseOps n fuel rest' with
      | some (os, r) => some (o :: os, r)
      | none => none
    | _ => none
  | _ + 1, _ => none

/-- one op, after its opening parenthesis; leaves the closing one -/
def parseOp (n : Names) : Nat → List String → Option (Op × List String)
  | 0, _ => none
  | fuel + 1, ts =>
    let body (rest : List String) (mk : Prog → Op) : Option (Op × List String) :=
      match parseOps n fuel rest with
      | some (os, r) => some (mk (Prog.ofList os), r)
      | none => none
    match ts with
    | "say" :: t :: rest => some (.say t, rest)
    | "tmp" :: k :: rest => match k.toNat? with
      | some k => body rest (.tmp k)
      | none => none
    | "handler" :: k :: rest => match k.toNat? with
      | some k => body rest (.handler k)
      | none => none
    | "setreg" :: r :: o :: rest =>
      let reg? : Option Reg := if r == "co" then some .co else if r == "po" then some .prevOb else if r == "cg" then some .cg else none
      match reg? with
      | some reg => some (.setReg reg (n.valOf o), rest)
      | none => none
    | "withcg" :: o :: rest => body rest (.withCg (n.valOf o))
    | "install" :: s :: f :: rest => some (.install (siteOf s) (f == "bad"), rest)
    | "call" :: kind :: o :: a :: d :: rest =>
      let k? : Option CallKind :=
        if kind == "local" then some .local_ else if kind == "other" then some (.other (n.valOf o))
        else if kind == "fplocal" then some (.fpLocal (n.valOf o)) else if kind == "functional" then some (.functional (n.valOf o))
        else if kind == "efunp" then some (.efunp (n.valOf o)) else none
      match k?, a.toNat?, d.toNat? with
      | some k, some a, some d => body rest (.call k a d)
      | _, _, _ => none
    | "cb" :: kind :: o :: a :: d :: rest =>
      let k? : Option CallKind :=
        if kind == "local" then some .local_ else if kind == "other" then some (.other (n.valOf o))
        else if kind == "fplocal" then some (.fpLocal (n.valOf o)) else if kind == "functional" then some (.functional (n.valOf o))
        else if kind == "efunp" then some (.efunp (n.valOf o)) else none
      match k?, a.toNat?, d.toNat? with
      | some k, some a, some d => body rest (.cb k a d)
      | _, _, _ => none
    | "catch" :: rest => body rest .catch_
    | "saycatch" :: rest => some (.sayCatch, rest)
    | "safe" :: a :: d :: rest =>
      match a.toNat?, d.toNat? with
      | some a, some d => body rest (.safeApply a d)
      | _, _ => none
    | "safefp" :: o :: a :: d :: rest =>
      match a.toNat?, d.toNat? with
      | some a, some d => body rest (.safeFp (n.valOf o) a d)
      | _, _ => none
    | "raise" :: t :: rest => some (.raise ("*" ++ t), rest)
    | "raisemsg" :: rest =>
      -- a message with spaces: words up to the closing parenthesis
      let ws := rest.takeWhile (· != ")")
      some (.raise (" ".intercalate ws), rest.dropWhile (· != ")"))
    | "craise" :: rest =>
      let ws := rest.takeWhile (· != ")")
      -- (`<>` stands for the `()` of an efun name in a message: parentheses delimit ops)
      some (.craise ((((" ".intercalate ws).replace "<>" "()").replace "<" "(").replace ">" ")"), rest.dropWhile (· != ")"))
    | "throw" :: t :: rest => some (.throw_ t, rest)
    | "limit" :: rest => some (.raiseLimit, rest)
    | "load" :: rest => body rest .load
    | "dhook" :: o :: rest => body rest (.dhook (n.valOf o))
    | "spread" :: k :: rest => match k.toNat? with
      | some k => some (.spread k, rest)
      | none => none
    | "consume" :: rest => some (.consume, rest)
    | "verb" :: _v :: rest => body rest (.verb 1)
    | "vital" :: w :: rest => body rest (.vital (w == "master"))
    | "heartbeat" :: o :: c :: rest => body rest (.heartBeat (n.valOf o) (n.valOf c))
    -- one cycle of backend() (sugar, see `injectbe`):
    -- process_user_command: command_giver = the user (restored on the normal path), apply process_input (1 argument) -> t::run
    | "becmd" :: u :: o :: rest =>
      body rest (fun p => .withCg (n.valOf u) (Prog.ofList [.call (.other (n.valOf u)) 1 1 (Prog.ofList [.call (.other (n.valOf o)) 0 0 p])]))
    -- call_heart_beat: heart_beat () { run (); } of an object without commands enabled
    | "behb" :: o :: rest => body rest (fun p => .heartBeat (n.valOf o) 0 (Prog.ofList [.call .local_ 0 0 p]))
    -- … of an object WITH commands enabled: it is the command giver of its heart beat
    | "behbc" :: o :: rest => body rest (fun p => .heartBeat (n.valOf o) (n.valOf o) (Prog.ofList [.call .local_ 0 0 p]))
    -- look_for_objects_to_swap: its own recovery point; reset_object: command_giver = 0 around apply (reset, 0 arguments)
    | "bereset" :: _o :: rest => body rest (fun p => .withCg 0 (Prog.ofList [.safeApply 0 0 (Prog.ofList [.call .local_ 0 0 p])]))
    -- look_for_objects_to_swap: push_number; apply (clean_up, 1 argument)
    | "becleanup" :: _o :: rest => body rest (fun p => .safeApply 1 1 (Prog.ofList [.call .local_ 0 0 p]))
    | _ => none
end

def parseProgram (n : Names) (s : String) : Option Prog :=
  let ts := tokenize s
  match parseOps n (ts.length + 2) ts with
  | some (os, []) => some (Prog.ofList os)
  | _ => none

/-! ### rendering -/

def renderCV : CV → String
  | .num k => toString k
  | .msg s => s
  | .thrown s => s

def renderEv : Ev → String
  | .say s => "say " ++ s
  | .handler caught msg => (if caught then "caught " else "err ") ++ msg
  | .catchLog v => "catch " ++ renderCV v

def snapshot (n : Names) (m : M) : String :=
  let i (k : Nat) : String := toString ((k : Int) - 1)
  s!"sp={i m.vs.length} csp={i m.cs.length} cg={n.nameOf m.cg} co={n.nameOf m.r.co} po={n.nameOf m.r.prevOb} " ++
  s!"prog={if m.r.prog == 0 then "0" else "p" ++ toString m.r.prog} ct={m.r.callerType} fp={i m.r.fp} " ++
  s!"pc={if m.r.pc == 0 then "null" else "set"} fio={m.r.fio} vio={m.r.vio} ctx={m.ctxs.length} " ++
  -- cgs: depth of the command_giver save stack (simulate.c); its only user (notify_no_command) calls back through
  -- safe_call_function_pointer, so no longjmp passes it (tie: `tie_command_giver_stack`, `Gen.C05.cgStackUnsafeCalls = []`)
  s!"ld={m.loadDepth} rd={n.nameOf m.restrictDestruct} cgs=0 qv={if m.lastVerb == 0 then "0" else "set"} " ++
  -- names of the two vital objects (0 = the empty string; the values are opaque: only "as at start-up" or not)
  s!"nva={m.numVarargs} mn={if m.masterName == 1 then "ok" else if m.masterName == 0 then "blank" else "other"} " ++
  s!"sn={if m.simulName == 2 then "ok" else if m.simulName == 0 then "blank" else "other"}"

/-- the fixed probe evaluation (harness/mudlib/c05/probe.c): its output depends on command_giver and on the
    side state only -/
def probeText (n : Names) (baseCg : Val) (m : M) (hbObj : Option Val := none) : String :=
  let inp : String := if n.objs.contains "u1" then (if m.installed.contains "input_to" || m.installed.contains "get_char" then "1" else "0") else "-1"
  -- query_heart_beat (t): on (1) in a heart-beat case unless error_handler switched it off
  let hb : String := match hbObj with
    | some t => if m.hbOff.contains t then "0" else "1"
    | none => "0"
  s!"caught *probe-err ; probe lit=2 lc=3 ve=5 tp={n.nameOf baseCg} po=0 d=0 l=0 a=3,4 e=*probe-err  co=42 bal=1 side in={inp} hb={hb}"

def joinSemi (xs : List String) : String := " ; ".intercalate xs

def outcomeText (n : Names) (baseCg : Val) (t : TopResult) (hbObj : Option Val := none) : String :=
  -- backend(): the snapshot at the next poll point; the backend's own context is not counted (as in the harness)
  let loopSeg : List String := match t.loop with
    | some m => ["loop " ++ snapshot n { m with ctxs := m.ctxs.drop 1 }]
    | none => []
  joinSemi ((t.after.out.reverse.map renderEv) ++
    [t.result] ++ loopSeg ++ ["after=" ++ snapshot n t.after, "probe=" ++ probeText n baseCg t.after hbObj])

def dedupSorted (xs : List String) : List String :=
  (xs.mergeSort (fun a b => !(b < a))).eraseDups

/-! ### case interpreter -/

structure DState where
  names : Names := {}
  m : M := {}
  prog : Option Prog := none
  out : List String := []       -- newest first
  bad : List String := []
  based : Bool := false         -- the reference snapshot / probe of this case has been printed

def DState.emit (s : DState) (l : String) : DState := { s with out := l :: s.out }

/-- number of instructions of the fault-free evaluation, in model ticks -/
def ticksOf (ob : Val) (p : Prog) (m : M) : Nat :=
  -- arm the countdown far away and see how much of it was used
  let big := 1000000
  match topBody ob p { m with fault := big, out := [], shape := none } with
  | .ok m' => big - m'.fault
  | .err m' => big - m'.fault
  | .crash _ m' => big - m'.fault

def stepLine (s : DState) (line : String) : DState :=
  match toks line with
  | [] => s
  | "src" :: _ => s
  | "user" :: _ => s
  | "maxk" :: _ => s
  | ["maxdepth", v] =>
    match v.toNat? with
    | some d => if d ≥ 4 ∧ d ≤ 50 then { s with m := { s.m with maxDepth := d } } else s
    | none => { s with bad := line :: s.bad }
  | ["load", oid, _] => { s with names := { objs := s.names.objs ++ [oid] } }
  | ["clone", oid, _] => { s with names := { objs := s.names.objs ++ [oid] } }
  | "vapply" :: _ => s
  | ["setcg", oid] => { s with m := { s.m with cg := s.names.valOf oid } }
  | "#" :: "ops" :: _ =>
    match parseProgram s.names ((line.drop 5).toString) with
    | some p => { s with prog := some p }
    | none => { s with bad := line :: s.bad }
  | "#" :: _ => s
  | ["snap"] => s.emit ("snap " ++ snapshot s.names s.m)
  | ["probe"] => { s.emit ("probe " ++ probeText s.names s.m.cg s.m) with based := true }
  | "inject" :: oid :: _fn :: rest =>
    match s.prog with
    | none => { s with bad := line :: s.bad }
    | some p =>
      let ob := s.names.valOf oid
      let pre : List (Reg × Val) := match rest with
        | ["co", o] => [(.co, s.names.valOf o)]
        | ["po", o] => [(.prevOb, s.names.valOf o)]
        | _ => []
      let baseCg := s.m.cg
      let s1 := { (s.emit ("base " ++ snapshot s.names s.m)).emit ("probe0 " ++ probeText s.names baseCg s.m) with based := true }
      let free := runTop ob pre p 0 s.m
      let s2 := s1.emit ("free " ++ outcomeText s.names baseCg free)
      let n := match saveContext s.m with
        | some (_, m1) => ticksOf ob p (pre.foldl (fun mm rv => setRegister rv.1 rv.2 mm) m1)
        | none => 0
      let runs := (List.range n).map (fun j => runTop ob pre p (j + 1) s.m)
      let outcomes := dedupSorted (runs.map (outcomeText s.names baseCg))
      let shapes := dedupSorted (runs.filterMap (fun t => t.after.shape))
      let s3 := outcomes.foldl (fun acc o => acc.emit ("outcome " ++ o)) s2
      shapes.foldl (fun acc o => acc.emit ("shape " ++ o)) s3
  | ["injectsafe", _, _, _] | ["injectsafefp", _, _, _] | ["injectco"] =>
    match s.prog with
    | none => { s with bad := line :: s.bad }
    | some p =>
      let baseCg := s.m.cg
      let s1 := { (s.emit ("base " ++ snapshot s.names s.m)).emit ("probe0 " ++ probeText s.names baseCg s.m) with based := true }
      let free := runDriver p 0 s.m
      let s2 := s1.emit ("free " ++ outcomeText s.names baseCg free)
      let big := 1000000
      let n := match saveContext s.m with
        | some (_, m1) => match exec p { m1 with fault := big, out := [], shape := none } with
          | .ok m' => big - m'.fault
          | .err m' => big - m'.fault
          | .crash _ m' => big - m'.fault
        | none => 0
      let runs := (List.range n).map (fun j => runDriver p (j + 1) s.m)
      let outcomes := dedupSorted (runs.map (outcomeText s.names baseCg))
      let shapes := dedupSorted (runs.filterMap (fun t => t.after.shape))
      let s3 := outcomes.foldl (fun acc o => acc.emit ("outcome " ++ o)) s2
      shapes.foldl (fun acc o => acc.emit ("shape " ++ o)) s3
  | ["injectbe", kind] =>
    match s.prog with
    | none => { s with bad := line :: s.bad }
    | some p =>
      let baseCg := s.m.cg
      let hbObj : Option Val := if kind == "hb" then some (s.names.valOf "t") else none
      let s1 := { (s.emit ("base " ++ snapshot s.names s.m)).emit ("probe0 " ++ probeText s.names baseCg s.m hbObj) with based := true }
      let free := runBackend p 0 s.m
      let s2 := s1.emit ("free " ++ outcomeText s.names baseCg free hbObj)
      let big := 1000000
      let n := match saveContext (clearState s.m) with
        | some (_, m1) => match exec p { m1 with fault := big, out := [], shape := none } with
          | .ok m' => big - m'.fault
          | .err m' => big - m'.fault
          | .crash _ m' => big - m'.fault
        | none => 0
      let runs := (List.range n).map (fun j => runBackend p (j + 1) s.m)
      let outcomes := dedupSorted (runs.map (fun t => outcomeText s.names baseCg t hbObj))
      let shapes := dedupSorted (runs.filterMap (fun t => t.after.shape))
      let s3 := outcomes.foldl (fun acc o => acc.emit ("outcome " ++ o)) s2
      shapes.foldl (fun acc o => acc.emit ("shape " ++ o)) s3
  | ["run", oid, _fn] =>
    match s.prog with
    | none => { s with bad := line :: s.bad }
    | some p =>
      let t := runTop (s.names.valOf oid) [] p 0 s.m
      -- the first evaluation of the case prints the reference snapshot and probe, as `inject` does
      let s0 := if s.based then s else
        { (s.emit ("base " ++ snapshot s.names s.m)).emit ("probe0 " ++ probeText s.names s.m.cg s.m) with based := true }
      let s1 := s0.emit ("run " ++ outcomeText s.names s.m.cg t)
      -- side effects stay; the registers are what the evaluation left
      { s1 with m := { t.after with out := [], shape := none } }
  | "input" :: oid :: rest =>
    let text := " ".intercalate rest
    if s.m.installed.contains "input_to" then
      let m' := { s.m with installed := s.m.installed.erase "input_to" }
      { s with m := m' }.emit s!"input {oid} called=1 ; cb {text}"
    else s.emit s!"input {oid} called=0"
  | _ => { s with bad := line :: s.bad }

def runModel (lines : List String) : List String :=
  let s := lines.foldl stepLine {}
  if !s.bad.isEmpty then s.bad.reverse.map (fun l => s!"bad-line {l}")
  else s.out.reverse

def runJudge (body : List String) : List String :=
  let (input, impl) := splitJudge body
  match judge input impl with
  | [] => ["ok"]
  | vs => vs.map (fun v => s!"bad {v}")

def main (mode : String) : IO Unit :=
  match mode with
  | "model" => serve runModel
  | "judge" => serve runJudge
  | _ => IO.eprintln s!"C05: unknown mode {mode}"

end NV.C05
