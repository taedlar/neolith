/-
C05 — `error_handler` (the model's `raise` / `raiseInner`) never returns: whatever it goes through — the mudlib error
handler called or not, completed or itself hit by the injected fault — the error is delivered by longjmp in a state that
EXTENDS the state of the raise, with both guards reset; it is fatal only when no error context exists at all (`RSpec`).
The relations between machine states that the invariants and the property theorems are stated with (`Same`, `Ext`,
`Extends`) are defined here.
-/
import NV.C05.Prims

namespace NV.C05

/-- both stacks and the chain are unchanged -/
structure Same (m m' : M) : Prop where
  vs : m'.vs = m.vs
  cs : m'.cs = m.cs
  ctxs : m'.ctxs = m.ctxs

/-- `m'` extends `m`: the stacks of `m` are intact below what was pushed since, the chain is the same -/
structure Ext (m m' : M) : Prop where
  vs : ∃ dv, m'.vs = dv ++ m.vs
  cs : ∃ dc, m'.cs = dc ++ m.cs
  ctxs : m'.ctxs = m.ctxs

/-- the invariant of an evaluation started in `m` -/
def Good (m : M) : Res → Prop
  | .ok m' => Same m m'
  | .err m' => Ext m m'
  | .crash _ _ => m.ctxs = []

/-- a weaker form of `Good` in which even a normal return only has to extend `m` (`raiseInner_goodE` is stated with it; the
    statements about error_handler that the induction uses are `RSpec` / `HSpec` below) -/
def GoodE (m : M) : Res → Prop
  | .ok m' => Ext m m'
  | .err m' => Ext m m'
  | .crash _ _ => m.ctxs = []

/-- a completed evaluation keeps both guards -/
def GuardsKept (m : M) : Res → Prop
  | .ok m' => m'.loadDepth = m.loadDepth ∧ m'.restrictDestruct = m.restrictDestruct
  | _ => True

theorem Same.rfl' (m : M) : Same m m := ⟨rfl, rfl, rfl⟩

theorem Same.trans {a b c : M} (h1 : Same a b) (h2 : Same b c) : Same a c :=
  ⟨h2.vs.trans h1.vs, h2.cs.trans h1.cs, h2.ctxs.trans h1.ctxs⟩

theorem Same.toExt {a b : M} (h : Same a b) : Ext a b :=
  ⟨⟨[], h.vs⟩, ⟨[], h.cs⟩, h.ctxs⟩

theorem Ext.rfl' (m : M) : Ext m m := (Same.rfl' m).toExt

theorem Ext.trans {a b c : M} (h1 : Ext a b) (h2 : Ext b c) : Ext a c := by
  obtain ⟨dv1, hv1⟩ := h1.vs
  obtain ⟨dc1, hc1⟩ := h1.cs
  obtain ⟨dv2, hv2⟩ := h2.vs
  obtain ⟨dc2, hc2⟩ := h2.cs
  exact ⟨⟨dv2 ++ dv1, by rw [hv2, hv1, List.append_assoc]⟩, ⟨dc2 ++ dc1, by rw [hc2, hc1, List.append_assoc]⟩,
    h2.ctxs.trans h1.ctxs⟩

/-- a state built on top of `m` (values `a`, frames `b` pushed, same chain) -/
theorem Ext.mk' {m m' : M} (a : List Slot) (b : List Frame) (hv : m'.vs = a ++ m.vs) (hc : m'.cs = b ++ m.cs)
    (hx : m'.ctxs = m.ctxs) : Ext m m' := ⟨⟨a, hv⟩, ⟨b, hc⟩, hx⟩

/-- `m` extends `s`: both stacks of `s` are intact below what was pushed since (`dv`, `dc`) -/
structure Extends (s m : M) (dv : List Slot) (dc : List Frame) : Prop where
  vs : m.vs = dv ++ s.vs
  cs : m.cs = dc ++ s.cs

theorem Ext.extends {m m' : M} (h : Ext m m') : ∃ dv dc, Extends m m' dv dc := by
  obtain ⟨dv, hv⟩ := h.vs
  obtain ⟨dc, hc⟩ := h.cs
  exact ⟨dv, dc, hv, hc⟩

/-- what extends a state built on `s` extends `s`: the segments pushed since lie on top of those `s` was built on with -/
theorem Ext.extends_from {m2 m : M} (he : Ext m2 m) {s : M} {dv : List Slot} {dc : List Frame} (h2 : Extends s m2 dv dc) :
    ∃ dv' dc', Extends s m (dv' ++ dv) (dc' ++ dc) := by
  obtain ⟨dv', dc', h⟩ := he.extends
  exact ⟨dv', dc', by rw [h.vs, h2.vs, List.append_assoc], by rw [h.cs, h2.cs, List.append_assoc]⟩

/-- `Good` spelt out field by field, in the shape of `exec_keeps_extension` and `call_all_arities` (Props.lean), which are
    its instances: their `match` and this one unfold to the same case analysis of `r`, whatever auxiliary matcher each was
    compiled to (here that of `Good`; theirs is their own as long as this lemma is not stated in their module before them) -/
theorem Good.keeps {m : M} : ∀ {r : Res}, Good m r →
    match r with
    | .ok m' => m'.vs = m.vs ∧ m'.cs = m.cs ∧ m'.ctxs = m.ctxs
    | .err m' => (∃ dv dc, Extends m m' dv dc) ∧ m'.ctxs = m.ctxs
    | .crash _ _ => m.ctxs = []
  | .ok _, h => ⟨h.vs, h.cs, h.ctxs⟩
  | .err _, h => ⟨h.extends, h.ctxs⟩
  | .crash _ _, h => h

theorem Good.toE {m : M} {r : Res} (h : Good m r) : GoodE m r := by
  cases r with
  | ok m' => exact Same.toExt h
  | err m' => exact h
  | crash w m' => exact h

theorem GoodE.of_ext {m m1 : M} {r : Res} (h : Ext m m1) (hr : GoodE m1 r) : GoodE m r := by
  cases r with
  | ok m' => exact h.trans hr
  | err m' => exact h.trans hr
  | crash w m' => exact (h.ctxs.symm.trans hr)

theorem tick_same (m : M) : Same m (tick m).2 :=
  have h := tick_fixed m
  ⟨h.1, h.2.1, h.2.2.ctxs⟩

theorem hbOffStep_same (m : M) :
    (hbOffStep m).vs = m.vs ∧ (hbOffStep m).cs = m.cs ∧ (hbOffStep m).ctxs = m.ctxs ∧
    (hbOffStep m).loadDepth = m.loadDepth ∧ (hbOffStep m).restrictDestruct = m.restrictDestruct := by
  unfold hbOffStep
  split <;> exact ⟨rfl, rfl, rfl, rfl, rfl⟩

/-- the heart-beat switch-off of error_handler: afterwards no heart beat is current, and the one that was is recorded as off -/
theorem hbOffStep_spec (m : M) :
    (hbOffStep m).hbCur = 0 ∧ (m.hbCur ≠ 0 → (hbOffStep m).hbOff = m.hbCur :: m.hbOff) ∧ (m.hbCur = 0 → hbOffStep m = m) := by
  unfold hbOffStep
  by_cases h : m.hbCur = 0
  · simp [h]
  · simp [h]

/-- stacks, chain and the two guards unchanged -/
structure SameG (m m' : M) : Prop where
  same : Same m m'
  ld : m'.loadDepth = m.loadDepth
  rd : m'.restrictDestruct = m.restrictDestruct

theorem SameG.trans {a b c : M} (h1 : SameG a b) (h2 : SameG b c) : SameG a c :=
  ⟨h1.same.trans h2.same, h2.ld.trans h1.ld, h2.rd.trans h1.rd⟩

theorem tick_sameG (m : M) : SameG m (tick m).2 := ⟨tick_same m, (tick_fixed m).2.2.ld, (tick_fixed m).2.2.rd⟩

/-- what `error_handler` delivers: it never returns; the error arrives in a state extending `m` with both guards
    reset; it is fatal only without any error context -/
def RSpec (m : M) : Res → Prop
  | .ok _ => False
  | .err m' => Ext m m' ∧ m'.loadDepth = 0 ∧ m'.restrictDestruct = 0
  | .crash _ _ => m.ctxs = []

theorem longjmp_rspec {m m' : M} (h : Ext m m') (hl : m'.loadDepth = 0) (hd : m'.restrictDestruct = 0) :
    RSpec m (longjmp m') :=
  longjmp_ind (fun _ heq => h.ctxs.symm.trans heq) fun _ => ⟨h, hl, hd⟩

/-- the switch-off of the heart beat sits between the reset of the guards and the longjmp -/
theorem longjmp_hbOff_rspec {m m' : M} (h : Ext m m') (hl : m'.loadDepth = 0) (hd : m'.restrictDestruct = 0) :
    RSpec m (longjmp (hbOffStep m')) := by
  obtain ⟨a, b, c, d, e⟩ := hbOffStep_same m'
  exact longjmp_rspec ⟨a ▸ h.vs, b ▸ h.cs, c.trans h.ctxs⟩ (d.trans hl) (e.trans hd)

theorem raiseInner_rspec (msg : String) {m m0 : M} (h : Ext m m0) : RSpec m (raiseInner msg m0) := by
  have hE : ∀ x : M, x.vs = m0.vs → x.cs = m0.cs → x.ctxs = m0.ctxs → Ext m x := fun x a b c =>
    ⟨a ▸ h.vs, b ▸ h.cs, c.trans h.ctxs⟩
  simp only [raiseInner]
  by_cases hc : catchable (resetGuards m0) = true
  · rw [if_pos hc]; exact longjmp_rspec (hE _ rfl rfl rfl) rfl rfl
  · rw [if_neg hc]
    by_cases he : (resetGuards m0).inError = true
    · rw [if_pos he]; exact longjmp_rspec (hE _ rfl rfl rfl) rfl rfl
    · rw [if_neg he]; exact longjmp_hbOff_rspec (hE _ rfl rfl rfl) rfl rfl

theorem RSpec.good {m : M} {r : Res} (h : RSpec m r) : Good m r := by
  cases r with
  | ok m' => exact h.elim
  | err m' => exact h.1
  | crash w m' => exact h

theorem RSpec.not_ok {m m' : M} {r : Res} (h : RSpec m r) : r ≠ .ok m' := by
  rintro rfl; exact h

theorem raiseInner_goodE (msg : String) {m m0 : M} (h : Ext m m0) : GoodE m (raiseInner msg m0) :=
  (raiseInner_rspec msg h).good.toE

theorem raiseInner_not_ok (msg : String) (m m' : M) : raiseInner msg m ≠ .ok m' :=
  (raiseInner_rspec msg (Ext.rfl' m)).not_ok

/-- what the mudlib error handler guarantees, seen from a state `m` that its entry state `m0` extends -/
def HSpec (m m0 : M) : Res → Prop
  | .ok m' => SameG m0 m'
  | .err m' => Ext m m' ∧ m'.loadDepth = 0 ∧ m'.restrictDestruct = 0
  | .crash _ _ => m.ctxs = []

theorem HSpec.of_inner (msg : String) {m m0 m1 : M} (h : Ext m m1) : HSpec m m0 (raiseInner msg m1) := by
  have hg := raiseInner_rspec msg h
  generalize raiseInner msg m1 = r at hg ⊢
  cases r with
  | ok m' => exact hg.elim
  | err m' => exact hg
  | crash w m' => exact hg

theorem tickOr_hspec {m m0 mm : M} {k : M → Res} (h : Ext m mm)
    (hk : ∀ m', SameG mm m' → HSpec m m0 (k m')) : HSpec m m0 (tickOr mm k) := by
  unfold tickOr
  split
  · exact HSpec.of_inner _ (h.trans (tick_same mm).toExt)
  · exact hk _ (tick_sameG mm)

/-- the mudlib error handler returns with the stacks and guards it was entered with, or delivers a second-level
    error whose state extends `m` -/
theorem runHandlerN_spec (n : Nat) (msg : String) (caught : Bool) {m m0 : M} (h : Ext m m0) :
    HSpec m m0 (runHandlerN n msg caught m0) := by
  have hpv : Ext m (pushVals n m0) := h.trans (Ext.mk' (List.replicate n Slot.val) [] rfl rfl rfl)
  simp only [runHandlerN]
  by_cases hfull : (pushVals n m0).cs.length ≥ (pushVals n m0).maxDepth
  · rw [if_pos hfull]; exact HSpec.of_inner _ (hpv.trans (Ext.mk' [] [] rfl rfl rfl))
  · rw [if_neg hfull]
    have hpush : Ext m ({ pushFrame .function (pushVals n m0) with r := handlerRegs (pushVals n m0) } : M) :=
      h.trans (Ext.mk' (List.replicate n Slot.val) [⟨.function, m0.r⟩] rfl rfl rfl)
    refine tickOr_hspec hpush (fun m3 s3 => ?_)
    refine tickOr_hspec (hpush.trans s3.same.toExt) (fun m4 s4 => ?_)
    have s5 : SameG m4 ({ m4 with out := Ev.handler caught msg :: m4.out } : M) := ⟨⟨rfl, rfl, rfl⟩, rfl, rfl⟩
    refine tickOr_hspec ((hpush.trans s3.same.toExt).trans (s4.same.toExt.trans s5.same.toExt)) (fun m6 s6 => ?_)
    have sAll := (s3.trans s4).trans (s5.trans s6)
    have hp8 := popFrame_cons (m := { m6 with vs := m0.vs }) (f := ⟨.function, m0.r⟩) (rest := m0.cs) sAll.same.cs
    simp only [popN_vals n (rest := m0.vs) sAll.same.vs, hp8]
    exact ⟨⟨rfl, rfl, sAll.same.ctxs⟩, sAll.ld, sAll.rd⟩

theorem runHandler_spec (msg : String) (caught : Bool) {m m0 : M} (h : Ext m m0) :
    HSpec m m0 (runHandler msg caught m0) := runHandlerN_spec _ msg caught h

/-- error_handler after the mudlib handler: when that returned (in `y`, stacks and guards of its entry state `x`) the
    error is delivered from a state `fin y` that differs from `y` in flags only -/
theorem HSpec.then_longjmp {m x : M} {r : Res} {fin : M → M} (hs : HSpec m x r)
    (hfin : ∀ y, SameG x y → RSpec m (longjmp (fin y))) :
    RSpec m (match (generalizing := false) r with
      | .ok m' => longjmp (fin m')
      | r => r) := by
  cases r with
  | ok m' => exact hfin m' hs
  | err m' => exact hs
  | crash w m' => exact hs

/-- **error_handler, first level** (what `guards_reset_first_level` in Props.lean states): `raise` never returns; the
    error is delivered in a state extending `m` with `num_objects_this_thread = 0` and `restrict_destruct = NULL`,
    whether or not the mudlib error handler ran, completed, or itself faulted -/
theorem raise_rspec (msg : String) {m m0 : M} (h : Ext m m0) : RSpec m (raise msg m0) := by
  have hE : ∀ x : M, x.vs = m0.vs → x.cs = m0.cs → x.ctxs = m0.ctxs → Ext m x := fun x a b c =>
    ⟨a ▸ h.vs, b ▸ h.cs, c.trans h.ctxs⟩
  simp only [raise]
  by_cases hc : catchable (resetGuards m0) = true
  · rw [if_pos hc]
    by_cases hm : (resetGuards m0).inMudlibHandler = true
    · rw [if_pos hm]; exact longjmp_rspec (hE _ rfl rfl rfl) rfl rfl
    · rw [if_neg hm]
      refine HSpec.then_longjmp (runHandler_spec msg true (by exact hE _ rfl rfl rfl)) fun y s => ?_
      exact longjmp_rspec (hE _ s.same.vs s.same.cs s.same.ctxs) s.ld s.rd
  · rw [if_neg hc]
    by_cases he : (resetGuards m0).inError = true
    · rw [if_pos he]; exact longjmp_rspec (hE _ rfl rfl rfl) rfl rfl
    · rw [if_neg he]
      by_cases hm : (resetGuards m0).inMudlibHandler = true
      · rw [if_pos hm]; exact longjmp_hbOff_rspec (hE _ rfl rfl rfl) rfl rfl
      · rw [if_neg hm]
        refine HSpec.then_longjmp (runHandler_spec msg false (by exact hE _ rfl rfl rfl)) fun y s => ?_
        exact longjmp_hbOff_rspec (hE _ s.same.vs s.same.cs s.same.ctxs) s.ld s.rd

end NV.C05
