/-
C11 — trace-level clauses.  Two predicates on event traces that mention neither the model nor the oracle state:

  beatsOnce     between two `tickBegin` no object has two `beat` events
  calledOnlyOn  after `dest _ t`, `hookEnd t` (the driver destructed the item t of a dying carrier) or `shb _ t 0 _` (t destructed / t switched its heart beat off) there is no `beat t`
                until a later `shb _ t n _` with n ≠ 0 (or t is created by a later clone event)

`accepted_trace_ok`: every trace that the oracle accepts (`judgeEv tr = []`) satisfies both - for real driver traces
as well as model traces.  With `model_satisfies_spec` this gives `at_most_once_per_tick` and
`disabled_or_destructed_never_called` for every run of the model.  Both come from the oracle invariant `JI`, kept by
every accepted event (`judge1_judged`: each clause of `judge1` examined once, for the three things the file needs).

Three more clauses of the same kind follow (`ctxClean`, `quietWhenOff`, `cgClean`), each with its `accepted_*`,
`judge_ok_implies_*` and model-run theorem.  Also here: `hbs_nodup` with `search_direction_unobservable` (they need
`JI.nodup` and the simulation).
-/
import NV.C11.Props
import NV.C11.Search

namespace NV.C11

def seenStep (seen : List Nat) : Ev → List Nat
  | .tickBegin => []
  | .tickOff => []
  | .beat o => o :: seen
  | _ => seen

def offStep (off : List Nat) : Ev → List Nat
  | .dest _ t => t :: off
  | .hookEnd t => t :: off
  | .shb _ t n _ => if n = 0 then t :: off else off.filter (· ≠ t)
  | .clone _ new _ _ _ => off.filter (· ≠ new)
  | .reload _ t n _ => if n = 0 then t :: off else off.filter (· ≠ t)
  | .zshb s _ => off.filter (· ≠ s)
  | _ => off

def beatFresh (seen : List Nat) : Ev → Bool
  | .beat o => !seen.contains o
  | _ => true

def beatAllowed (off : List Nat) : Ev → Bool
  | .beat o => !off.contains o
  | _ => true

/-- no object beats twice in one tick (`seen` = objects that already beat in the current tick) -/
def beatsOnce (seen : List Nat) : List Ev → Bool
  | [] => true
  | e :: r => beatFresh seen e && beatsOnce (seenStep seen e) r

/-- no beat of an object that is switched off or destructed according to the trace itself -/
def calledOnlyOn (off : List Nat) : List Ev → Bool
  | [] => true
  | e :: r => beatAllowed off e && calledOnlyOn (offStep off e) r

theorem hasOb_iff_mem (x : Nat) (l : List Entry) : hasOb x l = true ↔ x ∈ l.map (·.ob) := by
  simp only [hasOb, List.any_eq_true, List.mem_map, beq_iff_eq]

theorem hasOb_false_iff (x : Nat) (l : List Entry) : hasOb x l = false ↔ x ∉ l.map (·.ob) := by
  rw [← hasOb_iff_mem]; cases hasOb x l <;> simp

theorem rmFirst_obs_sublist (x : Nat) (l : List Entry) : ((rmFirst x l).map (·.ob)).Sublist (l.map (·.ob)) := by
  rw [rmFirst_obs]; exact List.erase_sublist

theorem rmFirst_not_mem_of_nodup (x : Nat) (l : List Entry) (h : (l.map (·.ob)).Nodup) :
    x ∉ (rmFirst x l).map (·.ob) := by
  rw [rmFirst_obs]; exact h.not_mem_erase

/-- what a round does to the object lists: the objects of done ++ pend are unchanged as a list, the remaining
    `pend` is a suffix, and the object announced as beating is in the consumed prefix -/
theorem advanceL_obs (nofn : List Nat) (tr : Bool) (pend done : List Entry) :
    ((advanceL nofn tr done pend).1 ++ (advanceL nofn tr done pend).2.1).map (·.ob) = (done ++ pend).map (·.ob) ∧
    ∃ pre, pend.map (·.ob) = pre ++ (advanceL nofn tr done pend).2.1.map (·.ob) ∧
      (∀ o, (advanceL nofn tr done pend).2.2 = some o → o ∈ pre) := by
  obtain ⟨v, hvis⟩ := advanceL_visited nofn tr pend done
  have hpend := hvis.pend_eq
  have hdone := hvis.done_eq
  have hdue := hvis.due_eq
  rcases hr : advanceL nofn tr done pend with ⟨d, p, f⟩
  rw [hr] at hpend hdone hdue
  simp only at hpend hdone hdue
  subst hpend hdone
  refine ⟨by simp [Function.comp_def, served_ob], v.map (·.ob), by simp, fun o ho => ?_⟩
  obtain ⟨e, he, _, hx⟩ := mem_dueList.mp (show o ∈ dueList nofn v by rw [hdue, show f = some o from ho]; exact List.mem_singleton.mpr rfl)
  exact List.mem_map.mpr ⟨e, he, hx⟩

/-! ### the oracle invariant that carries both clauses -/

structure JI (j : JState) (seen off : List Nat) : Prop where
  nodup : (j.all.map (·.ob)).Nodup
  hseen : ∀ o ∈ seen, hasOb o j.pend = false
  hoff : ∀ o ∈ off, hasOb o j.all = false
  -- the object the oracle has announced (between `advance` and its `beat` event) has just left `pend`: it has not beaten in
  -- this tick, is not pending a second time, and is not off.  The `beat` clause of `judge1_judged` reads all three off it.
  exp : ∀ o, j.expect = .beat o → o ∉ seen ∧ hasOb o j.pend = false ∧ o ∉ off

theorem hasOb_false_of_sublist {x : Nat} {l l' : List Entry} (hs : (l'.map (·.ob)).Sublist (l.map (·.ob)))
    (h : hasOb x l = false) : hasOb x l' = false := by
  rw [hasOb_false_iff] at *
  exact fun hm => h (hs.subset hm)

theorem JI_off_mono {j : JState} {seen off off' : List Nat} (h : JI j seen off) (hs : ∀ o ∈ off', o ∈ off) :
    JI j seen off' :=
  ⟨h.nodup, h.hseen, fun o ho => h.hoff o (hs o ho), fun o ho =>
    let ⟨a, b, c⟩ := h.exp o ho; ⟨a, b, fun hc => c (hs o hc)⟩⟩

/-- the invariant reads the objects of all entries and those of `pend`: it passes to a state in which both have only lost
    members, given what that state has to satisfy when it announces a beat -/
theorem JI.of_sublist {j j' : JState} {seen off : List Nat} (h : JI j seen off)
    (ha : (j'.all.map (·.ob)).Sublist (j.all.map (·.ob))) (hp : (j'.pend.map (·.ob)).Sublist (j.pend.map (·.ob)))
    (he : ∀ o, j'.expect = .beat o → o ∉ seen ∧ hasOb o j'.pend = false ∧ o ∉ off) : JI j' seen off :=
  ⟨h.nodup.sublist ha, fun o ho => hasOb_false_of_sublist hp (h.hseen o ho),
   fun o ho => hasOb_false_of_sublist ha (h.hoff o ho), he⟩

/-- a state transformation that only shrinks the object lists (in place) and keeps `expect` preserves the invariant -/
theorem JI_shrink {j j' : JState} {seen off : List Nat} (h : JI j seen off)
    (hd : (j'.done.map (·.ob)).Sublist (j.done.map (·.ob)))
    (hp : (j'.pend.map (·.ob)).Sublist (j.pend.map (·.ob)))
    (hl : (j'.late.map (·.ob)).Sublist (j.late.map (·.ob)))
    (he : ∀ o, j'.expect = .beat o → j.expect = .beat o) : JI j' seen off := by
  refine h.of_sublist ?_ hp fun o ho => ?_
  · simp only [JState.all, List.map_append]
    exact (hd.append hp).append hl
  · obtain ⟨a, b, c⟩ := h.exp o (he o ho)
    exact ⟨a, hasOb_false_of_sublist hp b, c⟩

theorem jDisable_segments (j : JState) (x : Nat) :
    ((jDisable j x).done.map (·.ob)).Sublist (j.done.map (·.ob)) ∧
    ((jDisable j x).pend.map (·.ob)).Sublist (j.pend.map (·.ob)) ∧
    ((jDisable j x).late.map (·.ob)).Sublist (j.late.map (·.ob)) := by
  unfold jDisable
  split
  · exact ⟨rmFirst_obs_sublist _ _, List.Sublist.refl _, List.Sublist.refl _⟩
  · split
    · exact ⟨List.Sublist.refl _, rmFirst_obs_sublist _ _, List.Sublist.refl _⟩
    · exact ⟨List.Sublist.refl _, List.Sublist.refl _, rmFirst_obs_sublist _ _⟩

/-- the entry of x goes: what the invariant says of the others still holds -/
theorem JI_jDisable_keep {j : JState} {seen off : List Nat} (h : JI j seen off) (x : Nat) : JI (jDisable j x) seen off := by
  obtain ⟨sd, sp, sl⟩ := jDisable_segments j x
  exact JI_shrink h sd sp sl fun o ho => (jDisable_frame j x).expect ▸ ho

/-- disabling x: x is off afterwards (entries are unique per object), nobody else is affected -/
theorem JI_jDisable {j : JState} {seen off : List Nat} (h : JI j seen off) (x : Nat)
    (hne : ∀ o, j.expect ≠ .beat o) : JI (jDisable j x) seen (x :: off) := by
  have h1 := JI_jDisable_keep h x
  refine ⟨h1.nodup, h1.hseen, ?_, ?_⟩
  · intro o ho
    rcases List.mem_cons.mp ho with rfl | ho
    · rw [hasOb_false_iff, jDisable_all]; exact rmFirst_not_mem_of_nodup _ _ h.nodup
    · exact h1.hoff o ho
  · intro o ho; rw [(jDisable_frame j x).expect] at ho; exact absurd ho (hne o)

theorem JI_jDisableAlive {j : JState} {seen off : List Nat} (h : JI j seen off) (x : Nat) :
    JI (jDisableAlive j x) seen off := by
  unfold jDisableAlive
  split
  · exact h
  · exact JI_jDisable_keep h x

theorem satEfun_eq_zero (n : Int) : satEfun n = 0 ↔ n = 0 := by
  have := shrtMax_val
  unfold satEfun
  split
  · omega
  · split <;> omega

theorem mem_filter_ne {off : List Nat} {x o : Nat} (h : o ∈ off.filter (· ≠ x)) : o ∈ off ∧ o ≠ x := by
  simpa using h

/-- set_heart_beat(n) by the live object x -/
theorem JI_jSet {j : JState} {seen off : List Nat} (h : JI j seen off) (x : Nat) (n : Int)
    (hne : ∀ o, j.expect ≠ .beat o) :
    JI (jSet j x n) seen (if n = 0 then x :: off else off.filter (· ≠ x)) := by
  by_cases hn : n = 0
  · rw [jSet_zero ((satEfun_eq_zero n).mpr hn), if_pos hn]; exact JI_jDisable h x hne
  rw [if_neg hn]
  have hz : satEfun n ≠ 0 := fun hz => hn ((satEfun_eq_zero n).mp hz)
  have hsub : ∀ o ∈ off.filter (· ≠ x), o ∈ off := fun o ho => (mem_filter_ne ho).1
  cases hall : hasOb x j.all with
  | true =>
    by_cases hneg : satEfun n < 0
    · rw [jSet_neg hall hneg]; exact JI_off_mono h hsub
    · -- retuned where it is: the objects of the three lists are the same
      rw [jSet_retune hall (by omega)]
      refine JI_off_mono ?_ hsub
      split
      · exact JI_shrink h (by simp only [retune_obs]; exact List.Sublist.refl _) (List.Sublist.refl _)
          (List.Sublist.refl _) fun _ ho => ho
      · split
        · exact JI_shrink h (List.Sublist.refl _) (by simp only [retune_obs]; exact List.Sublist.refl _)
            (List.Sublist.refl _) fun _ ho => ho
        · exact JI_shrink h (List.Sublist.refl _) (List.Sublist.refl _)
            (by simp only [retune_obs]; exact List.Sublist.refl _) fun _ ho => ho
  | false =>
    -- appended to `late`: x had no entry, so entries stay unique
    rw [jSet_append hall hz]
    have hx : x ∉ j.all.map (·.ob) := (hasOb_false_iff x j.all).mp hall
    refine ⟨?_, h.hseen, ?_, fun o ho => absurd ho (hne o)⟩
    · show ((j.done ++ j.pend ++ (j.late ++ [_])).map (fun e : Entry => e.ob)).Nodup
      rw [← List.append_assoc, List.map_append, List.nodup_append]
      refine ⟨h.nodup, by simp, ?_⟩
      intro a ha b hb
      simp only [List.map_cons, List.map_nil, List.mem_singleton] at hb
      subst hb
      exact fun hab => hx (hab ▸ ha)
    · intro o ho
      obtain ⟨h1, h2⟩ := mem_filter_ne ho
      have := h.hoff o h1
      rw [hasOb_false_iff] at this ⊢
      show o ∉ (j.done ++ j.pend ++ (j.late ++ [_])).map (fun e : Entry => e.ob)
      rw [← List.append_assoc, List.map_append, List.mem_append]
      rintro (hm | hm)
      · exact this hm
      · simp only [List.map_cons, List.map_nil, List.mem_singleton] at hm; exact h2 hm

/-- a round step: the announced object was pending (so it has not beaten in this tick and is not off) and, entries
    being unique, is no longer pending -/
theorem JI_advance {j : JState} {seen off : List Nat} (h : JI j seen off) : JI (advance j) seen off := by
  obtain ⟨hobs, pre, hpre, hfire⟩ := advanceL_obs j.nofn j.trunc j.pend j.done
  unfold advance
  rcases hr : advanceL j.nofn j.trunc j.done j.pend with ⟨d, p, f⟩
  rw [hr] at hobs hpre hfire
  have hall : ∀ (c : Option Nat) (e : Expect),
      (({ j with done := d, pend := p, cur := c, expect := e } : JState).all.map (·.ob)).Sublist (j.all.map (·.ob)) := by
    intro c e
    simp only [JState.all, List.map_append] at hobs ⊢
    rw [hobs]; exact List.Sublist.refl _
  have hp : (p.map (·.ob)).Sublist (j.pend.map (·.ob)) := by rw [hpre]; exact List.sublist_append_right _ _
  cases f with
  | none => exact h.of_sublist (hall _ _) hp nofun
  | some o =>
    refine h.of_sublist (hall _ _) hp fun o' ho' => ?_
    cases ho'
    have hop := hfire o rfl
    have hmem : o ∈ j.pend.map (·.ob) := by rw [hpre]; exact List.mem_append_left _ hop
    refine ⟨fun hs => (hasOb_false_iff o j.pend).mp (h.hseen o hs) hmem, ?_, fun ho => ?_⟩
    · have hpn : (j.pend.map (·.ob)).Nodup := by
        refine h.nodup.sublist ?_
        simp only [JState.all, List.map_append]
        exact (List.sublist_append_right _ _).trans (List.sublist_append_left _ _)
      rw [hpre, List.nodup_append] at hpn
      exact (hasOb_false_iff o p).mpr fun hm => hpn.2.2 o hop o hm rfl
    · refine (hasOb_false_iff o j.all).mp (h.hoff o ho) ?_
      simp only [JState.all, List.map_append, List.mem_append]
      exact .inl (.inr hmem)

theorem JI_endRound {j : JState} {seen off : List Nat} (h : JI j seen off) : JI (endRound j) seen off :=
  h.of_sublist (by rw [endRound_all]; exact List.Sublist.refl _) (List.nil_sublist _) nofun

theorem opAllowed_ne {j : JState} (h : opAllowed j = true) : ∀ o, j.expect ≠ .beat o := by
  intro o ho
  unfold opAllowed at h
  rw [ho] at h
  simp at h

theorem advance_bad (j : JState) : (advance j).bad = j.bad := by
  unfold advance
  cases advanceL j.nofn j.trunc j.done j.pend with
  | mk d r => cases r with
    | mk p f => cases f <;> rfl

theorem jErr_bad (j : JState) : (jErr j).bad = j.bad := by
  unfold jErr
  split <;> exact (jErr1_frame j).1.bad

/-- the invariant reads the three lists and whether a beat is announced -/
theorem JI.same_lists {j j' : JState} {seen off : List Nat} (h : JI j seen off)
    (e : (j'.done, j'.pend, j'.late) = (j.done, j.pend, j.late)) (he : ∀ o, j'.expect = .beat o → j.expect = .beat o) :
    JI j' seen off := by
  simp only [Prod.mk.injEq] at e
  exact JI_shrink h (by rw [e.1]; exact List.Sublist.refl _) (by rw [e.2.1]; exact List.Sublist.refl _)
    (by rw [e.2.2]; exact List.Sublist.refl _) he

/-- clone_object before create(): the new object has no entry, the blueprint may have lost its own -/
theorem JI_jBorn {j : JState} {seen off : List Nat} (h : JI j seen off) (new k : Nat) : JI (jBorn j new k) seen off :=
  (JI_jDisableAlive h _).same_lists rfl fun _ ho => ho

/-! ### one event: everything the trace-level clauses need to know about a clause of the oracle

Every clause of `judge1` is a chain of checks, each refusing the event with a violation, and a new state at the end.
`Judged j e r` collects what the result `r` has to satisfy; it holds of every refusal for a trivial reason, is closed
under `if`, and is shown for the accepting end of each clause. -/

/-- oracle states that cannot accept a `beat` -/
def quietExp : Expect → Bool
  | .beat _ => false
  | .inBeat => false
  | _ => true

structure Judged (j : JState) (e : Ev) (r : JState) : Prop where
  bad : r.bad = j.bad ∨ ∃ v, r.bad = v :: j.bad
  quiet : quietExp j.expect = true → e ≠ .tickBegin → (∀ o, e ≠ .beat o) → quietExp r.expect = true
  inv : ∀ seen off, JI j seen off → r.bad = j.bad →
    beatFresh seen e = true ∧ beatAllowed off e = true ∧ JI r (seenStep seen e) (offStep off e)

/-- events that leave the beats of this tick and the set of switched-off objects alone -/
def Plain (e : Ev) : Prop :=
  ∀ seen off, beatFresh seen e = true ∧ beatAllowed off e = true ∧ seenStep seen e = seen ∧ offStep off e = off

theorem Judged.ite {j : JState} {e : Ev} {c : Prop} [Decidable c] {a b : JState} (ha : c → Judged j e a)
    (hb : ¬ c → Judged j e b) : Judged j e (if c then a else b) := by
  split
  · exact ha ‹_›
  · exact hb ‹_›

/-- refused after a change that kept violations and expectation (or left a state that expects no beat) -/
theorem Judged.refuseAfter {j j' : JState} {e : Ev} (hb : j'.bad = j.bad)
    (hq : quietExp j.expect = true → quietExp j'.expect = true) (v : String) : Judged j e (j'.flagV v) :=
  ⟨.inr ⟨v, congrArg (v :: ·) hb⟩, fun h _ _ => hq h, fun _ _ _ h => absurd h (flagV_bad_ne hb)⟩

theorem Judged.refuse {j : JState} {e : Ev} (v : String) : Judged j e (j.flagV v) := .refuseAfter rfl id v

/-- accepted, with a new state that keeps violations and expectation -/
theorem Judged.framed {j r : JState} {e : Ev} (hf : Frame j r)
    (hi : ∀ seen off, JI j seen off → beatFresh seen e = true ∧ beatAllowed off e = true ∧
      JI r (seenStep seen e) (offStep off e)) : Judged j e r :=
  ⟨.inl hf.bad, fun h _ _ => hf.expect ▸ h, fun s o h _ => hi s o h⟩

/-- accepted by a `Plain` event, with a new state that keeps the violations -/
theorem Judged.plain {j r : JState} {e : Ev} (hp : Plain e) (hb : r.bad = j.bad)
    (hq : quietExp j.expect = true → quietExp r.expect = true)
    (hi : ∀ seen off, JI j seen off → JI r seen off) : Judged j e r :=
  ⟨.inl hb, fun h _ _ => hq h, fun s o h _ => by
    obtain ⟨a, b, c, d⟩ := hp s o; rw [c, d]; exact ⟨a, b, hi s o h⟩⟩

/-- accepted by a clause that only checks -/
theorem Judged.same {j : JState} {e : Ev} (hp : Plain e) : Judged j e j := .plain hp rfl id fun _ _ h => h

theorem mem_offSet {off : List Nat} {x o : Nat} {n : Int} (ho : o ∈ off.filter (· ≠ x)) :
    o ∈ (if n = 0 then x :: off else off.filter (· ≠ x)) := by
  split
  · exact List.mem_cons_of_mem _ (mem_filter_ne ho).1
  · exact ho

theorem allowed_of_not {j : JState} (hc : ¬ (!opAllowed j) = true) : opAllowed j = true := by
  simpa using hc

/-- removal of a live object's entry by destruct: afterwards it is off -/
theorem Judged.removed {j : JState} {e : Ev} {t : Nat} (hop : opAllowed j = true)
    (he : ∀ seen off, beatFresh seen e = true ∧ beatAllowed off e = true ∧ seenStep seen e = seen ∧ offStep off e = t :: off) :
    Judged j e (jKill j t) := by
  refine .framed (jKill_frame j t) fun s o h => ?_
  obtain ⟨a, b, c, d⟩ := he s o
  rw [c, d]
  exact ⟨a, b, (JI_jDisable h t (opAllowed_ne hop)).same_lists rfl fun _ ho => ho⟩

/-- the oracle's error clause (`err`, `errR`) -/
theorem Judged.raised {j : JState} {e : Ev} (hp : Plain e) : Judged j e (jErr j) := by
  obtain ⟨hf, _⟩ := jErr1_frame j
  refine .plain hp (jErr_bad j) (fun hq => ?_) fun seen off h => ?_
  · unfold jErr; split
    · rfl
    · rw [hf.expect]; exact hq
  · have h1 : JI (jErr1 j) seen off := by
      unfold jErr1
      cases j.cur with
      | none => exact h
      | some c => exact (JI_jDisableAlive h c).same_lists rfl fun _ ho => ho
    unfold jErr
    split
    · exact h1.same_lists rfl fun _ ho => nomatch ho
    · exact h1

/-- each `.ite` is one `if` of the event's clause in Spec.lean, in the order they stand there (`.refuse`: the branch that
    flags a violation); where a later step needs a check that was passed, the binder says which one it is -/
theorem judge1_judged (j : JState) (e : Ev) : Judged j e (judge1 j e) := by
  cases e with
  | into _ _ | intoNone _ _ | topErr _ | caught _ | living _ | burn _ | tflags _ | rp _ | rpNone _ | moved _ _
  | movedNone _ _ | coBegin _ | coEnd _ => exact .same fun _ _ => ⟨rfl, rfl, rfl, rfl⟩
  | shbDead _ _ _ | queryDead _ _ | destNone _ _ | destGone _ _ | hookGone _ | hook _ _ | topNoObj _ | reloadNone _ _ =>
    exact .ite (fun _ => .refuse _) fun _ => .same fun _ _ => ⟨rfl, rfl, rfl, rfl⟩
  | cloneDup _ _ | hookMoved _ | topDead _ | hbs _ _ =>
    exact .ite (fun _ => .same fun _ _ => ⟨rfl, rfl, rfl, rfl⟩) fun _ => .refuse _
  | junk s => exact .refuse _
  | cgAfter v =>
    cases v with
    | none => exact .same fun _ _ => ⟨rfl, rfl, rfl, rfl⟩
    | some o => exact .refuse _
  | query s t q =>
    exact .ite (fun _ => .refuse _) fun _ => .ite (fun _ => .same fun _ _ => ⟨rfl, rfl, rfl, rfl⟩) fun _ => .refuse _
  | ctx o lv tp full =>
    exact .ite (fun _ => .refuse _) fun _ => .ite (fun _ => .refuse _) fun _ => .ite (fun _ => .refuse _) fun _ =>
      .same fun _ _ => ⟨rfl, rfl, rfl, rfl⟩
  | flag o => exact .plain (fun _ _ => ⟨rfl, rfl, rfl, rfl⟩) rfl id fun _ _ h => h.same_lists rfl fun _ ho => ho
  | rpDone o | passLimit =>
    exact .ite (fun _ => .refuse _) fun _ =>
      .plain (fun _ _ => ⟨rfl, rfl, rfl, rfl⟩) rfl id fun _ _ h => h.same_lists rfl fun _ ho => ho
  | err o => exact .raised fun _ _ => ⟨rfl, rfl, rfl, rfl⟩
  | errR => exact .raised fun _ _ => ⟨rfl, rfl, rfl, rfl⟩
  | tickEnd =>
    by_cases he : j.expect = .endOfRound
    · rw [judge1_tickEnd he]
      exact .plain (fun _ _ => ⟨rfl, rfl, rfl, rfl⟩) rfl (fun _ => rfl) fun _ _ h => JI_endRound h
    · obtain ⟨v, hv⟩ := judge1_tickEnd_refused he
      rw [hv]
      exact .refuseAfter (j := j) (j' := endRound j) rfl (fun _ => rfl) v
  | tickAbort =>
    exact .ite (fun _ => .plain (fun _ _ => ⟨rfl, rfl, rfl, rfl⟩) rfl (fun _ => rfl) fun _ _ h => JI_endRound h) fun _ =>
      .refuseAfter (j := j) (j' := endRound j) rfl (fun _ => rfl) _
  | tickOff =>
    exact .ite (fun _ => .refuse _) fun _ => ⟨.inl rfl, fun _ _ _ => rfl, fun _ _ h _ =>
      ⟨rfl, rfl, h.nodup, nofun, h.hoff, nofun⟩⟩
  | tickBegin =>
    refine .ite (fun _ => .refuse _) fun (hc : ¬ (j.expect != .idle) = true) => ⟨.inl (advance_bad _), fun _ hnt _ => absurd rfl hnt, fun _ _ h _ =>
      ⟨rfl, rfl, JI_advance (j := jBegin j) ⟨by rw [jBegin_all]; exact h.nodup, nofun,
        fun o ho => by rw [jBegin_all]; exact h.hoff o ho, ?_⟩⟩⟩
    intro o (ho : j.expect = .beat o)
    simp only [bne_iff_ne, ne_eq, Decidable.not_not] at hc
    rw [hc] at ho; cases ho
  | beat o =>
    refine ⟨?_, fun _ _ hnb => absurd rfl (hnb o), fun seen off h hacc => ?_⟩
    · by_cases hex : j.expect = .beat o
      · rw [judge1_beat hex]; exact .inl rfl
      · obtain ⟨v, hv⟩ := judge1_beat_refused hex
        rw [hv]; exact .inr ⟨v, rfl⟩
    · have hex := (beat_accepted_iff j o).mp hacc
      obtain ⟨a, b, c⟩ := h.exp o hex
      rw [judge1_beat hex]
      refine ⟨?_, ?_, h.nodup, ?_, h.hoff, nofun⟩
      · show (!seen.contains o) = true
        rw [List.contains_eq_mem, decide_eq_false a]; rfl
      · show (!off.contains o) = true
        rw [List.contains_eq_mem, decide_eq_false c]; rfl
      intro o' ho'
      rcases List.mem_cons.mp ho' with rfl | ho'
      · exact b
      · exact h.hseen o' ho'
  | beatEnd o =>
    refine .ite (fun (hc : (j.expect == .inBeat) = true) => ?_) fun _ => .refuse _
    have hin : j.expect = .inBeat := by simpa using hc
    have hq : quietExp j.expect = true → False := by rw [hin]; exact Bool.noConfusion
    exact .ite
      (fun _ => ⟨.inl rfl, fun h => (hq h).elim, fun _ _ h _ => ⟨rfl, rfl, h.same_lists rfl fun _ ho => nomatch ho⟩⟩)
      fun _ => ⟨.inl (advance_bad j), fun h => (hq h).elim, fun _ _ h _ => ⟨rfl, rfl, JI_advance h⟩⟩
  | shb s t n q =>
    refine .ite (fun _ => .refuse _) fun (hc : ¬ (!opAllowed j) = true) => .ite (fun _ => .refuse _) fun _ => ?_
    have hf := jSet_frame j t n
    exact .ite (fun _ => .framed hf fun _ _ h => ⟨rfl, rfl, JI_jSet h t n (opAllowed_ne (allowed_of_not hc))⟩) fun _ =>
      .refuseAfter hf.bad (fun h => hf.expect ▸ h) _
  | zshb s n =>
    refine .ite (fun _ => .refuse _) fun (hc : ¬ (!opAllowed j) = true) => .ite
      (fun _ => ⟨.inl rfl, fun h _ _ => h, fun _ _ h _ => ⟨rfl, rfl, JI_off_mono h fun o ho => (mem_filter_ne ho).1⟩⟩)
      fun _ => .framed (jSet_frame j s n) fun _ _ h => ⟨rfl, rfl, ?_⟩
    exact JI_off_mono (JI_jSet h s n (opAllowed_ne (allowed_of_not hc))) fun _ => mem_offSet
  | dest s t =>
    exact .ite (fun _ => .refuse _) fun (hc : ¬ (!opAllowed j) = true) => .ite (fun _ => .refuse _) fun _ =>
      .removed (allowed_of_not hc) fun _ _ => ⟨rfl, rfl, rfl, rfl⟩
  | hookEnd t =>
    exact .ite (fun _ => .refuse _) fun (hc : ¬ (!opAllowed j) = true) => .ite (fun _ => .refuse _) fun _ =>
      .removed (allowed_of_not hc) fun _ _ => ⟨rfl, rfl, rfl, rfl⟩
  | reload s t n q =>
    refine .ite (fun _ => .refuse _) fun (hc : ¬ (!opAllowed j) = true) => .ite (fun _ => .refuse _) fun _ => ?_
    have hne := opAllowed_ne (allowed_of_not hc)
    have hf1 := jDisable_frame j t
    have hf := hf1.trans (jSet_frame (jDisable j t) t n)
    refine .ite (fun _ => .framed hf fun _ _ h => ⟨rfl, rfl, ?_⟩) fun _ => .refuseAfter hf.bad (fun h => hf.expect ▸ h) _
    exact JI_jSet (JI_off_mono (JI_jDisable h t hne) fun o ho => List.mem_cons_of_mem _ ho) t n
      fun o => hf1.expect ▸ hne o
  | clone s new kind n q =>
    refine .ite (fun _ => .refuse _) fun (hc : ¬ (!opAllowed j) = true) => .ite (fun _ => .refuse _) fun _ => ?_
    have hne := opAllowed_ne (allowed_of_not hc)
    have hfb := jBorn_frame j new kind
    have hf := hfb.trans (jSet_frame (jBorn j new kind) new n)
    exact .ite (fun _ => .framed hf fun _ _ h => ⟨rfl, rfl,
      JI_off_mono (JI_jSet (JI_jBorn h new kind) new n fun o => hfb.expect ▸ hne o) fun _ => mem_offSet⟩) fun _ =>
      .refuseAfter hf.bad (fun h => hf.expect ▸ h) _

/-- the oracle never retracts a violation: one event leaves `bad` alone or adds one entry -/
theorem judge1_bad (j : JState) (e : Ev) : (judge1 j e).bad = j.bad ∨ ∃ v, (judge1 j e).bad = v :: j.bad :=
  (judge1_judged j e).bad

/-- one accepted event keeps the invariant, and an accepted `beat o` is neither a second beat of o in this tick
    nor a beat of an object that is off -/
theorem JI_step {j : JState} {seen off : List Nat} (h : JI j seen off) (e : Ev)
    (hacc : (judge1 j e).bad = j.bad) :
    beatFresh seen e = true ∧ beatAllowed off e = true ∧ JI (judge1 j e) (seenStep seen e) (offStep off e) :=
  (judge1_judged j e).inv seen off h hacc

/-- every event other than `tickBegin` and `beat` keeps the oracle in a state that cannot accept a beat -/
theorem quiet_step (j : JState) (e : Ev) (hq : quietExp j.expect = true) (hnt : e ≠ .tickBegin) (hnb : ∀ o, e ≠ .beat o) :
    quietExp (judge1 j e).expect = true :=
  (judge1_judged j e).quiet hq hnt hnb

theorem foldl_bad_length (tr : List Ev) (j : JState) : j.bad.length ≤ (tr.foldl judge1 j).bad.length :=
  List.foldlRecOn (motive := fun b : JState => j.bad.length ≤ b.bad.length) tr _ (Nat.le_refl _) fun b hb e _ =>
    Nat.le_trans hb (by rcases judge1_bad b e with h | ⟨v, h⟩ <;> rw [h] <;> simp)

/-- a trace that is accepted as a whole is accepted event by event -/
theorem accepted_cons {j : JState} {e : Ev} {r : List Ev} (hacc : ((e :: r).foldl judge1 j).bad = j.bad) :
    (judge1 j e).bad = j.bad ∧ (r.foldl judge1 (judge1 j e)).bad = (judge1 j e).bad := by
  have hstep : (judge1 j e).bad = j.bad := by
    rcases judge1_bad j e with h1 | ⟨v, h1⟩
    · exact h1
    · have := foldl_bad_length r (judge1 j e)
      rw [List.foldl_cons] at hacc
      rw [hacc, h1] at this
      exact absurd this (Nat.not_succ_le_self _)
  exact ⟨hstep, hacc.trans hstep.symm⟩

/-- along an accepted trace the invariant is kept, for the beats of the tick and the switched-off objects as the trace itself
    gives them; on the way no object beats twice in a tick and none that is off -/
theorem accepted_trace_inv : ∀ (tr : List Ev) (j : JState) (seen off : List Nat), JI j seen off →
    (tr.foldl judge1 j).bad = j.bad →
    beatsOnce seen tr = true ∧ calledOnlyOn off tr = true ∧
      JI (tr.foldl judge1 j) (tr.foldl seenStep seen) (tr.foldl offStep off) := by
  intro tr
  induction tr with
  | nil => intro j seen off h _; exact ⟨rfl, rfl, h⟩
  | cons e r ih =>
    intro j seen off h hacc
    obtain ⟨hstep, hacc'⟩ := accepted_cons hacc
    obtain ⟨a, b, c⟩ := JI_step h e hstep
    obtain ⟨d, f, g⟩ := ih (judge1 j e) _ _ c hacc'
    simp only [beatsOnce, calledOnlyOn, a, b, d, f, Bool.and_self]
    exact ⟨trivial, trivial, g⟩

/-- **every trace the oracle accepts** (from an oracle state satisfying the invariant) has at most one beat per
    object and tick and no beat of an object that is switched off or destructed -/
theorem accepted_trace_ok : ∀ (tr : List Ev) (j : JState) (seen off : List Nat), JI j seen off →
    (tr.foldl judge1 j).bad = j.bad → beatsOnce seen tr = true ∧ calledOnlyOn off tr = true :=
  fun tr j seen off h hacc => let ⟨a, b, _⟩ := accepted_trace_inv tr j seen off h hacc; ⟨a, b⟩

theorem JI_init : JI {} [] [] := by
  refine ⟨?_, ?_, ?_, ?_⟩
  · simp [JState.all]
  · intro o ho; cases ho
  · intro o ho; cases ho
  · intro o ho; cases ho

/-- a trace judged `ok` is an accepted trace from the initial oracle state -/
theorem accepted_of_judge_ok {tr : List Ev} (h : judgeEv tr = []) : (tr.foldl judge1 {}).bad = ({} : JState).bad :=
  List.reverse_eq_nil_iff.mp h

/-- for implementation traces as well: what `nvdrive C11 judge` answers `ok` on satisfies both clauses -/
theorem judge_ok_implies_clauses (tr : List Ev) (h : judgeEv tr = []) :
    beatsOnce [] tr = true ∧ calledOnlyOn [] tr = true :=
  accepted_trace_ok tr {} [] [] JI_init (accepted_of_judge_ok h)

/-- **at_most_once_per_tick.**  In every run of the model - all populations, scripts, interleavings, tick counts -
    no object's heart_beat runs twice between two `tickBegin` events. -/
theorem at_most_once_per_tick (sc : Scripts) (cmds : List Cmd) (hk : Nat → List Op := fun _ => []) :
    beatsOnce [] (events sc cmds hk) = true :=
  (judge_ok_implies_clauses _ (model_satisfies_spec sc cmds hk)).1

/-- **disabled_or_destructed_never_called.**  In every run of the model, after `destruct(t)` or after t executed
    `set_heart_beat(0)` there is no heart_beat of t - until (for a live t) a later `set_heart_beat(n)`, n ≠ 0. -/
theorem disabled_or_destructed_never_called (sc : Scripts) (cmds : List Cmd) (hk : Nat → List Op := fun _ => []) :
    calledOnlyOn [] (events sc cmds hk) = true :=
  (judge_ok_implies_clauses _ (model_satisfies_spec sc cmds hk)).2

/-- **entries are unique per object** after every history of the model (append only when O_HEART_BEAT is off, removal
    takes the entry out): no object is on heart_beats[] twice -/
theorem hbs_nodup (sc : Scripts) (cmds : List Cmd) (hk : Nat → List Op := fun _ => []) :
    (((runCmds sc { hooks := hk } cmds).1.hbs).map (·.ob)).Nodup := by
  have hsim := idle_run sc cmds hk
  rw [hsim.r0.hbs]
  exact (accepted_trace_inv _ {} [] [] JI_init hsim.bad).2.2.nodup

/-- **the direction of the search loop is not observable**: in every reachable state the C loop (from the back, with the
    regenerated start value / condition / not-found test) finds the entry the model's front-to-back search finds -/
theorem search_direction_unobservable (sc : Scripts) (cmds : List Cmd) (ob : Nat) (hk : Nat → List Op := fun _ => []) :
    searchBack ob (runCmds sc { hooks := hk } cmds).1.hbs = idxOf ob (runCmds sc { hooks := hk } cmds).1.hbs :=
  searchBack_eq_idxOf ob _ (hbs_nodup sc cmds hk)

/-- every `ctx` event reports a clean context: this_player() is the object itself iff it is living, else 0, and the
    evaluation cost is untouched -/
def ctxClean : List Ev → Bool
  | [] => true
  | .ctx o lv tp full :: r => (tp == ctxGiver o lv) && full && ctxClean r
  | _ :: r => ctxClean r

theorem accepted_ctx_clean : ∀ (tr : List Ev) (j : JState), (tr.foldl judge1 j).bad = j.bad → ctxClean tr = true := by
  intro tr
  induction tr with
  | nil => intro _ _; rfl
  | cons e r ih =>
    intro j hacc
    obtain ⟨hstep, hacc'⟩ := accepted_cons hacc
    have hrest := ih (judge1 j e) hacc'
    cases e with
    | ctx o lv tp full =>
      obtain ⟨htp, hfull⟩ := judge1_ctx_accepted hstep
      simp only [ctxClean, hrest, htp, hfull, beq_self_eq_true, Bool.and_self]
    | _ => exact hrest

/-- for implementation traces as well: what `nvdrive C11 judge` answers `ok` on has only clean contexts -/
theorem judge_ok_implies_ctx_clean (tr : List Ev) (h : judgeEv tr = []) : ctxClean tr = true :=
  accepted_ctx_clean tr {} (accepted_of_judge_ok h)

/-- **faults stay local (context).**  In every run of the model every heart_beat is entered with this_player() = the object
    itself iff it is living (else 0) and an untouched evaluation cost - whatever earlier heart_beats enabled, used up or
    raised -/
theorem context_clean_every_beat (sc : Scripts) (cmds : List Cmd) (hk : Nat → List Op := fun _ => []) :
    ctxClean (events sc cmds hk) = true :=
  judge_ok_implies_ctx_clean _ (model_satisfies_spec sc cmds hk)

example : ctxClean [.tickBegin, .beat 2, .ctx 2 false (some 3) true] = false := by decide
example : ctxClean [.tickBegin, .beat 2, .ctx 2 true (some 2) false] = false := by decide
example : ctxClean [.tickBegin, .beat 2, .ctx 2 true (some 2) true, .beatEnd 2, .beat 3, .ctx 3 false none true] = true := by decide

/-- in a tick that begins with `tickOff` (timer_flags without TIMER_FLAG_HEARTBEAT) nobody beats, until a later tick begins
    with `tickBegin` -/
def quietWhenOff (off : Bool) : List Ev → Bool
  | [] => true
  | .tickOff :: r => quietWhenOff true r
  | .tickBegin :: r => quietWhenOff false r
  | .beat _ :: r => !off && quietWhenOff off r
  | _ :: r => quietWhenOff off r

theorem accepted_quiet_when_off : ∀ (tr : List Ev) (j : JState) (off : Bool), (off = true → quietExp j.expect = true) →
    (tr.foldl judge1 j).bad = j.bad → quietWhenOff off tr = true := by
  intro tr
  induction tr with
  | nil => intro _ _ _ _; rfl
  | cons e r ih =>
    intro j off hinv hacc
    obtain ⟨hstep, hacc'⟩ := accepted_cons hacc
    by_cases hb : ∃ o, e = .beat o
    · obtain ⟨o, rfl⟩ := hb
      have hex := (beat_accepted_iff j o).mp hstep
      have hoff : off = false := by
        cases off with
        | false => rfl
        | true => have := hinv rfl; rw [hex] at this; cases this
      subst hoff
      simp only [quietWhenOff, Bool.not_false, Bool.true_and]
      exact ih _ false (fun h => by cases h) hacc'
    · have hnb : ∀ o, e ≠ .beat o := fun o h => hb ⟨o, h⟩
      by_cases ht : e = .tickBegin
      · subst ht
        exact ih _ false (fun h => by cases h) hacc'
      · by_cases hto : e = .tickOff
        · -- accepted between rounds only, where no beat is expected; nor is one after it
          subst hto
          have hidle := judge1_tickOff_accepted hstep
          exact ih _ true (fun _ => quiet_step j .tickOff (by rw [hidle]; rfl) ht hnb) hacc'
        · have hkeep : quietWhenOff off (e :: r) = quietWhenOff off r := by
            cases e <;> first | rfl | exact absurd rfl ht | exact absurd rfl hto | exact absurd rfl (hnb _)
          rw [hkeep]
          exact ih _ off (fun h => quiet_step j e (hinv h) ht hnb) hacc'

/-- for implementation traces as well -/
theorem judge_ok_implies_quiet_when_off (tr : List Ev) (h : judgeEv tr = []) : quietWhenOff false tr = true :=
  accepted_quiet_when_off tr {} false (fun h => by cases h) (accepted_of_judge_ok h)

/-- **no heart beat without TIMER_FLAG_HEARTBEAT.**  In every run of the model no heart_beat runs in a tick during which
    timer_flags lacks the bit - whatever is on the list and whatever the cursor variables hold -/
theorem no_beat_while_heart_beats_off (sc : Scripts) (cmds : List Cmd) (hk : Nat → List Op := fun _ => []) :
    quietWhenOff false (events sc cmds hk) = true :=
  judge_ok_implies_quiet_when_off _ (model_satisfies_spec sc cmds hk)

example : quietWhenOff false [.tickOff, .beat 2] = false := by decide
example : quietWhenOff false [.tickOff, .tickEnd, .tickBegin, .beat 2] = true := by decide

/-- every `cg` observation after a pass of the backend loop says 0 -/
def cgClean : List Ev → Bool
  | [] => true
  | .cgAfter v :: r => v.isNone && cgClean r
  | _ :: r => cgClean r

theorem accepted_cg_clean : ∀ (tr : List Ev) (j : JState), (tr.foldl judge1 j).bad = j.bad → cgClean tr = true := by
  intro tr
  induction tr with
  | nil => intro _ _; rfl
  | cons e r ih =>
    intro j hacc
    obtain ⟨hstep, hacc'⟩ := accepted_cons hacc
    have hrest := ih (judge1 j e) hacc'
    cases e with
    | cgAfter v =>
      cases v with
      | none => exact hrest
      | some o => exact absurd hstep (flagV_bad_ne rfl)
    | _ => exact hrest

theorem judge_ok_implies_cg_clean (tr : List Ev) (h : judgeEv tr = []) : cgClean tr = true :=
  accepted_cg_clean tr {} (accepted_of_judge_ok h)

/-- **no heart_beat object stays behind as command_giver**: in every run of the model, after every pass of the backend loop
    - round completed, truncated, abandoned by an error, served right after an abandoned one, or not run at all -
    command_giver is 0 -/
theorem no_command_giver_left_behind (sc : Scripts) (cmds : List Cmd) (hk : Nat → List Op := fun _ => []) :
    cgClean (events sc cmds hk) = true :=
  judge_ok_implies_cg_clean _ (model_satisfies_spec sc cmds hk)

example : cgClean [.tickBegin, .tickEnd, .cgAfter (some 2)] = false := by decide

-- non-vacuity: the predicates reject what they should
example : beatsOnce [] [.tickBegin, .beat 2, .beatEnd 2, .beat 2] = false := by decide
example : calledOnlyOn [] [.shb 2 2 0 0, .tickBegin, .beat 2] = false := by decide
example : calledOnlyOn [] [.dest 3 2, .tickBegin, .beat 2] = false := by decide
example : calledOnlyOn [] [.hook 5 2, .shb 5 2 1 1, .hookEnd 5, .dest 3 2, .tickBegin, .beat 2] = false := by decide
example : calledOnlyOn [] [.hook 5 2, .hookEnd 5, .tickBegin, .beat 5] = false := by decide
example : calledOnlyOn [] [.shb 2 2 0 0, .shb 3 2 1 1, .tickBegin, .beat 2] = true := by decide

end NV.C11
