/-
C11 — specification oracle.

Property: while an object has its heart beat enabled with interval n, its heart_beat function runs at most
once per timer tick and, in ticks that complete without error, exactly once every n ticks - whatever objects
enable, disable, are created or destructed during the tick, including from inside heart_beat functions.  An
object that disabled itself or was destructed is not called again, and an error in one heart_beat switches
off only that object's heart beat.

The oracle is a *reference semantics* written without any array index: the enabled objects are kept in
service order (the order in which they enabled their heart beat) in three lists

  done   served in the current round (outside a round: everything enabled before the last round ended)
  pend   enabled since before the current round began and not yet served in it
  late   enabled since the last round began: served from the next round on

A round serves `pend` front to back: the countdown of the object drops by one and, when it reaches zero,
the object beats and the countdown restarts at the interval.  Disabling / destructing removes the object
from whichever list holds it, enabling appends to `late`, an error in a heart_beat disables that object and
abandons the round, a timer signal during a heart_beat ends the round after that heart_beat.  Every event of
a trace is checked against what this semantics predicts (`expect`): a beat that is not the predicted one,
a missing beat, a wrong query_heart_beat()/heart_beats() answer are violations.
-/
import NV.Gen.C11

namespace NV.C11

/-- C: `SHRT_MAX` (regenerated from the source tree's headers on every run) -/
abbrev shrtMax : Int := (NV.Gen.C11.shrtMax : Nat)

/-- an enabled object: countdown to the next beat and interval (C: heart_beat_t) -/
structure Entry where
  ob : Nat
  ticks : Int
  interval : Int
  deriving Repr, DecidableEq

/-- observable events of a run (one canonical output line each) -/
inductive Ev where
  | tickBegin
  | tickEnd
  | tickAbort                                    -- the round was abandoned after an error
  | beat (o : Nat)                               -- heart_beat() of o entered
  | beatEnd (o : Nat)                            -- heart_beat() of o returned
  | shb (self target : Nat) (n q : Int)          -- target did set_heart_beat(n); q = query_heart_beat(target) after
  | shbDead (self target : Nat) (n : Int)        -- target does not exist (any more): nothing done
  | query (self target : Nat) (q : Int)
  | queryDead (self target : Nat)
  | dest (self target : Nat)                     -- destruct(target)
  | destNone (self target : Nat)                 -- target not destructible (gone, unknown or a blueprint)
  | clone (self new kind : Nat) (n q : Int)      -- new clone of blueprint `kind`; its create() did set_heart_beat(n)
  | cloneDup (self new : Nat)
  | into (item carrier : Nat)                    -- `item` was moved into the inventory of `carrier`
  | intoNone (item carrier : Nat)                -- ... refused
  | hookGone (item : Nat)                        -- ... returned; the item is gone already
  | destGone (self target : Nat)                 -- destruct(target) returned early: a hook left target destructed
  | hook (item carrier : Nat)                    -- destruct(carrier) in progress: move_or_destruct() of `item` entered
  | hookEnd (item : Nat)                         -- ... returned; the driver destructs the item now
  | err (o : Nat)                                -- uncaught error raised by o
  | topErr (o : Nat)                             -- the top-level operation of o ended with an error
  | topDead (o : Nat)
  | topNoObj (o : Nat)
  | flag (o : Nat)                               -- the timer fired while o was running
  | hbs (self : Nat) (l : List Nat)              -- heart_beats()
  | ctx (o : Nat) (lv : Bool) (tp : Option Nat) (full : Bool)
                                                 -- heart_beat() of o entered: living(o), this_player(), eval cost untouched
  | caught (o : Nat)                             -- o raised an error inside catch(): nothing is switched off
  | reload (self target : Nat) (n q : Int)       -- reload_object(target); its create() did set_heart_beat(n)
  | reloadNone (self target : Nat)               -- ... refused (gone, unknown or a blueprint)
  | living (o : Nat)                             -- o called enable_commands()
  | burn (o : Nat)                               -- o used up evaluation cost
  | tickOff                                      -- a timer tick while timer_flags has no TIMER_FLAG_HEARTBEAT: no round
  | tflags (n : Int)                             -- timer_flags set to n
  | rp (o : Nat)                                 -- o called replace_program() (takes effect at the top of the backend loop)
  | rpNone (o : Nat)                             -- ... not possible (a blueprint, or the program was replaced already)
  | rpDone (o : Nat)                             -- the backend loop swapped o's program for one without heart_beat()
  | cgAfter (v : Option Nat)                     -- command_giver after one pass of the backend loop
  | errR                                         -- destruct() of another object refused inside move_or_destruct(): an uncaught error
  | moved (item dest : Nat)                      -- `item` moved itself into `dest`
  | movedNone (item dest : Nat)                  -- ... refused
  | hookMoved (item : Nat)                       -- move_or_destruct() returned and the item is somewhere else: it survives
  | zshb (o : Nat) (n : Int)                     -- o called set_heart_beat(n) in itself - possibly after destruct(this_object())
  | coBegin (o : Nat)                            -- call_out callback of o entered (dispatched by call_heart_beat after the round)
  | coEnd (o : Nat)                              -- ... returned
  | passLimit                                    -- harness rule: no further timer tick is delivered inside this `tick`
  | junk (s : String)                            -- crash / sanitizer / unparsable line
  deriving Repr, DecidableEq

/-- what the next round-level event must be -/
inductive Expect where
  | idle                     -- between rounds
  | beat (o : Nat)           -- the next event is the heart beat of o
  | inBeat                   -- a heart_beat function is running
  | endOfRound               -- the next round-level event is tickEnd
  | abort                    -- an error was raised in a heart_beat: tickAbort must follow
  deriving Repr, DecidableEq

structure JState where
  done : List Entry := []
  pend : List Entry := []
  late : List Entry := []
  known : List Nat := [0, 1]          -- objects that exist or existed (0, 1 = the two blueprints)
  nofn : List Nat := [1]              -- objects whose program has no heart_beat function
  dead : List Nat := []
  inRound : Bool := false
  trunc : Bool := false               -- the timer fired during the current round
  cur : Option Nat := none            -- object whose heart_beat was entered last in this round
  expect : Expect := .idle
  bad : List String := []             -- violations, newest first

def JState.flagV (j : JState) (v : String) : JState := { j with bad := v :: j.bad }

def hasOb (x : Nat) (l : List Entry) : Bool := l.any (fun e => e.ob == x)

/-- remove the (first) entry of object x -/
def rmFirst (x : Nat) : List Entry → List Entry
  | [] => []
  | e :: r => if e.ob = x then r else e :: rmFirst x r

/-- restart the (first) entry of object x with interval t -/
def retune (x : Nat) (t : Int) : List Entry → List Entry
  | [] => []
  | e :: r => if e.ob = x then { ob := x, ticks := t, interval := t } :: r else e :: retune x t r

def lookup (x : Nat) : List Entry → Option Entry
  | [] => none
  | e :: r => if e.ob = x then some e else lookup x r

/-- C `(short)x` on the two's complement targets the driver supports -/
def wrap16 (x : Int) : Int := (x + 32768) % 65536 - 32768

/-- argument conversion of the efun: values outside [-1, SHRT_MAX] saturate -/
def satEfun (n : Int) : Int := if n > shrtMax then shrtMax else if n < -1 then -1 else n

def JState.all (j : JState) : List Entry := j.done ++ j.pend ++ j.late

def JState.alive (j : JState) (x : Nat) : Bool := j.known.contains x && !j.dead.contains x

def jDisable (j : JState) (x : Nat) : JState :=
  if hasOb x j.done then { j with done := rmFirst x j.done }
  else if hasOb x j.pend then { j with pend := rmFirst x j.pend }
  else { j with late := rmFirst x j.late }

def jDisableAlive (j : JState) (x : Nat) : JState :=
  if j.dead.contains x then j else jDisable j x

/-- set_heart_beat(n) executed by the live object x -/
def jSet (j : JState) (x : Nat) (n : Int) : JState :=
  let n1 := satEfun n
  if n1 = 0 then jDisable j x
  else if hasOb x j.all then
    if n1 < 0 then j
    else if hasOb x j.done then { j with done := retune x n1 j.done }
    else if hasOb x j.pend then { j with pend := retune x n1 j.pend }
    else { j with late := retune x n1 j.late }
  else
    let iv := if n1 < 0 then 1 else n1
    { j with late := j.late ++ [{ ob := x, ticks := iv, interval := iv }] }

def jQuery (j : JState) (x : Nat) : Int :=
  match lookup x j.all with
  | some e => e.interval
  | none => 0

/-- serve `pend` front to back until an object beats, the list is exhausted or the round is truncated.
    Result: (done, pend, object that beats now) -/
def advanceL (nofn : List Nat) (trunc : Bool) : List Entry → List Entry → List Entry × List Entry × Option Nat
  | done, [] => (done, [], none)
  | done, x :: rest =>
    let t := wrap16 (x.ticks - 1)
    if !nofn.contains x.ob && decide (t < 1) then (done ++ [{ x with ticks := x.interval }], rest, some x.ob)
    else if rest.isEmpty || trunc then (done ++ [{ x with ticks := t }], rest, none)
    else advanceL nofn trunc (done ++ [{ x with ticks := t }]) rest

def advance (j : JState) : JState :=
  match advanceL j.nofn j.trunc j.done j.pend with
  | (d, p, some o) => { j with done := d, pend := p, cur := some o, expect := .beat o }
  | (d, p, none) => { j with done := d, pend := p, expect := .endOfRound }

def endRound (j : JState) : JState :=
  { j with done := j.done ++ j.pend ++ j.late, pend := [], late := [], inRound := false, cur := none, expect := .idle }

def opAllowed (j : JState) : Bool := j.expect == .idle || j.expect == .inBeat

def showOid (o : Nat) : String := s!"o{o}"

/-- this_player() inside heart_beat() of o: o itself when it is living (enable_commands), otherwise 0 -/
def ctxGiver (o : Nat) (lv : Bool) : Option Nat := if lv then some o else none

/-- one event -/
def judge1 (j : JState) (e : Ev) : JState :=
  match e with
  | .tickBegin =>
    if j.expect != .idle then j.flagV "tick-inside-round"
    else advance { j with done := [], pend := j.done ++ j.pend ++ j.late, late := [], inRound := true, trunc := false }
  | .tickEnd =>
    if j.expect == .endOfRound then endRound j
    else
      match j.expect with
      | .beat o => (endRound j).flagV s!"missed-beat {showOid o} round ended without the heart beat that was due"
      | _ => (endRound j).flagV "round-end-unexpected"
  | .tickAbort =>
    if j.expect == .abort then endRound j else (endRound j).flagV "round-aborted-without-error"
  | .beat o =>
    if j.expect == .beat o then { j with expect := .inBeat }
    else
      let why :=
        if !j.inRound then "outside-a-round"
        else if !j.alive o then "destructed-object"
        else if !hasOb o j.all then "heart-beat-not-enabled"
        else if hasOb o j.late then "enabled-during-this-round"
        else if hasOb o j.done then "already-served-this-tick"
        else match j.expect with
          | .beat p => s!"not-due-or-out-of-turn expected={showOid p}"
          | .endOfRound => "not-due"
          | _ => "inside-another-heart-beat"
      { j with expect := .inBeat, cur := some o }.flagV s!"unexpected-beat {showOid o} {why}"
  | .beatEnd o =>
    if j.expect == .inBeat then
      if j.trunc then { j with expect := .endOfRound } else advance j
    else j.flagV s!"unexpected-beatend {showOid o}"
  | .shb _ t n q =>
    if !opAllowed j then j.flagV s!"operation-outside-beat shb {showOid t}"
    else if !j.alive t then j.flagV s!"set_heart_beat-on-destructed {showOid t}"
    else
      let j' := jSet j t n
      if q == jQuery j' t then j'
      else j'.flagV s!"interval-wrong {showOid t} set_heart_beat({n}) then query_heart_beat={q} want={jQuery j' t}"
  | .shbDead _ t _ =>
    if j.alive t then j.flagV s!"set_heart_beat-refused {showOid t}" else j
  | .query _ t q =>
    if !j.alive t then j.flagV s!"query-on-destructed {showOid t}"
    else if q == jQuery j t then j
    else j.flagV s!"query-wrong {showOid t} query_heart_beat={q} want={jQuery j t}"
  | .queryDead _ t =>
    if j.alive t then j.flagV s!"query-refused {showOid t}" else j
  | .dest _ t =>
    if !opAllowed j then j.flagV s!"operation-outside-beat dest {showOid t}"
    else if !j.alive t || t < 2 then j.flagV s!"destruct-of-missing-object {showOid t}"
    else { jDisable j t with dead := t :: j.dead }
  | .destNone _ t =>
    if j.alive t && !(t < 2) then j.flagV s!"destruct-refused {showOid t}" else j
  | .clone _ new kind n q =>
    if !opAllowed j then j.flagV s!"operation-outside-beat clone {showOid new}"
    else if j.known.contains new then j.flagV s!"clone-duplicate {showOid new}"
    else
      -- cloning switches off the heart beat of the blueprint (driver rule, src/simulate.c clone_object)
      let j1 := jDisableAlive j (if kind = 0 then 0 else 1)
      let j2 := { j1 with known := new :: j1.known, nofn := if kind = 0 then j1.nofn else new :: j1.nofn }
      let j3 := jSet j2 new n
      if q == jQuery j3 new then j3
      else j3.flagV s!"interval-wrong {showOid new} clone set_heart_beat({n}) then query_heart_beat={q} want={jQuery j3 new}"
  | .cloneDup _ new =>
    if j.known.contains new then j else j.flagV s!"clone-refused {showOid new}"
  | .into _ _ => j
  | .intoNone _ _ => j
  | .destGone _ t => if j.alive t then j.flagV s!"destruct-incomplete {showOid t}" else j
  | .hookGone i => if j.alive i then j.flagV s!"item-not-destructed {showOid i}" else j
  | .hook i _ =>
    if !opAllowed j then j.flagV s!"operation-outside-beat hook {showOid i}" else j
  | .hookEnd i =>
    -- the item did not move away in its move_or_destruct(): the driver destructs it
    if !opAllowed j then j.flagV s!"operation-outside-beat hookend {showOid i}"
    else if !j.alive i then j.flagV s!"destruct-of-missing-object {showOid i}"
    else { jDisable j i with dead := i :: j.dead }
  | .err _ =>
    -- an uncaught error switches off the heart beat of the object whose heart_beat is running - and only that
    let j1 := match j.cur with
      | some c => { jDisableAlive j c with cur := none }
      | none => j
    if j1.inRound then { j1 with expect := .abort } else j1
  | .topErr _ => j
  | .topDead o => if j.dead.contains o then j else j.flagV s!"live-object-reported-destructed {showOid o}"
  | .topNoObj o => if j.known.contains o then j.flagV s!"known-object-reported-missing {showOid o}" else j
  | .flag _ => { j with trunc := true }
  | .hbs _ l =>
    if l == (j.all.map (·.ob)).reverse then j
    else j.flagV s!"heart_beats-wrong got={l.map showOid} want={(j.all.map (·.ob)).reverse.map showOid}"
  | .ctx o lv tp full =>
    -- faults stay local: every heart_beat starts from a clean context, whatever ran before it
    if j.expect != .inBeat || j.cur != some o then j.flagV s!"context-outside-heart-beat {showOid o}"
    else if tp != ctxGiver o lv then
      j.flagV s!"command-giver-wrong {showOid o} this_player={match tp with | some p => showOid p | none => "0"} living={lv}"
    else if !full then j.flagV s!"eval-cost-not-reset {showOid o}"
    else j
  | .caught _ => j
  | .reload _ t n q =>
    if !opAllowed j then j.flagV s!"operation-outside-beat reload {showOid t}"
    else if !j.alive t || t < 2 then j.flagV s!"reload-of-missing-object {showOid t}"
    else
      -- reload_object switches the heart beat off, then create() runs again
      let j' := jSet (jDisable j t) t n
      if q == jQuery j' t then j'
      else j'.flagV s!"interval-wrong {showOid t} reload set_heart_beat({n}) then query_heart_beat={q} want={jQuery j' t}"
  | .reloadNone _ t =>
    if j.alive t && !(t < 2) then j.flagV s!"reload-refused {showOid t}" else j
  | .living _ => j
  | .burn _ => j
  | .tickOff =>
    if j.expect != .idle then j.flagV "tick-inside-round" else { j with expect := .endOfRound, trunc := false }
  | .tflags _ => j
  | .rp _ => j
  | .rpNone _ => j
  | .rpDone o =>
    -- programs are swapped between rounds only; from now on the object has no heart_beat function: it stays on the
    -- list, is counted down, and is never called
    if j.expect != .idle then j.flagV s!"program-replaced-inside-round {showOid o}" else { j with nofn := o :: j.nofn }
  | .errR =>
    let j1 := match j.cur with
      | some c => { jDisableAlive j c with cur := none }
      | none => j
    if j1.inRound then { j1 with expect := .abort } else j1
  | .moved _ _ => j
  | .movedNone _ _ => j
  | .hookMoved i => if j.alive i then j else j.flagV s!"moved-item-is-gone {showOid i}"
  | .zshb s n =>
    -- a destructed object is never (again) on the list: its own set_heart_beat is refused, whatever the argument
    if !opAllowed j then j.flagV s!"operation-outside-beat zshb {showOid s}"
    else if !j.alive s then j
    else jSet j s n
  -- a call_out callback is ordinary code outside every heart_beat: whatever it does - an uncaught error included - is
  -- judged by the clauses of the operations it performs; in particular `.err` switches off nobody here (`cur` is none)
  | .coBegin _ => j
  | .coEnd _ => j
  | .passLimit =>
    if j.expect != .idle then j.flagV "pass-limit-inside-round" else { j with trunc := false }
  | .cgAfter v =>
    -- "the caller resets it to 0 anyway": no heart_beat object stays behind as command_giver, whether the round
    -- completed (cleared after every call) or was abandoned (restore_context)
    match v with
    | none => j
    | some o => j.flagV s!"command-giver-left-behind {showOid o}"
  | .junk s => j.flagV s

/-- violations found on a trace, oldest first; `[]` = the property held on this trace -/
def judgeEv (tr : List Ev) : List String :=
  (tr.foldl judge1 {}).bad.reverse

end NV.C11
