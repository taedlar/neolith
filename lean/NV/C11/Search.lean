/-
C11 — the search loop of set_heart_beat (`index = num_hb_objs; while (index--) if (heart_beats[index].ob == ob) break;
if (index < 0) return 0;`), run on the list with the start value, the loop condition and the not-found test regenerated
from the source (`NV.Gen.C11.searchStart / searchNext / searchMiss`).

The C loop scans from the back and stops at the LAST entry of the object; the model (`idxOf`) scans from the front.
`searchBack_eq_idxOf`: on a list whose entries are unique per object both give the same index, and
`searchBack_none_iff`: the loop reports "not on the list" exactly when the object has no entry.  So the direction of
the scan is not observable.  That every reachable list has unique entries is `hbs_nodup` in NV/C11/Trace.lean (from
`idle_run` - the array is the oracle's service order - and the oracle invariant `JI.nodup`);
`search_direction_unobservable` there puts the two together.
-/
import NV.C11.Bridge

namespace NV.C11

/-- the loop: `i` is the value of `index` before the loop condition is evaluated -/
def searchLoop (ob : Nat) (l : List Entry) : Nat → Int → Int
  | 0, i => i
  | fuel + 1, i =>
    if (NV.Gen.C11.searchNext i).2 then
      match l[(NV.Gen.C11.searchNext i).1.toNat]? with
      | some e => if e.ob = ob then (NV.Gen.C11.searchNext i).1 else searchLoop ob l fuel (NV.Gen.C11.searchNext i).1
      | none => (NV.Gen.C11.searchNext i).1
    else (NV.Gen.C11.searchNext i).1

/-- the removal / retune branches' search: `none` = `index < 0` after the loop -/
def searchBack (ob : Nat) (l : List Entry) : Option Nat :=
  if NV.Gen.C11.searchMiss (searchLoop ob l (l.length + 1) (NV.Gen.C11.searchStart (l.length : Int))) then none
  else some (searchLoop ob l (l.length + 1) (NV.Gen.C11.searchStart (l.length : Int))).toNat

/-- index of the last entry of `ob` among the first `k` entries, -1 if there is none -/
def lastBelow (ob : Nat) (l : List Entry) : Nat → Int
  | 0 => -1
  | k + 1 =>
    match l[k]? with
    | some e => if e.ob = ob then (k : Int) else lastBelow ob l k
    | none => (k : Int)

theorem lastBelow_succ (ob : Nat) {l : List Entry} {k : Nat} (hk : k < l.length) :
    lastBelow ob l (k + 1) = if l[k].ob = ob then (k : Int) else lastBelow ob l k := by
  rw [lastBelow, List.getElem?_eq_getElem hk]

theorem searchLoop_eq (ob : Nat) (l : List Entry) : ∀ (k fuel : Nat), k ≤ l.length → k + 1 ≤ fuel →
    searchLoop ob l fuel (k : Int) = lastBelow ob l k := by
  intro k
  induction k with
  | zero =>
    intro fuel _ hf
    cases fuel with
    | zero => omega
    | succ f =>
      unfold searchLoop
      simp only [(gen_search_eq 0 _).2.1]
      rfl
  | succ k ih =>
    intro fuel hk hf
    cases fuel with
    | zero => omega
    | succ f =>
      have hlt : k < l.length := hk
      have h1 : (((k + 1 : Nat) : Int) - 1) = (k : Int) := Int.add_sub_cancel (k : Int) 1
      have h2 : ((k + 1 : Nat) : Int) ≠ 0 := Int.natCast_ne_zero.mpr (Nat.succ_ne_zero k)
      rw [lastBelow_succ ob hlt, searchLoop]
      simp only [(gen_search_eq 0 _).2.1, h1, Int.toNat_natCast, decide_eq_true h2, if_true, List.getElem?_eq_getElem hlt]
      split
      · rfl
      · exact ih f (Nat.le_of_lt hlt) (Nat.le_of_succ_le_succ hf)

theorem idxOf_get {x : Nat} {l : List Entry} {i : Nat} (h : idxOf x l = some i) : ∃ e, l[i]? = some e ∧ e.ob = x := by
  rw [idxOf_eq_findIdx?, List.findIdx?_eq_some_iff_getElem] at h
  obtain ⟨hi, hp, _⟩ := h
  exact ⟨l[i], List.getElem?_eq_getElem hi, beq_iff_eq.mp hp⟩

theorem not_has_get {x : Nat} {l : List Entry} (h : hasOb x l = false) : ∀ (j : Nat) (e : Entry), l[j]? = some e → e.ob ≠ x := by
  intro j e hj hx
  have : ∀ e ∈ l, ¬ (e.ob == x) = true := by simpa [hasOb] using h
  exact this e (List.mem_of_getElem? hj) (beq_iff_eq.mpr hx)

/-- entries unique per object: the entry of `x` is at one index only -/
theorem idxOf_unique {x : Nat} {l : List Entry} {i j : Nat} {e : Entry} (hnd : (l.map (·.ob)).Nodup)
    (hi : idxOf x l = some i) (hj : l[j]? = some e) (hx : e.ob = x) : j = i := by
  obtain ⟨e', he', hx'⟩ := idxOf_get hi
  have hil : i < (l.map (·.ob)).length := by rw [List.length_map]; exact idxOf_lt hi
  refine ((List.getElem?_inj hil hnd).mp ?_).symm
  rw [List.getElem?_map, List.getElem?_map, he', hj]
  exact congrArg some (hx'.trans hx.symm)

/-- what `lastBelow` finds: -1 or the index of an entry of `ob`, with no entry of `ob` between it and `k` -/
theorem lastBelow_spec (ob : Nat) (l : List Entry) : ∀ k, k ≤ l.length →
    -1 ≤ lastBelow ob l k ∧ (0 ≤ lastBelow ob l k → ∃ e, l[(lastBelow ob l k).toNat]? = some e ∧ e.ob = ob) ∧
    ∀ (j : Nat) (e : Entry), lastBelow ob l k < j → j < k → l[j]? = some e → e.ob ≠ ob := by
  intro k
  induction k with
  | zero => intro _; exact ⟨Int.le_refl _, fun (h : (0 : Int) ≤ -1) => absurd h (by decide), fun j _ _ hj => absurd hj (Nat.not_lt_zero j)⟩
  | succ k ih =>
    intro (hk : k < l.length)
    have hget : l[k]? = some l[k] := List.getElem?_eq_getElem hk
    rw [lastBelow_succ ob hk]
    by_cases hm : l[k].ob = ob
    · rw [if_pos hm]
      refine ⟨by omega, fun _ => ⟨l[k], by rw [Int.toNat_natCast]; exact hget, hm⟩, fun j _ h1 h2 => ?_⟩
      omega
    · rw [if_neg hm]
      obtain ⟨h1, h2, h3⟩ := ih (Nat.le_of_lt hk)
      refine ⟨h1, h2, fun j e hj hjk he => ?_⟩
      by_cases hjk' : j = k
      · rw [hjk', hget] at he; cases he; exact hm
      · exact h3 j e hj (by omega) he

theorem searchBack_unfold (ob : Nat) (l : List Entry) :
    searchBack ob l = if lastBelow ob l l.length < 0 then none else some (lastBelow ob l l.length).toNat := by
  unfold searchBack
  rw [(gen_search_eq (l.length : Int) 0).1, searchLoop_eq ob l l.length (l.length + 1) (Nat.le_refl _) (Nat.le_refl _),
    (gen_search_eq 0 _).2.2]
  by_cases h : lastBelow ob l l.length < 0
  · simp [h]
  · simp [h]

/-- the loop says "not on the list" exactly when the object has no entry (no uniqueness needed) -/
theorem searchBack_none_iff (ob : Nat) (l : List Entry) : searchBack ob l = none ↔ hasOb ob l = false := by
  obtain ⟨_, h2, h3⟩ := lastBelow_spec ob l l.length (Nat.le_refl _)
  rw [searchBack_unfold]
  constructor
  · intro h
    cases hh : hasOb ob l with
    | false => rfl
    | true =>
      -- the scan cannot pass the entry that `idxOf` finds
      obtain ⟨i, hi, hil⟩ := idxOf_some_of_has hh
      obtain ⟨e, he, hx⟩ := idxOf_get hi
      have : ¬ lastBelow ob l l.length < i := fun hlt => h3 i e hlt hil he hx
      rw [if_neg (by omega)] at h
      cases h
  · intro h
    by_cases h0 : 0 ≤ lastBelow ob l l.length
    · obtain ⟨e, he, hx⟩ := h2 h0
      exact absurd hx (not_has_get h _ e he)
    · rw [if_pos (by omega)]

/-- **the direction of the scan is not observable**: on a list with at most one entry per object the C search (from the
    back, regenerated loop) and the model's search (from the front) find the same index or both find nothing -/
theorem searchBack_eq_idxOf (ob : Nat) (l : List Entry) (hnd : (l.map (·.ob)).Nodup) : searchBack ob l = idxOf ob l := by
  cases hi : idxOf ob l with
  | none => exact (searchBack_none_iff ob l).mpr (not_has_of_idxOf_none hi)
  | some i =>
    obtain ⟨_, h2, h3⟩ := lastBelow_spec ob l l.length (Nat.le_refl _)
    obtain ⟨e, he, hx⟩ := idxOf_get hi
    -- the scan stops at or behind `i`, at an entry of `ob`: that entry is the one at `i`
    have hle : ¬ lastBelow ob l l.length < i := fun hlt => h3 i e hlt (idxOf_lt hi) he hx
    obtain ⟨e', he', hx'⟩ := h2 (by omega)
    rw [searchBack_unfold, if_neg (by omega), idxOf_unique hnd hi he' hx']

example : searchBack 3 [⟨2, 1, 1⟩, ⟨3, 2, 2⟩, ⟨4, 1, 3⟩] = some 1 ∧ searchBack 9 [⟨2, 1, 1⟩] = none ∧
    searchBack 2 [⟨2, 1, 1⟩, ⟨3, 1, 1⟩, ⟨2, 5, 5⟩] = some 2 ∧ idxOf 2 [⟨2, 1, 1⟩, ⟨3, 1, 1⟩, ⟨2, 5, 5⟩] = some 0 := by decide

end NV.C11
