/-
C11 — bridging lemmas between the definitions regenerated from the C source (NV/Gen/C11.lean, produced by
props/c11_extract.py from the clang AST of set_heart_beat / f_set_heart_beat / call_heart_beat and of the statements
of error_handler, destruct_object, clone_object, reload_object, backend that the model follows) and the forms that the
invariant proofs use.  A change of the source that alters a compensation condition, the tick test / reset, the clamp,
the argument saturation, the loop exit or one of the pinned statement orders changes NV/Gen/C11.lean and makes the
corresponding `gen_*_eq` lemma here fail (obligation broken), while the executable model follows the changed source.

On top of the `gen_*_eq` lemmas: the model's functions rewritten without any regenerated definition
(`errorHandlerRef`, `setHeartBeatRef`, `roundRef`, `tickRef`, each with its `_eq_ref` / `_ref` equation), and
set_heart_beat and `stepOpBasic` stated branch by branch; the later files reach the regenerated definitions through these.
-/
import NV.C11.Lemmas

namespace NV.C11

open NV.Gen.C11 in
/-- the translator's `(short)` is the oracle's `wrap16` -/
theorem gen_trunc16_eq (x : Int) : trunc16 x = wrap16 x := rfl

/-- **clamp** (`if (to > SHRT_MAX) to = SHRT_MAX;` in front of `if (!to)`) -/
theorem gen_clampTo_eq (to : Int) : NV.Gen.C11.clampTo to = if to > shrtMax then shrtMax else to := by
  rw [shrtMax_val]; rfl

/-- **index compensation of the removal branch**: `if (num_hb_to_do) { if (index <= heart_beat_index)
    heart_beat_index--; if (index < num_hb_to_do) num_hb_to_do--; }` -/
theorem gen_rmCompensate_eq (index idx todo : Int) :
    NV.Gen.C11.rmCompensate index idx todo =
      if todo ≠ 0 then (if index ≤ idx then idx - 1 else idx, if index < todo then todo - 1 else todo)
      else (idx, todo) := by
  unfold NV.Gen.C11.rmCompensate
  split <;> rfl

/-- **append branch**: `if (to < 0) to = 1; hb->time_to_heart_beat = hb->heart_beat_ticks = (short)to;` -/
theorem gen_appendStore_eq (to : Int) :
    NV.Gen.C11.appendStore to = (wrap16 (if to < 0 then 1 else to), wrap16 (if to < 0 then 1 else to)) := rfl

/-- **saturation in f_set_heart_beat** = the clamp of the specification -/
theorem gen_efunSat_eq (n : Int) : NV.Gen.C11.efunSat n = satEfun n := by
  have := shrtMax_val
  unfold NV.Gen.C11.efunSat satEfun NV.Gen.C11.trunc32
  rw [this]
  split
  · rfl
  · split
    · rfl
    · omega

/-- **tick test and reset**: `ticks--; if (prog->heart_beat != -1) if (ticks < 1) { ticks = time_to_heart_beat; call }`:
    the countdown is a `short`, the entry beats iff the program has a heart_beat function and the decremented
    countdown is below 1, and the countdown is reset to the interval *before* the call -/
theorem gen_hbBody_eq (hasFn : Bool) (ticks interval : Int) :
    NV.Gen.C11.hbBody (if hasFn then 0 else -1) ticks interval =
      if hasFn && decide (wrap16 (ticks - 1) < 1) then (interval, true, interval)
      else (wrap16 (ticks - 1), false, 0) := by
  unfold NV.Gen.C11.hbBody
  cases hasFn <;> by_cases h : wrap16 (ticks - 1) < 1 <;> simp [gen_trunc16_eq, h]

/-- **loop exit**: `if (++heart_beat_index == num_hb_to_do) break;` -/
theorem gen_loopStep_eq (idx todo : Int) : NV.Gen.C11.loopStep idx todo = (idx + 1, decide (idx + 1 = todo)) := rfl

/-- **while condition**: `while (!heart_beat_flag)` -/
theorem gen_loopContinues_eq (f : Bool) : NV.Gen.C11.loopContinues (if f then 1 else 0) = !f := by
  cases f <;> decide

/-- **statement order of destruct_object**: inventory hooks, then set_heart_beat (ob, 0), then the O_DESTRUCTED store -/
theorem gen_destructOrder_eq : NV.Gen.C11.destructOrder = [0, 1, 2] := rfl

/-- **memmove of the removal branch**: `if ((num = num_hb_objs - (index + 1))) memmove (heart_beats + index, heart_beats +
    (index + 1), num * sizeof (heart_beat_t)); num_hb_objs--;` -/
theorem gen_rmMove_eq (index n : Int) :
    NV.Gen.C11.rmMove index n = (index, index + 1, n - (index + 1), decide (n - (index + 1) ≠ 0), n - 1) := rfl

/-- ... which on the list is "erase the entry at `index`" (for an index inside the array) -/
theorem applyMove_eq_erase (l : List Entry) (i : Nat) (h : i < l.length) :
    applyMove l (NV.Gen.C11.rmMove (i : Int) (l.length : Int)) = l.eraseIdx i := by
  rw [gen_rmMove_eq]
  unfold applyMove
  have h2 : ((i : Int) + 1).toNat = i + 1 := Int.toNat_natCast (i + 1)
  have h3 : ((l.length : Int) - ((i : Int) + 1)).toNat = l.length - (i + 1) := Int.toNat_sub l.length (i + 1)
  have h4 : ((l.length : Int) - 1).toNat = l.length - 1 := Int.toNat_sub l.length 1
  simp only [Int.toNat_natCast, h2, h3, h4]
  rw [List.eraseIdx_eq_take_drop_succ]
  by_cases hg : l.length - (i + 1) = 0
  · -- the last entry goes: nothing to move, only the count drops
    have hi : i + 1 = l.length := by omega
    have hg' : ¬ ((l.length : Int) - ((i : Int) + 1) ≠ 0) := by omega
    have hd : l.drop (i + 1) = [] := by rw [hi]; exact List.drop_length
    rw [decide_eq_false hg', if_neg (by decide), hd, List.append_nil, ← hi, Nat.add_sub_cancel]
  · -- the tail moves down over the entry; what is left of the old last entry is cut off by the new count
    have hg' : (l.length : Int) - ((i : Int) + 1) ≠ 0 := by omega
    rw [decide_eq_true hg', if_pos rfl,
      List.take_of_length_le (l := l.drop (i + 1)) (by rw [List.length_drop]; exact Nat.le_refl _)]
    apply List.take_left'
    rw [List.length_append, List.length_take, List.length_drop]
    omega

/-- **query_heart_beat** answers 0 for an object without O_HEART_BEAT, else the interval (`time_to_heart_beat`) of its
    entry, else 0 -/
theorem gen_queryReturns_eq : NV.Gen.C11.queryReturns = [0, 1, 0] := rfl

/-- **reload_object**: O_ENABLE_COMMANDS cleared, then `set_heart_beat (obj, 0)`, then create() -/
theorem gen_reloadOrder_eq : NV.Gen.C11.reloadOrder = [0, 1, 2] := rfl

/-- **clone_object**: the blueprint's heart beat is switched off before create() of the clone runs -/
theorem gen_cloneOrder_eq : NV.Gen.C11.cloneOrder = [0, 1] := rfl

/-- **search loop of the removal branch**: from `num_hb_objs` downwards, `while (index--)`, not found = `index < 0` -/
theorem gen_search_eq (n i : Int) :
    NV.Gen.C11.searchStart n = n ∧ NV.Gen.C11.searchNext i = (i - 1, decide (i ≠ 0)) ∧
    NV.Gen.C11.searchMiss i = decide (i < 0) := ⟨rfl, rfl, rfl⟩

/-- **entry of set_heart_beat**: the mask tested by its first statement is O_DESTRUCTED -/
theorem gen_shbGuard_eq : NV.Gen.C11.shbGuardMask = NV.Gen.C11.oDestructed := rfl

/-- **retune** (object already on the list): `if (to < 0) return 0;` then `(short)to` into both fields -/
theorem gen_retuneStore_eq (to t i : Int) :
    NV.Gen.C11.retuneStore to t i = (decide (to < 0), wrap16 to, wrap16 to) := rfl

/-- **growth of the array**: first allocation HEART_BEAT_CHUNK, `num_hb_objs == max_heart_beats` adds a chunk -/
theorem gen_growCap_eq (cap n : Nat) :
    (NV.Gen.C11.growCap (cap : Int) (n : Int)).toNat = (if cap = 0 then chunk else if n = cap then cap + chunk else cap) := by
  unfold NV.Gen.C11.growCap
  by_cases hc : cap = 0
  · subst hc; rfl
  · have hc' : (cap : Int) ≠ 0 := Int.natCast_ne_zero.mpr hc
    rw [if_neg (not_not_intro hc'), if_neg hc]
    by_cases hn : n = cap
    · rw [if_pos (congrArg Nat.cast hn), if_pos hn]; exact Int.toNat_natCast (cap + chunk)
    · rw [if_neg (fun h => hn (Int.natCast_inj.mp h)), if_neg hn]; exact Int.toNat_natCast cap

/-- **save_context / restore_context** carry command_giver -/
theorem gen_ctxSaveRestore_eq : NV.Gen.C11.ctxSaveRestore = [1, 1] := rfl

/-- **efun wrappers**: query_heart_beat(ob) asks about its argument, heart_beats() returns get_heart_beats () -/
theorem gen_efunWrappers_eq : NV.Gen.C11.efunWrappers = [1, 1] := rfl

/-- **heart_beats()** answers the list in reverse order -/
theorem gen_heartBeatsReversed_eq : NV.Gen.C11.heartBeatsReversed = true := rfl

/-- **backend()**: the recovery point is set in front of the loop; the loop resets eval_cost, removes destructed objects
    (and swaps replaced programs) and then calls call_heart_beat when the flag is set - the sequence the model's `tick` follows
    (`applyRp`, then `tickCore`) -/
theorem gen_backendOrder_eq : NV.Gen.C11.backendOrder = [3, 0, 1, 2] := rfl

/-- **heartbeat_timer_callback** sets heart_beat_flag to 1 -/
theorem gen_timerSetsFlag_eq (f : Int) : NV.Gen.C11.timerSetsFlag f = 1 := rfl

/-- **tail of call_heart_beat**: the round, then `current_heart_beat = 0`, then the reset()/clean_up() sweep, then the
    call_out dispatch - during the sweep and the dispatch nobody is "the object whose heart_beat is running" -/
theorem gen_chbTail_eq : NV.Gen.C11.chbTail = [0, 1, 2, 3] := rfl

theorem timerFlagHeartbeat_val : NV.Gen.C11.timerFlagHeartbeat = 2 := rfl

/-- the guard of the round: `(MAIN_OPTION (timer_flags) & TIMER_FLAG_HEARTBEAT) && (num_hb_to_do > 0)` (after
    `num_hb_to_do = num_hb_objs`); the bit test `x & F` (F a power of two) is `((x / F) % 2) * F`, F = the regenerated TIMER_FLAG_HEARTBEAT -/
abbrev enters (n tf : Int) : Prop :=
  (tf / ((NV.Gen.C11.timerFlagHeartbeat : Nat) : Int)) % 2 * ((NV.Gen.C11.timerFlagHeartbeat : Nat) : Int) ≠ 0 ∧ n > 0

/-- **entry of a round**: `heart_beat_flag = 0; num_hb_to_do = num_hb_objs; if ((timer_flags & TIMER_FLAG_HEARTBEAT) &&
    num_hb_to_do > 0) { heart_beat_index = 0; while ...`: heart_beat_index keeps its (stale) value when the round is not
    entered -/
theorem gen_roundEntry_eq (n idx todo fl tf : Int) :
    NV.Gen.C11.roundEntry n idx todo fl tf = (if enters n tf then 0 else idx, n, 0, decide (enters n tf)) := rfl

/-- **end of a round**: `heart_beat_index = num_hb_to_do = 0;` ... `current_heart_beat = 0;` -/
theorem gen_roundExit_eq (idx todo cur : Int) : NV.Gen.C11.roundExit idx todo cur = (0, 0, 0) := rfl

/-- **no round**: heart_beat_index / num_hb_to_do are left alone, `current_heart_beat = 0;` -/
theorem gen_roundSkip_eq (idx todo cur : Int) : NV.Gen.C11.roundSkip idx todo cur = (idx, todo, 0) := rfl

/-- **statements around the call of heart_beat()**: current_heart_beat, command_giver (only for living objects) and
    eval_cost are set up in front of every call; command_giver is cleared after it -/
theorem gen_callFrame_eq : NV.Gen.C11.callFrame = [1, 2, 3, 4, 0, 5, 6] := rfl

/-- **error_handler**: the catch branch leaves first, the heart-beat switch-off comes before the final longjmp -/
theorem gen_errOrder_eq : NV.Gen.C11.errOrder = [0, 1, 2] := rfl

/-- **error_handler, `if (current_heart_beat)` block**: `set_heart_beat (current_heart_beat, 0); current_heart_beat = 0;` -/
theorem gen_errBlock_eq : NV.Gen.C11.errBlock = [1, 2] := rfl

/-- error_handler in the hand-written form that the invariant proofs unfold -/
def errorHandlerRef (w : World) : World :=
  match w.cur with
  | some c => { setHeartBeat w c 0 with cur := none }
  | none => w

theorem errorHandler_eq_ref (w : World) : errorHandler w = errorHandlerRef w := by
  unfold errorHandler errorHandlerRef
  rw [gen_errBlock_eq]
  cases hc : w.cur with
  | none => rfl
  | some c => simp only [List.foldl, errStmt, hc]

theorem finish_ref (w : World) : finish w = { w with idx := 0, todo := 0, cur := none } := by
  unfold finish leave
  rw [gen_roundExit_eq]
  rfl

/-- the statements in front of the call: whatever ran before (another heart_beat that enabled commands, used up its
    evaluation cost or raised an error), the called object starts with command_giver = itself iff it is living, and a
    fresh evaluation cost -/
theorem callSetup_ref (w : World) (ob : Nat) :
    callSetup w ob = { w with cur := some ob, cg := if w.living.contains ob then some ob else none, ec := true } := by
  unfold callSetup
  rw [gen_callFrame_eq]
  have h : ([1, 2, 3, 4, 0, 5, 6] : List Nat).takeWhile (· != 0) = [1, 2, 3, 4] := by decide
  rw [h]
  simp only [List.foldl, frameStmt]
  cases hl : w.living.contains ob <;> simp

theorem callAfter_ref (w : World) (ob : Nat) : callAfter w ob = { w with cg := none } := by
  unfold callAfter
  rw [gen_callFrame_eq]
  have h : (([1, 2, 3, 4, 0, 5, 6] : List Nat).dropWhile (· != 0)).drop 1 = [5, 6] := by decide
  rw [h]
  rfl

theorem hbOn_iff (tf : Int) : hbOn tf = true ↔
    (tf / ((NV.Gen.C11.timerFlagHeartbeat : Nat) : Int)) % 2 * ((NV.Gen.C11.timerFlagHeartbeat : Nat) : Int) ≠ 0 := by
  unfold hbOn
  have hF : (0 : Int) < ((NV.Gen.C11.timerFlagHeartbeat : Nat) : Int) := by decide
  simp only [decide_eq_true_eq]
  constructor
  · intro h hx
    rcases Int.mul_eq_zero.mp hx with h1 | h2
    · exact h h1
    · omega
  · intro h hx
    apply h
    rw [hx, Int.zero_mul]

theorem destructLeaf_ref (w : World) (t : Nat) :
    destructLeaf w t = { setHeartBeat w t 0 with dead := t :: (setHeartBeat w t 0).dead,
                                                 inv := (setHeartBeat w t 0).inv.filter (fun p => p.1 != t) } := by
  unfold destructLeaf; rw [gen_destructOrder_eq]; rfl

theorem destructFull_ref (w : World) (t : Nat) :
    destructFull w t =
      if (hooksPhase w t).2.2 = .err then ((hooksPhase w t).1, (hooksPhase w t).2.1, .err)
      else if (hooksPhase w t).1.alive t then (destructLeaf (hooksPhase w t).1 t, (hooksPhase w t).2.1, .ok)
      else ((hooksPhase w t).1, (hooksPhase w t).2.1, .stop) := by
  unfold destructFull destructLeaf
  rw [gen_destructOrder_eq]
  simp only [List.foldl, fullPhase, leafPhase, if_true, List.nil_append]
  rcases hh : hooksPhase w t with ⟨w1, e1, st⟩
  cases st <;> cases hat : w1.alive t <;> simp [hat]

theorem cursorStep_ref (w : World) :
    cursorStep w = ({ w with idx := w.idx + 1 }, decide (w.idx + 1 = w.todo) || w.flag) := by
  unfold cursorStep
  simp only [gen_loopStep_eq, gen_loopContinues_eq, Bool.not_not]

/-- set_heart_beat in the hand-written form that the invariant proofs (NV/C11/Sim.lean) unfold -/
def setHeartBeatRef (w : World) (ob : Nat) (to : Int) : World :=
  if w.dead.contains ob then w
  else
    let to := if to > shrtMax then shrtMax else to
    if to = 0 then
      match idxOf ob w.hbs with
      | none => w
      | some index =>
        let w1 :=
          if w.todo ≠ 0 then
            { w with idx := if (index : Int) ≤ w.idx then w.idx - 1 else w.idx,
                     todo := if (index : Int) < w.todo then w.todo - 1 else w.todo }
          else w
        { w1 with hbs := w1.hbs.eraseIdx index }
    else if hasOb ob w.hbs then
      if to < 0 then w
      else
        match idxOf ob w.hbs with
        | none => w
        | some index => { w with hbs := w.hbs.set index { ob := ob, ticks := wrap16 to, interval := wrap16 to } }
    else
      let cap := if w.cap = 0 then chunk else if w.hbs.length = w.cap then w.cap + chunk else w.cap
      if w.hbs.length < cap then
        let to := if to < 0 then 1 else to
        { w with cap := cap, hbs := w.hbs ++ [{ ob := ob, ticks := wrap16 to, interval := wrap16 to }] }
      else { w with crashed := true }


theorem setHeartBeat_eq_ref (w : World) (ob : Nat) (to : Int) : setHeartBeat w ob to = setHeartBeatRef w ob to := by
  unfold setHeartBeat setHeartBeatRef
  simp only [gen_clampTo_eq, gen_rmCompensate_eq, gen_appendStore_eq, gen_retuneStore_eq, gen_growCap_eq,
    decide_eq_true_eq]
  cases hidx : idxOf ob w.hbs with
  | none => rfl
  | some index =>
    have hmv := applyMove_eq_erase w.hbs index (idxOf_lt hidx)
    by_cases htodo : w.todo = 0
    · simp [htodo, hmv]
    · simp [htodo, hmv]

/-! ### set_heart_beat branch by branch: what the invariant proofs and the property theorems use -/

/-- **a destructed object is never put on the list**: set_heart_beat on a destructed object - by itself after
    destruct(this_object()), by error_handler, by anybody - changes nothing, whatever the argument (the O_DESTRUCTED test
    is the first statement: `gen_shbGuard_eq`) -/
theorem destructed_never_enabled (w : World) (x : Nat) (n : Int) (hd : w.dead.contains x = true) :
    setHeartBeat w x n = w := by
  rw [setHeartBeat_eq_ref]; unfold setHeartBeatRef; rw [if_pos hd]

theorem clampTo_zero : NV.Gen.C11.clampTo 0 = 0 := by rw [gen_clampTo_eq]; rfl

theorem setHeartBeat_zero_none {w : World} {x : Nat} (hd : w.dead.contains x = false) (hi : idxOf x w.hbs = none) :
    setHeartBeat w x 0 = w := by
  simp only [setHeartBeat, hd, clampTo_zero, hi, Bool.false_eq_true, if_false, if_true]

/-- removal: the entry goes, the two cursors are compensated -/
theorem setHeartBeat_zero_some {w : World} {x i : Nat} (hd : w.dead.contains x = false) (hi : idxOf x w.hbs = some i) :
    setHeartBeat w x 0 = { w with idx := (NV.Gen.C11.rmCompensate (i : Int) w.idx w.todo).1,
                                  todo := (NV.Gen.C11.rmCompensate (i : Int) w.idx w.todo).2,
                                  hbs := rmFirst x w.hbs } := by
  simp only [setHeartBeat, hd, clampTo_zero, hi, Bool.false_eq_true, if_false, if_true]
  rw [applyMove_eq_erase _ _ (idxOf_lt hi), eraseIdx_idxOf hi]

theorem setHeartBeat_neg_on {w : World} {x : Nat} {t : Int} (hd : w.dead.contains x = false)
    (hon : hasOb x w.hbs = true) (ht : t < 0) : setHeartBeat w x t = w := by
  have h1 : ¬ t > shrtMax := by have := shrtMax_val; omega
  have h2 : ¬ t = 0 := by omega
  rw [setHeartBeat_eq_ref]; unfold setHeartBeatRef
  simp only [hd, h1, h2, hon, ht, Bool.false_eq_true, if_false, if_true]

/-- retune: the entry is restarted where it is; `(short)` is the identity on a clamped positive argument -/
theorem setHeartBeat_retune {w : World} {x : Nat} {t : Int} (hd : w.dead.contains x = false)
    (hon : hasOb x w.hbs = true) (h0 : 0 < t) (h1 : t ≤ shrtMax) :
    setHeartBeat w x t = { w with hbs := retune x t w.hbs } := by
  obtain ⟨i, hi, _⟩ := idxOf_some_of_has hon
  have h2 : ¬ t > shrtMax := by omega
  have h3 : ¬ t = 0 := by omega
  have h4 : ¬ t < 0 := by omega
  rw [setHeartBeat_eq_ref]; unfold setHeartBeatRef
  simp only [hd, h2, h3, h4, hon, hi, wrap16_id (by omega) h1, Bool.false_eq_true, if_false, if_true]
  rw [set_idxOf _ hi]

/-- append: the array grows by HEART_BEAT_CHUNK when it is full, so the new entry is inside the allocation -/
theorem setHeartBeat_append {w : World} {x : Nat} {t : Int} (hd : w.dead.contains x = false)
    (hoff : hasOb x w.hbs = false) (h0 : t ≠ 0) (hlo : -32768 ≤ t) (h1 : t ≤ shrtMax) (hc : w.hbs.length ≤ w.cap) :
    ∃ cap, w.hbs.length < cap ∧
      setHeartBeat w x t = { w with cap := cap, hbs := w.hbs ++ [{ ob := x, ticks := if t < 0 then 1 else t,
                                                                   interval := if t < 0 then 1 else t }] } := by
  have h2 : ¬ t > shrtMax := Int.not_lt.mpr h1
  have hlt : w.hbs.length < (if w.cap = 0 then chunk else if w.hbs.length = w.cap then w.cap + chunk else w.cap) := by
    split
    · rename_i h0; exact Nat.lt_of_le_of_lt (h0 ▸ hc) (by decide)
    · split
      · rename_i he; rw [he]; exact Nat.lt_add_of_pos_right (by decide)
      · rename_i hne; exact Nat.lt_of_le_of_ne hc hne
  have hw : wrap16 (if t < 0 then 1 else t) = (if t < 0 then 1 else t) := by
    split
    · rfl
    · exact wrap16_id (by omega) h1
  refine ⟨_, hlt, ?_⟩
  rw [setHeartBeat_eq_ref]; unfold setHeartBeatRef
  simp only [hd, h2, h0, hoff, hlt, hw, Bool.false_eq_true, if_false, if_true]

/-! ### one operation branch by branch (`stepOpBasic`), with the efun's saturation in the specification's form -/

theorem stepOpBasic_shb_dead {w : World} {self t : Nat} {n : Int} (h : w.alive t = false) :
    stepOpBasic w self (.shb t n) = (w, [.shbDead self t n], .ok) :=
  if_pos (by rw [h]; rfl)

theorem stepOpBasic_shb {w : World} {self t : Nat} {n : Int} (h : w.alive t = true) :
    stepOpBasic w self (.shb t n) =
      (setHeartBeat w t (satEfun n), [.shb self t n (queryHeartBeat (setHeartBeat w t (satEfun n)) t)], .ok) := by
  rw [← gen_efunSat_eq]; exact if_neg (by rw [h]; decide)

theorem stepOpBasic_q_dead {w : World} {self t : Nat} (h : w.alive t = false) :
    stepOpBasic w self (.q t) = (w, [.queryDead self t], .ok) :=
  if_pos (by rw [h]; rfl)

theorem stepOpBasic_q {w : World} {self t : Nat} (h : w.alive t = true) :
    stepOpBasic w self (.q t) = (w, [.query self t (queryHeartBeat w t)], .ok) :=
  if_neg (by rw [h]; decide)

/-- destruct of something that is gone, unknown or a blueprint does nothing -/
theorem stepOpBasic_dest_none {w : World} {self t : Nat} (h : (!w.alive t || decide (t < 2)) = true) :
    stepOpBasic w self (.dest t) = (w, [.destNone self t], .ok) :=
  if_pos h

/-- destruct of anything but the item whose move_or_destruct() is running is an error -/
theorem stepOpBasic_dest_restricted {w : World} {self t : Nat} (h : ¬ (!w.alive t || decide (t < 2)) = true)
    (hr : restricted w t = true) : stepOpBasic w self (.dest t) = (w, [.errR], .err) :=
  (if_neg h).trans (if_pos hr)

theorem stepOpBasic_dest {w : World} {self t : Nat} (h : ¬ (!w.alive t || decide (t < 2)) = true)
    (hr : ¬ restricted w t = true) :
    stepOpBasic w self (.dest t) =
      (destructLeaf w t, [.dest self t], if (destructLeaf w t).alive self then .ok else .stop) :=
  (if_neg h).trans (if_neg hr)

theorem stepOpBasic_clone_dup {w : World} {self new kind : Nat} {n : Int} (h : w.known.contains new = true) :
    stepOpBasic w self (.clone new kind n) = (w, [.cloneDup self new], .ok) :=
  if_pos h

theorem stepOpBasic_zshb_unknown {w : World} {self : Nat} {n : Int} (h : w.known.contains self = false) :
    stepOpBasic w self (.zshb n) = (w, [.zshb self n], .ok) :=
  if_pos (by rw [h]; rfl)

theorem stepOpBasic_zshb {w : World} {self : Nat} {n : Int} (h : w.known.contains self = true) :
    stepOpBasic w self (.zshb n) = (setHeartBeat w self (satEfun n), [.zshb self n], .ok) := by
  rw [← gen_efunSat_eq]; exact if_neg (by rw [h]; decide)

theorem stepOpBasic_reload_none {w : World} {self t : Nat} {n : Int} (h : (!w.alive t || decide (t < 2)) = true) :
    stepOpBasic w self (.reload t n) = (w, [.reloadNone self t], .ok) :=
  if_pos h

/-- the round loop in the hand-written form that the invariant proofs unfold -/
def roundRef (sc : Scripts) : Nat → World → World × List Ev
  | 0, w => crash w "round-does-not-terminate"
  | fuel + 1, w =>
    if w.idx < 0 then crash w "heart_beats-index-negative"
    else
      match w.hbs[w.idx.toNat]? with
      | none => crash w "heart_beats-index-beyond-num_hb_objs"
      | some hb =>
        let t := wrap16 (hb.ticks - 1)
        if !w.nofn.contains hb.ob && decide (t < 1) then
          let cx : Ev := .ctx hb.ob (w.living.contains hb.ob) (if w.living.contains hb.ob then some hb.ob else none) true
          let w1 := { w with hbs := w.hbs.set w.idx.toNat { hb with ticks := hb.interval }, cur := some hb.ob,
                             cg := if w.living.contains hb.ob then some hb.ob else none, ec := true,
                             nb := fun o => if o = hb.ob then w.nb o + 1 else w.nb o }
          match runOps w1 hb.ob (sc hb.ob (w.nb hb.ob)) with
          | (w2, evs, .err) => ({ errorEntry w2 with cg := none }, .beat hb.ob :: cx :: evs ++ [.tickAbort])
          | (w2, evs, _) =>
            let w3 := { w2 with cg := none, idx := w2.idx + 1 }
            if w3.idx = w3.todo || w3.flag then (finish w3, .beat hb.ob :: cx :: evs ++ [.beatEnd hb.ob, .tickEnd])
            else
              match roundRef sc fuel w3 with
              | (w4, evs') => (w4, .beat hb.ob :: cx :: evs ++ .beatEnd hb.ob :: evs')
        else
          let w1 := { w with hbs := w.hbs.set w.idx.toNat { hb with ticks := t }, idx := w.idx + 1 }
          if w1.idx = w1.todo || w1.flag then (finish w1, [.tickEnd])
          else roundRef sc fuel w1


theorem round_eq_ref (sc : Scripts) : ∀ (fuel : Nat) (w : World), round sc fuel w = roundRef sc fuel w := by
  intro fuel
  induction fuel with
  | zero => intro w; rfl
  | succ fuel ih =>
    intro w
    unfold round roundRef
    by_cases hneg : w.idx < 0
    · simp only [hneg, if_true]
    · simp only [hneg, if_false]
      cases hget : w.hbs[w.idx.toNat]? with
      | none => rfl
      | some hb =>
        have hb1 : (if w.nofn.contains hb.ob = true then (-1 : Int) else 0) = (if !w.nofn.contains hb.ob then 0 else -1) := by
          cases w.nofn.contains hb.ob <;> rfl
        simp only [hb1, gen_hbBody_eq, cursorStep_ref, ih, callSetup_ref, callAfter_ref, ctxEv]
        cases hf : (!w.nofn.contains hb.ob && decide (wrap16 (hb.ticks - 1) < 1)) with
        | false => simp
        | true =>
          simp only [if_true]
          generalize runOps _ hb.ob _ = r
          rcases r with ⟨w2, evs, st⟩
          cases st <;> simp

/-- call_heart_beat in the hand-written form that the invariant proofs unfold -/
def tickRef (sc : Scripts) (w : World) : World × List Ev :=
  if hbOn w.tflags then
    if (w.hbs.length : Int) > 0 then
      match round sc w.hbs.length { w with flag := false, idx := 0, todo := (w.hbs.length : Int) } with
      | (w', evs) => (w', .tickBegin :: evs)
    else ({ w with flag := false, todo := (w.hbs.length : Int), cur := none }, [.tickBegin, .tickEnd])
  else ({ w with flag := false, todo := (w.hbs.length : Int), cur := none }, [.tickOff, .tickEnd])

theorem tick_eq_ref (sc : Scripts) (w : World) : tickRound sc w = tickRef sc w := by
  unfold tickRound tickRef leave
  simp only [gen_roundEntry_eq, gen_roundSkip_eq]
  cases hon : hbOn w.tflags with
  | true =>
    have hb := (hbOn_iff w.tflags).mp hon
    by_cases hpos : (w.hbs.length : Int) > 0
    · have he : enters (w.hbs.length : Int) w.tflags := ⟨hb, hpos⟩
      rw [decide_eq_true he, if_pos he, if_pos rfl, if_pos rfl, if_pos hpos, if_pos rfl]
      rfl
    · have he : ¬ enters (w.hbs.length : Int) w.tflags := fun h => hpos h.2
      rw [decide_eq_false he, if_neg he, if_neg (by decide), if_pos rfl, if_neg hpos, if_pos rfl]
      rfl
  | false =>
    have hb : ¬ ((w.tflags / ((NV.Gen.C11.timerFlagHeartbeat : Nat) : Int)) % 2 * ((NV.Gen.C11.timerFlagHeartbeat : Nat) : Int) ≠ 0) := by
      intro h; have := (hbOn_iff w.tflags).mpr h; rw [hon] at this; cases this
    have he : ¬ enters (w.hbs.length : Int) w.tflags := fun h => hb h.1
    rw [decide_eq_false he, if_neg he]
    simp only [Bool.false_eq_true, if_false, if_true]
    rfl

/-- `tick` with its intermediate results named: the start-up call, the program replacements, call_heart_beat, the
    further passes -/
theorem tick_eq (sc : Scripts) (w : World) : ∃ r0 r1 r2 r3 : World × List Ev,
    tick sc w = (r3.1, r0.2 ++ r1.2 ++ r2.2 ++ r3.2 ++ [.cgAfter r3.1.cg]) ∧
    r0 = tickCore sc { w with cg := none, tflags := 0 } ∧ r1 = applyRp { r0.1 with tflags := w.tflags } ∧
    r2 = tickCore sc r1.1 ∧ r3 = (if r2.2.contains .tickAbort then morePasses sc maxPass r2.1 else (r2.1, [])) := by
  unfold tick
  exact ⟨_, _, _, _, rfl, rfl, rfl, rfl, rfl⟩

end NV.C11
