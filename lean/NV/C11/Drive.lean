/-
C11 driver: parses the case lines that the harness executes against the real driver and runs the model
(`model` mode) or the specification oracle on an implementation trace (`judge` mode).

Case lines (shared with harness/c11):
  script o<k> hb:<i>|hb:* <op>;<op>;...     what the i-th (0-based) / every other heart_beat of o<k> does
  script o<k> md <op>;...                   what move_or_destruct() of o<k> does when its carrier is destructed
                                            (only the ops of `hookAllowed` are executed there: shb / q / clone /
                                            flag / hbs / err / cerr / dest / mv)
  do o<k> <op>                              top-level operation executed by o<k>
  tick                                      one timer tick: one pass of the real backend() loop, which calls
                                            call_heart_beat (`tick` in Model.lean)
op syntax (comma separated):
  shb,o<t>,<n> | q,o<t> | dest,o<t> | clone,o<new>,<kind>,<n> | err | flag | hbs | take,o<item>
  cerr (error inside catch) | reload,o<t>,<n> (reload_object; create() does set_heart_beat(n)) | living (enable_commands)
  | burn (use up evaluation cost) | rp (replace_program by the inherited program without heart_beat) | mv,o<dest> (move_object into dest)
  | zshb,<n> (set_heart_beat(n) in the object itself, also after it destructed itself)
  tflags <n>                                MAIN_OPTION (timer_flags) = n
  cotick o<k>:<op>;<op>... ...              call_out callbacks (delay 1) in the named objects, then a tick with TIMER_FLAG_CALLOUT
o0 = blueprint /c11/obj (has heart_beat), o1 = blueprint /c11/nohb (no heart_beat function); both always loaded.
-/
import NV.Common.Proto
import NV.C11.Model
import NV.C11.Spec
import NV.C11.Branches

namespace NV.C11

open NV.Proto

def parseOid (s : String) : Option Nat :=
  if s.startsWith "o" then (s.drop 1).toString.toNat? else none

def parseOp (s : String) : Option Op :=
  match s.splitOn "," with
  | ["shb", t, n] => do some (.shb (← parseOid t) (← n.toInt?))
  | ["q", t] => do some (.q (← parseOid t))
  | ["dest", t] => do some (.dest (← parseOid t))
  | ["clone", o, k, n] => do some (.clone (← parseOid o) (← k.toNat?) (← n.toInt?))
  | ["err"] => some .err
  | ["flag"] => some .flag
  | ["hbs"] => some .hbs
  | ["take", i] => do some (.take (← parseOid i))
  | ["cerr"] => some .cerr
  | ["reload", t, n] => do some (.reload (← parseOid t) (← n.toInt?))
  | ["living"] => some .living
  | ["burn"] => some .burn
  | ["zshb", n] => do some (.zshb (← n.toInt?))
  | ["mv", x] => do some (.mv (← parseOid x))
  | ["rp"] => some .rp
  | _ => none

def oid (o : Nat) : String := s!"o{o}"

def render : Ev → String
  | .tickBegin => "tickbegin"
  | .tickEnd => "tickend"
  | .tickAbort => "tickabort"
  | .beat o => s!"beat {oid o}"
  | .beatEnd o => s!"beatend {oid o}"
  | .shb s t n q => s!"r shb {oid s} {oid t} {n} {q}"
  | .shbDead s t n => s!"r shb {oid s} {oid t} {n} !dead"
  | .query s t q => s!"r q {oid s} {oid t} {q}"
  | .queryDead s t => s!"r q {oid s} {oid t} !dead"
  | .dest s t => s!"r dest {oid s} {oid t}"
  | .destNone s t => s!"r dest {oid s} {oid t} !none"
  | .clone s n k i q => s!"r clone {oid s} {oid n} {k} {i} {q}"
  | .cloneDup s n => s!"r clone {oid s} {oid n} !dup"
  | .into i c => s!"r take {oid c} {oid i}"
  | .intoNone i c => s!"r take {oid c} {oid i} !none"
  | .hook i c => s!"hook {oid i} {oid c}"
  | .hookEnd i => s!"hookend {oid i}"
  | .hookGone i => s!"hookend {oid i} !gone"
  | .destGone s t => s!"r dest {oid s} {oid t} !gone"
  | .err o => s!"err *boom {oid o}"
  | .topErr o => s!"r {oid o} do_op !err"
  | .topDead o => s!"r {oid o} do_op !destructed"
  | .topNoObj o => s!"r {oid o} do_op !noobj"
  | .flag o => s!"r flag {oid o}"
  | .hbs s l => s!"r hbs {oid s} " ++ (if l.isEmpty then "-" else ",".intercalate (l.map oid))
  | .ctx o lv tp full =>
    s!"ctx {oid o} {if lv then 1 else 0} {match tp with | some p => oid p | none => "-"} {if full then "full" else "low"}"
  | .caught o => s!"caught *boom {oid o}"
  | .reload s t n q => s!"r reload {oid s} {oid t} {n} {q}"
  | .reloadNone s t => s!"r reload {oid s} {oid t} !none"
  | .living o => s!"r living {oid o}"
  | .burn o => s!"r burn {oid o}"
  | .tickOff => "tickbegin off"
  | .tflags n => s!"tflags {n}"
  | .rp o => s!"r rp {oid o}"
  | .rpNone o => s!"r rp {oid o} !none"
  | .rpDone o => s!"rpdone {oid o}"
  | .errR => "err *Only this_object() can be destructed from move_or_destruct."
  | .moved i d => s!"r mv {oid i} {oid d}"
  | .movedNone i d => s!"r mv {oid i} {oid d} !none"
  | .hookMoved i => s!"hookend {oid i} !moved"
  | .zshb o n => s!"r zshb {oid o} {n}"
  | .coBegin o => s!"cobegin {oid o}"
  | .coEnd o => s!"coend {oid o}"
  | .passLimit => "passlimit"
  | .cgAfter v => s!"cg {match v with | some p => oid p | none => "-"}"
  | .junk s => s

def parseOids (s : String) : Option (List Nat) :=
  if s == "-" then some []
  else
    let ps := (s.splitOn ",").map parseOid
    if ps.all Option.isSome then some (ps.filterMap id) else none

/-- inverse of `render` on implementation output lines; anything else is `junk` (a violation) -/
def parseEv (line : String) : Ev :=
  let r : Option Ev :=
    match toks line with
    | ["tickbegin"] => some .tickBegin
    | ["tickend"] => some .tickEnd
    | ["tickabort"] => some .tickAbort
    | ["beat", o] => do some (.beat (← parseOid o))
    | ["beatend", o] => do some (.beatEnd (← parseOid o))
    | ["r", "shb", s, t, n, "!dead"] => do some (.shbDead (← parseOid s) (← parseOid t) (← n.toInt?))
    | ["r", "shb", s, t, n, q] => do some (.shb (← parseOid s) (← parseOid t) (← n.toInt?) (← q.toInt?))
    | ["r", "q", s, t, "!dead"] => do some (.queryDead (← parseOid s) (← parseOid t))
    | ["r", "q", s, t, q] => do some (.query (← parseOid s) (← parseOid t) (← q.toInt?))
    | ["r", "dest", s, t] => do some (.dest (← parseOid s) (← parseOid t))
    | ["r", "dest", s, t, "!none"] => do some (.destNone (← parseOid s) (← parseOid t))
    | ["r", "dest", s, t, "!gone"] => do some (.destGone (← parseOid s) (← parseOid t))
    | ["r", "take", c, i] => do some (.into (← parseOid i) (← parseOid c))
    | ["r", "take", c, i, "!none"] => do some (.intoNone (← parseOid i) (← parseOid c))
    | ["hook", i, c] => do some (.hook (← parseOid i) (← parseOid c))
    | ["hookend", i] => do some (.hookEnd (← parseOid i))
    | ["hookend", i, "!gone"] => do some (.hookGone (← parseOid i))
    | ["r", "clone", s, n, "!dup"] => do some (.cloneDup (← parseOid s) (← parseOid n))
    | ["r", "clone", s, n, k, i, q] =>
      do some (.clone (← parseOid s) (← parseOid n) (← k.toNat?) (← i.toInt?) (← q.toInt?))
    | ["err", "*boom", o] => do some (.err (← parseOid o))
    | ["r", o, "do_op", "!err"] => do some (.topErr (← parseOid o))
    | ["r", o, "do_op", "!destructed"] => do some (.topDead (← parseOid o))
    | ["r", o, "do_op", "!noobj"] => do some (.topNoObj (← parseOid o))
    | ["r", "flag", o] => do some (.flag (← parseOid o))
    | ["r", "hbs", s, l] => do some (.hbs (← parseOid s) (← parseOids l))
    | ["ctx", o, lv, tp, ec] =>
      do
        let lv ← (if lv == "1" then some true else if lv == "0" then some false else none)
        let tp ← (if tp == "-" then some none else (parseOid tp).map some)
        let ec ← (if ec == "full" then some true else if ec == "low" then some false else none)
        some (.ctx (← parseOid o) lv tp ec)
    | ["caught", "*boom", o] => do some (.caught (← parseOid o))
    | ["r", "reload", s, t, "!none"] => do some (.reloadNone (← parseOid s) (← parseOid t))
    | ["r", "reload", s, t, n, q] => do some (.reload (← parseOid s) (← parseOid t) (← n.toInt?) (← q.toInt?))
    | ["r", "living", o] => do some (.living (← parseOid o))
    | ["r", "burn", o] => do some (.burn (← parseOid o))
    | ["tickbegin", "off"] => some .tickOff
    | ["tflags", n] => do some (.tflags (← n.toInt?))
    | ["r", "rp", o] => do some (.rp (← parseOid o))
    | ["r", "rp", o, "!none"] => do some (.rpNone (← parseOid o))
    | ["rpdone", o] => do some (.rpDone (← parseOid o))
    | ["err", "*Only", "this_object()", "can", "be", "destructed", "from", "move_or_destruct."] => some .errR
    | ["r", "mv", i, d] => do some (.moved (← parseOid i) (← parseOid d))
    | ["r", "mv", i, d, "!none"] => do some (.movedNone (← parseOid i) (← parseOid d))
    | ["hookend", i, "!moved"] => do some (.hookMoved (← parseOid i))
    | ["r", "zshb", o, n] => do some (.zshb (← parseOid o) (← n.toInt?))
    | ["cobegin", o] => do some (.coBegin (← parseOid o))
    | ["coend", o] => do some (.coEnd (← parseOid o))
    | ["passlimit"] => some .passLimit
    | ["cg", v] => if v == "-" then some (.cgAfter none) else (parseOid v).map (fun p => .cgAfter (some p))
    | _ => none
  match r with
  | some e => e
  | none =>
    if line.startsWith "crash" then .junk s!"crash {line}"
    else if line.startsWith "sanitizer" then .junk s!"memory-error {line}"
    else .junk s!"unexpected-line {line}"

structure Parsed where
  scripts : List ((Nat × Option Nat) × List Op) := []
  hooks : List (Nat × List Op) := []
  cmds : List Cmd := []
  bad : List String := []

def parseLine (p : Parsed) (line : String) : Parsed :=
  match toks line with
  | [] => p
  | ["script", o, key, ops] =>
    let k : Option (Option Nat) :=
      if key == "hb:*" then some none
      else if key.startsWith "hb:" then (key.drop 3).toString.toNat?.map some else none
    let parsed := (ops.splitOn ";").map parseOp
    match parseOid o, k with
    | some o, none =>
      if key == "md" && parsed.all Option.isSome then { p with hooks := (o, parsed.filterMap id) :: p.hooks }
      else { p with bad := line :: p.bad }
    | some o, some k =>
      if parsed.all Option.isSome then { p with scripts := ((o, k), parsed.filterMap id) :: p.scripts }
      else { p with bad := line :: p.bad }
    | _, _ => { p with bad := line :: p.bad }
  | ["do", o, op] =>
    match parseOid o, parseOp op with
    | some k, some op => { p with cmds := Cmd.op k op :: p.cmds }
    | _, _ => { p with bad := line :: p.bad }
  | ["tick"] => { p with cmds := Cmd.tick :: p.cmds }
  | "cotick" :: cbs =>
    let parsed : List (Option (Nat × List Op)) := cbs.map (fun c =>
      match c.splitOn ":" with
      | [o, ops] =>
        let ps := (ops.splitOn ";").map parseOp
        match parseOid o with
        | some k => if ps.all Option.isSome then some (k, ps.filterMap id) else none
        | none => none
      | _ => none)
    if parsed.all Option.isSome then { p with cmds := Cmd.cotick (parsed.filterMap id) :: p.cmds }
    else { p with bad := line :: p.bad }
  | ["tflags", n] =>
    match n.toNat? with
    | some k => { p with cmds := Cmd.tflags k :: p.cmds }
    | none => { p with bad := line :: p.bad }
  | _ => if line.startsWith "#" then p else { p with bad := line :: p.bad }

def parseCase (lines : List String) : Parsed :=
  let p := lines.foldl parseLine {}
  { p with cmds := p.cmds.reverse }

/-- the last `script` line for a key wins (the harness overwrites the mapping entry) -/
def scriptsOf (p : Parsed) : Scripts := fun o k =>
  match p.scripts.find? (fun e => e.1 == (o, some k)) with
  | some e => e.2
  | none =>
    match p.scripts.find? (fun e => e.1 == (o, none)) with
    | some e => e.2
    | none => []

/-- move_or_destruct() scripts (`script o<k> md <ops>`); the last line for an object wins -/
def hooksOf (p : Parsed) : Nat → List Op := fun o =>
  match p.hooks.find? (fun e => e.1 == o) with
  | some e => e.2
  | none => []

def runModel (lines : List String) : List String :=
  let p := parseCase lines
  if !p.bad.isEmpty then p.bad.map (fun l => s!"bad-line {l}")
  else (events (scriptsOf p) p.cmds (hooksOf p)).map render

def runJudge (body : List String) : List String :=
  let (_input, impl) := splitJudge body
  match judgeEv (impl.map parseEv) with
  | [] => ["ok"]
  | vs => vs.map (fun v => s!"bad {v}")

/-- `branches` mode: one line per branch tag taken by the case -/
def runBranches (lines : List String) : List String :=
  let p := parseCase lines
  if !p.bad.isEmpty then [] else branchTags (scriptsOf p) p.cmds (hooksOf p)

def main (mode : String) : IO Unit :=
  match mode with
  | "model" => serve runModel
  | "judge" => serve runJudge
  | "branches" => serve runBranches
  | _ => IO.eprintln s!"C11: unknown mode {mode}"

end NV.C11
