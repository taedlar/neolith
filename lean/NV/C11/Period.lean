/-
C11 — "exactly once every n ticks", lifted from the service function to whole rounds and sequences of ticks of the
specification oracle (hence to every trace the oracle accepts, model or implementation).

Two halves.  Rounds: `runRound` iterates `advanceL` as the oracle does between two `beatEnd`; `runRound_eq` computes it
(`map served`, `dueList`), `quiet_body` walks the oracle through the events of such a round, `quiet_round` /
`quiet_ticks` are one / m ticks in which nothing but the due heart_beats happens.  Entries: `serveN_period` is the
arithmetic of one entry (ob, n, n) over m services, by `serve_phase` from `period_n_countdown`.  What the oracle does
with any other beat or with a missing one is `beat_accepted_iff` (Props.lean) and `missed_beat_rejected`.
-/
import NV.C11.Props

namespace NV.C11

/-- a whole untruncated round of the reference semantics: call `advanceL` until nothing is left to announce -/
def runRound (nofn : List Nat) : Nat → List Entry → List Entry → List Entry × List Nat
  | 0, done, pend => (done ++ pend, [])
  | f + 1, done, pend =>
    match advanceL nofn false done pend with
    | (d, p, some o) => ((runRound nofn f d p).1, o :: (runRound nofn f d p).2)
    | (d, p, none) => (d ++ p, [])

/-- **a complete round serves every entry exactly once and announces exactly the due ones, in order** -/
theorem runRound_eq (nofn : List Nat) : ∀ (pend done : List Entry) (fuel : Nat), pend.length ≤ fuel →
    runRound nofn fuel done pend = (done ++ pend.map (served nofn), dueList nofn pend) := by
  intro pend done fuel
  induction fuel generalizing pend done with
  | zero => intro hf; rw [List.eq_nil_of_length_eq_zero (Nat.le_zero.mp hf)]; simp [runRound, dueList]
  | succ f ih =>
    intro hf
    -- one call of `advanceL` serves `v`, whose only due entry is the announced one; the rest is a shorter round
    obtain ⟨v, hvis⟩ := advanceL_visited nofn false pend done
    have hpend := hvis.pend_eq
    have hdone := hvis.done_eq
    have hdue := hvis.due_eq
    have hexh := hvis.exhausted
    unfold runRound
    rcases hr : advanceL nofn false done pend with ⟨d, p, oo⟩
    rw [hr] at hpend hdone hdue hexh
    simp only at hpend hdone hdue hexh
    subst hpend hdone
    cases oo with
    | none => rw [hexh rfl trivial, dueList_append, hdue]; simp [dueList]
    | some o =>
      have hv : 0 < v.length := by
        cases v with
        | nil => cases hdue
        | cons _ _ => exact Nat.succ_pos _
      simp only [ih p _ (by rw [List.length_append] at hf; omega), dueList_append, hdue]
      simp

theorem advanceL_pend_lt (nofn : List Nat) (tr : Bool) (pend done : List Entry) (hne : pend ≠ []) :
    (advanceL nofn tr done pend).2.1.length < pend.length := by
  obtain ⟨v, hv⟩ := advanceL_visited nofn tr pend done
  have hl := congrArg List.length hv.pend_eq
  have := List.length_pos_iff.mpr (hv.ne_nil hne)
  rw [List.length_append] at hl
  omega

/-- the events of a round in which nothing but the due heart_beats happens -/
def quietBody : List Nat → List Ev
  | [] => []
  | o :: r => .beat o :: .beatEnd o :: quietBody r

/-- the oracle state after the rest of a quiet round, entered through `advance j` -/
def quietEnd (j : JState) (fuel : Nat) : JState :=
  (quietBody (runRound j.nofn fuel j.done j.pend).2 ++ [Ev.tickEnd]).foldl judge1 (advance j)

/-- the oracle walks through a quiet, untruncated round exactly as `runRound` says -/
theorem quiet_body (fuel : Nat) : ∀ (j : JState), j.trunc = false → j.pend.length ≤ fuel →
    (quietEnd j fuel).all = (runRound j.nofn fuel j.done j.pend).1 ++ j.late ∧
    (quietEnd j fuel).expect = .idle ∧ (quietEnd j fuel).bad = j.bad ∧ (quietEnd j fuel).nofn = j.nofn ∧
    (quietEnd j fuel).pend = [] ∧ (quietEnd j fuel).late = [] := by
  unfold quietEnd
  induction fuel with
  | zero =>
    intro j _ hl
    have hp : j.pend = [] := List.eq_nil_of_length_eq_zero (by omega)
    simp only [runRound, quietBody, List.nil_append, List.foldl_cons, List.foldl_nil, advance_nil hp]
    rw [judge1_tickEnd rfl]
    simp [endRound, JState.all, hp]
  | succ f ih =>
    intro j ht hl
    rcases hadv : advanceL j.nofn false j.done j.pend with ⟨d, p, oo⟩
    cases oo with
    | none =>
      have hadvj : advance j = { j with done := d, pend := p, expect := .endOfRound } := by
        unfold advance; rw [ht, hadv]
      simp only [runRound, hadv, quietBody, List.nil_append, List.foldl_cons, List.foldl_nil, hadvj]
      rw [judge1_tickEnd rfl]
      simp [endRound, JState.all]
    | some o =>
      have hadvj : advance j = { j with done := d, pend := p, cur := some o, expect := .beat o } := by
        unfold advance; rw [ht, hadv]
      have hne : j.pend ≠ [] := by
        intro h; rw [h] at hadv; simp [advanceL] at hadv
      have hlt := advanceL_pend_lt j.nofn false j.pend j.done hne
      rw [hadv] at hlt
      simp only at hlt
      let j2 : JState := { j with done := d, pend := p, cur := some o, expect := .inBeat }
      have hb : judge1 { j with done := d, pend := p, cur := some o, expect := .beat o } (.beat o) = j2 := judge1_beat rfl
      have he : judge1 j2 (.beatEnd o) = advance j2 := judge1_beatEnd_adv rfl ht
      have hih := ih j2 ht (by show p.length ≤ f; omega)
      unfold quietEnd at hih
      simp only [runRound, hadv, quietBody, List.cons_append, List.foldl_cons, hadvj, hb, he]
      exact hih

/-- the events of one quiet tick over the list `l` -/
def quietRound (nofn : List Nat) (l : List Entry) : List Ev :=
  .tickBegin :: (quietBody (dueList nofn l) ++ [.tickEnd])

/-- **one quiet, complete tick**: between rounds, the oracle accepts the trace in which exactly the due objects beat, in
    service order, and afterwards every entry has been served exactly once.  (By `beat_accepted_iff` a beat of any other
    object, a second beat, or a missing beat is a violation at the point where it happens.) -/
theorem quiet_round (j : JState) (hi : j.expect = .idle) :
    ((quietRound j.nofn j.all).foldl judge1 j).all = j.all.map (served j.nofn) ∧
    ((quietRound j.nofn j.all).foldl judge1 j).expect = .idle ∧
    ((quietRound j.nofn j.all).foldl judge1 j).bad = j.bad ∧
    ((quietRound j.nofn j.all).foldl judge1 j).nofn = j.nofn := by
  have h := quiet_body j.all.length (jBegin j) rfl (Nat.le_refl _)
  unfold quietEnd at h
  have hr : runRound (jBegin j).nofn j.all.length (jBegin j).done (jBegin j).pend =
      ([] ++ j.all.map (served j.nofn), dueList j.nofn j.all) :=
    runRound_eq j.nofn j.all [] j.all.length (Nat.le_refl _)
  rw [hr] at h
  unfold quietRound
  simp only [List.foldl_cons, judge1_tickBegin hi]
  obtain ⟨a, b, c, d, _, _⟩ := h
  have hl : (jBegin j).late = [] := rfl
  rw [hl] at a
  exact ⟨by simpa using a, b, c, d⟩

/-- ... and the oracle insists on every due beat: ending the round while a beat is announced is a violation -/
theorem missed_beat_rejected (j : JState) (o : Nat) (h : j.expect = .beat o) : (judge1 j .tickEnd).bad ≠ j.bad := by
  obtain ⟨v, hv⟩ := judge1_tickEnd_refused (j := j) (by rw [h]; nofun)
  rw [hv]
  exact flagV_bad_ne rfl

def quietTicks (nofn : List Nat) : Nat → List Entry → List Ev
  | 0, _ => []
  | m + 1, l => quietRound nofn l ++ quietTicks nofn m (l.map (served nofn))

def servedN (nofn : List Nat) : Nat → Entry → Entry
  | 0, e => e
  | m + 1, e => servedN nofn m (served nofn e)

theorem map_servedN_succ (nofn : List Nat) (m : Nat) (l : List Entry) :
    (l.map (served nofn)).map (servedN nofn m) = l.map (servedN nofn (m + 1)) := by
  simp [List.map_map, Function.comp_def, servedN]

/-- **m quiet ticks**: accepted, and every entry has been served exactly m times -/
theorem quiet_ticks : ∀ (m : Nat) (j : JState), j.expect = .idle →
    ((quietTicks j.nofn m j.all).foldl judge1 j).all = j.all.map (servedN j.nofn m) ∧
    ((quietTicks j.nofn m j.all).foldl judge1 j).bad = j.bad := by
  intro m
  induction m with
  | zero => intro j _; simp [quietTicks, servedN]
  | succ m ih =>
    intro j hi
    obtain ⟨a, b, c, d⟩ := quiet_round j hi
    have h2 := ih ((quietRound j.nofn j.all).foldl judge1 j) b
    rw [a, d] at h2
    simp only [quietTicks, List.foldl_append]
    rw [map_servedN_succ] at h2
    exact ⟨h2.1, h2.2.trans c⟩

theorem succ_mod (m N : Nat) (hN : 0 < N) : (m + 1) % N = if m % N + 1 = N then 0 else m % N + 1 := by
  have hlt := Nat.mod_lt m hN
  have hdm := Nat.div_add_mod m N
  by_cases h : m % N + 1 = N
  · rw [if_pos h]
    have : m + 1 = N * (m / N + 1) := by
      rw [Nat.mul_add, Nat.mul_one]; omega
    rw [this, Nat.mul_mod_right]
  · rw [if_neg h]
    have : m + 1 = N * (m / N) + (m % N + 1) := by omega
    rw [this, Nat.mul_add_mod, Nat.mod_eq_of_lt (by omega)]

theorem servedN_succ (nofn : List Nat) : ∀ (k : Nat) (e : Entry), servedN nofn (k + 1) e = served nofn (servedN nofn k e)
  | 0, _ => rfl
  | k + 1, e => servedN_succ nofn k (served nofn e)

/-- one service of an entry with interval n that has been served m times since its (re)start -/
theorem serve_phase (ob n : Nat) (h1 : 1 ≤ n) (h2 : (n : Int) ≤ shrtMax) (m : Nat) :
    serve { ob := ob, ticks := (n : Int) - ((m % n : Nat) : Int), interval := (n : Int) } =
      ({ ob := ob, ticks := (n : Int) - (((m + 1) % n : Nat) : Int), interval := (n : Int) }, decide ((m + 1) % n = 0)) := by
  have hlt := Nat.mod_lt m h1
  rw [period_n_countdown ob (n : Int) (by omega) h2 (m % n) (by omega), succ_mod m n h1]
  by_cases hl : m % n + 1 = n
  · have : ((m % n : Nat) : Int) = (n : Int) - 1 := by omega
    rw [if_pos this, if_pos hl]
    simp
  · have : ¬ (((m % n : Nat) : Int) = (n : Int) - 1) := by omega
    rw [if_neg this, if_neg hl, decide_eq_false (Nat.succ_ne_zero _)]
    congr 2
    omega

/-- **period n over any number of ticks**: an object with a heart_beat function, enabled with interval n
    (1 ≤ n ≤ SHRT_MAX) and served once per tick, has countdown n - m % n after m ticks, and beats in tick m + 1 exactly
    when n divides m + 1 - once every n ticks -/
theorem serveN_period (nofn : List Nat) (ob : Nat) (n : Nat) (h1 : 1 ≤ n) (h2 : (n : Int) ≤ shrtMax)
    (hfn : nofn.contains ob = false) : ∀ m : Nat,
    servedN nofn m { ob := ob, ticks := (n : Int), interval := (n : Int) } =
      { ob := ob, ticks := (n : Int) - ((m % n : Nat) : Int), interval := (n : Int) } ∧
    (due nofn (servedN nofn m { ob := ob, ticks := (n : Int), interval := (n : Int) }) = true ↔ (m + 1) % n = 0) := by
  have hstate : ∀ m : Nat, servedN nofn m { ob := ob, ticks := (n : Int), interval := (n : Int) } =
      { ob := ob, ticks := (n : Int) - ((m % n : Nat) : Int), interval := (n : Int) } := by
    intro m
    induction m with
    | zero => simp [servedN]
    | succ m ih =>
      rw [servedN_succ, ih, served]
      simp only [hfn, Bool.false_eq_true, if_false]
      rw [serve_phase ob n h1 h2 m]
  intro m
  refine ⟨hstate m, ?_⟩
  rw [hstate m, due]
  simp only [hfn, Bool.not_false, Bool.true_and]
  rw [serve_phase ob n h1 h2 m, decide_eq_true_iff]

example : dueList [] [⟨2, 1, 1⟩, ⟨3, 2, 2⟩, ⟨4, 1, 3⟩] = [2, 4] := by decide
example : judgeEv ([.clone 0 2 0 1 1, .clone 0 3 0 2 2] ++ quietTicks [1] 2 [⟨2, 1, 1⟩, ⟨3, 2, 2⟩]) = [] := by decide
example : quietTicks [1] 2 [⟨2, 1, 1⟩, ⟨3, 2, 2⟩] =
    [.tickBegin, .beat 2, .beatEnd 2, .tickEnd, .tickBegin, .beat 2, .beatEnd 2, .beat 3, .beatEnd 3, .tickEnd] := by decide

end NV.C11
