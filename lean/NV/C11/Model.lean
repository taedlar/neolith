/-
C11 — executable model of the heart-beat machinery of src/backend.c (+ error_context.c, simulate.c, efuns).

Mirrors, line by line:
  call_heart_beat   -> `tick` / `round`   (heart_beat_flag = 0; num_hb_to_do = num_hb_objs; heart_beat_index = 0;
                        while (!heart_beat_flag) { heart_beats[heart_beat_index]; ticks--; prog->heart_beat test;
                        ticks < 1 -> ticks = interval, current_heart_beat = ob, call; if (++index == to_do) break; }
                        heart_beat_index = num_hb_to_do = 0; current_heart_beat = 0)
  set_heart_beat    -> `setHeartBeat`     (O_DESTRUCTED test, clamp to SHRT_MAX (fix: C11), removal with the
                        compensation of heart_beat_index / num_hb_to_do guarded by `if (num_hb_to_do)`, memmove,
                        retune `(short)to` refused for to < 0, append with growth by HEART_BEAT_CHUNK, to < 0 -> 1;
                        the memmove arguments and the new num_hb_objs are `NV.Gen.C11.rmMove`)
  query_heart_beat  -> `queryHeartBeat`
  f_set_heart_beat  -> `satEfun` then `setHeartBeat` on the current object
  error_handler     -> `errorHandler`     (set_heart_beat (current_heart_beat, 0); current_heart_beat = 0) and the
                        longjmp to backend()'s context, which abandons the round leaving heart_beat_index and
                        num_hb_to_do *stale* until the next tick (they are still compensated by removals in between)
  destruct_object   -> set_heart_beat (ob, 0) then O_DESTRUCTED
  clone_object      -> `if (ob->flags & O_HEART_BEAT) set_heart_beat (ob, 0)` on the blueprint, then create()

`heart_beats[0 .. num_hb_objs)` is the list `hbs`; an access outside it, an append beyond `max_heart_beats` and a
round that would not terminate are explicit `crashed` outcomes.  O_HEART_BEAT is "has an entry in hbs" (the C code
sets/clears the flag exactly where it appends/removes).  The C code scans the array from the back, the model from
the front: entries are unique per object (theorem `hbs_nodup`; `search_direction_unobservable` concludes that the
direction cannot be observed; both in NV/C11/Trace.lean).
The decisive conditions and updates are NOT hand-copied: `NV.Gen.C11.{clampTo, rmCompensate, appendStore, efunSat,
hbBody, loopStep, loopContinues}` are regenerated from the clang AST of the working tree on every run
(props/c11_extract.py); NV/C11/Bridge.lean proves that they equal the forms the invariant proofs use.
LPC code run by heart_beat functions is an oracle: `Scripts` maps (object, number of its beats so far) to the
operations that heart_beat performs (the correspondence harness installs the same scripts in the real objects).
-/
import NV.C11.Spec

namespace NV.C11

/-- C: HEART_BEAT_CHUNK -/
abbrev chunk : Nat := NV.Gen.C11.heartBeatChunk

/-- operations an object can perform (top level or inside its heart_beat) -/
inductive Op where
  | shb (target : Nat) (n : Int)        -- target->set_heart_beat(n)   (target may be the object itself)
  | q (target : Nat)                    -- query_heart_beat(target)
  | dest (target : Nat)                 -- destruct(target)
  | clone (new kind : Nat) (n : Int)    -- new = clone of blueprint `kind` whose create() does set_heart_beat(n)
  | err                                 -- error("boom")
  | flag                                -- the timer fires now (heart_beat_flag = 1)
  | hbs                                 -- heart_beats()
  | take (item : Nat)                   -- item->move_object(this_object()): item joins the inventory
  | cerr                                -- catch (error ("boom")): the error never reaches the uncaught branch
  | reload (target : Nat) (n : Int)     -- reload_object(target); its create() does set_heart_beat(n) again
  | living                              -- enable_commands()
  | burn                                -- use up evaluation cost
  | zshb (n : Int)                      -- set_heart_beat(n) in this object itself, also when it has just destructed itself
  | mv (dest : Nat)                     -- move_object (dest): this object moves (out of its carrier, if any) into dest
  | rp                                  -- replace_program ("/c11/base"): the inherited program without heart_beat()
  deriving Repr, BEq

structure World where
  hbs : List Entry := []                -- heart_beats[0 .. num_hb_objs)
  cap : Nat := 0                        -- max_heart_beats
  idx : Int := 0                        -- heart_beat_index
  todo : Int := 0                       -- num_hb_to_do
  cur : Option Nat := none              -- current_heart_beat
  flag : Bool := false                  -- heart_beat_flag
  known : List Nat := [0, 1]
  nofn : List Nat := [1]                -- prog->heart_beat == -1
  dead : List Nat := []                 -- O_DESTRUCTED
  nb : Nat → Nat := fun _ => 0          -- per object: number of beats so far (selects the script)
  inv : List (Nat × Nat) := []          -- (item, carrier), newest first (ob->contains is a head-inserted list)
  hooks : Nat → List Op := fun _ => []  -- static: what move_or_destruct() of an object does
  tflags : Int := (NV.Gen.C11.timerFlagHeartbeat : Nat)   -- MAIN_OPTION (timer_flags)
  living : List Nat := []               -- O_ENABLE_COMMANDS
  cg : Option Nat := none               -- command_giver
  ec : Bool := true                     -- eval_cost == CONFIG_INT (__MAX_EVAL_COST__)
  restrict : Option Nat := none         -- restrict_destruct (set while move_or_destruct() of an item runs)
  co : List (Nat × List Op) := []       -- pending call_outs (object, what its callback does), oldest first; all due at the next dispatch
  rp : List Nat := []                   -- obj_list_replace (head = newest entry)
  replaced : List Nat := []             -- objects whose program has been replaced
  crashed : Bool := false

abbrev Scripts := Nat → Nat → List Op

inductive Status where
  | ok | err | stop
  deriving Repr, DecidableEq

def idxOf (x : Nat) : List Entry → Option Nat
  | [] => none
  | e :: r => if e.ob = x then some 0 else (idxOf x r).map (· + 1)

def World.alive (w : World) (x : Nat) : Bool := w.known.contains x && !w.dead.contains x

/-- `memmove (heart_beats + dst, heart_beats + src, cnt * sizeof (heart_beat_t))` under its guard, followed by the new
    element count, on the list (`NV.Gen.C11.rmMove` gives dst, src, cnt, guard, count) -/
def applyMove (l : List Entry) (m : Int × Int × Int × Bool × Int) : List Entry :=
  (if m.2.2.2.1 then l.take m.1.toNat ++ (l.drop m.2.1.toNat).take m.2.2.1.toNat ++ l.drop (m.1.toNat + m.2.2.1.toNat)
   else l).take m.2.2.2.2.toNat

/-- src/backend.c set_heart_beat (ob, to).  The rewrite of `to` in front of the `!to` test, the compensation of
    heart_beat_index / num_hb_to_do on removal and what the append branch stores are the definitions regenerated
    from the source (`NV.Gen.C11.clampTo`, `rmCompensate`, `appendStore`) -/
def setHeartBeat (w : World) (ob : Nat) (to : Int) : World :=
  if w.dead.contains ob then w           -- `if (ob->flags & O_DESTRUCTED) return 0;` (mask: NV.Gen.C11.shbGuardMask)
  else
    let to := NV.Gen.C11.clampTo to
    if to = 0 then
      match idxOf ob w.hbs with
      | none => w
      | some index =>
        let c := NV.Gen.C11.rmCompensate (index : Int) w.idx w.todo
        { w with idx := c.1, todo := c.2, hbs := applyMove w.hbs (NV.Gen.C11.rmMove (index : Int) (w.hbs.length : Int)) }
    else if hasOb ob w.hbs then
      let r := NV.Gen.C11.retuneStore to 0 0
      if r.1 then w
      else
        match idxOf ob w.hbs with
        | none => w
        | some index =>
          { w with hbs := w.hbs.set index { ob := ob, ticks := r.2.1, interval := r.2.2 } }
    else
      let cap := (NV.Gen.C11.growCap (w.cap : Int) (w.hbs.length : Int)).toNat
      if w.hbs.length < cap then
        let s := NV.Gen.C11.appendStore to
        { w with cap := cap, hbs := w.hbs ++ [{ ob := ob, ticks := s.1, interval := s.2 }] }
      else { w with crashed := true }

/-- src/backend.c query_heart_beat -/
def queryHeartBeat (w : World) (ob : Nat) : Int :=
  match lookup ob w.hbs with
  | some e => e.interval
  | none => 0

/-- one statement of the `if (current_heart_beat) { ... }` block of error_handler, by the code the translator gives it
    (`NV.Gen.C11.errBlock`): 1 = `set_heart_beat (current_heart_beat, 0)`, 2 = `current_heart_beat = 0` -/
def errStmt (w : World) : Nat → World
  | 1 => match w.cur with
    | some c => setHeartBeat w c 0
    | none => { w with crashed := true }       -- set_heart_beat (NULL, 0)
  | 2 => { w with cur := none }
  | _ => w

/-- src/error_context.c error_handler, uncaught branch: the statements of the `if (current_heart_beat)` block in the
    order of the source -/
def errorHandler (w : World) : World :=
  match w.cur with
  | some _ => NV.Gen.C11.errBlock.foldl errStmt w
  | none => w

/-- error_handler from its first statement: `reset_destruct_object_limits ()` (restrict_destruct = 0), ..., the heart-beat
    switch-off -/
def errorEntry (w : World) : World := errorHandler { w with restrict := none }

def isItem (w : World) (x : Nat) : Bool := w.inv.any (fun p => p.1 == x)

/-- ob->contains of carrier c, front to back -/
def itemsOf (w : World) (c : Nat) : List Nat := (w.inv.filter (fun p => p.2 == c && p.1 != c)).map (·.1)

/-- src/simulate.c destruct_object: `if (restrict_destruct && restrict_destruct != ob) error (...)` -/
def restricted (w : World) (t : Nat) : Bool :=
  match w.restrict with
  | some r => r != t
  | none => false

/-- the two heart-beat relevant statements at the end of destruct_object -/
def leafPhase (t : Nat) (w : World) : Nat → World
  | 1 => setHeartBeat w t 0                                                         -- set_heart_beat (ob, 0);
  | 2 => { w with dead := t :: w.dead, inv := w.inv.filter (fun p => p.1 != t) }    -- ob->flags |= O_DESTRUCTED;
  | _ => w

/-- src/simulate.c destruct_object for an object without inventory: the statements in the ORDER of the source
    (`NV.Gen.C11.destructOrder`: 0 = inventory loop, 1 = set_heart_beat (ob, 0), 2 = O_DESTRUCTED store) -/
def destructLeaf (w : World) (t : Nat) : World := NV.Gen.C11.destructOrder.foldl (leafPhase t) w

/-- one operation executed by the live object `self`; destruct here is the destruct of an object without
    inventory (`stepOp` below runs the inventory hooks) -/
def stepOpBasic (w : World) (self : Nat) (op : Op) : World × List Ev × Status :=
  match op with
  | .shb t n =>
    if !w.alive t then (w, [.shbDead self t n], .ok)
    else
      let w' := setHeartBeat w t (NV.Gen.C11.efunSat n)
      (w', [.shb self t n (queryHeartBeat w' t)], .ok)
  | .q t =>
    if !w.alive t then (w, [.queryDead self t], .ok)
    else (w, [.query self t (queryHeartBeat w t)], .ok)
  | .dest t =>
    if !w.alive t || t < 2 then (w, [.destNone self t], .ok)
    else if restricted w t then (w, [.errR], .err)
    else (destructLeaf w t, [.dest self t], if (destructLeaf w t).alive self then .ok else .stop)
  | .clone new kind n =>
    if w.known.contains new then (w, [.cloneDup self new], .ok)
    else
      let k := if kind = 0 then 0 else 1
      let w1 := setHeartBeat w k 0
      let w2 := { w1 with known := new :: w1.known, nofn := if kind = 0 then w1.nofn else new :: w1.nofn }
      let w3 := setHeartBeat w2 new (NV.Gen.C11.efunSat n)
      (w3, [.clone self new k n (queryHeartBeat w3 new)], .ok)
  | .err => (w, [.err self], .err)
  | .flag => ({ w with flag := decide (NV.Gen.C11.timerSetsFlag (if w.flag then 1 else 0) ≠ 0) }, [.flag self], .ok)   -- heartbeat_timer_callback
  | .hbs => (w, [.hbs self (w.hbs.map (·.ob)).reverse], .ok)
  | .take i =>
    if w.alive i && !(i < 2) && i != self && !isItem w self && !isItem w i && (itemsOf w i).isEmpty then
      ({ w with inv := (i, self) :: w.inv }, [.into i self], .ok)
    else (w, [.intoNone i self], .ok)
  | .cerr => (w, [.caught self], .ok)
  | .zshb n =>
    -- f_set_heart_beat -> set_heart_beat (current_object, n): the O_DESTRUCTED test at its entry is what keeps a
    -- destructed object off the list
    if !w.known.contains self then (w, [.zshb self n], .ok)
    else (setHeartBeat w self (NV.Gen.C11.efunSat n), [.zshb self n], .ok)
  | .mv x =>
    if w.alive x && !(x < 2) && !(self < 2) && x != self && !isItem w x && (itemsOf w self).isEmpty then
      ({ w with inv := (self, x) :: w.inv.filter (fun p => p.1 != self) }, [.moved self x], .ok)
    else (w, [.movedNone self x], .ok)
  | .reload t n =>
    if !w.alive t || t < 2 then (w, [.reloadNone self t], .ok)
    else
      -- lib/lpc/object.c reload_object: variables cleared, O_ENABLE_COMMANDS cleared, set_heart_beat (obj, 0),
      -- remove_all_call_out (obj), create()
      let w1 := setHeartBeat { w with living := w.living.filter (· != t), nb := fun o => if o = t then 0 else w.nb o,
                                      co := w.co.filter (fun c => c.1 != t) } t 0    -- remove_all_call_out (obj)
      let w2 := setHeartBeat w1 t (NV.Gen.C11.efunSat n)
      (w2, [.reload self t n (queryHeartBeat w2 t)], .ok)
  | .living => ({ w with living := self :: w.living, cg := some self }, [.living self], .ok)
  | .burn => ({ w with ec := false }, [.burn self], .ok)
  | .rp =>
    -- lib/efuns/replace_program.c f_replace_program: one entry per object in obj_list_replace, new ones at the head;
    -- the program is swapped by replace_programs() at the top of the backend loop
    if self < 2 || w.replaced.contains self then (w, [.rpNone self], .ok)
    else ({ w with rp := if w.rp.contains self then w.rp else self :: w.rp }, [.rp self], .ok)

/-- run a script; stops at the first error or when the object is destructed (by itself, or as an inventory item
    of the object it destructed) -/
def runOpsBasic (w : World) (self : Nat) : List Op → World × List Ev × Status
  | [] => (w, [], .ok)
  | op :: rest =>
    match stepOpBasic w self op with
    | (w1, evs, .ok) =>
      match runOpsBasic w1 self rest with
      | (w2, evs2, st) => (w2, evs ++ evs2, st)
    | (w1, evs, st) => (w1, evs, st)


/-- operations that the scripted move_or_destruct() hooks perform (destruct of anything but the item itself is refused by
    restrict_destruct with an error; an uncaught error leaves destruct_object right there) -/
def hookAllowed : Op → Bool
  | .shb _ _ | .q _ | .clone _ _ _ | .flag | .hbs | .err | .cerr | .dest _ | .mv _ => true
  | _ => false

/-- one iteration of `while (ob->contains)`: `restrict_destruct = item`, apply move_or_destruct() in the item (its script may
    touch any heart beat, including the dying carrier's, destruct ITSELF - anything else is refused with an error - or move
    away), `restrict_destruct = <saved>`, then `if (otmp == ob->contains) destruct_object (otmp)`.  "An error here will not
    leave destruct() in an inconsistent stage": it propagates to the caller of destruct_object (error_handler resets
    restrict_destruct); the carrier and the remaining items stay as they are (status `.err`, later items are not visited) -/
def hookStep (carrier : Nat) (acc : World × List Ev × Status) (i : Nat) : World × List Ev × Status :=
  if acc.2.2 != .ok then acc
  else if !acc.1.alive i then acc
  else
    match runOpsBasic { acc.1 with restrict := some i } i ((acc.1.hooks i).filter hookAllowed) with
    | (w1, e1, .err) => (w1, acc.2.1 ++ .hook i carrier :: e1, .err)
    | (w1, e1, _) =>
      if !w1.alive i then ({ w1 with restrict := none }, acc.2.1 ++ .hook i carrier :: e1 ++ [.hookGone i], .ok)
      else if (itemsOf w1 carrier).contains i then
        (destructLeaf { w1 with restrict := none } i, acc.2.1 ++ .hook i carrier :: e1 ++ [.hookEnd i], .ok)
      else ({ w1 with restrict := none }, acc.2.1 ++ .hook i carrier :: e1 ++ [.hookMoved i], .ok)

def hooksPhase (w : World) (t : Nat) : World × List Ev × Status := (itemsOf w t).foldl (hookStep t) (w, [], .ok)

/-- one statement group of destruct_object; the status says `.ok` = still going, `.stop` = the inventory loop returned
    from destruct_object because a hook left the object destructed (`if (ob->flags & O_DESTRUCTED) return;`),
    `.err` = a hook raised an error -/
def fullPhase (t : Nat) (acc : World × List Ev × Status) : Nat → World × List Ev × Status
  | 0 =>
    if acc.2.2 = .ok then
      match hooksPhase acc.1 t with
      | (w1, e1, .err) => (w1, acc.2.1 ++ e1, .err)
      | (w1, e1, _) => (w1, acc.2.1 ++ e1, if w1.alive t then .ok else .stop)
    else acc
  | ph => if acc.2.2 = .ok then (leafPhase t acc.1 ph, acc.2.1, .ok) else acc

/-- src/simulate.c destruct_object: inventory hooks, heart-beat removal and the O_DESTRUCTED store in the order of
    the source; (world, events, ran to the end / returned early / error) -/
def destructFull (w : World) (t : Nat) : World × List Ev × Status :=
  NV.Gen.C11.destructOrder.foldl (fullPhase t) (w, [], .ok)

/-- one operation executed by the live object `self` -/
def stepOp (w : World) (self : Nat) (op : Op) : World × List Ev × Status :=
  match op with
  | .dest t =>
    if !w.alive t || t < 2 then (w, [.destNone self t], .ok)
    else if restricted w t then (w, [.errR], .err)
    else
      match destructFull w t with
      | (w', evs, .ok) => (w', evs ++ [.dest self t], if w'.alive self then .ok else .stop)
      | (w', evs, .stop) => (w', evs ++ [.destGone self t], if w'.alive self then .ok else .stop)
      | (w', evs, .err) => (w', evs, .err)
  | op => stepOpBasic w self op

/-- what is left of a script after the object destructed itself: the function runs on until it returns; its own
    set_heart_beat calls (`zshb`) and an error raised there are executed, everything else ends the script -/
def runDead (w : World) (self : Nat) : List Op → World × List Ev × Status
  | .zshb n :: rest =>
    match stepOpBasic w self (.zshb n) with
    | (w1, evs, _) =>
      match runDead w1 self rest with
      | (w2, evs2, st) => (w2, evs ++ evs2, st)
  | .err :: _ => (w, [.err self], .err)
  | _ => (w, [], .stop)

/-- run a script; stops at the first error or when the object is destructed (by itself, or as an inventory item
    of the object it destructed) -/
def runOps (w : World) (self : Nat) : List Op → World × List Ev × Status
  | [] => (w, [], .ok)
  | op :: rest =>
    match stepOp w self op with
    | (w1, evs, .ok) =>
      match runOps w1 self rest with
      | (w2, evs2, st) => (w2, evs ++ evs2, st)
    | (w1, evs, .stop) =>
      -- the function of a destructed object runs on until it returns: an error raised there still reaches
      -- error_handler, whose set_heart_beat (current_heart_beat, 0) then meets O_DESTRUCTED
      match runDead w1 self rest with
      | (w2, evs2, st) => (w2, evs ++ evs2, st)
    | (w1, evs, st) => (w1, evs, st)

/-- write back (heart_beat_index, num_hb_to_do, current_heart_beat) computed by a regenerated slice; the slices only ever
    store NULL into current_heart_beat (0 = NULL, anything else = unchanged) -/
def leave (w : World) (x : Int × Int × Int) : World :=
  { w with idx := x.1, todo := x.2.1, cur := if x.2.2 = 0 then none else w.cur }

def curInt (w : World) : Int := if w.cur.isSome then 1 else 0

/-- end of a round (`NV.Gen.C11.roundExit`): `heart_beat_index = num_hb_to_do = 0; ... current_heart_beat = 0` -/
def finish (w : World) : World := leave w (NV.Gen.C11.roundExit w.idx w.todo (curInt w))

/-- one statement next to the call of heart_beat() in call_heart_beat, by the code the translator gives it
    (`NV.Gen.C11.callFrame`) -/
def frameStmt (ob : Nat) (w : World) : Nat → World
  | 1 => { w with cur := some ob }                          -- current_heart_beat = ob;
  | 2 => { w with cg := some ob }                           -- command_giver = ob;
  | 3 => match w.cg with                                    -- if (!(command_giver->flags & O_ENABLE_COMMANDS)) command_giver = 0;
    | some g => if w.living.contains g then w else { w with cg := none }
    | none => { w with crashed := true }
  | 4 => { w with ec := true }                              -- eval_cost = CONFIG_INT (__MAX_EVAL_COST__);
  | 5 => { w with cg := none }                              -- command_giver = 0;
  | _ => w                                                  -- current_object = 0; (not modelled)

/-- the statements in front of / after the call, in the order of the source -/
def callSetup (w : World) (ob : Nat) : World := (NV.Gen.C11.callFrame.takeWhile (· != 0)).foldl (frameStmt ob) w
def callAfter (w : World) (ob : Nat) : World := ((NV.Gen.C11.callFrame.dropWhile (· != 0)).drop 1).foldl (frameStmt ob) w

/-- what the heart_beat function sees when it is entered -/
def ctxEv (w : World) (ob : Nat) : Ev := .ctx ob (w.living.contains ob) w.cg w.ec

def crash (w : World) (why : String) : World × List Ev := ({ w with crashed := true }, [.junk s!"crash {why}"])

/-- `if (++heart_beat_index == num_hb_to_do) break;` followed by the test of the while condition
    (`NV.Gen.C11.loopStep`, `loopContinues`): the cursor after the step and whether the round is over -/
def cursorStep (w : World) : World × Bool :=
  let st := NV.Gen.C11.loopStep w.idx w.todo
  ({ w with idx := st.1 }, st.2 || !NV.Gen.C11.loopContinues (if w.flag then 1 else 0))

/-- the while loop of call_heart_beat, entered with heart_beat_index = w.idx.  What happens to the entry
    (countdown, prog->heart_beat test, `< 1` test, reset, call) is `NV.Gen.C11.hbBody`, regenerated from the source -/
def round (sc : Scripts) : Nat → World → World × List Ev
  | 0, w => crash w "round-does-not-terminate"
  | fuel + 1, w =>
    if w.idx < 0 then crash w "heart_beats-index-negative"
    else
      match w.hbs[w.idx.toNat]? with
      | none => crash w "heart_beats-index-beyond-num_hb_objs"
      | some hb =>
        let b := NV.Gen.C11.hbBody (if w.nofn.contains hb.ob then -1 else 0) hb.ticks hb.interval
        if b.2.1 then
          let w1 := callSetup { w with hbs := w.hbs.set w.idx.toNat { hb with ticks := b.2.2 },
                                       nb := fun o => if o = hb.ob then w.nb o + 1 else w.nb o } hb.ob
          match runOps w1 hb.ob (sc hb.ob (w.nb hb.ob)) with
          | (w2, evs, .err) =>
            -- longjmp to backend()'s recovery point: restore_context() puts back the command_giver saved by
            -- save_context() right after clear_state(), i.e. 0
            ({ errorEntry w2 with cg := none }, .beat hb.ob :: ctxEv w1 hb.ob :: evs ++ [.tickAbort])
          | (w2, evs, _) =>
            let w2 := callAfter w2 hb.ob
            if (cursorStep w2).2 then (finish (cursorStep w2).1, .beat hb.ob :: ctxEv w1 hb.ob :: evs ++ [.beatEnd hb.ob, .tickEnd])
            else
              match round sc fuel (cursorStep w2).1 with
              | (w4, evs') => (w4, .beat hb.ob :: ctxEv w1 hb.ob :: evs ++ .beatEnd hb.ob :: evs')
        else
          let w1 := { w with hbs := w.hbs.set w.idx.toNat { hb with ticks := b.1 } }
          if (cursorStep w1).2 then (finish (cursorStep w1).1, [.tickEnd])
          else round sc fuel (cursorStep w1).1

/-- lib/efuns/replace_program.c replace_programs(), one entry: `r_ob->ob->prog = r_ob->new_prog` (a program without
    heart_beat function: `prog->heart_beat == -1` from now on).  Destructed objects are not observable. -/
def rpStep (acc : World × List Ev) (o : Nat) : World × List Ev :=
  if acc.1.alive o then
    ({ acc.1 with nofn := o :: acc.1.nofn, replaced := o :: acc.1.replaced }, acc.2 ++ [.rpDone o])
  else acc

/-- top of the backend() loop: remove_destructed_objects() -> `if (obj_list_replace) replace_programs ();` -/
def applyRp (w : World) : World × List Ev := w.rp.foldl rpStep ({ w with rp := [] }, [])

/-- does timer_flags have TIMER_FLAG_HEARTBEAT (what the harness prints as `tickbegin` / `tickbegin off`) -/
def hbOn (tf : Int) : Bool := decide ((tf / (NV.Gen.C11.timerFlagHeartbeat : Nat)) % 2 ≠ 0)

/-- src/backend.c call_heart_beat (heart beats only).  The frame of the round is regenerated from the source:
    `NV.Gen.C11.roundEntry` = everything up to the while loop (heart_beat_flag = 0, num_hb_to_do = num_hb_objs, the
    `(timer_flags & TIMER_FLAG_HEARTBEAT) && num_hb_to_do > 0` guard, heart_beat_index = 0), `roundSkip` = what is left
    when the guard fails (heart_beat_index and num_hb_to_do keep their values, current_heart_beat = 0) -/
def tickRound (sc : Scripts) (w : World) : World × List Ev :=
  let e := NV.Gen.C11.roundEntry (w.hbs.length : Int) w.idx w.todo (if w.flag then 1 else 0) w.tflags
  let begin : Ev := if hbOn w.tflags then .tickBegin else .tickOff
  let w : World := { w with flag := decide (e.2.2.1 ≠ 0), idx := e.1, todo := e.2.1 }
  if e.2.2.2 then
    match round sc w.hbs.length w with
    | (w', evs) => (w', begin :: evs)
  else (leave w (NV.Gen.C11.roundSkip w.idx w.todo (curInt w)), [begin, .tickEnd])

/-- does timer_flags have TIMER_FLAG_CALLOUT -/
def coOn (tf : Int) : Bool := decide ((tf / (NV.Gen.C11.timerFlagCallout : Nat)) % 2 ≠ 0)

/-- lib/efuns/call_out.c call_out(), one due entry: skipped when its object is destructed, else the callback runs inside
    call_out()'s own error context - an uncaught error goes through error_handler (which switches off
    current_heart_beat IF one is set) and the dispatch goes on with the next entry -/
def coStep (acc : World × List Ev) (c : Nat × List Op) : World × List Ev :=
  if !acc.1.alive c.1 then acc
  else
    match runOps acc.1 c.1 c.2 with
    | (w', evs, .err) => (errorEntry w', acc.2 ++ .coBegin c.1 :: evs)
    | (w', evs, _) => (w', acc.2 ++ .coBegin c.1 :: evs ++ [.coEnd c.1])

/-- the tail of call_heart_beat: `if (timer_flags & TIMER_FLAG_CALLOUT) call_out ();` - AFTER `current_heart_beat = 0`
    (`NV.Gen.C11.chbTail`); call_out() puts command_giver back when it is done -/
def coLoop : Nat → World × List Ev → World × List Ev
  | 0, acc => acc
  | f + 1, acc =>
    match acc.1.co with
    | [] => acc
    | c :: rest => coLoop f (coStep ({ acc.1 with co := rest }, acc.2) c)   -- unlinked before it runs; a callback may
                                                                            -- remove later ones (reload_object)

def coDispatch (r : World × List Ev) : World × List Ev :=
  if coOn r.1.tflags then
    let d := coLoop r.1.co.length (r.1, [])
    ({ d.1 with cg := r.1.cg }, r.2 ++ d.2)
  else r

/-- src/backend.c call_heart_beat: the round, then (unless an error left the function) the call_out dispatch -/
def tickCore (sc : Scripts) (w : World) : World × List Ev :=
  if (tickRound sc w).2.contains .tickAbort then tickRound sc w else coDispatch (tickRound sc w)

/-- harness rule: at most this many further passes with a round inside one `tick` command -/
def maxPass : Nat := 5

/-- the passes of the loop that follow a pass left by an error: remove_destructed_objects() -> replace_programs(), then
    `if (HEART_BEAT_FLAG()) call_heart_beat ()` - the timer may have fired during the abandoned round (op `flag`), in
    which case the next tick is served right away -/
def morePasses (sc : Scripts) : Nat → World → World × List Ev
  | 0, w =>
    let a := applyRp w
    if a.1.flag then ({ a.1 with flag := false }, a.2 ++ [.passLimit]) else a
  | f + 1, w =>
    let a := applyRp w
    if a.1.flag then
      let r := tickCore sc a.1
      if r.2.contains .tickAbort then
        let n := morePasses sc f r.1
        (n.1, a.2 ++ r.2 ++ n.2)
      else (r.1, a.2 ++ r.2)
    else a

/-- one `tick` of a case = backend() entered, one timer tick, backend() left through the cycle hook:
    clear_state() (`command_giver = 0`), the start-up `call_heart_beat ()` (timer_flags still 0: no round, printed by the
    harness as `tickbegin off` / `tickend`), then the loop: remove_destructed_objects() -> replace_programs(), the poll
    (the timer tick arrives, timer_flags as configured), `if (HEART_BEAT_FLAG()) call_heart_beat ()`.  An uncaught error
    sends the loop round again (`morePasses`) until a pass reaches the hook. -/
def tick (sc : Scripts) (w : World) : World × List Ev :=
  let r0 := tickCore sc { w with cg := none, tflags := 0 }
  let r1 := applyRp { r0.1 with tflags := w.tflags }
  let r2 := tickCore sc r1.1
  let r3 := if r2.2.contains .tickAbort then morePasses sc maxPass r2.1 else (r2.1, [])
  (r3.1, r0.2 ++ r1.2 ++ r2.2 ++ r3.2 ++ [.cgAfter r3.1.cg])

/-- top-level commands of a case -/
inductive Cmd where
  | tick
  | op (self : Nat) (op : Op)
  | tflags (n : Nat)                    -- MAIN_OPTION (timer_flags) = n
  | cotick (cbs : List (Nat × List Op)) -- schedule call_outs in the named (live) objects, then one tick with TIMER_FLAG_CALLOUT
  deriving Repr

/-- `cotick`: call_out ("co", 1, ops) in every named live object, TIMER_FLAG_CALLOUT on for the tick that follows -/
def coWorld (w : World) (cbs : List (Nat × List Op)) : World :=
  -- new_call_out links an entry in FRONT of the entries of the same second: the callbacks of one `cotick` run newest first
  { w with co := w.co ++ (cbs.filter (fun c => w.alive c.1)).reverse,
           tflags := if coOn w.tflags then w.tflags else w.tflags + (NV.Gen.C11.timerFlagCallout : Nat) }

def stepCmd (sc : Scripts) (w : World) : Cmd → World × List Ev
  | .tick => if w.crashed then (w, []) else tick sc w
  | .op self op =>
    if w.crashed then (w, [])
    else if !w.known.contains self then (w, [.topNoObj self])
    else if w.dead.contains self then (w, [.topDead self])
    else
      match runOps w self [op] with
      | (w', evs, .err) => (errorEntry w', evs ++ [.topErr self])
      | (w', evs, _) => (w', evs)
  | .tflags n => if w.crashed then (w, []) else ({ w with tflags := (n : Int) }, [.tflags (n : Int)])
  | .cotick cbs =>
    if w.crashed then (w, [])
    else ({ (tick sc (coWorld w cbs)).1 with tflags := w.tflags }, (tick sc (coWorld w cbs)).2)

def runCmds (sc : Scripts) (w : World) : List Cmd → World × List Ev
  | [] => (w, [])
  | c :: cs =>
    match stepCmd sc w c with
    | (w1, evs) =>
      match runCmds sc w1 cs with
      | (w2, evs2) => (w2, evs ++ evs2)

/-- the events of a whole run from the initial state (two blueprints loaded, nothing enabled); `hk` = what the
    move_or_destruct() hook of each object does -/
def events (sc : Scripts) (cmds : List Cmd) (hk : Nat → List Op := fun _ => []) : List Ev :=
  (runCmds sc { hooks := hk } cmds).2

end NV.C11
