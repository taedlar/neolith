/-
C11 — property theorems.  Helper lemmas: NV/C11/Lemmas.lean (lists), NV/C11/Bridge.lean (set_heart_beat branch by
branch, error_handler and the frame of the call in hand-written form), NV/C11/Sim.lean (simulation).  The clauses as
predicates on traces are in NV/C11/Trace.lean, period n over rounds and ticks in NV/C11/Period.lean.

The model (NV/C11/Model.lean) mirrors the array + two cursors of src/backend.c; the specification oracle
(NV/C11/Spec.lean) is an index-free reference semantics that checks every clause of C11 on a trace.  The top
theorem says the oracle finds nothing to object to on any model trace - for all populations, all heart_beat
scripts, all interleavings of top-level operations and ticks, any number of ticks.
-/
import NV.C11.Sim

namespace NV.C11

/-- every reachable state of the model, with the oracle state of its trace: the invariant between commands holds -/
theorem idle_run (sc : Scripts) (cmds : List Cmd) (hk : Nat → List Op) :
    Idle (runCmds sc { hooks := hk } cmds).1 ((events sc cmds hk).foldl judge1 {}) :=
  sim_runCmds sc cmds { hooks := hk } {} (idle_init hk)

/-- **Top theorem.**  On every run of the model - any scripts `sc` (what each heart_beat does, per object and
    per beat number), any command history `cmds` (top-level set_heart_beat / destruct / clone / error / timer
    operations and ticks) - the specification oracle reports no violation: beats happen exactly when the
    reference semantics predicts (at most once per tick, each object enabled since before the round and still
    enabled at its turn exactly when its countdown expires, late joiners not in this round, nothing after a
    disable / destruct, an error switches off only the failing object and abandons the round), every
    query_heart_beat() / heart_beats() answer is right, and no crash event occurs. -/
theorem model_satisfies_spec (sc : Scripts) (cmds : List Cmd) (hk : Nat → List Op := fun _ => []) :
    judgeEv (events sc cmds hk) = [] := by
  unfold judgeEv
  rw [(idle_run sc cmds hk).bad]; rfl

example : judgeEv (events (fun o k => if o = 2 ∧ k = 0 then [.shb 3 0, .shb 2 0, .clone 5 0 1, .err] else [])
    [.op 0 (.clone 2 0 1), .op 0 (.clone 3 0 2), .op 0 (.clone 4 0 1), .tick, .tick]) = [] :=
  model_satisfies_spec _ _

/-- **Memory safety of the round** (`hb_index_in_bounds`).  The model turns every `heart_beats[heart_beat_index]`
    access outside `[0, num_hb_objs)`, every append beyond `max_heart_beats` and a round whose loop would not
    terminate into the outcome `crashed`; it is never reached, whatever the heart_beat functions remove, add or
    destruct while the round is running. -/
theorem hb_index_in_bounds (sc : Scripts) (cmds : List Cmd) (hk : Nat → List Op := fun _ => []) :
    (runCmds sc { hooks := hk } cmds).1.crashed = false :=
  (idle_run sc cmds hk).r0.ok

/-- the state correspondence of the simulation holds after every history: the heart-beat array is exactly the
    oracle's service order, nothing is lost or duplicated by the index compensation -/
theorem hbs_is_service_order (sc : Scripts) (cmds : List Cmd) (hk : Nat → List Op := fun _ => []) :
    (runCmds sc { hooks := hk } cmds).1.hbs = ((runCmds sc { hooks := hk } cmds).2.foldl judge1 {}).all :=
  (idle_run sc cmds hk).r0.hbs

/-! ### Clauses, stated on the reference semantics that the model is proved to implement -/

/-- what one service of an entry with a heart_beat function does: (new entry, whether it beats) -/
def serve (e : Entry) : Entry × Bool :=
  if wrap16 (e.ticks - 1) < 1 then ({ e with ticks := e.interval }, true)
  else ({ e with ticks := wrap16 (e.ticks - 1) }, false)

/-- service of an entry by a round, including objects without heart_beat function (countdown only) -/
def served (nofn : List Nat) (e : Entry) : Entry :=
  if nofn.contains e.ob then { e with ticks := wrap16 (e.ticks - 1) } else (serve e).1

/-- is the entry due: its object has a heart_beat function and the countdown expires at this service -/
def due (nofn : List Nat) (e : Entry) : Bool := !nofn.contains e.ob && (serve e).2

/-- the objects that beat in a complete round over `l`, in service order -/
def dueList (nofn : List Nat) (l : List Entry) : List Nat := (l.filter (due nofn)).map (·.ob)

theorem advanceL_cons (nofn : List Nat) (tr : Bool) (done : List Entry) (x : Entry) (rest : List Entry) :
    advanceL nofn tr done (x :: rest) =
      if due nofn x then (done ++ [served nofn x], rest, some x.ob)
      else if (rest.isEmpty || tr) = true then (done ++ [served nofn x], rest, none)
      else advanceL nofn tr (done ++ [served nofn x]) rest := by
  unfold due served serve
  by_cases hn : x.ob ∈ nofn <;> by_cases ht : wrap16 (x.ticks - 1) < 1 <;> simp [advanceL, hn, ht]

theorem served_ob (nofn : List Nat) (x : Entry) : (served nofn x).ob = x.ob := by
  unfold served serve; split
  · rfl
  · split <;> rfl

theorem dueList_cons (nofn : List Nat) (x : Entry) (r : List Entry) :
    dueList nofn (x :: r) = if due nofn x then x.ob :: dueList nofn r else dueList nofn r := by
  unfold dueList
  by_cases h : due nofn x = true
  · simp [List.filter, h]
  · simp [List.filter, h]

theorem dueList_append (nofn : List Nat) (a b : List Entry) : dueList nofn (a ++ b) = dueList nofn a ++ dueList nofn b := by
  simp [dueList]

theorem mem_dueList {nofn : List Nat} {l : List Entry} {o : Nat} :
    o ∈ dueList nofn l ↔ ∃ e, e ∈ l ∧ due nofn e = true ∧ e.ob = o := by
  simp only [dueList, List.mem_map, List.mem_filter, and_assoc]

/-- what one call of `advanceL nofn tr done pend` did, told through the prefix `visited` of `pend` that it served (each entry
    once and in order); the only due entry among them, if there is one, is the object it announces (so that entry is the last) -/
structure Visited (nofn : List Nat) (tr : Bool) (done pend visited : List Entry) : Prop where
  pend_eq : pend = visited ++ (advanceL nofn tr done pend).2.1
  done_eq : (advanceL nofn tr done pend).1 = done ++ visited.map (served nofn)
  ne_nil : pend ≠ [] → visited ≠ []
  due_eq : dueList nofn visited = (advanceL nofn tr done pend).2.2.toList
  exhausted : (advanceL nofn tr done pend).2.2 = none → tr = false → (advanceL nofn tr done pend).2.1 = []

theorem advanceL_visited (nofn : List Nat) (tr : Bool) : ∀ (pend done : List Entry),
    ∃ visited, Visited nofn tr done pend visited := by
  intro pend
  induction pend with
  | nil =>
    intro done
    exact ⟨[], { pend_eq := rfl, done_eq := (List.append_nil _).symm, ne_nil := id, due_eq := rfl, exhausted := fun _ _ => rfl }⟩
  | cons x rest ih =>
    intro done
    by_cases h1 : due nofn x = true
    · -- x is due: it is announced, and it alone has been served
      have e : advanceL nofn tr done (x :: rest) = (done ++ [served nofn x], rest, some x.ob) := by
        rw [advanceL_cons, if_pos h1]
      exact ⟨[x], {
        pend_eq := by rw [e]; rfl
        done_eq := by rw [e]; rfl
        ne_nil := fun _ => List.cons_ne_nil _ _
        due_eq := by rw [e, dueList_cons, if_pos h1]; rfl
        exhausted := by rw [e]; nofun }⟩
    · by_cases h2 : (rest.isEmpty || tr) = true
      · -- x is not due and the step ends here: at the end of the list, or cut short by the timer
        have e : advanceL nofn tr done (x :: rest) = (done ++ [served nofn x], rest, none) := by
          rw [advanceL_cons, if_neg h1, if_pos h2]
        exact ⟨[x], {
          pend_eq := by rw [e]; rfl
          done_eq := by rw [e]; rfl
          ne_nil := fun _ => List.cons_ne_nil _ _
          due_eq := by rw [e, dueList_cons, if_neg h1]; rfl
          exhausted := fun _ htr => by rw [e]; rw [htr] at h2; simpa using h2 }⟩
      · -- x is not due and the step goes on: x in front of what the rest of the step visits
        have e : advanceL nofn tr done (x :: rest) = advanceL nofn tr (done ++ [served nofn x]) rest := by
          rw [advanceL_cons, if_neg h1, if_neg h2]
        obtain ⟨v, hv⟩ := ih (done ++ [served nofn x])
        exact ⟨x :: v, {
          pend_eq := by rw [e, List.cons_append, ← hv.pend_eq]
          done_eq := by rw [e, hv.done_eq]; simp
          ne_nil := fun _ => List.cons_ne_nil _ _
          due_eq := by rw [e, dueList_cons, if_neg h1]; exact hv.due_eq
          exhausted := by rw [e]; exact hv.exhausted }⟩

/-- **complete_round_visits_each_once.**  A round serves a *prefix* of the entries that were enabled when it
    began, each exactly once and in order (`pend = visited ++ remaining`, `done' = done ++ visited.map served`);
    entries enabled during the round (`late`) are not an argument of the round function at all.  A round that
    is not truncated by the timer and in which nothing beats visits every entry (`remaining = []`). -/
theorem complete_round_visits_each_once (nofn : List Nat) (tr : Bool) : ∀ (pend done : List Entry),
    ∃ visited, pend = visited ++ (advanceL nofn tr done pend).2.1 ∧
      (advanceL nofn tr done pend).1 = done ++ visited.map (served nofn) ∧
      ((advanceL nofn tr done pend).2.2 = none → tr = false → (advanceL nofn tr done pend).2.1 = []) := by
  intro pend done
  obtain ⟨v, hv⟩ := advanceL_visited nofn tr pend done
  exact ⟨v, hv.pend_eq, hv.done_eq, hv.exhausted⟩

example : (advanceL [] false [] [⟨2, 2, 2⟩, ⟨3, 3, 3⟩]).2.1 = [] := by decide

/-- the object that a round announces as beating has a heart_beat function, was enabled since before the round
    began and not yet served (it is taken from `pend`), and its countdown expired: objects that were disabled or
    destructed (removed from `pend`), that joined late or were served already cannot be called -/
theorem beat_only_from_pending (nofn : List Nat) (tr : Bool) : ∀ (pend done : List Entry) (o : Nat),
    (advanceL nofn tr done pend).2.2 = some o →
    ∃ e, e ∈ pend ∧ e.ob = o ∧ nofn.contains o = false ∧ (serve e).2 = true := by
  intro pend done o ho
  obtain ⟨v, hv⟩ := advanceL_visited nofn tr pend done
  obtain ⟨e, hev, hd, rfl⟩ := mem_dueList.mp (show o ∈ dueList nofn v by rw [hv.due_eq, ho]; exact List.mem_singleton.mpr rfl)
  simp only [due, Bool.and_eq_true, Bool.not_eq_true'] at hd
  exact ⟨e, by rw [hv.pend_eq]; exact List.mem_append_left _ hev, rfl, hd.1, hd.2⟩

/-- the oracle accepts a `beat o` event only when `o` is the object announced by the round function
    (**at_most_once_per_tick**, **disabled_or_destructed_never_called**: anything else is a violation) -/
theorem beat_accepted_iff (j : JState) (o : Nat) : (judge1 j (.beat o)).bad = j.bad ↔ j.expect = .beat o := by
  refine ⟨fun hacc => Decidable.byContradiction fun h => ?_, fun h => by rw [judge1_beat h]⟩
  obtain ⟨v, hv⟩ := judge1_beat_refused h
  exact flagV_bad_ne rfl (hv ▸ hacc)

/-- one service of an object enabled with interval n, 1 ≤ n ≤ SHRT_MAX, that has been served k < n times since a
    (re)start: the countdown goes from n - k to n - k - 1 without a beat, except that the n-th service (k = n - 1)
    beats and puts it back to n.  This is the form `serve_phase` (Period.lean) builds on. -/
theorem period_n_countdown (ob : Nat) (n : Int) (h1 : 1 ≤ n) (h2 : n ≤ shrtMax) (k : Nat) (hk : (k : Int) < n) :
    serve { ob := ob, ticks := n - k, interval := n } =
      if (k : Int) = n - 1 then ({ ob := ob, ticks := n, interval := n }, true)
      else ({ ob := ob, ticks := n - k - 1, interval := n }, false) := by
  have hs := shrtMax_val
  unfold serve wrap16
  simp only
  by_cases hl : (k : Int) = n - 1
  · have : (n - ↑k - 1 + 32768) % 65536 - 32768 < 1 := by omega
    rw [if_pos this, if_pos hl]
  · have : ¬ ((n - ↑k - 1 + 32768) % 65536 - 32768 < 1) := by omega
    rw [if_neg this, if_neg hl]
    congr 2
    omega

/-- **period_n.**  An object enabled with interval n, 1 ≤ n ≤ SHRT_MAX, does not beat in the first n - 1 services after
    a (re)start, beats at the n-th and is then back in the start state: one beat every n ticks in which it is served
    (`complete_round_visits_each_once`: every complete round) -/
theorem period_n (ob : Nat) (n : Int) (h1 : 1 ≤ n) (h2 : n ≤ shrtMax) :
    (∀ k : Nat, (k : Int) < n - 1 → (serve { ob := ob, ticks := n - k, interval := n }).2 = false) ∧
    serve { ob := ob, ticks := 1, interval := n } = ({ ob := ob, ticks := n, interval := n }, true) := by
  constructor
  · intro k hk
    rw [period_n_countdown ob n h1 h2 k (by omega)]
    have : ¬ ((k : Int) = n - 1) := by omega
    simp [this]
  · have h := period_n_countdown ob n h1 h2 (n - 1).toNat (by omega)
    have e : ((n - 1).toNat : Int) = n - 1 := by omega
    rw [e] at h
    simp only [if_true] at h
    have e2 : n - (n - 1) = 1 := by omega
    rw [e2] at h
    exact h

example : serve { ob := 2, ticks := 1, interval := 3 } = ({ ob := 2, ticks := 3, interval := 3 }, true) :=
  (period_n 2 3 (by decide) (by decide)).2

theorem efunSat_min (n : Int) (h1 : 1 ≤ n) : NV.Gen.C11.efunSat n = min n shrtMax := by
  have hs := shrtMax_val
  rw [gen_efunSat_eq]
  unfold satEfun
  split
  · omega
  · split <;> omega

/-- **interval of any size**: set_heart_beat(n) with ANY LPC integer n ≥ 1 on a live object without heart beat stores
    min(n, SHRT_MAX) in both short fields - no truncation, no wrap (the repaired code; `Witness.lean` has the values the
    unrepaired store produced).  With `serveN_period` the object then beats exactly once every min(n, SHRT_MAX) ticks. -/
theorem interval_stored_any (w : World) (x : Nat) (n : Int) (h1 : 1 ≤ n)
    (hd : w.dead.contains x = false) (hon : hasOb x w.hbs = false) (hc : w.hbs.length ≤ w.cap) :
    (setHeartBeat w x (NV.Gen.C11.efunSat n)).hbs =
      w.hbs ++ [{ ob := x, ticks := min n shrtMax, interval := min n shrtMax }] := by
  have hs := shrtMax_val
  obtain ⟨cap, _, he⟩ := setHeartBeat_append hd hon (t := min n shrtMax) (by omega) (by omega) (by omega) hc
  rw [efunSat_min n h1, he, if_neg (by omega)]

/-- what set_heart_beat(n) stores for a live object without heart beat, 1 ≤ n ≤ SHRT_MAX: exactly n -/
theorem interval_stored (w : World) (x : Nat) (n : Int) (h1 : 1 ≤ n) (h2 : n ≤ shrtMax)
    (hd : w.dead.contains x = false) (hon : hasOb x w.hbs = false) (hc : w.hbs.length ≤ w.cap) :
    (setHeartBeat w x (NV.Gen.C11.efunSat n)).hbs = w.hbs ++ [{ ob := x, ticks := n, interval := n }] := by
  have h := interval_stored_any w x n h1 hd hon hc
  rwa [Int.min_eq_left h2] at h

example : (setHeartBeat { cap := 32 } 2 (NV.Gen.C11.efunSat 4294967297)).hbs = [⟨2, 32767, 32767⟩] := by decide

/-- **retuning in place** (the neighbourhood of the independently written change C11-5): set_heart_beat(n), n ≥ 1, on an
    object that already has a heart beat rewrites its entry where it is - the order of the array, the round cursor and the
    number of entries still to serve are untouched, so an object that has not been visited yet in the running round is
    still visited in it; every other entry keeps countdown and interval -/
theorem retune_keeps_position (w : World) (x : Nat) (n : Int) (h1 : 1 ≤ n)
    (hd : w.dead.contains x = false) (hon : hasOb x w.hbs = true) :
    (setHeartBeat w x (NV.Gen.C11.efunSat n)).hbs = retune x (min n shrtMax) w.hbs ∧
    (setHeartBeat w x (NV.Gen.C11.efunSat n)).hbs.map (·.ob) = w.hbs.map (·.ob) ∧
    (setHeartBeat w x (NV.Gen.C11.efunSat n)).idx = w.idx ∧ (setHeartBeat w x (NV.Gen.C11.efunSat n)).todo = w.todo := by
  have hs := shrtMax_val
  rw [efunSat_min n h1, setHeartBeat_retune hd hon (by omega) (by omega)]
  exact ⟨rfl, retune_obs x _ w.hbs, rfl, rfl⟩

example : (setHeartBeat { hbs := [⟨2, 1, 1⟩, ⟨3, 1, 1⟩, ⟨4, 1, 1⟩], cap := 32, idx := 0, todo := 3 } 4 (NV.Gen.C11.efunSat 3)).hbs =
    [⟨2, 1, 1⟩, ⟨3, 1, 1⟩, ⟨4, 3, 3⟩] := by decide

/-- **error_local.**  The error handler removes exactly the entry of the object whose heart_beat was running;
    every other entry keeps its place, countdown and interval, and nobody is destructed or created. -/
theorem error_local (w : World) (c : Nat) (hc : w.cur = some c) (hd : w.dead.contains c = false) :
    (errorHandler w).hbs = rmFirst c w.hbs ∧ (errorHandler w).dead = w.dead ∧ (errorHandler w).known = w.known ∧
    (errorHandler w).cur = none := by
  simp only [errorHandler_eq_ref, errorHandlerRef, hc]
  cases hi : idxOf c w.hbs with
  | none => rw [setHeartBeat_zero_none hd hi, rmFirst_of_not_has (not_has_of_idxOf_none hi)]; exact ⟨rfl, rfl, rfl, trivial⟩
  | some i => rw [setHeartBeat_zero_some hd hi]; exact ⟨rfl, rfl, rfl, trivial⟩

theorem lookup_rmFirst_ne (c y : Nat) (h : y ≠ c) : ∀ l : List Entry, lookup y (rmFirst c l) = lookup y l := by
  intro l
  induction l with
  | nil => rfl
  | cons e r ih =>
    by_cases he : e.ob = c
    · have hcy : ¬ (c = y) := fun h' => h h'.symm
      simp [rmFirst, he, lookup, hcy]
    · by_cases hy : e.ob = y
      · have hyc : ¬ (y = c) := h
        simp [rmFirst, lookup, hy, hyc]
      · simp [rmFirst, he, lookup, hy, ih]

/-- ... in particular query_heart_beat of every other object is unchanged by the error -/
theorem error_local_others (w : World) (c y : Nat) (hc : w.cur = some c) (hd : w.dead.contains c = false)
    (hy : y ≠ c) : queryHeartBeat (errorHandler w) y = queryHeartBeat w y := by
  unfold queryHeartBeat
  rw [(error_local w c hc hd).1, lookup_rmFirst_ne c y hy]

example : (errorHandler { hbs := [⟨2, 1, 1⟩, ⟨3, 2, 2⟩, ⟨4, 1, 3⟩], cap := 32, cur := some 3 }).hbs = [⟨2, 1, 1⟩, ⟨4, 1, 3⟩] := by
  decide

/-- **faults stay local (call context).**  Whatever the world looked like before - another heart_beat enabled commands
    (command_giver = that object), used up its evaluation cost, or raised an error that left command_giver behind - the
    statements that call_heart_beat executes in front of the call (`NV.Gen.C11.callFrame`, regenerated from the source)
    give the called object a clean context: current_heart_beat = ob, command_giver = ob iff ob is living (else 0),
    full evaluation cost; nothing else changes. -/
theorem call_context_clean (w : World) (ob : Nat) :
    (callSetup w ob).cur = some ob ∧ (callSetup w ob).cg = ctxGiver ob (w.living.contains ob) ∧
    (callSetup w ob).ec = true ∧ (callSetup w ob).hbs = w.hbs ∧ (callSetup w ob).idx = w.idx ∧
    (callSetup w ob).todo = w.todo ∧ (callSetup w ob).living = w.living := by
  rw [callSetup_ref]
  exact ⟨rfl, rfl, rfl, rfl, rfl, rfl, rfl⟩

/-- ... and the oracle's clause `ctx` accepts exactly that context: the event the model emits at the entry of a
    heart_beat is accepted in every oracle state that expects the body of `ob`'s heart_beat -/
theorem call_context_accepted (w : World) (ob : Nat) (j : JState) (he : j.expect = .inBeat) (hc : j.cur = some ob) :
    judge1 j (ctxEv (callSetup w ob) ob) = j := by
  rw [callSetup_ref]
  exact judge1_ctx he hc _

/-- the clause is not vacuous: a living object that sees no this_player(), a stranger as this_player(), or a used-up
    evaluation cost is a violation -/
example : judgeEv [.clone 0 2 0 1 1, .tickBegin, .beat 2, .ctx 2 true none true] ≠ [] := by decide
example : judgeEv [.clone 0 2 0 1 1, .tickBegin, .beat 2, .ctx 2 false (some 3) true] ≠ [] := by decide
example : judgeEv [.clone 0 2 0 1 1, .tickBegin, .beat 2, .ctx 2 false none false] ≠ [] := by decide
example : judgeEv [.clone 0 2 0 1 1, .tickBegin, .beat 2, .ctx 2 true (some 2) true, .beatEnd 2, .tickEnd] = [] := by decide
example : (callSetup { cg := some 7, ec := false, living := [3] } 3).cg = some 3 ∧
    (callSetup { cg := some 7, ec := false, living := [3] } 2).cg = none ∧
    (callSetup { cg := some 7, ec := false, living := [3] } 2).ec = true := by decide

/-- **a caught error is not a fault of the heart beat.**  `catch (error (...))` leaves error_handler through its catch
    branch (`NV.Gen.C11.errOrder`: that branch comes first), so nothing is switched off and the script goes on -/
theorem caught_error_keeps_heart_beat (w : World) (self : Nat) :
    stepOpBasic w self .cerr = (w, [.caught self], .ok) ∧ NV.Gen.C11.errOrder.head? = some 0 := ⟨rfl, rfl⟩

/-- **timer_flags without TIMER_FLAG_HEARTBEAT**: a tick runs no round at all - nobody beats, no countdown moves, the
    list is untouched; `heart_beat_index` keeps its (possibly stale) value and `num_hb_to_do = num_hb_objs` stays
    non-zero until the next real round, so removals in between are "compensated" (harmless: `hb_index_in_bounds`) -/
theorem no_round_without_heartbeat_flag (sc : Scripts) (w : World) (h : hbOn w.tflags = false) :
    (tickRound sc w).2 = [.tickOff, .tickEnd] ∧ (tickRound sc w).1.hbs = w.hbs ∧ (tickRound sc w).1.idx = w.idx ∧
    (tickRound sc w).1.todo = (w.hbs.length : Int) ∧ (tickRound sc w).1.cur = none ∧ (tickRound sc w).1.flag = false := by
  rw [tick_eq_ref]
  unfold tickRef
  rw [h]
  exact ⟨rfl, rfl, rfl, rfl, rfl, rfl⟩

example : hbOn 0 = false ∧ hbOn 1 = false ∧ hbOn 2 = true ∧ hbOn 3 = true ∧ hbOn 4 = false ∧ hbOn 6 = true := by decide

/-- the first event of call_heart_beat tells whether timer_flags has TIMER_FLAG_HEARTBEAT: `tickBegin` if it has (also
    when the list is empty and the loop is not entered), `tickOff` if not -/
theorem round_entered_iff (sc : Scripts) (w : World) :
    (tickRound sc w).2.head? = some (if hbOn w.tflags then Ev.tickBegin else Ev.tickOff) := by
  rw [tick_eq_ref]
  unfold tickRef
  cases hbOn w.tflags with
  | false => rfl
  | true =>
    simp only [if_true]
    split
    · rfl
    · rfl


/-- **an error outside every heart_beat switches off nobody** (call_out callbacks, reset()/clean_up(), commands): with
    current_heart_beat = 0 - which `NV.Gen.C11.chbTail` guarantees for everything call_heart_beat runs after the round -
    error_handler leaves the heart-beat list, the cursor and the set of objects alone -/
theorem error_outside_heart_beat_switches_off_nobody (w : World) (h : w.cur = none) :
    (errorEntry w).hbs = w.hbs ∧ (errorEntry w).idx = w.idx ∧ (errorEntry w).todo = w.todo ∧
    (errorEntry w).dead = w.dead ∧ (errorEntry w).cur = none := by
  unfold errorEntry
  rw [errorHandler_eq_ref]
  unfold errorHandlerRef
  simp [h]

/-- ... and the specification says the same: an `err` event while no heart_beat is running changes no entry -/
theorem oracle_error_outside_heart_beat (j : JState) (o : Nat) (h : j.cur = none) :
    (judge1 j (.err o)).all = j.all ∧ (judge1 j (.err o)).bad = j.bad := by
  have e : jErr1 j = j := by unfold jErr1; rw [h]
  rw [judge1_err]
  unfold jErr
  rw [e]
  split <;> exact ⟨rfl, rfl⟩

example : (errorEntry { hbs := [⟨2, 1, 1⟩, ⟨3, 2, 2⟩], cap := 32, cur := none }).hbs = [⟨2, 1, 1⟩, ⟨3, 2, 2⟩] := by decide

/-- the specification agrees with `destructed_never_enabled`: the object's own set_heart_beat after its destruct leaves
    every entry alone -/
theorem oracle_own_set_heart_beat_of_destructed (j : JState) (s : Nat) (n : Int) (hd : j.alive s = false) (ha : opAllowed j = true) :
    judge1 j (.zshb s n) = j :=
  judge1_zshb_dead ha n hd

example : (runOps { hbs := [⟨2, 1, 1⟩], cap := 32, known := [2, 0, 1] } 2 [.dest 2, .zshb 1, .zshb 5]).1.hbs = [] := by decide

end NV.C11
