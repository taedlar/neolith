/-
C11 — the simulation: every step of the index-based model is matched by the index-free reference semantics
of the specification oracle, which therefore never reports a violation on a model trace.
-/
import NV.C11.Bridge

namespace NV.C11

/-- state correspondence that holds at every event boundary -/
structure R0 (w : World) (j : JState) : Prop where
  hbs : w.hbs = j.done ++ j.pend ++ j.late
  known : w.known = j.known
  nofn : w.nofn = j.nofn
  dead : w.dead = j.dead
  flag : w.flag = j.trunc
  cur : w.cur = j.cur
  ok : w.crashed = false
  cap : w.hbs.length ≤ w.cap
  sub : ∀ x, w.dead.contains x = true → w.known.contains x = true

/-- cursor correspondence while a heart_beat function runs: heart_beat_index is the last served entry -/
def Pos (w : World) (j : JState) : Prop :=
  w.idx + 1 = (j.done.length : Int) ∧ w.todo = (j.done.length : Int) + (j.pend.length : Int)

def RP (w : World) (j : JState) : Prop := R0 w j ∧ (j.inRound = true → Pos w j)

/-- what operations leave untouched in the oracle state -/
structure Frame (j j' : JState) : Prop where
  bad : j'.bad = j.bad
  inRound : j'.inRound = j.inRound
  expect : j'.expect = j.expect
  pend : j'.pend.length ≤ j.pend.length

theorem Frame.refl (j : JState) : Frame j j := ⟨rfl, rfl, rfl, Nat.le_refl _⟩

theorem Frame.trans {a b c : JState} (h1 : Frame a b) (h2 : Frame b c) : Frame a c :=
  ⟨h2.bad.trans h1.bad, h2.inRound.trans h1.inRound, h2.expect.trans h1.expect, Nat.le_trans h2.pend h1.pend⟩

theorem R0.all {w : World} {j : JState} (h : R0 w j) : w.hbs = j.all := h.hbs

/-! ### the correspondence reads few fields of either state -/

/-- the fields of the world, and of the oracle state, that `R0` mentions -/
def World.seen (w : World) := (w.hbs, w.cap, w.known, w.nofn, w.dead, w.flag, w.cur, w.crashed)
def JState.seen (j : JState) := (j.done, j.pend, j.late, j.known, j.nofn, j.dead, j.trunc, j.cur)

/-- used with `rfl` for both equations.  Where the new world is `{ x with .. }` over an `x` that is not a variable
    (`(tick sc w).1`), generalise `x` first: the unifier compares `{ x with .. }` with `x` field by field before it unfolds
    `seen`, and unfolds `x` on the way. -/
theorem R0.of_seen {w w' : World} {j j' : JState} (h : R0 w j) (e : w'.seen = w.seen) (e' : j'.seen = j.seen) :
    R0 w' j' := by
  simp only [World.seen, JState.seen, Prod.mk.injEq] at e e'
  obtain ⟨e1, e2, e3, e4, e5, e6, e7, e8⟩ := e
  obtain ⟨f1, f2, f3, f4, f5, f6, f7, f8⟩ := e'
  refine ⟨?_, ?_, ?_, ?_, ?_, ?_, e8.trans h.ok, ?_, ?_⟩
  · rw [e1, f1, f2, f3]; exact h.hbs
  · rw [e3, f4]; exact h.known
  · rw [e4, f5]; exact h.nofn
  · rw [e5, f6]; exact h.dead
  · rw [e6, f7]; exact h.flag
  · rw [e7, f8]; exact h.cur
  · rw [e1, e2]; exact h.cap
  · rw [e3, e5]; exact h.sub

/-- ... and `RP` the two cursors and the lengths of `done` and `pend` besides -/
theorem RP.of_seen {w w' : World} {j : JState} (h : RP w j) (e : w'.seen = w.seen) (ei : w'.idx = w.idx)
    (et : w'.todo = w.todo) : RP w' j :=
  ⟨h.1.of_seen e rfl, fun hr => by unfold Pos; rw [ei, et]; exact h.2 hr⟩

/-- a field both states have changes on both sides: the timer flag, the running object -/
theorem R0.setFlag {w : World} {j : JState} (h : R0 w j) (b : Bool) : R0 { w with flag := b } { j with trunc := b } :=
  ⟨h.hbs, h.known, h.nofn, h.dead, rfl, h.cur, h.ok, h.cap, h.sub⟩

theorem R0.setCur {w : World} {j : JState} (h : R0 w j) (c : Option Nat) : R0 { w with cur := c } { j with cur := c } :=
  ⟨h.hbs, h.known, h.nofn, h.dead, h.flag, rfl, h.ok, h.cap, h.sub⟩

/-- `j'` is `j` with other contents in the three lists: what set_heart_beat and the removals do to the oracle state -/
def ListsOnly (j j' : JState) : Prop := j' = { j with done := j'.done, pend := j'.pend, late := j'.late }

theorem ListsOnly.frame {j j' : JState} (h : ListsOnly j j') (hp : j'.pend.length ≤ j.pend.length) : Frame j j' :=
  ⟨(congrArg JState.bad h :), (congrArg JState.inRound h :), (congrArg JState.expect h :), hp⟩

/-- the array (and its allocation, and the cursors) replaced on one side, the three lists on the other -/
theorem R0.lists {w : World} {j j' : JState} (h : R0 w j) (hl : ListsOnly j j') {l : List Entry} {cap : Nat}
    (idx todo : Int) (e : l = j'.all) (hc : l.length ≤ cap) :
    R0 { w with hbs := l, cap := cap, idx := idx, todo := todo } j' :=
  ⟨e, h.known.trans (congrArg JState.known hl :).symm, h.nofn.trans (congrArg JState.nofn hl :).symm,
   h.dead.trans (congrArg JState.dead hl :).symm, h.flag.trans (congrArg JState.trunc hl :).symm,
   h.cur.trans (congrArg JState.cur hl :).symm, h.ok, hc, h.sub⟩

theorem jDisable_all (j : JState) (x : Nat) : (jDisable j x).all = rmFirst x j.all := by
  unfold jDisable JState.all
  rw [rmFirst_segments]
  split
  · rfl
  · split <;> rfl

theorem jDisable_lists (j : JState) (x : Nat) : ListsOnly j (jDisable j x) := by
  unfold jDisable
  split
  · rfl
  · split <;> rfl

theorem jDisable_frame (j : JState) (x : Nat) : Frame j (jDisable j x) := by
  refine (jDisable_lists j x).frame ?_
  unfold jDisable
  split
  · exact Nat.le_refl _
  · split
    · exact rmFirst_length_le _ _
    · exact Nat.le_refl _

theorem jDisable_absent {j : JState} {x : Nat} (h : hasOb x j.all = false) : jDisable j x = j := by
  unfold JState.all at h
  rw [hasOb_append, hasOb_append] at h
  simp only [Bool.or_eq_false_iff] at h
  unfold jDisable
  rw [if_neg (by rw [h.1.1]; decide), if_neg (by rw [h.1.2]; decide), rmFirst_of_not_has h.2]

/-- the entry at index `i` of done ++ pend ++ late is taken out of the list it lies in -/
theorem jDisable_lengths {j : JState} {x i : Nat} (hi : idxOf x j.all = some i) :
    (i < j.done.length ∧ (jDisable j x).done.length + 1 = j.done.length ∧ (jDisable j x).pend.length = j.pend.length) ∨
    (j.done.length ≤ i ∧ i < j.done.length + j.pend.length ∧ (jDisable j x).done.length = j.done.length ∧
      (jDisable j x).pend.length + 1 = j.pend.length) ∨
    (j.done.length + j.pend.length ≤ i ∧ (jDisable j x).done.length = j.done.length ∧
      (jDisable j x).pend.length = j.pend.length) := by
  unfold jDisable
  rcases idxOf_segments hi with ⟨hd, h⟩ | ⟨hd, hp, h1, h2⟩ | ⟨hd, hp, h⟩
  · rw [if_pos hd]; exact .inl ⟨h, rmFirst_length hd, rfl⟩
  · rw [if_neg (by rw [hd]; decide), if_pos hp]; exact .inr (.inl ⟨h1, h2, rfl, rmFirst_length hp⟩)
  · rw [if_neg (by rw [hd]; decide), if_neg (by rw [hp]; decide)]; exact .inr (.inr ⟨h, rfl, rfl⟩)

/-- the compensation `if (num_hb_to_do) { if (index <= heart_beat_index) heart_beat_index--; if (index < num_hb_to_do)
    num_hb_to_do--; }` keeps heart_beat_index + 1 = |done| and num_hb_to_do = |done| + |pend| when the entry at `i`
    goes: D, P are the lengths before, D', P' after -/
theorem rmCompensate_pos {i D P D' P' : Nat} {idx todo : Int} (p1 : idx + 1 = (D : Int)) (p2 : todo = (D : Int) + (P : Int))
    (hc : (i < D ∧ D' + 1 = D ∧ P' = P) ∨ (D ≤ i ∧ i < D + P ∧ D' = D ∧ P' + 1 = P) ∨ (D + P ≤ i ∧ D' = D ∧ P' = P)) :
    (NV.Gen.C11.rmCompensate (i : Int) idx todo).1 + 1 = (D' : Int) ∧
    (NV.Gen.C11.rmCompensate (i : Int) idx todo).2 = (D' : Int) + (P' : Int) := by
  rw [gen_rmCompensate_eq]
  rcases hc with h | h | h
  · have c : todo ≠ 0 ∧ (i : Int) ≤ idx ∧ (i : Int) < todo := by omega
    rw [if_pos c.1, if_pos c.2.1, if_pos c.2.2]; simp only; omega
  · have c : todo ≠ 0 ∧ ¬ (i : Int) ≤ idx ∧ (i : Int) < todo := by omega
    rw [if_pos c.1, if_neg c.2.1, if_pos c.2.2]; simp only; omega
  · have c : ¬ (i : Int) ≤ idx ∧ ¬ (i : Int) < todo := by omega
    rw [if_neg c.1, if_neg c.2, ite_self]; simp only; omega

/-- removal: the compensation of heart_beat_index / num_hb_to_do is exactly "remove it from whichever of
    done / pend / late holds it" -/
theorem sim_disable {w : World} {j : JState} (h : RP w j) (x : Nat) (hx : w.dead.contains x = false) :
    RP (setHeartBeat w x 0) (jDisable j x) := by
  obtain ⟨h0, hp⟩ := h
  cases hi : idxOf x w.hbs with
  | none =>
    rw [setHeartBeat_zero_none hx hi, jDisable_absent (h0.all ▸ not_has_of_idxOf_none hi)]
    exact ⟨h0, hp⟩
  | some i =>
    rw [setHeartBeat_zero_some hx hi]
    refine ⟨h0.lists (jDisable_lists j x) _ _ ?_ (Nat.le_trans (rmFirst_length_le _ _) h0.cap), fun hr => ?_⟩
    · rw [jDisable_all, h0.all]
    · obtain ⟨p1, p2⟩ := hp ((jDisable_frame j x).inRound ▸ hr)
      exact rmCompensate_pos p1 p2 (jDisable_lengths (h0.all ▸ hi))

theorem jSet_zero {j : JState} {x : Nat} {n : Int} (hz : satEfun n = 0) : jSet j x n = jDisable j x := by
  unfold jSet; simp only [hz, if_true]

theorem jSet_neg {j : JState} {x : Nat} {n : Int} (hon : hasOb x j.all = true) (hneg : satEfun n < 0) :
    jSet j x n = j := by
  have hz : ¬ satEfun n = 0 := by omega
  unfold jSet; simp only [hz, hon, hneg, if_true, if_false]

theorem jSet_retune {j : JState} {x : Nat} {n : Int} (hon : hasOb x j.all = true) (h0 : 0 < satEfun n) :
    jSet j x n =
      if hasOb x j.done then { j with done := retune x (satEfun n) j.done }
      else if hasOb x j.pend then { j with pend := retune x (satEfun n) j.pend }
      else { j with late := retune x (satEfun n) j.late } := by
  have hz : ¬ satEfun n = 0 := by omega
  have hneg : ¬ satEfun n < 0 := by omega
  unfold jSet; simp only [hz, hon, hneg, if_true, if_false]

theorem jSet_append {j : JState} {x : Nat} {n : Int} (hoff : hasOb x j.all = false) (hz : satEfun n ≠ 0) :
    jSet j x n = { j with late := j.late ++ [{ ob := x, ticks := if satEfun n < 0 then 1 else satEfun n,
                                               interval := if satEfun n < 0 then 1 else satEfun n }] } := by
  unfold jSet; simp only [hz, hoff, Bool.false_eq_true, if_false]

/-- retuning rewrites the entry where it is: the array changes by `retune`, no list changes its length -/
theorem jSet_retune_all {j : JState} {x : Nat} {n : Int} (hon : hasOb x j.all = true) (h0 : 0 < satEfun n) :
    (jSet j x n).all = retune x (satEfun n) j.all ∧ (jSet j x n).done.length = j.done.length ∧
    (jSet j x n).pend.length = j.pend.length := by
  rw [jSet_retune hon h0]
  unfold JState.all
  rw [retune_segments]
  split
  · exact ⟨rfl, retune_length _ _ _, rfl⟩
  · split
    · exact ⟨rfl, rfl, retune_length _ _ _⟩
    · exact ⟨rfl, rfl, rfl⟩

theorem jSet_lists (j : JState) (x : Nat) (n : Int) : ListsOnly j (jSet j x n) := by
  by_cases hz : satEfun n = 0
  · rw [jSet_zero hz]; exact jDisable_lists j x
  cases hon : hasOb x j.all with
  | false => rw [jSet_append hon hz]; rfl
  | true =>
    by_cases hneg : satEfun n < 0
    · rw [jSet_neg hon hneg]; rfl
    · rw [jSet_retune hon (by omega)]
      split
      · rfl
      · split <;> rfl

theorem jSet_frame (j : JState) (x : Nat) (n : Int) : Frame j (jSet j x n) := by
  refine (jSet_lists j x n).frame ?_
  by_cases hz : satEfun n = 0
  · rw [jSet_zero hz]; exact (jDisable_frame j x).pend
  cases hon : hasOb x j.all with
  | false => rw [jSet_append hon hz]; exact Nat.le_refl _
  | true =>
    by_cases hneg : satEfun n < 0
    · rw [jSet_neg hon hneg]; exact Nat.le_refl _
    · exact Nat.le_of_eq (jSet_retune_all hon (by omega)).2.2

/-- enabling / retuning: append goes to `late`, retune rewrites the entry where it is; the `(short)` cast is the
    identity on the clamped argument -/
theorem sim_set {w : World} {j : JState} (h : RP w j) (x : Nat) (n : Int) (hx : w.dead.contains x = false) :
    RP (setHeartBeat w x (satEfun n)) (jSet j x n) := by
  have hr := satEfun_range n
  by_cases hz : satEfun n = 0
  · rw [jSet_zero hz, hz]; exact sim_disable h x hx
  obtain ⟨h0, hp⟩ := h
  have hl := jSet_lists j x n
  cases hon : hasOb x w.hbs with
  | true =>
    have hon' : hasOb x j.all = true := h0.all ▸ hon
    by_cases hneg : satEfun n < 0
    · rw [setHeartBeat_neg_on hx hon hneg, jSet_neg hon' hneg]; exact ⟨h0, hp⟩
    · obtain ⟨ha, hdl, hpl⟩ := jSet_retune_all (n := n) hon' (by omega)
      rw [setHeartBeat_retune (t := satEfun n) hx hon (by omega) hr.2]
      refine ⟨h0.lists hl _ _ (by rw [ha, h0.all]) (by rw [retune_length]; exact h0.cap), fun hr' => ?_⟩
      unfold Pos; rw [hdl, hpl]; exact hp ((jSet_frame j x n).inRound ▸ hr')
  | false =>
    have hon' : hasOb x j.all = false := h0.all ▸ hon
    obtain ⟨cap, hlt, he⟩ := setHeartBeat_append hx hon hz (by omega) hr.2 h0.cap
    rw [he]
    refine ⟨h0.lists hl _ _ ?_ (by rw [List.length_append]; exact hlt), fun hr' => ?_⟩
    · rw [jSet_append hon' hz, h0.all]; simp only [JState.all, List.append_assoc]
    · have := hp ((jSet_frame j x n).inRound ▸ hr')
      rw [jSet_append hon' hz]; exact this

theorem jDisableAlive_lists (j : JState) (x : Nat) : ListsOnly j (jDisableAlive j x) := by
  unfold jDisableAlive
  split
  · rfl
  · exact jDisable_lists j x

theorem jDisableAlive_frame (j : JState) (x : Nat) : Frame j (jDisableAlive j x) := by
  unfold jDisableAlive
  split
  · exact Frame.refl j
  · exact jDisable_frame j x

theorem sim_disableAlive {w : World} {j : JState} (h : RP w j) (x : Nat) :
    RP (setHeartBeat w x 0) (jDisableAlive j x) := by
  unfold jDisableAlive
  rw [← h.1.dead]
  cases hd : w.dead.contains x with
  | false => exact sim_disable h x hd
  | true => rw [destructed_never_enabled w x 0 hd]; exact h

theorem alive_eq {w : World} {j : JState} (h : R0 w j) (x : Nat) : w.alive x = j.alive x := by
  unfold World.alive JState.alive; rw [h.known, h.dead]

theorem alive_not_dead {w : World} {x : Nat} (h : w.alive x = true) : w.dead.contains x = false := by
  unfold World.alive at h
  simp only [Bool.and_eq_true, Bool.not_eq_true'] at h
  exact h.2

theorem query_eq {w : World} {j : JState} (h : R0 w j) (x : Nat) : queryHeartBeat w x = jQuery j x := by
  unfold queryHeartBeat jQuery; rw [h.all]
  cases lookup x j.all <;> rfl

/-! ### the oracle clause by clause: what `judge1` does with an event it accepts

Every later proof that follows an accepted event - here, in Props, Period - reaches `judge1` through these equations
(operations first, then the round: `advance`, tickBegin / tickEnd / tickAbort / beat / beatEnd).  Of the events it
refuses the later proofs need little, and it stands at the end of the section: a refusal adds a violation
(`flagV_bad_ne`), `judge1_beat_refused`, `judge1_tickEnd_refused`, and the converses `judge1_ctx_accepted`,
`judge1_tickOff_accepted` (by `accepted_ite`: an accepted event has passed every check of its clause); `judge1_judged`
in Trace goes through the definitional unfolding of one clause at a time.  The states that the clauses of destruct,
clone, error and tickBegin end in have names. -/

/-- oracle state after destruct (t): its entry is gone and it is dead -/
def jKill (j : JState) (t : Nat) : JState := { jDisable j t with dead := t :: j.dead }

/-- oracle state after clone_object, before create() of the clone `new` runs: the heart beat of the blueprint is switched
    off, the clone exists (`k` = 0: it has a heart_beat function) -/
def jBorn (j : JState) (new k : Nat) : JState :=
  let j1 := jDisableAlive j (if k = 0 then 0 else 1)
  { j1 with known := new :: j1.known, nofn := if k = 0 then j1.nofn else new :: j1.nofn }

/-- oracle state after an uncaught error, before the round is declared abandoned -/
def jErr1 (j : JState) : JState :=
  match j.cur with
  | some c => { jDisableAlive j c with cur := none }
  | none => j

def jErr (j : JState) : JState :=
  if (jErr1 j).inRound then { jErr1 j with expect := .abort } else jErr1 j

/-- oracle state at the entry of a round, before the first entry is served: everything enabled is pending -/
def jBegin (j : JState) : JState :=
  { j with done := [], pend := j.done ++ j.pend ++ j.late, late := [], inRound := true, trunc := false }

/-- entering and leaving a round only regroup the three lists -/
theorem jBegin_all (j : JState) : (jBegin j).all = j.all := List.append_nil _

theorem endRound_all (j : JState) : (endRound j).all = j.all := by
  simp only [endRound, JState.all, List.append_nil]

theorem judge1_err (j : JState) (o : Nat) : judge1 j (.err o) = jErr j := rfl

theorem judge1_errR (j : JState) : judge1 j .errR = jErr j := rfl

theorem judge1_shbDead {j : JState} {s t : Nat} {n : Int} (h : j.alive t = false) : judge1 j (.shbDead s t n) = j :=
  if_neg (h ▸ Bool.false_ne_true)

theorem judge1_shb {j : JState} (ha : opAllowed j = true) {s t : Nat} (n : Int) (h : j.alive t = true) :
    judge1 j (.shb s t n (jQuery (jSet j t n) t)) = jSet j t n := by
  unfold judge1
  simp only [ha, h, Bool.not_true, Bool.false_eq_true, if_false, beq_self_eq_true, if_true]

theorem judge1_queryDead {j : JState} {s t : Nat} (h : j.alive t = false) : judge1 j (.queryDead s t) = j :=
  if_neg (h ▸ Bool.false_ne_true)

theorem judge1_query {j : JState} {s t : Nat} (h : j.alive t = true) : judge1 j (.query s t (jQuery j t)) = j := by
  unfold judge1
  simp only [h, Bool.not_true, Bool.false_eq_true, if_false, beq_self_eq_true, if_true]

/-- destruct (t) of a live clone, by anybody but the item whose move_or_destruct() is running -/
theorem judge1_dest {j : JState} (ha : opAllowed j = true) {self t : Nat} (hat : j.alive t = true)
    (ht2 : decide (t < 2) = false) : judge1 j (.dest self t) = jKill j t := by
  unfold judge1
  simp only [ha, hat, ht2, Bool.not_true, Bool.or_self, Bool.false_eq_true, if_false]; rfl

theorem judge1_destGone {j : JState} {s t : Nat} (h : j.alive t = false) : judge1 j (.destGone s t) = j :=
  if_neg (h ▸ Bool.false_ne_true)

theorem judge1_cloneDup {j : JState} {s new : Nat} (h : j.known.contains new = true) : judge1 j (.cloneDup s new) = j :=
  if_pos h

/-- cloning switches off the heart beat of the blueprint, then create() of the clone runs -/
theorem judge1_clone {j : JState} (ha : opAllowed j = true) {s new k : Nat} (n : Int) (hk : j.known.contains new = false) :
    judge1 j (.clone s new k n (jQuery (jSet (jBorn j new k) new n) new)) = jSet (jBorn j new k) new n := by
  unfold judge1 jBorn
  simp only [ha, hk, Bool.not_true, Bool.false_eq_true, if_false, beq_self_eq_true, if_true]

theorem judge1_zshb_dead {j : JState} (ha : opAllowed j = true) {s : Nat} (n : Int) (h : j.alive s = false) :
    judge1 j (.zshb s n) = j := by
  unfold judge1
  simp only [ha, h, Bool.not_true, Bool.not_false, Bool.false_eq_true, if_false, if_true]

theorem judge1_zshb {j : JState} (ha : opAllowed j = true) {s : Nat} (n : Int) (h : j.alive s = true) :
    judge1 j (.zshb s n) = jSet j s n := by
  unfold judge1
  simp only [ha, h, Bool.not_true, Bool.false_eq_true, if_false]

theorem judge1_reload {j : JState} (ha : opAllowed j = true) {s t : Nat} (n : Int) (hat : j.alive t = true)
    (ht2 : decide (t < 2) = false) :
    judge1 j (.reload s t n (jQuery (jSet (jDisable j t) t n) t)) = jSet (jDisable j t) t n := by
  unfold judge1
  simp only [ha, hat, ht2, Bool.not_true, Bool.or_self, Bool.false_eq_true, if_false, beq_self_eq_true, if_true]

theorem judge1_hbs (j : JState) (s : Nat) : judge1 j (.hbs s (j.all.map (·.ob)).reverse) = j :=
  if_pos (beq_self_eq_true _)

theorem judge1_hook {j : JState} (ha : opAllowed j = true) {i c : Nat} : judge1 j (.hook i c) = j :=
  if_neg (by rw [ha]; decide)

theorem judge1_hookGone {j : JState} {i : Nat} (h : j.alive i = false) : judge1 j (.hookGone i) = j :=
  if_neg (h ▸ Bool.false_ne_true)

theorem judge1_hookMoved {j : JState} {i : Nat} (h : j.alive i = true) : judge1 j (.hookMoved i) = j := if_pos h

theorem judge1_hookEnd {j : JState} (ha : opAllowed j = true) {i : Nat} (h : j.alive i = true) :
    judge1 j (.hookEnd i) = jKill j i := by
  unfold judge1
  simp only [ha, h, Bool.not_true, Bool.false_eq_true, if_false]; rfl

theorem judge1_topNoObj {j : JState} {o : Nat} (h : j.known.contains o = false) : judge1 j (.topNoObj o) = j :=
  if_neg (h ▸ Bool.false_ne_true)

theorem judge1_topDead {j : JState} {o : Nat} (h : j.dead.contains o = true) : judge1 j (.topDead o) = j := if_pos h

/-- the context clause: a heart_beat that is entered finds this_player() = itself iff it is living, and a full evaluation cost -/
theorem judge1_ctx {j : JState} {o : Nat} (he : j.expect = .inBeat) (hc : j.cur = some o) (lv : Bool) :
    judge1 j (.ctx o lv (ctxGiver o lv) true) = j := by
  unfold judge1
  simp only [he, hc, bne_self_eq_false, Bool.or_self, Bool.false_eq_true, if_false, Bool.not_true]

theorem judge1_tickOff {j : JState} (hi : j.expect = .idle) :
    judge1 j .tickOff = { j with expect := .endOfRound, trunc := false } :=
  if_neg (by rw [hi]; decide)

theorem judge1_rpDone {j : JState} (hi : j.expect = .idle) (o : Nat) : judge1 j (.rpDone o) = { j with nofn := o :: j.nofn } :=
  if_neg (by rw [hi]; decide)

theorem judge1_passLimit {j : JState} (hi : j.expect = .idle) : judge1 j .passLimit = { j with trunc := false } :=
  if_neg (by rw [hi]; decide)

/-- one step of the oracle's round on the first pending entry `x`: it beats; or it is counted down and the round ends
    there (nothing left, or the timer fired); or it is counted down and the round goes on behind it -/
theorem advance_cons {j : JState} {x : Entry} {rest : List Entry} (hp : j.pend = x :: rest) :
    advance j =
      if !j.nofn.contains x.ob && decide (wrap16 (x.ticks - 1) < 1) then
        { j with done := j.done ++ [{ x with ticks := x.interval }], pend := rest, cur := some x.ob, expect := .beat x.ob }
      else if rest.isEmpty || j.trunc then
        { j with done := j.done ++ [{ x with ticks := wrap16 (x.ticks - 1) }], pend := rest, expect := .endOfRound }
      else advance { j with done := j.done ++ [{ x with ticks := wrap16 (x.ticks - 1) }], pend := rest } := by
  unfold advance
  rw [hp]
  cases hf : (!j.nofn.contains x.ob && decide (wrap16 (x.ticks - 1) < 1)) with
  | true => simp only [advanceL, hf, if_true]
  | false =>
    cases hl : (rest.isEmpty || j.trunc) with
    | true => simp only [advanceL, hf, hl, if_true, Bool.false_eq_true, if_false]
    | false => simp only [advanceL, hf, hl, Bool.false_eq_true, if_false]

theorem advance_nil {j : JState} (hp : j.pend = []) : advance j = { j with expect := .endOfRound } := by
  unfold advance; rw [hp]; simp only [advanceL]

theorem judge1_tickBegin {j : JState} (hi : j.expect = .idle) : judge1 j .tickBegin = advance (jBegin j) :=
  if_neg (by rw [hi]; decide)

theorem judge1_tickEnd {j : JState} (he : j.expect = .endOfRound) : judge1 j .tickEnd = endRound j :=
  if_pos (by rw [he]; rfl)

theorem judge1_tickAbort {j : JState} (he : j.expect = .abort) : judge1 j .tickAbort = endRound j :=
  if_pos (by rw [he]; rfl)

theorem judge1_beat {j : JState} {o : Nat} (he : j.expect = .beat o) :
    judge1 j (.beat o) = { j with expect := .inBeat } :=
  if_pos (by rw [he]; exact beq_self_eq_true _)

/-- any other `beat` is a violation; the oracle goes on as if that heart_beat were running -/
theorem judge1_beat_refused {j : JState} {o : Nat} (h : j.expect ≠ .beat o) :
    ∃ v, judge1 j (.beat o) = ({ j with expect := .inBeat, cur := some o } : JState).flagV v :=
  ⟨_, if_neg (by rw [beq_iff_eq]; exact h)⟩

/-- the heart_beat that returns is the last of the round: the timer fired, or nothing is pending any more -/
theorem judge1_beatEnd_last {j : JState} {o : Nat} (he : j.expect = .inBeat) (hl : j.trunc = true ∨ j.pend = []) :
    judge1 j (.beatEnd o) = { j with expect := .endOfRound } := by
  unfold judge1; simp only [he, beq_self_eq_true, if_true]
  split
  · rfl
  · exact advance_nil (hl.resolve_left (by assumption))

theorem judge1_beatEnd_adv {j : JState} {o : Nat} (he : j.expect = .inBeat) (ht : j.trunc = false) :
    judge1 j (.beatEnd o) = advance j := by
  unfold judge1; simp only [he, ht, beq_self_eq_true, if_true, Bool.false_eq_true, if_false]

/-- a refusal is visible: the violation list has grown -/
theorem flagV_bad_ne {j j' : JState} {v : String} (hb : j'.bad = j.bad) : (j'.flagV v).bad ≠ j.bad := by
  unfold JState.flagV
  rw [hb]
  exact fun h => absurd (congrArg List.length h) (Nat.succ_ne_self _)

/-- an accepted event has passed every check in front of it -/
theorem accepted_ite {j r : JState} {c : Prop} [Decidable c] {v : String} (h : (if c then j.flagV v else r).bad = j.bad) :
    ¬ c ∧ r.bad = j.bad := by
  split at h
  · exact absurd h (flagV_bad_ne rfl)
  · exact ⟨‹_›, h⟩

/-- ending the round in any other state is a violation: a beat that was due is missing, or no round was to end -/
theorem judge1_tickEnd_refused {j : JState} (h : j.expect ≠ .endOfRound) :
    ∃ v, judge1 j .tickEnd = (endRound j).flagV v := by
  unfold judge1
  simp only
  rw [if_neg (by rw [beq_iff_eq]; exact h)]
  split <;> exact ⟨_, rfl⟩

/-- converse of `judge1_ctx`: an accepted `ctx` event reports the clean context -/
theorem judge1_ctx_accepted {j : JState} {o : Nat} {lv full : Bool} {tp : Option Nat}
    (h : (judge1 j (.ctx o lv tp full)).bad = j.bad) : tp = ctxGiver o lv ∧ full = true := by
  -- the clause checks, in this order: inside the heart_beat of o, this_player(), evaluation cost
  obtain ⟨_, h⟩ := accepted_ite h
  obtain ⟨htp, h⟩ := accepted_ite h
  obtain ⟨hfull, _⟩ := accepted_ite h
  exact ⟨by simpa using htp, by simpa using hfull⟩

/-- converse of `judge1_tickOff` -/
theorem judge1_tickOff_accepted {j : JState} (h : (judge1 j .tickOff).bad = j.bad) : j.expect = .idle := by
  simpa using (accepted_ite h).1

theorem jKill_frame (j : JState) (t : Nat) : Frame j (jKill j t) :=
  have hf := jDisable_frame j t
  ⟨hf.bad, hf.inRound, hf.expect, hf.pend⟩

theorem jBorn_frame (j : JState) (new k : Nat) : Frame j (jBorn j new k) :=
  have hf := jDisableAlive_frame j (if k = 0 then 0 else 1)
  ⟨hf.bad, hf.inRound, hf.expect, hf.pend⟩

theorem jErr1_frame (j : JState) : Frame j (jErr1 j) ∧ (jErr1 j).cur = none := by
  unfold jErr1
  cases hc : j.cur with
  | none => exact ⟨Frame.refl j, hc⟩
  | some c => have hf := jDisableAlive_frame j c; exact ⟨⟨hf.bad, hf.inRound, hf.expect, hf.pend⟩, rfl⟩

/-- what holds once an uncaught error raised in state `j` has gone through error_handler: the running object's heart
    beat is off, nobody is running any more, and a round (if there is one) is to be abandoned -/
def Aborted (w' : World) (j' j : JState) : Prop :=
  R0 w' j' ∧ j'.bad = j.bad ∧ j'.inRound = j.inRound ∧ j'.expect = (if j.inRound then .abort else j.expect) ∧
    j'.cur = none

theorem Aborted.r0 {w' : World} {j' j : JState} (h : Aborted w' j' j) : R0 w' j' := h.1
theorem Aborted.bad {w' : World} {j' j : JState} (h : Aborted w' j' j) : j'.bad = j.bad := h.2.1
theorem Aborted.inRound {w' : World} {j' j : JState} (h : Aborted w' j' j) : j'.inRound = j.inRound := h.2.2.1
theorem Aborted.expect {w' : World} {j' j : JState} (h : Aborted w' j' j) :
    j'.expect = (if j.inRound then .abort else j.expect) := h.2.2.2.1
theorem Aborted.cur {w' : World} {j' j : JState} (h : Aborted w' j' j) : j'.cur = none := h.2.2.2.2

theorem Aborted.of_frame {w' : World} {j j1 j2 : JState} (hf : Frame j j1) (h : Aborted w' j2 j1) : Aborted w' j2 j :=
  ⟨h.r0, h.bad.trans hf.bad, h.inRound.trans hf.inRound, by rw [h.expect, hf.inRound, hf.expect], h.cur⟩

theorem sim_errorHandler {w : World} {j : JState} (h : RP w j) : R0 (errorHandler w) (jErr1 j) := by
  rw [errorHandler_eq_ref]; unfold errorHandlerRef jErr1
  rw [← h.1.cur]
  cases w.cur with
  | none => exact h.1
  | some c =>
    exact (sim_disableAlive h c).1.setCur none

/-- error_handler from its first statement (restrict_destruct reset, then the switch-off): exactly the running object's
    heart beat is switched off -/
theorem sim_err {w : World} {j : JState} (h : RP w j) : Aborted (errorEntry w) (jErr j) j := by
  have h1 : R0 (errorEntry w) (jErr1 j) := sim_errorHandler (w := { w with restrict := none }) (h.of_seen rfl rfl rfl)
  obtain ⟨hf, hc⟩ := jErr1_frame j
  unfold jErr
  cases hr : j.inRound with
  | true =>
    rw [if_pos (hf.inRound.trans hr)]
    exact ⟨h1.of_seen rfl rfl, hf.bad, hf.inRound, by rw [hr]; rfl, hc⟩
  | false =>
    rw [if_neg (by rw [hf.inRound, hr]; decide)]
    exact ⟨h1, hf.bad, hf.inRound, by rw [hr]; exact hf.expect, hc⟩

/-- what `sim_stepOp` / `sim_runOps` conclude -/
def StepOK (w : World) (j : JState) (r : World × List Ev × Status) : Prop :=
  if r.2.2 = .err then
    R0 (errorEntry r.1) (r.2.1.foldl judge1 j) ∧ (r.2.1.foldl judge1 j).bad = j.bad ∧
      (r.2.1.foldl judge1 j).inRound = j.inRound ∧
      (r.2.1.foldl judge1 j).expect = (if j.inRound then .abort else j.expect) ∧
      (r.2.1.foldl judge1 j).cur = none
  else RP r.1 (r.2.1.foldl judge1 j) ∧ Frame j (r.2.1.foldl judge1 j)

theorem stepOK_err {w w' : World} {j : JState} {evs : List Ev} :
    StepOK w j (w', evs, .err) = Aborted (errorEntry w') (evs.foldl judge1 j) j := if_pos rfl

theorem stepOK_ok {w w' : World} {j : JState} {evs : List Ev} {st : Status} (hst : st ≠ .err) :
    StepOK w j (w', evs, st) = (RP w' (evs.foldl judge1 j) ∧ Frame j (evs.foldl judge1 j)) := if_neg hst

theorem stepOK_one {w w' : World} {j j' : JState} {e : Ev} {st : Status} (hst : st ≠ .err)
    (hj : judge1 j e = j') (h : RP w' j') (hf : Frame j j') : StepOK w j (w', [e], st) := by
  rw [stepOK_ok hst]; show RP w' (judge1 j e) ∧ Frame j (judge1 j e); rw [hj]; exact ⟨h, hf⟩

theorem stepOK_nil {w : World} {j : JState} {st : Status} (hst : st ≠ .err) (h : RP w j) : StepOK w j (w, [], st) := by
  rw [stepOK_ok hst]; exact ⟨h, Frame.refl j⟩

/-- an uncaught error raised by the operation itself -/
theorem stepOK_raise {w : World} {j : JState} {e : Ev} (hj : judge1 j e = jErr j) (h : RP w j) :
    StepOK w j (w, [e], .err) := by
  rw [stepOK_err]; show Aborted _ (judge1 j e) j; rw [hj]; exact sim_err h

theorem opAllowed_frame {j j' : JState} (hf : Frame j j') (ha : opAllowed j = true) : opAllowed j' = true := by
  unfold opAllowed at *; rw [hf.expect]; exact ha

/-- sequencing: a step that did not raise an error, then whatever follows it in the state it left -/
theorem StepOK.seq {w w1 : World} {j : JState} {evs : List Ev} {st1 : Status} (h1 : StepOK w j (w1, evs, st1))
    (hst : st1 ≠ .err) (ha : opAllowed j = true) {r : World × List Ev × Status}
    (h2 : RP w1 (evs.foldl judge1 j) → opAllowed (evs.foldl judge1 j) = true → StepOK w1 (evs.foldl judge1 j) r) :
    StepOK w j (r.1, evs ++ r.2.1, r.2.2) := by
  rw [stepOK_ok hst] at h1
  have h2 := h2 h1.1 (opAllowed_frame h1.2 ha)
  unfold StepOK at h2 ⊢
  simp only [List.foldl_append]
  split
  · rename_i he; rw [if_pos he] at h2; exact Aborted.of_frame h1.2 h2
  · rename_i he; rw [if_neg he] at h2; exact ⟨h2.1, h1.2.trans h2.2⟩

/-- destruct of an object without inventory: set_heart_beat (ob, 0) then O_DESTRUCTED -/
theorem sim_destLeaf {w : World} {j : JState} (h : RP w j) (t : Nat) (hat : w.alive t = true) :
    RP (destructLeaf w t) (jKill j t) := by
  have hs := sim_disable h t (alive_not_dead hat)
  have hdead : (jDisable j t).dead = j.dead := (congrArg JState.dead (jDisable_lists j t) :)
  have hknown : w.known.contains t = true := by
    unfold World.alive at hat; simp only [Bool.and_eq_true] at hat; exact hat.1
  rw [destructLeaf_ref]
  unfold jKill
  refine ⟨⟨hs.1.hbs, hs.1.known, hs.1.nofn, ?_, hs.1.flag, hs.1.cur, hs.1.ok, hs.1.cap, ?_⟩, hs.2⟩
  · show t :: (setHeartBeat w t 0).dead = t :: j.dead
    rw [hs.1.dead, hdead]
  · intro x hx
    show (setHeartBeat w t 0).known.contains x = true
    have hx' : (t :: (setHeartBeat w t 0).dead).contains x = true := hx
    simp only [List.contains_cons, Bool.or_eq_true, beq_iff_eq] at hx'
    rcases hx' with hx' | hx'
    · subst hx'; rw [hs.1.known, (congrArg JState.known (jDisable_lists j x) :), ← h.1.known]; exact hknown
    · exact hs.1.sub x hx'

/-- reload_object: O_ENABLE_COMMANDS and the variables are cleared, the heart beat is switched off, create() enables it
    again: for the heart-beat list this is "disable, then set_heart_beat(n)" -/
theorem sim_reload {w : World} {j : JState} (h : RP w j) (t : Nat) (n : Int) (hat : w.alive t = true)
    (lv : List Nat) (nb : Nat → Nat) (co : List (Nat × List Op)) :
    RP (setHeartBeat (setHeartBeat { w with living := lv, nb := nb, co := co } t 0) t (satEfun n)) (jSet (jDisable j t) t n) := by
  have hs1 := sim_disable (w := { w with living := lv, nb := nb, co := co }) (h.of_seen rfl rfl rfl) t (alive_not_dead hat)
  refine sim_set hs1 t n ?_
  rw [hs1.1.dead, (congrArg JState.dead (jDisable_lists j t) :), ← h.1.dead]; exact alive_not_dead hat

/-- `!alive t || t < 2` in the model is the negation of the oracle's `alive t && !(t < 2)` -/
theorem untouchable_iff {w : World} {j : JState} (h : R0 w j) (t : Nat) :
    (j.alive t && !decide (t < 2)) = !(!w.alive t || decide (t < 2)) := by
  rw [alive_eq h]; cases j.alive t <;> cases decide (t < 2) <;> rfl

theorem sim_shb {w : World} {j : JState} (h : RP w j) (ha : opAllowed j = true) (self t : Nat) (n : Int) :
    StepOK w j (stepOpBasic w self (.shb t n)) := by
  have hal := alive_eq h.1 t
  cases hat : w.alive t with
  | false =>
    rw [stepOpBasic_shb_dead hat]
    exact stepOK_one (by decide) (judge1_shbDead (hal ▸ hat)) h (Frame.refl j)
  | true =>
    have hs := sim_set h t n (alive_not_dead hat)
    rw [stepOpBasic_shb hat, query_eq hs.1 t]
    exact stepOK_one (by decide) (judge1_shb ha n (hal ▸ hat)) hs (jSet_frame j t n)

theorem sim_q {w : World} {j : JState} (h : RP w j) (self t : Nat) : StepOK w j (stepOpBasic w self (.q t)) := by
  have hal := alive_eq h.1 t
  cases hat : w.alive t with
  | false =>
    rw [stepOpBasic_q_dead hat]
    exact stepOK_one (by decide) (judge1_queryDead (hal ▸ hat)) h (Frame.refl j)
  | true =>
    rw [stepOpBasic_q hat, query_eq h.1 t]
    exact stepOK_one (by decide) (judge1_query (hal ▸ hat)) h (Frame.refl j)

/-- destruct / reload_object of something that is gone, unknown or a blueprint is refused, in the model and by the oracle -/
theorem sim_refused {w : World} {j : JState} (h : RP w j) {t : Nat} (hc : (!w.alive t || decide (t < 2)) = true)
    {e : Ev} {v : String} (hj : judge1 j e = if (j.alive t && !decide (t < 2)) = true then j.flagV v else j) {st : Status}
    (hst : st ≠ .err) : StepOK w j (w, [e], st) := by
  refine stepOK_one hst ?_ h (Frame.refl j)
  rw [hj, untouchable_iff h.1, hc]; rfl

theorem sim_dest {w : World} {j : JState} (h : RP w j) (ha : opAllowed j = true) (self t : Nat) :
    StepOK w j (stepOpBasic w self (.dest t)) := by
  by_cases hc : (!w.alive t || decide (t < 2)) = true
  · rw [stepOpBasic_dest_none hc]
    exact sim_refused h hc rfl (by decide)
  · by_cases hrs : restricted w t = true
    · rw [stepOpBasic_dest_restricted hc hrs]
      exact stepOK_raise (judge1_errR j) h
    rw [stepOpBasic_dest hc hrs]
    simp only [Bool.not_eq_true, Bool.or_eq_false_iff, Bool.not_eq_false'] at hc
    exact stepOK_one (by split <;> decide) (judge1_dest ha (alive_eq h.1 t ▸ hc.1) hc.2) (sim_destLeaf h t hc.1)
      (jKill_frame j t)

/-- a new object appears on both sides (clone_object, before create() runs); `f` = what happens to the list of objects
    without heart_beat function -/
theorem RP.born {w : World} {j : JState} (h : RP w j) (new : Nat) (f : List Nat → List Nat) :
    RP { w with known := new :: w.known, nofn := f w.nofn } { j with known := new :: j.known, nofn := f j.nofn } := by
  refine ⟨⟨h.1.hbs, congrArg (new :: ·) h.1.known, congrArg f h.1.nofn, h.1.dead, h.1.flag, h.1.cur, h.1.ok, h.1.cap, ?_⟩,
    h.2⟩
  intro x hx
  show (new :: w.known).contains x = true
  rw [List.contains_cons, h.1.sub x hx, Bool.or_true]

/-- clone_object of blueprint `kind`: its heart beat is switched off, the clone `new` appears, its create() runs -/
theorem sim_cloneCore {w : World} {j : JState} (h : RP w j) (kind new : Nat) (n : Int)
    (hk : w.known.contains new = false) :
    RP (setHeartBeat { setHeartBeat w (if kind = 0 then 0 else 1) 0 with
          known := new :: (setHeartBeat w (if kind = 0 then 0 else 1) 0).known,
          nofn := if kind = 0 then (setHeartBeat w (if kind = 0 then 0 else 1) 0).nofn
                  else new :: (setHeartBeat w (if kind = 0 then 0 else 1) 0).nofn } new (satEfun n))
       (jSet (jBorn j new (if kind = 0 then 0 else 1)) new n) := by
  have h1 := sim_disableAlive h (if kind = 0 then 0 else 1)
  have hnd : (setHeartBeat w (if kind = 0 then 0 else 1) 0).dead.contains new = false := by
    cases hx : (setHeartBeat w (if kind = 0 then 0 else 1) 0).dead.contains new with
    | false => rfl
    | true =>
      have := h1.1.sub new hx
      rw [h1.1.known, (congrArg JState.known (jDisableAlive_lists j _) :), ← h.1.known, hk] at this; cases this
  by_cases hkd : kind = 0
  · simp only [hkd, if_true] at h1 hnd ⊢
    exact sim_set (h1.born new fun l => l) new n hnd
  · simp only [hkd, if_false] at h1 hnd ⊢
    exact sim_set (h1.born new fun l => new :: l) new n hnd

theorem sim_clone {w : World} {j : JState} (h : RP w j) (ha : opAllowed j = true) (self new kind : Nat) (n : Int) :
    StepOK w j (stepOpBasic w self (.clone new kind n)) := by
  cases hk : w.known.contains new with
  | true =>
    rw [stepOpBasic_clone_dup hk]
    exact stepOK_one (by decide) (judge1_cloneDup (h.1.known ▸ hk)) h (Frame.refl j)
  | false =>
    have h3 := sim_cloneCore h kind new n hk
    unfold stepOpBasic
    simp only [hk, Bool.false_eq_true, if_false, gen_efunSat_eq, query_eq h3.1 new]
    exact stepOK_one (by decide) (judge1_clone ha n (h.1.known ▸ hk)) h3
      ((jBorn_frame j new _).trans (jSet_frame _ new n))

/-- set_heart_beat(n) by the running object itself - possibly after it destructed itself, when the O_DESTRUCTED test
    makes it a no-op -/
theorem sim_zshb {w : World} {j : JState} (h : RP w j) (ha : opAllowed j = true) (self : Nat) (n : Int) :
    StepOK w j (stepOpBasic w self (.zshb n)) := by
  cases hk : w.known.contains self with
  | false =>
    have hjk : j.alive self = false := by unfold JState.alive; rw [← h.1.known, hk]; rfl
    rw [stepOpBasic_zshb_unknown hk]
    exact stepOK_one (by decide) (judge1_zshb_dead ha n hjk) h (Frame.refl j)
  | true =>
    rw [stepOpBasic_zshb hk]
    cases hd : w.dead.contains self with
    | true =>
      have hjk : j.alive self = false := by unfold JState.alive; rw [← h.1.dead, hd, Bool.not_true, Bool.and_false]
      rw [destructed_never_enabled w self _ hd]
      exact stepOK_one (by decide) (judge1_zshb_dead ha n hjk) h (Frame.refl j)
    | false =>
      have hjk : j.alive self = true := by unfold JState.alive; rw [← h.1.known, ← h.1.dead, hk, hd]; rfl
      exact stepOK_one (by decide) (judge1_zshb ha n hjk) (sim_set h self n hd) (jSet_frame j self n)

theorem sim_reloadOp {w : World} {j : JState} (h : RP w j) (ha : opAllowed j = true) (self t : Nat) (n : Int) :
    StepOK w j (stepOpBasic w self (.reload t n)) := by
  by_cases hc : (!w.alive t || decide (t < 2)) = true
  · rw [stepOpBasic_reload_none hc]
    exact sim_refused h hc rfl (by decide)
  · unfold stepOpBasic
    simp only [gen_efunSat_eq]; rw [if_neg hc]
    simp only [Bool.not_eq_true, Bool.or_eq_false_iff, Bool.not_eq_false'] at hc
    have hs2 := sim_reload h t n hc.1 (w.living.filter (fun x => x != t)) (fun o => if o = t then 0 else w.nb o)
      (w.co.filter (fun c => c.1 != t))
    rw [query_eq hs2.1 t]
    exact stepOK_one (by decide) (judge1_reload ha n (alive_eq h.1 t ▸ hc.1) hc.2) hs2
      ((jDisable_frame j t).trans (jSet_frame (jDisable j t) t n))

theorem sim_stepOpBasic {w : World} {j : JState} (h : RP w j) (ha : opAllowed j = true) (self : Nat) (op : Op) :
    StepOK w j (stepOpBasic w self op) := by
  cases op with
  | shb t n => exact sim_shb h ha self t n
  | q t => exact sim_q h self t
  | dest t => exact sim_dest h ha self t
  | clone new kind n => exact sim_clone h ha self new kind n
  | err => exact stepOK_raise (judge1_err j self) h
  | flag =>
    -- heartbeat_timer_callback sets the flag whatever it was: `gen_timerSetsFlag_eq`
    have hst : stepOpBasic w self .flag = ({ w with flag := true }, [.flag self], .ok) := by
      unfold stepOpBasic; simp only [gen_timerSetsFlag_eq]; rfl
    rw [hst]
    exact stepOK_one (by decide) rfl ⟨h.1.setFlag true, h.2⟩ ⟨rfl, rfl, rfl, Nat.le_refl _⟩
  | hbs =>
    unfold stepOpBasic
    simp only [h.1.all]
    exact stepOK_one (by decide) (judge1_hbs j self) h (Frame.refl j)
  | take i =>
    unfold stepOpBasic
    simp only
    split
    · exact stepOK_one (by decide) rfl (h.of_seen rfl rfl rfl) (Frame.refl j)
    · exact stepOK_one (by decide) rfl h (Frame.refl j)
  | zshb n => exact sim_zshb h ha self n
  | mv x =>
    unfold stepOpBasic
    simp only
    split
    · exact stepOK_one (by decide) rfl (h.of_seen rfl rfl rfl) (Frame.refl j)
    · exact stepOK_one (by decide) rfl h (Frame.refl j)
  | cerr => exact stepOK_one (by decide) rfl h (Frame.refl j)
  | reload t n => exact sim_reloadOp h ha self t n
  | living => exact stepOK_one (by decide) rfl (h.of_seen rfl rfl rfl) (Frame.refl j)
  | burn => exact stepOK_one (by decide) rfl (h.of_seen rfl rfl rfl) (Frame.refl j)
  | rp =>
    unfold stepOpBasic
    simp only
    split
    · exact stepOK_one (by decide) rfl h (Frame.refl j)
    · exact stepOK_one (by decide) rfl (h.of_seen rfl rfl rfl) (Frame.refl j)

theorem sim_runOpsBasic (self : Nat) : ∀ (ops : List Op) (w : World) (j : JState), RP w j → opAllowed j = true →
    StepOK w j (runOpsBasic w self ops) := by
  intro ops
  induction ops with
  | nil => intro w j h _; exact stepOK_nil (by decide) h
  | cons op rest ih =>
    intro w j h ha
    have h1 := sim_stepOpBasic h ha self op
    rcases hs : stepOpBasic w self op with ⟨w1, evs, st⟩
    rw [hs] at h1
    simp only [runOpsBasic, hs]
    cases st with
    | ok => exact h1.seq (by decide) ha (ih w1 _)
    | err => exact h1
    | stop => exact h1

/-- what the inventory loop of destruct_object maintains: the same as one operation (`.err` = a hook raised an error) -/
def HooksOK (j : JState) (r : World × List Ev × Status) : Prop := StepOK r.1 j r

/-- the three ways move_or_destruct() of item `i` can end without an error: the item is gone, it is still in the
    carrier (the driver destructs it), it has moved away; `pre` = the events up to there -/
theorem sim_hookEnd {w w1 : World} {j : JState} {pre : List Ev} {st : Status} (hst : st ≠ .err)
    (hp : StepOK w j (w1, pre, st)) (ha : opAllowed j = true) (i : Nat) (items : List Nat) :
    StepOK w j
      (if !w1.alive i then ({ w1 with restrict := none }, pre ++ [.hookGone i], Status.ok)
       else if items.contains i then (destructLeaf { w1 with restrict := none } i, pre ++ [.hookEnd i], Status.ok)
       else ({ w1 with restrict := none }, pre ++ [.hookMoved i], Status.ok)) := by
  cases hat : w1.alive i with
  | false =>
    rw [if_pos (by rfl)]
    exact hp.seq hst ha (r := (_, [_], _)) fun hR ha' =>
      stepOK_one (by decide) (judge1_hookGone (alive_eq hR.1 i ▸ hat)) (hR.of_seen rfl rfl rfl) (Frame.refl _)
  | true =>
    rw [if_neg (by decide)]
    split
    · exact hp.seq hst ha (r := (_, [_], _)) fun hR ha' =>
        stepOK_one (by decide) (judge1_hookEnd ha' (alive_eq hR.1 i ▸ hat))
          (sim_destLeaf (w := { w1 with restrict := none }) (hR.of_seen rfl rfl rfl) i hat) (jKill_frame _ i)
    · exact hp.seq hst ha (r := (_, [_], _)) fun hR ha' =>
        stepOK_one (by decide) (judge1_hookMoved (alive_eq hR.1 i ▸ hat)) (hR.of_seen rfl rfl rfl) (Frame.refl _)

/-- move_or_destruct() of item `i` up to the end of its script: the event `hook i carrier` (the oracle only checks that an
    operation may happen here), then the script, run under restrict_destruct = i -/
theorem sim_hookScript {w : World} {j : JState} (h : RP w j) (ha : opAllowed j = true) (i carrier : Nat) (ops : List Op) :
    StepOK w j ((runOpsBasic { w with restrict := some i } i ops).1,
      .hook i carrier :: (runOpsBasic { w with restrict := some i } i ops).2.1,
      (runOpsBasic { w with restrict := some i } i ops).2.2) :=
  (stepOK_one (w := w) (w' := { w with restrict := some i }) (e := .hook i carrier) (st := .ok) (by decide)
    (judge1_hook ha) (h.of_seen rfl rfl rfl) (Frame.refl _)).seq (by decide) ha (sim_runOpsBasic i ops _ _)

theorem sim_hookStep {j : JState} (ha : opAllowed j = true) (carrier : Nat) (acc : World × List Ev × Status)
    (h : HooksOK j acc) (i : Nat) : HooksOK j (hookStep carrier acc i) := by
  unfold hookStep
  split
  · exact h
  rename_i hst
  split
  · exact h
  rcases acc with ⟨w0, e0, st0⟩
  have hok : st0 = .ok := by cases st0 <;> first | rfl | exact absurd rfl hst
  subst hok
  unfold HooksOK at h ⊢
  rcases hr : runOpsBasic { w0 with restrict := some i } i ((w0.hooks i).filter hookAllowed) with ⟨w1, e1, st⟩
  -- the events so far, then `hook i carrier` and the item's script
  have hp : StepOK w0 j (w1, e0 ++ .hook i carrier :: e1, st) :=
    h.seq (by decide) ha (r := (w1, .hook i carrier :: e1, st)) fun hR ha0 => by
      have hs := sim_hookScript hR ha0 i carrier ((w0.hooks i).filter hookAllowed)
      rw [hr] at hs; exact hs
  cases st with
  | err => exact hp
  | ok => exact sim_hookEnd (by decide) hp ha i _
  | stop => exact sim_hookEnd (by decide) hp ha i _

theorem sim_hooksPhase {w : World} {j : JState} (h : RP w j) (ha : opAllowed j = true) (t : Nat) :
    HooksOK j (hooksPhase w t) :=
  List.foldlRecOn _ _ (stepOK_nil (by decide) h) fun acc hacc i _ => sim_hookStep ha t acc hacc i

theorem okStop_ne_err (b : Bool) : (if b = true then Status.ok else Status.stop) ≠ .err := by
  cases b <;> decide

/-- every operation, destruct with its inventory hooks (and an error raised by one of them) included -/
theorem sim_stepOp {w : World} {j : JState} (h : RP w j) (ha : opAllowed j = true) (self : Nat) (op : Op) :
    StepOK w j (stepOp w self op) := by
  cases op with
  | dest t =>
    simp only [stepOp]
    by_cases hc : (!w.alive t || decide (t < 2)) = true
    · rw [if_pos hc]; exact sim_refused h hc rfl (by decide)
    rw [if_neg hc]
    by_cases hrs : restricted w t = true
    · rw [if_pos hrs]; exact stepOK_raise (judge1_errR j) h
    rw [if_neg hrs, destructFull_ref]
    simp only [Bool.not_eq_true, Bool.or_eq_false_iff, Bool.not_eq_false'] at hc
    have hH := sim_hooksPhase h ha t
    unfold HooksOK at hH
    rcases hh : hooksPhase w t with ⟨w1, e1, st1⟩
    rw [hh] at hH
    by_cases he : st1 = .err
    · subst he; exact hH
    simp only [he, if_false]
    cases hat : w1.alive t with
    | true =>
      exact hH.seq he ha (r := (_, [_], _)) fun hR ha1 =>
        stepOK_one (okStop_ne_err _) (judge1_dest ha1 (alive_eq hR.1 t ▸ hat) hc.2) (sim_destLeaf hR t hat) (jKill_frame _ t)
    | false =>
      exact hH.seq he ha (r := (_, [_], _)) fun hR _ =>
        stepOK_one (okStop_ne_err _) (judge1_destGone (alive_eq hR.1 t ▸ hat)) hR (Frame.refl _)
  | _ => exact sim_stepOpBasic h ha self _

theorem stepOpBasic_zshb_ok (w : World) (self : Nat) (n : Int) : (stepOpBasic w self (.zshb n)).2.2 = .ok := by
  cases hk : w.known.contains self with
  | false => rw [stepOpBasic_zshb_unknown hk]
  | true => rw [stepOpBasic_zshb hk]

/-- the rest of a script after the object destructed itself -/
theorem sim_runDead (self : Nat) : ∀ (ops : List Op) (w : World) (j : JState), RP w j → opAllowed j = true →
    StepOK w j (runDead w self ops) := by
  intro ops
  induction ops with
  | nil => intro w j h _; exact stepOK_nil (by decide) h
  | cons op rest ih =>
    intro w j h ha
    cases op with
    | zshb n =>
      have h1 := sim_stepOpBasic h ha self (.zshb n)
      have hok := stepOpBasic_zshb_ok w self n
      rcases hs : stepOpBasic w self (.zshb n) with ⟨w1, evs, st⟩
      rw [hs] at h1 hok
      simp only [runDead, hs]
      exact h1.seq (by rw [show st = .ok from hok]; decide) ha (ih w1 _)
    | err => exact stepOK_raise (judge1_err j self) h
    | _ => exact stepOK_nil (by decide) h

theorem sim_runOps (self : Nat) : ∀ (ops : List Op) (w : World) (j : JState), RP w j → opAllowed j = true →
    StepOK w j (runOps w self ops) := by
  intro ops
  induction ops with
  | nil => intro w j h _; exact stepOK_nil (by decide) h
  | cons op rest ih =>
    intro w j h ha
    have h1 := sim_stepOp h ha self op
    rcases hs : stepOp w self op with ⟨w1, evs, st⟩
    rw [hs] at h1
    simp only [runOps, hs]
    cases st with
    | ok => exact h1.seq (by decide) ha (ih w1 _)
    | err => exact h1
    | stop => exact h1.seq (by decide) ha (sim_runDead self rest w1 _)

/-- the round is over and the oracle accepted everything -/
def Done (w' : World) (j' j : JState) : Prop :=
  R0 w' j' ∧ j'.bad = j.bad ∧ j'.inRound = false ∧ j'.expect = .idle

theorem Done.r0 {w' : World} {j' j : JState} (h : Done w' j' j) : R0 w' j' := h.1
theorem Done.bad {w' : World} {j' j : JState} (h : Done w' j' j) : j'.bad = j.bad := h.2.1
theorem Done.inRound {w' : World} {j' j : JState} (h : Done w' j' j) : j'.inRound = false := h.2.2.1
theorem Done.expect {w' : World} {j' j : JState} (h : Done w' j' j) : j'.expect = .idle := h.2.2.2

theorem Done.of_bad {w' : World} {j' j1 j : JState} (h : Done w' j' j1) (hb : j1.bad = j.bad) : Done w' j' j :=
  ⟨h.r0, h.bad.trans hb, h.inRound, h.expect⟩

/-- the end of a round on the oracle's side (everything becomes `done`) leaves the array as it is; nobody is running -/
theorem R0.endRound {w : World} {j : JState} (h : R0 w j) : R0 { w with cur := none } (endRound j) :=
  ⟨h.hbs.trans (endRound_all j).symm, h.known, h.nofn, h.dead, h.flag, rfl, h.ok, h.cap, h.sub⟩

/-- heart_beat_flag is cleared at the entry of a round; for the oracle everything is pending -/
theorem R0.begin {w : World} {j : JState} (h : R0 w j) : R0 { w with flag := false } (jBegin j) :=
  ⟨h.hbs.trans (jBegin_all j).symm, h.known, h.nofn, h.dead, rfl, h.cur, h.ok, h.cap, h.sub⟩

theorem done_end {w : World} {j : JState} (h0 : R0 w j) (he : j.expect = .endOfRound) :
    Done (finish w) (judge1 j .tickEnd) j := by
  rw [judge1_tickEnd he, finish_ref]
  exact ⟨h0.endRound.of_seen rfl rfl, rfl, rfl, rfl⟩

theorem done_abort {w : World} {j : JState} (h0 : R0 w j) (he : j.expect = .abort) (hc : j.cur = none) :
    Done w (judge1 j .tickAbort) j := by
  rw [judge1_tickAbort he]
  exact ⟨h0.endRound.of_seen (by unfold World.seen; rw [h0.cur.trans hc]) rfl, rfl, rfl, rfl⟩

/-- the entry under the cursor at the head of the loop is the first pending one -/
theorem head_entry {w : World} {j : JState} {x : Entry} {rest : List Entry} (h0 : R0 w j)
    (hidx : w.idx = (j.done.length : Int)) (hp : j.pend = x :: rest) :
    w.idx.toNat = j.done.length ∧ ¬ w.idx < 0 ∧ w.hbs[w.idx.toNat]? = some x := by
  have hn : w.idx.toNat = j.done.length := by omega
  refine ⟨hn, by omega, ?_⟩
  rw [hn, h0.hbs, hp, List.append_assoc]; exact get_mid _ _ _

/-- the entry under the cursor is served: rewritten in place in the array, moved from `pend` to `done` by the oracle -/
theorem R0.served {w : World} {j : JState} {x : Entry} {rest : List Entry} (h0 : R0 w j) (hp : j.pend = x :: rest)
    (hn : w.idx.toNat = j.done.length) (y : Entry) :
    R0 { w with hbs := w.hbs.set w.idx.toNat y } { j with done := j.done ++ [y], pend := rest } := by
  refine ⟨?_, h0.known, h0.nofn, h0.dead, h0.flag, h0.cur, h0.ok, ?_, h0.sub⟩
  · show w.hbs.set w.idx.toNat y = j.done ++ [y] ++ rest ++ j.late
    rw [hn, h0.hbs, hp]; simp only [List.append_assoc, List.cons_append, List.nil_append, set_mid]
  · show (w.hbs.set w.idx.toNat y).length ≤ w.cap
    rw [List.length_set]; exact h0.cap

/-- `if (++heart_beat_index == num_hb_to_do) break;` and the while condition, read on the oracle's lists: the round goes
    on iff something is pending and the timer has not fired -/
theorem exit_iff {w : World} {j : JState} (hf : w.flag = j.trunc) (hi : w.idx + 1 = (j.done.length : Int))
    (ht : w.todo = (j.done.length : Int) + (j.pend.length : Int)) :
    (decide (w.idx + 1 = w.todo) || w.flag) = (j.pend.isEmpty || j.trunc) := by
  rw [hf]
  cases hp : j.pend with
  | nil => rw [hp, List.length_nil] at ht; rw [decide_eq_true (by omega)]; rfl
  | cons a l => rw [hp, List.length_cons] at ht; rw [decide_eq_false (by omega)]; rfl

/-- the while loop of call_heart_beat against the oracle's `advance`: at the loop head heart_beat_index is the
    number of entries already served and num_hb_to_do - heart_beat_index the number still to serve -/
theorem sim_roundRef (sc : Scripts) : ∀ (fuel : Nat) (w : World) (j : JState),
    R0 w j → j.inRound = true → w.idx = (j.done.length : Int) →
    w.todo = (j.done.length : Int) + (j.pend.length : Int) → j.pend ≠ [] → j.pend.length ≤ fuel →
    Done (roundRef sc fuel w).1 ((roundRef sc fuel w).2.foldl judge1 (advance j)) j := by
  intro fuel
  induction fuel with
  | zero =>
    intro w j _ _ _ _ hne hle
    exact absurd (List.eq_nil_of_length_eq_zero (Nat.le_zero.mp hle)) hne
  | succ fuel ih =>
    intro w j h0 hin hidx htodo hne hle
    obtain ⟨x, rest, hp⟩ := List.exists_cons_of_ne_nil hne
    obtain ⟨hn, hneg, hget⟩ := head_entry h0 hidx hp
    have hlen : j.pend.length = rest.length + 1 := by rw [hp]; rfl
    unfold roundRef
    simp only [hneg, if_false, hget]
    cases hfw : (!w.nofn.contains x.ob && decide (wrap16 (x.ticks - 1) < 1)) with
    | false =>
      have hf := h0.nofn ▸ hfw
      -- the entry is counted down without a beat
      have hR1 := (h0.served hp hn { x with ticks := wrap16 (x.ticks - 1) }).of_seen
        (w' := { w with hbs := w.hbs.set w.idx.toNat { x with ticks := wrap16 (x.ticks - 1) }, idx := w.idx + 1 }) rfl rfl
      have hi1 : w.idx + 1 = ((j.done ++ [{ x with ticks := wrap16 (x.ticks - 1) }]).length : Int) := by
        rw [List.length_append, List.length_singleton]; omega
      have ht1 : w.todo = ((j.done ++ [{ x with ticks := wrap16 (x.ticks - 1) }]).length : Int) + (rest.length : Int) := by
        rw [List.length_append, List.length_singleton]; omega
      have hexit := exit_iff (j := { j with done := j.done ++ [{ x with ticks := wrap16 (x.ticks - 1) }], pend := rest })
        h0.flag hi1 ht1
      cases hl : (rest.isEmpty || j.trunc) with
      | true =>
        rw [advance_cons hp, hf, hl]
        simp only [Bool.false_eq_true, if_false, hexit, hl, if_true, List.foldl_cons, List.foldl_nil]
        exact done_end (hR1.of_seen rfl rfl) rfl
      | false =>
        rw [advance_cons hp, hf, hl]
        simp only [Bool.false_eq_true, if_false, hexit, hl]
        refine ih _ _ hR1 hin hi1 ht1 ?_ (by show rest.length ≤ fuel; omega)
        intro (hnil : rest = []); rw [hnil] at hl; cases hl
    | true =>
      -- the entry beats: the states in which its heart_beat function is entered
      have hf := h0.nofn ▸ hfw
      simp only [if_true]
      -- `w1`: the world in which the heart_beat of x is entered (entry restarted, call frame set up, beat counted).  It gets
      -- a name only so that `hR2`, `hops`, `hr` and the goal speak of one variable; nothing below looks inside it but `hR2`
      generalize hw1 : ({ w with
        hbs := w.hbs.set w.idx.toNat { x with ticks := x.interval }, cur := some x.ob,
        cg := if w.living.contains x.ob then some x.ob else none, ec := true,
        nb := fun o => if o = x.ob then w.nb o + 1 else w.nb o } : World) = w1
      let j2 : JState := { j with done := j.done ++ [{ x with ticks := x.interval }], pend := rest, cur := some x.ob, expect := .inBeat }
      have hR2 : RP w1 j2 := by
        have hs := h0.served hp hn { x with ticks := x.interval }
        subst hw1
        refine ⟨(hs.setCur (some x.ob)).of_seen rfl rfl, fun _ => ⟨?_, ?_⟩⟩
        · show w.idx + 1 = ((j.done ++ [{ x with ticks := x.interval }]).length : Int)
          rw [List.length_append, List.length_singleton]; omega
        · show w.todo = ((j.done ++ [{ x with ticks := x.interval }]).length : Int) + (rest.length : Int)
          rw [List.length_append, List.length_singleton]; omega
      have hj2 : judge1 (advance j) (.beat x.ob) = j2 := by rw [advance_cons hp, hf, if_pos rfl, judge1_beat rfl]
      have hjc : judge1 j2 (.ctx x.ob (w.living.contains x.ob) (if w.living.contains x.ob then some x.ob else none) true) = j2 :=
        judge1_ctx rfl rfl _
      have hops := sim_runOps x.ob (sc x.ob (w.nb x.ob)) w1 j2 hR2 rfl
      rcases hr : runOps w1 x.ob (sc x.ob (w.nb x.ob)) with ⟨w2, evs, st⟩
      rw [hr] at hops
      cases st with
      | err =>
        -- error in the heart_beat: that object is switched off, the round is abandoned
        rw [stepOK_err] at hops
        simp only [List.foldl_cons, List.foldl_append, List.foldl_nil, hj2, hjc]
        exact (done_abort (hops.r0.of_seen (w' := { errorEntry w2 with cg := none }) rfl rfl)
          (by rw [hops.expect]; simp [j2, hin]) hops.cur).of_bad (j := j) hops.bad
      | _ =>
        rw [stepOK_ok (by decide)] at hops
        obtain ⟨hR3, hF3⟩ := hops
        generalize hj3 : evs.foldl judge1 j2 = j3 at hR3 hF3
        have hin3 : j3.inRound = true := hF3.inRound.trans hin
        obtain ⟨p1, p2⟩ := hR3.2 hin3
        have hR03 : R0 { w2 with cg := none, idx := w2.idx + 1 } j3 := hR3.1.of_seen rfl rfl
        have hexit := exit_iff hR3.1.flag p1 p2
        cases hl : (j3.pend.isEmpty || j3.trunc) with
        | true =>
          simp only [hexit, hl, if_true, List.foldl_cons, List.foldl_append, List.foldl_nil, hj2, hjc, hj3]
          rw [judge1_beatEnd_last hF3.expect (by
            cases htr : j3.trunc with
            | true => exact .inl rfl
            | false => rw [htr, Bool.or_false, List.isEmpty_iff] at hl; exact .inr hl)]
          exact (done_end (j := { j3 with expect := .endOfRound }) (hR03.of_seen rfl rfl) rfl).of_bad (j := j) hF3.bad
        | false =>
          simp only [hexit, hl, Bool.false_eq_true, if_false, List.foldl_cons, List.foldl_append, hj2, hjc, hj3]
          rw [Bool.or_eq_false_iff] at hl
          rw [judge1_beatEnd_adv hF3.expect hl.2]
          refine (ih _ j3 hR03 hin3 (by show w2.idx + 1 = _; omega) (by show w2.todo = _; omega) ?_ ?_).of_bad (j := j) hF3.bad
          · intro hnil; rw [hnil] at hl; exact absurd hl.1 (by decide)
          · have := hF3.pend; have h2 : j2.pend.length = rest.length := rfl; omega

theorem sim_round (sc : Scripts) (fuel : Nat) (w : World) (j : JState)
    (h0 : R0 w j) (hin : j.inRound = true) (hidx : w.idx = (j.done.length : Int))
    (htodo : w.todo = (j.done.length : Int) + (j.pend.length : Int)) (hne : j.pend ≠ []) (hle : j.pend.length ≤ fuel) :
    Done (round sc fuel w).1 ((round sc fuel w).2.foldl judge1 (advance j)) j := by
  rw [round_eq_ref]; exact sim_roundRef sc fuel w j h0 hin hidx htodo hne hle

/-- invariant between top-level commands -/
def Idle (w : World) (j : JState) : Prop :=
  R0 w j ∧ j.inRound = false ∧ j.expect = .idle ∧ j.bad = []

theorem Idle.r0 {w : World} {j : JState} (h : Idle w j) : R0 w j := h.1
theorem Idle.inRound {w : World} {j : JState} (h : Idle w j) : j.inRound = false := h.2.1
theorem Idle.expect {w : World} {j : JState} (h : Idle w j) : j.expect = .idle := h.2.2.1
theorem Idle.bad {w : World} {j : JState} (h : Idle w j) : j.bad = [] := h.2.2.2

theorem Idle.of_seen {w w' : World} {j : JState} (h : Idle w j) (e : w'.seen = w.seen) : Idle w' j :=
  ⟨h.r0.of_seen e rfl, h.2⟩

theorem Idle.rp {w : World} {j : JState} (h : Idle w j) : RP w j := ⟨h.r0, fun hr => by rw [h.inRound] at hr; cases hr⟩

theorem Idle.allowed {w : World} {j : JState} (h : Idle w j) : opAllowed j = true := by
  unfold opAllowed; rw [h.expect]; rfl

theorem Done.idle {w' : World} {j' j : JState} (h : Done w' j' j) (hb : j.bad = []) : Idle w' j' :=
  ⟨h.r0, h.inRound, h.expect, h.bad.trans hb⟩

/-- between rounds an uncaught error switches off nobody and abandons nothing -/
theorem Idle.of_aborted {w w' : World} {j j' : JState} (h : Idle w j) (ha : Aborted w' j' j) : Idle w' j' :=
  ⟨ha.r0, ha.inRound.trans h.inRound, by rw [ha.expect, h.inRound]; exact h.expect, ha.bad.trans h.bad⟩

theorem Idle.of_frame {w w' : World} {j j' : JState} (h : Idle w j) (hR : RP w' j') (hF : Frame j j') : Idle w' j' :=
  ⟨hR.1, hF.inRound.trans h.inRound, hF.expect.trans h.expect, hF.bad.trans h.bad⟩

theorem idle_init (hk : Nat → List Op) : Idle { hooks := hk } {} :=
  ⟨⟨rfl, rfl, rfl, rfl, rfl, rfl, rfl, Nat.le_refl _, by intro x hx; cases hx⟩, rfl, rfl, rfl⟩

/-- call_heart_beat: the round -/
theorem sim_tickRound (sc : Scripts) {w : World} {j : JState} (h : Idle w j) :
    Idle (tickRound sc w).1 ((tickRound sc w).2.foldl judge1 j) := by
  obtain ⟨h0, hin, hex, hbad⟩ := h
  have hjb : judge1 j .tickBegin = advance (jBegin j) := judge1_tickBegin hex
  have hR := h0.begin
  rw [tick_eq_ref]
  unfold tickRef
  cases hon : hbOn w.tflags with
  | false =>
    -- timer_flags without TIMER_FLAG_HEARTBEAT: no round, nobody beats, the list is left alone
    simp only [Bool.false_eq_true, if_false, List.foldl_cons, List.foldl_nil, judge1_tickOff hex]
    rw [judge1_tickEnd rfl]
    exact ⟨((h0.setFlag false).of_seen (j' := { j with expect := .endOfRound, trunc := false }) rfl rfl).endRound.of_seen rfl rfl,
      rfl, rfl, hbad⟩
  | true =>
    simp only [if_true]
    by_cases hpos : ((w.hbs.length : Int) > 0)
    · simp only [hpos, if_true]
      have hd := sim_round sc w.hbs.length { w with flag := false, idx := 0, todo := (w.hbs.length : Int) } (jBegin j)
        (hR.of_seen rfl rfl) rfl rfl
        (by show (w.hbs.length : Int) = (([] : List Entry).length : Int) + ((j.done ++ j.pend ++ j.late).length : Int)
            rw [h0.hbs, List.length_nil]; omega)
        (by intro (hnil : j.done ++ j.pend ++ j.late = []); rw [h0.hbs, hnil] at hpos; exact absurd hpos (by decide))
        (by show (j.done ++ j.pend ++ j.late).length ≤ w.hbs.length; rw [h0.hbs]; exact Nat.le_refl _)
      rcases hr : round sc w.hbs.length { w with flag := false, idx := 0, todo := (w.hbs.length : Int) } with ⟨w', evs⟩
      rw [hr] at hd
      simp only [List.foldl_cons, hjb]
      exact hd.idle hbad
    · simp only [hpos, if_false, List.foldl_cons, List.foldl_nil, hjb]
      have hp0 : (jBegin j).pend = [] := by
        show j.done ++ j.pend ++ j.late = []
        rw [← h0.hbs]; exact List.eq_nil_of_length_eq_zero (by omega)
      rw [advance_nil hp0, judge1_tickEnd rfl]
      exact ⟨(hR.of_seen (j' := { jBegin j with expect := .endOfRound }) rfl rfl).endRound.of_seen rfl rfl, rfl, rfl, hbad⟩

theorem sim_rpStep {j0 : JState} (acc : World × List Ev) (h : Idle acc.1 (acc.2.foldl judge1 j0)) (o : Nat) :
    Idle (rpStep acc o).1 ((rpStep acc o).2.foldl judge1 j0) := by
  unfold rpStep
  split
  · obtain ⟨h0, hin, hex, hbad⟩ := h
    simp only [List.foldl_append, List.foldl_cons, List.foldl_nil]
    rw [judge1_rpDone hex]
    exact ⟨⟨h0.hbs, h0.known, congrArg (o :: ·) h0.nofn, h0.dead, h0.flag, h0.cur, h0.ok, h0.cap, h0.sub⟩, hin, hex, hbad⟩
  · exact h

theorem sim_rpFold {j0 : JState} (l : List Nat) (acc : World × List Ev) (h : Idle acc.1 (acc.2.foldl judge1 j0)) :
    Idle (l.foldl rpStep acc).1 ((l.foldl rpStep acc).2.foldl judge1 j0) :=
  List.foldlRecOn (motive := fun acc => Idle acc.1 (acc.2.foldl judge1 j0)) l _ h fun acc hacc o _ => sim_rpStep acc hacc o

theorem sim_applyRp {w : World} {j : JState} (h : Idle w j) : Idle (applyRp w).1 ((applyRp w).2.foldl judge1 j) :=
  sim_rpFold _ _ (h.of_seen (w' := { w with rp := [] }) rfl)

/-- one call_out callback: ordinary code between rounds; an uncaught error in it goes through error_handler, which finds
    no current_heart_beat (`Idle`: the oracle's `cur` plays no part, nobody is switched off) -/
theorem sim_coStep {j0 : JState} (acc : World × List Ev) (h : Idle acc.1 (acc.2.foldl judge1 j0)) (c : Nat × List Op) :
    Idle (coStep acc c).1 ((coStep acc c).2.foldl judge1 j0) := by
  unfold coStep
  split
  · exact h
  · have hops := sim_runOps c.1 c.2 acc.1 (acc.2.foldl judge1 j0) h.rp h.allowed
    rcases hr : runOps acc.1 c.1 c.2 with ⟨w2, evs, st⟩
    rw [hr] at hops
    have hjb : judge1 (acc.2.foldl judge1 j0) (.coBegin c.1) = acc.2.foldl judge1 j0 := rfl
    cases st with
    | err =>
      rw [stepOK_err] at hops
      simp only [List.foldl_append, List.foldl_cons, hjb]
      exact h.of_aborted hops
    | _ =>
      rw [stepOK_ok (by decide)] at hops
      simp only [List.foldl_append, List.foldl_cons, List.foldl_nil, hjb]
      exact h.of_frame hops.1 hops.2

theorem sim_coLoop {j0 : JState} : ∀ (fuel : Nat) (acc : World × List Ev), Idle acc.1 (acc.2.foldl judge1 j0) →
    Idle (coLoop fuel acc).1 ((coLoop fuel acc).2.foldl judge1 j0) := by
  intro fuel
  induction fuel with
  | zero => intro acc h; exact h
  | succ f ih =>
    intro acc h
    unfold coLoop
    cases hco : acc.1.co with
    | nil => exact h
    | cons c rest => exact ih _ (sim_coStep _ (h.of_seen (w' := { acc.1 with co := rest }) rfl) c)

theorem sim_coDispatch {j : JState} (r : World × List Ev) (h : Idle r.1 (r.2.foldl judge1 j)) :
    Idle (coDispatch r).1 ((coDispatch r).2.foldl judge1 j) := by
  unfold coDispatch
  split
  · have h1 := sim_coLoop (j0 := r.2.foldl judge1 j) r.1.co.length (r.1, []) h
    dsimp only
    rw [List.foldl_append]
    exact h1.of_seen rfl
  · exact h

/-- call_heart_beat: the round and the call_out dispatch behind it -/
theorem sim_tickCore (sc : Scripts) {w : World} {j : JState} (h : Idle w j) :
    Idle (tickCore sc w).1 ((tickCore sc w).2.foldl judge1 j) := by
  have h1 := sim_tickRound sc h
  unfold tickCore
  split
  · exact h1
  · exact sim_coDispatch _ h1

theorem sim_morePasses (sc : Scripts) : ∀ (fuel : Nat) (w : World) (j : JState), Idle w j →
    Idle (morePasses sc fuel w).1 ((morePasses sc fuel w).2.foldl judge1 j) := by
  intro fuel
  induction fuel with
  | zero =>
    intro w j h
    have i1 := sim_applyRp h
    unfold morePasses
    dsimp only
    split
    · obtain ⟨h0, hin, hex, hbad⟩ := i1
      simp only [List.foldl_append, List.foldl_cons, List.foldl_nil]
      rw [judge1_passLimit hex]
      exact ⟨h0.setFlag false, hin, hex, hbad⟩
    · exact i1
  | succ f ih =>
    intro w j h
    have i1 := sim_applyRp h
    have i2 := sim_tickCore sc i1
    unfold morePasses
    dsimp only
    split
    · split
      · simp only [List.foldl_append]; exact ih _ _ i2
      · simp only [List.foldl_append]; exact i2
    · exact i1

/-! command_giver after a pass of the loop, read off the model alone (no oracle state); `sim_tick` needs it for the
    `cgAfter` event that closes every `tick` -/

theorem roundRef_cg (sc : Scripts) : ∀ (fuel : Nat) (w : World), w.cg = none → (roundRef sc fuel w).1.cg = none := by
  intro fuel
  induction fuel with
  | zero => intro w h; exact h
  | succ f ih =>
    intro w h
    unfold roundRef
    by_cases hneg : w.idx < 0
    · rw [if_pos hneg]; exact h
    · rw [if_neg hneg]
      cases hget : w.hbs[w.idx.toNat]? with
      | none => exact h
      | some hb =>
        dsimp only
        by_cases hf : (!w.nofn.contains hb.ob && decide (wrap16 (hb.ticks - 1) < 1)) = true
        · rw [if_pos hf]
          rcases hr : runOps _ hb.ob (sc hb.ob (w.nb hb.ob)) with ⟨w2, evs, st⟩
          cases st with
          | err => rfl
          | _ =>
            dsimp only
            split
            · rw [finish_ref]
            · exact ih _ rfl
        · rw [if_neg hf]
          split
          · rw [finish_ref]; exact h
          · exact ih _ h

theorem tickRound_cg (sc : Scripts) (w : World) (h : w.cg = none) : (tickRound sc w).1.cg = none := by
  rw [tick_eq_ref]
  unfold tickRef
  split
  · split
    · rw [round_eq_ref]
      exact roundRef_cg sc _ _ h
    · exact h
  · exact h

theorem coDispatch_cg (r : World × List Ev) : (coDispatch r).1.cg = r.1.cg := by
  unfold coDispatch
  split <;> rfl

theorem tickCore_cg (sc : Scripts) (w : World) (h : w.cg = none) : (tickCore sc w).1.cg = none := by
  unfold tickCore
  split
  · exact tickRound_cg sc w h
  · rw [coDispatch_cg]; exact tickRound_cg sc w h

theorem rpStep_cg (acc : World × List Ev) (o : Nat) : (rpStep acc o).1.cg = acc.1.cg := by
  unfold rpStep; split <;> rfl

theorem applyRp_cg (w : World) : (applyRp w).1.cg = w.cg :=
  List.foldlRecOn (motive := fun acc => acc.1.cg = w.cg) _ _ rfl fun acc hacc o _ => (rpStep_cg acc o).trans hacc

theorem morePasses_cg (sc : Scripts) : ∀ (fuel : Nat) (w : World), w.cg = none → (morePasses sc fuel w).1.cg = none := by
  intro fuel
  induction fuel with
  | zero =>
    intro w h
    unfold morePasses
    dsimp only
    split <;> exact (applyRp_cg w).trans h
  | succ f ih =>
    intro w h
    have c1 : (applyRp w).1.cg = none := (applyRp_cg w).trans h
    have c2 := tickCore_cg sc _ c1
    unfold morePasses
    dsimp only
    split
    · split
      · exact ih _ c2
      · exact c2
    · exact c1

/-- **no heart_beat object stays behind as command_giver**: after a pass of the backend loop command_giver is 0, whether
    the round completed, was truncated, abandoned by an error, or never started -/
theorem tick_cg_none (sc : Scripts) (w : World) : (tick sc w).1.cg = none := by
  obtain ⟨r0, r1, r2, r3, e, e0, e1, e2, e3⟩ := tick_eq sc w
  have c0 : r0.1.cg = none := by rw [e0]; exact tickCore_cg sc _ rfl
  have c1 : r1.1.cg = none := by rw [e1]; exact (applyRp_cg _).trans c0
  have c2 : r2.1.cg = none := by rw [e2]; exact tickCore_cg sc _ c1
  rw [e, e3]
  show (if _ then _ else _ : World × List Ev).1.cg = none
  split
  · exact morePasses_cg sc _ _ c2
  · exact c2

/-- the shape of one `tick` command: four stretches of events, then the observation of command_giver -/
theorem idle_pass {j : JState} {w3 : World} {a b c d : List Ev}
    (h3 : Idle w3 (d.foldl judge1 (c.foldl judge1 (b.foldl judge1 (a.foldl judge1 j))))) (hcg : w3.cg = none) :
    Idle w3 ((a ++ b ++ c ++ d ++ [Ev.cgAfter w3.cg]).foldl judge1 j) := by
  simp only [List.foldl_append, List.foldl_cons, List.foldl_nil]; rw [hcg]; exact h3

/-- one `tick` command: backend() entered (start-up call), pending program replacements, call_heart_beat, and the further
    passes after an error -/
theorem sim_tick (sc : Scripts) {w : World} {j : JState} (h : Idle w j) :
    Idle (tick sc w).1 ((tick sc w).2.foldl judge1 j) := by
  have hcg := tick_cg_none sc w
  obtain ⟨r0, r1, r2, r3, e, e0, e1, e2, e3⟩ := tick_eq sc w
  rw [e] at hcg ⊢
  have i0 : Idle r0.1 (r0.2.foldl judge1 j) := by
    rw [e0]; exact sim_tickCore sc (h.of_seen (w' := { w with cg := none, tflags := 0 }) rfl)
  have i1 : Idle r1.1 (r1.2.foldl judge1 (r0.2.foldl judge1 j)) := by
    rw [e1]; exact sim_applyRp (i0.of_seen (w' := { r0.1 with tflags := w.tflags }) rfl)
  have i2 : Idle r2.1 (r2.2.foldl judge1 (r1.2.foldl judge1 (r0.2.foldl judge1 j))) := by
    rw [e2]; exact sim_tickCore sc i1
  refine idle_pass ?_ hcg
  rw [e3]
  split
  · exact sim_morePasses sc _ _ _ i2
  · exact i2

theorem sim_stepCmd (sc : Scripts) {w : World} {j : JState} (h : Idle w j) (c : Cmd) :
    Idle (stepCmd sc w c).1 ((stepCmd sc w c).2.foldl judge1 j) := by
  have hok : w.crashed = false := h.1.ok
  cases c with
  | tick =>
    simp only [stepCmd, hok, Bool.false_eq_true, if_false]
    exact sim_tick sc h
  | cotick cbs =>
    simp only [stepCmd, hok, Bool.false_eq_true, if_false]
    have ht := sim_tick sc (h.of_seen (w' := coWorld w cbs) rfl)
    revert ht
    generalize tick sc (coWorld w cbs) = r
    exact fun ht => ht.of_seen rfl
  | tflags n =>
    obtain ⟨h0, hin, hex, hbad⟩ := h
    simp only [stepCmd, hok, Bool.false_eq_true, if_false, List.foldl_cons, List.foldl_nil]
    exact ⟨⟨h0.hbs, h0.known, h0.nofn, h0.dead, h0.flag, h0.cur, rfl, h0.cap, h0.sub⟩, hin, hex, hbad⟩
  | op self op =>
    obtain ⟨h0, hin, hex, hbad⟩ := h
    simp only [stepCmd, hok, Bool.false_eq_true, if_false]
    cases hk : w.known.contains self with
    | false =>
      have hjk : j.known.contains self = false := h0.known ▸ hk
      simp only [Bool.not_false, if_true, List.foldl_cons, List.foldl_nil]
      rw [judge1_topNoObj hjk]; exact ⟨h0, hin, hex, hbad⟩
    | true =>
      simp only [Bool.not_true, Bool.false_eq_true, if_false]
      cases hd : w.dead.contains self with
      | true =>
        have hjd : j.dead.contains self = true := h0.dead ▸ hd
        simp only [if_true, List.foldl_cons, List.foldl_nil]
        rw [judge1_topDead hjd]; exact ⟨h0, hin, hex, hbad⟩
      | false =>
        simp only [Bool.false_eq_true, if_false]
        have hI : Idle w j := ⟨h0, hin, hex, hbad⟩
        have hops := sim_runOps self [op] w j hI.rp hI.allowed
        rcases hr : runOps w self [op] with ⟨w2, evs, st⟩
        rw [hr] at hops
        cases st with
        | err =>
          rw [stepOK_err] at hops
          simp only [List.foldl_append, List.foldl_cons, List.foldl_nil]
          have ht : judge1 (evs.foldl judge1 j) (.topErr self) = evs.foldl judge1 j := rfl
          rw [ht]
          exact hI.of_aborted hops
        | _ =>
          rw [stepOK_ok (by decide)] at hops
          exact hI.of_frame hops.1 hops.2

theorem sim_runCmds (sc : Scripts) : ∀ (cs : List Cmd) (w : World) (j : JState), Idle w j →
    Idle (runCmds sc w cs).1 ((runCmds sc w cs).2.foldl judge1 j) := by
  intro cs
  induction cs with
  | nil => intro w j h; exact h
  | cons c cs ih =>
    intro w j h
    have h1 := sim_stepCmd sc h c
    rcases hs : stepCmd sc w c with ⟨w1, evs⟩
    rw [hs] at h1
    have h2 := ih w1 (evs.foldl judge1 j) h1
    rcases hr : runCmds sc w1 cs with ⟨w2, evs2⟩
    rw [hr] at h2
    simp only [runCmds, hs, hr, List.foldl_append]
    exact h2
end NV.C11
