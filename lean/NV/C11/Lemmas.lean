/-
C11 — helper lemmas: list facts relating the index-based operations of the model (idxOf / eraseIdx / set)
to the index-free operations of the specification (rmFirst / retune / lookup over done ++ pend ++ late).
-/
import NV.C11.Model

namespace NV.C11

theorem shrtMax_val : shrtMax = 32767 := by decide

theorem hasOb_nil (x : Nat) : hasOb x [] = false := rfl

theorem hasOb_cons (x : Nat) (e : Entry) (r : List Entry) : hasOb x (e :: r) = (e.ob == x || hasOb x r) := List.any_cons

theorem hasOb_append (x : Nat) (a b : List Entry) : hasOb x (a ++ b) = (hasOb x a || hasOb x b) := List.any_append

/-! `rmFirst x` and `idxOf x` are core's `eraseP` and `findIdx?` for the test "is an entry of x", of which `hasOb x` is
    the `any` by definition; `retune` is `set` at that index.  What follows is core's theory read through these equations. -/

theorem rmFirst_eq_eraseP (x : Nat) (l : List Entry) : rmFirst x l = l.eraseP (·.ob == x) := by
  induction l with
  | nil => rfl
  | cons e r ih => by_cases he : e.ob = x <;> simp [rmFirst, he, ih]

theorem idxOf_eq_findIdx? (x : Nat) (l : List Entry) : idxOf x l = l.findIdx? (·.ob == x) := by
  induction l with
  | nil => rfl
  | cons e r ih => by_cases he : e.ob = x <;> simp [idxOf, List.findIdx?_cons, he, ih]

theorem retune_eq_set (x : Nat) (t : Int) (l : List Entry) :
    retune x t l = match idxOf x l with
      | none => l
      | some i => l.set i { ob := x, ticks := t, interval := t } := by
  induction l with
  | nil => rfl
  | cons e r ih =>
    by_cases he : e.ob = x
    · simp [retune, idxOf, he]
    · simp only [retune, idxOf, he, if_false, ih]
      cases idxOf x r <;> rfl

theorem idxOf_isSome (x : Nat) (l : List Entry) : (idxOf x l).isSome = hasOb x l := by
  rw [idxOf_eq_findIdx?]; exact List.findIdx?_isSome

theorem idxOf_none_of_not_has {x : Nat} {l : List Entry} (h : hasOb x l = false) : idxOf x l = none :=
  Option.not_isSome_iff_eq_none.mp (by rw [idxOf_isSome, h]; exact Bool.false_ne_true)

theorem idxOf_lt {x : Nat} {l : List Entry} {i : Nat} (h : idxOf x l = some i) : i < l.length := by
  rw [idxOf_eq_findIdx?, List.findIdx?_eq_some_iff_getElem] at h; exact h.1

theorem has_of_idxOf {x : Nat} {l : List Entry} {i : Nat} (h : idxOf x l = some i) : hasOb x l = true := by
  rw [← idxOf_isSome, h]; rfl

theorem idxOf_some_of_has {x : Nat} {l : List Entry} (h : hasOb x l = true) : ∃ i, idxOf x l = some i ∧ i < l.length := by
  rw [← idxOf_isSome, Option.isSome_iff_exists] at h
  obtain ⟨i, hi⟩ := h
  exact ⟨i, hi, idxOf_lt hi⟩

theorem not_has_of_idxOf_none {x : Nat} {l : List Entry} (h : idxOf x l = none) : hasOb x l = false := by
  rw [← idxOf_isSome, h]; rfl

theorem eraseIdx_idxOf {x : Nat} {l : List Entry} {i : Nat} (h : idxOf x l = some i) : l.eraseIdx i = rmFirst x l := by
  rw [rmFirst_eq_eraseP, List.eraseP_eq_eraseIdx, ← idxOf_eq_findIdx?, h]

theorem set_idxOf {x : Nat} {l : List Entry} {i : Nat} (t : Int) (h : idxOf x l = some i) :
    l.set i { ob := x, ticks := t, interval := t } = retune x t l := by
  rw [retune_eq_set, h]

theorem idxOf_append (x : Nat) (a b : List Entry) :
    idxOf x (a ++ b) = (idxOf x a).or ((idxOf x b).map (· + a.length)) := by
  simp only [idxOf_eq_findIdx?]; exact List.findIdx?_append

theorem idxOf_append_left {x : Nat} {a b : List Entry} (h : hasOb x a = true) : idxOf x (a ++ b) = idxOf x a := by
  rw [idxOf_append, Option.or_of_isSome (by rw [idxOf_isSome, h])]

theorem idxOf_append_right {x : Nat} {a b : List Entry} (h : hasOb x a = false) :
    idxOf x (a ++ b) = (idxOf x b).map (· + a.length) := by
  rw [idxOf_append, idxOf_none_of_not_has h]; rfl

/-- where the entry found in `d ++ p ++ l` lies: the first of the three segments that has one -/
theorem idxOf_segments {x : Nat} {d p l : List Entry} {i : Nat} (hi : idxOf x (d ++ p ++ l) = some i) :
    (hasOb x d = true ∧ i < d.length) ∨
    (hasOb x d = false ∧ hasOb x p = true ∧ d.length ≤ i ∧ i < d.length + p.length) ∨
    (hasOb x d = false ∧ hasOb x p = false ∧ d.length + p.length ≤ i) := by
  rw [List.append_assoc] at hi
  cases hd : hasOb x d with
  | true => rw [idxOf_append_left hd] at hi; exact .inl ⟨rfl, idxOf_lt hi⟩
  | false =>
    rw [idxOf_append_right hd] at hi
    cases hp : hasOb x p with
    | true =>
      rw [idxOf_append_left hp] at hi
      obtain ⟨k, hk, rfl⟩ := Option.map_eq_some_iff.mp hi
      have := idxOf_lt hk
      exact .inr (.inl ⟨rfl, rfl, by omega, by omega⟩)
    | false =>
      rw [idxOf_append_right hp, Option.map_map] at hi
      obtain ⟨k, _, rfl⟩ := Option.map_eq_some_iff.mp hi
      exact .inr (.inr ⟨rfl, rfl, by simp only [Function.comp_apply]; omega⟩)

theorem rmFirst_of_not_has {x : Nat} {l : List Entry} (h : hasOb x l = false) : rmFirst x l = l := by
  rw [rmFirst_eq_eraseP]; exact List.eraseP_of_forall_not (by simpa [hasOb] using h)

theorem rmFirst_append (x : Nat) (a b : List Entry) :
    rmFirst x (a ++ b) = if hasOb x a then rmFirst x a ++ b else a ++ rmFirst x b := by
  simp only [rmFirst_eq_eraseP]; exact List.eraseP_append

theorem rmFirst_length {x : Nat} {l : List Entry} (h : hasOb x l = true) : (rmFirst x l).length + 1 = l.length := by
  have hp : 0 < l.length := by
    cases l with
    | nil => cases h
    | cons _ _ => exact Nat.succ_pos _
  rw [rmFirst_eq_eraseP, List.length_eraseP, show l.any (·.ob == x) = true from h, if_pos rfl]; omega

theorem rmFirst_length_le (x : Nat) (l : List Entry) : (rmFirst x l).length ≤ l.length := by
  rw [rmFirst_eq_eraseP]; exact List.length_eraseP_le

theorem retune_append (x : Nat) (t : Int) (a b : List Entry) :
    retune x t (a ++ b) = if hasOb x a then retune x t a ++ b else a ++ retune x t b := by
  induction a with
  | nil => rfl
  | cons e r ih => by_cases he : e.ob = x <;> simp [retune, hasOb_cons, he, ih, apply_ite (e :: ·)]

theorem retune_length (x : Nat) (t : Int) (l : List Entry) : (retune x t l).length = l.length := by
  rw [retune_eq_set]; cases idxOf x l <;> simp

/-- an operation that acts on the first of two segments that has an entry of `x` acts on the first of three -/
theorem segments_of_append {f : List Entry → List Entry} {x : Nat}
    (h : ∀ a b, f (a ++ b) = if hasOb x a then f a ++ b else a ++ f b) (d p l : List Entry) :
    f (d ++ p ++ l) = if hasOb x d then f d ++ p ++ l else if hasOb x p then d ++ f p ++ l else d ++ p ++ f l := by
  rw [List.append_assoc, h, h]
  cases hasOb x d <;> cases hasOb x p <;> simp

/-- removal and retuning act on the first of the three segments that has an entry of `x` -/
theorem rmFirst_segments (x : Nat) (d p l : List Entry) :
    rmFirst x (d ++ p ++ l) =
      if hasOb x d then rmFirst x d ++ p ++ l else if hasOb x p then d ++ rmFirst x p ++ l else d ++ p ++ rmFirst x l :=
  segments_of_append (rmFirst_append x) d p l

theorem retune_segments (x : Nat) (t : Int) (d p l : List Entry) :
    retune x t (d ++ p ++ l) =
      if hasOb x d then retune x t d ++ p ++ l else if hasOb x p then d ++ retune x t p ++ l else d ++ p ++ retune x t l :=
  segments_of_append (retune_append x t) d p l

/-- on the objects removal is `List.erase` -/
theorem rmFirst_obs (x : Nat) (l : List Entry) : (rmFirst x l).map (·.ob) = (l.map (·.ob)).erase x := by
  rw [rmFirst_eq_eraseP, List.erase_eq_eraseP', List.eraseP_map]; rfl

theorem retune_obs (x : Nat) (t : Int) (l : List Entry) : (retune x t l).map (·.ob) = l.map (·.ob) := by
  induction l with
  | nil => rfl
  | cons e r ih =>
    by_cases he : e.ob = x
    · simp [retune, he]
    · simp [retune, he, ih]

theorem set_mid (d : List Entry) (x y : Entry) (r : List Entry) :
    (d ++ x :: r).set d.length y = d ++ y :: r := by
  rw [List.set_append_right _ _ (Nat.le_refl _), Nat.sub_self]; rfl

theorem get_mid (d : List Entry) (x : Entry) (r : List Entry) : (d ++ x :: r)[d.length]? = some x := by
  rw [List.getElem?_append_right (Nat.le_refl _), Nat.sub_self]; rfl

/-- `(short)` is the identity on what the clamp (fix: C11) lets through -/
theorem wrap16_id {x : Int} (h0 : -32768 ≤ x) (h1 : x ≤ shrtMax) : wrap16 x = x := by
  have := shrtMax_val
  unfold wrap16
  omega

theorem satEfun_range (n : Int) : -1 ≤ satEfun n ∧ satEfun n ≤ shrtMax := by
  have := shrtMax_val
  unfold satEfun
  split
  · omega
  · split <;> omega

end NV.C11
