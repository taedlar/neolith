/-
C13 — small-scope exhaustive tie for the extraction functions: `NV.Gen.C13.xTable` records what the REAL cmd_in_buf,
first_cmd_in_buf and next_cmd_in_buf (src/comm.c, harness command `xprobe`) do on every buffer over {NUL, 'a'} of
length ≤ 5, every `text_start ≤ text_end ≤ L` (stale bytes behind text_end included), in line mode and SINGLE_CHAR
(2046 configurations).  `x_table_tie`: the model's `cmdInBuf` / `firstCmd` / `cstrAt` / `nextCmd` give the same flag,
returned offset, indices, buffer content and command for every row; `x_table_complete`: the rows are exactly that
enumeration.  A changed comparison, loop bound or statement order in these functions changes a row.
(The cut branch of first_cmd_in_buf needs a full 2 KiB buffer and is outside this scope: `cutMargin` + correspondence.)
-/
import NV.C13.Model

namespace NV.C13

open NV.Gen.C13

def xDigit : Nat → Byte
  | 0 => 0
  | 1 => 97
  | 2 => 0xA5
  | _ => 0xFF

def xDecode (code : Nat) : Nat → List Byte
  | 0 => []
  | n + 1 => xDigit (code % 4) :: xDecode (code / 4) n

def xCode (b : Byte) : Nat := if b = 0 then 0 else if b = 97 then 1 else if b = 0xA5 then 2 else 3

/-- the probe's buffer: L bytes from `bits`, one NUL, 0xA5 behind (16 bytes are enough: nothing further is touched) -/
def xText (L bits : Nat) : List Byte :=
  (List.range L).map (fun i => if bits.testBit i then 97 else 0) ++ [0] ++ List.replicate (15 - L) 0xA5

def xState (single L bits st en : Nat) : S :=
  { port := .telnet, text := xText L bits, tstart := st, tend := en,
    dec := { Dec.init with fl := { single := single != 0 } } }

/-- the bit fields of a row -/
def xFields (code : Nat) : List Nat :=
  let rec go (c : Nat) : List Nat → List Nat
    | [] => []
    | w :: ws => c % 2 ^ w :: go (c / 2 ^ w) ws
  go code [1, 3, 5, 3, 3, 1, 3, 3, 3, 16, 3, 3, 3, 16]

def xRowOk (code : Nat) : Bool :=
  match xFields code with
  | [single, L, bits, st, en, cib, ret1, s1, e1, t1, n, s2, e2, t2] =>
    let s := xState single L bits st en
    (match cmdInBuf s with
     | .ok c => c == (cib != 0)
     | .error _ => false) &&
    (match firstCmd s with
     | .error _ => false
     | .ok (a, r) =>
       a.tstart == s1 && a.tend == e1 && (a.text.take 8).map xCode == (xDecode t1 8).map xCode &&
       (match r with
        | none => ret1 == 0
        | some i =>
          ret1 == i + 1 &&
          (match cstrAt a.text i with
           | .ok c => c == List.replicate n 97
           | .error _ => false) &&
          (match nextCmd a with
           | .ok b => b.tstart == s2 && b.tend == e2 && (b.text.take 8).map xCode == (xDecode t2 8).map xCode
           | .error _ => false)))
  | _ => false

/-- the enumeration of the probe -/
def xConfigs : List (List Nat) :=
  [0, 1].flatMap fun single => (List.range 6).flatMap fun L => (List.range (2 ^ L)).flatMap fun bits =>
    (List.range (L + 1)).flatMap fun en => (List.range (en + 1)).map fun st => [single, L, bits, st, en]

/-- the base-4 digits of a code, low digit first -/
def xDigits (code : Nat) : Nat → List Nat
  | 0 => []
  | n + 1 => code % 4 :: xDigits (code / 4) n

theorem xCode_xDigit : ∀ k, k < 4 → xCode (xDigit k) = k := by decide

/-- decoding a buffer code to bytes and classifying the bytes again gives back its digits -/
theorem xDecode_codes (code n : Nat) : (xDecode code n).map xCode = xDigits code n := by
  induction n generalizing code with
  | zero => rfl
  | succ n ih => simp only [xDecode, xDigits, List.map_cons, ih, xCode_xDigit _ (Nat.mod_lt _ (by decide))]

/-- the model's cmd_in_buf / first_cmd_in_buf / next_cmd_in_buf agree with the real ones on every small buffer -/
theorem x_table_tie : xTable.all xRowOk = true := by
  show xTable.all (fun c => xRowOk c) = true
  -- the expected buffer contents are compared as digits: no bytes are built from the codes only to be classified again
  -- (the kernel compares `UInt8`s far more slowly than `Nat`s, and these are half of the comparisons a row makes)
  simp only [xRowOk, xDecode_codes]
  decide +kernel

/-- and the table is the complete enumeration (every content, every index pair, both modes) -/
theorem x_table_complete : xTable.map (fun c => (xFields c).take 5) = xConfigs :=
  eq_of_beq (by decide +kernel)

end NV.C13
