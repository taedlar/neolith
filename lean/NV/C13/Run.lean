/-
C13 — the event-emitting run of the case language (`run`, with drain / finish loops, console lines and mode switches)
never reaches a crash outcome, and every event it emits passes the safety clauses of the oracle.
-/
import NV.C13.ReadAscii
import NV.C13.Console
import NV.C13.ModeSwitch

namespace NV.C13

open NV.Gen.C13

/-- what each kind of port relies on: telnet / console — the NUL behind the text (C strings); ascii / binary —
    CMD_IN_BUF is never set, so get_user_command never looks into the buffer -/
structure PortInv (s : S) : Prop where
  nul : s.port = .telnet ∨ s.port = .console → NulAfter s
  noflag : s.port = .ascii ∨ s.port = .binary → s.dec.fl.cmdInBuf = false

structure RInv (p : Port) (r : Run) : Prop where
  alive : r.dead = false
  port : r.s.port = p
  inv : Inv r.s
  pinv : PortInv r.s

theorem afterStep_ok {s : S} (h : Inv s) : afterStep s = [.closed] ∨ afterStep s = [stEv s] := by
  unfold afterStep
  split
  · exact Or.inl rfl
  · rw [if_neg (by have := h.se; have := h.eMax; omega)]; exact Or.inr rfl

theorem add_rinv {p : Port} {r : Run} (hr : r.dead = false) {s : S} (evs : List Ev) (hp : s.port = p) (h : Inv s)
    (hpi : PortInv s) : RInv p (r.add s evs) := by
  refine ⟨?_, hp, h, hpi⟩
  unfold Run.add
  dsimp only
  rcases afterStep_ok h with h1 | h1 <;> rw [h1, hr] <;> rfl

theorem add_evok {r : Run} {s : S} {evs : List Ev} (hr : r.evs.all evOK = true) (h : Inv s) (he : evs.all evOK = true) :
    (r.add s evs).evs.all evOK = true := by
  unfold Run.add
  dsimp only
  rw [List.all_append, List.all_append, hr, he]
  rcases afterStep_ok h with h1 | h1 <;> rw [h1]
  · rfl
  · have := h.se; have := h.eMax
    simp only [stEv, List.all_cons, List.all_nil, evOK, Bool.and_true, Bool.true_and, decide_eq_true_eq]
    omega

/-- what every operation of the case language keeps: the run is still alive with its invariants, and if the events
    so far pass the safety clauses of the oracle, so do the events afterwards -/
def Keeps (p : Port) (before : List Ev) (r' : Run) : Prop :=
  RInv p r' ∧ (before.all evOK = true → r'.evs.all evOK = true)

theorem Keeps.trans {p : Port} {e : List Ev} {r1 r2 : Run} (h1 : Keeps p e r1) (h2 : Keeps p r1.evs r2) : Keeps p e r2 :=
  ⟨h2.1, fun h => h2.2 (h1.2 h)⟩

theorem add_keeps {p : Port} {r : Run} (hr : r.dead = false) {s : S} {evs : List Ev} (hp : s.port = p) (h : Inv s)
    (hpi : PortInv s) (he : evs.all evOK = true) : Keeps p r.evs (r.add s evs) :=
  ⟨add_rinv hr evs hp h hpi, fun h0 => add_evok h0 h he⟩

theorem portInv_cases (p : Port) : (p = .telnet ∨ p = .console) ∨ (p = .ascii ∨ p = .binary) := by
  cases p <;> simp

theorem filter_evok (l : List Ev) (f : Ev → Bool) (h : l.all evOK = true) : (l.filter f).all evOK = true := by
  rw [List.all_eq_true] at *
  intro x hx
  exact h x (List.mem_filter.mp hx).1

theorem txEv_evok (tx : List Byte) : (txEv tx).all evOK = true := txe_evok tx

/-- the snoop callback behind a read: whatever the snooper does, invariants and events stay good -/
theorem readTail_keeps (o : Oracle) {p : Port} {r : Run} (hr : r.dead = false) {s : S} (evs : List Ev) (hp : s.port = p)
    (h : Inv s) (hpi : PortInv s) :
    RInv p (readTail o r s evs) ∧ (r.evs.all evOK = true → evs.all evOK = true → (readTail o r s evs).evs.all evOK = true) := by
  have hi : ∀ c : Bool, Inv { s with cbCount := s.cbCount + 1, closed := c } := fun _ => h.frame _ _ _ _
  have hpi' : ∀ c : Bool, PortInv { s with cbCount := s.cbCount + 1, closed := c } := fun _ => ⟨hpi.nul, hpi.noflag⟩
  have plain : RInv p (r.add s evs) ∧ (r.evs.all evOK = true → evs.all evOK = true → (r.add s evs).evs.all evOK = true) :=
    ⟨add_rinv hr _ hp h hpi, fun h0 he => add_evok h0 h he⟩
  unfold readTail
  split
  · split
    · exact plain
    · split
      · exact plain
      · dsimp only
        split
        · exact ⟨add_rinv hr _ hp (hi s.closed) (hpi' s.closed), fun h0 he => add_evok h0 (hi s.closed) (by
            rw [List.all_append, List.all_append, filter_evok _ _ he, filter_evok _ _ he]; rfl)⟩
        · exact ⟨add_rinv hr _ hp (hi s.closed) (hpi' s.closed), fun h0 he => add_evok h0 (hi s.closed) (by
            rw [List.all_append, List.all_append, List.all_append, filter_evok _ _ he, filter_evok _ _ he]; rfl)⟩
        · exact ⟨add_rinv hr _ hp (hi true) (hpi' true), fun h0 he => add_evok h0 (hi true) (by
            rw [List.all_append, List.all_append, filter_evok _ _ he, filter_evok _ _ he]; rfl)⟩
  · exact plain

theorem readTail_rinv (o : Oracle) {p : Port} {r : Run} (hr : r.dead = false) {s : S} (evs : List Ev) (hp : s.port = p)
    (h : Inv s) (hpi : PortInv s) : RInv p (readTail o r s evs) :=
  (readTail_keeps o hr evs hp h hpi).1

theorem doRead_keeps (o : Oracle) {p : Port} {r : Run} (k : RInv p r) : Keeps p r.evs (doRead o r) := by
  unfold doRead
  split
  · exact ⟨k, id⟩
  · obtain ⟨s', evs, h1, ok⟩ := getUserDataH_spec o k.inv
    rw [h1]
    have hpi : PortInv s' := by
      refine ⟨fun hh => ?_, fun hh => ?_⟩
      · rw [ok.port] at hh; exact ok.nul hh (k.pinv.nul hh)
      · rw [ok.port] at hh
        rw [ok.dec (by rcases hh with hh | hh <;> rw [hh] <;> decide)]; exact k.pinv.noflag hh
    have t := readTail_keeps o k.alive evs (ok.port.trans k.port) ok.inv hpi
    exact ⟨t.1, fun h0 => t.2 h0 ok.ev⟩

/-- a delivered line fits the command buffer, and the replies behind it are harmless -/
theorem cmd_evok {l : List Byte} (hl : l.length + 1 ≤ MAXT) (tx : List Byte) : ([Ev.cmd l] ++ txEv tx).all evOK = true := by
  rw [List.all_append, txEv_evok]
  simp only [List.all_cons, List.all_nil, evOK, Bool.and_true, decide_eq_true_eq]
  exact hl

theorem doExtract_keeps {p : Port} {r : Run} (k : RInv p r) : Keeps p r.evs (doExtract r).1 := by
  unfold doExtract
  split
  · exact ⟨k, id⟩
  · rcases portInv_cases p with hp | hp
    · have hn := k.pinv.nul (by rw [k.port]; exact hp)
      obtain ⟨s', rr, h1, c⟩ := getUserCommand_spec k.inv (.inr hn)
      rw [h1]
      have hpi : PortInv s' := ⟨fun _ => c.nul hn, fun hh => by
        rw [c.port, k.port] at hh; rcases hp with hp | hp <;> rw [hp] at hh <;> simp at hh⟩
      cases rr with
      | none => exact add_keeps k.alive (c.port.trans k.port) c.inv hpi rfl
      | some l =>
        exact add_keeps (r := { r with noEcho := false }) k.alive (c.port.trans k.port) c.inv hpi (cmd_evok (c.short l rfl) _)
    · rw [getUserCommand_idle (k.pinv.noflag (by rw [k.port]; exact hp))]
      exact add_keeps k.alive k.port k.inv k.pinv rfl

theorem drainLoop_keeps {p : Port} (fuel : Nat) {r : Run} (k : RInv p r) : Keeps p r.evs (drainLoop fuel r) := by
  induction fuel generalizing r with
  | zero => exact ⟨k, id⟩
  | succ n ih =>
    unfold drainLoop
    have := doExtract_keeps k
    cases hd : doExtract r with
    | mk r' got =>
      rw [hd] at this
      dsimp only
      split
      · exact this.trans (ih this.1)
      · exact this

theorem finishLoop_keeps (o : Oracle) {p : Port} (fuel : Nat) {r : Run} (k : RInv p r) :
    Keeps p r.evs (finishLoop o fuel r) := by
  induction fuel generalizing r with
  | zero => exact ⟨k, id⟩
  | succ n ih =>
    unfold finishLoop
    split
    · exact ⟨k, id⟩
    · have h1 := doRead_keeps o k
      have h2 := h1.trans (drainLoop_keeps 5000 h1.1)
      exact h2.trans (ih h2.1)

theorem doServe_keeps {p : Port} {r : Run} (k : RInv p r) (hp : p = .telnet) : Keeps p r.evs (doServe r) := by
  unfold doServe
  split
  · exact ⟨k, id⟩
  · have hn := k.pinv.nul (by rw [k.port]; exact Or.inl hp)
    obtain ⟨s', rr, h1, c⟩ := getUserCommand_spec k.inv (.inr hn)
    rw [h1]
    have hn' := c.nul hn
    have hpt : s'.port = .telnet := c.port.trans (k.port.trans hp)
    have hpi : ∀ s2 : S, s2.port = .telnet → NulAfter s2 → PortInv s2 := fun s2 e n =>
      ⟨fun _ => n, fun hh => by rw [e] at hh; simp at hh⟩
    cases rr with
    | none => exact add_keeps k.alive (c.port.trans k.port) c.inv (hpi _ hpt hn') rfl
    | some l =>
      dsimp only
      split
      · obtain ⟨s2, tx, e1, i2, n2, p2, _⟩ := endInput_N c.inv hn'
        rw [e1]
        exact add_keeps (r := { r with noEcho := false, inputTo := false }) k.alive ((p2.trans hpt).trans hp.symm) i2
          (hpi _ (p2.trans hpt) n2) (cmd_evok (c.short l rfl) _)
      · exact add_keeps (r := { r with noEcho := false }) k.alive (c.port.trans k.port) c.inv (hpi _ hpt hn')
          (cmd_evok (c.short l rfl) _)

theorem doSetCall_keeps {p : Port} {r : Run} (k : RInv p r) (hp : p = .telnet) (single noecho : Bool) :
    Keeps p r.evs (doSetCall r single noecho) := by
  unfold doSetCall
  split
  · exact ⟨k, id⟩
  · split
    · exact add_keeps k.alive k.port k.inv k.pinv rfl
    · obtain ⟨s', tx, e1, i1, n1, p1, _⟩ := setCall_N k.inv (k.pinv.nul (by rw [k.port]; exact Or.inl hp)) single noecho
      rw [e1]
      exact add_keeps (r := { r with inputTo := true, noEcho := r.noEcho || noecho }) k.alive (p1.trans k.port) i1
        ⟨fun _ => n1, fun hh => by rw [p1, k.port, hp] at hh; simp at hh⟩ (by rw [List.all_append, txEv_evok]; rfl)

theorem doLine_keeps {p : Port} {r : Run} (k : RInv p r) (hp : p = .console) (b : List Byte) :
    Keeps p r.evs (doLine r b) := by
  unfold doLine
  split
  · exact ⟨k, id⟩
  · obtain ⟨s', h1, h2, h3, _, h5⟩ := addConsoleLine_N k.inv (k.pinv.nul (Or.inr (k.port.trans hp))) b
    rw [h1]
    exact add_keeps k.alive (h5.trans k.port) h2 ⟨fun _ => h3, fun hh => by
      rw [h5, k.port, hp] at hh; simp at hh⟩ rfl

theorem workerChunks_len : ∀ (fuel : Nat) (data : List Byte), ∀ c ∈ workerChunks fuel data,
    c.length ≤ consoleMaxLine - consoleReadReserve := by
  intro fuel
  induction fuel with
  | zero => intro data c hc; simp [workerChunks] at hc
  | succ n ih =>
    intro data c hc
    unfold workerChunks at hc
    split at hc
    · cases hc
    · rcases List.mem_cons.mp hc with h | h
      · rw [h, List.length_take]; exact Nat.min_le_left _ _
      · exact ih _ c h

/-- a blob the worker read fits its `line_buffer` with the terminator -/
theorem doLineW_keeps {p : Port} {r : Run} (k : RInv p r) (hp : p = .console) (c : List Byte)
    (hc : c.length ≤ consoleMaxLine - consoleReadReserve) : Keeps p r.evs (doLineW r c) := by
  unfold doLineW
  rw [if_neg (by rw [k.alive]; simp)]
  have h1 : 1 ≤ consoleReadReserve := by decide
  have h2 : consoleReadReserve ≤ consoleMaxLine := by decide
  rw [if_neg (by omega)]
  exact doLine_keeps k hp c

theorem doWpipe_keeps {p : Port} {r : Run} (k : RInv p r) (hp : p = .console) (data : List Byte) :
    Keeps p r.evs (doWpipe r data) := by
  unfold doWpipe
  have hl := workerChunks_len (data.length + 1) data
  generalize workerChunks (data.length + 1) data = cs at hl
  induction cs generalizing r with
  | nil => exact ⟨k, id⟩
  | cons c rest ih =>
    simp only [List.foldl_cons]
    have h1 := doLineW_keeps k hp c (hl c List.mem_cons_self)
    exact h1.trans (ih h1.1 (fun x hx => hl x (List.mem_cons_of_mem _ hx)))

theorem doWpipe_rinv {p : Port} {r : Run} (k : RInv p r) (hp : p = .console) (data : List Byte) : RInv p (doWpipe r data) :=
  (doWpipe_keeps k hp data).1

/-- `line` / `wpipe` (console input) only occur on the console port; get_char / input_to / serve are scripted on the
    telnet port -/
def WellFormed (p : Port) (ops : List Op) : Prop :=
  (∀ op ∈ ops, ((∃ b, op = .line b) ∨ (∃ b, op = .wpipe b)) → p = .console) ∧
  (∀ op ∈ ops, (op = .serve ∨ (∃ ne, op = .getchar ne) ∨ (∃ ne, op = .inputto ne)) → p = .telnet)

theorem stepOp_keeps (o : Oracle) {p : Port} {r : Run} (k : RInv p r) (op : Op)
    (hw : ((∃ b, op = .line b) ∨ (∃ b, op = .wpipe b)) → p = .console)
    (hw2 : (op = .serve ∨ (∃ ne, op = .getchar ne) ∨ (∃ ne, op = .inputto ne)) → p = .telnet) :
    Keeps p r.evs (stepOp o r op) := by
  have kfl : ∀ b : Bool, Inv { r.s with dec := { r.s.dec with fl := { r.s.dec.fl with single := b } } } ∧
      PortInv { r.s with dec := { r.s.dec with fl := { r.s.dec.fl with single := b } } } := fun _ =>
    ⟨k.inv.fl _, fun hh => nulAfter_fl (k.pinv.nul hh) _, k.pinv.noflag⟩
  unfold stepOp
  rw [if_neg (by rw [k.alive]; simp)]
  cases op with
  | send b => exact ⟨⟨k.alive, k.port, k.inv.frame _ _ _ _, ⟨k.pinv.nul, k.pinv.noflag⟩⟩, id⟩
  | iflagSingle =>
    dsimp only
    split
    · exact ⟨k, id⟩
    · exact add_keeps k.alive k.port (kfl true).1 (kfl true).2 rfl
  | iflagLine =>
    dsimp only
    split
    · exact ⟨k, id⟩
    · exact add_keeps k.alive k.port (kfl false).1 (kfl false).2 rfl
  | read => exact doRead_keeps o k
  | chunk b =>
    exact doRead_keeps o (r := { r with s := { r.s with sock := r.s.sock ++ b } })
      ⟨k.alive, k.port, k.inv.frame _ _ _ _, ⟨k.pinv.nul, k.pinv.noflag⟩⟩
  | extract => exact doExtract_keeps k
  | drain => exact drainLoop_keeps 5000 k
  | finish => exact finishLoop_keeps o 20000 k
  | line b => exact doLine_keeps k (hw (Or.inl ⟨b, rfl⟩)) b
  | wpipe b => exact doWpipe_keeps k (hw (Or.inr ⟨b, rfl⟩)) b
  | snoopOn =>
    dsimp only
    split
    · exact ⟨k, id⟩
    · exact add_keeps (r := { r with snoop := true }) k.alive k.port k.inv k.pinv rfl
  | getchar ne => exact doSetCall_keeps k (hw2 (Or.inr (Or.inl ⟨ne, rfl⟩))) true ne
  | inputto ne => exact doSetCall_keeps k (hw2 (Or.inr (Or.inr ⟨ne, rfl⟩))) false ne
  | serve => exact doServe_keeps k (hw2 (Or.inl rfl))

structure RInvE (p : Port) (r : Run) : Prop where
  k : RInv p r
  ev : r.evs.all evOK = true

theorem run_ev (p : Port) (o : Oracle) (ops : List Op) (hw : WellFormed p ops) : RInvE p (run p o ops) := by
  unfold run
  have h0 : RInvE p { s := S.init p, evs := afterStep (S.init p) } := by
    refine ⟨⟨rfl, rfl, init_inv p, ⟨fun _ => nulAfter_init p, fun _ => rfl⟩⟩, ?_⟩
    rcases afterStep_ok (init_inv p) with h1 | h1 <;> rw [h1]
    · rfl
    · have := (init_inv p).se; have := (init_inv p).eMax
      simp only [stEv, List.all_cons, List.all_nil, evOK, Bool.and_true, decide_eq_true_eq]
      omega
  suffices H : ∀ (r : Run), RInvE p r → WellFormed p ops → RInvE p (ops.foldl (stepOp o) r) from H _ h0 hw
  induction ops with
  | nil => intro r k _; exact k
  | cons op ops ih =>
    intro r k hw'
    simp only [List.foldl_cons]
    have hwt : WellFormed p ops :=
      ⟨fun x hx hh => hw'.1 x (List.mem_cons_of_mem _ hx) hh, fun x hx hh => hw'.2 x (List.mem_cons_of_mem _ hx) hh⟩
    have st := stepOp_keeps o k.k op (fun hh => hw'.1 op List.mem_cons_self hh) (fun hh => hw'.2 op List.mem_cons_self hh)
    exact ih hwt _ ⟨st.1, st.2 k.ev⟩ hwt

theorem run_rinv (p : Port) (o : Oracle) (ops : List Op) (hw : WellFormed p ops) : RInv p (run p o ops) :=
  (run_ev p o ops hw).k

/-- **the safety clauses of the oracle hold on every model trace**: in the event list of `run` (any port, oracle,
    schedule incl. get_char / input_to switches) there is no `crash` event, every `st` line has
    `text_start ≤ text_end ≤ MAX_TEXT-1`, every `ask n` has `n < MAX_TEXT` and every delivered `cmd` line fits the
    command buffer - the events on which `judgeStep` raises "crash", "index", "ask .. exceeds the input buffer" and
    "line longer than the buffer" do not occur -/
theorem run_events_safe (p : Port) (o : Oracle) (ops : List Op) (hw : WellFormed p ops) :
    ∀ e ∈ (run p o ops).evs, evOK e = true := by
  have := (run_ev p o ops hw).ev
  rw [List.all_eq_true] at this
  exact this

end NV.C13
