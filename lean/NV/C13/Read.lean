/-
C13 — get_user_data: the space rule; the PORT_ASCII line loop; what one read does on the telnet port and on the ascii
port (one theorem each: memory safety, the NUL behind the text and the events in every mode and for every behaviour of
the callbacks, and under its side condition the exact effect on the pending text); from these, safety on every port;
the hold test in front of the read (fix 57d7cb1).
-/
import NV.C13.Extract

namespace NV.C13

open NV.Gen.C13

/-- facts about the space get_user_data computes -/
structure SpaceOK (s s' : S) (sp : Nat) : Prop where
  inv : Inv s'
  port : s'.port = s.port
  dec : s'.dec = s.dec
  sock : s'.sock = s.sock
  closed : s'.closed = s.closed
  /-- telnet: three output bytes per input byte and the terminator still fit -/
  roomT : s.port = .telnet → 3 * sp + s'.tend + 1 ≤ MAXT
  /-- other ports: the bytes and the terminator position fit -/
  roomA : sp + s'.tend + 1 ≤ MAXT
  pos : 0 < sp

/-- the tie to the source: the divisors of the space rule as regenerated from get_user_data -/
theorem space_rule_numbers : 3 ≤ spaceDiv ∧ 3 ≤ spaceDiv2 ∧ 3 ≤ discardSpaceDiv ∧ 0 < compactDiv ∧
    1 ≤ asciiReserve ∧ 3 * (MAXT / discardSpaceDiv) + 1 ≤ MAXT ∧ 0 < MAXT / compactDiv ∧
    0 < MAXT / discardSpaceDiv := by
  decide

theorem div_three_le {x k : Nat} (hk : 3 ≤ k) : 3 * (x / k) ≤ x := by
  have h1 : x / k ≤ x / 3 := Nat.div_le_div_left hk (by decide)
  have h2 : 3 * (x / 3) ≤ x := Nat.mul_div_le x 3
  omega

/-- PORT_ASCII / PORT_BINARY: the space computation leaves room for what will be stored, and while the pending text
    does not fill the buffer it is kept (moved to the front if lines already handed over were still in front of it) -/
theorem computeSpaceOther_spec {s : S} (h : Inv s) (hp : s.port ≠ .telnet) :
    ∃ s1 sp, computeSpaceOther s = .ok (s1, sp) ∧ SpaceOK s s1 sp ∧
      (s.tend - s.tstart + asciiReserve + 1 ≤ MAXT → pend s1 = pend s) := by
  have hlen := h.textLen; have hse := h.se; have hem := h.eMax
  have har : asciiReserve = 1 := rfl
  have hM : 2 ≤ MAXT := by decide
  unfold computeSpaceOther
  rw [if_neg (by omega)]
  have ht : ∃ t, (if s.tstart > 0 then writeAt s.text 0 (slice s.text s.tstart s.tend) else .ok s.text) = .ok t ∧
      t.length = MAXT ∧ slice t 0 (s.tend - s.tstart) = pend s := by
    split
    · obtain ⟨t, w, hl, hs⟩ := move_front (t := s.text) (a := s.tstart) (e := s.tend) (by omega)
      exact ⟨t, w, hl.trans hlen, hs⟩
    · have : s.tstart = 0 := by omega
      exact ⟨_, rfl, hlen, by rw [this]; simp [pend, this]⟩
  obtain ⟨t, ht1, ht2, ht3⟩ := ht
  rw [ht1]
  dsimp only
  rw [if_neg (by omega)]
  split
  · exact ⟨_, _, rfl, ⟨⟨ht2, Nat.le_refl _, by dsimp only; omega, h.dec⟩, rfl, rfl, rfl, rfl, fun hh => absurd hh hp,
      by dsimp only; omega, by omega⟩, fun hok => by omega⟩
  · exact ⟨_, _, rfl, ⟨⟨ht2, Nat.zero_le _, by dsimp only; omega, h.dec⟩, rfl, rfl, rfl, rfl, fun hh => absurd hh hp,
      by dsimp only; omega, by omega⟩, fun _ => ht3⟩

/-- **the space rule**: get_user_data's space computation runs without wrap-around on every port and leaves room for
    what will be stored (`SpaceOK`); on the telnet port it keeps a NUL behind the text, and below the discard threshold
    it keeps the pending text (compacted or not) -/
theorem computeSpace_spec {s : S} (h : Inv s) :
    ∃ s' sp, computeSpace s = .ok (s', sp) ∧ SpaceOK s s' sp ∧
      (s.port = .telnet → (NulAfter s → NulAfter s') ∧
        (keepsPending (s.tend - s.tstart) = true → pend s' = pend s)) ∧
      (s.port ≠ .telnet → s.tend - s.tstart + asciiReserve + 1 ≤ MAXT → pend s' = pend s) := by
  obtain ⟨hd1, hd2, hd3, hc, har, hdisc, hthr, hdpos⟩ := space_rule_numbers
  have hlen := h.textLen
  have hse := h.se
  have hem := h.eMax
  unfold computeSpace
  cases hp : s.port with
  | telnet =>
    simp only
    rw [if_neg (by omega)]
    by_cases c2 : (MAXT - s.tend - 1) / spaceDiv < MAXT / compactDiv
    · obtain ⟨t1, hw, hlen', hpend, hnul⟩ := compact_text (t := s.text) hse (by omega)
      rw [if_pos c2, if_neg (by omega), if_neg (by omega), hw]
      simp only
      rw [if_neg (by omega)]
      by_cases c6 : (MAXT - (s.tend - s.tstart) - 1) / spaceDiv2 < MAXT / compactDiv
      · rw [if_pos c6]
        refine ⟨_, _, rfl, ⟨⟨hlen'.trans hlen, Nat.le_refl _, by dsimp only; omega, h.dec⟩, hp.symm, rfl, rfl, rfl,
          fun _ => by dsimp only; omega, by dsimp only; omega, hdpos⟩, fun _ => ⟨fun hn => ?_, fun hk => ?_⟩,
          fun hh => absurd rfl hh⟩
        · obtain ⟨k, _, hk2, hk3⟩ := hnul hn
          exact ⟨k, Nat.zero_le _, hk2, hk3⟩
        · simp only [keepsPending, Bool.and_eq_true, decide_eq_true_eq] at hk
          omega
      · rw [if_neg c6]
        have := div_three_le (x := MAXT - (s.tend - s.tstart) - 1) hd2
        exact ⟨_, _, rfl, ⟨⟨hlen'.trans hlen, Nat.zero_le _, by dsimp only; omega, h.dec⟩, hp.symm, rfl, rfl, rfl,
          fun _ => by dsimp only; omega, by dsimp only; omega, by omega⟩, fun _ => ⟨hnul, fun _ => hpend⟩,
          fun hh => absurd rfl hh⟩
    · rw [if_neg c2]
      have := div_three_le (x := MAXT - s.tend - 1) hd1
      exact ⟨_, _, rfl, ⟨h, rfl, rfl, rfl, rfl, fun _ => by omega, by omega, by omega⟩, fun _ => ⟨id, fun _ => rfl⟩,
        fun hh => absurd rfl hh⟩
  | ascii | binary | console =>
    obtain ⟨s', sp, e, ok, keep⟩ := computeSpaceOther_spec h (by rw [hp]; decide)
    exact ⟨s', sp, e, ok, (fun hh => by cases hh), fun _ => keep⟩

theorem computeSpace_ok {s : S} (h : Inv s) : ∃ s' sp, computeSpace s = .ok (s', sp) ∧ SpaceOK s s' sp :=
  let ⟨s', sp, e, ok, _⟩ := computeSpace_spec h
  ⟨s', sp, e, ok⟩

/-- what the PORT_ASCII loop, started on `s` / `evs` with `fuel`, guarantees of its result `s'` / `evs'` / `e`, where `L`
    are the lines it handed to process_input: it stays inside the buffer and touches neither decoder, port nor socket.
    Only `done` needs the fuel, and only `notDead` needs `NoDest`. -/
structure AsciiLoopOK (o : Oracle) (fuel : Nat) (s : S) (evs : List Ev) (s' : S) (evs' : List Ev) (L : List (List Byte))
    (e : LoopEnd) : Prop where
  textLen : s'.text.length = MAXT
  se : s'.tstart ≤ s'.tend
  eMax : s'.tend + 1 ≤ MAXT
  dec : s'.dec = s.dec
  port : s'.port = s.port
  sock : s'.sock = s.sock
  ev : evs.all evOK = true → evs'.all evOK = true
  inputs : inputsOf evs' = inputsOf evs ++ L
  notDead : NoDest o → e ≠ .dead
  /-- a loop that ends normally with fuel to spare leaves no LF behind -/
  done : e = .done → countLF (pend s) < fuel → findLF (pend s') = none
  notAborted : hasAbort evs = false → hasAbort evs' = false → e ≠ .aborted
  /-- the lines handed over, then the lines of what is pending now, are the lines of what was pending -/
  lines : ∀ x, asciiLinesAux [] (pend s ++ x) = L ++ asciiLinesAux [] (pend s' ++ x)

/-- the loop that stops where it stands: out of fuel, or no LF pending -/
theorem AsciiLoopOK.stop {o : Oracle} {fuel : Nat} {s : S} {evs : List Ev} (hl : s.text.length = MAXT)
    (hse : s.tstart ≤ s.tend) (he : s.tend + 1 ≤ MAXT) (hd : countLF (pend s) < fuel → findLF (pend s) = none) :
    AsciiLoopOK o fuel s evs s evs [] .done where
  textLen := hl
  se := hse
  eMax := he
  dec := rfl
  port := rfl
  sock := rfl
  ev := id
  inputs := (List.append_nil _).symm
  notDead _ := by decide
  done _ := hd
  notAborted _ _ := by decide
  lines _ := rfl

/-- **the PORT_ASCII line loop**, whatever the callbacks do and however much fuel it has: it stays inside the buffer, and
    the LF-terminated pieces it has passed are handed to process_input in order, each exactly once - `text_start` is
    committed past a line *before* its callback runs, so after an error or a destruct the rest is still pending, in order. -/
theorem asciiLoop_spec (o : Oracle) (fuel : Nat) (s : S) (evs : List Ev) (hl : s.text.length = MAXT)
    (hse : s.tstart ≤ s.tend) (he : s.tend + 1 ≤ MAXT) :
    ∃ s' evs' L e, asciiLoop o fuel s evs = .ok (s', evs', e) ∧ AsciiLoopOK o fuel s evs s' evs' L e := by
  induction fuel generalizing s evs with
  | zero => exact ⟨s, evs, [], _, rfl, .stop hl hse he fun h => by omega⟩
  | succ n ih =>
    unfold asciiLoop
    rw [if_neg (by omega)]
    dsimp only
    rw [show slice s.text s.tstart s.tend = pend s from rfl]
    cases hf : findLF (pend s) with
    | none => exact ⟨s, evs, [], _, rfl, .stop hl hse he fun _ => hf⟩
    | some k =>
      have hk := findLF_lt hf
      rw [pend_length (by omega)] at hk
      have hw : s.tstart + k + ([0] : List Byte).length ≤ s.text.length := by simp; omega
      dsimp only
      rw [writeAt_eq hw]
      dsimp only
      have hlen' : (List.take (s.tstart + k) s.text ++ [0] ++ List.drop (s.tstart + k + ([0] : List Byte).length) s.text).length
          = MAXT := by rw [← hl]; exact writeAt_length (writeAt_eq hw)
      obtain ⟨_, _, hcnt⟩ := findLF_some hf
      -- what is pending behind the line, whatever else of the state changes
      have hp1 : ∀ (c : Nat) (cl : Bool), pend
          ({ s with text := List.take (s.tstart + k) s.text ++ [0] ++ List.drop (s.tstart + k + ([0] : List Byte).length) s.text,
                    tstart := s.tstart + k + 1, cbCount := c, closed := cl } : S) = (pend s).drop (k + 1) := by
        intro c cl
        show slice _ (s.tstart + k + 1) s.tend = _
        rw [slice_write_before (by simp) hw, Nat.add_assoc, ← slice_drop]; rfl
      have hev : evs.all evOK = true → (evs ++ [Ev.input (List.take k (pend s))]).all evOK = true := fun h => by
        rw [List.all_append, h]; rfl
      have hin : inputsOf (evs ++ [Ev.input (List.take k (pend s))]) = inputsOf evs ++ [(pend s).take k] := by
        rw [inputsOf_append]; rfl
      have hline : ∀ x, asciiLinesAux [] (pend s ++ x) = [(pend s).take k] ++ asciiLinesAux [] ((pend s).drop (k + 1) ++ x) :=
        asciiLinesAux_found hf
      cases ho : o s.cbCount with
      | dest =>
        exact ⟨_, _, [(pend s).take k], _, rfl,
          { textLen := hlen', se := by dsimp only; omega, eMax := he, dec := rfl, port := rfl, sock := rfl, ev := hev,
            inputs := hin, notDead := fun hnd => absurd ho (hnd _), done := (fun hh => by cases hh),
            notAborted := fun _ _ => by decide, lines := fun x => by rw [hp1]; exact hline x }⟩
      | err =>
        dsimp only
        refine ⟨_, _, [(pend s).take k], _, rfl,
          { textLen := hlen', se := by dsimp only; omega, eMax := he, dec := rfl, port := rfl, sock := rfl,
            ev := fun h => by rw [List.all_append, hev h]; rfl, inputs := ?_, notDead := fun _ => by decide,
            done := (fun hh => by cases hh), notAborted := ?_, lines := fun x => by rw [hp1]; exact hline x }⟩
        · rw [inputsOf_append, hin]; simp [inputsOf]
        · intro _ hh
          rw [hasAbort_append] at hh
          simp only [hasAbort, List.any_cons, List.any_nil, Bool.or_false, Bool.or_eq_false_iff] at hh
          exact absurd hh.2.2 (by decide)
      | ok =>
        dsimp only
        split
        · have hdrop : (pend s).drop (k + 1) = [] := List.drop_eq_nil_of_le (by rw [pend_length (by omega)]; omega)
          refine ⟨_, _, [(pend s).take k], _, rfl,
            { textLen := hlen', se := Nat.le_refl _, eMax := by dsimp only; omega, dec := rfl, port := rfl, sock := rfl,
              ev := hev, inputs := hin, notDead := fun _ => by decide, done := fun _ _ => ?_,
              notAborted := fun _ _ => by decide, lines := fun x => ?_ }⟩
          · show findLF (slice _ 0 0) = none
            rw [slice_nil_of_ge _ (Nat.le_refl _)]; rfl
          · show _ = _ ++ asciiLinesAux [] (slice _ 0 0 ++ x)
            rw [slice_nil_of_ge _ (Nat.le_refl _), hline x, hdrop]
        · -- the rest of the loop runs on the state with `text_start` behind the line: bounds, frame and end are its own
          obtain ⟨s', evs', L, e, h1, r⟩ := ih
            { s with text := List.take (s.tstart + k) s.text ++ [0] ++ List.drop (s.tstart + k + ([0] : List Byte).length) s.text,
                     tstart := s.tstart + k + 1, cbCount := s.cbCount + 1 } (evs ++ [Ev.input (List.take k (pend s))])
            hlen' (by dsimp only; omega) he
          refine ⟨s', evs', (pend s).take k :: L, e, h1,
            { r with ev := fun h => r.ev (hev h), inputs := ?_,
                     done := fun hd hfu => r.done hd (by rw [hp1 _ s.closed]; omega),
                     notAborted := fun ha hb => r.notAborted (by rw [hasAbort_append, ha]; rfl) hb, lines := fun x => ?_ }⟩
          · rw [r.inputs, hin]; simp
          · rw [hline x, ← hp1 (s.cbCount + 1) s.closed, r.lines x]; rfl

theorem txe_evok (tx : List Byte) : (if tx.isEmpty then ([] : List Ev) else [Ev.tx tx]).all evOK = true := by
  split <;> rfl

theorem ask_evok {n : Nat} (hn : n + 1 ≤ MAXT) {l : List Ev} (hl : l.all evOK = true) : ([Ev.ask n] ++ l).all evOK = true := by
  rw [List.all_append, hl]
  simp only [List.all_cons, List.all_nil, evOK, Bool.and_true, decide_eq_true_eq]; exact hn

/-- a telnet read that took `s.sock.take n` off the socket: the pending text grows by exactly what copy_chars produces
    for it (`r`), and nothing else of it changes -/
structure TelnetGot (s s' : S) (n : Nat) (r : CC) : Prop where
  pos : 0 < n
  sockNe : s.sock ≠ []
  chunk : copyChars s.dec (s.sock.take n) = .ok r
  ok : ChunkOK s.dec (s.sock.take n) r
  text : pend s' = pend s ++ r.out
  sock : s'.sock = s.sock.drop n
  /-- line mode: CMD_IN_BUF is then set iff a complete command is pending -/
  dec : s.dec.fl.single = false →
    s'.dec = { r.d with fl := { r.d.fl with cmdInBuf := r.d.fl.cmdInBuf || hasCmd (pend s') } }

/-- what one read on the telnet port guarantees, in every mode and whatever the callbacks do -/
structure TelnetReadOK (o : Oracle) (s s' : S) (evs : List Ev) : Prop where
  inv : Inv s'
  port : s'.port = .telnet
  single : s'.dec.fl.single = s.dec.fl.single
  nul : NulAfter s → NulAfter s'
  ev : evs.all evOK = true
  noInput : inputsOf evs = []
  /-- below the discard threshold, with a user that is not destructed: the socket was empty and nothing changed, or
      the read got data -/
  effect : keepsPending (s.tend - s.tstart) = true → NoDest o →
    (s.sock = [] ∧ pend s' = pend s ∧ s'.dec = s.dec ∧ s'.sock = []) ∨ ∃ n r, TelnetGot s s' n r

/-- **one read on the telnet port**: no access leaves `text[]`, `sb_buf[]` or the local `buf[]`, the NUL stays behind the
    text, the events pass the safety clauses and none is a process_input line; below the discard threshold the
    pending text is kept (`TelnetReadOK.effect`) -/
theorem getUserData_telnet (o : Oracle) {s : S} (h : Inv s) (hp : s.port = .telnet) :
    ∃ s' evs, getUserData o s = .ok (s', evs) ∧ TelnetReadOK o s s' evs := by
  obtain ⟨s1, sp, hcs, ok, htel, _⟩ := computeSpace_spec h
  obtain ⟨hnul, hpend⟩ := htel hp
  have hp1 : s1.port = .telnet := ok.port.trans hp
  have hroomA := ok.roomA
  unfold getUserData
  rw [if_neg (by rw [hp]; decide), hcs]
  dsimp only
  -- the other ports' branches go before the tests on the socket are walked through
  rw [hp1]
  dsimp only
  split
  · rename_i hempty
    have he : s1.sock = [] := by simpa using hempty
    exact ⟨_, _, rfl,
      { inv := ok.inv, port := hp1, single := by rw [ok.dec], nul := hnul, ev := ask_evok (by omega) rfl, noInput := rfl,
        effect := fun hk _ => .inl ⟨by rw [← ok.sock]; exact he, hpend hk, ok.dec, he⟩ }⟩
  · rename_i hne
    have hne1 : s1.sock ≠ [] := by simpa using hne
    -- recv() got something: the space is positive
    rw [if_neg (by have := ok.pos; simp [List.take_eq_nil_iff, hne1]; omega)]
    have htake : (s1.sock.take sp).length ≤ sp := by simp; omega
    rw [if_neg (by omega)]
    have hl1 := ok.inv.textLen
    have hse1 := ok.inv.se
    obtain ⟨r', n', dead, hr', hcb, hdd, hnd'⟩ := copyCharsO_spec o ok.inv.dec s1.cbCount (s1.sock.take sp)
    rw [hr']
    dsimp only
    have hevs : ([Ev.ask sp] ++ [Ev.rx (s1.sock.take sp)] ++ r'.cbs ++
        if r'.tx.isEmpty then [] else [Ev.tx r'.tx]).all evOK = true := by
      rw [List.append_assoc, List.append_assoc]
      exact ask_evok (by omega) (by rw [List.all_append, List.all_append, cbEv_evok hcb, txe_evok]; rfl)
    have hin : inputsOf ([Ev.ask sp] ++ [Ev.rx (s1.sock.take sp)] ++ r'.cbs ++
        if r'.tx.isEmpty then [] else [Ev.tx r'.tx]) = [] := by
      rw [inputsOf_append, inputsOf_append, cbEv_inputs hcb]; cases r'.tx.isEmpty <;> rfl
    cases dead with
    | true =>
      simp only [if_true]
      exact ⟨_, _, rfl,
        { inv := ok.inv.frame _ _ _ _, port := rfl, single := by dsimp only; rw [ok.dec], nul := hnul, ev := hevs,
          noInput := hin, effect := fun _ hnd => by cases hdd hnd }⟩
    | false =>
      simp only [Bool.false_eq_true, if_false]
      obtain ⟨r, hr, ed, eo, _⟩ := hnd' rfl
      obtain ⟨r0, hr0, ck⟩ := copyChars_ok ok.inv.dec (s1.sock.take sp)
      rw [hr] at hr0; injection hr0 with hr0; subst hr0
      rw [ed, eo]
      -- three bytes of text per byte read, and the terminator, fit behind `text_end`: the space rule
      have hroomT := ok.roomT hp
      have hout := ck.len
      obtain ⟨t1, t2, e1, e2, hl2, hsl, hz⟩ := append_terminate (t := s1.text) (x := r.out) (e := s1.tend) (by omega)
      rw [e1]; dsimp only
      rw [e2]; dsimp only
      rw [setCmdFlag_eq (by dsimp only; rw [hl2]; omega)]
      refine ⟨_, _, rfl,
        { inv := ⟨hl2.trans hl1, by dsimp only; omega, by dsimp only; omega, decInv_fl ck.inv _⟩, port := rfl,
          single := by dsimp only; rw [ck.single, ok.dec],
          nul := fun _ => ⟨s1.tend + r.out.length, Nat.le_refl _, by dsimp only; rw [hl2]; omega, hz⟩, ev := hevs,
          noInput := hin,
          effect := fun hk _ => .inr ⟨sp, r,
            { pos := ok.pos, sockNe := by rw [← ok.sock]; exact hne1, chunk := by rw [← ok.sock, ← ok.dec]; exact hr,
              ok := by rw [← ok.sock, ← ok.dec]; exact ck, text := (hsl _ hse1).trans (by rw [← hpend hk]; rfl),
              sock := by dsimp only; rw [ok.sock], dec := fun hns => ?_ }⟩ }⟩
      dsimp only
      rw [if_neg (by rw [ck.single, ok.dec, hns]; decide)]
      rfl

/-- what one PORT_ASCII read guarantees, whatever the callbacks do; the last three while the pending text does not fill
    the buffer -/
structure AsciiReadOK (o : Oracle) (s s' : S) (evs : List Ev) : Prop where
  inv : Inv s'
  port : s'.port = .ascii
  dec : s'.dec = s.dec
  ev : evs.all evOK = true
  idle : s.tend - s.tstart + asciiReserve + 1 ≤ MAXT → s.sock = [] → pend s' = pend s
  fin : s.tend - s.tstart + asciiReserve + 1 ≤ MAXT → s.sock ≠ [] → NoDest o → hasAbort evs = false →
    findLF (pend s') = none
  /-- the lines of (pending text ++ bytes read ++ anything) are the lines handed to process_input followed by the lines
      of (what is pending now ++ that) - also when a callback raised an error or destructed the user, since everything
      is committed before it runs -/
  lines : s.tend - s.tstart + asciiReserve + 1 ≤ MAXT → ∃ n, s'.sock = s.sock.drop n ∧
    ∀ x, asciiLinesAux [] (pend s ++ s.sock.take n ++ x) = inputsOf evs ++ asciiLinesAux [] (pend s' ++ x)

/-- **one PORT_ASCII read**: memory safe, the decoder untouched, safe events, every complete line handed over once -/
theorem getUserData_ascii (o : Oracle) {s : S} (h : Inv s) (hp : s.port = .ascii) :
    ∃ s' evs, getUserData o s = .ok (s', evs) ∧ AsciiReadOK o s s' evs := by
  obtain ⟨s1, sp, hcs, ok, _, hkeep'⟩ := computeSpace_spec h
  have hkeep := hkeep' (by rw [hp]; decide)
  have i1 := ok.inv
  have hl := i1.textLen; have hse := i1.se; have hem := i1.eMax
  have hroom := ok.roomA
  have hpa : s1.port = .ascii := ok.port.trans hp
  unfold getUserData
  rw [if_neg (by rw [hp]; decide), hcs]
  dsimp only
  rw [hpa]
  dsimp only
  split
  · rename_i hempty
    have he : s1.sock = [] := by simpa using hempty
    refine ⟨_, _, rfl,
      { inv := i1, port := hpa, dec := ok.dec, ev := ask_evok (by omega) rfl, idle := fun hok _ => hkeep hok,
        fin := fun _ hne => ?_, lines := fun hok => ⟨0, by rw [ok.sock]; simp, fun x => ?_⟩ }⟩
    · rw [← ok.sock] at hne; exact absurd he hne
    · rw [hkeep hok]; simp [inputsOf]
  · rename_i hne
    have hne1 : s1.sock ≠ [] := by simpa using hne
    have hnil : ∀ {P : Prop}, s.sock = [] → P := fun he => absurd (ok.sock.trans he) hne1
    rw [if_neg (by have := ok.pos; simp [List.take_eq_nil_iff, hne1]; omega)]
    have htake : (s1.sock.take sp).length ≤ sp := by simp; omega
    rw [if_neg (by omega)]
    obtain ⟨t1, w1, hl2, hsl⟩ := append_text (t := s1.text) (x := s1.sock.take sp) (e := s1.tend) (by omega)
    rw [w1]
    dsimp only
    have hp0 : pend ({ s1 with port := Port.ascii, sock := List.drop sp s1.sock, text := t1, tend := s1.tend + (s1.sock.take sp).length } : S)
        = pend s1 ++ s1.sock.take sp := hsl _ hse
    -- the fuel the code's loop is given exceeds the number of LFs in the text
    have hcnt : countLF (pend s1 ++ s1.sock.take sp) < s1.tend - s1.tstart + (s1.sock.take sp).length + 1 := by
      have := countLF_le (pend s1 ++ s1.sock.take sp)
      rw [List.length_append, pend_length (by omega)] at this; omega
    obtain ⟨s2, evs2, L, e, h1, lp⟩ := asciiLoop_spec o
      (s1.tend - s1.tstart + (s1.sock.take sp).length + 1)
      { s1 with port := Port.ascii, sock := List.drop sp s1.sock, text := t1, tend := s1.tend + (s1.sock.take sp).length } []
      (hl2.trans hl) (by dsimp only; omega) (by dsimp only; omega)
    rw [h1]
    have hL : inputsOf evs2 = L := by simpa [inputsOf] using lp.inputs
    have hd2 : DecInv s2.dec := by rw [lp.dec]; exact i1.dec
    have i2 : Inv s2 := ⟨lp.textLen, lp.se, lp.eMax, hd2⟩
    have hev : ([Ev.ask sp] ++ [Ev.rx (s1.sock.take sp)] ++ evs2).all evOK = true := by
      rw [List.append_assoc]; exact ask_evok (by omega) (by rw [List.all_append, lp.ev rfl]; rfl)
    have hpre : hasAbort ([Ev.ask sp] ++ [Ev.rx (s1.sock.take sp)] ++ evs2) = hasAbort evs2 := by
      rw [hasAbort_append]; rfl
    have hlines : s.tend - s.tstart + asciiReserve + 1 ≤ MAXT → ∀ x, asciiLinesAux [] (pend s ++ s.sock.take sp ++ x) =
        inputsOf ([Ev.ask sp] ++ [Ev.rx (s1.sock.take sp)] ++ evs2) ++ asciiLinesAux [] (pend s2 ++ x) := by
      intro hok x
      have := lp.lines x
      rw [hp0, hkeep hok, ok.sock] at this
      rw [inputsOf_append, hL]
      exact this
    have hsock : s2.sock = s.sock.drop sp := by rw [lp.sock]; dsimp only; rw [ok.sock]
    have hdone : e = .done → findLF (pend s2) = none := fun hd => lp.done hd (by rw [hp0]; exact hcnt)
    -- however the loop ended the read leaves it in the loop's state `s2`; the ends differ in why no LF is left
    have base : (NoDest o → hasAbort evs2 = false → findLF (pend s2) = none) →
        AsciiReadOK o s s2 ([Ev.ask sp] ++ [Ev.rx (s1.sock.take sp)] ++ evs2) := fun hfin =>
      { inv := i2, port := lp.port, dec := lp.dec.trans ok.dec, ev := hev, idle := fun _ => hnil,
        fin := fun _ _ hnd hab => hfin hnd (hpre ▸ hab), lines := fun hok => ⟨sp, hsock, hlines hok⟩ }
    cases e with
    | dead => exact ⟨_, _, rfl, base fun hnd _ => absurd rfl (lp.notDead hnd)⟩
    | aborted => exact ⟨_, _, rfl, base fun _ hab => absurd rfl (lp.notAborted rfl hab)⟩
    | done =>
      have hl2' := lp.textLen; have hse2 := lp.se; have hem2 := lp.eMax
      dsimp only
      split
      · rw [if_neg (by omega)]
        obtain ⟨t3, w3, hl3, hsl3⟩ := move_front (t := s2.text) (a := s2.tstart) (e := s2.tend) (by omega)
        rw [w3]
        dsimp only
        have hp3 : pend ({ s2 with text := t3, tend := s2.tend - s2.tstart, tstart := 0 } : S) = pend s2 := hsl3
        exact ⟨_, _, rfl,
          { base fun _ _ => hdone rfl with
            inv := ⟨hl3.trans lp.textLen, Nat.zero_le _, by dsimp only; omega, hd2⟩, idle := fun _ => hnil,
            fin := fun _ _ _ _ => by rw [hp3]; exact hdone rfl,
            lines := fun hok => ⟨sp, hsock, fun x => by rw [hp3]; exact hlines hok x⟩ }⟩
      · exact ⟨_, _, rfl, base fun _ _ => hdone rfl⟩

/-- what every read event guarantees -/
structure ReadOK (s s' : S) (evs : List Ev) : Prop where
  inv : Inv s'
  port : s'.port = s.port
  single : s'.dec.fl.single = s.dec.fl.single
  dec : s.port ≠ .telnet → s'.dec = s.dec
  /-- where get_user_command reads C strings, they will end inside the array -/
  nul : s.port = .telnet ∨ s.port = .console → NulAfter s → NulAfter s'
  /-- `ask n` with `n < MAX_TEXT`; otherwise only rx / wouldblock / callbacks / tx / input / err lines -/
  ev : evs.all evOK = true

/-- **get_user_data keeps the invariant**: for every port, every socket content, every decoder state, every
    iflags and every behaviour of the callbacks (return, LPC error, destruct), no access leaves `text[]`,
    `sb_buf[]` or the local `buf[]`, `text_start ≤ text_end ≤ MAX_TEXT-1` holds afterwards, on the telnet port a NUL
    stays behind the text, and every event emitted passes the safety clauses -/
theorem getUserData_spec (o : Oracle) {s : S} (h : Inv s) : ∃ s' evs, getUserData o s = .ok (s', evs) ∧ ReadOK s s' evs := by
  cases hp : s.port with
  | telnet =>
    obtain ⟨s', evs, e, k⟩ := getUserData_telnet o h hp
    exact ⟨s', evs, e, k.inv, k.port.trans hp.symm, k.single, fun hh => absurd hp hh, fun _ => k.nul, k.ev⟩
  | ascii =>
    obtain ⟨s', evs, e, k⟩ := getUserData_ascii o h hp
    exact ⟨s', evs, e, k.inv, k.port.trans hp.symm, by rw [k.dec], fun _ => k.dec, fun hh => by rw [hp] at hh; simp at hh, k.ev⟩
  | console => exact ⟨s, [], by unfold getUserData; rw [hp]; rfl, h, rfl, rfl, fun _ => rfl, fun _ => id, rfl⟩
  | binary =>
    obtain ⟨s1, sp, hcs, ok, _⟩ := computeSpace_spec h
    have hp1 : s1.port = .binary := ok.port.trans hp
    have hroom := ok.roomA
    have hnt : s.port = .telnet ∨ s.port = .console → False := fun hh => by rw [hp] at hh; simp at hh
    unfold getUserData
    rw [if_neg (by rw [hp]; decide), hcs]
    dsimp only
    rw [hp1]
    dsimp only
    split
    · exact ⟨_, _, rfl, ok.inv, ok.port, by rw [ok.dec], fun _ => ok.dec, fun hh => (hnt hh).elim, ask_evok (by omega) rfl⟩
    · split
      · exact ⟨_, _, rfl, ok.inv.frame _ _ _ _, hp.symm, by dsimp only; rw [ok.dec], fun _ => ok.dec, fun hh => (hnt hh).elim,
          ask_evok (by omega) rfl⟩
      · have htake : (s1.sock.take sp).length ≤ sp := by simp; omega
        rw [if_neg (by omega)]
        cases o s1.cbCount <;>
          exact ⟨_, _, rfl, ok.inv.frame _ _ _ _, hp.symm, by dsimp only; rw [ok.dec], fun _ => ok.dec, fun hh => (hnt hh).elim,
            by rw [List.append_assoc]; exact ask_evok (by omega) rfl⟩

theorem getUserData_ok (o : Oracle) {s : S} (h : Inv s) : ∃ s' evs, getUserData o s = .ok (s', evs) ∧ Inv s' :=
  let ⟨s', evs, e, ok⟩ := getUserData_spec o h
  ⟨s', evs, e, ok.inv⟩

/-- get_user_data on a telnet port keeps the NUL behind the text (every oracle, every iflags) -/
theorem getUserData_N (o : Oracle) {s : S} (h : Inv s) (hn : NulAfter s) (hp : s.port = .telnet) :
    ∃ s' evs, getUserData o s = .ok (s', evs) ∧ Inv s' ∧ NulAfter s' ∧ s'.port = .telnet ∧
      s'.dec.fl.single = s.dec.fl.single :=
  let ⟨s', evs, e, ok⟩ := getUserData_spec o h
  ⟨s', evs, e, ok.inv, ok.nul (.inl hp) hn, ok.port.trans hp, ok.single⟩

/-- every event of one get_user_data: `ask n` with `n < MAX_TEXT`; otherwise only rx / wouldblock / callbacks / tx /
    input / err lines -/
theorem getUserData_evok (o : Oracle) {s s' : S} {evs : List Ev} (hi : Inv s) (h : getUserData o s = .ok (s', evs)) :
    evs.all evOK = true :=
  (ok_elim (getUserData_spec o hi) h).ev

/-- **one telnet read below the discard threshold**: the pending text grows by exactly what copy_chars produces for
    the bytes taken from the socket; nothing else of the pending text changes -/
theorem telnet_read_exact {o : Oracle} (hnd : NoDest o) {s : S} (h : Inv s) (hp : s.port = .telnet)
    (hns : s.dec.fl.single = false) (hk : keepsPending (s.tend - s.tstart) = true) :
    ∃ s' evs, getUserData o s = .ok (s', evs) ∧ Inv s' ∧ s'.port = .telnet ∧ inputsOf evs = [] ∧
      ((s.sock = [] ∧ pend s' = pend s ∧ s'.dec = s.dec ∧ s'.sock = []) ∨
       (∃ n r, 0 < n ∧ s.sock ≠ [] ∧ copyChars s.dec (s.sock.take n) = .ok r ∧ ChunkOK s.dec (s.sock.take n) r ∧
          pend s' = pend s ++ r.out ∧ s'.sock = s.sock.drop n ∧
          s'.dec = { r.d with fl := { r.d.fl with cmdInBuf := r.d.fl.cmdInBuf || hasCmd (pend s') } })) :=
  let ⟨s', evs, e, k⟩ := getUserData_telnet o h hp
  ⟨s', evs, e, k.inv, k.port, k.noInput, (k.effect hk hnd).imp id fun ⟨n, r, g⟩ =>
    ⟨n, r, g.pos, g.sockNe, g.chunk, g.ok, g.text, g.sock, g.dec hns⟩⟩

/-- the hold test has constants of its own (`holdDiv`, `holdCmpDiv`) and `keepsPending` is written with the second
    space divisor, each regenerated from its own place in get_user_data; `holdRead_eq` needs them to coincide -/
theorem hold_divisors : holdDiv = spaceDiv2 ∧ holdCmpDiv = compactDiv ∧ spaceDiv = spaceDiv2 := by decide

theorem holdRead_other {s : S} (hp : s.port ≠ .telnet) : holdRead s = .ok false := by
  have hne : (s.port != Port.telnet) = true := by
    cases hq : s.port with
    | telnet => exact absurd hq hp
    | ascii | binary | console => decide
  unfold holdRead
  rw [if_pos hne]

/-- **the hold test is cmd_in_buf, asked on the telnet port only and only above the discard threshold.**  Below it the
    second space test cannot fail: its divisor is that of `keepsPending`, and the first space is not larger. -/
theorem holdRead_eq {s : S} (h : Inv s) :
    holdRead s = if s.port = .telnet ∧ keepsPending (s.tend - s.tstart) = false then cmdInBuf s else .ok false := by
  have hl := h.textLen; have hse := h.se; have hem := h.eMax
  obtain ⟨e1, e2, e3⟩ := hold_divisors
  by_cases hp : s.port = .telnet
  · have hmono : (MAXT - s.tend - 1) / spaceDiv ≤ (MAXT - (s.tend - s.tstart) - 1) / spaceDiv2 := by
      rw [e3]; exact Nat.div_le_div_right (by omega)
    have hk : keepsPending (s.tend - s.tstart) =
        decide ((MAXT - (s.tend - s.tstart) - 1) / spaceDiv2 ≥ MAXT / compactDiv) := by
      unfold keepsPending
      rw [decide_eq_true (show s.tend - s.tstart + 1 ≤ MAXT by omega), Bool.and_true]
    by_cases hc : (MAXT - (s.tend - s.tstart) - 1) / spaceDiv2 ≥ MAXT / compactDiv
    · rw [if_neg (by rw [hk, decide_eq_true hc]; simp)]
      unfold holdRead
      rw [if_neg (by rw [hp]; decide), if_neg (by omega), e1, e2]
      split
      · rw [if_neg (by omega), if_neg (by omega)]
      · rfl
    · rw [if_pos ⟨hp, by rw [hk, decide_eq_false hc]⟩]
      unfold holdRead
      rw [if_neg (by rw [hp]; decide), if_neg (by omega), e1, e2, if_pos (by omega), if_neg (by omega), if_pos (by omega)]
  · rw [holdRead_other hp, if_neg (fun hh => hp hh.1)]

/-- get_user_data either holds the read back (nothing is read, nothing changes but CMD_IN_BUF) or does what
    `getUserData` describes -/
theorem getUserDataH_cases (o : Oracle) {s : S} (h : Inv s) :
    (getUserDataH o s = .ok ({ s with dec := { s.dec with fl := { s.dec.fl with cmdInBuf := true } } }, []) ∧
      s.port = .telnet ∧ holdRead s = .ok true) ∨
    (getUserDataH o s = getUserData o s ∧ holdRead s = .ok false) := by
  unfold getUserDataH
  rw [holdRead_eq h]
  by_cases c : s.port = .telnet ∧ keepsPending (s.tend - s.tstart) = false
  · obtain ⟨b, hb⟩ := cmdInBuf_total s (by have := h.textLen; have := h.eMax; omega)
    rw [if_pos c, hb]
    cases b
    · exact Or.inr ⟨rfl, rfl⟩
    · exact Or.inl ⟨rfl, c.1, rfl⟩
  · rw [if_neg c]; exact Or.inr ⟨rfl, rfl⟩

theorem getUserDataH_other (o : Oracle) {s : S} (hp : s.port ≠ .telnet) : getUserDataH o s = getUserData o s := by
  unfold getUserDataH
  rw [holdRead_other hp]

/-- what `getUserData_spec` says holds whether the read is held back or not -/
theorem getUserDataH_spec (o : Oracle) {s : S} (h : Inv s) :
    ∃ s' evs, getUserDataH o s = .ok (s', evs) ∧ ReadOK s s' evs := by
  rcases getUserDataH_cases o h with ⟨hh, hpt, _⟩ | ⟨hh, _⟩
  · exact ⟨_, _, hh, h.fl _, rfl, rfl, fun hn => absurd hpt hn,
      fun _ hn => nulAfter_fl hn _, rfl⟩
  · rw [hh]; exact getUserData_spec o h

/-- below the discard threshold nothing is held back (case (a) of `typeahead_never_discarded`) -/
theorem getUserDataH_keeps (o : Oracle) {s : S} (h : Inv s) (hk : keepsPending (s.tend - s.tstart) = true) :
    getUserDataH o s = getUserData o s := by
  unfold getUserDataH
  rw [holdRead_eq h, if_neg (by rw [hk]; simp)]

/-- above the threshold the hold test comes down to cmd_in_buf -/
theorem holdRead_above {s : S} (h : Inv s) (hp : s.port = .telnet) (hk : keepsPending (s.tend - s.tstart) = false) :
    holdRead s = cmdInBuf s := by
  rw [holdRead_eq h, if_pos ⟨hp, hk⟩]

theorem holdRead_true {s : S} (h : Inv s) (hp : s.port = .telnet) (hns : s.dec.fl.single = false)
    (hk : keepsPending (s.tend - s.tstart) = false) (hc : hasCmd (pend s) = true) : holdRead s = .ok true := by
  rw [holdRead_above h hp hk, cmdInBuf_line (by have := h.textLen; have := h.eMax; omega) hns, hc]

/-- a read that goes ahead above the threshold finds no complete command pending (case (c) of
    `typeahead_never_discarded`) -/
theorem discard_only_unfinished {s : S} (h : Inv s) (hp : s.port = .telnet)
    (hk : keepsPending (s.tend - s.tstart) = false) (hh : holdRead s = .ok false) : cmdInBuf s = .ok false := by
  rw [← holdRead_above h hp hk]; exact hh

/-- **complete commands typed ahead are never discarded** (telnet port, line mode): whatever is pending, a read event
    is an ordinary read (a), or is held back without touching socket or buffer (b), or finds no complete command
    pending (c) -/
theorem typeahead_never_discarded (o : Oracle) {s : S} (h : Inv s) (hp : s.port = .telnet) (hns : s.dec.fl.single = false) :
    (keepsPending (s.tend - s.tstart) = true ∧ getUserDataH o s = getUserData o s) ∨
    (getUserDataH o s = .ok ({ s with dec := { s.dec with fl := { s.dec.fl with cmdInBuf := true } } }, [])) ∨
    (getUserDataH o s = getUserData o s ∧ hasCmd (pend s) = false) := by
  by_cases hk : keepsPending (s.tend - s.tstart) = true
  · exact Or.inl ⟨hk, getUserDataH_keeps o h hk⟩
  · rcases getUserDataH_cases o h with ⟨hh, _, _⟩ | ⟨hh, hf⟩
    · exact Or.inr (Or.inl hh)
    · refine Or.inr (Or.inr ⟨hh, ?_⟩)
      have hc := discard_only_unfinished h hp (by simpa using hk) hf
      rw [cmdInBuf_line (by have := h.textLen; have := h.eMax; omega) hns] at hc
      injection hc

end NV.C13
