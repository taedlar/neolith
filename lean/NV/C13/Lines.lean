/-
C13 — the specification side, free of buffers and reads: editing, the framing grammar and its rendering as stored text,
and the splitting of decoded text into commands (`cmdsOf`), of ascii streams into lines, of console input into commands.
-/
import NV.C13.Spec

namespace NV.C13

open NV.Gen.C13

def renderTok : Tok → List Byte
  | .ch b => [b]
  | .nl => [bSP, bBS, bNUL]

def renderToks (l : List Tok) : List Byte := l.flatMap renderTok

theorem renderToks_append (a b : List Tok) : renderToks (a ++ b) = renderToks a ++ renderToks b := by
  simp [renderToks]

theorem toks_append (m : Mode) (a b : List Byte) : toks m (a ++ b) = toks m a ++ toks (modeAfter m a) b := by
  induction a generalizing m with
  | nil => simp [toks, modeAfter]
  | cons x a ih => simp [toks, modeAfter, ih, List.append_assoc]

theorem modeAfter_append (m : Mode) (a b : List Byte) : modeAfter m (a ++ b) = modeAfter (modeAfter m a) b := by
  induction a generalizing m with
  | nil => simp [modeAfter]
  | cons x a ih => simp [modeAfter, ih]

theorem toks_cons (m : Mode) (b : Byte) (r : List Byte) : toks m (b :: r) = (stepTok m b).2 ++ toks (stepTok m b).1 r := rfl

theorem step_data_cr : stepTok .data bCR = (.cr, []) := by decide

theorem step_cr_lf : stepTok .cr bLF = (.data, [.nl]) := by decide

theorem step_cr_cr : stepTok .cr bCR = (.cr, []) := by decide

theorem step_data_ch {c : Byte} (h1 : c ≠ bIAC) (h2 : c ≠ bCR) : stepTok .data c = (.data, [.ch c]) := by
  show (if c = bIAC then (Mode.iac, []) else if c = bCR then (Mode.cr, []) else (Mode.data, [Tok.ch c])) = _
  rw [if_neg h1, if_neg h2]

theorem renderToks_plain : ∀ (l : List Byte), (∀ b ∈ l, b ≠ bIAC ∧ b ≠ bCR) → renderToks (toks .data l) = l := by
  intro l
  induction l with
  | nil => intro _; rfl
  | cons c rest ih =>
    intro h
    have hc := h c List.mem_cons_self
    rw [toks_cons, step_data_ch hc.1 hc.2]
    show renderToks ([Tok.ch c] ++ toks .data rest) = c :: rest
    have : renderToks ([Tok.ch c] ++ toks .data rest) = [c] ++ renderToks (toks .data rest) := by
      simp [renderToks, renderTok]
    rw [this, ih (fun b hb => h b (List.mem_cons_of_mem _ hb))]
    rfl

theorem telnetNegAux_eq (acc l : List Byte) :
    telnetNegAux acc l = l.foldl (fun a c => if c = bBS ∨ c = bDEL then a.dropLast else a ++ [c]) acc := by
  induction l generalizing acc with
  | nil => rfl
  | cons c r ih =>
    unfold telnetNegAux
    simp only [List.foldl_cons]
    split
    · split
      · rename_i he
        have : acc = [] := by simpa using he
        subst this
        simpa using ih []
      · exact ih _
    · exact ih _

theorem telnetNeg_eq_edit (l : List Byte) : telnetNeg l = edit l := telnetNegAux_eq [] l

theorem edit_append (a b : List Byte) :
    edit (a ++ b) = b.foldl (fun acc c => if c = bBS ∨ c = bDEL then acc.dropLast else acc ++ [c]) (edit a) := by
  simp [edit, List.foldl_append]

theorem edit_plain (l : List Byte) (h : ∀ c ∈ l, c ≠ bBS ∧ c ≠ bDEL) : edit l = l := by
  have : ∀ acc, l.foldl (fun a c => if c = bBS ∨ c = bDEL then a.dropLast else a ++ [c]) acc = acc ++ l := by
    induction l with
    | nil => intro acc; simp
    | cons c r ih =>
      intro acc
      have hc := h c (by simp)
      simp only [List.foldl_cons]
      rw [if_neg (by simp [hc.1, hc.2])]
      rw [ih (fun x hx => h x (by simp [hx]))]
      simp
  simpa [edit] using this []

/-- the `' ' '\b'` pair that copy_chars stores in front of the terminator disappears under editing -/
theorem edit_sp_bs (l : List Byte) : edit (l ++ [bSP, bBS]) = edit l := by
  rw [edit_append]
  have e1 : ¬ (bSP = bBS ∨ bSP = bDEL) := by decide
  have e2 : (bBS = bBS ∨ bBS = bDEL) := Or.inl rfl
  simp [List.foldl_cons, e1]

theorem edit_length_le (l : List Byte) : (edit l).length ≤ l.length := by
  have : ∀ acc : List Byte, (l.foldl (fun a c => if c = bBS ∨ c = bDEL then a.dropLast else a ++ [c]) acc).length
      ≤ acc.length + l.length := by
    induction l with
    | nil => intro acc; simp
    | cons c r ih =>
      intro acc
      simp only [List.foldl_cons]
      split
      · have := ih acc.dropLast; simp at this ⊢; omega
      · have := ih (acc ++ [c]); simp at this ⊢; omega
  simpa [edit] using this []

/-- a complete option negotiation read in data position yields no text and returns to data position -/
theorem toks_negotiation (c o : Byte) (hc : c = bWILL ∨ c = bWONT ∨ c = bDO ∨ c = bDONT) (rest : List Byte) :
    toks .data (bIAC :: c :: o :: rest) = toks .data rest := by
  have h1 : c ≠ bIAC := by rcases hc with rfl | rfl | rfl | rfl <;> decide
  simp [toks, stepTok, h1, hc]

/-- inside a sub-negotiation nothing is text as long as no IAC occurs -/
theorem toks_sb_body (body rest : List Byte) (hb : ∀ x ∈ body, x ≠ bIAC) :
    toks .sb (body ++ rest) = toks .sb rest := by
  induction body with
  | nil => rfl
  | cons x r ih =>
    have hx := hb x (by simp)
    simp only [List.cons_append, toks, stepTok, if_neg hx, List.nil_append]
    exact ih (fun y hy => hb y (by simp [hy]))

/-- a complete sub-negotiation `IAC SB body IAC SE` read in data position yields no text -/
theorem toks_subnegotiation (body rest : List Byte) (hb : ∀ x ∈ body, x ≠ bIAC) :
    toks .data (bIAC :: bSB :: (body ++ bIAC :: bSE :: rest)) = toks .data rest := by
  have e1 : bSB ≠ bIAC := by decide
  have e2 : ¬ (bSB = bWILL ∨ bSB = bWONT ∨ bSB = bDO ∨ bSB = bDONT) := by decide
  have e3 : bSE ≠ bIAC := by decide
  simp only [toks, stepTok, if_true, if_neg e1, if_neg e2, List.nil_append]
  rw [toks_sb_body body _ hb]
  simp [toks, stepTok, e3]

/-- a two-byte command `IAC x` read in data position yields no text -/
theorem toks_command (x : Byte) (h1 : x ≠ bIAC) (h2 : ¬ (x = bWILL ∨ x = bWONT ∨ x = bDO ∨ x = bDONT)) (h3 : x ≠ bSB)
    (rest : List Byte) : toks .data (bIAC :: x :: rest) = toks .data rest := by
  simp [toks, stepTok, h1, h2, h3]

/-- text tokens are only ever: a byte of the stream, or 255 for a doubled IAC -/
theorem toks_bytes_from_stream (m : Mode) (stream : List Byte) :
    ∀ t ∈ toks m stream, t = .nl ∨ ∃ b, t = .ch b ∧ b ∈ stream := by
  induction stream generalizing m with
  | nil => intro t ht; simp [toks] at ht
  | cons x r ih =>
    intro t ht
    simp only [toks, List.mem_append] at ht
    rcases ht with ht | ht
    · have : t = .nl ∨ t = .ch x := by
        cases m <;> simp only [stepTok] at ht <;> (repeat' split at ht) <;> simp_all
      rcases this with h | h
      · exact Or.inl h
      · exact Or.inr ⟨x, h, by simp⟩
    · rcases ih _ t ht with h | ⟨b, hb, hm⟩
      · exact Or.inl h
      · exact Or.inr ⟨b, hb, by simp [hm]⟩

theorem countNZ_lt_mem {l : List Byte} (h : countNZ l < l.length) : (0 : Byte) ∈ l := by
  induction l with
  | nil => simp at h
  | cons a r ih =>
    unfold countNZ at h
    split at h
    · rename_i ha; simp [ha]
    · simp at h; simp [ih (by omega)]

theorem cstrOf_length_lt {l : List Byte} (h : (0 : Byte) ∈ l) : (cstrOf l).length < l.length := by
  induction l with
  | nil => simp at h
  | cons a r ih =>
    unfold cstrOf
    split
    · simp
    · rename_i ha
      have : (0 : Byte) ∈ r := by
        rcases List.mem_cons.mp h with h | h
        · exact absurd h.symm ha
        · exact h
      simp; exact ih this

/-- the commands contained in decoded text: NUL-terminated pieces, empty ones skipped, edited.
    `cur` is the piece being collected, last byte first. -/
def cmdsOf (cur : List Byte) : List Byte → List (List Byte)
  | [] => []
  | b :: r =>
    if b = 0 then (if cur = [] then cmdsOf [] r else edit cur.reverse :: cmdsOf [] r)
    else cmdsOf (b :: cur) r

def dropZ (l : List Byte) : List Byte := l.drop (countZ l)

def takeNZ (l : List Byte) : List Byte := l.take (countNZ l)

def dropNZ (l : List Byte) : List Byte := l.drop (countNZ l)

theorem dropZ_cons_zero (r : List Byte) : dropZ (0 :: r) = dropZ r := by
  simp [dropZ, countZ]

theorem dropZ_cons_ne {b : Byte} (h : b ≠ 0) (r : List Byte) : dropZ (b :: r) = b :: r := by
  simp [dropZ, countZ, h]

/-- leading NULs never start a command -/
theorem cmdsOf_dropZ (l x : List Byte) : cmdsOf [] (l ++ x) = cmdsOf [] (dropZ l ++ x) := by
  induction l with
  | nil => rfl
  | cons b r ih =>
    by_cases hb : b = 0
    · subst hb
      rw [dropZ_cons_zero, ← ih]
      simp [cmdsOf]
    · rw [dropZ_cons_ne hb]

theorem cmdsOf_nz_prefix (nz y cur : List Byte) (h : ∀ b ∈ nz, b ≠ 0) :
    cmdsOf cur (nz ++ y) = cmdsOf (nz.reverse ++ cur) y := by
  induction nz generalizing cur with
  | nil => rfl
  | cons b r ih =>
    have hb := h b (by simp)
    simp only [List.cons_append, cmdsOf, if_neg hb]
    rw [ih _ (fun c hc => h c (by simp [hc]))]
    simp

theorem takeNZ_nz (l : List Byte) : ∀ b ∈ takeNZ l, b ≠ 0 := by
  induction l with
  | nil => intro b hb; simp [takeNZ] at hb
  | cons a r ih =>
    intro b hb
    unfold takeNZ countNZ at hb
    split at hb
    · simp at hb
    · rename_i ha
      simp only [List.take_succ_cons, List.mem_cons] at hb
      rcases hb with rfl | hb
      · exact ha
      · exact ih b hb

theorem takeNZ_append_dropNZ (l : List Byte) : takeNZ l ++ dropNZ l = l := by
  simp [takeNZ, dropNZ]

theorem dropNZ_of_lt {l : List Byte} (h : countNZ l < l.length) : ∃ rest, dropNZ l = 0 :: rest := by
  induction l with
  | nil => simp at h
  | cons a r ih =>
    unfold dropNZ countNZ
    split
    · rename_i ha; exact ⟨r, by simp [ha]⟩
    · rename_i ha
      have : countNZ r < r.length := by
        unfold countNZ at h; rw [if_neg ha] at h; simpa using h
      obtain ⟨rest, hr⟩ := ih this
      exact ⟨rest, by simpa [dropNZ] using hr⟩

theorem dropNZ_of_ge {l : List Byte} (h : ¬ countNZ l < l.length) : dropNZ l = [] := by
  have : countNZ l ≤ l.length := by
    induction l with
    | nil => simp [countNZ]
    | cons a r ih => unfold countNZ; split <;> simp; omega
  simp [dropNZ]; omega

theorem dropZ_head_ne {l : List Byte} {b : Byte} {r : List Byte} (h : dropZ l = b :: r) : b ≠ 0 := by
  induction l with
  | nil => simp [dropZ] at h
  | cons a t ih =>
    by_cases ha : a = 0
    · subst ha; rw [dropZ_cons_zero] at h; exact ih h
    · rw [dropZ_cons_ne ha] at h; injection h with h1 _; rw [← h1]; exact ha

theorem takeNZ_ne_nil_of_dropZ {l : List Byte} (h : dropZ l ≠ []) : takeNZ (dropZ l) ≠ [] := by
  cases hd : dropZ l with
  | nil => exact absurd hd h
  | cons b r =>
    have hb := dropZ_head_ne hd
    simp [takeNZ, countNZ, hb]

/-- **one extraction, on the pending text**: what first_cmd_in_buf / next_cmd_in_buf do to the list of commands
    that the pending text followed by any future text `x` denotes -/
theorem cmdsOf_extract_complete (p x : List Byte) (h : countNZ (dropZ p) < (dropZ p).length) :
    cmdsOf [] (p ++ x) = edit (takeNZ (dropZ p)) :: cmdsOf [] (dropZ (dropNZ (dropZ p)) ++ x) := by
  rw [cmdsOf_dropZ p x]
  obtain ⟨rest, hr⟩ := dropNZ_of_lt h
  have hne : dropZ p ≠ [] := by intro e; rw [e] at h; simp at h
  have hnn := takeNZ_ne_nil_of_dropZ hne
  conv => lhs; rw [← takeNZ_append_dropNZ (dropZ p), hr, List.append_assoc]
  rw [cmdsOf_nz_prefix _ _ _ (takeNZ_nz _)]
  simp only [List.append_nil, List.cons_append, cmdsOf, if_true]
  rw [if_neg (by simpa using hnn), List.reverse_reverse, hr, dropZ_cons_zero, ← cmdsOf_dropZ]

/-- "there is a complete, non-empty command in the pending text" -/
def hasCmd (p : List Byte) : Bool := decide (countNZ (dropZ p) < (dropZ p).length)

theorem cmdsOf_no_complete {p : List Byte} (h : hasCmd p = false) : cmdsOf [] p = [] := by
  have := cmdsOf_dropZ p []
  simp only [List.append_nil] at this
  rw [this]
  have hd := dropNZ_of_ge (of_decide_eq_false h)
  have : dropZ p = takeNZ (dropZ p) := by
    have := takeNZ_append_dropNZ (dropZ p); rw [hd, List.append_nil] at this; exact this.symm
  rw [this]
  have := cmdsOf_nz_prefix (takeNZ (dropZ p)) [] [] (takeNZ_nz _)
  simp only [List.append_nil] at this
  rw [this]; rfl

theorem countZ_le (p : List Byte) : countZ p ≤ p.length := by
  induction p with
  | nil => simp [countZ]
  | cons a r ih => unfold countZ; split <;> simp; omega

theorem hasCmd_nil : hasCmd [] = false := by simp [hasCmd, dropZ, countZ, countNZ]

theorem dropZ_idem (p : List Byte) : dropZ (dropZ p) = dropZ p := by
  cases hd : dropZ p with
  | nil => rfl
  | cons b r => exact dropZ_cons_ne (dropZ_head_ne hd) r

theorem cstrOf_take (l : List Byte) (k : Nat) (h : countNZ (l.take k) < (l.take k).length) :
    cstrOf l = takeNZ (l.take k) := by
  induction l generalizing k with
  | nil => simp at h
  | cons a r ih =>
    cases k with
    | zero => simp at h
    | succ k =>
      simp only [List.take_succ_cons] at h ⊢
      unfold cstrOf takeNZ countNZ
      unfold countNZ at h
      split
      · simp
      · rename_i ha
        rw [if_neg ha] at h
        simp only [List.take_succ_cons]
        congr 1
        exact ih k (by simpa using h)

/-- the specification's line splitter on tokens is `cmdsOf` on the rendered text -/
theorem linesTok_eq_cmdsOf (cur : List Byte) (ts : List Tok) : linesTok cur ts = cmdsOf cur (renderToks ts) := by
  induction ts generalizing cur with
  | nil => rfl
  | cons t r ih =>
    have hr : renderToks (t :: r) = renderTok t ++ renderToks r := by simp [renderToks]
    rw [hr]
    cases t with
    | nl =>
      have e1 : bSP ≠ 0 := by decide
      have e2 : bBS ≠ 0 := by decide
      have e3 : bNUL = 0 := rfl
      simp only [linesTok, renderTok, List.cons_append, List.nil_append, cmdsOf, if_neg e1, if_neg e2, e3, if_true]
      rw [if_neg (by simp), ih]
      congr 1
      have : (bBS :: bSP :: cur).reverse = cur.reverse ++ [bSP, bBS] := by simp
      rw [this, edit_sp_bs]
    | ch b =>
      simp only [linesTok, renderTok, List.cons_append, List.nil_append, cmdsOf]
      by_cases hb : b = 0
      · simp only [hb, if_true]
        split
        · exact ih []
        · rw [ih []]
      · simp only [hb, if_false]; exact ih _

theorem lines_eq_cmdsOf (stream : List Byte) : lines stream = cmdsOf [] (renderToks (toks .data stream)) :=
  linesTok_eq_cmdsOf [] _

/-- add_console_line's conversion: LF and CR become the command terminator -/
def conv (bytes : List Byte) : List Byte := bytes.map (fun b => if b = bLF ∨ b = bCR then bNUL else b)

theorem conv_append (a b : List Byte) : conv (a ++ b) = conv a ++ conv b := by simp [conv]

theorem consoleLinesAux_eq (cur stream : List Byte) : consoleLinesAux cur stream = cmdsOf cur (conv stream) := by
  induction stream generalizing cur with
  | nil => rfl
  | cons b r ih =>
    have e0 : bNUL = 0 := rfl
    show (if b = bLF ∨ b = bCR ∨ b = bNUL then
            (if cur = [] then consoleLinesAux [] r else edit cur.reverse :: consoleLinesAux [] r)
          else consoleLinesAux (b :: cur) r) = cmdsOf cur ((if b = bLF ∨ b = bCR then bNUL else b) :: conv r)
    by_cases h1 : b = bLF ∨ b = bCR
    · have h2 : b = bLF ∨ b = bCR ∨ b = bNUL := by rcases h1 with h | h <;> simp [h]
      rw [if_pos h2, if_pos h1]
      simp only [cmdsOf, e0, if_true]
      rw [ih []]
    · rw [if_neg h1]
      by_cases h3 : b = 0
      · have h2 : b = bLF ∨ b = bCR ∨ b = bNUL := Or.inr (Or.inr h3)
        rw [if_pos h2]
        simp only [cmdsOf, h3, if_true]
        rw [ih []]
      · have h2 : ¬ (b = bLF ∨ b = bCR ∨ b = bNUL) := by
          intro hh; rcases hh with hh | hh | hh
          · exact h1 (Or.inl hh)
          · exact h1 (Or.inr hh)
          · exact h3 hh
        rw [if_neg h2]
        simp only [cmdsOf, if_neg h3]
        exact ih _

theorem consoleLines_eq_cmdsOf (stream : List Byte) : consoleLines stream = cmdsOf [] (conv stream) :=
  consoleLinesAux_eq [] stream

theorem findLF_lt {l : List Byte} {k : Nat} (h : findLF l = some k) : k < l.length := by
  induction l generalizing k with
  | nil => simp [findLF] at h
  | cons a r ih =>
    unfold findLF at h
    split at h
    · injection h with h; subst h; simp
    · cases hr : findLF r with
      | none => simp [hr] at h
      | some j =>
        simp [hr] at h; subst h
        have := ih hr
        simp; omega

def countLF : List Byte → Nat
  | [] => 0
  | b :: r => if b = bLF then countLF r + 1 else countLF r

theorem countLF_append (a b : List Byte) : countLF (a ++ b) = countLF a + countLF b := by
  induction a with
  | nil => simp [countLF]
  | cons x r ih => simp only [List.cons_append, countLF]; split <;> omega

theorem countLF_le (a : List Byte) : countLF a ≤ a.length := by
  induction a with
  | nil => simp [countLF]
  | cons x r ih => simp only [countLF, List.length_cons]; split <;> omega

theorem findLF_none {q : List Byte} (h : findLF q = none) : countLF q = 0 ∧ ∀ b ∈ q, b ≠ bLF := by
  induction q with
  | nil => exact ⟨rfl, fun b hb => by cases hb⟩
  | cons a r ih =>
    unfold findLF at h
    split at h
    · cases h
    · rename_i ha
      have hr : findLF r = none := by
        cases hf : findLF r with
        | none => rfl
        | some j => rw [hf] at h; cases h
      obtain ⟨h1, h2⟩ := ih hr
      refine ⟨by simp [countLF, ha, h1], ?_⟩
      intro b hb
      rcases List.mem_cons.mp hb with rfl | hb
      · exact ha
      · exact h2 b hb

theorem findLF_some {q : List Byte} {k : Nat} (h : findLF q = some k) :
    q = q.take k ++ bLF :: q.drop (k + 1) ∧ (∀ b ∈ q.take k, b ≠ bLF) ∧ countLF q = countLF (q.drop (k + 1)) + 1 := by
  induction q generalizing k with
  | nil => simp [findLF] at h
  | cons a r ih =>
    unfold findLF at h
    split at h
    · rename_i ha
      injection h with h; subst h
      exact ⟨by simp [ha], fun b hb => by simp at hb, by simp [countLF, ha]⟩
    · rename_i ha
      cases hf : findLF r with
      | none => rw [hf] at h; cases h
      | some j =>
        rw [hf] at h
        simp only [Option.map_some] at h
        injection h with h; subst h
        obtain ⟨h1, h2, h3⟩ := ih hf
        refine ⟨?_, ?_, ?_⟩
        · simp only [List.take_succ_cons, List.drop_succ_cons, List.cons_append]
          rw [← h1]
        · intro b hb
          simp only [List.take_succ_cons] at hb
          rcases List.mem_cons.mp hb with rfl | hb
          · exact ha
          · exact h2 b hb
        · simp only [List.drop_succ_cons, countLF, if_neg ha]; exact h3

theorem asciiLinesAux_noLF (pre y cur : List Byte) (h : ∀ b ∈ pre, b ≠ bLF) :
    asciiLinesAux cur (pre ++ y) = asciiLinesAux (pre.reverse ++ cur) y := by
  induction pre generalizing cur with
  | nil => rfl
  | cons b r ih =>
    have hb := h b (by simp)
    simp only [List.cons_append, asciiLinesAux, if_neg hb]
    rw [ih _ (fun c hc => h c (by simp [hc]))]
    simp

theorem asciiLinesAux_found {q : List Byte} {k : Nat} (h : findLF q = some k) (x : List Byte) :
    asciiLinesAux [] (q ++ x) = q.take k :: asciiLinesAux [] (q.drop (k + 1) ++ x) := by
  obtain ⟨h1, h2, _⟩ := findLF_some h
  conv => lhs; rw [h1, List.append_assoc]
  rw [asciiLinesAux_noLF _ _ _ h2]
  simp [asciiLinesAux]

theorem asciiLinesAux_pending {q : List Byte} (h : findLF q = none) : asciiLinesAux [] q = [] := by
  have := asciiLinesAux_noLF q [] [] (findLF_none h).2
  simp only [List.append_nil] at this
  rw [this]; rfl

end NV.C13
