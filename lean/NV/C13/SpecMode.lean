/-
C13 — oracle clause for the end of get_char() mode: lines typed ahead while a get_char() was pending are framed like
any other line once the mode ends (reframe_single_char_input; model-side theorem `typeahead_lines_after_mode_end`).

The clause follows one get_char() episode under explicit, checkable side conditions (otherwise it says nothing):
  * start: an `st` line shows SINGLE_CHAR newly set while the input buffer is empty (`text_start = text_end`) and
    the decoder is in TS_DATA without a pending CR;
  * during the episode every byte received is collected verbatim (single-char mode stores raw bytes); an IAC byte, a
    read above the discard threshold, a callback error, a close or a crash end the observation;
  * a `cmd` in that mode must be the first NUL-terminated piece of the collected bytes (leading NULs skipped, BS/DEL
    edited), which is consumed together with the NULs behind it;
  * end: an `st` line shows SINGLE_CHAR cleared.  If the bytes left over are IAC-free, `crClean`-shaped (every CR
    followed by LF or CR, or last; `crCleanSpec`), short enough for the reframing to have room (3/2 of their length
    stays below MAX_TEXT) and the decoder's TS_CR_SEEN flag is the one they explain, then from here on the delivered
    commands must be `lines (left-over ++ everything received later)`: at every `cmd` a prefix, at every `nocmd` all
    of them.
The direct SINGLE_CHAR pokes of the case language (`iflag single|line`) bypass set_call / call_function_interactive;
cases using them are not judged by this clause (`enabled = false`).
-/
import NV.C13.Spec

namespace NV.C13

open NV.Gen.C13

structure JM where
  prevSingle : Bool := false
  lastS : Nat := 0
  lastE : Nat := 0
  raw : Option (List Byte) := none          -- bytes collected in the current get_char episode
  seg : Option (List Byte × List (List Byte)) := none   -- after the episode: (stream, delivered)
  bad : List String := []

def crCleanSpec : List Byte → Bool
  | [] => true
  | [_] => true
  | a :: b :: r => (a != bCR || b == bLF || b == bCR) && crCleanSpec (b :: r)

def dropNul (l : List Byte) : List Byte := l.dropWhile (· == 0)
def pieceOf (l : List Byte) : List Byte := l.takeWhile (· != 0)

def JM.stop (j : JM) : JM := { j with raw := none, seg := none }

def judgeModeStep (j : JM) (e : Ev) : JM :=
  match e with
  | .st s en state _ fl =>
    let single := fl &&& iSingleChar ≠ 0
    let j1 :=
      if single && !j.prevSingle then
        { j with raw := if s == en && state == 0 then some [] else none, seg := none }
      else if !single && j.prevSingle then
        match j.raw with
        | some r =>
          -- the decoder's pending-CR flag must be the one the left-over bytes explain (a CR that was handed out with
          -- the get_char text leaves TS_CR_SEEN set: then the next LF ends an empty line - not judged)
          let endsCR := r.getLast? == some bCR
          if crCleanSpec r && r.all (· != bIAC) && decide (3 * r.length + 16 ≤ 2 * MAXT) &&
             ((state == tsCrSeen && endsCR) || (state == 0 && !endsCR)) then { j with raw := none, seg := some (r, []) }
          else j.stop
        | none => j.stop
      else j
    { j1 with prevSingle := single, lastS := s, lastE := en }
  | .rx b =>
    if j.prevSingle then
      { j with raw := if b.all (· != bIAC) then j.raw.map (· ++ b) else none }
    else { j with seg := j.seg.map (fun sg => (sg.1 ++ b, sg.2)) }
  | .ask _ => if keepsPending (j.lastE - j.lastS) then j else j.stop
  | .cmd l =>
    if j.prevSingle then
      match j.raw with
      | some r =>
        let r1 := dropNul r
        if l == edit (pieceOf r1) then { j with raw := some (dropNul (r1.drop (pieceOf r1).length)) }
        else { j.stop with bad := "get_char: the text handed out is not the first piece of the bytes typed ahead" :: j.bad }
      | none => j
    else
      match j.seg with
      | some (rx, d) =>
        let d' := d ++ [l]
        if isPrefix d' (lines rx) then { j with seg := some (rx, d') }
        else { j.stop with bad := "typed-ahead after get_char: delivered line is not the next line of what was typed ahead" :: j.bad }
      | none => j
  | .nocmd =>
    if j.prevSingle then j else
      match j.seg with
      | some (rx, d) =>
        if d == lines rx then j
        else { j.stop with bad := "typed-ahead after get_char: nocmd but lines typed ahead are still undelivered" :: j.bad }
      | none => j
  | .cberr => j.stop
  | .errmsg _ => j.stop
  | .closed => j.stop
  | .crash _ => j.stop
  | _ => j

def judgeMode (enabled : Bool) (evs : List Ev) : List String :=
  if enabled then ((evs.foldl judgeModeStep {}).bad).reverse else []

/-- the clause is switched off for cases that poke SINGLE_CHAR directly -/
def modeClauseEnabled (p : Port) (ops : List Op) : Bool :=
  p == .telnet && ops.all (fun op => match op with | .iflagSingle => false | .iflagLine => false | _ => true)

end NV.C13
