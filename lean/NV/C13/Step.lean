/-
C13 — one byte through copy_chars: which `case` runs, what a `case` does with a byte it does not test
for, and which callbacks a byte can cause.  The decoder lemmas (Decoder.lean) and the transition-table tie
(Table.lean) start from these.
-/
import NV.C13.Model

namespace NV.C13

open NV.Gen.C13

/-- `switch (ip->state & TS_STATE_MASK)`: one value per `case`, in the order `ccByte` tests them, and one for a
    state no `case` matches -/
def onState {α : Type} (ts : Nat) (data sbIac iac do_ will dont wont sb noCase : α) : α :=
  if ts = tsDATA then data else if ts = tsSBIAC then sbIac else if ts = tsIAC then iac else if ts = tsDO then do_
  else if ts = tsWILL then will else if ts = tsDONT then dont else if ts = tsWONT then wont else if ts = tsSB then sb
  else noCase

theorem ccByte_onState (d : Dec) (b : Byte) :
    ccByte d b = onState d.ts (ccData d b) (ccSbIac d b) (ccIac d b) (ccDo d b) (ccWill d b) (ccDont d b) (ccWont d b)
      (ccSb d b) (.ok { d := d }) := rfl

/-- the case analysis behind every statement about `ccByte`: the state is one of the eight TS_* codes or none of
    them, and `onState` selects accordingly -/
theorem onState_eq (ts : Nat) :
    (ts = tsDATA ∧ ∀ {α : Type} (a b c d e f g h i : α), onState ts a b c d e f g h i = a) ∨
    (ts = tsSBIAC ∧ ∀ {α : Type} (a b c d e f g h i : α), onState ts a b c d e f g h i = b) ∨
    (ts = tsIAC ∧ ∀ {α : Type} (a b c d e f g h i : α), onState ts a b c d e f g h i = c) ∨
    (ts = tsDO ∧ ∀ {α : Type} (a b c d e f g h i : α), onState ts a b c d e f g h i = d) ∨
    (ts = tsWILL ∧ ∀ {α : Type} (a b c d e f g h i : α), onState ts a b c d e f g h i = e) ∨
    (ts = tsDONT ∧ ∀ {α : Type} (a b c d e f g h i : α), onState ts a b c d e f g h i = f) ∨
    (ts = tsWONT ∧ ∀ {α : Type} (a b c d e f g h i : α), onState ts a b c d e f g h i = g) ∨
    (ts = tsSB ∧ ∀ {α : Type} (a b c d e f g h i : α), onState ts a b c d e f g h i = h) ∨
    ((∀ t ∈ [tsDATA, tsSBIAC, tsIAC, tsDO, tsWILL, tsDONT, tsWONT, tsSB], ts ≠ t) ∧
      ∀ {α : Type} (a b c d e f g h i : α), onState ts a b c d e f g h i = i) := by
  unfold onState
  by_cases c0 : ts = tsDATA
  · exact .inl ⟨c0, fun _ _ _ _ _ _ _ _ _ => if_pos c0⟩
  by_cases c1 : ts = tsSBIAC
  · exact .inr (.inl ⟨c1, fun _ _ _ _ _ _ _ _ _ => by rw [if_neg c0, if_pos c1]⟩)
  by_cases c2 : ts = tsIAC
  · exact .inr (.inr (.inl ⟨c2, fun _ _ _ _ _ _ _ _ _ => by rw [if_neg c0, if_neg c1, if_pos c2]⟩))
  by_cases c3 : ts = tsDO
  · exact .inr (.inr (.inr (.inl ⟨c3, fun _ _ _ _ _ _ _ _ _ => by rw [if_neg c0, if_neg c1, if_neg c2, if_pos c3]⟩)))
  by_cases c4 : ts = tsWILL
  · exact .inr (.inr (.inr (.inr (.inl
      ⟨c4, fun _ _ _ _ _ _ _ _ _ => by rw [if_neg c0, if_neg c1, if_neg c2, if_neg c3, if_pos c4]⟩))))
  by_cases c5 : ts = tsDONT
  · exact .inr (.inr (.inr (.inr (.inr (.inl
      ⟨c5, fun _ _ _ _ _ _ _ _ _ => by rw [if_neg c0, if_neg c1, if_neg c2, if_neg c3, if_neg c4, if_pos c5]⟩)))))
  by_cases c6 : ts = tsWONT
  · exact .inr (.inr (.inr (.inr (.inr (.inr (.inl
      ⟨c6, fun _ _ _ _ _ _ _ _ _ => by
        rw [if_neg c0, if_neg c1, if_neg c2, if_neg c3, if_neg c4, if_neg c5, if_pos c6]⟩))))))
  by_cases c7 : ts = tsSB
  · exact .inr (.inr (.inr (.inr (.inr (.inr (.inr (.inl
      ⟨c7, fun _ _ _ _ _ _ _ _ _ => by
        rw [if_neg c0, if_neg c1, if_neg c2, if_neg c3, if_neg c4, if_neg c5, if_neg c6, if_pos c7]⟩)))))))
  · refine .inr (.inr (.inr (.inr (.inr (.inr (.inr (.inr ⟨?_, fun _ _ _ _ _ _ _ _ _ => ?_⟩)))))))
    · intro t ht
      simp only [List.mem_cons, List.not_mem_nil, or_false] at ht
      rcases ht with rfl | rfl | rfl | rfl | rfl | rfl | rfl | rfl <;> assumption
    · rw [if_neg c0, if_neg c1, if_neg c2, if_neg c3, if_neg c4, if_neg c5, if_neg c6, if_neg c7]

/-- the bytes the `case` of state `ts` tests its input for -/
def tested (ts : Nat) : List Byte :=
  onState ts [bIAC, bCR, bLF, bNUL] [bIAC, bSE] [bIAC, bDO, bDONT, bWILL, bWONT, bBREAK, bIP, bAYT, bAO, bSB]
    [u8 optSGA, u8 optTM] [u8 optTTYPE, u8 optLINEMODE, u8 optSGA] [u8 optSGA] [u8 optLINEMODE] [bIAC] []

/-- what a `case` does with a byte it does not test for, without the byte: the next state, and whether the byte is
    stored as text (`*to++`) or as sub-negotiation payload (`sb_buf[sb_pos++]`) -/
structure Dflt where
  d : Dec
  text : Bool := false
  sb : Bool := false

def ccDflt (d : Dec) : Dflt :=
  let toData : Dec := { d with ts := tsDATA, cr := false }
  let spoke : Dec := { toData with fl := { d.fl with usingTelnet := true } }
  onState d.ts { d := { d with cr := false }, text := !d.cr || d.fl.single } { d := d } { d := toData } { d := toData }
    { d := spoke } { d := spoke } { d := spoke } { d := d, sb := decide (d.sbPos < sbSize) } { d := d }

def Dflt.run (x : Dflt) (b : Byte) : Except String CC :=
  if x.sb then
    match sbSet x.d x.d.sbPos b with
    | .ok d2 => .ok { d := { d2 with sbPos := x.d.sbPos + 1 } }
    | .error e => .error e
  else .ok { d := x.d, out := if x.text then [b] else [] }

/-- **a byte the current `case` does not test for takes that case's default path**: it is text in the data state
    (unless it follows a lone CR), payload inside a sub-negotiation (dropped once `sb_buf` is full), ignored after an
    IAC inside a sub-negotiation (the decoder keeps waiting) and in a state without a `case`, and otherwise ends the
    command (after WILL / DONT / WONT also setting USING_TELNET) -/
theorem ccByte_dflt {d : Dec} {b : Byte} (h : b ∉ tested d.ts) : ccByte d b = (ccDflt d).run b := by
  unfold tested at h
  unfold ccDflt Dflt.run
  rw [ccByte_onState]
  rcases onState_eq d.ts with ⟨_, e⟩ | ⟨_, e⟩ | ⟨_, e⟩ | ⟨_, e⟩ | ⟨_, e⟩ | ⟨_, e⟩ | ⟨_, e⟩ | ⟨_, e⟩ | ⟨_, e⟩ <;>
    simp only [e, List.mem_cons, List.not_mem_nil, or_false, not_or] at h ⊢
  · unfold ccData
    simp only [h, if_false, or_self, Bool.false_eq_true]
    cases (!d.cr || d.fl.single) <;> rfl
  · unfold ccSbIac; simp only [h, if_false, Bool.false_eq_true]
  · unfold ccIac; simp only [h, if_false, Bool.false_eq_true]
  · unfold ccDo; simp only [h, if_false, Bool.false_eq_true]
  · unfold ccWill; simp only [h, if_false, Bool.false_eq_true]
  · unfold ccDont; simp only [h, if_false, Bool.false_eq_true]
  · unfold ccWont; simp only [h, if_false, Bool.false_eq_true]
  · unfold ccSb
    by_cases hp : d.sbPos < sbSize
    · rw [if_neg h, if_pos hp, decide_eq_true hp, if_pos rfl]; rfl
    · rw [if_neg h, if_neg hp, decide_eq_false hp, if_neg Bool.false_ne_true]; rfl
  · simp only [Bool.false_eq_true, if_false]

/-- the applies on the user object a step asks for (none if it crashed) -/
def cbsOf : Except String CC → List Ev
  | .ok r => r.cbs
  | .error _ => []

/-- the events copy_chars' callbacks leave in a trace: terminal_type, telnet_suboption, window_size, and the error
    message when one of them fails -/
def isCbEv : Ev → Bool
  | .cbTtype _ | .cbSubopt _ | .cbNaws _ _ | .errmsg _ => true
  | _ => false

/-- whatever `IAC SE` applies on the user object is one of the three sub-negotiation handlers -/
theorem sbEnd_cbs (d : Dec) : (cbsOf (sbEnd d)).all isCbEv = true := by
  unfold sbEnd
  cases sbSet d d.sbPos 0 with
  | error e => rfl
  | ok d1 =>
    dsimp only
    cases sbCstr d1 2 <;> cases sbCstr d1 0 <;> dsimp only <;> simp only [apply_ite cbsOf] <;>
      simp only [apply_ite (List.all · isCbEv), cbsOf, List.all_cons, List.all_nil, isCbEv, Bool.and_self, ite_self]

/-- only `IAC SE` inside a sub-negotiation makes callbacks -/
theorem ccByte_cbs (d : Dec) (b : Byte) : cbsOf (ccByte d b) = [] ∨ cbsOf (ccByte d b) = cbsOf (sbEnd d) := by
  rw [ccByte_onState]
  rcases onState_eq d.ts with ⟨_, e⟩ | ⟨_, e⟩ | ⟨_, e⟩ | ⟨_, e⟩ | ⟨_, e⟩ | ⟨_, e⟩ | ⟨_, e⟩ | ⟨_, e⟩ | ⟨_, e⟩ <;> rw [e]
  · left; unfold ccData; (simp only [apply_ite cbsOf]; simp only [cbsOf, ite_self])
  · unfold ccSbIac
    by_cases h1 : b = bIAC
    · left; rw [if_pos h1]; dsimp only
      split
      · split <;> rfl
      · rfl
    · rw [if_neg h1]
      by_cases h2 : b = bSE
      · right; rw [if_pos h2]
      · left; rw [if_neg h2]; rfl
  · left; unfold ccIac; (simp only [apply_ite cbsOf]; simp only [cbsOf, ite_self])
  · left; unfold ccDo; (simp only [apply_ite cbsOf]; simp only [cbsOf, ite_self])
  · left; unfold ccWill; (simp only [apply_ite cbsOf]; simp only [cbsOf, ite_self])
  · left; unfold ccDont; (simp only [apply_ite cbsOf]; simp only [cbsOf, ite_self])
  · left; unfold ccWont; (simp only [apply_ite cbsOf]; simp only [cbsOf, ite_self])
  · left; unfold ccSb
    split
    · rfl
    · split
      · split <;> rfl
      · rfl
  · left; rfl

theorem ccByte_cbEv {d : Dec} {b : Byte} {r : CC} (h : ccByte d b = .ok r) : r.cbs.all isCbEv = true := by
  have e : r.cbs = cbsOf (ccByte d b) := by rw [h]; rfl
  rcases ccByte_cbs d b with h1 | h1
  · rw [e, h1]; rfl
  · rw [e, h1]; exact sbEnd_cbs d

end NV.C13
