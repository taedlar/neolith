/-
C13 — every schedule of sends, reads and extractions on one connection: what one read event of a clean telnet run does
(`telnet_event_exact`), and the invariants of a clean run on the telnet, ascii and binary port.
-/
import NV.C13.ReadAscii

namespace NV.C13

open NV.Gen.C13

/-- what the backend / the client can do to one socket connection (telnet, ascii or binary port) -/
inductive FOp where
  | send (b : List Byte)      -- the client sends bytes (they wait in the socket)
  | read                      -- one read event: get_user_data
  | extract                   -- one get_user_command with the command turn granted

/-- a run with its observable history -/
structure F where
  s : S
  delivered : List (List Byte) := []   -- lines returned by get_user_command / passed to process_input, in order
  received : List Byte := []           -- bytes handed over by recv(), in order
  sent : List Byte := []               -- bytes the client has sent, in order
  clean : Bool := true                 -- the side condition has held at every step so far
  lastNone : Bool := false             -- the last step was an extraction that returned no command
  aborted : Bool := false              -- the last read was left through an error raised by process_input

/-- the explicit side condition, checked step by step:
    * at a read, the pending text is below the discard threshold of get_user_data
      (`(MAX_TEXT - pending - 1)/3 >= MAX_TEXT/16`, i.e. pending ≤ 1663) or contains a complete command
      (the read is then held back: `getUserDataH`);
    * at an extraction, the pending text does not fill the buffer (pending ≤ MAX_TEXT-2; otherwise
      first_cmd_in_buf cuts the line). -/
def readOK (s : S) : Bool :=
  match s.port with
  | .telnet => keepsPending (s.tend - s.tstart) || hasCmd (pend s)   -- else: an unfinished over-long line is discarded
  | _ => decide (s.tend - s.tstart + asciiReserve + 1 ≤ MAXT)   -- PORT_ASCII: the pending text does not fill the buffer (else: discarded)

def fStep (o : Oracle) (f : F) : FOp → Except String F
  | .send b => .ok { f with s := { f.s with sock := f.s.sock ++ b }, sent := f.sent ++ b, lastNone := false }
  | .read =>
    match getUserDataH o f.s with
    | .error e => .error e
    | .ok (s', evs) =>
      .ok { f with s := s', received := f.received ++ f.s.sock.take (f.s.sock.length - s'.sock.length),
                   delivered := f.delivered ++ inputsOf evs,
                   clean := f.clean && readOK f.s, lastNone := false,
                   aborted := if f.s.sock.isEmpty then f.aborted else hasAbort evs }
  | .extract =>
    match getUserCommand f.s with
    | .error e => .error e
    | .ok (s', r) =>
      .ok { f with s := s', delivered := f.delivered ++ r.toList,
                   clean := f.clean && decide (f.s.tend - f.s.tstart + cutMargin ≤ MAXT), lastNone := r.isNone }

def fRun (o : Oracle) (f : F) : List FOp → Except String F
  | [] => .ok f
  | op :: ops => match fStep o f op with
    | .error e => .error e
    | .ok f' => fRun o f' ops

theorem fRun_invariant {o : Oracle} {P : F → Prop} (step : ∀ f f' op, P f → fStep o f op = .ok f' → P f') (ops : List FOp) :
    ∀ f f', P f → fRun o f ops = .ok f' → P f' := by
  induction ops with
  | nil => intro f f' k h; simp only [fRun] at h; injection h with h; subst h; exact k
  | cons op ops ih =>
    intro f f' k h
    simp only [fRun] at h
    cases hs : fStep o f op with
    | error e => rw [hs] at h; cases h
    | ok f1 =>
      rw [hs] at h
      exact ih f1 f' (step f f1 op k hs) h

theorem take_len_sub_drop {l l' : List Byte} {n : Nat} (h : l' = l.drop n) : l.take (l.length - l'.length) = l.take n := by
  rw [h, List.length_drop]
  by_cases h : n ≤ l.length
  · congr 1; omega
  · rw [List.take_of_length_le (by omega), List.take_of_length_le (by omega)]

theorem modeOf_congr {d d' : Dec} (h1 : d'.ts = d.ts) (h2 : d'.cr = d.cr) : modeOf d' = modeOf d := by
  simp [modeOf, h1, h2]

theorem valid_congr {d d' : Dec} (h1 : d'.ts = d.ts) (h2 : d'.cr = d.cr) (h : Valid d) : Valid d' := by
  unfold Valid at *; rw [h1, h2]; exact h

/-- a read event that decoded `s.sock.take n` (possibly nothing) into `r` and appended that to the pending text -/
structure TelnetEventOK (s s' : S) (evs : List Ev) (n : Nat) (r : CC) : Prop where
  inv : Inv s'
  port : s'.port = .telnet
  noInput : inputsOf evs = []
  chunk : copyChars s.dec (s.sock.take n) = .ok r
  ok : ChunkOK s.dec (s.sock.take n) r
  text : pend s' = pend s ++ r.out
  sock : s'.sock = s.sock.drop n
  ts : s'.dec.ts = r.d.ts
  cr : s'.dec.cr = r.d.cr
  single : s'.dec.fl.single = r.d.fl.single
  /-- CMD_IN_BUF stays an upper bound of "a complete command is pending" -/
  flag : (hasCmd (pend s) = true → s.dec.fl.cmdInBuf = true) → hasCmd (pend s') = true → s'.dec.fl.cmdInBuf = true

/-- **one read event of a clean telnet run** (line mode; `readOK`: below the discard threshold or with a complete command
    pending): whether the read is held back, finds the socket empty or gets data, it decodes a prefix of the socket
    (possibly empty) and appends what copy_chars produces for it to the pending text -/
theorem telnet_event_exact {o : Oracle} (hnd : NoDest o) {s : S} (h : Inv s) (hp : s.port = .telnet)
    (hns : s.dec.fl.single = false) (hok : readOK s = true) :
    ∃ s' evs, getUserDataH o s = .ok (s', evs) ∧ ∃ n r, TelnetEventOK s s' evs n r := by
  -- where nothing is decoded (`n = 0`) the state changes in CMD_IN_BUF at most
  obtain ⟨r0, hr0, ck0⟩ := copyChars_ok h.dec []
  injection hr0 with hr0; subst hr0
  by_cases hk : keepsPending (s.tend - s.tstart) = true
  · rw [getUserDataH_keeps o h hk]
    obtain ⟨s', evs, e, k⟩ := getUserData_telnet o h hp
    refine ⟨s', evs, e, ?_⟩
    rcases k.effect hk hnd with ⟨hs, hpd, hd, hs'⟩ | ⟨n, r, g⟩
    · exact ⟨0, _,
        { k with chunk := rfl, ok := ck0, text := by rw [hpd]; exact (List.append_nil _).symm, sock := by rw [hs', hs]; rfl,
                 ts := by rw [hd], cr := by rw [hd], single := by rw [hd], flag := by rw [hpd, hd]; exact id }⟩
    · have hd := g.dec hns
      -- `inv`, `port`, `noInput` are those of the read (`k`); `chunk`, `ok`, `text`, `sock` those of the data case (`g`)
      exact ⟨n, r,
        { k, g with ts := by rw [hd], cr := by rw [hd], single := by rw [hd],
                    flag := fun _ hc => by rw [hd]; dsimp only; rw [hc, Bool.or_true] }⟩
  · refine ⟨{ s with dec := { s.dec with fl := { s.dec.fl with cmdInBuf := true } } }, [], ?_, 0, _,
      { inv := h.fl _, port := hp, noInput := rfl, chunk := rfl, ok := ck0, text := (List.append_nil _).symm, sock := rfl,
        ts := rfl, cr := rfl, single := rfl, flag := fun _ _ => rfl }⟩
    unfold getUserDataH
    rw [holdRead_true h hp hns (by simpa using hk) (by simpa [readOK, hp, hk] using hok)]

/-- invariant of a clean telnet run -/
structure TelnetK (f : F) : Prop where
  inv : Inv f.s
  port : f.s.port = .telnet
  single : f.s.dec.fl.single = false
  valid : Valid f.s.dec
  mode : modeOf f.s.dec = modeAfter .data f.received
  /-- delivered lines, then the commands of (pending text ++ any future decoded text), are the commands of
      (decoded text of everything received ++ that future text) -/
  cmds : ∀ x, f.delivered ++ cmdsOf [] (pend f.s ++ x) = cmdsOf [] (renderToks (toks .data f.received) ++ x)
  flag : hasCmd (pend f.s) = true → f.s.dec.fl.cmdInBuf = true
  drained : f.lastNone = true → cmdsOf [] (pend f.s) = []
  sentEq : f.received ++ f.s.sock = f.sent

theorem telnetK_step {o : Oracle} (hnd : NoDest o) {f f' : F} (op : FOp) (k : f.clean = true → TelnetK f)
    (h : fStep o f op = .ok f') :
    f'.clean = true → TelnetK f' := by
  intro hc'
  cases op with
  | send b =>
    simp only [fStep] at h
    injection h with h; subst h
    have k := k hc'
    exact ⟨k.inv.frame _ _ _ _, k.port, k.single, k.valid, k.mode, k.cmds, k.flag,
      (fun hh => by cases hh), by show f.received ++ (f.s.sock ++ b) = f.sent ++ b; rw [← List.append_assoc, k.sentEq]⟩
  | read =>
    simp only [fStep] at h
    cases hg : getUserDataH o f.s with
    | error e => rw [hg] at h; cases h
    | ok res =>
      obtain ⟨s', evs⟩ := res
      rw [hg] at h
      injection h with h; subst h
      simp only [Bool.and_eq_true] at hc'
      have k := k hc'.1
      obtain ⟨n, r, ev⟩ := ok_elim (telnet_event_exact hnd k.inv k.port k.single hc'.2) hg
      have hsim := ev.ok.sim k.valid k.single
      have hrec := take_len_sub_drop ev.sock
      refine ⟨ev.inv, ev.port, by rw [ev.single, ev.ok.single]; exact k.single,
        valid_congr ev.ts ev.cr (ev.ok.valid k.valid), ?_, ?_, ev.flag k.flag, (fun hh => by cases hh), ?_⟩
      · show modeOf s'.dec = modeAfter .data (f.received ++ _)
        rw [hrec, modeAfter_append, ← k.mode, ← hsim.2]; exact modeOf_congr ev.ts ev.cr
      · intro x
        show (f.delivered ++ inputsOf evs) ++ cmdsOf [] (pend s' ++ x) = cmdsOf [] (renderToks (toks .data (f.received ++ _)) ++ x)
        rw [ev.noInput, hrec, ev.text, toks_append, renderToks_append, ← k.mode, ← hsim.1, List.append_nil, List.append_assoc,
          List.append_assoc]
        exact k.cmds (r.out ++ x)
      · show (f.received ++ _) ++ s'.sock = f.sent
        rw [hrec, ev.sock, List.append_assoc, List.take_append_drop]; exact k.sentEq
  | extract =>
    simp only [fStep] at h
    cases hg : getUserCommand f.s with
    | error e => rw [hg] at h; cases h
    | ok res =>
      obtain ⟨s', r⟩ := res
      rw [hg] at h
      injection h with h; subst h
      simp only [Bool.and_eq_true, decide_eq_true_eq] at hc'
      have k := k hc'.1
      have hfit : (pend f.s).length + cutMargin ≤ MAXT := by
        rw [pend_length (by have := k.inv.eMax; have := k.inv.textLen; omega)]; exact hc'.2
      have ex := ok_elim (extract_exact k.inv k.single hfit) hg
      refine ⟨ex.inv, by rw [ex.port]; exact k.port, ex.single, valid_congr ex.ts ex.cr k.valid, ?_, ?_, ex.flag k.flag, ?_,
        by show f.received ++ s'.sock = f.sent; rw [ex.sock]; exact k.sentEq⟩
      · show modeOf s'.dec = _
        rw [modeOf_congr ex.ts ex.cr]; exact k.mode
      · intro x
        show (f.delivered ++ r.toList) ++ cmdsOf [] (pend s' ++ x) = _
        rw [List.append_assoc, ← ex.cmds x]; exact k.cmds x
      · intro hn
        have : r = none := by
          cases r with
          | none => rfl
          | some l => simp at hn
        exact ex.drained k.flag this

theorem telnetK_init : TelnetK { s := S.init .telnet } := by
  refine ⟨init_inv _, rfl, rfl, Or.inl rfl, by decide, ?_, ?_, (fun h => by cases h), rfl⟩
  · intro x
    show [] ++ cmdsOf [] (pend (S.init .telnet) ++ x) = cmdsOf [] (renderToks (toks .data []) ++ x)
    rw [pend_init]; rfl
  · intro h
    rw [pend_init, hasCmd_nil] at h; cases h

theorem telnetK_run {o : Oracle} (hnd : NoDest o) (ops : List FOp) : ∀ f f', (f.clean = true → TelnetK f) →
    fRun o f ops = .ok f' → (f'.clean = true → TelnetK f') :=
  fRun_invariant (P := fun f => f.clean = true → TelnetK f) (fun _ _ op k h => telnetK_step hnd op k h) ops

/-- invariant of a clean PORT_ASCII run whose callbacks may raise errors -/
structure AsciiK (f : F) : Prop where
  inv : Inv f.s
  port : f.s.port = .ascii
  single : f.s.dec.fl.single = false
  flag : f.s.dec.fl.cmdInBuf = false
  /-- every complete line exactly once, in order: the lines handed to process_input so far (whether or not it
      failed), then the lines of (pending text ++ future bytes), are the lines of (received ++ future bytes) -/
  lines : ∀ x, f.delivered ++ asciiLinesAux [] (pend f.s ++ x) = asciiLines (f.received ++ x)
  /-- unless the last read was left through an error, no complete line is waiting in the buffer -/
  fin : f.aborted = false → findLF (pend f.s) = none
  sentEq : f.received ++ f.s.sock = f.sent

theorem asciiK_init : AsciiK { s := S.init .ascii } := by
  refine ⟨init_inv _, rfl, rfl, rfl, ?_, fun _ => by rw [pend_init]; rfl, rfl⟩
  intro x
  show [] ++ asciiLinesAux [] (pend (S.init .ascii) ++ x) = asciiLines ([] ++ x)
  rw [pend_init]; rfl

theorem asciiK_step {o : Oracle} (hnd : NoDest o) {f f' : F} (op : FOp) (k : f.clean = true → AsciiK f)
    (h : fStep o f op = .ok f') : f'.clean = true → AsciiK f' := by
  intro hc'
  cases op with
  | send b =>
    simp only [fStep] at h
    injection h with h; subst h
    have k := k hc'
    exact ⟨k.inv.frame _ _ _ _, k.port, k.single, k.flag, k.lines, k.fin,
      by show f.received ++ (f.s.sock ++ b) = f.sent ++ b; rw [← List.append_assoc, k.sentEq]⟩
  | read =>
    simp only [fStep] at h
    cases hg : getUserDataH o f.s with
    | error e => rw [hg] at h; cases h
    | ok res =>
      obtain ⟨s', evs⟩ := res
      rw [hg] at h
      injection h with h; subst h
      simp only [Bool.and_eq_true] at hc'
      have k := k hc'.1
      rw [getUserDataH_other o (by rw [k.port]; decide)] at hg
      have hok : f.s.tend - f.s.tstart + asciiReserve + 1 ≤ MAXT := by
        have := hc'.2; simp only [readOK, k.port, decide_eq_true_eq] at this; exact this
      have rd := ok_elim (getUserData_ascii o k.inv k.port) hg
      obtain ⟨n, hs', hl⟩ := rd.lines hok
      have hrec := take_len_sub_drop hs'
      refine ⟨rd.inv, rd.port, by rw [rd.dec]; exact k.single, by rw [rd.dec]; exact k.flag, ?_, ?_, ?_⟩
      · intro x
        show (f.delivered ++ inputsOf evs) ++ asciiLinesAux [] (pend s' ++ x) = asciiLines ((f.received ++ _) ++ x)
        rw [hrec, List.append_assoc, ← hl x, List.append_assoc, List.append_assoc]
        exact k.lines (f.s.sock.take n ++ x)
      · show (if f.s.sock.isEmpty then f.aborted else hasAbort evs) = false → _
        intro hab
        cases hse : f.s.sock with
        | nil =>
          -- nothing was read: what is pending is what was pending
          rw [hse] at hab
          rw [rd.idle hok hse]; exact k.fin (by simpa using hab)
        | cons a r =>
          rw [hse] at hab
          exact rd.fin hok (by rw [hse]; simp) hnd (by simpa using hab)
      · show (f.received ++ _) ++ s'.sock = f.sent
        rw [hrec, hs', List.append_assoc, List.take_append_drop]; exact k.sentEq
  | extract =>
    simp only [fStep] at h
    cases hg : getUserCommand f.s with
    | error e => rw [hg] at h; cases h
    | ok res =>
      obtain ⟨s', r⟩ := res
      rw [hg] at h
      injection h with h; subst h
      simp only [Bool.and_eq_true] at hc'
      have k := k hc'.1
      rw [getUserCommand_idle k.flag] at hg
      injection hg with hg
      injection hg with e1 e2
      subst e1; subst e2
      exact ⟨k.inv, k.port, k.single, k.flag,
        by intro x; show (f.delivered ++ []) ++ _ = _; rw [List.append_nil]; exact k.lines x, k.fin, k.sentEq⟩

theorem asciiK_run {o : Oracle} (hnd : NoDest o) (ops : List FOp) : ∀ f f', (f.clean = true → AsciiK f) →
    fRun o f ops = .ok f' → (f'.clean = true → AsciiK f') :=
  fRun_invariant (P := fun f => f.clean = true → AsciiK f) (fun _ _ op k h => asciiK_step hnd op k h) ops

structure BinK (f : F) : Prop where
  port : f.s.port = .binary
  s0 : f.s.tstart = 0
  e0 : f.s.tend = 0
  noflag : f.s.dec.fl.cmdInBuf = false
  bytes : f.delivered.flatten = f.received
  sentEq : f.received ++ f.s.sock = f.sent

theorem binK_step (o : Oracle) {f f' : F} (op : FOp) (k : BinK f) (h : fStep o f op = .ok f') : BinK f' := by
  cases op with
  | send b =>
    simp only [fStep] at h
    injection h with h; subst h
    exact ⟨k.port, k.s0, k.e0, k.noflag, k.bytes,
      by show f.received ++ (f.s.sock ++ b) = f.sent ++ b; rw [← List.append_assoc, k.sentEq]⟩
  | read =>
    simp only [fStep] at h
    obtain ⟨s', evs, n, hg, p2, a2, b2, _, d2, hs', hin⟩ := binary_read_exact o k.port k.s0 k.e0
    rw [hg] at h
    injection h with h; subst h
    have hrec := take_len_sub_drop hs'
    refine ⟨p2, a2, b2, by rw [d2]; exact k.noflag, ?_, ?_⟩
    · show (f.delivered ++ inputsOf evs).flatten = f.received ++ _
      rw [hrec, hin, List.flatten_append, k.bytes]
      split
      · rename_i he
        have : f.s.sock.take n = [] := by simpa using he
        rw [this]; simp
      · simp
    · show (f.received ++ _) ++ s'.sock = f.sent
      rw [hrec, hs', List.append_assoc, List.take_append_drop]; exact k.sentEq
  | extract =>
    simp only [fStep] at h
    rw [getUserCommand_idle k.noflag] at h
    injection h with h; subst h
    exact ⟨k.port, k.s0, k.e0, k.noflag, by show (f.delivered ++ []).flatten = _; rw [List.append_nil]; exact k.bytes, k.sentEq⟩

/-- **PORT_BINARY framing**: for every schedule (any chunking of the sends, any interleaving of read events and
    extractions) and every behaviour of process_input (return, error, destruct), the buffers delivered to
    process_input concatenate to exactly the bytes received so far, and received ++ unread = sent -/
theorem binary_bytes_delivered (o : Oracle) (ops : List FOp) (f : F)
    (h : fRun o { s := S.init .binary } ops = .ok f) :
    f.delivered.flatten = f.received ∧ f.received ++ f.s.sock = f.sent :=
  let k := fRun_invariant (P := BinK) (fun _ _ op k h => binK_step o op k h) ops _ f ⟨rfl, rfl, rfl, rfl, rfl, rfl⟩ h
  ⟨k.bytes, k.sentEq⟩

end NV.C13
