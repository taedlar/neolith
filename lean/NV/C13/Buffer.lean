/-
C13 — the input buffer (`text`, `text_start`, `text_end`): its invariant, the NUL the C code relies on behind the buffered
text, and what the writes the code performs do to slices and cells of the array.
-/
import NV.C13.Decoder

namespace NV.C13

open NV.Gen.C13

/-- invariant of an interactive: the buffer has its declared size, `0 ≤ text_start ≤ text_end ≤ MAX_TEXT-1`,
    and the decoder invariant -/
structure Inv (s : S) : Prop where
  textLen : s.text.length = MAXT
  se : s.tstart ≤ s.tend
  eMax : s.tend + 1 ≤ MAXT
  dec : DecInv s.dec

/-- from "it returns some pair with `P`" and the pair it returned: `P` of that pair -/
theorem ok_elim {ε α β : Type} {f : Except ε (α × β)} {P : α → β → Prop} (h : ∃ a b, f = .ok (a, b) ∧ P a b) {a : α} {b : β}
    (e : f = .ok (a, b)) : P a b := by
  obtain ⟨a', b', e', p⟩ := h
  rw [e] at e'
  injection e' with e'; injection e' with e1 e2
  rw [e1, e2]; exact p

theorem writeAt_eq {t : List Byte} {i : Nat} {b : List Byte} (h : i + b.length ≤ t.length) :
    writeAt t i b = .ok (t.take i ++ b ++ t.drop (i + b.length)) := by
  simp [writeAt, h]

theorem writeAt_length {t t' : List Byte} {i : Nat} {b : List Byte} (h : writeAt t i b = .ok t') :
    t'.length = t.length := by
  unfold writeAt at h
  split at h
  · injection h with h; subst h
    simp; omega
  · cases h

theorem slice_length (t : List Byte) (a b : Nat) (h : b ≤ t.length) : (slice t a b).length = b - a := by
  simp [slice]; omega

theorem init_inv (p : Port) : Inv (S.init p) := by
  refine ⟨?_, Nat.le_refl _, ?_, ?_⟩
  · show (List.replicate textArraySize (0 : Byte)).length = MAXT
    rw [List.length_replicate]; decide
  · show 0 + 1 ≤ MAXT
    decide
  · refine ⟨?_, Nat.zero_le _, fun h => ?_⟩
    · show (List.replicate sbBufSize (0 : Byte)).length = sbBufSize
      rw [List.length_replicate]
    · have : (S.init p).dec.ts = tsDATA := rfl
      rw [this] at h
      simp [tsDATA, tsSB, tsSBIAC] at h

/-- the invariant reads the array, the two indices and the decoder - not the port, the socket, `closed` or the count of
    callbacks -/
theorem Inv.frame {s : S} (h : Inv s) (p : Port) (k : List Byte) (c : Bool) (n : Nat) :
    Inv { s with port := p, sock := k, closed := c, cbCount := n } :=
  ⟨h.textLen, h.se, h.eMax, h.dec⟩

theorem decInv_fl {d : Dec} (h : DecInv d) (f : IFlags) : DecInv { d with fl := f } :=
  ⟨h.sbLen, h.sbPos, h.lastZ⟩

theorem Inv.fl {s : S} (h : Inv s) (f : IFlags) : Inv { s with dec := { s.dec with fl := f } } :=
  ⟨h.textLen, h.se, h.eMax, decInv_fl h.dec f⟩

/-- the decoded text that has not been handed out yet: `text[text_start .. text_end)` -/
def pend (s : S) : List Byte := slice s.text s.tstart s.tend

theorem pend_length {s : S} (hl : s.tend ≤ s.text.length) : (pend s).length = s.tend - s.tstart :=
  slice_length _ _ _ hl

theorem slice_eq_drop_take (t : List Byte) (a b : Nat) : slice t a b = (t.take b).drop a := by
  simp [slice, List.drop_take]

theorem slice_write_outside {t x : List Byte} {i a b : Nat} (hb : b ≤ i) (hi : i ≤ t.length) :
    slice (t.take i ++ x ++ t.drop (i + x.length)) a b = slice t a b := by
  rw [slice_eq_drop_take, slice_eq_drop_take]
  congr 1
  rw [List.append_assoc, List.take_append_of_le_length (by simp; omega), List.take_take]
  congr 1; omega

theorem slice_write_append {t x : List Byte} {i a : Nat} (ha : a ≤ i) (hi : i + x.length ≤ t.length) :
    slice (t.take i ++ x ++ t.drop (i + x.length)) a (i + x.length) = slice t a i ++ x := by
  rw [slice_eq_drop_take, slice_eq_drop_take]
  have h1 : (t.take i).length = i := by simp; omega
  have : List.take (i + x.length) (t.take i ++ x ++ t.drop (i + x.length)) = t.take i ++ x := by
    rw [List.take_append_of_le_length (by simp; omega)]
    apply List.take_of_length_le
    simp; omega
  rw [this, List.drop_append_of_le_length (by omega)]

theorem slice_compact {t : List Byte} {a e : Nat} (hae : a ≤ e) (he : e + 1 ≤ t.length) (rest : List Byte) :
    slice (slice t a (e + 1) ++ rest) 0 (e - a) = slice t a e := by
  rw [slice_eq_drop_take, List.drop_zero]
  have hl : (slice t a (e + 1)).length = e + 1 - a := slice_length _ _ _ he
  rw [List.take_append_of_le_length (by omega)]
  simp only [slice]
  rw [List.take_take]
  congr 1; omega

theorem slice_move {p rest : List Byte} : slice (([] : List Byte).take 0 ++ p ++ rest) 0 p.length = p := by
  simp [slice]

theorem slice_drop (t : List Byte) (a e z : Nat) : (slice t a e).drop z = slice t (a + z) e := by
  simp only [slice, List.drop_take, List.drop_drop]
  congr 1; omega

theorem slice_nil_of_ge (t : List Byte) {a e : Nat} (h : e ≤ a) : slice t a e = [] := by
  simp [slice]; omega

theorem pend_init (p : Port) : pend (S.init p) = [] := slice_nil_of_ge _ (Nat.le_refl _)

theorem slice_write_before {t x : List Byte} {i a b : Nat} (ha : i + x.length ≤ a) (hi : i + x.length ≤ t.length) :
    slice (t.take i ++ x ++ t.drop (i + x.length)) a b = slice t a b := by
  simp only [slice]
  congr 1
  have hl : (t.take i ++ x).length = i + x.length := by simp; omega
  have : a = (t.take i ++ x).length + (a - (i + x.length)) := by omega
  rw [this, List.drop_length_add_append, List.drop_drop]
  congr 1; omega

theorem slice_getD (t : List Byte) (a b j : Nat) (d : Byte) (hj : j < b - a) :
    (slice t a b).getD j d = t.getD (a + j) d := by
  simp only [slice, List.getD]
  rw [List.getElem?_take_of_lt hj, List.getElem?_drop]

/-- the NUL the C code relies on wherever it reads `text + text_start` as a C string: some cell at or behind
    `text_end`, inside the array, holds 0 (`getD .. 1`: a cell outside the array does not count).  It is the terminator
    the code itself stored, not a consequence of a cleared array (the real one is not cleared). -/
def NulAfter (s : S) : Prop := ∃ k, s.tend ≤ k ∧ k < s.text.length ∧ s.text.getD k 1 = 0

theorem getD_write_hi {t x : List Byte} {i k : Nat} (d : Byte) (hk : i + x.length ≤ k) (hi : i + x.length ≤ t.length) :
    (t.take i ++ x ++ t.drop (i + x.length)).getD k d = t.getD k d := by
  have hl : (t.take i ++ x).length = i + x.length := by simp; omega
  simp only [List.getD]
  rw [List.getElem?_append_right (by omega), hl, List.getElem?_drop]
  congr 2; omega

theorem getD_write_in {t x : List Byte} {i j : Nat} (d : Byte) (hi : i + x.length ≤ t.length) (hj : j < x.length) :
    (t.take i ++ x ++ t.drop (i + x.length)).getD (i + j) d = x.getD j d := by
  have hl : (t.take i).length = i := by simp; omega
  simp only [List.getD, List.append_assoc]
  rw [List.getElem?_append_right (by omega), hl, List.getElem?_append_left (by omega)]
  congr 2; omega

theorem getD_write_zero {t : List Byte} {e : Nat} (he : e < t.length) :
    (t.take e ++ [0] ++ t.drop (e + ([0] : List Byte).length)).getD e 1 = 0 :=
  getD_write_in (x := [0]) (j := 0) 1 he Nat.zero_lt_one

theorem nulAfter_init (p : Port) : NulAfter (S.init p) := by
  refine ⟨0, Nat.le_refl _, ?_, ?_⟩
  · show 0 < (List.replicate textArraySize (0 : Byte)).length
    rw [List.length_replicate]; decide
  · show (List.replicate textArraySize (0 : Byte)).getD 0 1 = 0
    rfl

/-- a write that ends at or below the NUL keeps it -/
theorem nulAfter_write_below {s : S} (h : NulAfter s) {i : Nat} {x : List Byte} (hx : i + x.length ≤ s.tend)
    (hl : s.tend ≤ s.text.length) (e' a' : Nat) (he' : e' ≤ s.tend) (d : Dec) (sk : List Byte) (c : Bool) (n : Nat) :
    NulAfter { s with text := s.text.take i ++ x ++ s.text.drop (i + x.length), tend := e', tstart := a', dec := d,
                      sock := sk, closed := c, cbCount := n } := by
  obtain ⟨k, h1, h2, h3⟩ := h
  refine ⟨k, by dsimp only; omega, ?_, ?_⟩
  · dsimp only; rw [writeAt_length (writeAt_eq (by omega))]; exact h2
  · dsimp only; rw [getD_write_hi 1 (by omega) (by omega)]; exact h3

/-- `memcpy (text + e, x, n)` behind the buffered text -/
theorem append_text {t x : List Byte} {e : Nat} (h : e + x.length ≤ t.length) :
    ∃ t1, writeAt t e x = .ok t1 ∧ t1.length = t.length ∧ ∀ a, a ≤ e → slice t1 a (e + x.length) = slice t a e ++ x :=
  ⟨_, writeAt_eq h, writeAt_length (writeAt_eq h), fun _ ha => slice_write_append ha h⟩

/-- `memmove (text, text + a, e - a)`: the pending text moved to the front of the array -/
theorem move_front {t : List Byte} {a e : Nat} (he : e ≤ t.length) :
    ∃ t1, writeAt t 0 (slice t a e) = .ok t1 ∧ t1.length = t.length ∧ slice t1 0 (e - a) = slice t a e := by
  have hsl : (slice t a e).length = e - a := slice_length _ _ _ he
  have hw : 0 + (slice t a e).length ≤ t.length := by omega
  refine ⟨_, writeAt_eq hw, writeAt_length (writeAt_eq hw), ?_⟩
  rw [← hsl]; simp [slice]

/-- `memmove (text, text + a, e - a + 1)`, the compaction of get_user_data: the pending text moves to the front of the
    array, and a NUL at or behind `e` stays at or behind the new end `e - a` (the cell at `e` is moved along) -/
theorem compact_text {t : List Byte} {a e : Nat} (hae : a ≤ e) (he : e + 1 ≤ t.length) :
    ∃ t1, writeAt t 0 (slice t a (e + 1)) = .ok t1 ∧ t1.length = t.length ∧ slice t1 0 (e - a) = slice t a e ∧
      ((∃ k, e ≤ k ∧ k < t.length ∧ t.getD k 1 = 0) → ∃ k, e - a ≤ k ∧ k < t1.length ∧ t1.getD k 1 = 0) := by
  have hsl : (slice t a (e + 1)).length = e + 1 - a := slice_length _ _ _ he
  have hw : 0 + (slice t a (e + 1)).length ≤ t.length := by omega
  have hlen := writeAt_length (writeAt_eq hw)
  refine ⟨_, writeAt_eq hw, hlen, slice_compact hae he _, ?_⟩
  rintro ⟨k, hk1, hk2, hk3⟩
  by_cases hkt : k = e
  · refine ⟨e - a, Nat.le_refl _, by rw [hlen]; omega, ?_⟩
    have := getD_write_in (t := t) (x := slice t a (e + 1)) (i := 0) (j := e - a) 1 hw (by omega)
    simp only [Nat.zero_add] at this ⊢
    rw [this, slice_getD _ _ _ _ _ (by omega), show a + (e - a) = k by omega]
    exact hk3
  · exact ⟨k, by omega, by rw [hlen]; exact hk2, (getD_write_hi 1 (by omega) hw).trans hk3⟩

/-- `memcpy (text + e, x, n); text[e + n] = '\0'`: the two writes of every function that appends to the buffer.  The
    array keeps its size, what lay in front of `e` is followed by `x`, and a NUL stands at the new end. -/
theorem append_terminate {t x : List Byte} {e : Nat} (h : e + x.length + 1 ≤ t.length) :
    ∃ t1 t2, writeAt t e x = .ok t1 ∧ writeAt t1 (e + x.length) [0] = .ok t2 ∧ t2.length = t.length ∧
      (∀ a, a ≤ e → slice t2 a (e + x.length) = slice t a e ++ x) ∧ t2.getD (e + x.length) 1 = 0 := by
  have hw1 : e + x.length ≤ t.length := by omega
  have hl1 := writeAt_length (writeAt_eq hw1)
  have hw2 : e + x.length + ([0] : List Byte).length ≤ (t.take e ++ x ++ t.drop (e + x.length)).length := by
    rw [hl1]; exact h
  refine ⟨_, _, writeAt_eq hw1, writeAt_eq hw2, (writeAt_length (writeAt_eq hw2)).trans hl1, fun a ha => ?_,
    getD_write_zero (by rw [hl1]; omega)⟩
  rw [slice_write_outside (Nat.le_refl _) (by rw [hl1]; omega), slice_write_append ha hw1]

theorem nulAfter_fl {s : S} (hn : NulAfter s) (f : IFlags) : NulAfter { s with dec := { s.dec with fl := f } } := hn

end NV.C13
