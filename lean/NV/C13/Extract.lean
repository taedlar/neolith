/-
C13 — command extraction (cmd_in_buf, first_cmd_in_buf, next_cmd_in_buf, telnet_neg, get_user_command): memory safety
in line mode and in single-character mode, and the exact effect of one extraction on the pending text.
-/
import NV.C13.Buffer

namespace NV.C13

open NV.Gen.C13

/-- cmd_in_buf: something is pending behind the leading NULs, and in line mode it is a complete command -/
theorem cmdInBuf_eq {s : S} (hl : s.tend ≤ s.text.length) :
    cmdInBuf s = .ok (if s.dec.fl.single then !(dropZ (pend s)).isEmpty else hasCmd (pend s)) := by
  have hd : (dropZ (pend s)).length = s.tend - s.tstart - countZ (pend s) := by
    simp only [dropZ, List.length_drop, pend_length hl]
  unfold cmdInBuf
  rw [if_neg (by omega)]
  have e0 : dropZ (pend s) = [] → (Except.ok false : Except String Bool) =
      .ok (if s.dec.fl.single then !(dropZ (pend s)).isEmpty else hasCmd (pend s)) := fun e => by
    simp [hasCmd, e]
  split
  · exact e0 (List.eq_nil_of_length_eq_zero (by omega))
  · dsimp only
    rw [show slice s.text s.tstart s.tend = pend s from rfl,
      show List.drop (countZ (pend s)) (pend s) = dropZ (pend s) from rfl]
    split
    · exact e0 (List.eq_nil_of_length_eq_zero (by omega))
    · have : dropZ (pend s) ≠ [] := fun e => by rw [e] at hd; simp at hd; omega
      cases s.dec.fl.single <;> simp [hasCmd, this]

theorem cmdInBuf_total (s : S) (h : s.tend ≤ s.text.length) : ∃ c, cmdInBuf s = .ok c := ⟨_, cmdInBuf_eq h⟩

/-- CMD_IN_BUF is or-ed with the answer of cmd_in_buf; nothing else changes -/
theorem setCmdFlag_eq {s : S} (hl : s.tend ≤ s.text.length) :
    setCmdFlag s = .ok { s with dec := { s.dec with fl := { s.dec.fl with cmdInBuf := s.dec.fl.cmdInBuf ||
      (if s.dec.fl.single then !(dropZ (pend s)).isEmpty else hasCmd (pend s)) } } } := by
  unfold setCmdFlag
  rw [cmdInBuf_eq hl]
  cases (if s.dec.fl.single then !(dropZ (pend s)).isEmpty else hasCmd (pend s))
  · simp
  · simp

theorem cmdInBuf_line {s : S} (hl : s.tend ≤ s.text.length) (hns : s.dec.fl.single = false) :
    cmdInBuf s = .ok (hasCmd (pend s)) := by
  rw [cmdInBuf_eq hl, hns]; rfl

theorem setCmdFlag_line {s : S} (hl : s.tend ≤ s.text.length) (hns : s.dec.fl.single = false) :
    setCmdFlag s = .ok { s with dec := { s.dec with fl := { s.dec.fl with cmdInBuf := s.dec.fl.cmdInBuf || hasCmd (pend s) } } } := by
  rw [setCmdFlag_eq hl, hns]; rfl

theorem cstrAt_eq {t : List Byte} {i : Nat} (h : (t.drop i).contains 0 = true) :
    cstrAt t i = .ok (cstrOf (t.drop i)) := by
  simp only [cstrAt, h, if_true]

/-- a complete command in the pending text ends at a NUL inside the array -/
theorem hasCmd_nul {s : S} (hc : hasCmd (pend s) = true) :
    (s.text.drop (s.tstart + countZ (pend s))).contains 0 = true := by
  have hm : (0 : Byte) ∈ slice s.text (s.tstart + countZ (pend s)) s.tend := by
    rw [← slice_drop]; exact countNZ_lt_mem (of_decide_eq_true hc)
  exact List.contains_iff_mem.mpr (List.mem_of_mem_take hm)

/-- the four things first_cmd_in_buf does, as a relation between the state and the result (new state, offset returned) -/
inductive FirstCmd (s : S) : S × Option Nat → Prop
  /-- only NULs are pending: the buffer is reset -/
  | reset (t : List Byte) (hA : s.tend ≤ s.tstart + countZ (pend s)) (tl : t.length = MAXT) (tz : t.getD 0 1 = 0) :
    FirstCmd s ({ s with tstart := 0, tend := 0, text := t }, none)
  /-- a command starts behind the leading NULs (complete in line mode, not looked at in single-character mode):
      `text_start` moves there -/
  | found (hA : s.tstart + countZ (pend s) < s.tend) (hc : s.dec.fl.single = true ∨ hasCmd (pend s) = true) :
    FirstCmd s ({ s with tstart := s.tstart + countZ (pend s) }, some (s.tstart + countZ (pend s)))
  /-- a partial command is moved to the front of the array, the bytes from `text_end` on staying where they are -/
  | moved (t : List Byte) (hns : s.dec.fl.single = false) (hc : hasCmd (pend s) = false)
      (hfit : (dropZ (pend s)).length + cutMargin ≤ MAXT) (tl : t.length = MAXT)
      (front : slice t 0 (dropZ (pend s)).length = dropZ (pend s))
      (behind : ∀ k, s.tend ≤ k → k < MAXT → t.getD k 1 = s.text.getD k 1) :
    FirstCmd s ({ s with text := t, tstart := 0, tend := (dropZ (pend s)).length }, none)
  /-- that partial command fills the buffer and is cut, `text[text_end]` being the second of the two NULs stored -/
  | cut (t : List Byte) (hns : s.dec.fl.single = false) (hfull : MAXT < (dropZ (pend s)).length + cutMargin)
      (tl : t.length = MAXT) (tz : t.getD ((dropZ (pend s)).length - 1) 1 = 0) :
    FirstCmd s ({ s with text := t, tstart := 0, tend := (dropZ (pend s)).length - 1 }, some 0)

/-- **what first_cmd_in_buf does**, every access being inside `text[]` -/
theorem firstCmd_cases {s : S} (h : Inv s) : ∃ res, firstCmd s = .ok res ∧ FirstCmd s res := by
  have hl := h.textLen; have hse := h.se; have hem := h.eMax
  have hM : 4 ≤ MAXT := by decide
  have hcm : cutMargin = 2 := rfl
  have hpl : (pend s).length = s.tend - s.tstart := pend_length (by omega)
  have hzl := countZ_le (pend s)
  have hd : (dropZ (pend s)).length = s.tend - (s.tstart + countZ (pend s)) := by
    simp only [dropZ, List.length_drop]; omega
  have hw0 : 0 + ([0] : List Byte).length ≤ s.text.length := by simp; omega
  have hw1 : 0 + (dropZ (pend s)).length ≤ s.text.length := by omega
  generalize hr : firstCmd s = r
  unfold firstCmd at hr
  rw [if_neg (by omega), if_neg (by omega)] at hr
  dsimp only at hr
  rw [show slice s.text s.tstart s.tend = pend s from rfl,
    show List.drop (countZ (pend s)) (pend s) = dropZ (pend s) from rfl, ← hd] at hr
  by_cases hA : s.tstart + countZ (pend s) ≥ s.tend
  · rw [if_pos hA, writeAt_eq hw0] at hr
    exact ⟨_, hr.symm, .reset _ hA ((writeAt_length (writeAt_eq hw0)).trans hl) (getD_write_zero (by omega))⟩
  rw [if_neg hA] at hr
  by_cases hsg : s.dec.fl.single = true
  · rw [if_pos hsg] at hr
    exact ⟨_, hr.symm, .found (by omega) (.inl hsg)⟩
  rw [if_neg hsg] at hr
  have hns : s.dec.fl.single = false := by simpa using hsg
  by_cases hc : countNZ (dropZ (pend s)) < (dropZ (pend s)).length
  · rw [if_pos hc] at hr
    exact ⟨_, hr.symm, .found (by omega) (.inr (decide_eq_true hc))⟩
  rw [if_neg hc, writeAt_eq hw1] at hr
  dsimp only at hr
  have hl1 := writeAt_length (writeAt_eq hw1)
  by_cases hfull : (dropZ (pend s)).length + cutMargin > MAXT
  · have hw2 : (dropZ (pend s)).length - 2 + ([0, 0] : List Byte).length ≤
        (List.take 0 s.text ++ dropZ (pend s) ++ List.drop (0 + (dropZ (pend s)).length) s.text).length := by
      rw [hl1]; simp; omega
    rw [if_pos hfull, if_neg (by omega), writeAt_eq hw2] at hr
    -- the second of the two NULs that cut the line is `text[text_end]`
    have hz := getD_write_in (i := (dropZ (pend s)).length - 2) (j := 1) 1 hw2 (by simp)
    rw [show (dropZ (pend s)).length - 2 + 1 = (dropZ (pend s)).length - 1 by omega] at hz
    exact ⟨_, hr.symm, .cut _ hns hfull (((writeAt_length (writeAt_eq hw2)).trans hl1).trans hl) hz⟩
  · rw [if_neg hfull] at hr
    exact ⟨_, hr.symm, .moved _ hns (decide_eq_false hc) (by omega) (hl1.trans hl) (by simp [slice])
      fun k hk _ => getD_write_hi 1 (by omega) hw1⟩

/-- **first_cmd_in_buf in every mode** stays inside `text[]`, keeps the invariant and a NUL behind the text; an offset it
    returns lies in the buffered text, and in line mode a NUL follows it inside the array -/
theorem firstCmd_spec {s : S} (h : Inv s) :
    ∃ s1 r, firstCmd s = .ok (s1, r) ∧ Inv s1 ∧ s1.dec = s.dec ∧ s1.port = s.port ∧ (NulAfter s → NulAfter s1) ∧
      ∀ i, r = some i → i ≤ s1.tend ∧ (s.dec.fl.single = false → (s1.text.drop i).contains 0 = true) := by
  have hl := h.textLen; have hse := h.se; have hem := h.eMax
  have hM : 4 ≤ MAXT := by decide
  have hcm : cutMargin = 2 := rfl
  have hdl : (dropZ (pend s)).length ≤ s.tend - s.tstart := by
    rw [← pend_length (s := s) (by omega)]; simp [dropZ]
  obtain ⟨_, e, c⟩ := firstCmd_cases h
  cases c with
  | reset t _ tl tz =>
    exact ⟨_, _, e, ⟨tl, Nat.le_refl _, by dsimp only; omega, h.dec⟩, rfl, rfl,
      fun _ => ⟨0, Nat.le_refl _, by dsimp only; omega, tz⟩, fun i hi => by cases hi⟩
  | found _ hc =>
    refine ⟨_, _, e, ⟨hl, by dsimp only; omega, hem, h.dec⟩, rfl, rfl, id, fun i hi => ?_⟩
    injection hi with hi; subst hi
    exact ⟨by dsimp only; omega, fun hns => hasCmd_nul (hc.resolve_left (by rw [hns]; exact Bool.false_ne_true))⟩
  | moved t _ _ _ tl _ behind =>
    exact ⟨_, _, e, ⟨tl, Nat.zero_le _, by dsimp only; omega, h.dec⟩, rfl, rfl,
      fun ⟨k, k1, k2, k3⟩ => ⟨k, by dsimp only; omega, by dsimp only; omega, (behind k k1 (by omega)).trans k3⟩,
      fun i hi => by cases hi⟩
  | cut t _ _ tl tz =>
    refine ⟨_, _, e, ⟨tl, Nat.zero_le _, by dsimp only; omega, h.dec⟩, rfl, rfl,
      fun _ => ⟨_, Nat.le_refl _, by dsimp only; omega, tz⟩, fun i hi => ?_⟩
    injection hi with hi; subst hi
    exact ⟨Nat.zero_le _, fun _ => contains_zero_of_getD (Nat.zero_le _) tz⟩

/-- what next_cmd_in_buf does in every mode -/
structure NextCmdOK (s s2 : S) : Prop where
  inv : Inv s2
  /-- the command at the front of the pending text and the NULs behind it are skipped -/
  text : pend s2 = dropZ (dropNZ (pend s))
  dec : s2.dec = s.dec
  port : s2.port = s.port
  sock : s2.sock = s.sock
  nul : NulAfter s → NulAfter s2

theorem nextCmd_exact {s : S} (h : Inv s) : ∃ s2, nextCmd s = .ok s2 ∧ NextCmdOK s s2 := by
  have hl := h.textLen; have hse := h.se; have hem := h.eMax
  have hpl : (pend s).length = s.tend - s.tstart := pend_length (by omega)
  have hw0 : 0 + ([0] : List Byte).length ≤ s.text.length := by simp; omega
  have hdn : (dropNZ (pend s)).length = (pend s).length - countNZ (pend s) := by simp [dropNZ]
  have hz2 := countZ_le (dropNZ (pend s))
  unfold nextCmd
  rw [if_neg (by omega), if_neg (by omega)]
  dsimp only
  have e1 : slice s.text s.tstart s.tend = pend s := rfl
  have e2 : List.drop (countNZ (pend s)) (pend s) = dropNZ (pend s) := rfl
  rw [e1, e2]
  split
  · refine ⟨_, rfl,
      { inv := ⟨hl, by dsimp only; omega, hem, h.dec⟩, text := ?_, dec := rfl, port := rfl, sock := rfl, nul := id }⟩
    show slice s.text _ s.tend = _
    rw [Nat.add_assoc, ← slice_drop]
    simp only [dropZ, dropNZ, List.drop_drop]; rfl
  · rw [writeAt_eq hw0]
    refine ⟨_, rfl,
      { inv := ⟨?_, Nat.le_refl _, by dsimp only; omega, h.dec⟩, text := ?_, dec := rfl, port := rfl, sock := rfl,
        nul := fun _ =>
          ⟨0, Nat.le_refl _, by dsimp only; rw [writeAt_length (writeAt_eq hw0)]; omega, getD_write_zero (by omega)⟩ }⟩
    · dsimp only; rw [writeAt_length (writeAt_eq hw0)]; exact hl
    · have : dropZ (dropNZ (pend s)) = [] := by
        simp only [dropZ]; apply List.drop_eq_nil_of_le; omega
      rw [this]; exact slice_nil_of_ge _ (Nat.le_refl _)

/-- without CMD_IN_BUF get_user_command does not look at the buffer -/
theorem getUserCommand_idle {s : S} (h : s.dec.fl.cmdInBuf = false) : getUserCommand s = .ok (s, none) := by
  unfold getUserCommand; rw [h]; rfl

/-- what get_user_command guarantees in every mode -/
structure CommandOK (s s' : S) (r : Option (List Byte)) : Prop where
  inv : Inv s'
  single : s'.dec.fl.single = s.dec.fl.single
  port : s'.port = s.port
  nul : NulAfter s → NulAfter s'
  short : ∀ l, r = some l → l.length + 1 ≤ MAXT

/-- **get_user_command in every mode.**  In line mode first_cmd_in_buf has found the terminator of the command it
    returns; in single-character mode it returns `text + text_start` without looking, and the C string handed to
    telnet_neg ends inside `text[]` because of the NUL behind the text.  Either way no array is left, the invariant
    (and that NUL) are kept, and the returned line is shorter than MAX_TEXT. -/
theorem getUserCommand_spec {s : S} (h : Inv s) (hm : s.dec.fl.single = false ∨ NulAfter s) :
    ∃ s' r, getUserCommand s = .ok (s', r) ∧ CommandOK s s' r := by
  unfold getUserCommand
  split
  · exact ⟨_, _, rfl, { inv := h, single := rfl, port := rfl, nul := id, short := fun l hl => by cases hl }⟩
  · obtain ⟨s1, r, h1, i1, d1, p1, n1, b1⟩ := firstCmd_spec h
    rw [h1]
    cases r with
    | none =>
      dsimp only
      exact ⟨_, _, rfl,
        { inv := i1.fl _, single := by dsimp only; rw [d1], port := p1, nul := fun hn => nulAfter_fl (n1 hn) _,
          short := fun l hl => by cases hl }⟩
    | some i =>
      dsimp only
      have hz : (s1.text.drop i).contains 0 = true := by
        rcases hm with hns | hn
        · exact (b1 i rfl).2 hns
        · obtain ⟨k, hk1, hk2, hk3⟩ := n1 hn
          exact contains_zero_of_getD (by have := (b1 i rfl).1; omega) hk3
      rw [cstrAt_eq hz]
      dsimp only
      have hmem : (0 : Byte) ∈ s1.text.drop i := by simpa using hz
      have hlt := cstrOf_length_lt hmem
      have hle := edit_length_le (cstrOf (s1.text.drop i))
      have hdl : (s1.text.drop i).length ≤ MAXT := by rw [List.length_drop, i1.textLen]; omega
      rw [telnetNeg_eq_edit, if_neg (by omega)]
      obtain ⟨s2, h2, nx⟩ := nextCmd_exact i1
      rw [h2]
      dsimp only
      obtain ⟨c, hc⟩ := cmdInBuf_total s2 (by have := nx.inv.eMax; have := nx.inv.textLen; omega)
      rw [hc]
      dsimp only
      have hshort : ∀ l, some (edit (cstrOf (s1.text.drop i))) = some l → l.length + 1 ≤ MAXT := fun l hl => by
        injection hl with hl; subst hl; omega
      cases c
      · simp only [Bool.false_eq_true, if_false]
        exact ⟨_, _, rfl,
          { inv := nx.inv.fl _, single := by rw [nx.dec, d1], port := nx.port.trans p1,
            nul := fun hn => nulAfter_fl (nx.nul (n1 hn)) _, short := hshort }⟩
      · simp only [if_true]
        exact ⟨_, _, rfl,
          { inv := nx.inv, single := by rw [nx.dec, d1], port := nx.port.trans p1, nul := fun hn => nx.nul (n1 hn),
            short := hshort }⟩

/-- **get_user_command keeps the invariant** (line mode): first_cmd_in_buf, the C-string read of the command,
    telnet_neg into the static `buf[MAX_TEXT]`, next_cmd_in_buf and cmd_in_buf stay inside their arrays; the line
    returned is shorter than the buffer -/
theorem getUserCommand_ok {s : S} (h : Inv s) (hns : s.dec.fl.single = false) :
    ∃ s' r, getUserCommand s = .ok (s', r) ∧ Inv s' ∧ s'.dec.fl.single = false ∧ ∀ l, r = some l → l.length + 1 ≤ MAXT :=
  let ⟨s', r, e, k⟩ := getUserCommand_spec h (.inl hns)
  ⟨s', r, e, k.inv, k.single.trans hns, k.short⟩

/-- result of one extraction, in terms of the pending text `pend s` before and `pend s'` after -/
structure ExtractOK (s s' : S) (r : Option (List Byte)) : Prop where
  inv : Inv s'
  port : s'.port = s.port
  sock : s'.sock = s.sock
  ts : s'.dec.ts = s.dec.ts
  cr : s'.dec.cr = s.dec.cr
  single : s'.dec.fl.single = false
  /-- the list of commands denoted by pending ++ future text loses exactly the delivered line -/
  cmds : ∀ x, cmdsOf [] (pend s ++ x) = r.toList ++ cmdsOf [] (pend s' ++ x)
  /-- CMD_IN_BUF stays an upper bound of "a complete command is pending" -/
  flag : (hasCmd (pend s) = true → s.dec.fl.cmdInBuf = true) → (hasCmd (pend s') = true → s'.dec.fl.cmdInBuf = true)
  /-- no command returned although the flag was accurate: nothing complete is pending -/
  drained : (hasCmd (pend s) = true → s.dec.fl.cmdInBuf = true) → r = none → cmdsOf [] (pend s') = []

/-- **one get_user_command in line mode, buffer not full** -/
theorem extract_exact {s : S} (h : Inv s) (hns : s.dec.fl.single = false)
    (hfit : (pend s).length + cutMargin ≤ MAXT) :
    ∃ s' r, getUserCommand s = .ok (s', r) ∧ ExtractOK s s' r := by
  have hl := h.textLen; have hse := h.se; have hem := h.eMax
  have hpl : (pend s).length = s.tend - s.tstart := pend_length (by omega)
  unfold getUserCommand
  split
  · rename_i hflag
    have hf : s.dec.fl.cmdInBuf = false := by simpa using hflag
    refine ⟨s, none, rfl, ⟨h, rfl, rfl, rfl, rfl, hns, fun x => rfl, fun hh => hh, ?_⟩⟩
    intro hh _
    cases hc : hasCmd (pend s) with
    | false => exact cmdsOf_no_complete hc
    | true => rw [hh hc] at hf; cases hf
  · have hcm : cutMargin = 2 := rfl
    have hdl : (dropZ (pend s)).length ≤ (pend s).length := by simp [dropZ]
    -- no command comes back: the leading NULs are gone and nothing complete is pending
    have fin : ∀ s1 : S, Inv s1 → pend s1 = dropZ (pend s) → s1.dec = s.dec → s1.port = s.port → s1.sock = s.sock →
        hasCmd (pend s) = false →
        ExtractOK s { s1 with dec := { s1.dec with fl := { s1.dec.fl with cmdInBuf := false } } } none := by
      intro s1 i1 p1 d1 po1 so1 hc
      have hnc : hasCmd (dropZ (pend s)) = false := by
        simp only [hasCmd, dropZ_idem]; simpa [hasCmd] using hc
      refine ⟨i1.fl _, po1, so1, by dsimp only; rw [d1],
        by dsimp only; rw [d1], by dsimp only; rw [d1]; exact hns, ?_, ?_, ?_⟩
      · intro x
        show _ = _ ++ cmdsOf [] (pend s1 ++ x)
        rw [p1]; exact cmdsOf_dropZ (pend s) x
      · intro _ hq
        have : hasCmd (pend s1) = true := hq
        rw [p1, hnc] at this; cases this
      · intro _ _
        show cmdsOf [] (pend s1) = []
        rw [p1]; exact cmdsOf_no_complete hnc
    obtain ⟨_, h1, c⟩ := firstCmd_cases h
    cases c with
    | reset t hA tl _ =>
      rw [h1]
      dsimp only
      have hdz : dropZ (pend s) = [] := List.drop_eq_nil_of_le (by omega)
      exact ⟨_, none, rfl, fin { s with tstart := 0, tend := 0, text := t } ⟨tl, Nat.le_refl _, by dsimp only; omega, h.dec⟩
        ((slice_nil_of_ge _ (Nat.le_refl _)).trans hdz.symm) rfl rfl rfl (by rw [hasCmd, hdz]; rfl)⟩
    | found hA hc =>
      have hc := hc.resolve_left (by rw [hns]; exact Bool.false_ne_true)
      rw [h1]
      dsimp only
      have hc' : countNZ (dropZ (pend s)) < (dropZ (pend s)).length := by simpa [hasCmd] using hc
      have hzl := countZ_le (pend s)
      have i1 : Inv ({ s with tstart := s.tstart + countZ (pend s) } : S) := ⟨hl, by dsimp only; omega, hem, h.dec⟩
      have p1 : pend ({ s with tstart := s.tstart + countZ (pend s) } : S) = dropZ (pend s) := by
        show slice s.text _ s.tend = _
        rw [← slice_drop]; rfl
      -- the C string at text + text_start
      have hcs : cstrAt s.text (s.tstart + countZ (pend s)) = .ok (takeNZ (dropZ (pend s))) := by
        have hd : dropZ (pend s) = (s.text.drop (s.tstart + countZ (pend s))).take (s.tend - (s.tstart + countZ (pend s))) := by
          rw [← p1]; rfl
        rw [cstrAt_eq (hasCmd_nul hc)]
        rw [hd] at hc' ⊢
        rw [cstrOf_take _ _ hc']
      rw [hcs]
      dsimp only
      have htl : (takeNZ (dropZ (pend s))).length ≤ (pend s).length := by
        simp only [takeNZ, dropZ, List.length_take, List.length_drop]; omega
      have hel := edit_length_le (takeNZ (dropZ (pend s)))
      have hcm : cutMargin = 2 := rfl
      rw [telnetNeg_eq_edit, if_neg (by omega)]
      obtain ⟨s2, h2, nx⟩ := nextCmd_exact i1
      rw [h2]
      dsimp only
      have p2 := nx.text
      rw [p1] at p2
      have hns2 : s2.dec.fl.single = false := by rw [nx.dec]; exact hns
      rw [cmdInBuf_line (by have := nx.inv.eMax; have := nx.inv.textLen; omega) hns2]
      dsimp only
      have hcmds : ∀ x, cmdsOf [] (pend s ++ x) = [edit (takeNZ (dropZ (pend s)))] ++ cmdsOf [] (pend s2 ++ x) := by
        intro x; rw [p2]; exact cmdsOf_extract_complete (pend s) x hc'
      cases hh : hasCmd (pend s2) with
      | true =>
        simp only [if_true]
        refine ⟨_, _, rfl, ⟨nx.inv, nx.port, nx.sock, by rw [nx.dec], by rw [nx.dec], hns2, hcmds, ?_, ?_⟩⟩
        · intro hf _; rw [nx.dec]; exact hf hc
        · intro _ hr; cases hr
      | false =>
        simp only [Bool.false_eq_true, if_false]
        refine ⟨_, _, rfl, ⟨nx.inv.fl _, nx.port, nx.sock, by dsimp only; rw [nx.dec],
          by dsimp only; rw [nx.dec], by dsimp only; exact hns2, hcmds, ?_, ?_⟩⟩
        · intro _ hq
          have : hasCmd (pend s2) = true := hq
          rw [hh] at this; cases this
        · intro _ hr; cases hr
    | moved t _ hc _ tl p1 _ =>
      rw [h1]
      dsimp only
      exact ⟨_, none, rfl, fin { s with text := t, tstart := 0, tend := (dropZ (pend s)).length }
        ⟨tl, Nat.zero_le _, by dsimp only; omega, h.dec⟩ p1 rfl rfl rfl hc⟩
    | cut _ _ hfull _ _ => omega

end NV.C13
