/-
C13 — bridging lemmas between the regenerated transition table of copy_chars (`NV.Gen.C13.ccTable`, produced by
running the real function on every byte in every decoder configuration) and the model's `ccByte`.
Evaluation by the kernel (`decide +kernel`: no axioms beyond the accepted ones) of `cfgOkFast` (Table.lean): per row one
comparison with the default path of the `case`, and `ccByte` itself on the bytes the `case` tests for.
-/
import NV.C13.Table

namespace NV.C13

open NV.Gen.C13

/-- for every configuration and every byte the model's step agrees with the real copy_chars in all components:
    next `ip->state` (TS_* code and TS_CR_SEEN), `sb_pos`, iflags, `telnet_sb_lm_mode[4]`, bytes stored through `*to++`,
    bytes sent to the client, every cell of `sb_buf`, callbacks with their arguments -/
theorem cc_table_tie : tableOk ccTable = true := by
  have h : ccTable.all cfgOkFast = true := by decide +kernel
  unfold tableOk
  rw [List.all_eq_true] at h ⊢
  exact fun c hc => cfgOk_of_fast (h c hc)

/-- all 16 values of `state & TS_STATE_MASK` × TS_CR_SEEN × SINGLE_CHAR occur as configurations -/
theorem cc_table_states : tableStates ccTable = true := by decide +kernel

/-- the table is total and the model follows it: in every probed configuration, for EVERY byte there is exactly the
    row of its range and the model's `ccByte` produces that row's state / actions (no crash) -/
theorem cc_table_total : ∀ c ∈ ccTable, ∀ b : Byte,
    ∃ r ∈ c.rows, r.lo ≤ b.toNat ∧ b.toNat ≤ r.hi ∧ rowOkAt c r b = true := by
  intro c hc b
  have h := cc_table_tie
  unfold tableOk at h
  rw [List.all_eq_true] at h
  have hcfg := h c hc
  unfold cfgOk at hcfg
  rw [Bool.and_eq_true] at hcfg
  obtain ⟨hcov, hrows⟩ := hcfg
  obtain ⟨r, hr, h1, h2⟩ := rowsCover_find c.rows 0 b.toNat hcov (Nat.zero_le _) (UInt8.toNat_lt b)
  rw [List.all_eq_true] at hrows
  exact ⟨r, hr, h1, h2, rowOk_at c r (hrows r hr) b h1 h2⟩

/-- in particular the model's step never crashes from a probed configuration (the real one did not either: the probe
    ran under ASan/UBSan with exact-size `from` / `to` buffers and the exact-size interactive_t) -/
theorem cc_table_no_crash : ∀ c ∈ ccTable, ∀ b : Byte, ∃ res, ccByte (cfgDec c) b = .ok res := by
  intro c hc b
  obtain ⟨r, _, _, _, h⟩ := cc_table_total c hc b
  unfold rowOkAt at h
  split at h
  · simp at h
  · exact ⟨_, by assumption⟩

/-- **editing / terminator bytes**: the model's `telnetNeg` erases the previous character for exactly the bytes the real
    telnet_neg does (`tnEditBytes`, read off the real function for all 255 non-NUL byte values: in the middle of a line
    and at its start) and copies every other byte; `addConsoleLine`'s conversion turns exactly `consoleNulBytes` into the
    command terminator -/
theorem edit_bytes_tie :
    (List.range 256).all (fun n => n == 0 ||
      (telnetNeg [97, 98, u8 n, 99] == (if tnEditBytes.contains n then [97, 99] else [97, 98, u8 n, 99]) &&
       telnetNeg [u8 n, 99] == (if tnEditBytes.contains n then [99] else [u8 n, 99]) &&
       (match addConsoleLine (S.init .console) [97, u8 n, 99] with
        | .ok s' => s'.text.take 3 == [97, if consoleNulBytes.contains n then 0 else u8 n, 99]
        | .error _ => false))) = true := by decide +kernel

end NV.C13
