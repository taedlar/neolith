/-
C13 — get_char() / input_to(): set_call, set_telnet_single_char, the end of single-character mode and
reframe_single_char_input keep the invariant and the NUL behind the text; `tmp[MAX_TEXT]` is never overrun; and what
the reframing computes is the line-mode framing of the typed-ahead text.
-/
import NV.C13.Extract

namespace NV.C13

open NV.Gen.C13

theorem setTelnetSingleChar_inv {d : Dec} (h : DecInv d) (b : Bool) :
    DecInv (setTelnetSingleChar d b).1 ∧ (setTelnetSingleChar d b).1.fl = d.fl := by
  unfold setTelnetSingleChar
  by_cases h1 : (!d.fl.usingTelnet) = true
  · rw [if_pos h1]; exact ⟨h, rfl⟩
  · rw [if_neg h1]
    by_cases h2 : d.fl.usingLinemode = true
    · rw [if_pos h2]; dsimp only; exact ⟨⟨h.sbLen, h.sbPos, h.lastZ⟩, rfl⟩
    · rw [if_neg h2]; exact ⟨h, rfl⟩

theorem tmpPush_ok {acc x : List Byte} (h : acc.length + x.length ≤ MAXT) : tmpPush acc x = .ok (acc ++ x) := by
  unfold tmpPush; rw [if_pos h]

/-- the room test of reframe_single_char_input is sufficient: no write behind `tmp[MAX_TEXT]`, and what it produces
    leaves room for the terminator -/
theorem reframeLoop_len : ∀ (l : List Byte) (sk : Bool) (acc : List Byte), acc.length + 2 ≤ MAXT →
    reframeLoop l sk acc = .ok none ∨ ∃ tmp, reframeLoop l sk acc = .ok (some tmp) ∧ tmp.length + 2 ≤ MAXT := by
  intro l
  induction l with
  | nil =>
    intro sk acc h
    exact Or.inr ⟨acc, by simp only [reframeLoop], h⟩
  | cons c rest ih =>
    intro sk acc h
    -- only what the argument needs (a larger margin in the source keeps the proof valid)
    have hN : 3 ≤ reframeNeed := by decide
    have hR : 1 ≤ reframeReserve := by decide
    cases sk with
    | true => simp only [reframeLoop]; exact ih false acc h
    | false =>
      simp only [reframeLoop]
      by_cases hg : acc.length + reframeNeed ≥ MAXT - reframeReserve
      · rw [if_pos hg]; exact Or.inl rfl
      · rw [if_neg hg]
        by_cases hc : c = bCR
        · rw [if_pos hc]
          by_cases hl : rest.head? = some bLF
          · rw [if_pos hl, tmpPush_ok (by simp only [List.length_cons, List.length_nil]; omega)]
            dsimp only
            exact ih true _ (by simp only [List.length_append, List.length_cons, List.length_nil]; omega)
          · rw [if_neg hl]; exact ih false acc h
        · rw [if_neg hc, tmpPush_ok (by simp only [List.length_cons, List.length_nil]; omega)]
          dsimp only
          exact ih false _ (by simp only [List.length_append, List.length_cons, List.length_nil]; omega)

/-- the store at the end of reframe_single_char_input: `memcpy (ip->text, tmp, to); ip->text[to] = 0; ...` -/
theorem reframe_store {s : S} (h : Inv s) (tmp : List Byte) (ht : tmp.length + 2 ≤ MAXT) :
    ∃ t t2, writeAt s.text 0 tmp = .ok t ∧ writeAt t tmp.length [0] = .ok t2 ∧
      t2.length = MAXT ∧ t2.getD tmp.length 1 = 0 ∧ slice t2 0 tmp.length = tmp := by
  have hl := h.textLen
  obtain ⟨t1, t2, e1, e2, hl2, hsl, hz⟩ := append_terminate (t := s.text) (x := tmp) (e := 0) (by omega)
  have hp := hsl 0 (Nat.le_refl _)
  rw [Nat.zero_add] at e2 hz hp
  rw [slice_nil_of_ge _ (Nat.le_refl _), List.nil_append] at hp
  exact ⟨t1, t2, e1, e2, hl2.trans hl, hz, hp⟩

/-- reframe_single_char_input has rewritten the buffer: the pending text is what the loop produced (`tmp`), at the front
    of the array, with a NUL behind it -/
structure Reframed (s s' : S) (tmp : List Byte) : Prop where
  hasCR : (pend s).contains bCR = true
  loop : reframeLoop (pend s) false [] = .ok (some tmp)
  text : pend s' = tmp
  tstart : s'.tstart = 0
  tend : s'.tend = tmp.length
  inv : Inv s'
  nul : NulAfter s'
  port : s'.port = s.port
  single : s'.dec.fl.single = s.dec.fl.single
  closed : s'.closed = s.closed

/-- **what reframe_single_char_input does**, every access inside `text[]` and `tmp[]`: without a CR in the pending text,
    or without room, the buffer is left as it is; otherwise it is rewritten -/
theorem reframe_cases {s : S} (h : Inv s) :
    (reframe s = .ok s ∧ ((pend s).contains bCR = false ∨ reframeLoop (pend s) false [] = .ok none)) ∨
    ∃ tmp s', reframe s = .ok s' ∧ Reframed s s' tmp := by
  have hl := h.textLen; have hse := h.se; have hem := h.eMax
  unfold reframe
  rw [if_neg (by omega)]
  dsimp only
  rw [show slice s.text s.tstart s.tend = pend s from rfl]
  cases hc : (pend s).contains bCR with
  | false => exact .inl ⟨rfl, .inl rfl⟩
  | true =>
    rw [if_neg (by decide)]
    rcases reframeLoop_len (pend s) false [] (by decide) with h1 | ⟨tmp, h1, h2⟩
    · rw [h1]; exact .inl ⟨rfl, .inr rfl⟩
    · rw [h1]
      dsimp only
      obtain ⟨t, t2, e1, e2, hl3, hz, hp⟩ := reframe_store h tmp h2
      rw [e1]; dsimp only
      rw [e2]; dsimp only
      rw [setCmdFlag_eq (by dsimp only; rw [hl3]; omega)]
      exact .inr ⟨tmp, _, rfl,
        { hasCR := hc, loop := h1, text := hp, tstart := rfl, tend := rfl,
          inv := ⟨hl3, Nat.zero_le _, by dsimp only; omega, decInv_fl h.dec _⟩,
          nul := ⟨tmp.length, Nat.le_refl _, by dsimp only; rw [hl3]; omega, hz⟩, port := rfl, single := rfl, closed := rfl }⟩

/-- **reframe_single_char_input** never leaves `text[]` or `tmp[]`, keeps the buffer invariant and a NUL behind the
    text, whatever is buffered -/
theorem reframe_N {s : S} (h : Inv s) (hn : NulAfter s) :
    ∃ s', reframe s = .ok s' ∧ Inv s' ∧ NulAfter s' ∧ s'.port = s.port ∧ s'.dec.fl.single = s.dec.fl.single ∧
      s'.closed = s.closed := by
  rcases reframe_cases h with ⟨e, _⟩ | ⟨_, s', e, rf⟩
  · exact ⟨s, e, h, hn, rfl, rfl, rfl⟩
  · exact ⟨s', e, rf.inv, rf.nul, rf.port, rf.single, rf.closed⟩

/-- set_call() reached from get_char() / input_to() -/
theorem setCall_N {s : S} (h : Inv s) (hn : NulAfter s) (single noecho : Bool) :
    ∃ s' tx, setCall s single noecho = .ok (s', tx) ∧ Inv s' ∧ NulAfter s' ∧ s'.port = s.port ∧ s'.closed = s.closed := by
  unfold setCall
  dsimp only
  cases single with
  | false => exact ⟨s, _, rfl, h, hn, rfl, rfl⟩
  | true =>
    rw [if_pos rfl]
    have hd := (setTelnetSingleChar_inv (d := { s.dec with fl := { s.dec.fl with single := true } })
      (decInv_fl h.dec _) true).1
    rw [setCmdFlag_eq (by dsimp only; have := h.textLen; have := h.eMax; omega)]
    exact ⟨_, _, rfl, ⟨h.textLen, h.se, h.eMax, decInv_fl hd _⟩, hn, rfl, rfl⟩

/-- the end of an input_to / get_char in call_function_interactive -/
theorem endInput_N {s : S} (h : Inv s) (hn : NulAfter s) :
    ∃ s' tx, endInput s = .ok (s', tx) ∧ Inv s' ∧ NulAfter s' ∧ s'.port = s.port ∧ s'.closed = s.closed := by
  unfold endInput
  by_cases hs : s.dec.fl.single = true
  · rw [if_pos hs]
    dsimp only
    have hd := (setTelnetSingleChar_inv (d := { s.dec with fl := { s.dec.fl with single := false } })
      (decInv_fl h.dec _) false).1
    obtain ⟨s', e1, i1, n1, p1, _, c1⟩ := reframe_N
      (s := { s with dec := (setTelnetSingleChar { s.dec with fl := { s.dec.fl with single := false } } false).1 })
      ⟨h.textLen, h.se, h.eMax, hd⟩ hn
    rw [e1]
    exact ⟨_, _, rfl, i1, n1, p1, c1⟩
  · rw [if_neg hs]; exact ⟨s, _, rfl, h, hn, rfl, rfl⟩

/-- every CR is followed by LF or CR, or is the last byte (a CR followed by NUL or by an ordinary byte is where
    reframe_single_char_input and the line-mode decoder differ: the decoder ends the line at CR NUL and drops the byte
    after a lone CR, the reframing keeps both) -/
def crClean : List Byte → Bool
  | [] => true
  | [_] => true
  | a :: b :: r => (a != bCR || b == bLF || b == bCR) && crClean (b :: r)

theorem tmpPush_some {acc x y : List Byte} (h : tmpPush acc x = .ok y) : y = acc ++ x := by
  unfold tmpPush at h
  split at h
  · injection h with h; exact h.symm
  · cases h

theorem crClean_tail {a : Byte} {r : List Byte} (h : crClean (a :: r) = true) : crClean r = true := by
  cases r with
  | nil => rfl
  | cons b r => simp only [crClean, Bool.and_eq_true] at h; exact h.2

/-- the reframing loop against the grammar, by induction on the raw text; with `sk` set the loop stands on the LF of a
    CR LF whose end-of-line it has already stored -/
theorem reframeLoop_toks (raw : List Byte) : ∀ (sk : Bool) (acc x : List Byte), (∀ b ∈ raw, b ≠ bIAC) →
    crClean raw = true → reframeLoop raw sk acc = .ok (some x) →
    x = acc ++ renderToks (toks .data (if sk then raw.tail else raw)) := by
  induction raw with
  | nil =>
    intro sk acc x _ _ h
    simp only [reframeLoop] at h
    injection h with h; injection h with h
    cases sk <;> simp [toks, renderToks, h.symm]
  | cons c rest ih =>
    intro sk acc x hi hc h
    have hri : ∀ b ∈ rest, b ≠ bIAC := fun b hb => hi b (List.mem_cons_of_mem _ hb)
    have hrc := crClean_tail hc
    cases sk with
    | true => simp only [reframeLoop] at h; exact ih false acc x hri hrc h
    | false =>
      have hci : c ≠ bIAC := hi c List.mem_cons_self
      simp only [reframeLoop] at h
      split at h
      · cases h
      · by_cases hcr : c = bCR
        · rw [if_pos hcr] at h
          subst hcr
          cases rest with
          | nil =>
            rw [if_neg (by simp)] at h
            exact ih false acc x hri hrc h
          | cons b r' =>
            by_cases hb : b = bLF
            · subst hb
              rw [if_pos (show (bLF :: r').head? = some bLF from rfl)] at h
              cases hp : tmpPush acc [bSP, bBS, bNUL] with
              | error e => rw [hp] at h; cases h
              | ok acc' =>
                rw [hp] at h
                rw [ih true acc' x hri hrc h, tmpPush_some hp]
                simp [toks_cons, step_data_cr, step_cr_lf, renderToks, renderTok]
            · rw [if_neg (by simpa using hb)] at h
              -- crClean: the byte after this CR is LF or CR
              have hbc : b = bCR := by
                simp only [crClean, Bool.and_eq_true, Bool.or_eq_true, beq_iff_eq] at hc
                rcases hc.1 with (h1 | h1) | h1
                · exact absurd h1 (by decide)
                · exact absurd h1 hb
                · exact h1
              subst hbc
              rw [ih false acc x hri hrc h]
              simp [toks_cons, step_data_cr, step_cr_cr]
        · rw [if_neg hcr] at h
          cases hp : tmpPush acc [c] with
          | error e => rw [hp] at h; cases h
          | ok acc' =>
            rw [hp] at h
            rw [ih false acc' x hri hrc h, tmpPush_some hp]
            simp [toks_cons, step_data_ch hci hcr, renderToks, renderTok]

/-- **typed-ahead lines are framed like any other line**: if reframe_single_char_input rewrites the raw text `raw`
    (IAC-free, `crClean`), the result is `renderToks (toks .data raw)` - the bytes the line-mode decoder stores for the
    same stream (`stored_text_is_stream_text`), so the commands extracted afterwards are `lines raw` -/
theorem reframe_is_line_framing (raw : List Byte) (hi : ∀ b ∈ raw, b ≠ bIAC) (hc : crClean raw = true) (x : List Byte)
    (h : reframeLoop raw false [] = .ok (some x)) : x = renderToks (toks .data raw) := by
  simpa using reframeLoop_toks raw false [] x hi hc h

/-- non-vacuity / example: "go" CR LF "n" CR typed ahead -/
example : (reframeLoop [103, 111, 13, 10, 110, 13] false []).toOption = some (some [103, 111, 32, 8, 0, 110]) ∧
    crClean [103, 111, 13, 10, 110, 13] = true ∧
    renderToks (toks .data [103, 111, 13, 10, 110, 13]) = [103, 111, 32, 8, 0, 110] := by decide

/-- where the two framings differ (recorded, outside the hypothesis): CR NUL and CR + ordinary byte -/
example : (reframeLoop [97, 13, 0, 98, 13, 99] false []).toOption = some (some [97, 0, 98, 99]) ∧
    renderToks (toks .data [97, 13, 0, 98, 13, 99]) = [97, 32, 8, 0, 98] := by decide

/-- exact effect of reframe_single_char_input when it rewrites the buffer -/
theorem reframe_exact {s : S} (h : Inv s) (tmp : List Byte) (hc : (pend s).contains bCR = true)
    (hl : reframeLoop (pend s) false [] = .ok (some tmp)) :
    ∃ s', reframe s = .ok s' ∧ pend s' = tmp ∧ s'.tstart = 0 ∧ s'.tend = tmp.length ∧ Inv s' := by
  rcases reframe_cases h with ⟨_, h1 | h1⟩ | ⟨tmp', s', e, rf⟩
  · rw [h1] at hc; cases hc
  · rw [h1] at hl; cases hl
  · have h1 := rf.loop
    rw [hl] at h1; injection h1 with h1; injection h1 with h1; subst h1
    exact ⟨s', e, rf.text, rf.tstart, rf.tend, rf.inv⟩

/-- **typed-ahead input after the mode end**: raw text buffered in single-character mode (IAC-free; every CR followed
    by LF or CR or last) for which reframe_single_char_input has room: afterwards the commands in the buffer are
    `lines raw` - the specification's reading of the same bytes, independent of how they had been split into reads -/
theorem typeahead_lines_after_mode_end {s : S} (h : Inv s) (hi : ∀ b ∈ pend s, b ≠ bIAC) (hcl : crClean (pend s) = true)
    (hroom : reframeLoop (pend s) false [] ≠ .ok none) :
    ∃ s', reframe s = .ok s' ∧ Inv s' ∧ cmdsOf [] (pend s') = lines (pend s) := by
  rw [lines_eq_cmdsOf]
  rcases reframe_cases h with ⟨e, hc | h1⟩ | ⟨tmp, s', e, rf⟩
  · refine ⟨s, e, h, ?_⟩
    -- no CR and no IAC: the raw text is its own line-mode framing
    rw [renderToks_plain _ fun b hb => ⟨hi b hb, fun hbc => ?_⟩]
    rw [← Bool.not_eq_true, List.contains_iff_mem] at hc
    exact hc (hbc ▸ hb)
  · exact absurd h1 hroom
  · exact ⟨s', e, rf.inv, by rw [rf.text, reframe_is_line_framing (pend s) hi hcl tmp rf.loop]⟩

end NV.C13
