/-
C13 — PORT_ASCII and PORT_BINARY reads: the line loop hands the LF-terminated pieces to process_input exactly once and in
order, whatever the callbacks do; a binary read hands over the bytes as they are.
-/
import NV.C13.Read

namespace NV.C13

open NV.Gen.C13

/-- the PORT_ASCII loop with failing callbacks: the LF-terminated pieces are handed to process_input in order, each
    exactly once; everything is committed (`text_start` past the line) *before* the callback runs, so when it raises
    an error the rest of the text is still pending, in order; when the loop ends normally what stays has no LF -/
theorem asciiLoop_exact {o : Oracle} (hnd : NoDest o) (fuel : Nat) (s : S) (evs : List Ev) (hl : s.text.length = MAXT)
    (hse : s.tstart ≤ s.tend) (he : s.tend + 1 ≤ MAXT) (hfuel : countLF (pend s) < fuel) :
    ∃ s' evs' L e, asciiLoop o fuel s evs = .ok (s', evs', e) ∧ s'.text.length = MAXT ∧ s'.tstart ≤ s'.tend ∧
      s'.tend + 1 ≤ MAXT ∧ s'.dec = s.dec ∧ s'.port = s.port ∧ s'.sock = s.sock ∧
      inputsOf evs' = inputsOf evs ++ L ∧ e ≠ .dead ∧ (e = .done → findLF (pend s') = none) ∧
      (hasAbort evs = false → hasAbort evs' = false → e = .done) ∧
      ∀ x, asciiLinesAux [] (pend s ++ x) = L ++ asciiLinesAux [] (pend s' ++ x) :=
  let ⟨s', evs', L, e, h1, r⟩ := asciiLoop_spec o fuel s evs hl hse he
  ⟨s', evs', L, e, h1, r.textLen, r.se, r.eMax, r.dec, r.port, r.sock, r.inputs, r.notDead hnd, fun hd => r.done hd hfuel,
    fun a b => match e, r.notDead hnd, r.notAborted a b with
      | .done, _, _ => rfl
      | .dead, h, _ => absurd rfl h
      | .aborted, _, h => absurd rfl h,
    r.lines⟩

/-- **one PORT_ASCII read while the pending text does not fill the buffer**, callbacks may raise errors -/
theorem ascii_read_exact {o : Oracle} (hnd : NoDest o) {s : S} (h : Inv s) (hp : s.port = .ascii)
    (hok : s.tend - s.tstart + asciiReserve + 1 ≤ MAXT) :
    ∃ s' evs, getUserData o s = .ok (s', evs) ∧ Inv s' ∧ s'.port = .ascii ∧ s'.dec = s.dec ∧
      (s.sock ≠ [] → hasAbort evs = false → findLF (pend s') = none) ∧
      ∃ n, s'.sock = s.sock.drop n ∧
        ∀ x, asciiLinesAux [] (pend s ++ s.sock.take n ++ x) = inputsOf evs ++ asciiLinesAux [] (pend s' ++ x) :=
  let ⟨s', evs, e, k⟩ := getUserData_ascii o h hp
  ⟨s', evs, e, k.inv, k.port, k.dec, fun hne => k.fin hok hne hnd, k.lines hok⟩

/-- one read event on a binary port whose buffer indices are 0 (they never move there) -/
theorem binary_read_exact (o : Oracle) {s : S} (hp : s.port = .binary) (h0 : s.tstart = 0) (h1 : s.tend = 0) :
    ∃ s' evs n, getUserDataH o s = .ok (s', evs) ∧ s'.port = .binary ∧ s'.tstart = 0 ∧ s'.tend = 0 ∧
      s'.text = s.text ∧ s'.dec = s.dec ∧ s'.sock = s.sock.drop n ∧
      inputsOf evs = (if (s.sock.take n).isEmpty then [] else [s.sock.take n]) := by
  rw [getUserDataH_other o (by rw [hp]; decide)]
  have hr : asciiReserve = 1 := rfl
  have hm : MAXT = 2048 := rfl
  unfold getUserData
  rw [if_neg (by rw [hp]; decide)]
  have hcs : computeSpace s = .ok ({ s with text := s.text, tend := s.tend - s.tstart, tstart := 0 }, MAXT - asciiReserve) := by
    unfold computeSpace
    rw [hp]
    dsimp only
    -- nothing is pending at index 0: no move, no discard, and the space is the whole buffer less the reserve
    unfold computeSpaceOther
    rw [if_neg (by omega), if_neg (by omega)]
    dsimp only
    rw [if_neg (by omega), h1, h0, if_neg (by omega)]
    -- `rw [hp]` has also rewritten the port inside the state
    simp only [hp, Nat.sub_self, Nat.sub_zero]
  rw [hcs]
  dsimp only
  by_cases he : s.sock.isEmpty = true
  · rw [if_pos he]
    refine ⟨_, _, 0, rfl, hp, rfl, by dsimp only; omega, rfl, rfl, by simp, ?_⟩
    simp [inputsOf]
  · rw [if_neg he]
    have hne : (s.sock.take (MAXT - asciiReserve)).isEmpty = false := by
      cases hs : s.sock with
      | nil => rw [hs] at he; simp at he
      | cons a r => rw [hr, hm]; rfl
    rw [if_neg (by rw [hne]; simp)]
    have hlen : (s.sock.take (MAXT - asciiReserve)).length ≤ MAXT - asciiReserve := by
      rw [List.length_take]; exact Nat.min_le_left _ _
    rw [if_neg (by omega), hp]
    dsimp only
    cases ho : o s.cbCount with
    | ok => exact ⟨_, _, MAXT - asciiReserve, rfl, rfl, rfl, by dsimp only; omega, rfl, rfl, rfl, by simp [inputsOf, hne]⟩
    | err => exact ⟨_, _, MAXT - asciiReserve, rfl, rfl, rfl, by dsimp only; omega, rfl, rfl, rfl, by simp [inputsOf, hne]⟩
    | dest => exact ⟨_, _, MAXT - asciiReserve, rfl, rfl, rfl, by dsimp only; omega, rfl, rfl, rfl, by simp [inputsOf, hne]⟩

end NV.C13
