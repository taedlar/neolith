/-
C13 — copy_chars: the decoder invariant, one byte (`ccByte_ok`: no access outside `sb_buf`, at most three bytes of text,
the step of the framing grammar), chunks (`copyChars_ok`), independence of the segmentation, the callback oracle.
-/
import NV.C13.Step
import NV.C13.Lines

namespace NV.C13

open NV.Gen.C13

/-- invariant of the telnet decoder part of an interactive: the sub-negotiation buffer has its declared size,
    `sb_pos` never exceeds `SB_SIZE`, and while a sub-negotiation is open the byte behind the data area is 0
    (it is cleared at IAC SB and data bytes are only stored below `SB_SIZE`).  Outside a sub-negotiation the
    contents are arbitrary (the real structure is not cleared on allocation). -/
structure DecInv (d : Dec) : Prop where
  sbLen : d.sbBuf.length = sbBufSize
  sbPos : d.sbPos ≤ sbSize
  lastZ : (d.ts = tsSB ∨ d.ts = tsSBIAC) → d.sbBuf.getD sbSize 1 = 0

theorem sb_room : sbSize < sbBufSize := by decide

theorem sbSet_eq {d : Dec} {i : Nat} (v : Byte) (h : i < d.sbBuf.length) :
    sbSet d i v = .ok { d with sbBuf := d.sbBuf.set i v } := by
  simp [sbSet, h]

theorem contains_zero_of_getD {l : List Byte} {k i : Nat} (hik : i ≤ k) (h : l.getD k 1 = 0) :
    (l.drop i).contains 0 = true := by
  rw [List.contains_iff_mem, List.mem_iff_getElem?]
  refine ⟨k - i, ?_⟩
  rw [List.getElem?_drop, Nat.add_sub_cancel' hik]
  cases hk : l[k]? with
  | none => simp [List.getD, hk] at h
  | some b => simp [List.getD, hk] at h; rw [h]

theorem sbCstr_ok {d : Dec} {i : Nat} (hi : i ≤ sbSize) (hz : d.sbBuf.getD sbSize 1 = 0) :
    sbCstr d i = .ok (cstrOf (d.sbBuf.drop i)) := by
  have := contains_zero_of_getD hi hz
  simp only [sbCstr, this, if_true]

theorem getD_set_ne {l : List Byte} {i k : Nat} {v d : Byte} (h : i ≠ k) : (l.set i v).getD k d = l.getD k d := by
  simp [List.getD, h]

theorem getD_set_eq {l : List Byte} {i : Nat} {v d : Byte} (h : i < l.length) : (l.set i v).getD i d = v := by
  simp [List.getD, h]

/-- IAC SE: no access outside `sb_buf`, the decoder returns to the data state, nothing goes to the text -/
theorem sbEnd_ok {d : Dec} (h : DecInv d) (hs : d.ts = tsSB ∨ d.ts = tsSBIAC) :
    ∃ r, sbEnd d = .ok r ∧ DecInv r.d ∧ r.out = [] ∧ r.d.ts = tsDATA ∧ r.d.cr = false ∧ r.d.fl = d.fl := by
  have hlen := h.sbLen
  have hroom := sb_room
  have hp : d.sbPos < d.sbBuf.length := by rw [hlen]; exact Nat.lt_of_le_of_lt h.sbPos sb_room
  have hz : (d.sbBuf.set d.sbPos 0).getD sbSize 1 = 0 := by
    by_cases he : d.sbPos = sbSize
    · rw [he] at hp ⊢; exact getD_set_eq hp
    · rw [getD_set_ne he]; exact h.lastZ hs
  have h5 : ¬ ((d.sbBuf.set d.sbPos 0).length < 5) := by
    simp [hlen, sbBufSize]
  have hc2 := sbCstr_ok (d := { d with sbBuf := d.sbBuf.set d.sbPos 0 }) (i := 2) (by decide) hz
  have hc0 := sbCstr_ok (d := { d with sbBuf := d.sbBuf.set d.sbPos 0 }) (i := 0) (by decide) hz
  have hdone : DecInv { d with sbBuf := d.sbBuf.set d.sbPos 0, ts := tsDATA, cr := false } :=
    ⟨by simp [hlen], h.sbPos, by intro hh; simp [tsDATA, tsSB, tsSBIAC] at hh⟩
  unfold sbEnd
  rw [sbSet_eq _ hp]
  simp only [h5, if_false, hc2, hc0]
  split
  · split
    · exact ⟨_, rfl, hdone, rfl, rfl, rfl, rfl⟩
    · exact ⟨_, rfl, hdone, rfl, rfl, rfl, rfl⟩
  · split
    · exact ⟨_, rfl, hdone, rfl, rfl, rfl, rfl⟩
    · split
      · split
        · split
          · exact ⟨_, rfl, hdone, rfl, rfl, rfl, rfl⟩
          · exact ⟨_, rfl, hdone, rfl, rfl, rfl, rfl⟩
        · split
          · exact ⟨_, rfl, hdone, rfl, rfl, rfl, rfl⟩
          · exact ⟨_, rfl, hdone, rfl, rfl, rfl, rfl⟩
      · exact ⟨_, rfl, hdone, rfl, rfl, rfl, rfl⟩

/-- the decoder states the code can reach: a TS_* constant, CR_SEEN only together with TS_DATA -/
def Valid (d : Dec) : Prop :=
  d.ts = tsDATA ∨ (d.cr = false ∧ (d.ts = tsIAC ∨ d.ts = tsWILL ∨ d.ts = tsWONT ∨ d.ts = tsDO ∨ d.ts = tsDONT ∨
    d.ts = tsSB ∨ d.ts = tsSBIAC))

/-- grammar position that a decoder state stands for -/
def modeOf (d : Dec) : Mode :=
  if d.ts = tsDATA then (if d.cr then .cr else .data)
  else if d.ts = tsIAC then .iac
  else if d.ts = tsSB then .sb
  else if d.ts = tsSBIAC then .sbIac
  else .opt

structure StepOK (d : Dec) (b : Byte) (r : CC) : Prop where
  inv : DecInv r.d
  len : r.out.length ≤ 3
  single : r.d.fl.single = d.fl.single
  valid : Valid d → Valid r.d
  sim : Valid d → d.fl.single = false →
    r.out = renderToks (stepTok (modeOf d) b).2 ∧ modeOf r.d = (stepTok (modeOf d) b).1

theorem decInv_ts {d : Dec} (h : DecInv d) (t : Nat) (c : Bool) (f : IFlags) (m : Byte)
    (hz : (t = tsSB ∨ t = tsSBIAC) → d.sbBuf.getD sbSize 1 = 0) :
    DecInv { d with ts := t, cr := c, fl := f, lmMode := m } :=
  ⟨h.sbLen, h.sbPos, hz⟩

theorem stepOK_toData {d : Dec} (h : DecInv d) (b : Byte) (f : IFlags) (m : Byte) (out tx : List Byte) (cbs : List Ev)
    (hlen : out.length ≤ 3) (hs : f.single = d.fl.single)
    (hsim : Valid d → d.fl.single = false →
      out = renderToks (stepTok (modeOf d) b).2 ∧ (stepTok (modeOf d) b).1 = .data) :
    StepOK d b { d := { d with ts := tsDATA, cr := false, fl := f, lmMode := m }, out := out, tx := tx, cbs := cbs } := by
  refine ⟨decInv_ts h _ _ _ _ (fun hh => by simp [tsDATA, tsSB, tsSBIAC] at hh), hlen, hs, fun _ => Or.inl rfl, ?_⟩
  intro hv hs'
  obtain ⟨h1, h2⟩ := hsim hv hs'
  exact ⟨h1, by rw [h2]; simp [modeOf]⟩

theorem stepOK_toState {d : Dec} (h : DecInv d) (b : Byte) (t : Nat) (md : Mode)
    (ht : t = tsIAC ∨ t = tsWILL ∨ t = tsWONT ∨ t = tsDO ∨ t = tsDONT)
    (hmd : modeOf { d with ts := t, cr := false } = md)
    (hsim : Valid d → d.fl.single = false → (stepTok (modeOf d) b) = (md, [])) :
    StepOK d b { d := { d with ts := t, cr := false } } := by
  refine ⟨decInv_ts h _ _ _ _ (fun hh => ?_), by simp, rfl, fun _ => Or.inr ⟨rfl, ?_⟩, ?_⟩
  · rcases ht with rfl | rfl | rfl | rfl | rfl <;> simp [tsIAC, tsWILL, tsWONT, tsDO, tsDONT, tsSB, tsSBIAC] at hh
  · rcases ht with rfl | rfl | rfl | rfl | rfl <;> simp
  · intro hv hs
    rw [hsim hv hs]; exact ⟨by simp [renderToks], hmd⟩

theorem ccData_ok {d : Dec} (h : DecInv d) (h0 : d.ts = tsDATA) (b : Byte) :
    ∃ r, ccData d b = .ok r ∧ StepOK d b r := by
  have nz : ∀ c f m, DecInv { d with ts := d.ts, cr := c, fl := f, lmMode := m } := fun c f m =>
    decInv_ts h _ _ _ _ (fun hh => by simp [h0, tsDATA, tsSB, tsSBIAC] at hh)
  unfold ccData
  by_cases hI : b = bIAC
  · refine ⟨_, by simp only [hI, if_true], stepOK_toState h b tsIAC .iac (.inl rfl) (by simp [modeOf, tsIAC, tsDATA])
      (fun _ _ => ?_)⟩
    simp only [modeOf, h0, if_true, hI]
    cases d.cr <;> rfl
  · by_cases hC : b = bCR
    · refine ⟨_, by simp only [hC, if_true]; rfl, ?_⟩
      refine ⟨nz _ _ _, by simp; split <;> simp, rfl, fun _ => Or.inl h0, ?_⟩
      intro _ hs
      have hCI : bCR ≠ bIAC := by decide
      simp [modeOf, h0, stepTok, hC, hCI, renderToks, hs]
      cases d.cr <;> simp
    · simp only [hI, hC, if_false]
      have hv : ∀ c f m, Valid { d with ts := d.ts, cr := c, fl := f, lmMode := m } := fun _ _ _ => Or.inl h0
      by_cases hcr : d.cr = true
      · by_cases hs : d.fl.single = true
        · refine ⟨_, by simp [hcr, hs]; rfl, nz _ _ _, by simp, rfl, fun _ => hv _ _ _, ?_⟩
          intro _ h2; simp [hs] at h2
        · by_cases hL : b = bLF ∨ b = bNUL
          · refine ⟨_, by simp [hcr, hs, hL]; rfl, nz _ _ _, by simp, rfl, fun _ => hv _ _ _, ?_⟩
            intro _ _
            simp [modeOf, h0, stepTok, hI, hC, hL, hcr, renderToks, renderTok]
          · refine ⟨_, by simp [hcr, hs, hL]; rfl, nz _ _ _, by simp, rfl, fun _ => hv _ _ _, ?_⟩
            intro _ _
            simp [modeOf, h0, stepTok, hI, hC, hL, hcr, renderToks]
      · refine ⟨_, by simp [hcr]; rfl, nz _ _ _, by simp, rfl, fun _ => hv _ _ _, ?_⟩
        intro _ _
        simp at hcr
        simp [modeOf, h0, stepTok, hI, hC, hcr, renderToks, renderTok]

theorem ccIac_ok {d : Dec} (h : DecInv d) (h0 : d.ts = tsIAC) (b : Byte) :
    ∃ r, ccIac d b = .ok r ∧ StepOK d b r := by
  have hm : modeOf d = .iac := by simp [modeOf, h0, tsIAC, tsDATA]
  have e1 : bDO ≠ bIAC := by decide
  unfold ccIac
  by_cases c1 : b = bIAC
  · simp only [c1, if_true]
    exact ⟨_, rfl, stepOK_toData h _ _ _ _ _ _ (by simp) rfl (by intro _ _; simp [hm, stepTok, renderToks, renderTok])⟩
  · simp only [c1, if_false]
    by_cases c2 : b = bDO
    · simp only [c2, if_true]
      exact ⟨_, rfl, stepOK_toState h _ _ .opt (by simp) (by simp [modeOf, tsDO, tsDATA, tsIAC, tsSB, tsSBIAC])
        (by intro _ _; rw [hm]; simp [stepTok]; decide)⟩
    · simp only [c2, if_false]
      by_cases c3 : b = bDONT
      · simp only [c3, if_true]
        exact ⟨_, rfl, stepOK_toState h _ _ .opt (by simp) (by simp [modeOf, tsDONT, tsDATA, tsIAC, tsSB, tsSBIAC])
          (by intro _ _; rw [hm]; simp [stepTok]; decide)⟩
      · simp only [c3, if_false]
        by_cases c4 : b = bWILL
        · simp only [c4, if_true]
          exact ⟨_, rfl, stepOK_toState h _ _ .opt (by simp) (by simp [modeOf, tsWILL, tsDATA, tsIAC, tsSB, tsSBIAC])
            (by intro _ _; rw [hm]; simp [stepTok]; decide)⟩
        · simp only [c4, if_false]
          by_cases c5 : b = bWONT
          · simp only [c5, if_true]
            exact ⟨_, rfl, stepOK_toState h _ _ .opt (by simp) (by simp [modeOf, tsWONT, tsDATA, tsIAC, tsSB, tsSBIAC])
              (by intro _ _; rw [hm]; simp [stepTok]; decide)⟩
          · simp only [c5, if_false]
            have hrest : b ≠ bSB → stepTok .iac b = (.data, []) := by
              intro c; simp [stepTok, c1, c2, c3, c4, c5, c]
            have fin : ∀ tx, b ≠ bSB → ∃ r, (Except.ok { d := { d with ts := tsDATA, cr := false }, tx := tx } : Except String CC) = .ok r ∧
                StepOK d b r := fun tx c =>
              ⟨_, rfl, stepOK_toData h _ _ _ _ _ _ (by simp) rfl (by intro _ _; rw [hm, hrest c]; simp [renderToks])⟩
            by_cases c6 : b = bBREAK
            · rw [if_pos c6]; exact fin _ (by rw [c6]; decide)
            · rw [if_neg c6]
              by_cases c7 : b = bIP
              · rw [if_pos c7]; exact fin _ (by rw [c7]; decide)
              · rw [if_neg c7]
                by_cases c8 : b = bAYT
                · rw [if_pos c8]; exact fin _ (by rw [c8]; decide)
                · rw [if_neg c8]
                  by_cases c9 : b = bAO
                  · rw [if_pos c9]; exact fin _ (by rw [c9]; decide)
                  · rw [if_neg c9]
                    by_cases c10 : b = bSB
                    · simp only [c10, if_true]
                      refine ⟨_, rfl, ⟨⟨by simp [h.sbLen], by simp, fun _ => ?_⟩, by simp, rfl, fun _ => Or.inr ⟨rfl, by simp⟩, ?_⟩⟩
                      · have : sbSize < d.sbBuf.length := by rw [h.sbLen]; exact sb_room
                        simp [List.getD, this]
                      · intro _ _; rw [hm]
                        have e2 : bSB ≠ bIAC := by decide
                        have e3 : ¬ (bSB = bWILL ∨ bSB = bWONT ∨ bSB = bDO ∨ bSB = bDONT) := by decide
                        simp [stepTok, e2, e3, renderToks, modeOf, tsSB, tsDATA, tsIAC]
                    · simp only [c10, if_false]; exact fin [] c10

theorem ccOpt_mode {d : Dec} (ht : d.ts = tsDO ∨ d.ts = tsWILL ∨ d.ts = tsDONT ∨ d.ts = tsWONT) : modeOf d = .opt := by
  rcases ht with h | h | h | h <;> simp [modeOf, h, tsDO, tsWILL, tsDONT, tsWONT, tsDATA, tsIAC, tsSB, tsSBIAC]

/-- the byte after IAC DO / WILL / DONT / WONT: whatever the option, whatever is answered and whichever flags change,
    the decoder is back in the data state and no text was stored -/
theorem stepOK_opt {d : Dec} (h : DecInv d) (ht : d.ts = tsDO ∨ d.ts = tsWILL ∨ d.ts = tsDONT ∨ d.ts = tsWONT) (b : Byte)
    (f : IFlags) (m : Byte) (tx : List Byte) (hs : f.single = d.fl.single) :
    ∃ r, (Except.ok { d := { d with ts := tsDATA, cr := false, fl := f, lmMode := m }, tx := tx } : Except String CC) = .ok r ∧
      StepOK d b r :=
  ⟨_, rfl, stepOK_toData h b f m [] tx [] (Nat.zero_le _) hs
    (fun _ _ => by rw [ccOpt_mode ht]; simp [stepTok, renderToks])⟩

theorem ccDo_ok {d : Dec} (h : DecInv d) (h0 : d.ts = tsDO) (b : Byte) :
    ∃ r, ccDo d b = .ok r ∧ StepOK d b r := by
  unfold ccDo
  split
  · exact stepOK_opt h (.inl h0) b _ _ _ rfl
  · split <;> exact stepOK_opt h (.inl h0) b _ _ _ rfl

theorem ccWill_ok {d : Dec} (h : DecInv d) (h0 : d.ts = tsWILL) (b : Byte) :
    ∃ r, ccWill d b = .ok r ∧ StepOK d b r := by
  unfold ccWill
  split
  · exact stepOK_opt h (.inr (.inl h0)) b _ _ _ rfl
  · split
    · split <;> exact stepOK_opt h (.inr (.inl h0)) b _ _ _ rfl
    · split <;> exact stepOK_opt h (.inr (.inl h0)) b _ _ _ rfl

theorem ccDont_ok {d : Dec} (h : DecInv d) (h0 : d.ts = tsDONT) (b : Byte) :
    ∃ r, ccDont d b = .ok r ∧ StepOK d b r := by
  unfold ccDont
  split <;> exact stepOK_opt h (.inr (.inr (.inl h0))) b _ _ _ rfl

theorem ccWont_ok {d : Dec} (h : DecInv d) (h0 : d.ts = tsWONT) (b : Byte) :
    ∃ r, ccWont d b = .ok r ∧ StepOK d b r := by
  unfold ccWont
  split <;> exact stepOK_opt h (.inr (.inr (.inr h0))) b _ _ _ rfl

/-- storing a sub-negotiation byte below SB_SIZE keeps the invariant -/
theorem decInv_store {d : Dec} (h : DecInv d) (hz : d.sbBuf.getD sbSize 1 = 0) (hp : d.sbPos < sbSize) (v : Byte)
    (t : Nat) (c : Bool) :
    DecInv { d with ts := t, cr := c, sbBuf := d.sbBuf.set d.sbPos v, sbPos := d.sbPos + 1 } := by
  refine ⟨by simp [h.sbLen], hp, fun _ => ?_⟩
  show (d.sbBuf.set d.sbPos v).getD sbSize 1 = 0
  rw [getD_set_ne (Nat.ne_of_lt hp)]; exact hz

theorem ccSb_ok {d : Dec} (h : DecInv d) (h0 : d.ts = tsSB) (b : Byte) :
    ∃ r, ccSb d b = .ok r ∧ StepOK d b r := by
  have hm : modeOf d = .sb := by simp [modeOf, h0, tsSB, tsDATA, tsIAC]
  have hz := h.lastZ (Or.inl h0)
  have hcr : Valid d → d.cr = false := by
    intro hv; rcases hv with hv | hv
    · rw [h0] at hv; simp [tsSB, tsDATA] at hv
    · exact hv.1
  unfold ccSb
  by_cases c1 : b = bIAC
  · simp only [c1, if_true]
    refine ⟨_, rfl, ⟨decInv_ts h _ _ _ _ (fun _ => hz), by simp, rfl, fun _ => Or.inr ⟨rfl, by simp⟩, ?_⟩⟩
    intro _ _; rw [hm]; simp [stepTok, renderToks, modeOf, tsSBIAC, tsDATA, tsIAC, tsSB]
  · simp only [c1, if_false]
    by_cases c2 : d.sbPos < sbSize
    · have hp : d.sbPos < d.sbBuf.length := by rw [h.sbLen]; exact Nat.lt_trans c2 sb_room
      simp only [c2, if_true, sbSet_eq _ hp]
      refine ⟨_, rfl, ⟨decInv_store h hz c2 b d.ts d.cr, by simp, rfl, fun hv => Or.inr ⟨hcr hv, by simp [h0]⟩, ?_⟩⟩
      intro hv _; rw [hm]
      simp [stepTok, c1, renderToks, modeOf, h0, tsSB, tsDATA, tsIAC]
    · simp only [c2, if_false]
      refine ⟨_, rfl, ⟨h, by simp, rfl, fun hv => hv, ?_⟩⟩
      intro _ _; rw [hm]; simp [stepTok, c1, renderToks]

theorem ccSbIac_ok {d : Dec} (h : DecInv d) (h0 : d.ts = tsSBIAC) (b : Byte) :
    ∃ r, ccSbIac d b = .ok r ∧ StepOK d b r := by
  have hm : modeOf d = .sbIac := by simp [modeOf, h0, tsSBIAC, tsSB, tsDATA, tsIAC]
  have hz := h.lastZ (Or.inr h0)
  unfold ccSbIac
  by_cases c1 : b = bIAC
  · simp only [c1, if_true]
    by_cases c2 : d.sbPos < sbSize
    · have hp : d.sbPos < d.sbBuf.length := by rw [h.sbLen]; exact Nat.lt_trans c2 sb_room
      have hp' : d.sbPos < ({ d with ts := tsSB, cr := false } : Dec).sbBuf.length := hp
      simp only [c2, if_true, sbSet_eq _ hp']
      refine ⟨_, rfl, ⟨decInv_store h hz c2 _ _ _, by simp, rfl, fun _ => Or.inr ⟨rfl, by simp⟩, ?_⟩⟩
      intro _ _; rw [hm]; simp [stepTok, renderToks, modeOf, tsSB, tsDATA, tsIAC]
    · simp only [c2, if_false]
      refine ⟨_, rfl, ⟨decInv_ts h _ _ _ _ (fun _ => hz), by simp, rfl, fun _ => Or.inr ⟨rfl, by simp⟩, ?_⟩⟩
      intro _ _; rw [hm]; simp [stepTok, renderToks, modeOf, tsSB, tsDATA, tsIAC]
  · simp only [c1, if_false]
    by_cases c2 : b = bSE
    · simp only [c2, if_true]
      obtain ⟨r, hr, hinv, hout, hts, hcr, hfl⟩ := sbEnd_ok h (Or.inr h0)
      refine ⟨r, hr, ⟨hinv, by simp [hout], by rw [hfl], fun _ => Or.inl hts, ?_⟩⟩
      intro _ _; rw [hm, hout]
      have e : bSE ≠ bIAC := by decide
      simp [stepTok, e, renderToks, modeOf, hts, hcr]
    · simp only [c2, if_false]
      refine ⟨_, rfl, ⟨h, by simp, rfl, fun hv => hv, ?_⟩⟩
      intro _ _; rw [hm]; simp [stepTok, c1, c2, renderToks]

/-- **one byte through copy_chars**: no access outside `sb_buf`, at most three bytes of text, the invariant is kept,
    and (outside single-character mode) the text produced and the next state are those of the framing grammar -/
theorem ccByte_ok {d : Dec} (h : DecInv d) (b : Byte) : ∃ r, ccByte d b = .ok r ∧ StepOK d b r := by
  rw [ccByte_onState]
  rcases onState_eq d.ts with ⟨c, e⟩ | ⟨c, e⟩ | ⟨c, e⟩ | ⟨c, e⟩ | ⟨c, e⟩ | ⟨c, e⟩ | ⟨c, e⟩ | ⟨c, e⟩ | ⟨c, e⟩ <;> rw [e]
  · exact ccData_ok h c b
  · exact ccSbIac_ok h c b
  · exact ccIac_ok h c b
  · exact ccDo_ok h c b
  · exact ccWill_ok h c b
  · exact ccDont_ok h c b
  · exact ccWont_ok h c b
  · exact ccSb_ok h c b
  · -- no `case`: nothing happens, and such a state is not `Valid`
    refine ⟨_, rfl, ⟨h, Nat.zero_le _, rfl, fun hv => hv, fun hv _ => ?_⟩⟩
    simp only [List.mem_cons, List.not_mem_nil, or_false, forall_eq_or_imp, forall_eq] at c
    rcases hv with hv | ⟨_, hv | hv | hv | hv | hv | hv | hv⟩ <;> simp only [hv, ne_eq, not_true_eq_false, false_and, and_false] at c

/-- what copy_chars guarantees for a whole chunk -/
structure ChunkOK (d : Dec) (chunk : List Byte) (r : CC) : Prop where
  inv : DecInv r.d
  len : r.out.length ≤ 3 * chunk.length
  single : r.d.fl.single = d.fl.single
  valid : Valid d → Valid r.d
  sim : Valid d → d.fl.single = false →
    r.out = renderToks (toks (modeOf d) chunk) ∧ modeOf r.d = modeAfter (modeOf d) chunk

theorem copyChars_ok {d : Dec} (h : DecInv d) (chunk : List Byte) :
    ∃ r, copyChars d chunk = .ok r ∧ ChunkOK d chunk r := by
  induction chunk generalizing d with
  | nil =>
    exact ⟨_, rfl, ⟨h, by simp, rfl, fun hv => hv, fun _ _ => by simp [toks, modeAfter, renderToks]⟩⟩
  | cons b rest ih =>
    obtain ⟨r1, hr1, s1⟩ := ccByte_ok h b
    obtain ⟨r2, hr2, s2⟩ := ih s1.inv
    refine ⟨{ d := r2.d, out := r1.out ++ r2.out, tx := r1.tx ++ r2.tx, cbs := r1.cbs ++ r2.cbs },
      by simp only [copyChars, hr1, hr2], ⟨s2.inv, ?_, by rw [s2.single, s1.single], fun hv => s2.valid (s1.valid hv), ?_⟩⟩
    · have := s1.len; have := s2.len
      simp only [List.length_append, List.length_cons]; omega
    · intro hv hs
      obtain ⟨o1, m1⟩ := s1.sim hv hs
      obtain ⟨o2, m2⟩ := s2.sim (s1.valid hv) (by rw [s1.single]; exact hs)
      simp only [toks, modeAfter, renderToks_append]
      show r1.out ++ r2.out = _ ∧ modeOf r2.d = _
      rw [o1, o2, m2, m1]
      exact ⟨rfl, rfl⟩

/-- copy_chars carries its whole state in `ip`: decoding `a ++ b` in one call is decoding `a`, then `b` -/
theorem copyChars_append (d : Dec) (a b : List Byte) :
    copyChars d (a ++ b) =
      match copyChars d a with
      | .error e => .error e
      | .ok r1 =>
        match copyChars r1.d b with
        | .error e => .error e
        | .ok r2 => .ok { d := r2.d, out := r1.out ++ r2.out, tx := r1.tx ++ r2.tx, cbs := r1.cbs ++ r2.cbs } := by
  induction a generalizing d with
  | nil =>
    simp only [List.nil_append, copyChars]
    cases copyChars d b with
    | error e => rfl
    | ok r => simp
  | cons x a ih =>
    simp only [List.cons_append, copyChars]
    cases ccByte d x with
    | error e => rfl
    | ok r0 =>
      simp only [ih]
      cases copyChars r0.d a with
      | error e => rfl
      | ok r1 =>
        simp only
        cases copyChars r1.d b with
        | error e => rfl
        | ok r2 => simp [List.append_assoc]

/-- copy_chars applied to the chunks of a segmentation one after the other (state carried in `ip`) -/
def feed (d : Dec) : List (List Byte) → Except String CC
  | [] => .ok { d := d }
  | c :: cs =>
    match copyChars d c with
    | .error e => .error e
    | .ok r1 =>
      match feed r1.d cs with
      | .error e => .error e
      | .ok r2 => .ok { d := r2.d, out := r1.out ++ r2.out, tx := r1.tx ++ r2.tx, cbs := r1.cbs ++ r2.cbs }

theorem feed_eq_copyChars (d : Dec) (chunks : List (List Byte)) : feed d chunks = copyChars d chunks.flatten := by
  induction chunks generalizing d with
  | nil => rfl
  | cons c cs ih =>
    simp only [feed, List.flatten_cons, copyChars_append]
    cases copyChars d c with
    | error e => rfl
    | ok r1 => simp only [ih]

/-- an oracle whose callbacks never destruct / disconnect the user (they may raise errors) -/
def NoDest (o : Oracle) : Prop := ∀ k, o k ≠ .dest

/-- the lines passed to process_input inside a read (PORT_ASCII / PORT_BINARY) -/
def inputsOf : List Ev → List (List Byte)
  | [] => []
  | .input l :: r => l :: inputsOf r
  | _ :: r => inputsOf r

theorem inputsOf_append (a b : List Ev) : inputsOf (a ++ b) = inputsOf a ++ inputsOf b := by
  induction a with
  | nil => rfl
  | cons e r ih => cases e <;> simp [inputsOf, ih]

def hasAbort (evs : List Ev) : Bool := evs.any (fun e => e == .cberr)

theorem hasAbort_append (a b : List Ev) : hasAbort (a ++ b) = (hasAbort a || hasAbort b) := by
  simp [hasAbort, List.any_append]

/-- the tests `judgeStep` applies to single events (Spec.lean): no crash line; `st` indices in range; the length
    asked from recv() fits the local buffer; a delivered line fits the command buffer -/
def evOK : Ev → Bool
  | .crash _ => false
  | .st s en _ _ _ => decide (s ≤ en ∧ en + 1 ≤ MAXT)
  | .ask n => decide (n + 1 ≤ MAXT)
  | .cmd l => decide (l.length + 1 ≤ MAXT)
  | _ => true

/-- copy_chars never calls process_input, and none of its callback events is one the safety clauses test -/
theorem cbEv_inputs {l : List Ev} (h : l.all isCbEv = true) : inputsOf l = [] := by
  induction l with
  | nil => rfl
  | cons e r ih =>
    rw [List.all_cons, Bool.and_eq_true] at h
    cases e <;> first | exact ih h.2 | cases h.1

theorem cbEv_evok {l : List Ev} (h : l.all isCbEv = true) : l.all evOK = true := by
  rw [List.all_eq_true] at h ⊢
  intro e he
  have := h e he
  cases e <;> first | rfl | cases this

theorem copyChars_no_input {d : Dec} {c : List Byte} {r : CC} (h : copyChars d c = .ok r) : inputsOf r.cbs = [] := by
  induction c generalizing d r with
  | nil => simp only [copyChars] at h; injection h with h; subst h; rfl
  | cons b rest ih =>
    simp only [copyChars] at h
    cases h1 : ccByte d b with
    | error e => rw [h1] at h; cases h
    | ok r1 =>
      rw [h1] at h; dsimp only at h
      cases h2 : copyChars r1.d rest with
      | error e => rw [h2] at h; cases h
      | ok r2 =>
        rw [h2] at h; dsimp only at h
        injection h with h; subst h
        show inputsOf (r1.cbs ++ r2.cbs) = []
        rw [inputsOf_append, cbEv_inputs (ccByte_cbEv h1), ih h2]; rfl

/-- copy_chars with the callback oracle, under the decoder invariant: it runs to the end; the trace holds callback
    events only; the user is gone only if the oracle says so; and as long as it is not, state, stored text and replies
    are those of the callback-free `copyChars` -/
theorem copyCharsO_spec (o : Oracle) {d : Dec} (h : DecInv d) (n : Nat) (chunk : List Byte) :
    ∃ r n' dead, copyCharsO o d n chunk = .ok (r, n', dead) ∧ r.cbs.all isCbEv = true ∧ (NoDest o → dead = false) ∧
      (dead = false → ∃ r0, copyChars d chunk = .ok r0 ∧ r.d = r0.d ∧ r.out = r0.out ∧ r.tx = r0.tx) := by
  induction chunk generalizing d n with
  | nil => exact ⟨_, _, _, rfl, rfl, fun _ => rfl, fun _ => ⟨_, rfl, rfl, rfl, rfl⟩⟩
  | cons b rest ih =>
    obtain ⟨r1, hr1, s1⟩ := ccByte_ok h b
    have hcb := ccByte_cbEv hr1
    have fin : ∀ (r2 : CC) (dead : Bool),
        (dead = false → ∃ r0, copyChars r1.d rest = .ok r0 ∧ r2.d = r0.d ∧ r2.out = r0.out ∧ r2.tx = r0.tx) →
        dead = false → ∃ r0, copyChars d (b :: rest) = .ok r0 ∧ r2.d = r0.d ∧ r1.out ++ r2.out = r0.out ∧
          r1.tx ++ r2.tx = r0.tx := by
      intro r2 dead h3 hd
      obtain ⟨r0, e0, e1, e2, e3⟩ := h3 hd
      exact ⟨{ d := r0.d, out := r1.out ++ r0.out, tx := r1.tx ++ r0.tx, cbs := r1.cbs ++ r0.cbs },
        by simp only [copyChars, hr1, e0], e1, by rw [e2], by rw [e3]⟩
    simp only [copyCharsO, hr1]
    split
    · obtain ⟨r2, n2, dead, h2, c2, d2, h3⟩ := ih s1.inv n
      rw [h2]
      exact ⟨_, _, _, rfl, c2, d2, fin r2 dead h3⟩
    · cases ho : o n with
      | dest => exact ⟨_, _, _, rfl, hcb, fun hn => absurd ho (hn n), fun hd => by cases hd⟩
      | ok =>
        obtain ⟨r2, n2, dead, h2, c2, d2, h3⟩ := ih s1.inv (n + 1)
        simp only [h2]
        exact ⟨_, _, _, rfl, by simp only [List.all_append, hcb, c2]; rfl, d2, fin r2 dead h3⟩
      | err =>
        obtain ⟨r2, n2, dead, h2, c2, d2, h3⟩ := ih s1.inv (n + 1)
        simp only [h2]
        exact ⟨_, _, _, rfl, by simp only [List.all_append, hcb, c2]; rfl, d2, fin r2 dead h3⟩

/-- copy_chars with the callback oracle: total under the decoder invariant; as long as no callback destructs the
    user it computes exactly what the callback-free `copyChars` computes (state, stored text, replies) -/
theorem copyCharsO_ok (o : Oracle) {d : Dec} (h : DecInv d) (n : Nat) (chunk : List Byte) :
    ∃ r n' dead, copyCharsO o d n chunk = .ok (r, n', dead) ∧
      (dead = false → ∃ r0, copyChars d chunk = .ok r0 ∧ r.d = r0.d ∧ r.out = r0.out ∧ r.tx = r0.tx) :=
  let ⟨r, n', dead, h1, _, _, h4⟩ := copyCharsO_spec o h n chunk
  ⟨r, n', dead, h1, h4⟩

end NV.C13
