/-
C13 — Lean-checked witnesses.

The defects found for C13 were all repaired in the repository (the `fix:` commits listed in notes/C13.md), so there is
no open full-statement counterexample.  What is kept here are witnesses that the repaired statements were *false* for
the old code, phrased over the parts of the model that the repair changed, and evaluations that pin the repaired
behaviour.
-/
import NV.C13.Props

namespace NV.C13

open NV.Gen.C13

/-- `sb_in_bounds` was false for `BYTE sb_buf[SB_SIZE]`: in a decoder state whose array has exactly SB_SIZE bytes
    and that has stored SB_SIZE sub-negotiation bytes (both reached by the stream IAC SB <SB_SIZE bytes>), the
    terminator store of IAC SE is outside the array. -/
theorem sb_terminator_overflows_exact_array (d : Dec) (hlen : d.sbBuf.length = sbSize) (hpos : d.sbPos = sbSize) :
    ∃ e, sbEnd d = .error e := by
  unfold sbEnd sbSet
  rw [hpos, hlen, if_neg (Nat.lt_irrefl _)]
  exact ⟨_, rfl⟩

/-- the framing grammar after the repairs: the byte after IAC AYT is text again, and a full sub-negotiation buffer
    does not change where the sub-negotiation ends -/
theorem ayt_returns_to_data : toks .data [bIAC, bAYT, 120] = [.ch 120] := by decide

/-- an over-long sub-negotiation with a doubled IAC and a plain 0xf0 inside no longer leaks its payload:
    nothing of it is text (model and grammar agree by `stored_text_is_stream_text`) -/
theorem full_sb_payload_is_not_text :
    toks .data ([bIAC, bSB] ++ List.replicate 100 65 ++ [bIAC, bIAC, bSE, 115, 101, 99, bIAC, bSE, bCR, bLF]) = [.nl] := by
  decide

/-- the ascii specification keeps partial lines across reads by construction: it never sees the reads -/
theorem ascii_spec_example : asciiLines ([104, 101, 108] ++ [108, 111, 10]) = [[104, 101, 108, 108, 111]] := by decide

/-! ### closed finding C13-typeahead-discard (fix 57d7cb1): a burst of commands typed ahead is kept -/

/-- 425 times "n" CR LF in one burst -/
def burst : List Byte := (List.replicate 425 [110, 13, 10]).flatten
def burstOps : List FOp := [.send burst, .read, .read, .read, .read, .extract, .extract]

/-- after four read events (the later ones are held back) and two extractions: the run is still `clean`, two commands
    have been delivered, and delivered ++ pending ++ what is still in the socket accounts for all 425 commands -/
theorem burst_check :
    (match fRun (fun _ => .ok) { s := S.init .telnet } burstOps with
     | .ok f => f.clean && f.delivered == [[110], [110]] &&
                (f.delivered ++ cmdsOf [] (pend f.s) ++ lines f.s.sock).length == 425 && !f.s.sock.isEmpty
     | .error _ => false) = true := by
  decide +kernel

end NV.C13
