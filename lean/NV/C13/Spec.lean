/-
C13 — specification: what a byte stream *means*, independent of how it was cut into reads and of any buffer.

* telnet port: `toks` reads the stream with the framing grammar the driver really implements (see notes/C13.md):
    data            b                      one text byte
    CR LF | CR NUL                         end of line          (a CR followed by any other byte: both are dropped;
                                                                 CR CR keeps waiting; a bare LF is a text byte)
    IAC IAC                                the text byte 255
    IAC WILL|WONT|DO|DONT opt              negotiation, no text
    IAC SB ... IAC SE                      sub-negotiation, no text (inside: IAC IAC is payload; after IAC <other>
                                           the decoder keeps waiting for SE/IAC)
    IAC <any other byte>                   two-byte command, no text
  `lines` splits the text at end-of-line marks and at NUL text bytes (a NUL ends a command; empty NUL-terminated
  pieces are skipped, empty lines are delivered) and applies backspace/delete editing (`edit`).
* ascii port: `asciiLines` = the LF-terminated pieces, verbatim.
* binary port: the bytes, verbatim, in order.
* console: `consoleLines` = pieces terminated by LF, CR or NUL, empty ones skipped, edited.

`judgeEv` is the oracle run on the traces of the real driver.  It needs only observable things: bytes received, lines
delivered, and the logged buffer indices.  On the model side its tests on single events are `evOK` (Decoder.lean), proved
of every model trace by `run_events_safe` (Run.lean); its framing clauses are proved over the schedule runs `fRun` / `cRun`
(Props.lean), which use `lines` / `asciiLines` / `consoleLines` directly; no theorem about the model mentions `judgeEv`
itself (Negative.lean evaluates it on example traces).
-/
import NV.C13.Model

namespace NV.C13

open NV.Gen.C13

/-! ### telnet framing grammar -/
inductive Mode where
  | data | cr | iac | opt | sb | sbIac
  deriving Repr, BEq, DecidableEq

inductive Tok where
  | ch (b : Byte)
  | nl
  deriving Repr, BEq, DecidableEq

def stepTok (m : Mode) (b : Byte) : Mode × List Tok :=
  match m with
  | .data => if b = bIAC then (.iac, []) else if b = bCR then (.cr, []) else (.data, [.ch b])
  | .cr =>
    if b = bIAC then (.iac, []) else if b = bCR then (.cr, [])
    else if b = bLF ∨ b = bNUL then (.data, [.nl]) else (.data, [])
  | .iac =>
    if b = bIAC then (.data, [.ch bIAC])
    else if b = bWILL ∨ b = bWONT ∨ b = bDO ∨ b = bDONT then (.opt, [])
    else if b = bSB then (.sb, [])
    else (.data, [])
  | .opt => (.data, [])
  | .sb => if b = bIAC then (.sbIac, []) else (.sb, [])
  | .sbIac => if b = bIAC then (.sb, []) else if b = bSE then (.data, []) else (.sbIac, [])

/-- the text tokens of a stream read from grammar position `m` -/
def toks (m : Mode) : List Byte → List Tok
  | [] => []
  | b :: r => (stepTok m b).2 ++ toks (stepTok m b).1 r

def modeAfter (m : Mode) : List Byte → Mode
  | [] => m
  | b :: r => modeAfter (stepTok m b).1 r

/-- editing: backspace and delete remove the previous character of the line, if any -/
def edit (l : List Byte) : List Byte :=
  l.foldl (fun acc c => if c = bBS ∨ c = bDEL then acc.dropLast else acc ++ [c]) []

/-- split text tokens into delivered lines; `cur` is the line being collected, last byte first -/
def linesTok (cur : List Byte) : List Tok → List (List Byte)
  | [] => []
  | .nl :: r => edit cur.reverse :: linesTok [] r
  | .ch b :: r =>
    if b = 0 then (if cur = [] then linesTok [] r else edit cur.reverse :: linesTok [] r)
    else linesTok (b :: cur) r

/-- **the command lines a telnet client's byte stream denotes** -/
def lines (stream : List Byte) : List (List Byte) := linesTok [] (toks .data stream)

/-- ascii port: LF-terminated pieces, verbatim -/
def asciiLinesAux (cur : List Byte) : List Byte → List (List Byte)     -- `cur`: last byte first
  | [] => []
  | b :: r => if b = bLF then cur.reverse :: asciiLinesAux [] r else asciiLinesAux (b :: cur) r

def asciiLines (stream : List Byte) : List (List Byte) := asciiLinesAux [] stream

/-- length of the longest piece (terminated or not) of an ascii stream -/
def asciiMaxPiece (cur : Nat) : List Byte → Nat
  | [] => cur
  | b :: r => if b = bLF then max cur (asciiMaxPiece 0 r) else asciiMaxPiece (cur + 1) r

/-- console: pieces terminated by LF, CR or NUL; empty pieces skipped; edited -/
def consoleLinesAux (cur : List Byte) : List Byte → List (List Byte)
  | [] => []
  | b :: r =>
    if b = bLF ∨ b = bCR ∨ b = bNUL then
      (if cur = [] then consoleLinesAux [] r else edit cur.reverse :: consoleLinesAux [] r)
    else consoleLinesAux (b :: cur) r

/-- a console stream without its unterminated last piece -/
def dropPartial (stream : List Byte) : List Byte :=
  (stream.reverse.dropWhile (fun b => !(b = bLF ∨ b = bCR ∨ b = bNUL))).reverse

def consoleLines (stream : List Byte) : List (List Byte) := consoleLinesAux [] stream

/-! ### the side condition of the framing clause
pending text that the driver has decoded but not yet handed out must stay below the discard threshold of
get_user_data: `p` pending bytes are kept iff `(MAX_TEXT - p - 1) / 3 >= MAX_TEXT / 16`. -/
def keepsPending (p : Nat) : Bool := decide ((MAXT - p - 1) / spaceDiv2 ≥ MAXT / compactDiv) && decide (p + 1 ≤ MAXT)

/-! ### oracle over events -/
structure J where
  rx : List Byte := []
  delivered : List (List Byte) := []
  lastS : Nat := 0
  lastE : Nat := 0
  exact : Bool := true          -- the side conditions of the exact-framing clause have held so far
  aborted : Bool := false       -- the current read was left through an error raised by a callback
  destOK : Bool := false        -- the case scripts a callback that destructs the user: `closed` is expected
  bad : List String := []       -- newest first

/-- record a violation; the exact-framing comparisons stop after the first one (one verdict per case is enough, and
    a run-away trace must not make the oracle quadratic) -/
def J.fail (j : J) (what : String) : J := { j with bad := what :: j.bad, exact := false }

def isPrefix : List (List Byte) → List (List Byte) → Bool
  | [], _ => true
  | _ :: _, [] => false
  | a :: as, b :: bs => a == b && isPrefix as bs

def expected (p : Port) (rx : List Byte) : List (List Byte) :=
  match p with
  | .telnet => lines rx
  | .ascii => asciiLines rx
  | .console => consoleLines rx
  | .binary => []

def judgeStep (p : Port) (j : J) (e : Ev) : J :=
  match e with
  | .crash why => j.fail s!"crash {why}"
  | .st s en _ _ fl =>
    let j := if s ≤ en ∧ en + 1 ≤ MAXT then j else j.fail s!"index text_start={s} text_end={en}"
    let j := { j with lastS := s, lastE := en }
    let j := if fl &&& iSingleChar ≠ 0 then { j with exact := false } else j
    match p with
    | .ascii =>
      if j.exact ∧ asciiMaxPiece 0 j.rx + asciiReserve + 1 ≤ MAXT then
        -- every complete line exactly once, in order; after a read that ran to its end nothing is left over
        (if j.aborted then
           (if isPrefix j.delivered (asciiLines j.rx) then j
            else j.fail "ascii-lines delivered are not a prefix of the stream's lines (after a failed callback)")
         else if j.delivered == asciiLines j.rx then j
         else j.fail "ascii-lines delivered differ from the stream's lines")
      else { j with exact := false }
    | .binary =>
      if j.delivered.flatten == j.rx ∧ j.delivered.all (fun l => !l.isEmpty) then j
      else j.fail "binary delivered bytes differ from the stream"
    | _ => j
  | .cberr => { j with aborted := true }
  | .ask n =>
    let j := if n + 1 ≤ MAXT then j else j.fail s!"ask {n} exceeds the input buffer"
    match p with
    | .telnet =>
      if keepsPending (j.lastE - j.lastS) then j
      else
        -- get_user_data discards the whole pending text; complete commands typed ahead go with it (known finding)
        let lost := (expected p j.rx).length - j.delivered.length
        let j := if j.exact ∧ lost > 0 then
            j.fail s!"typeahead-discarded: {lost} complete command line(s) were pending when get_user_data discarded {j.lastE - j.lastS} bytes of unread text"
          else j
        { j with exact := false }
    | _ => j
  | .rx b => { j with rx := j.rx ++ b, aborted := false }     -- a read that got data runs the delivery loop again
  | .cl b =>
    -- console blob: if it does not fit behind text_end it is dropped as a whole - unless only an unfinished
    -- (over-long) line is pending: then that line is discarded first
    if b.length = 0 then j
    else if j.lastE + b.length + 1 ≤ MAXT then { j with rx := j.rx ++ b }
    else if (expected p j.rx).length > j.delivered.length then j
    else
      let kept := dropPartial j.rx
      if b.length + 1 ≤ MAXT then { j with rx := kept ++ b } else { j with rx := kept }
  | .input l => { j with delivered := j.delivered ++ [l] }
  | .cmd l =>
    let j := { j with delivered := j.delivered ++ [l] }
    let j := if l.length + 1 ≤ MAXT then j else j.fail "line longer than the buffer"
    if j.exact ∧ (p == .telnet ∨ p == .console) then
      (if isPrefix j.delivered (expected p j.rx) then j else j.fail "cmd delivered line is not the stream's next line")
    else j
  | .nocmd =>
    if j.exact ∧ (p == .telnet ∨ p == .console) then
      (if j.delivered == expected p j.rx then j else j.fail "nocmd but the stream holds further complete lines")
    else j
  | .closed =>
    if j.destOK then { j with exact := false }
    else { j.fail "closed: the driver dropped the connection although the client did not close it" with exact := false }
  | _ => j

def judgeEv (p : Port) (evs : List Ev) (destOK : Bool := false) : List String :=
  ((evs.foldl (judgeStep p) { destOK := destOK }).bad).reverse

end NV.C13
