/-
C13 — the console: add_console_line keeps the invariant and the NUL behind the text, and appends a blob that fits,
converted, to the pending text; schedules of blobs and extractions (`cRun`) and the invariant `ConsoleK` of the clean
ones: lines delivered, then the commands of the pending text, are the commands of the converted bytes accepted so far
(`console_lines_delivered` in Props.lean reads it off).
-/
import NV.C13.Extract

namespace NV.C13

open NV.Gen.C13

theorem consoleMakeRoom_ok {s : S} (h : Inv s) (len : Nat) :
    ∃ s1, consoleMakeRoom s len = .ok s1 ∧ Inv s1 ∧ s1.dec = s.dec ∧ s1.port = s.port ∧ (NulAfter s → NulAfter s1) ∧
      (s.tend + len < MAXT → s1 = s) := by
  unfold consoleMakeRoom
  split
  · obtain ⟨c, hc⟩ := cmdInBuf_total s (by have := h.eMax; have := h.textLen; omega)
    rw [hc]
    cases c
    · simp only [Bool.false_eq_true, if_false]
      exact ⟨_, rfl, ⟨h.textLen, Nat.le_refl _, by dsimp only; decide, h.dec⟩, rfl, rfl,
        fun ⟨k, _, hk2, hk3⟩ => ⟨k, Nat.zero_le _, hk2, hk3⟩, fun _ => by omega⟩
    · simp only [if_true]
      exact ⟨_, rfl, h, rfl, rfl, id, fun _ => rfl⟩
  · exact ⟨_, rfl, h, rfl, rfl, id, fun _ => rfl⟩

/-- **add_console_line** keeps the invariant and the NUL behind the text (a blob that does not fit is dropped as a whole);
    a blob that fits behind `text_end` is appended, converted, to the pending text (in line mode CMD_IN_BUF stays an
    upper bound of "a complete command is pending") -/
theorem addConsoleLine_spec {s : S} (h0 : Inv s) (bytes : List Byte) :
    ∃ s', addConsoleLine s bytes = .ok s' ∧ Inv s' ∧ s'.dec.fl.single = s.dec.fl.single ∧ s'.port = s.port ∧
      (NulAfter s → NulAfter s') ∧
      (s.tend + bytes.length + 1 ≤ MAXT → s.dec.fl.single = false → pend s' = pend s ++ conv bytes ∧
        s'.dec.ts = s.dec.ts ∧ s'.dec.cr = s.dec.cr ∧
        ((hasCmd (pend s) = true → s.dec.fl.cmdInBuf = true) → hasCmd (pend s') = true → s'.dec.fl.cmdInBuf = true)) := by
  unfold addConsoleLine
  dsimp only
  split
  · rename_i hb
    exact ⟨_, rfl, h0, rfl, rfl, id, fun _ _ =>
      ⟨by rw [List.eq_nil_of_length_eq_zero hb]; exact (List.append_nil _).symm, rfl, rfl, fun hh => hh⟩⟩
  obtain ⟨s1, e1, h, d1, p1, n1, hs1⟩ := consoleMakeRoom_ok h0 bytes.length
  rw [e1]
  dsimp only
  rw [← d1, ← p1]
  split
  · exact ⟨_, rfl, h, rfl, rfl, n1, fun hfit => by cases hs1 (by omega); omega⟩
  · have hl := h.textLen
    have hcl : (bytes.map (fun b => if b = bLF ∨ b = bCR then bNUL else b)).length = bytes.length := List.length_map _
    obtain ⟨t1, t2, w1, w2, hl2, hsl, hz⟩ := append_terminate (t := s1.text)
      (x := bytes.map (fun b => if b = bLF ∨ b = bCR then bNUL else b)) (e := s1.tend) (by rw [hcl, hl]; omega)
    have hp := hsl _ h.se
    rw [hcl] at w2 hz hp
    rw [w1]; dsimp only
    rw [w2]; dsimp only
    rw [setCmdFlag_eq (by dsimp only; rw [hl2]; omega)]
    refine ⟨_, rfl, ⟨hl2.trans hl, by dsimp only; have := h.se; omega, by dsimp only; omega, decInv_fl h.dec _⟩, rfl, rfl,
      fun _ => ⟨s1.tend + bytes.length, Nat.le_refl _, by dsimp only; rw [hl2]; omega, hz⟩, fun hfit hns => ?_⟩
    cases hs1 (by omega)
    refine ⟨hp, rfl, rfl, fun _ hq => ?_⟩
    dsimp only
    rw [if_neg (by rw [hns]; decide)]
    exact Bool.or_eq_true_iff.mpr (.inr hq)

theorem addConsoleLine_ok {s : S} (h : Inv s) (bytes : List Byte) : ∃ s', addConsoleLine s bytes = .ok s' ∧ Inv s' :=
  let ⟨s', h1, h2, _⟩ := addConsoleLine_spec h bytes
  ⟨s', h1, h2⟩

theorem addConsoleLine_N {s : S} (h0 : Inv s) (hn : NulAfter s) (bytes : List Byte) :
    ∃ s', addConsoleLine s bytes = .ok s' ∧ Inv s' ∧ NulAfter s' ∧ s'.dec.fl.single = s.dec.fl.single ∧
      s'.port = s.port :=
  let ⟨s', h1, h2, h3, h4, h5, _⟩ := addConsoleLine_spec h0 bytes
  ⟨s', h1, h2, h5 hn, h3, h4⟩

/-- **one console blob that fits behind `text_end`** (line mode): it is appended, converted, to the pending text -/
theorem console_line_exact {s : S} (h : Inv s) (hns : s.dec.fl.single = false) (b : List Byte)
    (hfit : s.tend + b.length + 1 ≤ MAXT) :
    ∃ s', addConsoleLine s b = .ok s' ∧ Inv s' ∧ s'.port = s.port ∧ pend s' = pend s ++ conv b ∧
      s'.dec.fl.single = false ∧ s'.dec.ts = s.dec.ts ∧ s'.dec.cr = s.dec.cr ∧
      ((hasCmd (pend s) = true → s.dec.fl.cmdInBuf = true) → (hasCmd (pend s') = true → s'.dec.fl.cmdInBuf = true)) :=
  let ⟨s', e, i, sg, p, _, k⟩ := addConsoleLine_spec h b
  ⟨s', e, i, p, (k hfit hns).1, sg.trans hns, (k hfit hns).2⟩

/-- what can happen on the console -/
inductive COp where
  | line (b : List Byte)      -- a blob from the console worker: add_console_line
  | extract                   -- get_user_command

structure CF where
  s : S
  delivered : List (List Byte) := []
  accepted : List Byte := []          -- the blobs taken into the buffer, concatenated
  clean : Bool := true                -- every blob fitted behind text_end; the buffer was never full at an extraction
  lastNone : Bool := false

def cStep (f : CF) : COp → Except String CF
  | .line b =>
    match addConsoleLine f.s b with
    | .error e => .error e
    | .ok s' =>
      .ok { f with s := s', accepted := f.accepted ++ b,
                   clean := f.clean && decide (f.s.tend + b.length + 1 ≤ MAXT), lastNone := false }
  | .extract =>
    match getUserCommand f.s with
    | .error e => .error e
    | .ok (s', r) =>
      .ok { f with s := s', delivered := f.delivered ++ r.toList,
                   clean := f.clean && decide (f.s.tend - f.s.tstart + cutMargin ≤ MAXT), lastNone := r.isNone }

def cRun (f : CF) : List COp → Except String CF
  | [] => .ok f
  | op :: ops => match cStep f op with
    | .error e => .error e
    | .ok f' => cRun f' ops

structure ConsoleK (f : CF) : Prop where
  inv : Inv f.s
  single : f.s.dec.fl.single = false
  cmds : ∀ x, f.delivered ++ cmdsOf [] (pend f.s ++ x) = cmdsOf [] (conv f.accepted ++ x)
  flag : hasCmd (pend f.s) = true → f.s.dec.fl.cmdInBuf = true
  drained : f.lastNone = true → cmdsOf [] (pend f.s) = []

theorem consoleK_init : ConsoleK { s := S.init .console } := by
  refine ⟨init_inv _, rfl, ?_, ?_, fun h => by cases h⟩
  · intro x
    show [] ++ cmdsOf [] (pend (S.init .console) ++ x) = cmdsOf [] (conv [] ++ x)
    rw [pend_init]; rfl
  · intro h; rw [pend_init, hasCmd_nil] at h; cases h

theorem consoleK_step {f f' : CF} (op : COp) (k : f.clean = true → ConsoleK f) (h : cStep f op = .ok f') :
    f'.clean = true → ConsoleK f' := by
  intro hc'
  cases op with
  | line b =>
    simp only [cStep] at h
    cases hg : addConsoleLine f.s b with
    | error e => rw [hg] at h; cases h
    | ok s' =>
      rw [hg] at h
      injection h with h; subst h
      simp only [Bool.and_eq_true, decide_eq_true_eq] at hc'
      have k := k hc'.1
      obtain ⟨s2, hg2, i2, _, p2, sg2, _, _, fl2⟩ := console_line_exact k.inv k.single b hc'.2
      rw [hg] at hg2; injection hg2 with hg2; subst hg2
      refine ⟨i2, sg2, ?_, fl2 k.flag, fun hh => by cases hh⟩
      intro x
      show f.delivered ++ cmdsOf [] (pend s' ++ x) = cmdsOf [] (conv (f.accepted ++ b) ++ x)
      rw [p2, conv_append, List.append_assoc, List.append_assoc]
      exact k.cmds (conv b ++ x)
  | extract =>
    simp only [cStep] at h
    cases hg : getUserCommand f.s with
    | error e => rw [hg] at h; cases h
    | ok res =>
      obtain ⟨s', r⟩ := res
      rw [hg] at h
      injection h with h; subst h
      simp only [Bool.and_eq_true, decide_eq_true_eq] at hc'
      have k := k hc'.1
      have hfit : (pend f.s).length + cutMargin ≤ MAXT := by
        rw [pend_length (by have := k.inv.eMax; have := k.inv.textLen; omega)]; exact hc'.2
      have ex := ok_elim (extract_exact k.inv k.single hfit) hg
      refine ⟨ex.inv, ex.single, ?_, ex.flag k.flag, ?_⟩
      · intro x
        show (f.delivered ++ r.toList) ++ cmdsOf [] (pend s' ++ x) = _
        rw [List.append_assoc, ← ex.cmds x]; exact k.cmds x
      · intro hn
        have : r = none := by
          cases r with
          | none => rfl
          | some l => simp at hn
        exact ex.drained k.flag this

theorem cRun_invariant {P : CF → Prop} (step : ∀ f f' op, P f → cStep f op = .ok f' → P f') (ops : List COp) :
    ∀ f f', P f → cRun f ops = .ok f' → P f' := by
  induction ops with
  | nil => intro f f' k h; simp only [cRun] at h; injection h with h; subst h; exact k
  | cons op ops ih =>
    intro f f' k h
    simp only [cRun] at h
    cases hs : cStep f op with
    | error e => rw [hs] at h; cases h
    | ok f1 =>
      rw [hs] at h
      exact ih f1 f' (step f f1 op k hs) h

theorem consoleK_run (ops : List COp) : ∀ f f', (f.clean = true → ConsoleK f) → cRun f ops = .ok f' →
    (f'.clean = true → ConsoleK f') :=
  cRun_invariant (P := fun f => f.clean = true → ConsoleK f) (fun _ _ op k h => consoleK_step op k h) ops

end NV.C13
