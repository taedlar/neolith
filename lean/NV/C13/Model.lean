/-
C13 — executable model of the input framing code of src/comm.c (after the `fix:` commits of branch c13).

Mirrors, function by function:
  copy_chars          -> `ccByte` / `copyChars`   telnet decoder, one byte at a time, state carried in `Dec`
  get_user_data       -> `getUserData`            space rule, compaction, discard, recv, PORT_TELNET / PORT_ASCII /
                                                  PORT_BINARY handling
  first_cmd_in_buf    -> `firstCmd`
  cmd_in_buf          -> `cmdInBuf`
  next_cmd_in_buf     -> `nextCmd`
  telnet_neg          -> `telnetNeg`              backspace / delete editing
  get_user_command    -> `getUserCommand`         (one user, command turn granted)
  add_console_line    -> `addConsoleLine`

Conventions
* every array access is bounds-checked explicitly: `text[MAX_TEXT]`, `sb_buf[..]`, the local `buf[MAX_TEXT]` of
  get_user_data and the static `buf[MAX_TEXT]` of get_user_command.  An access outside yields `Except.error why`
  (a *crash*); "never crashes" is a theorem (Props.lean), not a convention.
* `ip->state` is kept as (`ts` = state & TS_STATE_MASK, `cr` = state & TS_CR_SEEN); the code only ever stores
  TS_* constants (< 16) and sets/clears the single bit 0x10, so the two components are independent
  (`ts_layout` in Props.lean checks the numeric layout on the regenerated constants).
* of `ip->iflags` the bits that the framing code reads or writes are kept as booleans.
* unsigned size_t arithmetic that would wrap (`MAX_TEXT - text_end - 1` with text_end > MAX_TEXT-1,
  `text_end - text_start` with start > end) is a crash, not a wrap-around.
* callbacks into the user object (process_input, terminal_type, window_size, telnet_suboption) are events.
All numbers come from the regenerated `NV.Gen.C13`.
-/
import NV.Gen.C13

namespace NV.C13

open NV.Gen.C13

abbrev Byte := UInt8

@[inline] def u8 (n : Nat) : Byte := UInt8.ofNat n

/-! ### constants as bytes -/
def bIAC : Byte := u8 cIAC
def bDONT : Byte := u8 cDONT
def bDO : Byte := u8 cDO
def bWONT : Byte := u8 cWONT
def bWILL : Byte := u8 cWILL
def bSB : Byte := u8 cSB
def bSE : Byte := u8 cSE
def bBREAK : Byte := u8 cBREAK
def bIP : Byte := u8 cIP
def bAYT : Byte := u8 cAYT
def bAO : Byte := u8 cAO
def bDM : Byte := u8 cDM
def bCR : Byte := 13
def bLF : Byte := 10
def bNUL : Byte := 0
def bSP : Byte := 32
def bBS : Byte := 8
def bDEL : Byte := 127

/-- size of `interactive_t.text` -/
abbrev MAXT : Nat := maxText

/-! ### events (the canonical trace; `render` is in Drive.lean) -/
inductive Ev where
  | ask (n : Nat)                       -- length passed to recv()
  | rx (bytes : List Byte)              -- bytes handed over by recv()
  | wouldblock
  | st (s e state sbpos fl : Nat)       -- text_start text_end ip->state sb_pos iflags&mask after a step
  | cmd (bytes : List Byte)             -- get_user_command() returned this line
  | nocmd
  | input (bytes : List Byte)           -- apply(process_input) argument (ascii: string, binary: buffer)
  | cbTtype (bytes : List Byte)
  | cbSubopt (bytes : List Byte)
  | cbNaws (w h : Nat)
  | tx (bytes : List Byte)              -- bytes written to the client during the step
  | cl (bytes : List Byte)              -- console: blob handed to add_console_line
  | errmsg (k : Nat)                    -- the error handler's message for the error raised in callback k
  | cberr                               -- get_user_data was left through an LPC error (longjmp to the backend)
  | closed
  | crash (why : String)
  | setcall (ok : Bool)                 -- get_char() / input_to() returned this
  | snoop (bytes : List Byte)           -- receive_snoop() in the snooper: the read as a C string
  deriving Repr, BEq, DecidableEq

/-! ### interactive flags and decoder state -/
structure IFlags where
  single : Bool := false          -- SINGLE_CHAR
  cmdInBuf : Bool := false        -- CMD_IN_BUF
  usingTelnet : Bool := false     -- USING_TELNET
  usingLinemode : Bool := false   -- USING_LINEMODE
  deriving Repr, BEq, DecidableEq

def IFlags.toNat (f : IFlags) : Nat :=
  (if f.single then iSingleChar else 0) + (if f.cmdInBuf then iCmdInBuf else 0) +
  (if f.usingTelnet then iUsingTelnet else 0) + (if f.usingLinemode then iUsingLinemode else 0)

structure Dec where
  ts : Nat := tsDATA              -- ip->state & TS_STATE_MASK
  cr : Bool := false              -- ip->state & TS_CR_SEEN
  fl : IFlags := {}
  sbPos : Nat := 0
  sbBuf : List Byte               -- `BYTE sb_buf[sizeof]`
  lmMode : Byte                   -- telnet_sb_lm_mode[4] (a global of comm.c)
  deriving Repr, BEq, DecidableEq

def Dec.init : Dec := { sbBuf := List.replicate sbBufSize 0, lmMode := u8 modeACK }

def Dec.stateNat (d : Dec) : Nat := d.ts + (if d.cr then tsCrSeen else 0)

/-! ### add_message: C-string semantics and LF -> CR LF -/
def cstrOf : List Byte → List Byte
  | [] => []
  | b :: r => if b = 0 then [] else b :: cstrOf r

def addMsg (data : List Byte) : List Byte :=
  (cstrOf data).flatMap (fun b => if b = bLF then [bCR, bLF] else [b])

/-- result of processing bytes in copy_chars -/
structure CC where
  d : Dec
  out : List Byte := []     -- bytes stored through `*to++`
  tx : List Byte := []      -- add_message output
  cbs : List Ev := []       -- applies on the user object
  deriving Repr

/-! ### sb_buf access with bounds checks -/
def sbSet (d : Dec) (i : Nat) (v : Byte) : Except String Dec :=
  if i < d.sbBuf.length then .ok { d with sbBuf := d.sbBuf.set i v } else .error s!"sb_buf write index {i}"

/-- C string starting at `sb_buf + i` (reads until a NUL; running off the array is a crash) -/
def sbCstr (d : Dec) (i : Nat) : Except String (List Byte) :=
  let tail := d.sbBuf.drop i
  if tail.contains 0 then .ok (cstrOf tail) else .error s!"sb_buf string read from {i} runs off the array"

/-- the LM_SLC answer loop: `for (j = 2; j < ip->sb_pos - 3; j += 3)` -/
def slcLoop (buf : List Byte) (sbPos : Nat) : Nat → Nat → List Byte
  | 0, _ => []
  | fuel + 1, j =>
    if j + 3 < sbPos then
      let func := buf.getD j 0
      let flags := buf.getD (j + 1) 0
      let value := buf.getD (j + 2) 0
      if func = 0 ∧ value = 0 then []                                     -- break
      else if flags.toNat &&& slcACK ≠ 0 then slcLoop buf sbPos fuel (j + 3)   -- continue
      else if func.toNat < 128 ∧ func.toNat > nSLC then                   -- (signed char) > NSLC
        addMsg [func, u8 slcNOSUPPORT, value, 0] ++ slcLoop buf sbPos fuel (j + 3)
      else
        let lvl := flags.toNat &&& slcLEVELBITS
        if lvl = slcDEFAULT then
          addMsg [func, flags, 0, 0] ++ slcLoop buf sbPos fuel (j + 3)
        else if lvl = slcVARIABLE ∨ lvl = slcCANTCHANGE then
          if value.toNat ≥ 32 ∧ value.toNat ≠ 127 then
            addMsg [func, u8 slcNOSUPPORT, value, 0] ++ slcLoop buf sbPos fuel (j + 3)
          else
            addMsg [func, u8 (flags.toNat ||| slcACK), value, 0] ++ slcLoop buf sbPos fuel (j + 3)
        else slcLoop buf sbPos fuel (j + 3)                                 -- SLC_NOSUPPORT: continue
    else []

def telnetSbLmMode (d : Dec) : List Byte := [bIAC, bSB, u8 optLINEMODE, u8 lmMODE, d.lmMode, bIAC, bSE, 0]

/-- `case TS_SB_IAC:` with `from[i] == SE`: terminate the buffer and hand it to the user object.
    The handlers read `sb_buf[0..4]` at fixed offsets whatever `sb_pos` is (one explicit check for all five). -/
def sbEnd (d0 : Dec) : Except String CC :=
  match sbSet d0 d0.sbPos 0 with                              -- ip->sb_buf[ip->sb_pos] = 0
  | .error e => .error e
  | .ok d =>
    if d.sbBuf.length < 5 then .error "sb_buf[0..4] read outside the array" else
    let g : Nat → Byte := fun i => d.sbBuf.getD i 0
    let done : Dec := { d with ts := tsDATA, cr := false }
    if g 0 = u8 optTTYPE then
      if g 1 ≠ u8 telqualIS then .ok { d := done }
      else
        match sbCstr d 2 with
        | .error e => .error e
        | .ok s => .ok { d := done, cbs := [.cbTtype s] }
    else if g 0 = u8 optNAWS then
      .ok { d := done, cbs := [.cbNaws ((g 1).toNat * 256 + (g 2).toNat) ((g 3).toNat * 256 + (g 4).toNat)] }
    else if g 0 = u8 optLINEMODE then
      if g 1 = u8 lmMODE then
        if (g 2).toNat &&& modeACK ≠ 0 then .ok { d := done }
        else .ok { d := done, tx := addMsg (telnetSbLmMode d) }
      else if g 1 = u8 lmSLC then
        .ok { d := done,
              tx := addMsg [bIAC, bSB, u8 optLINEMODE, u8 lmSLC, 0] ++ slcLoop d.sbBuf d.sbPos d.sbPos 2 ++
                    addMsg [bIAC, bSE, 0] }
      else .ok { d := done }
    else
      match sbCstr d 0 with
      | .error e => .error e
      | .ok s => .ok { d := done, cbs := [.cbSubopt s] }

/-! one iteration of the `for` loop of copy_chars: one function per `case` of the switch -/

/-- `case TS_DATA:` -/
def ccData (d : Dec) (b : Byte) : Except String CC :=
  if b = bIAC then .ok { d := { d with ts := tsIAC, cr := false } }
  else if b = bCR then
    .ok { d := { d with cr := true }, out := if d.fl.single then [b] else [] }
  else
    let d' := { d with cr := false }
    if !d.cr || d.fl.single then .ok { d := d', out := [b] }
    else if b = bLF ∨ b = bNUL then
      .ok { d := d', out := [bSP, bBS, bNUL], tx := addMsg [bCR, bLF, 0] }
    else .ok { d := d' }                                  -- the byte after a lone CR is dropped

/-- `case TS_SB_IAC:` -/
def ccSbIac (d : Dec) (b : Byte) : Except String CC :=
  if b = bIAC then
    let d1 : Dec := { d with ts := tsSB, cr := false }
    if d.sbPos < sbSize then
      match sbSet d1 d.sbPos bIAC with
      | .ok d2 => .ok { d := { d2 with sbPos := d.sbPos + 1 } }
      | .error e => .error e
    else .ok { d := d1 }
  else if b = bSE then sbEnd d
  else .ok { d := d }

/-- `case TS_IAC:` -/
def ccIac (d : Dec) (b : Byte) : Except String CC :=
  let toData : Dec := { d with ts := tsDATA, cr := false }
  if b = bIAC then .ok { d := toData, out := [bIAC] }
  else if b = bDO then .ok { d := { d with ts := tsDO, cr := false } }
  else if b = bDONT then .ok { d := { d with ts := tsDONT, cr := false } }
  else if b = bWILL then .ok { d := { d with ts := tsWILL, cr := false } }
  else if b = bWONT then .ok { d := { d with ts := tsWONT, cr := false } }
  else if b = bBREAK then .ok { d := toData, tx := addMsg [28, bIAC, bWILL, u8 optTM, 0] }
  else if b = bIP then .ok { d := toData, tx := addMsg [127, bIAC, bWILL, u8 optTM, 0] }
  else if b = bAYT then .ok { d := toData, tx := addMsg (aytBanner.map u8 ++ [0]) }
  else if b = bAO then .ok { d := toData, tx := addMsg [bIAC, bDM, 0] }
  else if b = bSB then
    .ok { d := { d with ts := tsSB, cr := false, sbPos := 0, sbBuf := List.replicate d.sbBuf.length 0 } }
  else .ok { d := toData }

/-- `case TS_DO:` -/
def ccDo (d : Dec) (b : Byte) : Except String CC :=
  let toData : Dec := { d with ts := tsDATA, cr := false }
  if b = u8 optSGA then .ok { d := toData, tx := addMsg [bIAC, bWILL, u8 optSGA, 0] }
  else if b = u8 optTM then .ok { d := toData, tx := addMsg [bIAC, bWILL, u8 optTM, 0] }
  else .ok { d := toData }

/-- `case TS_WILL:` -/
def ccWill (d : Dec) (b : Byte) : Except String CC :=
  let fl := { d.fl with usingTelnet := true }
  if b = u8 optTTYPE then
    .ok { d := { d with ts := tsDATA, cr := false, fl := fl },
          tx := addMsg [bIAC, bSB, u8 optTTYPE, u8 telqualSEND, bIAC, bSE, 0] }
  else if b = u8 optLINEMODE then
    let fl := { fl with usingLinemode := true }
    if !d.fl.single then
      let d' : Dec := { d with ts := tsDATA, cr := false, fl := fl, lmMode := u8 (modeEDIT ||| modeTRAPSIG) }
      .ok { d := d', tx := addMsg (telnetSbLmMode d') }
    else .ok { d := { d with ts := tsDATA, cr := false, fl := fl } }
  else if b = u8 optSGA then
    .ok { d := { d with ts := tsDATA, cr := false, fl := fl }, tx := addMsg [bIAC, bDO, u8 optSGA, 0] }
  else .ok { d := { d with ts := tsDATA, cr := false, fl := fl } }

/-- `case TS_DONT:` -/
def ccDont (d : Dec) (b : Byte) : Except String CC :=
  let fl := { d.fl with usingTelnet := true }
  if b = u8 optSGA then
    .ok { d := { d with ts := tsDATA, cr := false, fl := fl }, tx := addMsg [bIAC, bWONT, u8 optSGA, 0] }
  else .ok { d := { d with ts := tsDATA, cr := false, fl := fl } }

/-- `case TS_WONT:` -/
def ccWont (d : Dec) (b : Byte) : Except String CC :=
  let fl := { d.fl with usingTelnet := true }
  if b = u8 optLINEMODE then
    .ok { d := { d with ts := tsDATA, cr := false, fl := { fl with usingLinemode := false } } }
  else .ok { d := { d with ts := tsDATA, cr := false, fl := fl } }

/-- `case TS_SB:` -/
def ccSb (d : Dec) (b : Byte) : Except String CC :=
  if b = bIAC then .ok { d := { d with ts := tsSBIAC, cr := false } }
  else if d.sbPos < sbSize then
    match sbSet d d.sbPos b with
    | .ok d2 => .ok { d := { d2 with sbPos := d.sbPos + 1 } }
    | .error e => .error e
  else .ok { d := d }

/-- `switch (ip->state & TS_STATE_MASK)` -/
def ccByte (d : Dec) (b : Byte) : Except String CC :=
  if d.ts = tsDATA then ccData d b
  else if d.ts = tsSBIAC then ccSbIac d b
  else if d.ts = tsIAC then ccIac d b
  else if d.ts = tsDO then ccDo d b
  else if d.ts = tsWILL then ccWill d b
  else if d.ts = tsDONT then ccDont d b
  else if d.ts = tsWONT then ccWont d b
  else if d.ts = tsSB then ccSb d b
  else .ok { d := d }                                       -- no `case` matches

/-- copy_chars over a chunk: the decoder state is carried in `ip`, output is appended -/
def copyChars (d : Dec) : List Byte → Except String CC
  | [] => .ok { d := d }
  | b :: rest =>
    match ccByte d b with
    | .error e => .error e
    | .ok r1 =>
      match copyChars r1.d rest with
      | .error e => .error e
      | .ok r2 => .ok { d := r2.d, out := r1.out ++ r2.out, tx := r1.tx ++ r2.tx, cbs := r1.cbs ++ r2.cbs }

/-! ### callbacks into the user object are an oracle
The k-th callback of a connection (process_input on the ascii/binary port; terminal_type, window_size,
telnet_suboption from a telnet sub-negotiation) returns normally, raises an LPC error, or destructs / disconnects
the user object. -/
inductive Outcome where
  | ok | err | dest
  deriving Repr, BEq, DecidableEq

abbrev Oracle := Nat → Outcome

/-- copy_chars with the callbacks answered by the oracle; `n` is the ordinal of the next callback.
    The telnet callbacks are made through safe_apply(): an error is reported (`errmsg`) and copy_chars goes on.
    If the callback destructs the user, copy_chars stops at once (`ip` is gone): result flag `true`. -/
def copyCharsO (o : Oracle) (d : Dec) (n : Nat) : List Byte → Except String (CC × Nat × Bool)
  | [] => .ok ({ d := d }, n, false)
  | b :: rest =>
    match ccByte d b with
    | .error e => .error e
    | .ok r1 =>
      if r1.cbs.isEmpty then
        match copyCharsO o r1.d n rest with
        | .error e => .error e
        | .ok (r2, n2, dead) =>
          .ok ({ d := r2.d, out := r1.out ++ r2.out, tx := r1.tx ++ r2.tx, cbs := r2.cbs }, n2, dead)
      else
        match o n with
        | .dest => .ok ({ d := r1.d, out := r1.out, tx := r1.tx, cbs := r1.cbs }, n + 1, true)
        | oc =>
          match copyCharsO o r1.d (n + 1) rest with
          | .error e => .error e
          | .ok (r2, n2, dead) =>
            .ok ({ d := r2.d, out := r1.out ++ r2.out, tx := r1.tx ++ r2.tx,
                   cbs := r1.cbs ++ (if oc = .err then [.errmsg n] else []) ++ r2.cbs }, n2, dead)

/-! ### the connection -/
inductive Port where
  | telnet | ascii | binary | console
  deriving Repr, BEq, DecidableEq

structure S where
  port : Port
  text : List Byte            -- `char text[MAX_TEXT]`
  tstart : Nat := 0
  tend : Nat := 0
  dec : Dec := Dec.init
  sock : List Byte := []      -- bytes sent by the client and not yet read
  closed : Bool := false
  cbCount : Nat := 0          -- callbacks into the user object made so far (ordinal of the next one)
  deriving Repr

def S.init (p : Port) : S := { port := p, text := List.replicate textArraySize 0 }

/-- bytes `text[a .. b)` -/
def slice (t : List Byte) (a b : Nat) : List Byte := (t.drop a).take (b - a)

/-- store `bytes` at `text[i ..]`; every index must be inside the array -/
def writeAt (t : List Byte) (i : Nat) (bytes : List Byte) : Except String (List Byte) :=
  if i + bytes.length ≤ t.length then .ok (t.take i ++ bytes ++ t.drop (i + bytes.length))
  else .error s!"text write [{i},{i + bytes.length}) outside text[{t.length}]"

def countZ : List Byte → Nat
  | [] => 0
  | b :: r => if b = 0 then countZ r + 1 else 0

def countNZ : List Byte → Nat
  | [] => 0
  | b :: r => if b = 0 then 0 else countNZ r + 1

/-- cmd_in_buf -/
def cmdInBuf (s : S) : Except String Bool :=
  if s.tend > s.text.length then .error "cmd_in_buf reads behind text[]" else
  if s.tstart > s.tend then .ok false else
  let pend := slice s.text s.tstart s.tend
  let z := countZ pend
  if s.tstart + z ≥ s.tend then .ok false
  else if s.dec.fl.single then .ok true
  else
    let p1 := pend.drop z
    .ok (countNZ p1 < p1.length)

/-- first_cmd_in_buf: returns the index of the command start, or none -/
def firstCmd (s : S) : Except String (S × Option Nat) :=
  if s.tend > s.text.length then .error "first_cmd_in_buf reads behind text[]" else
  if s.tstart > s.tend then
    -- `p < text + text_end` is false at once; text_start >= text_end: reset
    match writeAt s.text 0 [0] with
    | .error e => .error e
    | .ok t => .ok ({ s with tstart := 0, tend := 0, text := t }, none)
  else
  let pend := slice s.text s.tstart s.tend
  let z := countZ pend
  let st := s.tstart + z
  if st ≥ s.tend then
    match writeAt s.text 0 [0] with
    | .error e => .error e
    | .ok t => .ok ({ s with tstart := 0, tend := 0, text := t }, none)
  else if s.dec.fl.single then .ok ({ s with tstart := st }, some st)
  else
    let p1 := pend.drop z
    if countNZ p1 < p1.length then .ok ({ s with tstart := st }, some st)
    else
      -- partial command at the end of the buffer: move it to the start
      match writeAt s.text 0 p1 with
      | .error e => .error e
      | .ok t =>
        let e' := s.tend - st
        if e' + cutMargin > MAXT then
          -- buffer full: truncate and return it as a command
          if e' < 2 then .error "first_cmd_in_buf: text[text_end-2] below the array" else
          match writeAt t (e' - 2) [0, 0] with
          | .error e => .error e
          | .ok t2 => .ok ({ s with text := t2, tstart := 0, tend := e' - 1 }, some 0)
        else .ok ({ s with text := t, tstart := 0, tend := e' }, none)

/-- next_cmd_in_buf -/
def nextCmd (s : S) : Except String S :=
  -- `while (*p && p < end)` reads `*p` at p = text_end at most
  if s.tend ≥ s.text.length then .error "next_cmd_in_buf reads text[text_end] behind text[]" else
  if s.tstart > s.tend then .error "next_cmd_in_buf: text_start behind text_end (unbounded scan)" else
  let pend := slice s.text s.tstart s.tend
  let n := countNZ pend
  let z := countZ (pend.drop n)
  let p := s.tstart + n + z
  if p < s.tend then .ok { s with tstart := p }
  else
    match writeAt s.text 0 [0] with
    | .error e => .error e
    | .ok t => .ok { s with tstart := 0, tend := 0, text := t }

/-- telnet_neg: `to` never moves below `first`; the terminator is copied too -/
def telnetNegAux : List Byte → List Byte → List Byte
  | acc, [] => acc
  | acc, ch :: rest =>
    if ch = bBS ∨ ch = bDEL then
      (if acc.isEmpty then telnetNegAux acc rest          -- `if (to <= first) continue;`
       else telnetNegAux acc.dropLast rest)               -- `to -= 1;`
    else telnetNegAux (acc ++ [ch]) rest

def telnetNeg (cmd : List Byte) : List Byte := telnetNegAux [] cmd

/-- the C string at `text + i` -/
def cstrAt (t : List Byte) (i : Nat) : Except String (List Byte) :=
  let tail := t.drop i
  if tail.contains 0 then .ok (cstrOf tail) else .error s!"string read from text+{i} runs off text[]"

/-- get_user_command for this user with the command turn granted -/
def getUserCommand (s : S) : Except String (S × Option (List Byte)) :=
  if !s.dec.fl.cmdInBuf then .ok (s, none) else
  match firstCmd s with
  | .error e => .error e
  | .ok (s1, none) => .ok ({ s1 with dec := { s1.dec with fl := { s1.dec.fl with cmdInBuf := false } } }, none)
  | .ok (s1, some i) =>
    match cstrAt s1.text i with
    | .error e => .error e
    | .ok raw =>
      let line := telnetNeg raw
      -- static char buf[MAX_TEXT]: line bytes + terminator
      if line.length + 1 > MAXT then .error "telnet_neg writes behind buf[MAX_TEXT]" else
      match nextCmd s1 with
      | .error e => .error e
      | .ok s2 =>
        match cmdInBuf s2 with
        | .error e => .error e
        | .ok c =>
          let s3 := if c then s2 else { s2 with dec := { s2.dec with fl := { s2.dec.fl with cmdInBuf := false } } }
          .ok (s3, some line)

/-- memchr (p, '\n', n) -/
def findLF : List Byte → Option Nat
  | [] => none
  | b :: r => if b = bLF then some 0 else (findLF r).map (· + 1)

/-- the statement order this model implements for the PORT_ASCII loop, add_console_line's checks and the telnet store
    (compared with the order read from the source text: `statement_order_tie` in Props.lean) -/
def asciiLoopOrderModel : List String :=
  ["commitStart", "storeNul", "callback", "revalidate", "resetTest", "advance", "moveRest"]
def consoleCheckOrderModel : List String := ["emptyTest", "makeRoomTest", "discard", "fitTest"]
def telnetStoreOrderModel : List String := ["copyChars", "deadTest", "advanceEnd", "terminator", "cmdFlag", "snoop"]

inductive LoopEnd where
  | done        -- no further LF
  | aborted     -- process_input raised an error: get_user_data is left with what has been committed so far
  | dead        -- process_input destructed the user
  deriving Repr, BEq, DecidableEq

/-- the PORT_ASCII line loop: `while ((nl = memchr (p, '\n', text_end - text_start)))`.
    Statement order: `text_start` is advanced past the line and the LF overwritten by NUL *before* process_input
    runs; the reset / `p = nl + 1` come after it. -/
def asciiLoop (o : Oracle) : Nat → S → List Ev → Except String (S × List Ev × LoopEnd)
  | 0, s, evs => .ok (s, evs, .done)
  | fuel + 1, s, evs =>
    if s.tstart > s.tend ∨ s.tend > s.text.length then .error "PORT_ASCII: memchr outside text[]" else
    let pend := slice s.text s.tstart s.tend
    match findLF pend with
    | none => .ok (s, evs, .done)
    | some k =>
      let nl := s.tstart + k
      match writeAt s.text nl [0] with                          -- ip->text_start = nl + 1; *nl = 0
      | .error e => .error e
      | .ok t =>
        let evs := evs ++ [.input (pend.take k)]                -- apply (process_input)
        let n := s.cbCount
        let s := { s with text := t, tstart := nl + 1, cbCount := n + 1 }
        match o n with
        | .err => .ok (s, evs ++ [.errmsg n, .cberr], .aborted)
        | .dest => .ok ({ s with closed := true }, evs, .dead)
        | .ok =>
          if s.tstart = s.tend then .ok ({ s with tstart := 0, tend := 0 }, evs, .done)
          else asciiLoop o fuel s evs

def setCmdFlag (s : S) : Except String S :=
  match cmdInBuf s with
  | .error e => .error e
  | .ok c => .ok (if c then { s with dec := { s.dec with fl := { s.dec.fl with cmdInBuf := true } } } else s)

/-- PORT_ASCII / PORT_BINARY: lines already handed over but still in front of the buffer (an error in
    process_input) are released first; no protocol overhead; a full buffer without LF is discarded -/
def computeSpaceOther (s : S) : Except String (S × Nat) :=
  if s.tstart > s.tend then .error "get_user_data: text_end - text_start wraps" else
  match (if s.tstart > 0 then writeAt s.text 0 (slice s.text s.tstart s.tend) else .ok s.text) with
  | .error e => .error e
  | .ok t =>
    let s := { s with text := t, tend := s.tend - s.tstart, tstart := 0 }
    if s.tend + asciiReserve > MAXT then .error "get_user_data: MAX_TEXT - text_end - 1 wraps" else
    let space := MAXT - s.tend - asciiReserve
    if space = 0 then .ok ({ s with tstart := 0, tend := 0 }, MAXT - 1)        -- over-long line discarded
    else .ok (s, space)

/-- the length get_user_data passes to recv(), after compaction / discard -/
def computeSpace (s : S) : Except String (S × Nat) :=
  match s.port with
  | .telnet =>
    if s.tend + 1 > MAXT then .error "get_user_data: MAX_TEXT - text_end - 1 wraps" else
    let space := (MAXT - s.tend - 1) / spaceDiv
    if space < MAXT / compactDiv then
      if s.tstart > s.tend then .error "get_user_data: text_end - text_start wraps" else
      let len := s.tend - s.tstart
      -- memmove (ip->text, ip->text + ip->text_start, len + 1)
      if s.tstart + len + 1 > s.text.length then .error "get_user_data: memmove reads behind text[]" else
      match writeAt s.text 0 (slice s.text s.tstart (s.tend + 1)) with
      | .error e => .error e
      | .ok t =>
        let s := { s with text := t, tstart := 0, tend := len }
        if s.tend + 1 > MAXT then .error "get_user_data: MAX_TEXT - text_end - 1 wraps" else
        let space := (MAXT - s.tend - 1) / spaceDiv2
        if space < MAXT / compactDiv then
          .ok ({ s with tstart := 0, tend := 0 }, MAXT / discardSpaceDiv)       -- discard
        else .ok (s, space)
    else .ok (s, space)
  | _ => computeSpaceOther s

/-- get_user_data (readiness path, `evt == NULL`) -/
def getUserData (o : Oracle) (s : S) : Except String (S × List Ev) :=
  if s.port == .console then .ok (s, []) else
  match computeSpace s with
  | .error e => .error e
  | .ok (s, space) =>
    let pre : List Ev := [.ask space]
    if s.sock.isEmpty then .ok (s, pre ++ [.wouldblock]) else
    let chunk := s.sock.take space
    let s := { s with sock := s.sock.drop space }
    let pre := pre ++ [.rx chunk]
    if chunk.isEmpty then .ok ({ s with closed := true }, pre)        -- recv() returned 0: connection closed
    else
    -- `char buf[MAX_TEXT]; ... buf[num_bytes] = '\0'`
    if chunk.length ≥ MAXT then .error "get_user_data: buf[num_bytes] behind buf[MAX_TEXT]" else
    match s.port with
    | .telnet =>
      match copyCharsO o s.dec s.cbCount chunk with
      | .error e => .error e
      | .ok (r, n', dead) =>
        let txe : List Ev := if r.tx.isEmpty then [] else [.tx r.tx]
        if dead then .ok ({ s with closed := true, cbCount := n' }, pre ++ r.cbs ++ txe) else
        match writeAt s.text s.tend r.out with
        | .error e => .error e
        | .ok t =>
          let e' := s.tend + r.out.length
          match writeAt t e' [0] with                              -- ip->text[ip->text_end] = '\0'
          | .error e => .error e
          | .ok t2 =>
            match setCmdFlag { s with text := t2, tend := e', dec := r.d, cbCount := n' } with
            | .error e => .error e
            | .ok s2 => .ok (s2, pre ++ r.cbs ++ txe)
    | .ascii =>
      match writeAt s.text s.tend chunk with                       -- memcpy (ip->text + ip->text_end, buf, n)
      | .error e => .error e
      | .ok t =>
        match asciiLoop o (s.tend - s.tstart + chunk.length + 1) { s with text := t, tend := s.tend + chunk.length } [] with
        | .error e => .error e
        | .ok (s2, evs, .aborted) => .ok (s2, pre ++ evs)          -- longjmp: nothing after the apply is executed
        | .ok (s2, evs, .dead) => .ok (s2, pre ++ evs)
        | .ok (s2, evs, .done) =>
          if s2.tstart > 0 then
            if s2.tstart > s2.tend then .error "PORT_ASCII: text_end - text_start wraps" else
            match writeAt s2.text 0 (slice s2.text s2.tstart s2.tend) with
            | .error e => .error e
            | .ok t3 => .ok ({ s2 with text := t3, tend := s2.tend - s2.tstart, tstart := 0 }, pre ++ evs)
          else .ok (s2, pre ++ evs)
    | .binary =>
      let n := s.cbCount
      let s := { s with cbCount := n + 1 }
      match o n with
      | .ok => .ok (s, pre ++ [.input chunk])
      | .err => .ok (s, pre ++ [.input chunk, .errmsg n, .cberr])
      | .dest => .ok ({ s with closed := true }, pre ++ [.input chunk])
    | .console => .ok (s, pre)

/-- add_console_line, first part: if the blob does not fit and no complete command is pending, the unfinished
    over-long line is discarded -/
def consoleMakeRoom (s : S) (len : Nat) : Except String S :=
  if s.tend + len ≥ MAXT then
    match cmdInBuf s with
    | .error e => .error e
    | .ok c => .ok (if c then s else { s with tstart := 0, tend := 0 })
  else .ok s

/-- add_console_line (`line_length` = bytes + 1): a blob that does not fit is dropped as a whole -/
def addConsoleLine (s : S) (bytes : List Byte) : Except String S :=
  let len := bytes.length
  if len = 0 then .ok s else
  match consoleMakeRoom s len with
  | .error e => .error e
  | .ok s1 =>
    if s1.tend + len ≥ MAXT then .ok s1 else
    let conv := bytes.map (fun b => if b = bLF ∨ b = bCR then bNUL else b)
    match writeAt s1.text s1.tend conv with
    | .error e => .error e
    | .ok t =>
      match writeAt t (s1.tend + len) [0] with
      | .error e => .error e
      | .ok t2 => setCmdFlag { s1 with text := t2, tend := s1.tend + len }

/-! ### get_char() / input_to(): mode switches made by the user object (telnet port) -/

def telnetWillSga : List Byte := [bIAC, bWILL, u8 optSGA, 0]
def telnetWontSga : List Byte := [bIAC, bWONT, u8 optSGA, 0]
def telnetYesEcho : List Byte := [bIAC, bWILL, u8 optECHO, 0]
def telnetNoEcho : List Byte := [bIAC, bWONT, u8 optECHO, 0]

/-- set_telnet_single_char (network user): nothing unless the client speaks telnet; LINEMODE clients get the LM_MODE
    sub-negotiation (the global `telnet_sb_lm_mode[4]` is overwritten), others WILL / WONT SGA -/
def setTelnetSingleChar (d : Dec) (single : Bool) : Dec × List Byte :=
  if !d.fl.usingTelnet then (d, [])
  else if d.fl.usingLinemode then
    let d' : Dec := { d with lmMode := u8 (if single then modeTRAPSIG else modeTRAPSIG ||| modeEDIT) }
    (d', addMsg (telnetSbLmMode d'))
  else (d, addMsg (if single then telnetWillSga else telnetWontSga))

/-- set_call(ob, sent, flags) as reached from get_char() (`single`) / input_to(), no other input_to pending:
    NOECHO -> IAC WILL ECHO; SINGLE_CHAR -> set_telnet_single_char(1) and typed-ahead characters are flagged -/
def setCall (s : S) (single noecho : Bool) : Except String (S × List Byte) :=
  let tx1 := if noecho then addMsg telnetYesEcho else []
  if single then
    let d1 : Dec := { s.dec with fl := { s.dec.fl with single := true } }
    match setCmdFlag { s with dec := (setTelnetSingleChar d1 true).1 } with
    | .error e => .error e
    | .ok s' => .ok (s', tx1 ++ (setTelnetSingleChar d1 true).2)
  else .ok (s, tx1)

/-- `char tmp[MAX_TEXT]` of reframe_single_char_input: `tmp[to++] = ..` -/
def tmpPush (acc x : List Byte) : Except String (List Byte) :=
  if acc.length + x.length ≤ MAXT then .ok (acc ++ x) else .error "reframe_single_char_input: write behind tmp[MAX_TEXT]"

/-- the second loop of reframe_single_char_input over `text[text_start .. text_end)`; `skip` = the LF consumed by the
    `from++` of the CR LF branch.  `none` = "no room: leave the buffer as it is" -/
def reframeLoop : List Byte → Bool → List Byte → Except String (Option (List Byte))
  | [], _, acc => .ok (some acc)
  | _ :: rest, true, acc => reframeLoop rest false acc
  | c :: rest, false, acc =>
    if acc.length + reframeNeed ≥ MAXT - reframeReserve then .ok none
    else if c = bCR then
      if rest.head? = some bLF then
        match tmpPush acc [bSP, bBS, bNUL] with
        | .error e => .error e
        | .ok acc' => reframeLoop rest true acc'
      else reframeLoop rest false acc
    else
      match tmpPush acc [c] with
      | .error e => .error e
      | .ok acc' => reframeLoop rest false acc'

/-- reframe_single_char_input: text that arrived raw in single-char mode gets the line-mode framing -/
def reframe (s : S) : Except String S :=
  if s.tstart > s.tend ∨ s.tend > s.text.length then .error "reframe_single_char_input reads outside text[]" else
  let pend := slice s.text s.tstart s.tend
  if !pend.contains bCR then .ok s else
  match reframeLoop pend false [] with
  | .error e => .error e
  | .ok none => .ok s
  | .ok (some tmp) =>
    match writeAt s.text 0 tmp with                               -- memcpy (ip->text, tmp, to)
    | .error e => .error e
    | .ok t =>
      match writeAt t tmp.length [0] with                         -- ip->text[to] = '\0'
      | .error e => .error e
      | .ok t2 => setCmdFlag { s with text := t2, tstart := 0, tend := tmp.length }

/-- call_function_interactive with an input_to pending, the part that concerns the input buffer: if single-char mode
    was on it ends (telnet option message) and the buffered raw text is reframed -/
def endInput (s : S) : Except String (S × List Byte) :=
  if s.dec.fl.single then
    let d1 : Dec := { s.dec with fl := { s.dec.fl with single := false } }
    match reframe { s with dec := (setTelnetSingleChar d1 false).1 } with
    | .error e => .error e
    | .ok s' => .ok (s', (setTelnetSingleChar d1 false).2)
  else .ok (s, [])

/-- the NOECHO branch at the end of get_user_command: IAC WONT ECHO on the telnet port (the flag is cleared) -/
def noEchoTx (noEcho : Bool) (s : S) : List Byte :=
  if noEcho && s.port == .telnet then addMsg telnetNoEcho else []

def txEv (tx : List Byte) : List Ev := if tx.isEmpty then [] else [.tx tx]

/-! ### scripted runs (the case language of the harness) -/
inductive Op where
  | iflagSingle
  | iflagLine
  | send (bytes : List Byte)
  | read
  | chunk (bytes : List Byte)
  | extract
  | drain
  | finish
  | line (bytes : List Byte)
  | getchar (noecho : Bool)
  | inputto (noecho : Bool)
  | serve
  | wpipe (bytes : List Byte)
  | snoopOn
  deriving Repr, BEq

def stEv (s : S) : Ev := .st s.tstart s.tend s.dec.stateNat s.dec.sbPos s.dec.fl.toNat

/-- what the harness does after each step: explicit index check, then the `st` line -/
def afterStep (s : S) : List Ev :=
  if s.closed then [.closed]
  else if s.tstart > s.tend ∨ s.tend + 1 > MAXT then [.crash s!"text-index {s.tstart} {s.tend}"]
  else [stEv s]

structure Run where
  s : S
  evs : List Ev := []       -- in order
  dead : Bool := false      -- crashed: nothing more is executed
  inputTo : Bool := false   -- `ip->input_to != 0`: an input_to() / get_char() is pending
  noEcho : Bool := false    -- NOECHO
  snoop : Bool := false     -- `ip->snoop_by != 0`

def Run.add (r : Run) (s : S) (evs : List Ev) : Run :=
  let tail := afterStep s
  { r with s := s, evs := r.evs ++ evs ++ tail,
           dead := r.dead || tail.any (fun e => match e with | .crash _ => true | _ => false) }

def Run.crash (r : Run) (why : String) : Run := { r with evs := r.evs ++ [.crash why], dead := true }

/-- get_user_data, PORT_TELNET, before anything is moved: when neither the space behind `text_end` nor the space
    after compaction reaches `MAX_TEXT / 16` and a complete command is pending, nothing is read - the new data stays
    in the socket until commands have been processed (fix 57d7cb1; readiness path `evt == NULL`) -/
def holdRead (s : S) : Except String Bool :=
  if s.port != .telnet then .ok false else
  if s.tend + 1 > MAXT then .error "get_user_data: MAX_TEXT - text_end - 1 wraps" else
  if (MAXT - s.tend - 1) / spaceDiv < MAXT / compactDiv then
    if s.tstart > s.tend then .error "get_user_data: text_end - text_start wraps" else
    if (MAXT - (s.tend - s.tstart) - 1) / holdDiv < MAXT / holdCmpDiv then cmdInBuf s else .ok false
  else .ok false

/-- get_user_data with the hold test in front -/
def getUserDataH (o : Oracle) (s : S) : Except String (S × List Ev) :=
  match holdRead s with
  | .error e => .error e
  | .ok true => .ok ({ s with dec := { s.dec with fl := { s.dec.fl with cmdInBuf := true } } }, [])
  | .ok false => getUserData o s

/-- the data chunk of a read, if it got one -/
def rxOf : List Ev → Option (List Byte)
  | [] => none
  | .rx b :: _ => some b
  | _ :: r => rxOf r

def isTx : Ev → Bool
  | .tx _ => true
  | _ => false

/-- the end of get_user_data's PORT_TELNET branch: after the text is stored and CMD_IN_BUF updated, the read is
    forwarded to a snooper (`receive_snoop (buf, ..)`, unless NOECHO) - a callback like the others: it may raise an
    error (receive_snoop() runs under safe_apply since 4a7340a: the error is reported and get_user_data goes on, like
    for the telnet callbacks) or destruct the snooped user.  It is the last thing done with `ip` (fixes eca4aec /
    4a7340a), so it is modelled behind `getUserData`.  Replies are flushed after the step. -/
def readTail (o : Oracle) (r : Run) (s : S) (evs : List Ev) : Run :=
  if r.snoop && s.port == .telnet && !s.closed && !r.noEcho then
    match rxOf evs with
    | none => r.add s evs
    | some chunk =>
      if chunk.isEmpty then r.add s evs else
      let n := s.cbCount
      let pre := evs.filter (fun e => !isTx e) ++ [Ev.snoop (cstrOf chunk)]
      match o n with
      | .ok => r.add { s with cbCount := n + 1 } (pre ++ evs.filter isTx)
      | .err =>
        r.add { s with cbCount := n + 1 }
          (pre ++ (if snoopSafeApply then [Ev.errmsg n] else [Ev.errmsg n, Ev.cberr]) ++ evs.filter isTx)
      | .dest => r.add { s with cbCount := n + 1, closed := true } (pre ++ evs.filter isTx)
  else r.add s evs

def doRead (o : Oracle) (r : Run) : Run :=
  if r.dead || r.s.closed then r else
  match getUserDataH o r.s with
  | .error e => r.crash e
  | .ok (s, evs) => readTail o r s evs

/-- one extract; returns whether a command was returned -/
def doExtract (r : Run) : Run × Bool :=
  if r.dead || r.s.closed then (r, false) else
  match getUserCommand r.s with
  | .error e => (r.crash e, false)
  | .ok (s, none) => (r.add s [.nocmd], false)
  | .ok (s, some l) => ({ r with noEcho := false }.add s ([Ev.cmd l] ++ txEv (noEchoTx r.noEcho s)), true)

/-- `serve`: get_user_command, then - if a line came back and an input_to / get_char is pending -
    call_function_interactive (what process_user_command does with a line that does not start with `!`) -/
def doServe (r : Run) : Run :=
  if r.dead || r.s.closed then r else
  match getUserCommand r.s with
  | .error e => r.crash e
  | .ok (s, none) => r.add s [.nocmd]
  | .ok (s, some l) =>
    if r.inputTo then
      match endInput s with
      | .error e => r.crash e
      | .ok (s', tx) => { r with noEcho := false, inputTo := false }.add s' ([Ev.cmd l] ++ txEv (noEchoTx r.noEcho s ++ tx))
    else { r with noEcho := false }.add s ([Ev.cmd l] ++ txEv (noEchoTx r.noEcho s))

/-- get_char() / input_to() called by the user object: refused (0) while another one is pending -/
def doSetCall (r : Run) (single noecho : Bool) : Run :=
  if r.s.closed then r else
  if r.inputTo then r.add r.s [.setcall false] else
  match setCall r.s single noecho with
  | .error e => r.crash e
  | .ok (s, tx) => { r with inputTo := true, noEcho := r.noEcho || noecho }.add s ([Ev.setcall true] ++ txEv tx)

def drainLoop : Nat → Run → Run
  | 0, r => r
  | fuel + 1, r =>
    let (r, got) := doExtract r
    if got then drainLoop fuel r else r

def finishLoop (o : Oracle) : Nat → Run → Run
  | 0, r => r
  | fuel + 1, r =>
    if r.s.sock.isEmpty || r.dead || r.s.closed then r
    else finishLoop o fuel (drainLoop 5000 (doRead o r))

/-- `line`: one blob handed to add_console_line -/
def doLine (r : Run) (b : List Byte) : Run :=
  if r.s.closed then r else
  match addConsoleLine r.s b with
  | .error e => r.crash e
  | .ok s => r.add s [.cl b]

/-- lib/async/console_worker.c: the worker thread reads at most `CONSOLE_MAX_LINE - consoleReadReserve` bytes per
    `read (STDIN_FILENO, line_buffer, ..)`; each read is one blob -/
def workerChunks : Nat → List Byte → List (List Byte)
  | 0, _ => []
  | fuel + 1, data =>
    if data.isEmpty ∨ consoleMaxLine - consoleReadReserve = 0 then []
    else data.take (consoleMaxLine - consoleReadReserve) :: workerChunks fuel (data.drop (consoleMaxLine - consoleReadReserve))

/-- one blob through the worker and the console branch of process_io: `char line_buffer[CONSOLE_MAX_LINE]` on both
    sides, `line_buffer[bytes_read] = '\0'`, enqueue / dequeue of `bytes_read + 1` bytes, add_console_line -/
def doLineW (r : Run) (c : List Byte) : Run :=
  if r.dead then r
  else if c.length + 1 > consoleMaxLine then r.crash "console worker: line_buffer[bytes_read] behind line_buffer[CONSOLE_MAX_LINE]"
  else doLine r c

/-- `wpipe`: bytes arriving on the console's stdin pipe -/
def doWpipe (r : Run) (data : List Byte) : Run :=
  (workerChunks (data.length + 1) data).foldl doLineW r

def stepOp (o : Oracle) (r : Run) (op : Op) : Run :=
  if r.dead then r else
  match op with
  | .send b => { r with s := { r.s with sock := r.s.sock ++ b } }
  | .iflagSingle =>
    if r.s.closed then r
    else r.add { r.s with dec := { r.s.dec with fl := { r.s.dec.fl with single := true } } } []
  | .iflagLine =>
    if r.s.closed then r
    else r.add { r.s with dec := { r.s.dec with fl := { r.s.dec.fl with single := false } } } []
  | .read => doRead o r
  | .chunk b => doRead o { r with s := { r.s with sock := r.s.sock ++ b } }
  | .extract => (doExtract r).1
  | .drain => drainLoop 5000 r
  | .finish => finishLoop o 20000 r
  | .line b => doLine r b
  | .wpipe b => doWpipe r b
  | .snoopOn => if r.s.closed then r else { r with snoop := true }.add r.s []
  | .getchar ne => doSetCall r true ne
  | .inputto ne => doSetCall r false ne
  | .serve => doServe r

def run (p : Port) (o : Oracle) (ops : List Op) : Run :=
  let s0 := S.init p
  ops.foldl (stepOp o) { s := s0, evs := afterStep s0 }

end NV.C13
