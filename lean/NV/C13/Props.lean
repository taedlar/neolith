/-
C13 — property theorems (the lemmas behind them are in the other modules of NV/C13, see DESIGN.md).

All statements are about the executable model `NV.C13.Model` of src/comm.c as it is after the `fix:` commits of
branch c13, over the constants regenerated into `NV.Gen.C13`.  Quantification is over *every* decoder state /
buffer state satisfying the stated invariant (which the initial state satisfies and every step preserves), every
byte stream and every way of cutting it into reads.
-/
import NV.C13.Schedule
import NV.C13.Console
import NV.C13.Run

namespace NV.C13

open NV.Gen.C13

/-- layout of `ip->state`: the TS_* codes fit under TS_STATE_MASK and TS_CR_SEEN is a bit above the mask, so keeping
    `state & mask` and the CR bit as two components (Model.lean) loses nothing -/
theorem ts_layout :
    tsDATA ≤ tsStateMask ∧ tsIAC ≤ tsStateMask ∧ tsWILL ≤ tsStateMask ∧ tsWONT ≤ tsStateMask ∧ tsDO ≤ tsStateMask ∧
    tsDONT ≤ tsStateMask ∧ tsSB ≤ tsStateMask ∧ tsSBIAC ≤ tsStateMask ∧ tsCrSeen &&& tsStateMask = 0 ∧
    [tsDATA, tsIAC, tsWILL, tsWONT, tsDO, tsDONT, tsSB, tsSBIAC].Nodup := by decide

/-- **tie of the statement order**: the order of the statements of the PORT_ASCII line loop (`text_start` committed and
    the LF overwritten *before* process_input runs; re-validation, reset test, advance, move of the rest after it), of
    add_console_line's checks and of the telnet store, as read from the source text on every run, is the order the
    model implements.  A reordering in the C code changes `NV.Gen.C13` and breaks this obligation. -/
theorem statement_order_tie :
    asciiLoopOrder = asciiLoopOrderModel ∧ consoleCheckOrder = consoleCheckOrderModel ∧
    telnetStoreOrder = telnetStoreOrderModel := by decide

/-- **sb_in_bounds** (array size): the sub-negotiation buffer has room for SB_SIZE data bytes *and* the terminator
    that IAC SE stores at `sb_buf[sb_pos]`.  False before commit "fix: telnet sub-negotiation terminator ..."
    (`sizeof sb_buf == SB_SIZE`); see `sb_terminator_overflows_exact_array` (Witness.lean). -/
theorem sb_array_has_room : sbSize < sbBufSize := sb_room

/-- **sb_in_bounds**: from every decoder state satisfying the invariant, for every chunk of bytes, copy_chars
    finishes without any read or write outside `sb_buf` (the only error the model's copy_chars can raise), and
    the invariant (`sb_pos ≤ SB_SIZE`, array size, cleared tail while a sub-negotiation is open) holds again. -/
theorem sb_in_bounds (d : Dec) (h : DecInv d) (chunk : List Byte) :
    ∃ r, copyChars d chunk = .ok r ∧ DecInv r.d :=
  let ⟨r, hr, ok⟩ := copyChars_ok h chunk
  ⟨r, hr, ok.inv⟩

/-- non-vacuity: the state of a fresh connection satisfies the decoder invariant, and so does the state in the
    middle of an over-long sub-negotiation (sb_pos = SB_SIZE) -/
example : DecInv Dec.init := (init_inv .telnet).dec
example : DecInv { Dec.init with ts := tsSB, sbPos := sbSize } :=
  ⟨(init_inv .telnet).dec.sbLen, Nat.le_refl _, fun _ => by decide⟩

/-- **the /3 rule is sufficient**: whatever the decoder state (including CR seen in the previous read), a chunk of
    `n` bytes makes copy_chars store at most `3 n` bytes -/
theorem copy_chars_expansion (d : Dec) (h : DecInv d) (chunk : List Byte) :
    ∃ r, copyChars d chunk = .ok r ∧ r.out.length ≤ 3 * chunk.length :=
  let ⟨r, hr, ok⟩ := copyChars_ok h chunk
  ⟨r, hr, ok.len⟩

/-- the bound is attained: CR pending, then LF -/
example : (copyChars { Dec.init with cr := true } [bLF]).toOption.map (·.out.length) = some 3 := by decide

/-- **buffer_writes_in_bounds** (reads): for every state with `text.length = MAX_TEXT`,
    `0 ≤ text_start ≤ text_end ≤ MAX_TEXT-1` and the decoder invariant — on every port, with any bytes waiting in the
    socket, any decoder state and any iflags — get_user_data (space rule, compaction, discard, recv of at most the
    computed space, copy_chars / PORT_ASCII loop / PORT_BINARY) performs no access outside `text[MAX_TEXT]`, the
    local `buf[MAX_TEXT]` or `sb_buf`, and the invariant holds afterwards.  The same for add_console_line with
    any blob.  (A crash is `Except.error`; the theorem says the result is `.ok`.) -/
theorem buffer_writes_in_bounds (o : Oracle) (s : S) (h : Inv s) :
    (∃ s' evs, getUserData o s = .ok (s', evs) ∧ Inv s') ∧
    (∀ blob, ∃ s', addConsoleLine s blob = .ok s' ∧ Inv s') :=
  ⟨getUserData_ok o h, fun blob => addConsoleLine_ok h blob⟩

/-- non-vacuity: fresh connections satisfy the invariant -/
example (p : Port) : Inv (S.init p) := init_inv p

/-- what is handed to recv() never exceeds the room behind `text_end` (×3 on the telnet port): the numeric core of
    the space rule, over the divisors regenerated from get_user_data -/
theorem space_rule_sufficient (s : S) (h : Inv s) :
    ∃ s' sp, computeSpace s = .ok (s', sp) ∧ Inv s' ∧ (s.port = .telnet → 3 * sp + s'.tend + 1 ≤ MAXT) ∧
      sp + s'.tend + 1 ≤ MAXT ∧ 0 < sp :=
  let ⟨s', sp, hc, ok⟩ := computeSpace_ok h
  ⟨s', sp, hc, ok.inv, ok.roomT, ok.roomA, ok.pos⟩

/-- what reaches the input side of one connection: bytes sent by the client, a read event, a console blob -/
inductive InOp where
  | send (b : List Byte) | read | line (b : List Byte)

def inStep (o : Oracle) (s : S) : InOp → Except String S
  | .send b => .ok { s with sock := s.sock ++ b }
  | .read => (getUserDataH o s).map (·.1)
  | .line b => addConsoleLine s b

def inRun (o : Oracle) (s : S) : List InOp → Except String S
  | [] => .ok s
  | op :: ops => match inStep o s op with
    | .error e => .error e
    | .ok s' => inRun o s' ops

/-- **overlong_cut_or_discarded_bounded / survives any byte stream** (input side): on every port, for every sequence
    of client sends, read events and console blobs — any bytes, any lengths, any segmentation — the driver never
    accesses memory outside its buffers and the buffered text stays within `text_end ≤ MAX_TEXT-1`
    (over-long input is discarded by get_user_data / dropped by add_console_line, never stored). -/
theorem input_never_overflows (o : Oracle) (p : Port) (ops : List InOp) :
    ∃ s, inRun o (S.init p) ops = .ok s ∧ Inv s := by
  suffices H : ∀ s, Inv s → ∃ s', inRun o s ops = .ok s' ∧ Inv s' from H _ (init_inv p)
  induction ops with
  | nil => intro s h; exact ⟨s, rfl, h⟩
  | cons op ops ih =>
    intro s h
    cases op with
    | send b =>
      exact ih _ (h.frame _ _ _ _)
    | read =>
      obtain ⟨s', evs, h1, ok⟩ := getUserDataH_spec o h
      have : inStep o s .read = .ok s' := by simp [inStep, h1, Except.map]
      simp only [inRun, this]; exact ih _ ok.inv
    | line b =>
      obtain ⟨s', h1, h2⟩ := addConsoleLine_ok h b
      simp only [inRun, inStep, h1]; exact ih _ h2

/-- **segmentation_independent** (decoder): for every stream and every segmentation of it into reads, copy_chars
    fed chunk by chunk (state carried in `ip->state`, `sb_buf`, `sb_pos`, iflags) ends in the same state and has
    stored, answered and called back exactly what one call on the whole stream does.  Hence any two segmentations
    agree. -/
theorem segmentation_independent (d : Dec) (stream : List Byte) (chunks₁ chunks₂ : List (List Byte))
    (h₁ : chunks₁.flatten = stream) (h₂ : chunks₂.flatten = stream) :
    feed d chunks₁ = feed d chunks₂ ∧ feed d chunks₁ = copyChars d stream := by
  rw [feed_eq_copyChars, feed_eq_copyChars, h₁, h₂]; exact ⟨rfl, rfl⟩

example : [[1, 2], [3]].flatten = ([1, 2, 3] : List Byte) ∧ [[1], [2, 3]].flatten = ([1, 2, 3] : List Byte) := by decide

/-- **the text that reaches the buffer is the stream's text** : outside single-character mode, from a fresh
    connection, the bytes copy_chars stores for *any* segmentation of `stream` are exactly the rendering of
    `toks .data stream` (text bytes; `' ' '\b' '\0'` per end-of-line) — the framing grammar of Spec.lean, which
    mentions neither reads nor buffers. -/
theorem stored_text_is_stream_text (stream : List Byte) (chunks : List (List Byte)) (h : chunks.flatten = stream) :
    ∃ r, feed Dec.init chunks = .ok r ∧ r.out = renderToks (toks .data stream) := by
  rw [feed_eq_copyChars, h]
  have hi : DecInv Dec.init := (init_inv .telnet).dec
  obtain ⟨r, hr, ok⟩ := copyChars_ok hi stream
  have hv : Valid Dec.init := Or.inl rfl
  obtain ⟨ho, _⟩ := ok.sim hv rfl
  have hm : modeOf Dec.init = .data := by decide
  rw [hm] at ho
  exact ⟨r, hr, ho⟩

/-- **negotiation_never_in_text** (grammar level): read in data position, a complete option negotiation, a complete
    sub-negotiation (payload free of IAC) or a two-byte command contributes no text, whatever follows;
    and every text byte is a byte of the stream (or 255 standing for a doubled IAC). -/
theorem negotiation_never_in_text :
    (∀ c o rest, (c = bWILL ∨ c = bWONT ∨ c = bDO ∨ c = bDONT) → toks .data (bIAC :: c :: o :: rest) = toks .data rest) ∧
    (∀ body rest, (∀ x ∈ body, x ≠ bIAC) → toks .data (bIAC :: bSB :: (body ++ bIAC :: bSE :: rest)) = toks .data rest) ∧
    (∀ x rest, x ≠ bIAC → ¬ (x = bWILL ∨ x = bWONT ∨ x = bDO ∨ x = bDONT) → x ≠ bSB →
      toks .data (bIAC :: x :: rest) = toks .data rest) ∧
    (∀ m stream t, t ∈ toks m stream → t = .nl ∨ ∃ b, t = .ch b ∧ b ∈ stream) :=
  ⟨fun c o rest hc => toks_negotiation c o hc rest, fun body rest hb => toks_subnegotiation body rest hb,
   fun x rest h1 h2 h3 => toks_command x h1 h2 h3 rest, fun m stream t ht => toks_bytes_from_stream m stream t ht⟩

/-- with `stored_text_is_stream_text`: e.g. IAC AYT IAC WILL TTYPE "ab" CR LF stores the text of "ab" CR LF only -/
example : toks .data [bIAC, bAYT, bIAC, bWILL, u8 optTTYPE, 97, 98, bCR, bLF] = [.ch 97, .ch 98, .nl] := by decide
example : lines [bIAC, bAYT, bIAC, bWILL, u8 optTTYPE, 97, 98, bCR, bLF] = [[97, 98]] := by decide

/-- **editing_applied**: telnet_neg (the code: explicit `to <= first` guard, `to -= 1`) computes `edit` (the
    specification: a fold that drops the last character); the `' ' '\b'` pair stored for an end-of-line vanishes;
    a line without backspace/delete is delivered unchanged. -/
theorem editing_applied :
    (∀ raw, telnetNeg raw = edit raw) ∧ (∀ l, edit (l ++ [bSP, bBS]) = edit l) ∧
    (∀ l, (∀ c ∈ l, c ≠ bBS ∧ c ≠ bDEL) → edit l = l) :=
  ⟨telnetNeg_eq_edit, edit_sp_bs, edit_plain⟩

example : telnetNeg [bBS, 97, 98, bBS, bDEL, bDEL, 99] = [99] := by decide

/-- every event the backend can cause on one connection -/
inductive AnyOp where
  | send (b : List Byte) | read | line (b : List Byte) | extract

/-- one event; the delivered line, if any, is returned -/
def anyStep (o : Oracle) (s : S) : AnyOp → Except String (S × Option (List Byte))
  | .send b => .ok ({ s with sock := s.sock ++ b }, none)
  | .read => (getUserDataH o s).map (fun r => (r.1, none))
  | .line b => (addConsoleLine s b).map (fun s' => (s', none))
  | .extract => getUserCommand s

def anyRun (o : Oracle) (s : S) (acc : List (List Byte)) : List AnyOp → Except String (S × List (List Byte))
  | [] => .ok (s, acc)
  | op :: ops => match anyStep o s op with
    | .error e => .error e
    | .ok (s', none) => anyRun o s' acc ops
    | .ok (s', some l) => anyRun o s' (acc ++ [l]) ops

/-- **buffer_writes_in_bounds, every interleaving** (line mode): for every port and every schedule of client sends, read
    events, console blobs and command extractions — any bytes, any segmentation, any interleaving — no step accesses
    memory outside `text[]`, `sb_buf[]`, get_user_data's `buf[]` or get_user_command's `buf[]`; the invariant
    `0 ≤ text_start ≤ text_end ≤ MAX_TEXT-1` holds at the end, and every delivered line is shorter than MAX_TEXT
    (**overlong_cut_or_discarded_bounded**: whatever the client sends, a delivered line has at most MAX_TEXT-1 bytes and
    nothing more is ever buffered). -/
theorem framing_never_crashes (o : Oracle) (p : Port) (ops : List AnyOp) :
    ∃ s delivered, anyRun o (S.init p) [] ops = .ok (s, delivered) ∧ Inv s ∧ ∀ l ∈ delivered, l.length + 1 ≤ MAXT := by
  suffices H : ∀ s acc, Inv s → s.dec.fl.single = false → (∀ l ∈ acc, l.length + 1 ≤ MAXT) →
      ∃ s' d, anyRun o s acc ops = .ok (s', d) ∧ Inv s' ∧ ∀ l ∈ d, l.length + 1 ≤ MAXT from
    H _ [] (init_inv p) rfl (fun l hl => by cases hl)
  induction ops with
  | nil => intro s acc h _ ha; exact ⟨s, acc, rfl, h, ha⟩
  | cons op ops ih =>
    intro s acc h hs ha
    cases op with
    | send b =>
      exact ih _ acc (h.frame _ _ _ _) hs ha
    | read =>
      obtain ⟨s', evs, h1, ok⟩ := getUserDataH_spec o h
      have : anyStep o s .read = .ok (s', none) := by simp [anyStep, h1, Except.map]
      simp only [anyRun, this]; exact ih _ acc ok.inv (by rw [ok.single]; exact hs) ha
    | line b =>
      obtain ⟨s', h1, h2, h3, _⟩ := addConsoleLine_spec h b
      have : anyStep o s (.line b) = .ok (s', none) := by simp [anyStep, h1, Except.map]
      simp only [anyRun, this]; exact ih _ acc h2 (by rw [h3]; exact hs) ha
    | extract =>
      obtain ⟨s', r, h1, h2, h3, h4⟩ := getUserCommand_ok h hs
      have : anyStep o s .extract = .ok (s', r) := h1
      cases r with
      | none => simp only [anyRun, this]; exact ih _ acc h2 h3 ha
      | some l =>
        simp only [anyRun, this]
        refine ih _ (acc ++ [l]) h2 h3 ?_
        intro x hx
        rcases List.mem_append.mp hx with hx | hx
        · exact ha x hx
        · have : x = l := by simpa using hx
          subst this; exact h4 x rfl

/-- **SINGLE_CHAR extraction is memory safe.**  For every state with the buffer invariant and a NUL at or behind
    `text_end` inside the array — both are established by new_interactive and re-established by every function of the
    framing code (`getUserData_N`, `addConsoleLine_N`, this theorem) — get_user_command, in line mode *or* in
    single-character mode (where first_cmd_in_buf returns `text + text_start` without looking for a terminator),
    reads its C string inside `text[]`, writes at most MAX_TEXT bytes to its static buffer, and keeps both. -/
theorem single_char_extraction_safe (s : S) (h : Inv s) (hn : NulAfter s) :
    ∃ s' r, getUserCommand s = .ok (s', r) ∧ Inv s' ∧ NulAfter s' ∧ ∀ l, r = some l → l.length + 1 ≤ MAXT :=
  let ⟨s', r, h1, c⟩ := getUserCommand_spec h (.inr hn)
  ⟨s', r, h1, c.inv, c.nul hn, c.short⟩

/-- non-vacuity: fresh connections; and the hypothesis is about the NUL the code stores, not about a cleared array:
    a buffer full of 0xA5 except `text[0]` satisfies it -/
example (p : Port) : Inv (S.init p) ∧ NulAfter (S.init p) := ⟨init_inv p, nulAfter_init p⟩
example : NulAfter { S.init .telnet with text := 0 :: List.replicate 5 0xA5 } := ⟨0, Nat.le_refl _, by decide, rfl⟩

/-- **the model run of the case language never reaches a crash outcome** — every port, every oracle (errors,
    destructs), every schedule of sends / reads / extractions / drain and finish loops / console lines, with
    single-character mode switched on at any point: `run` never takes a `crash` branch (out-of-bounds access,
    size wrap-around, C string running off `text[]`), the explicit index check after each step never fires, and
    the final state satisfies the invariant.  This is the judge's `crash` and `index` clauses on model traces. -/
theorem run_never_crashes (p : Port) (o : Oracle) (ops : List Op) (hw : WellFormed p ops) :
    (run p o ops).dead = false ∧ Inv (run p o ops).s :=
  let k := run_rinv p o ops hw
  ⟨k.alive, k.inv⟩

/-- every schedule of client sends, read events and extractions runs to the end (line mode, every port) -/
theorem fRun_never_crashes (o : Oracle) (p : Port) (ops : List FOp) : ∃ f, fRun o { s := S.init p } ops = .ok f := by
  suffices H : ∀ f : F, Inv f.s → f.s.dec.fl.single = false → ∃ f', fRun o f ops = .ok f' from H _ (init_inv p) rfl
  induction ops with
  | nil => intro f _ _; exact ⟨f, rfl⟩
  | cons op ops ih =>
    intro f h hs
    cases op with
    | send b =>
      simp only [fRun, fStep]
      exact ih _ (h.frame _ _ _ _) hs
    | read =>
      obtain ⟨s', evs, h1, ok⟩ := getUserDataH_spec o h
      simp only [fRun, fStep, h1]
      exact ih _ ok.inv (by rw [ok.single]; exact hs)
    | extract =>
      obtain ⟨s', r, h1, h2, h3, _⟩ := getUserCommand_ok h hs
      simp only [fRun, fStep, h1]
      exact ih _ h2 h3

/-- **segmentation_independent, end to end (telnet port, line mode).**
    Take any schedule `ops` of client sends (any bytes, any chunking), read events and command extractions on a fresh
    telnet connection, and let the run satisfy the explicit side condition (`clean`): at every read the pending,
    not yet extracted text is below the discard threshold of get_user_data OR contains a complete command (then the
    read is held back, fix 57d7cb1) - i.e. `clean` fails only when an unfinished line longer than the threshold is
    pending, which get_user_data discards; and at every extraction the pending text does not fill the buffer.
    Then, whatever the segmentation and the interleaving:
    * the lines delivered so far, followed by the commands still complete in the pending text, are exactly
      `lines received` — the specification applied to the bytes received so far, which knows nothing of reads;
    * `received ++ socket = sent`;
    * after an extraction that returned no command, everything is delivered: `delivered = lines received`. -/
theorem telnet_lines_delivered (o : Oracle) (hnd : NoDest o) (ops : List FOp) (f : F)
    (h : fRun o { s := S.init .telnet } ops = .ok f) (hc : f.clean = true) :
    f.delivered ++ cmdsOf [] (pend f.s) = lines f.received ∧ f.received ++ f.s.sock = f.sent ∧
    (f.lastNone = true → f.delivered = lines f.received) := by
  have k := telnetK_run hnd ops _ f (fun _ => telnetK_init) h hc
  have h0 := k.cmds []
  simp only [List.append_nil] at h0
  rw [← lines_eq_cmdsOf] at h0
  refine ⟨h0, k.sentEq, fun hn => ?_⟩
  rw [k.drained hn, List.append_nil] at h0
  exact h0

/-- non-vacuity: a clean, drained run ("hi" CR LF sent, read, two extractions) -/
example : (fRun (fun _ => .ok) { s := S.init .telnet } [.send [104, 105, 13, 10], .read, .extract, .extract]).toOption.map
    (fun f => (f.clean, f.delivered, f.lastNone, f.s.sock)) = some (true, [[104, 105]], true, []) := by
  decide +kernel

/-- two schedules that send the same bytes — cut into different chunks, read and extracted in different orders —
    and that both end drained with an empty socket deliver the same lines, namely `lines` of the bytes sent -/
theorem telnet_schedule_independent (o₁ o₂ : Oracle) (n₁ : NoDest o₁) (n₂ : NoDest o₂) (ops₁ ops₂ : List FOp) (f₁ f₂ : F)
    (h₁ : fRun o₁ { s := S.init .telnet } ops₁ = .ok f₁) (h₂ : fRun o₂ { s := S.init .telnet } ops₂ = .ok f₂)
    (c₁ : f₁.clean = true) (c₂ : f₂.clean = true) (d₁ : f₁.lastNone = true) (d₂ : f₂.lastNone = true)
    (e₁ : f₁.s.sock = []) (e₂ : f₂.s.sock = []) (hs : f₁.sent = f₂.sent) :
    f₁.delivered = f₂.delivered ∧ f₁.delivered = lines f₁.sent := by
  obtain ⟨_, s1, l1⟩ := telnet_lines_delivered o₁ n₁ ops₁ f₁ h₁ c₁
  obtain ⟨_, s2, l2⟩ := telnet_lines_delivered o₂ n₂ ops₂ f₂ h₂ c₂
  rw [e₁, List.append_nil] at s1
  rw [e₂, List.append_nil] at s2
  rw [l1 d₁, l2 d₂, s1, s2, hs]
  exact ⟨rfl, rfl⟩

/-- **segmentation_independent + exactly-once delivery, end to end (PORT_ASCII), callbacks may fail.**
    `o` answers every process_input call: return normally or raise an LPC error (which unwinds get_user_data to the
    backend's recovery point).  For any schedule of client sends and read events on a fresh ascii connection such
    that at every read the pending text does not fill the buffer (`clean`):
    * every complete line of the stream is handed to process_input exactly once and in order — the lines delivered
      so far (including those whose callback failed), followed by the complete lines still in the buffer, are
      `asciiLines received`; nothing is lost or repeated, because `text_start` is committed past a line before
      its callback runs;
    * unless the last read that got data was left through an error, nothing complete is left over:
      `delivered = asciiLines received`;
    * `received ++ socket = sent`. -/
theorem ascii_lines_delivered (o : Oracle) (hnd : NoDest o) (ops : List FOp) (f : F)
    (h : fRun o { s := S.init .ascii } ops = .ok f) (hc : f.clean = true) :
    (∀ x, asciiLines (f.received ++ x) = f.delivered ++ asciiLinesAux [] (pend f.s ++ x)) ∧
    (f.aborted = false → f.delivered = asciiLines f.received) ∧ f.received ++ f.s.sock = f.sent := by
  have k := asciiK_run hnd ops _ f (fun _ => asciiK_init) h hc
  refine ⟨fun x => (k.lines x).symm, fun ha => ?_, k.sentEq⟩
  have h0 := k.lines []
  simp only [List.append_nil] at h0
  rw [asciiLinesAux_pending (k.fin ha), List.append_nil] at h0
  exact h0

/-- non-vacuity: "one\ntwo\nthr", "ee\n" with the first callback raising an error: `one` is delivered (and fails),
    the read is abandoned; the next read delivers `two`, `three` -/
example : (fRun (fun k => if k = 0 then .err else .ok) { s := S.init .ascii }
      [.send [111, 110, 101, 10, 116, 119, 111, 10, 116, 104, 114], .read, .send [101, 101, 10], .read]).toOption.map
    (fun f => (f.clean, f.aborted, f.delivered, f.s.sock)) =
    some (true, false, [[111, 110, 101], [116, 119, 111], [116, 104, 114, 101, 101]], []) := by
  decide +kernel

/-- **console_lines_delivered** — the console end to end.  For any schedule of console blobs (whatever the console
    worker read at once: several lines, half a line, CR LF split over two blobs) and extractions on a fresh console
    user, such that every blob fitted behind `text_end` and the buffer was never full at an extraction (`clean`):
    the lines delivered so far followed by the commands still complete in the buffer are `consoleLines accepted`
    (pieces ended by LF, CR or NUL, empty ones skipped, edited) — independent of how the input was cut into blobs —
    and after an extraction that returned nothing everything has been delivered. -/
theorem console_lines_delivered (ops : List COp) (f : CF) (h : cRun { s := S.init .console } ops = .ok f)
    (hc : f.clean = true) :
    f.delivered ++ cmdsOf [] (pend f.s) = consoleLines f.accepted ∧
    (f.lastNone = true → f.delivered = consoleLines f.accepted) := by
  have k := consoleK_run ops _ f (fun _ => consoleK_init) h hc
  have h0 := k.cmds []
  simp only [List.append_nil] at h0
  rw [← consoleLines_eq_cmdsOf] at h0
  refine ⟨h0, fun hn => ?_⟩
  rw [k.drained hn, List.append_nil] at h0
  exact h0

/-- non-vacuity: "lo", "ok\nsa", "y\r\n" in three blobs, extraction in between -/
example : (cRun { s := S.init .console } [.line [108, 111], .line [111, 107, 10, 115, 97], .extract,
      .line [121, 13, 10], .extract, .extract]).toOption.map (fun f => (f.clean, f.delivered, f.lastNone)) =
    some (true, [[108, 111, 111, 107], [115, 97, 121]], true) := by
  decide +kernel

end NV.C13
