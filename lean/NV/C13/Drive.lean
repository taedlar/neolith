/-
C13 driver: parses the case lines that harness/c13/c13.c executes against the real comm.c and runs the model
(`model` mode) or the specification oracle on an implementation trace (`judge` mode).

Case lines:   port telnet|ascii|binary|console / cb <k> ok|err|dest / iflag single|line / send <hex> / read / chunk <hex> /
              extract / drain / finish / line <hex> / wpipe <hex> / getchar [noecho] / inputto [noecho] / serve / snoop on
              (`-` is the empty byte string)
Trace lines:  ask n / rx <hex> / wouldblock / st s e state sbpos flags / cmd <hex> / nocmd / input <hex> /
              cb ttype <hex> / cb subopt <hex> / cb naws w h / tx <hex> / cl <hex> / setcall 0|1 / snoop <hex> /
              err [C13 scripted error in callback k] / closed / crash ... / sanitizer ...
-/
import NV.Common.Proto
import NV.C13.Model
import NV.C13.Spec
import NV.C13.SpecStall
import NV.C13.SpecMode

namespace NV.C13

open NV.Proto

def hexDigit (n : Nat) : Char := if n < 10 then Char.ofNat (48 + n) else Char.ofNat (87 + n)

def hexOf (bs : List Byte) : String :=
  if bs.isEmpty then "-" else
  String.ofList (bs.flatMap (fun b => [hexDigit (b.toNat / 16), hexDigit (b.toNat % 16)]))

def hexVal (c : Char) : Option Nat :=
  if '0' ≤ c ∧ c ≤ '9' then some (c.toNat - 48)
  else if 'a' ≤ c ∧ c ≤ 'f' then some (c.toNat - 87)
  else if 'A' ≤ c ∧ c ≤ 'F' then some (c.toNat - 55)
  else none

def unhexAux : List Char → List Byte → Option (List Byte)
  | [], acc => some acc.reverse
  | [_], _ => none
  | a :: b :: r, acc =>
    match hexVal a, hexVal b with
    | some x, some y => unhexAux r (UInt8.ofNat (x * 16 + y) :: acc)
    | _, _ => none

def unhex (s : String) : Option (List Byte) :=
  if s == "-" then some [] else unhexAux s.toList []

def render : Ev → String
  | .ask n => s!"ask {n}"
  | .rx b => s!"rx {hexOf b}"
  | .wouldblock => "wouldblock"
  | .st s e st sb fl => s!"st {s} {e} {st} {sb} {fl}"
  | .cmd b => s!"cmd {hexOf b}"
  | .nocmd => "nocmd"
  | .input b => s!"input {hexOf b}"
  | .cbTtype b => s!"cb ttype {hexOf b}"
  | .cbSubopt b => s!"cb subopt {hexOf b}"
  | .cbNaws w h => s!"cb naws {w} {h}"
  | .tx b => s!"tx {hexOf b}"
  | .cl b => s!"cl {hexOf b}"
  | .errmsg k => s!"err C13 scripted error in callback {k}"
  | .cberr => "err"
  | .closed => "closed"
  | .crash why => s!"crash {why}"
  | .setcall ok => s!"setcall {if ok then 1 else 0}"
  | .snoop b => s!"snoop {hexOf b}"

def parseEv (line : String) : Option Ev :=
  match NV.Proto.toks line with
  | ["ask", n] => n.toNat?.map .ask
  | ["rx", h] => (unhex h).map .rx
  | ["wouldblock"] => some .wouldblock
  | ["st", a, b, c, d, e] => do some (.st (← a.toNat?) (← b.toNat?) (← c.toNat?) (← d.toNat?) (← e.toNat?))
  | ["cmd", h] => (unhex h).map .cmd
  | ["nocmd"] => some .nocmd
  | ["input", h] => (unhex h).map .input
  | ["cb", "ttype", h] => (unhex h).map .cbTtype
  | ["cb", "subopt", h] => (unhex h).map .cbSubopt
  | ["cb", "naws", w, h] => do some (.cbNaws (← w.toNat?) (← h.toNat?))
  | ["tx", h] => (unhex h).map .tx
  | ["cl", h] => (unhex h).map .cl
  | ["closed"] => some .closed
  | ["snoop", h] => (unhex h).map .snoop
  | ["setcall", "1"] => some (.setcall true)
  | ["setcall", "0"] => some (.setcall false)
  | ["err"] => some .cberr
  | ["err", "C13", "scripted", "error", "in", "callback", k] => k.toNat?.map .errmsg
  | _ => none

def parsePort : String → Option Port
  | "telnet" => some .telnet
  | "ascii" => some .ascii
  | "binary" => some .binary
  | "console" => some .console
  | _ => none

def parseOp (line : String) : Option Op :=
  match NV.Proto.toks line with
  | ["iflag", "single"] => some .iflagSingle
  | ["iflag", "line"] => some .iflagLine
  | ["send", h] => (unhex h).map .send
  | ["read"] => some .read
  | ["chunk", h] => (unhex h).map .chunk
  | ["extract"] => some .extract
  | ["drain"] => some .drain
  | ["finish"] => some .finish
  | ["line", h] => (unhex h).map .line
  | ["wpipe", h] => (unhex h).map .wpipe
  | ["getchar"] => some (.getchar false)
  | ["getchar", "noecho"] => some (.getchar true)
  | ["inputto"] => some (.inputto false)
  | ["inputto", "noecho"] => some (.inputto true)
  | ["serve"] => some .serve
  | ["snoop", "on"] => some .snoopOn
  | _ => none

/-- `cb <k> err|dest` lines -/
def parseCb (line : String) : Option (Nat × Outcome) :=
  match NV.Proto.toks line with
  | ["cb", k, "err"] => k.toNat?.map (·, Outcome.err)
  | ["cb", k, "dest"] => k.toNat?.map (·, Outcome.dest)
  | ["cb", k, "ok"] => k.toNat?.map (·, Outcome.ok)
  | _ => none

def oracleOf (tab : List (Nat × Outcome)) : Oracle := fun k =>
  match tab.reverse.find? (fun e => e.1 == k) with
  | some e => e.2
  | none => .ok

/-- (port, oracle table, ops) of a case, or the offending line -/
def parseCase (lines : List String) : Except String (Port × List (Nat × Outcome) × List Op) :=
  let lines := lines.filter (fun l => !(l.startsWith "#") && l.trimAscii.toString != "")
  let cbs := lines.filterMap parseCb
  let lines := lines.filter (fun l => (parseCb l).isNone)
  match lines with
  | [] => .error "empty case"
  | first :: rest =>
    match NV.Proto.toks first with
    | ["port", k] =>
      match parsePort k with
      | none => .error first
      | some p =>
        let rec go (ls : List String) (acc : List Op) : Except String (List Op) :=
          match ls with
          | [] => .ok acc.reverse
          | l :: r => match parseOp l with
            | some op => go r (op :: acc)
            | none => .error l
        match go rest [] with
        | .ok ops => .ok (p, cbs, ops)
        | .error l => .error l
    | _ => .error first

def runModel (lines : List String) : List String :=
  match parseCase lines with
  | .error l => [s!"bad-line {l}"]
  | .ok (p, cbs, ops) => (run p (oracleOf cbs) ops).evs.map render

def runJudge (body : List String) : List String :=
  let (input, impl) := splitJudge body
  match parseCase input with
  | .error l => [s!"bad unparsable-case {l}"]
  | .ok (p, cbs, ops) =>
    let evs := impl.map (fun l => match parseEv l with
      | some e => e
      | none => Ev.crash l)          -- `crash ...`, `sanitizer ...` and anything unknown
    match judgeEv p evs (cbs.any (fun e => e.2 == Outcome.dest)) ++ judgeStall (sentOf ops) (finishedOf ops) evs ++
          judgeMode (modeClauseEnabled p ops) evs with
    | [] => ["ok"]
    | vs => vs.map (fun v => s!"bad {v}")

def main (mode : String) : IO Unit :=
  match mode with
  | "model" => serve runModel
  | "judge" => serve runJudge
  | _ => IO.eprintln s!"C13: unknown mode {mode}"

end NV.C13
