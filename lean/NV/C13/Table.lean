/-
C13 — the transition table of copy_chars as a tie between the source and the model.

`NV.Gen.C13.ccTable` is regenerated on every run by executing the REAL `copy_chars` (src/comm.c, included textually in
harness/c13/c13.c, command `ccprobe`) on every byte value 0..255 in every decoder configuration of
`props/c13.py: cc_configs` (all 16 values of `state & TS_STATE_MASK` × TS_CR_SEEN × SINGLE_CHAR; the sub-negotiation
states also at `sb_pos = SB_SIZE-1` and `SB_SIZE`; TS_SB_IAC also with every kind of payload the `IAC SE` handler
distinguishes).  Rows are (byte range → state, sb_pos, iflags, lm mode, stored bytes, reply bytes, sb_buf changes,
callbacks).

This file holds the checker: `tableOk` says that the model's `ccByte` on the same configuration, for every byte of every
row, agrees with the row in all eight components, and that the rows of every configuration partition 0..255; `cfgOkFast`
is the form of it the kernel evaluates, with `cfgOk_of_fast` back to `cfgOk`.  The theorems about the regenerated table
(`cc_table_tie`, `cc_table_total`, ...) are in TableTie.lean.  A changed `case`, constant, comparison or assignment inside
copy_chars changes a row and breaks the obligation (the check then searches for a failing input through the
correspondence as usual - the model itself does not depend on the table).
-/
import NV.C13.Step

namespace NV.C13

open NV.Gen.C13

/-- the decoder state the probe sets up -/
def cfgDec (c : CcCfg) : Dec :=
  let pre := (c.sbPre.map u8 ++ List.replicate (c.sbPos - c.sbPre.length) (u8 c.sbFill)).take c.sbPos
  { ts := c.ts, cr := c.cr != 0, fl := { single := c.single != 0 }, sbPos := c.sbPos,
    sbBuf := pre ++ List.replicate (sbBufSize - pre.length) 0, lmMode := u8 modeACK }

/-- 256 stands for the input byte -/
def symB (b : Byte) (x : Nat) : Byte := if x = 256 then b else u8 x

def applyDiffs (b : Byte) : List Byte → List (Nat × Nat) → List Byte
  | buf, [] => buf
  | buf, (i, v) :: r => applyDiffs b (buf.set i (symB b v)) r

def cbOf : Nat × List Nat → Ev
  | (0, a) => .cbTtype (a.map u8)
  | (1, a) => .cbSubopt (a.map u8)
  | (_, a) => .cbNaws (a.getD 0 0) (a.getD 1 0)

/-- the model's step on byte `b` in configuration `c` is what row `r` says -/
def rowOkAt (c : CcCfg) (r : CcRow) (b : Byte) : Bool :=
  match ccByte (cfgDec c) b with
  | .error _ => false
  | .ok res =>
    res.d.stateNat == r.st && res.d.sbPos == r.sbPos && res.d.fl.toNat == r.fl && res.d.lmMode.toNat == r.lm &&
    res.out == r.out.map (symB b) && res.tx == r.tx.map (symB b) &&
    res.d.sbBuf == applyDiffs b (cfgDec c).sbBuf r.sbd && res.cbs == r.cbs.map cbOf

def rowOk (c : CcCfg) (r : CcRow) : Bool :=
  (List.range (r.hi + 1 - r.lo)).all (fun i => rowOkAt c r (u8 (r.lo + i)))

/-- the rows are consecutive byte ranges starting at `next` and ending at 255 -/
def rowsCover : Nat → List CcRow → Bool
  | next, [] => next == 256
  | next, r :: rest => r.lo == next && r.lo ≤ r.hi && rowsCover (r.hi + 1) rest

def cfgOk (c : CcCfg) : Bool := rowsCover 0 c.rows && c.rows.all (rowOk c)

def tableOk (t : List CcCfg) : Bool := t.all cfgOk

/-- every value of `state & TS_STATE_MASK`, with and without TS_CR_SEEN / SINGLE_CHAR, is in the table -/
def tableStates (t : List CcCfg) : Bool :=
  (List.range (tsStateMask + 1)).all (fun ts => [0, 1].all (fun cr => [0, 1].all (fun sg =>
    t.any (fun c => c.ts == ts && c.cr == cr && c.single == sg))))

theorem rowsCover_find : ∀ (rows : List CcRow) (next n : Nat), rowsCover next rows = true → next ≤ n → n < 256 →
    ∃ r ∈ rows, r.lo ≤ n ∧ n ≤ r.hi := by
  intro rows
  induction rows with
  | nil =>
    intro next n h h1 h2
    simp [rowsCover] at h
    omega
  | cons r rest ih =>
    intro next n h h1 h2
    simp only [rowsCover, Bool.and_eq_true, beq_iff_eq, decide_eq_true_eq] at h
    obtain ⟨⟨hlo, hle⟩, hrest⟩ := h
    by_cases hn : n ≤ r.hi
    · exact ⟨r, List.mem_cons_self, by omega, hn⟩
    · obtain ⟨r', hr', h3⟩ := ih (r.hi + 1) n hrest (by omega) h2
      exact ⟨r', List.mem_cons_of_mem _ hr', h3⟩

theorem rowOk_at (c : CcCfg) (r : CcRow) (h : rowOk c r = true) (b : Byte) (h1 : r.lo ≤ b.toNat) (h2 : b.toNat ≤ r.hi) :
    rowOkAt c r b = true := by
  unfold rowOk at h
  rw [List.all_eq_true] at h
  have := h (b.toNat - r.lo) (by simp [List.mem_range]; omega)
  have e : r.lo + (b.toNat - r.lo) = b.toNat := by omega
  rw [e] at this
  have e2 : u8 b.toNat = b := by
    unfold u8
    exact UInt8.ofNat_toNat
  rw [e2] at this
  exact this

/-! ### a row is checked once for all the bytes its state does not test for
Most rows are long byte ranges on which the `case` takes its default path (`ccByte_dflt`); there the row is compared
with `ccDflt`, which does not mention the byte.  Only the tested bytes in the range are run through `ccByte`. -/

/-- the row says what the default path does: next state, and the byte stored as text / as payload or not at all -/
def rowOkDflt (c : CcCfg) (r : CcRow) : Bool :=
  let x := ccDflt (cfgDec c)
  x.d.stateNat == r.st && x.d.fl.toNat == r.fl && x.d.lmMode.toNat == r.lm && r.tx.isEmpty && r.cbs.isEmpty &&
  (if x.sb then
     decide (x.d.sbPos < x.d.sbBuf.length) && x.d.sbPos + 1 == r.sbPos && r.out.isEmpty && r.sbd == [(x.d.sbPos, 256)]
   else x.d.sbPos == r.sbPos && r.sbd.isEmpty && r.out == (if x.text then [256] else []))

theorem ccDflt_sbBuf (d : Dec) : (ccDflt d).d.sbBuf = d.sbBuf := by
  unfold ccDflt
  rcases onState_eq d.ts with ⟨_, e⟩ | ⟨_, e⟩ | ⟨_, e⟩ | ⟨_, e⟩ | ⟨_, e⟩ | ⟨_, e⟩ | ⟨_, e⟩ | ⟨_, e⟩ | ⟨_, e⟩ <;> rw [e]

theorem rowOkAt_dflt {c : CcCfg} {r : CcRow} {b : Byte} (hb : b ∉ tested c.ts) (h : rowOkDflt c r = true) :
    rowOkAt c r b = true := by
  have hbuf := ccDflt_sbBuf (cfgDec c)
  unfold rowOkAt
  rw [ccByte_dflt (d := cfgDec c) hb]
  unfold rowOkDflt at h
  unfold Dflt.run
  generalize ccDflt (cfgDec c) = x at h hbuf
  simp only [Bool.and_eq_true, beq_iff_eq, List.isEmpty_iff] at h
  obtain ⟨⟨⟨⟨⟨h1, h2⟩, h3⟩, h4⟩, h5⟩, h6⟩ := h
  cases hs : x.sb
  · simp only [hs, Bool.false_eq_true, if_false, Bool.and_eq_true, beq_iff_eq, List.isEmpty_iff] at h6 ⊢
    obtain ⟨⟨h6, h7⟩, h8⟩ := h6
    simp only [h1, h2, h3, h4, h5, h6, h7, h8, hbuf, applyDiffs, List.map_nil]
    cases x.text <;> simp [symB]
  · simp only [hs, if_true, Bool.and_eq_true, decide_eq_true_eq, beq_iff_eq, List.isEmpty_iff] at h6 ⊢
    obtain ⟨⟨⟨h6, h7⟩, h8⟩, h9⟩ := h6
    have e : sbSet x.d x.d.sbPos b = .ok { x.d with sbBuf := x.d.sbBuf.set x.d.sbPos b } := by
      unfold sbSet; rw [if_pos h6]
    rw [e]
    simp only [Dec.stateNat] at h1 ⊢
    simp only [h1, h2, h3, h4, h5, h7, h8, h9, hbuf, applyDiffs, symB, List.map_nil, beq_self_eq_true, Bool.and_self,
      if_true]
    rfl

/-- the fast check of a row; the per-byte check stays as the fallback for rows of another shape -/
def rowOkFast (c : CcCfg) (r : CcRow) : Bool :=
  (decide (r.hi < 256) && rowOkDflt c r &&
    (tested c.ts).all (fun b => !(decide (r.lo ≤ b.toNat) && decide (b.toNat ≤ r.hi)) || rowOkAt c r b)) ||
  rowOk c r

theorem rowOk_of_fast {c : CcCfg} {r : CcRow} (h : rowOkFast c r = true) : rowOk c r = true := by
  unfold rowOkFast at h
  rcases Bool.or_eq_true_iff.mp h with h | h
  · simp only [Bool.and_eq_true, decide_eq_true_eq, List.all_eq_true, Bool.or_eq_true, Bool.not_eq_true'] at h
    obtain ⟨⟨hhi, hd⟩, ht⟩ := h
    unfold rowOk
    rw [List.all_eq_true]
    intro i hi
    have hi' : r.lo + i ≤ r.hi := by have := List.mem_range.mp hi; omega
    have hn : (u8 (r.lo + i)).toNat = r.lo + i := by
      unfold u8; rw [UInt8.toNat_ofNat']; exact Nat.mod_eq_of_lt (by omega)
    by_cases hb : u8 (r.lo + i) ∈ tested c.ts
    · rcases ht _ hb with h1 | h1
      · rw [hn] at h1
        simp only [Bool.and_eq_false_iff, decide_eq_false_iff_not] at h1
        omega
      · exact h1
    · exact rowOkAt_dflt hb hd
  · exact h

def cfgOkFast (c : CcCfg) : Bool := rowsCover 0 c.rows && c.rows.all (rowOkFast c)

theorem cfgOk_of_fast {c : CcCfg} (h : cfgOkFast c = true) : cfgOk c = true := by
  unfold cfgOkFast at h
  unfold cfgOk
  rw [Bool.and_eq_true, List.all_eq_true] at h ⊢
  exact ⟨h.1, fun r hr => rowOk_of_fast (h.2 r hr)⟩

end NV.C13
