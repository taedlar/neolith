/-
C12 — clause `overtaken`: the invariant `OB` (order oracle against cursor and connection table) and its form inside the
command loop, `OL`.  `OL` has a frame on the oracle side (`OL_touch`) and one on the world side (`OL_world`); it crosses a
call of process_user_command as the serve step (`serve_OL`: the geometry of `guc_ord`) followed by the script, event
by event (`OL_runOps`).
-/
import NV.C12.OrderOracle
import NV.C12.WalkOrder
import NV.C12.LiveTable
import NV.C12.Complete

namespace NV.C12

/-- `v` waits (since a `begin` at which he had a complete command) and is still connected -/
def Wo (os : OState) (v : Nat) : Prop := (os.us.get v).waiting = true ∧ oLive (os.us.get v) = true
/-- `u` was served while `v` has been waiting -/
def Pdo (os : OState) (v u : Nat) : Prop := u ∈ (os.us.get v).passed

def OrdO (os : OState) (w : World) : Prop := OrdP (Wo os) (Pdo os) w
def EligO (os : OState) (w : World) : Prop := EligP (Wo os) w

/-- every user sits in at most one slot, and only accepted users sit in the table -/
structure TableOK (w : World) : Prop where
  uniq : ∀ i j u, At w i u → At w j u → i = j
  acc : ∀ i u, At w i u → 1 ≤ u ∧ u ≤ w.naccepted

structure OB (js : JState) (os : OState) (w : World) : Prop where
  cpl : CplO js os
  ord : OrdO os w
  tab : TableOK w
  obad : os.bad = []
  noid : ∀ v, v ∉ os.ids → (os.us.get v).waiting = false
  pacc : ∀ v u, u ∈ (os.us.get v).passed → u ≤ w.naccepted
  idacc : ∀ v, v ∈ os.ids → v ≤ w.naccepted

theorem At_inj (w : World) (i u v : Nat) (h1 : At w i u) (h2 : At w i v) : u = v := by
  unfold At at h1 h2; rw [h1] at h2; cases h2; rfl

/-- fewer table entries, same cursor: the order survives as long as every pair (waiting user, user that passed him) was
    such a pair before -/
theorem OrdO_mono' (os os' : OState) (w w' : World) (hat : ∀ i u, At w' i u → At w i u) (hc : w'.cursor = w.cursor)
    (hl : w'.slots.length = w.slots.length)
    (hWP : ∀ v u, Wo os' v → Pdo os' v u → Wo os v ∧ Pdo os v u) (h : OrdO os w) : OrdO os' w' := by
  intro i j v u hi hj hw hp
  rw [rank_congr w w' hc hl, rank_congr w w' hc hl]
  obtain ⟨h1, h2⟩ := hWP v u hw hp
  exact h i j v u (hat i v hi) (hat j u hj) h1 h2

theorem OrdO_mono (os os' : OState) (w w' : World) (hat : ∀ i u, At w' i u → At w i u) (hc : w'.cursor = w.cursor)
    (hl : w'.slots.length = w.slots.length) (hW : ∀ v, Wo os' v → Wo os v)
    (hP : ∀ v u, Wo os' v → Pdo os' v u → Pdo os v u) (h : OrdO os w) : OrdO os' w' :=
  OrdO_mono' os os' w w' hat hc hl (fun v u hw hp => ⟨hW v hw, hP v u hw hp⟩) h

theorem TableOK_mono (w w' : World) (hat : ∀ i u, At w' i u → At w i u) (hn : w.naccepted ≤ w'.naccepted)
    (h : TableOK w) : TableOK w' :=
  ⟨fun i j u hi hj => h.uniq i j u (hat i u hi) (hat j u hj),
   fun i u hi => ⟨(h.acc i u (hat i u hi)).1, Nat.le_trans (h.acc i u (hat i u hi)).2 hn⟩⟩

/-- of the world, `OB` reads the table, the cursor and the accept counter -/
theorem OB_world {js : JState} {os : OState} {w w' : World} (h : OB js os w) (hat : ∀ i u, At w' i u → At w i u)
    (hc : w'.cursor = w.cursor) (hl : w'.slots.length = w.slots.length) (hn : w'.naccepted = w.naccepted) :
    OB js os w' :=
  ⟨h.cpl, OrdO_mono' os os w w' hat hc hl (fun _ _ hw hp => ⟨hw, hp⟩) h.ord,
   TableOK_mono w w' hat (Nat.le_of_eq hn.symm) h.tab, h.obad, h.noid,
   fun v u hu => by rw [hn]; exact h.pacc v u hu, fun v hv => by rw [hn]; exact h.idacc v hv⟩

/-- an event that only rewrites one record of the order oracle, leaving `waiting` / `passed` alone and reviving nobody -/
theorem OB_touch {js js' : JState} {os : OState} {w : World} (h : OB js os w) (u : Nat) (o : OU)
    (hc : CplO js' { os with us := upd os.us u o }) (hw : o.waiting = (os.us.get u).waiting)
    (hp : o.passed = (os.us.get u).passed) (hl : oLive o = true → oLive (os.us.get u) = true) :
    OB js' { os with us := upd os.us u o } w := by
  have hrec := otouch os u o hw hp
  refine ⟨hc, ?_, h.tab, h.obad, fun v hv => by rw [(hrec v).1]; exact h.noid v hv,
    fun v x hx => h.pacc v x (by rw [← (hrec v).2.1]; exact hx), h.idacc⟩
  apply OrdO_mono' os _ w w (fun _ _ hh => hh) rfl rfl ?_ h.ord
  intro v x hwv hpv
  obtain ⟨r1, r2, r3⟩ := hrec v
  exact ⟨⟨by rw [← r1]; exact hwv.1, r3 hl hwv.2⟩, by unfold Pdo at hpv ⊢; rw [← r2]; exact hpv⟩

/-- the invariant inside the command loop -/
structure OL (js : JState) (os : OState) (w : World) : Prop where
  ob : OB js os w
  live : LiveOK js w
  elig : EligO os w
  safe : Safe w
  jfresh : ∀ u, (js.us.get u).fresh = []
  jacc : ∀ u, 1 ≤ u → u ≤ w.naccepted → u ∈ js.ids

theorem ready_congr (w w' : World) (v : Nat) (hu : w'.users.get v = w.users.get v) : ready w' v = ready w v := by
  simp only [ready, turnOf, hu]

/-- both oracles rewrite the record of one user: nothing about waiting, passed, fresh bytes or the ids changes, and
    nobody comes back to life -/
theorem OL_touch {js : JState} {os : OState} {w : World} (h : OL js os w) (t : Nat) (j : JU) (o : OU)
    (hc : CplU j o) (hf : j.fresh = (js.us.get t).fresh) (hw : o.waiting = (os.us.get t).waiting)
    (hp : o.passed = (os.us.get t).passed) (hl : live j = true → live (js.us.get t) = true) :
    OL { js with us := upd js.us t j } { os with us := upd os.us t o } w := by
  have hlo : oLive o = true → oLive (os.us.get t) = true := by
    intro ho
    rw [CplO_live h.ob.cpl t]
    exact hl (by simpa only [oLive, live, hc.conn, hc.opn] using ho)
  have hrec := otouch os t o hw hp
  refine ⟨OB_touch h.ob t o (CplO_touch h.ob.cpl t j o _ _ hc h.ob.cpl.ids) hw hp hlo, fun u hu => ?_,
    fun v hv => h.elig v ⟨by rw [← (hrec v).1]; exact hv.1, (hrec v).2.2 hlo hv.2⟩, h.safe, fun u => ?_, h.jacc⟩
  · simp only [get_upd] at hu
    split at hu
    · rename_i hut; rw [hut]; exact h.live t (hl hu)
    · exact h.live u hu
  · simp only [get_upd]
    split
    · rw [hf]; exact h.jfresh t
    · exact h.jfresh u

/-- of the world, `OL` reads the table, the cursor, the accept counter, the closed sockets and who is ready -/
theorem OL_world {js : JState} {os : OState} {w w' : World} (h : OL js os w) (hat : ∀ i u, At w' i u → At w i u)
    (hc : w'.cursor = w.cursor) (hl : w'.slots.length = w.slots.length) (hn : w'.naccepted = w.naccepted)
    (hcr : w'.crashed = w.crashed) (hlive : LiveOK js w')
    (he : ∀ v, w'.interactive v = true → ready w v = true → ready w' v = true) : OL js os w' := by
  refine ⟨OB_world h.ob hat hc hl hn, hlive, fun v hv => ?_, ⟨by rw [hcr]; exact h.safe.1, by rw [hc, hl]; exact h.safe.2⟩,
    h.jfresh, fun u h1 h2 => h.jacc u h1 (hn ▸ h2)⟩
  have hi := (hlive v (by rw [← CplO_live h.ob.cpl v]; exact hv.2)).1
  have := h.elig v hv
  simp only [elig, Bool.and_eq_true] at this ⊢
  exact ⟨hi, he v hi this.2⟩

/-- a user leaves the table (kick / drop) and the oracles are told -/
theorem OL_remove {js : JState} {os : OState} {w : World} (h : OL js os w) (t : Nat) (d : List Nat) :
    OL { js with us := upd js.us t { js.us.get t with connected := false } }
      { os with us := upd os.us t { os.us.get t with connected := false } }
      { w with slots := removeUser w.slots t, dead := d } := by
  have h1 := OL_touch h t { js.us.get t with connected := false } { os.us.get t with connected := false }
    ⟨rfl, h.ob.cpl.opn t, h.ob.cpl.pend t, h.ob.cpl.mode t⟩ rfl rfl rfl (fun hh => by simp [live] at hh)
  refine OL_world h1 (fun i u hh => removeUser_At w.slots t i u hh) rfl (removeUser_length _ _) rfl rfl
    (LiveOK_remove js w _ t h.live rfl rfl) (fun v _ hr => hr)

/-- the oracles move with a script as the model does: `OL` holds after every script -/
theorem OL_runOps (sc : Scripts) (f : Nat) (w : World) (me : Nat) (ops : List Op) (js : JState) (os : OState)
    (h : OL js os w) :
    OL ((runOps sc f w me ops).2.foldl judgeStep js) ((runOps sc f w me ops).2.foldl orderStep os)
      (runOps sc f w me ops).1 := by
  have hset : ∀ (js : JState) (os : OState) (w : World) (me : Nat) (s : Bool), OL js os w →
      OL js os (setCall w me s).1 := fun js os w me s h =>
    OL_world h (fun i u => (At_congr (setCall_kept w me s).slots i u).mp)
      (setCall_frame w me s).cursor (setCall_frame w me s).length (setCall_kept w me s).naccepted
      (setCall_frame w me s).crashed
      (LiveOK_congr js js w _ h.live (fun _ hu => hu) (setCall_kept w me s).slots
        (fun u => by rw [(setCall_kept w me s).net]))
      (fun v _ hr => (setCall_readyKept w me s).ready v hr)
  have := runOps_sim (fun (p : JState × OState) e => (judgeStep p.1 e, orderStep p.2 e)) (fun p w => OL p.1 p.2 w)
    (fun p w me t hh => by
      cases ha : w.alive t with
      | true => exact OL_remove hh t _
      | false => exact hh)
    (fun p w me t hh => by
      cases ha : (w.alive t && w.interactive t) with
      | true => exact OL_remove hh t w.dead
      | false => exact hh)
    (fun p w me hh => by
      cases hr : (setCall w me true).2 with
      | true =>
        exact hset _ _ w me true (OL_touch hh me { p.1.us.get me with charMode := true } { p.2.us.get me with charMode := true }
          ⟨hh.ob.cpl.conn me, hh.ob.cpl.opn me, hh.ob.cpl.pend me, rfl⟩ rfl rfl rfl id)
      | false => exact hset _ _ w me true hh)
    (fun p w me hh => hset _ _ w me false hh)
    (fun _ _ _ _ _ hh => hh) (fun _ _ _ _ _ hh => hh)
    (fun p w me hh => OL_world hh (fun _ _ x => x) rfl rfl rfl rfl hh.live (fun _ _ hr => hr))
    (fun _ _ _ hh => hh) sc f w me ops (js, os) h
  rwa [foldl_prod] at this

/-- who waits after `cmd x` is not `x`, waited before, and has now seen `x` served -/
theorem Wo_cmd (os : OState) (x : Nat) (t : List Char) (v : Nat)
    (hnoid : ∀ v, v ∉ os.ids → (os.us.get v).waiting = false) (hw : Wo (orderStep os (.cmd x t)) v) :
    v ≠ x ∧ Wo os v ∧ ((orderStep os (.cmd x t)).us.get v).passed = x :: (os.us.get v).passed := by
  obtain ⟨hw1, hw2⟩ := hw
  rw [ocmd_get] at hw1 hw2 ⊢
  by_cases hm : v ∈ os.ids
  · simp only [hm, if_true] at hw1 hw2 ⊢
    by_cases hvx : v = x
    · subst hvx; rw [ocmdU_self] at hw1; cases hw1
    · have o := ocmdU_other x t v (os.us.get v) hvx
      rw [o.waiting] at hw1
      refine ⟨hvx, ⟨hw1, ?_⟩, by rw [o.passed, hw1]; rfl⟩
      simp only [oLive, o.connected, o.clientOpen] at hw2; exact hw2
  · simp only [hm, if_false] at hw1
    rw [hnoid v hm] at hw1; cases hw1

/-- after `cmd x` anybody has seen at most `x` more -/
theorem ocmd_passed_sub (os : OState) (x : Nat) (t : List Char) (v u : Nat)
    (hu : u ∈ ((orderStep os (.cmd x t)).us.get v).passed) : u = x ∨ u ∈ (os.us.get v).passed := by
  rw [ocmd_get] at hu
  by_cases hm : v ∈ os.ids
  · simp only [hm, if_true] at hu
    by_cases hvx : v = x
    · subst hvx; rw [ocmdU_self] at hu; cases hu
    · rw [(ocmdU_other x t v _ hvx).passed] at hu
      split at hu
      · exact List.mem_cons.mp hu
      · exact Or.inr hu
  · simp only [hm, if_false] at hu
    exact Or.inr hu

/-- **user `x` is handed a command**: it overtakes nobody, and with the cursor one step past `x` the walk again reaches
    everybody who still waits before anybody served meanwhile -/
theorem serve_OL (w : World) (js : JState) (os : OState) (h : OL js os w) (x : Nat) (t : List Char)
    (hguc : (getUserCommand w).2 = some (x, t)) :
    OL (judgeStep js (.cmd x t)) (orderStep os (.cmd x t)) (afterInput (getUserCommand w).1 x) := by
  have sk := serve_kept w x
  obtain ⟨c, hatc, _, hnov, hold, hnew⟩ := guc_ord (Wo os) (Pdo os) w h.safe h.elig h.ob.ord x t hguc
  obtain ⟨_, _, g⟩ := guc_some_records w x t hguc
  have hready1 : ∀ y, y ≠ x → ready (getUserCommand w).1 y = ready w y := fun y hy => (g.others y hy).ready_eq
  have hsafe1 := guc_safe w h.safe
  have hlive := LiveOK_serve w js h.live x t
  generalize (getUserCommand w).1 = w1 at *
  have af := afterInput_frame w1 x
  have hat : ∀ i u, At (afterInput w1 x) i u ↔ At w i u := At_congr sk.slots
  have hacc : (afterInput w1 x).naccepted = w.naccepted := sk.naccepted
  obtain ⟨hx1, hx2⟩ := h.ob.tab.acc c x hatc
  have hxj : x ∈ js.ids := h.jacc x hx1 hx2
  have jl := inLoop_step js (.cmd x t) rfl
  -- nobody who waits has seen `x` served
  have hvict : os.ids.filter (fun v => v != x && (os.us.get v).waiting && oLive (os.us.get v) &&
      (os.us.get v).passed.contains x) = [] := by
    rw [List.filter_eq_nil_iff]
    intro v _ hcnd
    simp only [Bool.and_eq_true] at hcnd
    obtain ⟨⟨⟨_, hwv⟩, hlv⟩, hpv⟩ := hcnd
    obtain ⟨i, hi⟩ := interactive_At w v (h.live v (by rw [← CplO_live h.ob.cpl v]; exact hlv)).1
    exact hnov i v hi ⟨hwv, hlv⟩ (by unfold Pdo; simpa using hpv)
  have hrec := fun v => Wo_cmd os x t v h.ob.noid
  refine {
    ob := {
      cpl := cplO_step js os _ h.ob.cpl (fun u t' heq => by cases heq; exact ⟨hxj, h.jfresh x⟩)
      ord := ?ord
      tab := TableOK_mono w _ (fun i u => (hat i u).mp) (Nat.le_of_eq hacc.symm) h.ob.tab
      obad := ?obad
      noid := ?noid
      pacc := ?pacc
      idacc := fun v hv => hacc ▸ h.ob.idacc v hv }
    live := hlive
    elig := ?elig
    safe := af.safe hsafe1
    jfresh := fun u => by rw [(jl.us u).fresh]; exact h.jfresh u
    jacc := fun u h1 h2 => by rw [jl.ids]; exact h.jacc u h1 (hacc ▸ h2) }
  case ord =>
    -- the geometry of `guc_ord`: `x` goes behind everybody who waits, the old pairs keep their order
    intro i j v u hi hj hw hp
    obtain ⟨hvx, hWv, hpass⟩ := hrec v hw
    have hi0 := (hat i v).mp hi
    have hj0 := (hat j u).mp hj
    have hic : i ≠ c := fun hh => hvx (At_inj w c v x (by rw [← hh]; exact hi0) hatc)
    rw [rank_congr w1 _ af.cursor af.length, rank_congr w1 _ af.cursor af.length]
    have hp1 : u ∈ x :: (os.us.get v).passed := by rw [← hpass]; exact hp
    rcases List.mem_cons.mp hp1 with hux | hup
    · subst hux
      rw [h.ob.tab.uniq j c u hj0 hatc]; exact hnew i v hi0 hWv hic
    · exact hold i j v u hi0 hj0 hWv hic hup
  case obad =>
    show (List.map _ (List.filter _ os.ids).reverse ++ os.bad) = []
    rw [hvict, h.ob.obad]; rfl
  case noid =>
    intro v hv
    have hv' : v ∉ os.ids := hv
    rw [ocmd_get]
    simp only [hv', if_false]
    exact h.ob.noid v hv'
  case pacc =>
    intro v u hu
    rw [hacc]
    rcases ocmd_passed_sub os x t v u hu with hu | hu
    · rw [hu]; exact hx2
    · exact h.ob.pacc v u hu
  case elig =>
    -- the others are as ready as they were
    intro v hw
    obtain ⟨hvx, hWv, _⟩ := hrec v hw
    have he := h.elig v hWv
    simp only [elig, Bool.and_eq_true] at he ⊢
    refine ⟨(interactive_congr sk.slots v).trans he.1, ?_⟩
    rw [ready_congr w1 (afterInput w1 x) v (by rw [afterInput_get, if_neg hvx]), hready1 v hvx]
    exact he.2

theorem puc_OL (sc : Scripts) (w : World) (js : JState) (os : OState) (h : OL js os w) :
    OL ((processUserCommand sc w).2.1.foldl judgeStep js) ((processUserCommand sc w).2.1.foldl orderStep os)
      (processUserCommand sc w).1 := by
  rcases puc_cases sc w with ⟨_, heq⟩ | ⟨_, ⟨hnone, heq⟩ | ⟨x, t, hguc, heq⟩⟩ <;> rw [heq]
  · exact h
  · -- nobody to serve: records are at most skimmed, the cursor is where the scan left it, and nobody waits
    have k := guc_kept w
    have hnoW : ∀ v, ¬ Wo os v := fun v hw => by have := h.elig v hw; rw [guc_none w h.safe hnone v] at this; cases this
    exact ⟨⟨h.ob.cpl, fun i j v u _ _ hw _ => absurd hw (hnoW v),
        TableOK_mono w _ (fun i u => (At_congr k.slots i u).mp) (Nat.le_of_eq k.naccepted.symm) h.ob.tab,
        h.ob.obad, h.ob.noid, fun v u hu => k.naccepted ▸ h.ob.pacc v u hu, fun v hv => k.naccepted ▸ h.ob.idacc v hv⟩,
      LiveOK_congr js _ w _ h.live (fun u hu => hu) k.slots (fun u => by rw [k.net]),
      fun v hw => absurd hw (hnoW v), guc_safe w h.safe, h.jfresh, fun u h1 h2 => h.jacc u h1 (k.naccepted ▸ h2)⟩
  · rw [List.foldl_cons, List.foldl_cons]
    exact OL_runOps sc _ _ x _ _ _ (serve_OL w js os h x t hguc)

theorem cmdLoop_OL (sc : Scripts) (k : Nat) (w : World) (js : JState) (os : OState) (h : OL js os w) :
    OL ((cmdLoop sc k w).2.foldl judgeStep js) ((cmdLoop sc k w).2.foldl orderStep os) (cmdLoop sc k w).1 := by
  have := cmdLoop_sim sc (fun (p : JState × OState) e => (judgeStep p.1 e, orderStep p.2 e)) (fun p w => OL p.1 p.2 w)
    (fun p w h => by rw [foldl_prod]; exact puc_OL sc w p.1 p.2 h) k w (js, os) h
  rwa [foldl_prod] at this

end NV.C12
