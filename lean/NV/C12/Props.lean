/-
C12 — property theorems over the model (NV/C12/Model.lean).
Each theorem says in its doc comment which clause of the specification oracle (NV/C12/Spec.lean) it carries.
-/
import NV.C12.Spec
import NV.C12.Complete
import NV.C12.Run

namespace NV.C12

open NV.Gen.C12

/-- The three iflags the scheduler uses are distinct single bits (regenerated from src/comm.h), so the three
    booleans of the model are an exact representation and `U.iflags` (printed by harness and model) is injective. -/
theorem flag_bits :
    hasCmdTurn &&& cmdInBuf = 0 ∧ hasCmdTurn &&& singleChar = 0 ∧ cmdInBuf &&& singleChar = 0 ∧
    hasCmdTurn ≠ 0 ∧ cmdInBuf ≠ 0 ∧ singleChar ≠ 0 ∧
    hasCmdTurn &&& (hasCmdTurn - 1) = 0 ∧ cmdInBuf &&& (cmdInBuf - 1) = 0 ∧ singleChar &&& (singleChar - 1) = 0 := by
  decide

/-- **cursor_in_bounds** (memory safety of `all_users[s_next_user]`): the invariant "the cursor indexes inside the
    table, or the table does not exist yet" is kept by every harness action, for every script oracle: by the grant
    step, by accepts that grow the table, by users vanishing between and inside cycles, by every scan.  In particular the
    crash outcome of the model (index outside the table) is unreachable.  (`max_users` never shrinks in the code.) -/
theorem cursor_in_bounds (sc : Scripts) (w : World) (c : Cmd) (hq : Quiet w) : Quiet (step sc w c).1 := by
  by_cases hc : c = .cycle
  · rw [hc, step_cycle sc w hq.1.1]; exact cycleRun_quiet sc _ w hq (by omega)
  · have k := step_io sc w c hc
    exact ⟨⟨by rw [k.crashed]; exact hq.1.1, by rw [k.slots, k.cursor]; exact hq.1.2⟩, by rw [k.thrown]; exact hq.2⟩

theorem quiet_init : Quiet ({} : World) := ⟨⟨rfl, Or.inr ⟨rfl, rfl⟩⟩, rfl⟩

theorem run_quiet (sc : Scripts) (cs : List Cmd) (w : World) (hq : Quiet w) : Quiet (run sc w cs).1 :=
  run_events sc (fun _ w => Quiet w) (fun _ => True) (fun _ w c _ h => cursor_in_bounds sc w c h)
    cs (fun _ _ => trivial) w [] hq

/-- from the initial state no history of connects, sends, closes and cycles, with any scripts, ever reaches the
    out-of-range access (`crash` clause of the oracle) -/
theorem run_never_crashes (sc : Scripts) (cs : List Cmd) : (run sc {} cs).1.crashed = false := by
  exact (run_quiet sc cs {} quiet_init).1.1

example : Safe (run (fun _ _ => []) {} [.conn, .cycle, .send 1 "a~b~".toList, .cycle]).1 :=
  ⟨run_never_crashes _ _, by decide +kernel⟩

/-- the buffered commands of an iteration are those of its command loop -/
theorem cycleStep_cmdCount (sc : Scripts) (w : World) (u : Nat) :
    cmdCount u (cycleStep sc w).2 = cmdCount u (cmdLoop sc (NV.Gen.C12.loopCalls (connectedUsers w) w.maxUsers) (cmdPhaseStart w)).2 := by
  rw [cycle_events, cmdCount_append, cmdCount_append,
    cmdCount_zero_of_none u (topEvents w) (fun e he => by rcases mem_topEvents w e he with rfl | rfl | rfl <;> rfl),
    cmdCount_zero_of_none u (endEvents _ _) (fun e he => by
      rcases mem_endEvents _ _ e he with ⟨_, rfl⟩ | rfl | ⟨_, _, rfl⟩ <;> rfl)]
  omega

/-- **at_most_one_per_user_per_cycle** (clause `twice`): among the events of one backend cycle there is at most one
    buffered command of any user - for every table layout, cursor position, queue depth, script oracle (users
    vanishing, mode switches, command() calls inside the cycle) and loop bound. -/
theorem at_most_one_per_user_per_cycle (sc : Scripts) (w : World) (hs : Safe w) (u : Nat) :
    cmdCount u (cycleStep sc w).2 ≤ 1 := by
  rw [cycleStep_cmdCount]
  have h3 := cmdLoop_cmdCount_le sc (NV.Gen.C12.loopCalls (connectedUsers w) w.maxUsers) _ (cmdPhaseStart_safe w hs) u
  split at h3 <;> omega

/-- the same for a user holding no turn: it is not served at all (turns are the only way to be served) -/
theorem no_turn_no_service (sc : Scripts) (k : Nat) (w : World) (hs : Safe w) (u : Nat) (h : turnOf w u = false) :
    cmdCount u (cmdLoop sc k w).2 = 0 := by
  have := cmdLoop_cmdCount_le sc k w hs u
  simp [h] at this
  exact this

example : cmdCount 1 (cycleStep (fun _ _ => []) (run (fun _ _ => []) {} [.conn, .cycle, .send 1 "a~b~c~".toList]).1).2 = 1 := by
  decide +kernel

/-- **command_efun_unlimited** (clause `efun`): a `command()` call on a live object is executed at once - the event
    `ecmd` follows the request immediately - whatever the turn flags, the cycle or the number of earlier calls are;
    the model of the efun path never reads a turn flag. -/
theorem command_efun_unlimited (sc : Scripts) (f : Nat) (w : World) (me t : Nat) (text : List Char) (rest : List Op)
    (halive : w.alive t = true) :
    ∃ tail, (runOps sc (f + 1) w me (Op.ecmd t text :: rest)).2 = Ev.force me t text true :: Ev.ecmd t text :: tail := by
  unfold runOps
  simp only [halive, if_true]
  split
  · exact ⟨_, rfl⟩
  · split
    · exact ⟨_, rfl⟩
    · exact ⟨_, rfl⟩

/-- **command_efun_needs_no_turn**: whatever a script does (any number of nested `command()` calls, kicks, drops,
    get_char / input_to), it neither consumes nor grants any turn and produces no buffered-command event; so
    `command()` traffic cannot eat into, or add to, anybody's one-per-cycle budget. -/
theorem command_efun_needs_no_turn (sc : Scripts) (f : Nat) (w : World) (me : Nat) (ops : List Op) :
    (∀ x, turnOf (runOps sc f w me ops).1 x = turnOf w x) ∧ ∀ u, cmdCount u (runOps sc f w me ops).2 = 0 := by
  obtain ⟨h1, h2⟩ := runOps_frame sc f w me ops
  exact ⟨h1.turn, fun u => cmdCount_zero_of_none u _ (h2 u)⟩

example : (runOps (fun _ _ => []) 10 { naccepted := 2 } 1 [.ecmd 2 "x".toList, .ecmd 2 "y".toList, .ecmd 2 "z".toList]).2 =
    [.force 1 2 "x".toList true, .ecmd 2 "x".toList, .force 1 2 "y".toList true, .ecmd 2 "y".toList,
     .force 1 2 "z".toList true, .ecmd 2 "z".toList] := by decide

/-- **per_user_fifo** (clause `fifo`), queue discipline of `interactive_t.text`: the command handed out is the FIRST
    complete command of the buffer (everything before it is NUL padding), and what stays buffered is exactly what
    followed it; arrivals are appended as long as the pending text leaves room (`arrivals_append_partial`).  Hence
    commands of one user leave in the order they arrived. -/
theorem per_user_fifo (single : Bool) (b b' t : List Char) (h : firstCmd single b = (b', some t)) :
    b' = dropNul b ∧ t = (dropNul b).takeWhile (· != NUL) ∧
      ∃ pad, (∀ c ∈ pad, c = NUL) ∧ b = pad ++ t ++ (dropNul b).dropWhile (· != NUL) ∧
        nextCmd b' = dropNul ((dropNul b).dropWhile (· != NUL)) := by
  unfold firstCmd at h
  dsimp only at h
  have hsplit : b = b.takeWhile (· == NUL) ++ dropNul b := by simp [dropNul]
  have hpad : ∀ c ∈ b.takeWhile (· == NUL), c = NUL := by
    intro c hc
    have hall := List.all_takeWhile (l := b) (p := (· == NUL))
    have := List.all_eq_true.mp hall c hc
    simpa using this
  split at h
  · cases h
  · split at h
    · cases h
      refine ⟨rfl, rfl, _, hpad, ?_, rfl⟩
      rw [List.append_assoc, List.takeWhile_append_dropWhile]; exact hsplit
    · split at h
      · cases h
        refine ⟨rfl, rfl, _, hpad, ?_, rfl⟩
        rw [List.append_assoc, List.takeWhile_append_dropWhile]; exact hsplit
      · cases h

/-- the full statement "arrivals are appended behind everything already buffered" - FALSE for the code as it is
    (`arrivals_append_Full_false`): when the pending text leaves less than MAX_TEXT/16 room get_user_data holds the
    read back (a complete command is buffered: `arrivals_held`) or discards the unfinished over-long line
    (`arrivals_discard`) -/
def arrivals_append_Full : Prop :=
  ∀ (w : World) (u : Nat), (w.net.get u).rx.isEmpty = false →
    ((userIO w u).users.get u).buf = (w.users.get u).buf ++ copyChars (w.users.get u).single (w.net.get u).rx

/-- arrivals are appended behind everything already buffered - as long as the pending text leaves room
    (`roomShort`: `(MAX_TEXT - len - 1) / 3 < MAX_TEXT / 16`, i.e. len >= 1664 with the constants of the source) -/
theorem arrivals_append_partial (w : World) (u : Nat) (h : (w.net.get u).rx.isEmpty = false)
    (hroom : roomShort (w.users.get u).buf.length = false) :
    ((userIO w u).users.get u).buf = (w.users.get u).buf ++ copyChars (w.users.get u).single (w.net.get u).rx := by
  simp [userIO, userIO0, heldBack, h, hroom]

/-- ... when it does not and no complete command is buffered (an unfinished over-long line), everything pending is
    lost: only the new bytes are buffered, and the model raises `overflow` -/
theorem arrivals_discard (w : World) (u : Nat) (h : (w.net.get u).rx.isEmpty = false)
    (hroom : roomShort (w.users.get u).buf.length = true)
    (hnc : hasCmd (w.users.get u).single (w.users.get u).buf = false) :
    ((userIO w u).users.get u).buf = copyChars (w.users.get u).single (w.net.get u).rx ∧ (userIO w u).overflow = true := by
  simp [userIO, userIO0, heldBack, h, hroom, hnc]

/-- ... and when a complete command is buffered the read is held back: buffer and socket stay as they are, nothing
    typed ahead is lost (the repaired behaviour: before, this case discarded the buffer as well) -/
theorem arrivals_held (w : World) (u : Nat) (h : (w.net.get u).rx.isEmpty = false)
    (hroom : roomShort (w.users.get u).buf.length = true)
    (hc : hasCmd (w.users.get u).single (w.users.get u).buf = true) :
    ((userIO w u).users.get u).buf = (w.users.get u).buf ∧ (userIO w u).net = w.net ∧
      ((userIO w u).users.get u).cmdInBuf = true := by
  simp [userIO, heldBack, h, hroom, hc]

/-- **a held-back read does not make backend() wait**: the user gets CMD_IN_BUF, so `has_pending_commands` is true at the
    top of the next iteration and the poll timeout is zero - the data left in the socket is read as soon as a command
    has been executed and the buffer has room again -/
theorem held_not_idle (w : World) (u : Nat) (hi : w.interactive u = true) (hh : heldBack w u = true) :
    hasPending (userIO w u) = true ∧ pollBlocks (hasPending (userIO w u)) = false := by
  have hp : hasPending (userIO w u) = true := by
    unfold hasPending userIO
    simp only [hh, if_true, List.any_eq_true]
    refine ⟨some u, by simpa [World.interactive] using hi, ?_⟩
    simp only [get_upd, if_true]
  exact ⟨hp, by rw [hp]; rfl⟩

/-- a held-back read touches neither the table nor the sockets nor the cursor nor anybody's turn or buffer -/
theorem held_keeps_table (w : World) (u : Nat) (hh : heldBack w u = true) :
    (userIO w u).slots = w.slots ∧ (userIO w u).net = w.net ∧ (userIO w u).cursor = w.cursor ∧
      (∀ x, ((userIO w u).users.get x).buf = (w.users.get x).buf ∧ ((userIO w u).users.get x).turn = (w.users.get x).turn) := by
  unfold userIO
  simp only [hh, if_true]
  refine ⟨by trivial, by trivial, by trivial, ?_⟩
  intro x
  simp only [get_upd]
  split
  · rename_i hx; subst hx; exact ⟨rfl, rfl⟩
  · exact ⟨rfl, rfl⟩

/-- witness: a user with MAX_TEXT buffered bytes (any length from 1664 on, with the constants of the source) receives one
    more byte -/
theorem arrivals_append_Full_false : ¬ arrivals_append_Full := by
  intro h
  generalize hw : ({ users := [(1, { buf := List.replicate NV.Gen.C12.maxText 'a' })], net := [(1, { rx := ['b'] })] } : World) = w at h
  have hrx : (w.net.get 1).rx.isEmpty = false := by rw [← hw]; rfl
  have hbuf : (w.users.get 1).buf = List.replicate NV.Gen.C12.maxText 'a' := by rw [← hw]; rfl
  have hs : roomShort (w.users.get 1).buf.length = true := by rw [hbuf, List.length_replicate]; decide
  have h1 := h w 1 hrx
  have hnc : hasCmd (w.users.get 1).single (w.users.get 1).buf = false := by
    rw [hbuf]
    have hsg : (w.users.get 1).single = false := by rw [← hw]; rfl
    have hne : (List.replicate NV.Gen.C12.maxText 'a').contains NUL = false := by
      simp [List.mem_replicate]
      decide
    have hd : dropNul (List.replicate NV.Gen.C12.maxText 'a') = List.replicate NV.Gen.C12.maxText 'a' := by
      have : NV.Gen.C12.maxText = (NV.Gen.C12.maxText - 1) + 1 := by decide
      rw [this, List.replicate_succ]
      simp [dropNul, List.dropWhile_cons]
      decide
    simp only [hasCmd, firstCmd, hsg, hd, hne, Bool.false_eq_true, if_false]
    split <;> rfl
  rw [(arrivals_discard w 1 hrx hs hnc).1] at h1
  have := congrArg List.length h1
  rw [List.length_append, hbuf, List.length_replicate] at this
  have hpos : 0 < NV.Gen.C12.maxText := by decide
  omega

example : firstCmd false ("ab".toList ++ [NUL] ++ "cd".toList ++ [NUL]) =
    ("ab".toList ++ [NUL] ++ "cd".toList ++ [NUL], some "ab".toList) := by decide

/-! ### nobody eligible is passed over: scan coverage, loop bound, no starvation -/

/-- **scan_finds_every_eligible**: one call of get_user_command visits every slot of the table exactly once (cursor
    walk `c, c-1, .., 0, max-1, .., c+1`, for every cursor position and every layout), so it reports "no command" only
    when nobody in the table holds both a turn and a complete flagged command (`elig`). -/
theorem scan_finds_every_eligible (w : World) (hs : Safe w) (h : (getUserCommand w).2 = none) :
    ∀ u, elig (getUserCommand w).1 u = false := fun u => by
  rw [elig_congr w _ u (guc_kept w).slots (guc_none_records w h u).ready_eq]; exact guc_none w hs h u

/-- the turn-grant loop gives a turn to every user in the table -/
theorem grant_gives_turn (users : AMap U) (slots : List (Option Nat)) (u : Nat) (h : some u ∈ slots) :
    ((grantAll users slots).get u).turn = true := by
  rw [grantAll_get, if_pos h]

theorem turnCount_le_connected (w : World) : turnCount w ≤ connectedUsers w := by
  unfold turnCount connectedUsers
  rw [← List.countP_eq_length_filter]
  apply List.countP_mono_left
  intro a _ ha
  cases a with
  | none => simp [holdsTurn] at ha
  | some x => rfl

/-- the accepted user holds no turn -/
theorem accept_turnCount (w : World) (k : Nat) : turnCount (accept w k) ≤ turnCount w := by
  have hk : holdsTurn (accept w k) (some k) = false := by simp [holdsTurn, turnOf, accept]
  have hmono : ∀ l : List (Option Nat), l.countP (holdsTurn (accept w k)) ≤ l.countP (holdsTurn w) := by
    intro l
    apply List.countP_mono_left
    intro a _ ha
    cases a with
    | none => simp [holdsTurn] at ha
    | some x =>
      simp only [holdsTurn, turnOf, accept, get_upd] at ha ⊢
      split at ha
      · cases ha
      · exact ha
  have hbase : (acceptBase w.slots).countP (holdsTurn w) = w.slots.countP (holdsTurn w) := by
    unfold acceptBase
    split
    · simp [List.countP_append, List.countP_replicate, holdsTurn]
    · rfl
  unfold turnCount
  rw [accept_slots]
  exact Nat.le_trans (countP_set_le _ (some k) hk _ _) (hbase ▸ hmono _)

theorem userIO_turnCount (w : World) (u : Nat) : turnCount (userIO w u) ≤ turnCount w := by
  have hfun : ∀ a, holdsTurn (userIO w u) a = holdsTurn w a := fun a => by
    cases a with
    | none => rfl
    | some x => exact (userIO_kept w u).turn x
  unfold turnCount
  rw [List.countP_congr (fun a _ => by rw [hfun a])]
  rcases userIO_cases w u with ⟨_, h⟩ | ⟨_, _, h⟩ | ⟨_, _, _, h⟩ | ⟨_, _, h⟩ <;> rw [h]
  · exact Nat.le_refl _
  · exact Nat.le_refl _
  · exact countP_removeUser_le (holdsTurn w) rfl w.slots u
  · exact Nat.le_refl _

theorem processIO_turnCount (w : World) : turnCount (processIO w).1 ≤ turnCount w :=
  processIO_ind (fun w' => turnCount w' ≤ turnCount w) w (Nat.le_refl _) (fun _ => accept_turnCount w _)
    (fun a u h => Nat.le_trans (userIO_turnCount a u) h)

/-- `connected_users` (counted by the grant loop) bounds the turns inside the table when the command phase starts:
    users accepted during this cycle's process_io hold no turn, users that vanished only lower the count -/
theorem turns_at_most_connected_users (w : World) : turnCount (cmdPhaseStart w) ≤ connectedUsers w := by
  unfold cmdPhaseStart
  refine Nat.le_trans (processIO_turnCount _) ?_
  exact turnCount_le_connected { w with cycle := w.cycle + 1, users := grantAll w.users w.slots }

/-- **loop_bound_sufficient**: the bound `i < connected_users` (which allows `connected_users + 1` calls of
    process_user_command) never cuts off an eligible user: when a backend cycle ends, nobody in the table holds a turn
    together with a complete flagged command - for every layout (gaps), cursor, queue depth, users connecting in this
    cycle's process_io, users kicked / dropped / switched to single-char mode from inside commands, command() calls. -/
theorem loop_bound_sufficient (sc : Scripts) (w : World) (hs : Safe w) (hfin : (cycleStep sc w).1.thrown = false) :
    ∀ u, elig (cycleStep sc w).1 u = false := by
  rw [cycleStep_world] at hfin ⊢
  have h2 := turns_at_most_connected_users w
  exact cmdLoop_complete sc _ _ (cmdPhaseStart_safe w hs) (by simp only [loopCalls_spec]; omega) hfin

/-- the same for what the hook observes after any number of aborted and restarted iterations -/
theorem loop_bound_sufficient_run (sc : Scripts) (w : World) (hq : Quiet w) :
    ∀ u, elig (cycleRun sc (weight w + 1) w).1 u = false := by
  obtain ⟨w0, h1, h2, h3⟩ := cycleRun_last sc (weight w + 1) w hq (by omega)
  rw [h3]; exact loop_bound_sufficient sc w0 h1.1 h2

/-- **no_starvation** (clause `starved`): a user that sits in the table holding a turn and a complete flagged command
    when the command phase of a cycle starts is served exactly once in that cycle, or has left the table (kick / drop
    from inside a command) when the cycle ends - whatever the layout, the cursor position, the queue depths of the
    others and their scripts are. -/
theorem no_starvation (sc : Scripts) (w : World) (hs : Safe w) (u : Nat) (he : elig (cmdPhaseStart w) u = true)
    (hfin : (cycleStep sc w).1.thrown = false) :
    cmdCount u (cycleStep sc w).2 = 1 ∨ (cycleStep sc w).1.interactive u = false := by
  rw [cycleStep_world] at hfin
  rw [cycleStep_cmdCount, cycleStep_world]
  have h2 := turns_at_most_connected_users w
  exact cmdLoop_serves sc _ _ (cmdPhaseStart_safe w hs) (by simp only [loopCalls_spec]; omega) u he hfin

-- non-vacuity: three users in a sparse table (slot 2 freed), deep queue for user 1, one line for user 3: both are
-- eligible when the command phase starts and both are served
example :
    let w := (run (fun _ _ => []) {} [.conn, .cycle, .conn, .cycle, .conn, .cycle, .close 2, .cycle,
                                      .send 1 "a~b~c~d~".toList, .send 3 "x~".toList]).1
    Safe w ∧ elig (cmdPhaseStart w) 1 = true ∧ elig (cmdPhaseStart w) 3 = true ∧
      cmdCount 1 (cycleStep (fun _ _ => []) w).2 = 1 ∧ cmdCount 3 (cycleStep (fun _ _ => []) w).2 = 1 := by
  unfold Safe
  decide +kernel

end NV.C12
