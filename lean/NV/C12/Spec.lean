/-
C12 — specification oracle.  `judgeEv` decides, for a trace of observable events (of the model or of the real driver),
whether property C12 held on it.  It knows nothing about slots, cursors or iflags; it keeps, per user, the bytes the
client has sent and that no executed command has consumed yet, whether the user is still connected, and whether it
was already served in the running cycle.

Clauses (one `Viol` constructor each):
  * `twice`     a second buffered command of one user inside one backend cycle
  * `starved`   a user that was connected when the cycle began, is still connected when it ends and had a complete
                command waiting when it began (a full line; any byte at all in single-char mode) was not served
  * `fifo`      an executed command is not the oldest unconsumed input of its user (a complete line in line mode,
                a non-empty prefix in single-char mode) - order, loss and duplication
  * `idleWait`  backend asked the poller to block although a connected user already had a complete command buffered
  * `overtaken` a user is served a second time while another user, who had a complete command at the top of an
                iteration, still waits for his first service (only possible across iterations aborted by an error)
  * `typeaheadDiscard`  the executed command is not the oldest pending input of a user whose backlog had reached the size
                at which get_user_data discards the text buffer: the finding C13-typeahead-discard (repaired in /repo: the
                read is held back while a complete command is buffered), reported under its own name (and the oracle
                resynchronises on the executed line)
  * `efun`      a command() call on a live object was not executed at once (command() is not turn-limited:
                `ecmd` events never count for `twice`)
  * `outside`, `crash`, `malformed`  robustness of the trace itself
An iteration of backend() that an uncaught LPC error leaves by longjmp ends with `abort n` instead of `end n`: `twice`
is judged inside it, `starved` is not (the loop restarts at once, turns are granted again and the restarted cycle is
judged in full; its `poll` must not block when somebody still has a complete command).
A user who connects during a cycle is served from the next cycle on (documented protocol: turns are granted at the
top of the cycle); a user whose client has closed or who was kicked/dropped is exempt from `starved`.
-/
import NV.C12.Model

namespace NV.C12

inductive Viol where
  | twice (u n : Nat)
  | starved (u n : Nat)
  | fifo (u : Nat) (text : List Char)
  | idleWait (n u : Nat)
  | overtaken (u v n : Nat)
  | typeaheadDiscard (u : Nat) (text : List Char)
  | efun (target : Nat) (text : List Char)
  | outside (u : Nat)
  | crash (what : String)
  | malformed (line : String)
  deriving Repr, BEq, DecidableEq

/-! ### consuming an executed command from the bytes a user has sent (`~` = end of line) -/

/-- single-char mode: `text` is the raw form (CR LF for every `~`) of a prefix of `p`; the rest of `p` -/
def stripRaw : List Char → List Char → Option (List Char)
  | [], p => some p
  | _ :: _, [] => none
  | c :: t, x :: p =>
    if x == '~' then
      match t with
      | d :: t' => if c == CR && d == LF then stripRaw t' p else none
      | [] => none
    else if c == x then stripRaw t p else none

/-- consume an executed command from the pending input; `none` = it is not the oldest input.
    Line rule: `text` followed by the line end is a prefix.  Single-char rule: the non-empty `text` is the raw form of
    a prefix (everything typed so far may arrive as one "character"). -/
def consume (charMode : Bool) (p text : List Char) : Option (List Char) :=
  let line := text ++ ['~']
  if line.isPrefixOf p then some (p.drop line.length)
  else if charMode && !text.isEmpty then stripRaw text p else none

/-- size of the sent bytes once buffered in line mode (`~` becomes three bytes) -/
def encLen (p : List Char) : Nat := p.length + 2 * p.count '~'

/-- drop whole lines from the front of `p` up to and including the first line equal to `text`; `p` when there is none -/
def resyncAux (text : List Char) : Nat → List Char → Option (List Char)
  | 0, _ => none
  | fuel + 1, p =>
    let line := p.takeWhile (· != '~')
    match p.dropWhile (· != '~') with
    | [] => none
    | _ :: rest => if line == text then some rest else resyncAux text fuel rest

/-- what the oracle does with an executed command that is not the oldest pending input: when the backlog of the user
    is large enough for get_user_data's discard rule (C13 finding `C13-typeahead-discard`: before its repair pending
    text of `roomShort` length was thrown away, complete commands included), resynchronise on the executed line; otherwise
    keep the backlog -/
def onMiss (p text : List Char) : List Char :=
  if roomShort (encLen p) then (resyncAux text (p.length + 1) p).getD p else p

/-- a complete command is waiting -/
def complete (charMode : Bool) (p : List Char) : Bool :=
  if charMode then !p.isEmpty else p.contains '~'

/-! ### clause oracle 1: structure of the trace and one command per user per cycle -/

structure SState where
  cyc : Option Nat := none
  served : List Nat := []        -- users served in the running cycle
  bad : List Viol := []          -- newest first

/-- clauses `twice`, `outside`, `crash`, `malformed` -/
def structStep (s : SState) (e : Ev) : SState :=
  match e with
  | .begin n =>
    { cyc := some n, served := [], bad := if s.cyc.isSome then .malformed "nested begin" :: s.bad else s.bad }
  | .cmd u _ =>
    let b1 := if s.cyc.isNone then .outside u :: s.bad else s.bad
    let b2 := if s.served.contains u then .twice u (s.cyc.getD 0) :: b1 else b1
    { s with served := u :: s.served, bad := b2 }
  | .endc n _ _ =>
    { cyc := none, served := [], bad := if s.cyc != some n then .malformed "end without begin" :: s.bad else s.bad }
  | .abort n =>   -- an iteration left by an uncaught error ends here; the next `begin` opens a new cycle
    { cyc := none, served := [], bad := if s.cyc != some n then .malformed "abort without begin" :: s.bad else s.bad }
  | .crash w => { s with bad := .crash w :: s.bad }
  | .other l => { s with bad := .malformed l :: s.bad }
  | _ => s

def judgeStruct (trace : List Ev) : List Viol := (trace.foldl structStep {}).bad.reverse

/-! ### clause oracle 2: command() is executed at once -/

structure EState where
  expect : Option (Nat × List Char) := none
  bad : List Viol := []

/-- clause `efun`: a requested command() on a live object must be the very next event -/
def efunStep (s : EState) (e : Ev) : EState :=
  let s1 : EState :=
    match s.expect with
    | none => s
    | some (t, x) => if e = Ev.ecmd t x then { s with expect := none } else { expect := none, bad := .efun t x :: s.bad }
  match e with
  | .force _ t x true => { s1 with expect := some (t, x) }
  | _ => s1

def judgeEfun (trace : List Ev) : List Viol :=
  let s := trace.foldl efunStep {}
  let bad : List Viol := match s.expect with
    | some (t, x) => Viol.efun t x :: s.bad
    | none => s.bad
  bad.reverse

/-! ### clause oracle 3: commands of one user execute in the order received -/

structure FU where
  pending : List Char := []      -- sent and not yet consumed by an executed command
  charMode : Bool := false       -- a get_char() succeeded since this user's last command
  deriving Repr, BEq, DecidableEq, Inhabited

structure FState where
  us : AMap FU := []
  bad : List Viol := []

/-- clause `fifo` -/
def fifoStep (s : FState) (e : Ev) : FState :=
  match e with
  | .send u d => { s with us := upd s.us u { s.us.get u with pending := (s.us.get u).pending ++ d } }
  | .gc u true => { s with us := upd s.us u { s.us.get u with charMode := true } }
  | .cmd u text =>
    match consume (s.us.get u).charMode (s.us.get u).pending text with
    | some p => { s with us := upd s.us u { pending := p, charMode := false } }
    | none =>
      { us := upd s.us u { pending := onMiss (s.us.get u).pending text, charMode := false },
        bad := (if roomShort (encLen (s.us.get u).pending) then Viol.typeaheadDiscard u text else .fifo u text) :: s.bad }
  | _ => s

def judgeFifo (trace : List Ev) : List Viol := (trace.foldl fifoStep {}).bad.reverse

/-! ### clause oracle 4: nobody waits - starvation and idle poll -/

structure JU where
  connected : Bool := false      -- logged on and not removed by the driver side (kick / drop)
  clientOpen : Bool := true      -- the client has not closed its socket
  pending : List Char := []      -- sent before the last `begin`, not yet consumed
  fresh : List Char := []        -- sent after the last `begin`
  charMode : Bool := false
  served : Bool := false         -- in the running cycle
  eligible : Bool := false       -- snapshot taken at `begin`
  deriving Repr, BEq, DecidableEq, Inhabited

structure JState where
  us : AMap JU := []
  ids : List Nat := []           -- users that have logged on
  mustNotBlock : Option Nat := none
  bad : List Viol := []          -- newest first

def live (j : JU) : Bool := j.connected && j.clientOpen

/-- clauses `starved`, `idleWait` -/
def judgeStep (s : JState) (e : Ev) : JState :=
  match e with
  | .logon u => { s with us := upd s.us u { connected := true }, ids := u :: s.ids }
  | .send u d => { s with us := upd s.us u { s.us.get u with fresh := (s.us.get u).fresh ++ d } }
  | .close u => { s with us := upd s.us u { s.us.get u with clientOpen := false } }
  | .begin _ =>
    let blocker := s.ids.find? (fun u => live (s.us.get u) && complete (s.us.get u).charMode (s.us.get u).pending)
    let us := s.ids.foldl (fun m u =>
      let j := s.us.get u
      let p := j.pending ++ j.fresh
      upd m u { j with pending := p, fresh := [], served := false, eligible := live j && complete j.charMode p }) s.us
    { s with us := us, mustNotBlock := blocker }
  | .poll n block =>
    match s.mustNotBlock, block with
    | some u, true => { s with bad := .idleWait n u :: s.bad }
    | _, _ => s
  | .cmd u text =>
    let j := s.us.get u
    { s with us := upd s.us u { j with pending := (consume j.charMode j.pending text).getD (onMiss j.pending text),
                                         served := true, charMode := false } }
  | .kick _ t true => { s with us := upd s.us t { s.us.get t with connected := false } }
  | .drop _ t true => { s with us := upd s.us t { s.us.get t with connected := false } }
  | .gc u true => { s with us := upd s.us u { s.us.get u with charMode := true } }
  | .endc n _ _ =>
    let starved := s.ids.filter (fun u => (s.us.get u).eligible && live (s.us.get u) && !(s.us.get u).served)
    { s with bad := starved.map (fun u => Viol.starved u n) ++ s.bad, mustNotBlock := none }
  | .abort _ =>   -- aborted iteration: nobody is owed service by it; the loop restarts at once and the snapshot of the
                  -- next `begin` (taken before anything else can happen) owes it again
    { s with mustNotBlock := none }
  | _ => s

def judgeLive (trace : List Ev) : List Viol := (trace.foldl judgeStep {}).bad.reverse

/-! ### clause oracle 5: round robin survives aborted iterations -/

structure OU where
  connected : Bool := false
  clientOpen : Bool := true
  pending : List Char := []      -- sent and not yet consumed (before or after the last `begin`)
  charMode : Bool := false
  waiting : Bool := false        -- had a complete command at a `begin` and has not been served since
  passed : List Nat := []        -- users served while this one has been waiting
  deriving Repr, BEq, DecidableEq, Inhabited

structure OState where
  us : AMap OU := []
  ids : List Nat := []
  cyc : Nat := 0
  bad : List Viol := []

def oLive (j : OU) : Bool := j.connected && j.clientOpen

/-- `begin`: a live user with a complete command starts (or goes on) waiting -/
def obeginU (j : OU) : OU :=
  if oLive j && complete j.charMode j.pending then
    (if j.waiting then j else { j with waiting := true, passed := [] })
  else { j with waiting := false, passed := [] }

/-- `cmd u text` seen by the record of user `v`: `u` itself is served; everybody who waits remembers `u` -/
def ocmdU (u : Nat) (text : List Char) (v : Nat) (j : OU) : OU :=
  if v == u then
    { j with pending := (consume j.charMode j.pending text).getD (onMiss j.pending text), charMode := false,
             waiting := false, passed := [] }
  else if j.waiting then { j with passed := u :: j.passed } else j

/-- `end`: a completed iteration owes nothing any more -/
def oendU (j : OU) : OU := { j with waiting := false, passed := [] }

/-- clause `overtaken`: nobody is served a second time while somebody else, who had a complete command at the top of
    an iteration, is still waiting for his first service.  In a completed iteration this follows from `starved` and
    `twice`; the clause speaks about iterations that an uncaught error aborts: the restarted loop must go on with the
    users that were still waiting (the cursor was stepped past the served ones), not start over with the same ones. -/
def orderStep (s : OState) (e : Ev) : OState :=
  match e with
  | .logon u => { s with us := upd s.us u { connected := true }, ids := u :: s.ids }
  | .send u d => { s with us := upd s.us u { s.us.get u with pending := (s.us.get u).pending ++ d } }
  | .close u => { s with us := upd s.us u { s.us.get u with clientOpen := false } }
  | .kick _ t true => { s with us := upd s.us t { s.us.get t with connected := false } }
  | .drop _ t true => { s with us := upd s.us t { s.us.get t with connected := false } }
  | .gc u true => { s with us := upd s.us u { s.us.get u with charMode := true } }
  | .begin n =>
    { s with us := s.ids.foldl (fun m u => upd m u (obeginU (s.us.get u))) s.us, cyc := n }
  | .cmd u text =>
    let victims := s.ids.filter (fun v => v != u && (s.us.get v).waiting && oLive (s.us.get v) && (s.us.get v).passed.contains u)
    { s with us := s.ids.foldl (fun m v => upd m v (ocmdU u text v (s.us.get v))) s.us,
             bad := victims.reverse.map (fun v => Viol.overtaken u v s.cyc) ++ s.bad }
  | .endc _ _ _ =>   -- a completed iteration owes nothing any more (clause `starved` has judged it)
    { s with us := s.ids.foldl (fun m u => upd m u (oendU (s.us.get u))) s.us }
  | _ => s

def judgeOrder (trace : List Ev) : List Viol := (trace.foldl orderStep {}).bad.reverse

/-- violations on a trace (per clause oracle, oldest first inside each); `[]` = the property held -/
def judgeEv (trace : List Ev) : List Viol :=
  judgeStruct trace ++ judgeEfun trace ++ judgeFifo trace ++ judgeLive trace ++ judgeOrder trace

end NV.C12
