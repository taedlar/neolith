/-
C12 — completeness of the command phase: process_user_command either serves somebody and uses up a turn held inside
the table, or proves that nobody in the table is eligible (the scan has looked at every slot); commands of other users
never take a waiting user's eligibility away (only removal from the table does).  The bounded loop therefore ends
with nobody eligible, and whoever was eligible when it started was served or left the table.
-/
import NV.C12.CmdLoop

namespace NV.C12

theorem elig_congr (w w' : World) (u : Nat) (hs : w'.slots = w.slots) (hr : ready w' u = ready w u) :
    elig w' u = elig w u := by
  rw [elig, elig, interactive_congr hs, hr]

/-! ### what a script can do to a waiting user: nothing, or remove it from the table -/

/-- `w'` arose from `w` by script effects: a user still in the table is exactly as ready as before or more (only
    `get_char` can make a partial line complete), and nobody enters the table -/
structure ReadyKept (w w' : World) : Prop where
  noEntry : ∀ u, w.interactive u = false → w'.interactive u = false
  ready : ∀ u, ready w u = true → ready w' u = true

/-- in single-char mode anything that was a complete command still is one -/
theorem hasCmd_true_of (single : Bool) (b : List Char) (h : hasCmd single b = true) : hasCmd true b = true := by
  unfold hasCmd firstCmd at h ⊢
  dsimp only at h ⊢
  split
  · rename_i h0; rw [if_pos h0] at h; simp at h
  · simp

theorem setCall_readyKept (w : World) (me : Nat) (single : Bool) : ReadyKept w (setCall w me single).1 := by
  rw [setCall_eq]
  split
  · exact ⟨fun _ h => h, fun _ h => h⟩
  · refine ⟨fun _ h => h, fun u hu => ?_⟩
    simp only [ready, turnOf, get_upd] at hu ⊢
    split
    · rename_i hx; subst hx
      simp only [Bool.and_eq_true] at hu
      obtain ⟨h1, h2, h3⟩ := hu
      cases single with
      | false => simp [setCallU, h1, h2, h3]
      | true => simp [setCallU, h1, h2, hasCmd_true_of _ _ h3]
    · exact hu

theorem runOps_readyKept (sc : Scripts) (f : Nat) (w : World) (me : Nat) (ops : List Op) :
    ReadyKept w (runOps sc f w me ops).1 := by
  have hrem : ∀ (w : World) (t : Nat) (w' : World), w'.slots = removeUser w.slots t → w'.users = w.users → ReadyKept w w' := by
    intro w t w' hs hu
    refine ⟨fun u h => ?_, fun u h => by simpa only [ready, turnOf, hu] using h⟩
    simp only [World.interactive] at h ⊢
    rw [hs, removeUser_contains, h]; rfl
  exact runOps_rel ReadyKept (fun w => ⟨fun _ h => h, fun _ h => h⟩)
    (fun a b c h1 h2 => ⟨fun u h => h2.noEntry u (h1.noEntry u h), fun u h => h2.ready u (h1.ready u h)⟩)
    (fun w t => hrem w t _ rfl rfl) (fun w t => hrem w t _ rfl rfl) setCall_readyKept
    (fun w => ⟨fun _ h => h, fun _ h => h⟩) sc f w me ops

/-- the slot holds a user with a turn -/
def holdsTurn (w : World) : Option Nat → Bool
  | some x => turnOf w x
  | none => false

/-- number of occupied slots whose user holds a turn -/
def turnCount (w : World) : Nat := w.slots.countP (holdsTurn w)

/-- the table only loses entries under scripts: any count of occupied slots can only go down -/
theorem runOps_countP_le (p : Option Nat → Bool) (hp : p none = false) (sc : Scripts) (f : Nat) (w : World) (me : Nat)
    (ops : List Op) : (runOps sc f w me ops).1.slots.countP p ≤ w.slots.countP p :=
  runOps_rel (fun a b => b.slots.countP p ≤ a.slots.countP p) (fun _ => Nat.le_refl _)
    (fun a b c h1 h2 => Nat.le_trans h2 h1) (fun w t => countP_removeUser_le p hp w.slots t)
    (fun w t => countP_removeUser_le p hp w.slots t)
    (fun w me s => by rw [setCall_eq]; split <;> exact Nat.le_refl _) (fun _ => Nat.le_refl _) sc f w me ops

theorem cmdLoop_thrown (sc : Scripts) (k : Nat) (w : World) (h : w.thrown = true) : cmdLoop sc k w = (w, []) := by
  cases k with
  | zero => rfl
  | succ k => simp [cmdLoop, puc_thrown sc w h]

/-- a command loop that ends without a pending error started without one -/
theorem cmdLoop_thrown_false (sc : Scripts) (k : Nat) (w : World) (h : (cmdLoop sc k w).1.thrown = false) :
    w.thrown = false := by
  cases ht : w.thrown with
  | false => rfl
  | true => rw [cmdLoop_thrown sc k w ht] at h; rw [ht] at h; exact h

/-- a call that reports "no more commands" proves that nobody in the table is eligible (before and after it) -/
theorem puc_false (sc : Scripts) (w : World) (hs : Safe w) (h : (processUserCommand sc w).2.2 = false) :
    (processUserCommand sc w).1.slots = w.slots ∧
      (w.thrown = false → ∀ u, elig w u = false ∧ elig (processUserCommand sc w).1 u = false) := by
  rcases puc_cases sc w with ⟨hc, he⟩ | ⟨_, ⟨hn, he⟩ | ⟨x, t, _, he⟩⟩
  · rw [he]; exact ⟨rfl, fun ht => by rw [hs.1, ht] at hc; cases hc⟩
  · rw [he]
    have g3 := guc_none w hs hn
    refine ⟨(guc_kept w).slots, fun _ u => ⟨g3 u, ?_⟩⟩
    rw [elig_congr w _ u (guc_kept w).slots (guc_none_records w hn u).ready_eq]; exact g3 u
  · rw [he] at h; cases h

/-- a call that serves user `v`: every other ready user stays ready, and the number of turns held inside the table
    drops -/
theorem puc_true (sc : Scripts) (w : World) (v : Nat) (t : List Char) (rest : List Ev)
    (h : (processUserCommand sc w).2.1 = Ev.cmd v t :: rest) :
    (∀ u, u ≠ v → ready w u = true → ready (processUserCommand sc w).1 u = true) ∧
    turnCount (processUserCommand sc w).1 < turnCount w := by
  rcases puc_cases sc w with ⟨_, he⟩ | ⟨_, ⟨_, he⟩ | ⟨x, t', hg, he⟩⟩
  · rw [he] at h; cases h
  · rw [he] at h; cases h
  · rw [he] at h ⊢
    cases h
    obtain ⟨_, _, g⟩ := guc_some_records w v t hg
    have k2 := (runOps_readyKept sc scriptFuel (afterInput (getUserCommand w).1 v) v (sc v t)).ready
    obtain ⟨f1, _⟩ := runOps_frame sc scriptFuel (afterInput (getUserCommand w).1 v) v (sc v t)
    have hF := (afterInput_frame (getUserCommand w).1 v).trans f1
    refine ⟨fun u hu hr => k2 u ?_, ?_⟩
    · rw [ready, turnOf, afterInput_get, if_neg hu, ← turnOf, ← ready, (g.others u hu).ready_eq]; exact hr
    · -- the turn of `v`, held inside the table, is gone; nothing else was granted; the table only lost entries
      have hle := runOps_countP_le (holdsTurn (getUserCommand w).1) rfl sc scriptFuel (afterInput (getUserCommand w).1 v) v (sc v t)
      rw [(serve_kept w v).slots] at hle
      have hfun : ∀ s, holdsTurn (runOps sc scriptFuel (afterInput (getUserCommand w).1 v) v (sc v t)).1 s =
          holdsTurn (getUserCommand w).1 s := by
        intro s; cases s with
        | none => rfl
        | some y => exact hF.turn y
      have hlt : w.slots.countP (holdsTurn (getUserCommand w).1) < w.slots.countP (holdsTurn w) := by
        apply countP_lt_of_mem _ _ w.slots _ (some v) (by simpa [World.interactive] using g.interactive) g.turn
        · rw [holdsTurn, turnOf, g.record]; rfl
        · intro s hsT
          cases s with
          | none => exact hsT
          | some y =>
            by_cases hy : y = v
            · rw [hy]; exact g.turn
            · rw [holdsTurn, turnOf, (g.others y hy).same.turn] at hsT; exact hsT
      unfold turnCount
      rw [List.countP_congr (fun s _ => by rw [hfun s])]
      dsimp only
      omega

/-- nobody enters the table in the command phase -/
theorem puc_not_interactive (sc : Scripts) (w : World) (u : Nat) (h : w.interactive u = false) :
    (processUserCommand sc w).1.interactive u = false := by
  rcases puc_cases sc w with ⟨_, e⟩ | ⟨_, ⟨_, e⟩ | ⟨x, t, _, e⟩⟩ <;> rw [e]
  · exact h
  · exact (interactive_congr (guc_kept w).slots u).trans h
  · exact (runOps_readyKept sc scriptFuel _ x (sc x t)).noEntry u ((interactive_congr (serve_kept w x).slots u).trans h)

/-- once out of the table, out for the rest of the command phase -/
theorem cmdLoop_not_interactive (sc : Scripts) (k : Nat) (w : World) (u : Nat) (h : w.interactive u = false) :
    (cmdLoop sc k w).1.interactive u = false :=
  cmdLoop_ind sc (fun w' => w'.interactive u = false) (fun w1 h1 => puc_not_interactive sc w1 u h1) k w h

/-- **the bounded loop with fewer turns inside the table than calls allowed**: it ends because a call found nobody
    eligible - never because of the bound -, and a user eligible when it starts is served exactly once in it or has left
    the table when it ends (unless an uncaught error cut the loop short) -/
theorem cmdLoop_complete_and_serves (sc : Scripts) (k : Nat) (w : World) (hs : Safe w) (hk : turnCount w < k)
    (hfin : (cmdLoop sc k w).1.thrown = false) :
    (∀ u, elig (cmdLoop sc k w).1 u = false) ∧
    ∀ u, elig w u = true → cmdCount u (cmdLoop sc k w).2 = 1 ∨ (cmdLoop sc k w).1.interactive u = false := by
  induction k generalizing w with
  | zero => omega
  | succ k ih =>
    have hthr := cmdLoop_thrown_false sc _ w hfin
    have hle := cmdLoop_cmdCount_le sc (k + 1) w hs
    have p := puc_turns sc w hs
    have pf := puc_false sc w hs
    have pt := puc_true sc w
    revert hfin
    unfold cmdLoop at hle ⊢
    cases hp : processUserCommand sc w with
    | mk w1 r =>
      obtain ⟨e1, b⟩ := r
      rw [hp] at p pf pt hle
      dsimp only at pf pt hle
      cases b with
      | false =>
        dsimp only
        exact fun _ => ⟨fun u => ((pf rfl).2 hthr u).2, fun u he => by rw [((pf rfl).2 hthr u).1] at he; cases he⟩
      | true =>
        dsimp only at hle ⊢
        intro hfin
        obtain ⟨v, t, rest, q1, q2, _⟩ := p.served rfl
        dsimp only at q1
        obtain ⟨t2, t3⟩ := pt v t rest q1
        obtain ⟨i1, i2⟩ := ih w1 p.safe (by omega) hfin
        refine ⟨i1, fun u he => ?_⟩
        have hle1 : cmdCount u (e1 ++ (cmdLoop sc k w1).2) ≤ 1 := by
          have := hle u; split at this <;> omega
        rw [cmdCount_append] at hle1 ⊢
        by_cases hv : u = v
        · -- served by this call
          have : 1 ≤ cmdCount u e1 := by rw [q1, hv]; simp [cmdCount, Ev.isCmdOf]
          exact Or.inl (by omega)
        · -- still ready after this call: served later, or gone
          have h0 : cmdCount u e1 = 0 :=
            cmdCount_zero_of_none u e1 (fun e he' => by
              rw [q1] at he'
              rcases List.mem_cons.mp he' with rfl | he'
              · simp [Ev.isCmdOf]; exact fun h => hv h.symm
              · exact q2 u e he')
          simp only [elig, Bool.and_eq_true] at he
          cases hi1 : w1.interactive u with
          | false => exact Or.inr (cmdLoop_not_interactive sc k w1 u hi1)
          | true =>
            rcases i2 u (by simp [elig, hi1, t2 u hv he.2]) with h | h
            · exact Or.inl (by omega)
            · exact Or.inr h

/-- **the command loop is complete**: with fewer turns inside the table than calls allowed, the loop ends because a
    call found nobody eligible - never because of the bound -/
theorem cmdLoop_complete (sc : Scripts) (k : Nat) (w : World) (hs : Safe w) (hk : turnCount w < k)
    (hfin : (cmdLoop sc k w).1.thrown = false) :
    ∀ u, elig (cmdLoop sc k w).1 u = false :=
  (cmdLoop_complete_and_serves sc k w hs hk hfin).1

/-- **nobody eligible is passed over**: a user eligible when the loop starts is served exactly once in it, or has
    left the table when it ends -/
theorem cmdLoop_serves (sc : Scripts) (k : Nat) (w : World) (hs : Safe w) (hk : turnCount w < k) (u : Nat)
    (he : elig w u = true) (hfin : (cmdLoop sc k w).1.thrown = false) :
    cmdCount u (cmdLoop sc k w).2 = 1 ∨ (cmdLoop sc k w).1.interactive u = false :=
  (cmdLoop_complete_and_serves sc k w hs hk hfin).2 u he

end NV.C12
