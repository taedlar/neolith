/-
C12 — `judgeLive (events sc cs) = []` (clauses `starved`, `idleWait`) for every history with plain bytes and every script
oracle, including histories with uncaught errors (aborted and restarted iterations).

`B fs js w` is the invariant between two harness actions: the FIFO simulation `G`, the coupling of the two oracles,
"unread bytes = bytes sent since the last `begin`", live users sit in the table with an open client, no verdict so far.
`B_top` + `B_cycle` carry it over one iteration of backend(), `cycleRun_events` over the restarts, `B_step` / `B_run`
over histories.
-/
import NV.C12.LiveStart
import NV.C12.Trace

namespace NV.C12

structure B (fs : FState) (js : JState) (w : World) : Prop where
  g : G fs w
  cpl : Cpl fs js
  -- unread bytes = bytes sent since the last `begin`
  rx : ∀ u, w.interactive u = true → (w.net.get u).rx = (js.us.get u).fresh
  fr : ∀ u, u ∉ js.ids → (js.us.get u).fresh = []
  acc : ∀ u, 1 ≤ u → u ≤ w.naccepted → u ∈ js.ids            -- every accepted user has had his `logon`
  live : LiveOK js w
  neweof : ∀ u, w.naccepted < u → (w.net.get u).eof = false  -- a connection not accepted yet has no closed socket
  clean : js.bad = []                                         -- no verdict so far
  mnb : js.mustNotBlock = none                                -- set by `begin`, cleared by `endc` / `abort`
  flag : FlagSound w

theorem B_init : B {} {} {} :=
  ⟨G_init, ⟨fun _ => rfl, fun _ => rfl⟩, fun _ _ => rfl, fun _ _ => rfl, fun u h1 h2 => by
      have : (({} : World).naccepted) = 0 := rfl
      omega,
    fun u h => by simp [live, AMap.get] at h; exact absurd h (by decide), fun _ _ => rfl, rfl, rfl,
    fun u hc => by
      change hasCmd ({} : U).single ({} : U).buf = true at hc
      simp [hasCmd, firstCmd, dropNul] at hc⟩

theorem live_beginU (j : JU) : live (beginU j) = live j := rfl

theorem poll_quiet (s : JState) (n : Nat) (blk : Bool) (h : ∀ u, s.mustNotBlock = some u → blk = false) :
    judgeStep s (.poll n blk) = s := by
  cases hm : s.mustNotBlock with
  | none => simp [judgeStep, hm]
  | some u =>
    have := h u hm
    subst this
    simp [judgeStep, hm]

theorem logon_get (s : JState) (k x : Nat) :
    (judgeStep s (.logon k)).us.get x = if x = k then { connected := true } else s.us.get x := by
  simp only [judgeStep, get_upd]

/-- **the top of an iteration** (`begin`, `poll`, the logon of process_io), seen by the liveness oracle from a state
    of `B` (`js2` its state afterwards): no verdict - the poll does not block while a live user has a complete command
    buffered -, nothing fresh, still coupled with the FIFO oracle, live users sit in the table, every accepted user is
    known, and whoever is marked eligible is eligible in the model when the command phase starts -/
structure TopOK (fs : FState) (js2 : JState) (w : World) : Prop where
  clean : js2.bad = []
  fresh : ∀ x, (js2.us.get x).fresh = []
  cpl : Cpl fs js2
  live : LiveOK js2 (cmdPhaseStart w)
  acc : ∀ x, 1 ≤ x → x ≤ (cmdPhaseStart w).naccepted → x ∈ js2.ids
  eligible : ∀ x, x ∈ js2.ids → (js2.us.get x).eligible = true → elig (cmdPhaseStart w) x = true

theorem B_top (fs : FState) (js : JState) (w : World) (h : B fs js w) (hno : (cmdPhaseStart w).overflow = false) :
    TopOK fs ((topEvents w).foldl judgeStep js) w := by
  -- after `begin`
  have hj1 : ∀ x, (judgeStep js (.begin (w.cycle + 1))).us.get x =
      if x ∈ js.ids then beginU (js.us.get x) else js.us.get x := begin_get js _
  generalize hjs1 : judgeStep js (.begin (w.cycle + 1)) = js1 at hj1
  have hids1 : js1.ids = js.ids := by rw [← hjs1]; rfl
  have hbad1 : js1.bad = [] := by rw [← hjs1]; exact h.clean
  have hfresh1 : ∀ x, (js1.us.get x).fresh = [] := by
    intro x; rw [hj1 x]; split
    · rfl
    · rename_i hx; exact h.fr x hx
  have hlive1 : ∀ x, live (js1.us.get x) = live (js.us.get x) := by
    intro x; rw [hj1 x]; split <;> rfl
  have hcpl1 : Cpl fs js1 := by
    constructor <;> (intro x; rw [hj1 x]; split)
    · simp only [beginU, List.append_nil]; exact h.cpl.pend x
    · exact h.cpl.pend x
    · exact h.cpl.mode x
    · exact h.cpl.mode x
  have helig1 : ∀ x, x ∈ js.ids → (js1.us.get x).eligible = true → elig (cmdPhaseStart w) x = true := by
    intro x hm he
    rw [hj1 x] at he
    simp only [hm, if_true, beginU, Bool.and_eq_true] at he
    exact eligible_start fs js w h.g h.cpl h.live h.flag x he.1 he.2 hno
  -- `poll` adds no verdict
  have hpoll : judgeStep js1 (.poll (w.cycle + 1) (pollBlocks (hasPending w))) = js1 := by
    apply poll_quiet
    intro u hu
    have hfind : js.ids.find? (fun u => live (js.us.get u) && complete (js.us.get u).charMode (js.us.get u).pending) = some u := by
      rw [← hjs1] at hu; exact hu
    have hpred := List.find?_some hfind
    simp only [Bool.and_eq_true] at hpred
    simp [pollBlocks_spec, blocker_pending fs js w h.g h.cpl h.rx h.live h.flag u hpred.1 hpred.2]
  -- process_io: the logon of the accepted connection
  have hl2 := LiveOK_processIO js1 { w with cycle := w.cycle + 1, users := grantAll w.users w.slots }
    (fun x hx => h.live x (by rw [← hlive1 x]; exact hx)) (h.neweof _ (Nat.lt_succ_self _))
  have hacc := cmdPhaseStart_naccepted w
  rw [ioEvents_eq] at hl2
  have htop : (topEvents w).foldl judgeStep js =
      (if w.naccepted < w.nconn then [Ev.logon (w.naccepted + 1)] else []).foldl judgeStep js1 := by
    rw [topEvents, List.foldl_append]
    simp only [List.foldl_cons, List.foldl_nil]
    rw [hjs1, hpoll]
  rw [htop]
  split
  · -- a connection is accepted: `logon` gives it an empty record and makes it known
    rename_i hlt
    rw [if_pos hlt] at hl2
    have hfr := (h.g.fresh (w.naccepted + 1) (Nat.lt_succ_self _)).1
    refine { clean := hbad1, live := hl2, fresh := fun x => ?fresh, cpl := ?cpl, acc := fun x hx1 hx2 => ?acc,
             eligible := fun x hxi hxe => ?eligible }
    case fresh =>
      rw [List.foldl_cons, List.foldl_nil, logon_get]; split
      · rfl
      · exact hfresh1 x
    case cpl =>
      constructor <;> (intro x; rw [List.foldl_cons, List.foldl_nil, logon_get]; split)
      · rename_i hx; rw [hx, hfr]; rfl
      · exact hcpl1.pend x
      · rename_i hx; rw [hx, hfr]
      · exact hcpl1.mode x
    case acc =>
      rw [hacc, if_pos hlt] at hx2
      show x ∈ (w.naccepted + 1) :: js1.ids
      by_cases hxe : x = w.naccepted + 1
      · rw [hxe]; exact List.mem_cons_self
      · exact List.mem_cons_of_mem _ (by rw [hids1]; exact h.acc x hx1 (by omega))
    case eligible =>
      rw [List.foldl_cons, List.foldl_nil, logon_get] at hxe
      split at hxe
      · cases hxe
      · rename_i hne
        rcases List.mem_cons.mp (show x ∈ (w.naccepted + 1) :: js1.ids from hxi) with hh | hh
        · exact absurd hh hne
        · exact helig1 x (by rw [← hids1]; exact hh) hxe
  · -- no connection waits: the oracle state is the one after `begin`
    rename_i hlt
    rw [if_neg hlt] at hl2
    exact { clean := hbad1, fresh := hfresh1, cpl := hcpl1, live := hl2,
            acc := fun x hx1 hx2 => by
              rw [hacc, if_neg hlt] at hx2
              rw [List.foldl_nil, hids1]; exact h.acc x hx1 hx2,
            eligible := fun x hxi hxe => helig1 x (by rw [← hids1]; exact hxi) hxe }

theorem B_cycle (sc : Scripts) (fs : FState) (js : JState) (w : World) (h : B fs js w) (hq : Quiet w)
    (hno : (cycleStep sc w).1.overflow = false) :
    B ((cycleStep sc w).2.foldl fifoStep fs) ((cycleStep sc w).2.foldl judgeStep js) (cycleStep sc w).1 := by
  have hsafeEnd := cycleStep_safe sc w hq.1
  have hnoIO : (cmdPhaseStart w).overflow = false := (cycleStep_ovf sc w hno).1
  have hGend := G_cycle sc w fs h.g hno
  have tp := B_top fs js w h hnoIO
  -- the folds of the two oracles over the events of the iteration
  rw [fifo_cycle] at hGend ⊢
  rw [cycle_events]
  simp only [List.foldl_append]
  rw [cycleStep_world] at hsafeEnd hno hGend ⊢
  generalize (topEvents w).foldl judgeStep js = js2 at tp ⊢
  -- the command loop
  generalize hK : NV.Gen.C12.loopCalls (connectedUsers w) w.maxUsers = K at *
  have hin := cmdLoop_inLoop sc K (cmdPhaseStart w)
  have k := inLoop_loop (cmdLoop sc K (cmdPhaseStart w)).2 hin js2
  have ksv := inLoop_served (cmdLoop sc K (cmdPhaseStart w)).2 hin js2
  have hl3 := LiveOK_cmdLoop sc K _ js2 tp.live
  have hcpl3 := cpl_fold _ hin fs js2 tp.cpl tp.fresh
  have n := cmdLoop_net sc K (cmdPhaseStart w)
  generalize (cmdLoop sc K (cmdPhaseStart w)).2.foldl judgeStep js2 = js3 at k ksv hl3 hcpl3 ⊢
  -- sockets of table users are drained at the end
  have hd2 := (G_phaseStart fs w h.g hnoIO).2
  have hdrain3 : ∀ x, (cmdLoop sc K (cmdPhaseStart w)).1.interactive x = true →
      ((cmdLoop sc K (cmdPhaseStart w)).1.net.get x).rx = [] := by
    intro x hx
    rw [n.net]
    apply hd2 x
    show (cmdPhaseStart w).interactive x = true
    cases hi : (cmdPhaseStart w).interactive x with
    | true => rfl
    | false => rw [cmdLoop_not_interactive sc K _ x hi] at hx; cases hx
  -- nobody eligible at the top was passed over (unless the iteration was aborted)
  have hstarved : (cmdLoop sc K (cmdPhaseStart w)).1.thrown = false →
      js3.ids.filter (fun u => (js3.us.get u).eligible && live (js3.us.get u) && !(js3.us.get u).served) = [] := by
    intro hfin
    rw [List.filter_eq_nil_iff]
    intro x hxi hcond
    simp only [Bool.and_eq_true, Bool.not_eq_true'] at hcond
    obtain ⟨⟨he3, hlv3⟩, hsv3⟩ := hcond
    have hel := tp.eligible x (by rw [← k.ids]; exact hxi) (by rw [← (k.us x).eligible]; exact he3)
    rcases cmdLoop_serves sc K (cmdPhaseStart w) (cmdPhaseStart_safe w hq.1)
      (by have := turns_at_most_connected_users w; rw [← hK, loopCalls_spec]; omega) x hel hfin with hres | hres
    · rw [ksv x (by omega)] at hsv3; cases hsv3
    · rw [(hl3 x hlv3).1] at hres; cases hres
  -- the end of the iteration: `abort` and `endc` leave records and ids alone, and `endc` finds nobody starved
  obtain ⟨hget, hids, hclean, hmnb⟩ :
      (∀ x, ((endEvents (w.cycle + 1) (cmdLoop sc K (cmdPhaseStart w)).1).foldl judgeStep js3).us.get x = js3.us.get x) ∧
      ((endEvents (w.cycle + 1) (cmdLoop sc K (cmdPhaseStart w)).1).foldl judgeStep js3).ids = js3.ids ∧
      ((endEvents (w.cycle + 1) (cmdLoop sc K (cmdPhaseStart w)).1).foldl judgeStep js3).bad = [] ∧
      ((endEvents (w.cycle + 1) (cmdLoop sc K (cmdPhaseStart w)).1).foldl judgeStep js3).mustNotBlock = none := by
    rw [endEvents, hsafeEnd.1]
    simp only [Bool.false_eq_true, if_false]
    split
    · exact ⟨fun _ => rfl, rfl, k.bad.trans tp.clean, rfl⟩
    · rename_i hnt
      simp only [List.foldl_cons, List.foldl_nil, judgeStep]
      rw [hstarved (by simpa using hnt)]
      exact ⟨fun _ => trivial, trivial, k.bad.trans tp.clean, trivial⟩
  exact {
    g := hGend
    cpl := ⟨fun x => by rw [hget x]; exact hcpl3.pend x, fun x => by rw [hget x]; exact hcpl3.mode x⟩
    rx := fun x hx => by rw [hget x, (k.us x).fresh, tp.fresh x]; exact hdrain3 x hx
    fr := fun x _ => by rw [hget x, (k.us x).fresh]; exact tp.fresh x
    acc := fun x hx1 hx2 => by rw [hids, k.ids]; exact tp.acc x hx1 (by rw [n.naccepted] at hx2; exact hx2)
    live := fun x hx => by rw [hget x] at hx; exact hl3 x hx
    neweof := fun x hx => by
      -- a connection not accepted in this iteration either: process_io closes no socket
      rw [n.naccepted, cmdPhaseStart_naccepted] at hx
      rw [n.net]
      refine (processIO_eof { w with cycle := w.cycle + 1, users := grantAll w.users w.slots } x).trans (h.neweof x ?_)
      split at hx <;> omega
    clean := hclean
    mnb := hmnb
    flag := by rw [← hK, ← cycleStep_world]; exact cycleStep_flag sc w h.flag }

theorem B_clear (fs : FState) (js : JState) (w : World) (h : B fs js w) : B fs js { w with thrown := false } :=
  ⟨G_congr fs w _ h.g (fun _ => rfl) rfl rfl, h.cpl, h.rx, h.fr, h.acc, h.live, h.neweof, h.clean, h.mnb, h.flag⟩

theorem B_cycleRun (sc : Scripts) (fs : FState) (js : JState) (w : World) (h : B fs js w) (hq : Quiet w)
    (hno : (cycleRun sc (weight w + 1) w).1.overflow = false) :
    B ((cycleRun sc (weight w + 1) w).2.foldl fifoStep fs) ((cycleRun sc (weight w + 1) w).2.foldl judgeStep js)
      (cycleRun sc (weight w + 1) w).1 :=
  cycleRun_events sc (fun es w => w.overflow = false → B (es.foldl fifoStep fs) (es.foldl judgeStep js) w)
    (hstep := fun es w hb hq' hn => by
      simp only [List.foldl_append]; exact B_cycle sc _ _ w (hb (cycleStep_ovf sc w hn).2) hq' hn)
    (hclear := fun es w hb hn => B_clear _ _ w (hb hn)) (weight w + 1) w [] (fun _ => h) hq (Nat.lt_succ_self _) hno

/-- `send` and `close`: one socket changes, the liveness oracle rewrites the record of the same user (or nothing); the
    FIFO side (`G`, `Cpl`) is supplied by the caller -/
theorem B_touch {fs fs' : FState} {js js' : JState} {w : World} (h : B fs js w) (u : Nat) (n : Net) (j : JU)
    (hG : G fs' { w with net := upd w.net u n }) (hC : Cpl fs' js')
    (hjs : ∀ x, js'.us.get x = if x = u then j else js.us.get x) (hids : js'.ids = js.ids) (hbad : js'.bad = js.bad)
    (hmnb : js'.mustNotBlock = js.mustNotBlock) (hu : 1 ≤ u ∧ u ≤ w.naccepted)
    (hrx : w.interactive u = true → n.rx = j.fresh)
    (hlive : live j = true → live (js.us.get u) = true ∧ n.eof = (w.net.get u).eof) :
    B fs' js' { w with net := upd w.net u n } := by
  have hne : ∀ x, w.naccepted < x → x ≠ u := fun x hx => Nat.ne_of_gt (Nat.lt_of_le_of_lt hu.2 hx)
  refine ⟨hG, hC, fun x hx => ?_, fun x hx => ?_, fun x h1 h2 => hids ▸ h.acc x h1 h2, fun x hx => ?_, fun x hx => ?_,
    hbad.trans h.clean, hmnb.trans h.mnb, h.flag⟩
  · show ((upd w.net u n).get x).rx = _
    rw [hjs x, get_upd]
    split
    · rename_i hxu; exact hrx (hxu ▸ hx)
    · exact h.rx x hx
  · rw [hids] at hx
    have hxu : x ≠ u := fun hxu => hx (hxu ▸ h.acc u hu.1 hu.2)
    rw [hjs x, if_neg hxu]; exact h.fr x hx
  · rw [hjs x] at hx
    show _ ∧ ((upd w.net u n).get x).eof = false
    rw [get_upd]
    split
    · rename_i hxu
      rw [if_pos hxu] at hx
      obtain ⟨l1, l2⟩ := hlive hx
      exact ⟨hxu ▸ (h.live u l1).1, l2.trans (h.live u l1).2⟩
    · rename_i hxu
      rw [if_neg hxu] at hx
      exact h.live x hx
  · show ((upd w.net u n).get x).eof = false
    rw [get_upd, if_neg (hne x hx)]; exact h.neweof x hx

theorem B_step (sc : Scripts) (fs : FState) (js : JState) (w : World) (c : Cmd) (h : B fs js w) (hq : Quiet w)
    (hc : (match c with | .send _ d => d.all plainChar | _ => true) = true)
    (hno : (step sc w c).1.overflow = false) :
    B ((step sc w c).2.foldl fifoStep fs) ((step sc w c).2.foldl judgeStep js) (step sc w c).1 := by
  have hG := G_step sc w fs c h.g hc hno
  have hcr := hq.1.1
  cases c with
  | cycle => rw [step_cycle sc w hcr] at hno ⊢; exact B_cycleRun sc fs js w h hq hno
  | conn =>
    rw [step_conn sc w hcr] at hG ⊢
    exact ⟨hG, h.cpl, h.rx, h.fr, h.acc, h.live, h.neweof, h.clean, h.mnb, h.flag⟩
  | send u d =>
    rcases step_send sc w u d hcr with e | ⟨hu1, hu2, hint, e⟩ <;> rw [e] at hG ⊢
    · exact h
    · -- the bytes go to the socket, to `pending` of the FIFO oracle and to `fresh` of the liveness oracle
      exact B_touch h u _ { js.us.get u with fresh := (js.us.get u).fresh ++ d } hG
        (Cpl_touch h.cpl u _ _ _ (by rw [← h.cpl.pend u, List.append_assoc]) (h.cpl.mode u))
        (fun x => get_upd _ _ _ _) rfl rfl rfl ⟨hu1, hu2⟩ (fun hi => by rw [h.rx u hi]) (fun hl => ⟨hl, rfl⟩)
  | close u =>
    rcases step_close sc w u hcr with e | ⟨hu1, hu2, e⟩ <;> rw [e] at hG ⊢
    · exact h
    · -- the socket is marked closed; if the user sits in the table the oracles are told
      by_cases hi : w.interactive u = true
      · simp only [hi, if_true] at hG ⊢
        exact B_touch h u _ { js.us.get u with clientOpen := false } hG (Cpl_jtouch h.cpl u _ rfl rfl)
          (fun x => get_upd _ _ _ _) rfl rfl rfl ⟨hu1, hu2⟩ (fun hi => h.rx u hi) (fun hl => by simp [live] at hl)
      · simp only [hi] at hG ⊢
        exact B_touch h u _ (js.us.get u) hG h.cpl (fun x => by split <;> simp_all) rfl rfl rfl ⟨hu1, hu2⟩
          (fun hi' => absurd hi' hi) (fun hl => absurd (h.live u hl).1 hi)

theorem B_run (sc : Scripts) (cs : List Cmd) (fs : FState) (js : JState) (w : World) (h : B fs js w) (hq : Quiet w)
    (hp : plainCmds cs = true) (hno : (run sc w cs).1.overflow = false) :
    B ((run sc w cs).2.foldl fifoStep fs) ((run sc w cs).2.foldl judgeStep js) (run sc w cs).1 :=
  (run_events sc (fun es w => Quiet w ∧ (w.overflow = false → B (es.foldl fifoStep fs) (es.foldl judgeStep js) w)) _
    (fun es w c hc ⟨hq, hb⟩ => ⟨cursor_in_bounds sc w c hq, fun hn => by
      simp only [List.foldl_append]; exact B_step sc _ _ w c (hb (step_ovf sc w c hn)) hq hc hn⟩)
    cs (plainCmds_mem cs hp) w [] ⟨hq, fun _ => h⟩).2 hno

/-- **trace theorem 4** (`no_starvation`, `loop_bound_sufficient`, `no_idle_wait` at trace level; clauses `starved` and
    `idleWait`): for every history whose sent bytes are plain and every script oracle - kicks, drops, mode switches,
    command() calls, uncaught errors that abort and restart the loop - the liveness oracle accepts the trace of the
    model: every user who was connected with a complete command (buffered or sent before the iteration began) when an
    iteration began, and is still connected when it ends, was served in it; and backend never asks the poller to block
    while a connected user has a complete command buffered. -/
theorem judgeLive_events (sc : Scripts) (cs : List Cmd) (hp : plainCmds cs = true)
    (hno : (run sc {} cs).1.overflow = false) : judgeLive (events sc cs) = [] := by
  unfold judgeLive events
  rw [(B_run sc cs {} {} {} B_init quiet_init hp hno).clean]
  rfl

/-- **top theorem, four of the five clause oracles**: for every history with plain bytes and every script oracle the
    specification oracle finds nothing in the trace of the model except, possibly, verdicts of the clause `overtaken`
    (round robin across iterations aborted by an error), which `judgeOrder_events` (Order.lean) settles -/
theorem judgeEv_events_eq_order (sc : Scripts) (cs : List Cmd) (hp : plainCmds cs = true)
    (hno : (run sc {} cs).1.overflow = false) :
    judgeEv (events sc cs) = judgeOrder (events sc cs) := by
  unfold judgeEv
  rw [judgeStruct_events, judgeEfun_events, judgeFifo_events sc cs hp hno, judgeLive_events sc cs hp hno]
  rfl

-- non-vacuity: a history with an aborted and restarted iteration; the theorems speak about such traces
example :
    let sc : Scripts := fun u t => if u = 1 ∧ t = ['x'] then [Op.err] else []
    let cs : List Cmd := [.conn, .cycle, .conn, .cycle, .send 1 "x~a~".toList, .send 2 "p~".toList, .cycle]
    plainCmds cs = true ∧ (events sc cs).any (fun e => match e with | .abort _ => true | _ => false) = true ∧
      ((events sc cs).filter (fun e => match e with | .cmd _ _ => true | _ => false)).length = 3 := by decide +kernel

end NV.C12
