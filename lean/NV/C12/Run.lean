/-
C12 — from one iteration of backend() to whole histories: the cursor invariant through an iteration
(`cycleStep_safe`), the inductions over the restarts of an iteration after uncaught errors (`cycleRun_ends`,
`cycleRun_fold`, `cycleRun_events`), what the other harness actions do (`step_io`, `step_conn` / `step_send` /
`step_close`) and the induction over histories (`run_events`).
-/
import NV.C12.Weight

namespace NV.C12

open NV.Gen.C12

theorem processIO_safe (w : World) (hs : Safe w) : Safe (processIO w).1 := by
  -- accept only makes the table longer; reads and EOFs keep its size; nobody touches cursor or crash flag
  refine processIO_ind Safe w hs (fun _ => ?_) (fun a u h => ?_)
  · obtain ⟨d, hlen⟩ := accept_length w (w.naccepted + 1)
    have hpos := At_lt _ _ _ ((accept_At w (w.naccepted + 1) _ _).mpr (Or.inl ⟨rfl, rfl⟩))
    refine ⟨hs.1, Or.inl ?_⟩
    show w.cursor < _
    rcases hs.2 with hc | hc <;> omega
  · have k := userIO_kept a u
    exact ⟨by rw [k.crashed]; exact h.1, by rw [k.cursor, k.length]; exact h.2⟩

theorem cmdPhaseStart_safe (w : World) (hs : Safe w) : Safe (cmdPhaseStart w) := processIO_safe _ ⟨hs.1, hs.2⟩

theorem cycleStep_safe (sc : Scripts) (w : World) (hs : Safe w) : Safe (cycleStep sc w).1 := by
  unfold cycleStep
  dsimp only
  have h1 : Safe { w with cycle := w.cycle + 1, users := grantAll w.users w.slots } := ⟨hs.1, hs.2⟩
  have h2 := processIO_safe _ h1
  exact cmdLoop_safe sc _ _ h2

/-! ### uncaught errors: the restarted loop

`Quiet`: the state between two harness actions - the cursor invariant holds and no error is unwinding. -/

def Quiet (w : World) : Prop := Safe w ∧ w.thrown = false

/-- the iterations between two hook calls, from a quiet world: aborted iterations (each strictly lighter,
    `cycleStep_weight`, so the fuel `weight w + 1` is never exhausted), then ONE iteration that completes; `R` holds
    where that last one starts -/
theorem cycleRun_ends {σ : Type} (sc : Scripts) (g : σ → Ev → σ) (R : σ → World → Prop)
    (hstep : ∀ s w, R s w → Quiet w → R ((cycleStep sc w).2.foldl g s) (cycleStep sc w).1)
    (hclear : ∀ s w, R s w → R s { w with thrown := false }) :
    ∀ (f : Nat) (w : World) (s : σ), R s w → Quiet w → weight w < f →
      ∃ w0 pre, R (pre.foldl g s) w0 ∧ Quiet w0 ∧ (cycleStep sc w0).1.thrown = false ∧
        cycleRun sc f w = ((cycleStep sc w0).1, pre ++ (cycleStep sc w0).2) := by
  intro f
  induction f with
  | zero => intro w s _ _ h; omega
  | succ f ih =>
    intro w s hr hq hf
    have h1 := hstep s w hr hq
    have hsafe := cycleStep_safe sc w hq.1
    have hw := cycleStep_weight sc w hq.2
    unfold cycleRun
    cases hc : cycleStep sc w with
    | mk w1 e1 =>
      rw [hc] at h1 hsafe hw
      dsimp only at h1 hsafe hw ⊢
      split
      · rename_i hthr
        have hlt := hw hthr
        have hwt : weight { w1 with thrown := false } < f := by
          have : weight { w1 with thrown := false } = weight w1 := rfl
          omega
        obtain ⟨w0, pre, i1, i2, i3, i4⟩ :=
          ih { w1 with thrown := false } (e1.foldl g s) (hclear _ _ h1) ⟨⟨hsafe.1, hsafe.2⟩, rfl⟩ hwt
        exact ⟨w0, e1 ++ pre, by rw [List.foldl_append]; exact i1, i2, i3, by rw [i4, List.append_assoc]⟩
      · rename_i hthr
        exact ⟨w, [], hr, hq, by rw [hc]; simpa using hthr, by rw [hc]; rfl⟩

/-- **induction principle for the iterations between two hook calls** (`cycleRun`): a relation between an oracle
    state and the world that every single iteration keeps (started from a quiet world) and that does not look at the
    `thrown` flag is kept by the whole run, however often the loop is restarted by uncaught errors; the run ends
    quiet.  The fuel `weight w + 1` is never exhausted: every aborted iteration is strictly lighter
    (`cycleStep_weight`). -/
theorem cycleRun_fold {σ : Type} (sc : Scripts) (g : σ → Ev → σ) (R : σ → World → Prop)
    (hstep : ∀ s w, R s w → Quiet w → R ((cycleStep sc w).2.foldl g s) (cycleStep sc w).1)
    (hclear : ∀ s w, R s w → R s { w with thrown := false }) :
    ∀ (f : Nat) (w : World) (s : σ), R s w → Quiet w → weight w < f →
      R ((cycleRun sc f w).2.foldl g s) (cycleRun sc f w).1 ∧ Quiet (cycleRun sc f w).1 := by
  intro f w s hr hq hf
  obtain ⟨w0, pre, h1, h2, h3, h4⟩ := cycleRun_ends sc g R hstep hclear f w s hr hq hf
  rw [h4]
  dsimp only   -- the projections of the pair first: unifying through them is slow
  rw [List.foldl_append]
  exact ⟨hstep _ w0 h1 h2, cycleStep_safe sc w0 h2.1, h3⟩

/-- the same principle for relations that every iteration keeps from ANY world, quiet or not: no cursor invariant and
    no bound on the fuel are needed, but the relation must also survive the "bound exhausted" outcome (`hcrash`),
    which `cycleRun_quiet` shows to be unreachable -/
theorem cycleRun_fold_noQuiet {σ : Type} (sc : Scripts) (g : σ → Ev → σ) (R : σ → World → Prop)
    (hstep : ∀ s w, R s w → R ((cycleStep sc w).2.foldl g s) (cycleStep sc w).1)
    (hclear : ∀ s w, R s w → R s { w with thrown := false })
    (hcrash : ∀ s w, R s w → R (g s (Ev.crash "restart bound of the model exhausted")) { w with crashed := true }) :
    ∀ (f : Nat) (w : World) (s : σ), R s w → R ((cycleRun sc f w).2.foldl g s) (cycleRun sc f w).1 := by
  intro f
  induction f with
  | zero => intro w s hr; exact hcrash s w hr
  | succ f ih =>
    intro w s hr
    have h1 := hstep s w hr
    unfold cycleRun
    cases hc : cycleStep sc w with
    | mk w1 e1 =>
      rw [hc] at h1
      dsimp only at h1 ⊢
      split
      · dsimp only
        rw [List.foldl_append]
        exact ih _ _ (hclear _ _ h1)
      · exact h1

/-- the same on the events produced so far (several oracles are several folds over them) -/
theorem cycleRun_events (sc : Scripts) (R : List Ev → World → Prop)
    (hstep : ∀ es w, R es w → Quiet w → R (es ++ (cycleStep sc w).2) (cycleStep sc w).1)
    (hclear : ∀ es w, R es w → R es { w with thrown := false }) (f : Nat) (w : World) (es : List Ev) (h : R es w)
    (hq : Quiet w) (hf : weight w < f) : R (es ++ (cycleRun sc f w).2) (cycleRun sc f w).1 := by
  have := (cycleRun_fold sc (fun s e => s ++ [e]) R (hstep := fun s w h hq => by rw [foldl_snoc]; exact hstep s w h hq)
    (hclear := hclear) f w es h hq hf).1
  rwa [foldl_snoc] at this

/-- the run between two hook calls ends quiet: cursor inside the table, no crash - in particular the restart bound of
    the model is never exhausted - and no error pending -/
theorem cycleRun_quiet (sc : Scripts) (f : Nat) (w : World) (hq : Quiet w) (hf : weight w < f) :
    Quiet (cycleRun sc f w).1 :=
  (cycleRun_fold sc (fun (s : Unit) _ => s) (fun _ _ => True) (hstep := fun _ _ _ _ => trivial)
    (hclear := fun _ _ _ => trivial) f w () trivial hq hf).2

/-- **the last iteration completes**: the run between two hook calls ends with an iteration of backend() that was
    started from a quiet world and was not aborted; every theorem about a completed iteration (`loop_bound_sufficient`,
    `no_starvation`) therefore speaks about the state the hook observes -/
theorem cycleRun_last (sc : Scripts) (f : Nat) (w : World) (hq : Quiet w) (hf : weight w < f) :
    ∃ w0, Quiet w0 ∧ (cycleStep sc w0).1.thrown = false ∧ (cycleRun sc f w).1 = (cycleStep sc w0).1 := by
  obtain ⟨w0, _, _, h2, h3, h4⟩ := cycleRun_ends sc (fun (s : Unit) _ => s) (fun _ _ => True)
    (fun _ _ _ _ => trivial) (fun _ _ _ => trivial) f w () trivial hq hf
  exact ⟨w0, h2, h3, by rw [h4]⟩

theorem step_cycle_eq (sc : Scripts) (w : World) :
    step sc w .cycle = if w.crashed then (w, []) else cycleRun sc (weight w + 1) w := by
  unfold step; rfl

theorem step_cycle (sc : Scripts) (w : World) (hc : w.crashed = false) :
    step sc w .cycle = cycleRun sc (weight w + 1) w := by rw [step_cycle_eq, hc]; rfl

/-- a harness action other than `cycle` (`r` its result from `w`) writes only the connect counter or one socket, and
    its only event is its own -/
structure IoStep (w : World) (r : World × List Ev) : Prop where
  users : r.1.users = w.users
  slots : r.1.slots = w.slots
  cursor : r.1.cursor = w.cursor
  crashed : r.1.crashed = w.crashed
  thrown : r.1.thrown = w.thrown
  overflow : r.1.overflow = w.overflow
  events : ∀ e ∈ r.2, (∃ k, e = .conn k) ∨ (∃ u d, e = .send u d) ∨ ∃ u, e = .close u

theorem step_io (sc : Scripts) (w : World) (c : Cmd) (hc : c ≠ .cycle) : IoStep w (step sc w c) := by
  unfold step
  split
  · exact ⟨rfl, rfl, rfl, rfl, rfl, rfl, fun e he => by cases he⟩
  · cases c with
    | cycle => exact absurd rfl hc
    | conn => exact ⟨rfl, rfl, rfl, rfl, rfl, rfl, fun e he => Or.inl ⟨_, List.mem_singleton.mp he⟩⟩
    | send u d =>
      dsimp only
      split
      · exact ⟨rfl, rfl, rfl, rfl, rfl, rfl, fun e he => Or.inr (Or.inl ⟨_, _, List.mem_singleton.mp he⟩)⟩
      · exact ⟨rfl, rfl, rfl, rfl, rfl, rfl, fun e he => by cases he⟩
    | close u =>
      dsimp only
      split
      · refine ⟨rfl, rfl, rfl, rfl, rfl, rfl, fun e he => Or.inr (Or.inr ⟨u, ?_⟩)⟩
        split at he
        · exact List.mem_singleton.mp he
        · cases he
      · exact ⟨rfl, rfl, rfl, rfl, rfl, rfl, fun e he => by cases he⟩

theorem step_conn (sc : Scripts) (w : World) (hc : w.crashed = false) :
    step sc w .conn = ({ w with nconn := w.nconn + 1 }, [Ev.conn (w.nconn + 1)]) := by simp [step, hc]

/-- `send`: refused, or the bytes are appended to the socket of an accepted user who sits in the table -/
theorem step_send (sc : Scripts) (w : World) (u : Nat) (d : List Char) (hc : w.crashed = false) :
    step sc w (.send u d) = (w, []) ∨
      (1 ≤ u ∧ u ≤ w.naccepted ∧ w.interactive u = true ∧ step sc w (.send u d) =
        ({ w with net := upd w.net u { w.net.get u with rx := (w.net.get u).rx ++ d } }, [Ev.send u d])) := by
  simp only [step, hc, Bool.false_eq_true, if_false]
  split
  · rename_i h
    simp only [Bool.and_eq_true, decide_eq_true_eq] at h
    exact Or.inr ⟨h.1.1.1.1.1.1, h.1.1.1.1.1.2, h.1.1.1.2, rfl⟩
  · exact Or.inl rfl

/-- `close`: refused, or the socket of an accepted user is marked closed (observable if he sits in the table) -/
theorem step_close (sc : Scripts) (w : World) (u : Nat) (hc : w.crashed = false) :
    step sc w (.close u) = (w, []) ∨
      (1 ≤ u ∧ u ≤ w.naccepted ∧ step sc w (.close u) =
        ({ w with net := upd w.net u { w.net.get u with eof := true } },
         if w.interactive u then [Ev.close u] else [])) := by
  simp only [step, hc, Bool.false_eq_true, if_false]
  split
  · rename_i h
    simp only [Bool.and_eq_true, decide_eq_true_eq] at h
    exact Or.inr ⟨h.1.1.1, h.1.1.2, rfl⟩
  · exact Or.inl rfl

/-- an oracle step that ignores `conn`, `send` and `close` ignores the events of such an action -/
theorem foldl_ioEvents {σ : Type} (g : σ → Ev → σ) (s : σ) (hg : ∀ k u d, g s (.conn k) = s ∧ g s (.send u d) = s ∧ g s (.close u) = s)
    (l : List Ev) (hl : ∀ e ∈ l, (∃ k, e = .conn k) ∨ (∃ u d, e = .send u d) ∨ ∃ u, e = .close u) : l.foldl g s = s := by
  induction l with
  | nil => rfl
  | cons e r ih =>
    have he : g s e = s := by
      rcases hl e List.mem_cons_self with ⟨k, rfl⟩ | ⟨u, d, rfl⟩ | ⟨u, rfl⟩
      · exact (hg k 0 []).1
      · exact (hg 0 u d).2.1
      · exact (hg 0 u []).2.2
    rw [List.foldl_cons, he]
    exact ih (fun x hx => hl x (List.mem_cons_of_mem _ hx))

/-- **the induction over a history**, on the events produced so far: a relation between those events and the world
    that every harness action satisfying `P` keeps is kept by every history of such actions (an oracle state is a
    fold over the events, several oracles are several folds) -/
theorem run_events (sc : Scripts) (R : List Ev → World → Prop) (P : Cmd → Prop)
    (hstep : ∀ es w c, P c → R es w → R (es ++ (step sc w c).2) (step sc w c).1)
    (cs : List Cmd) (hcs : ∀ c ∈ cs, P c) (w : World) (es : List Ev) (h : R es w) :
    R (es ++ (run sc w cs).2) (run sc w cs).1 := by
  induction cs generalizing w es with
  | nil => simpa [run] using h
  | cons c r ih =>
    simp only [run, ← List.append_assoc]
    exact ih (fun x hx => hcs x (List.mem_cons_of_mem _ hx)) _ _ (hstep es w c (hcs c List.mem_cons_self) h)

end NV.C12
