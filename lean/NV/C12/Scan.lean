/-
C12 — get_user_command, described once: what one look at a slot (`scanStep`), the loop over the table (`scan`) and the
whole call (`getUserCommand`) do to the user records, to the cursor and to nothing else.  A record that is looked at
without being served is `skim`med; the served one becomes `servedU`; the slots passed over on the way (`rank`) hold
nobody ready.  The invariants of the command phase are read off from these descriptions.
-/
import NV.C12.Basics

namespace NV.C12

theorem dropNul_idem (b : List Char) : dropNul (dropNul b) = dropNul b := by
  unfold dropNul
  induction b with
  | nil => rfl
  | cons c r ih =>
    by_cases hc : (c == NUL) = true
    · simp only [List.dropWhile_cons, hc, if_true]; exact ih
    · simp [hc]

theorem firstCmd_dropNul (single : Bool) (b : List Char) : firstCmd single (dropNul b) = firstCmd single b := by
  unfold firstCmd
  simp only [dropNul_idem]

theorem hasCmd_dropNul (single : Bool) (b : List Char) : hasCmd single (dropNul b) = hasCmd single b := by
  unfold hasCmd
  rw [firstCmd_dropNul]

/-- first_cmd_in_buf leaves `text_start` behind the leading NULs, whatever it finds -/
theorem firstCmd_fst_dropNul (single : Bool) (b : List Char) : (firstCmd single b).1 = dropNul b := by
  unfold firstCmd
  dsimp only
  split
  · rename_i h0; exact (List.isEmpty_iff.mp h0).symm
  · split
    · rfl
    · split <;> rfl

theorem firstCmd_fst (single : Bool) (b : List Char) (t : List Char) (h : (firstCmd single b).2 = some t) :
    (firstCmd single b).1 = dropNul b := by
  have _ := h
  exact firstCmd_fst_dropNul single b

/-- user `u` holds a turn and its buffer holds a complete, flagged command -/
def ready (w : World) (u : Nat) : Bool :=
  turnOf w u && ((w.users.get u).cmdInBuf && hasCmd (w.users.get u).single (w.users.get u).buf)

/-- `u` sits in the connection table and is ready: the next scan that reaches its slot serves it -/
def elig (w : World) (u : Nat) : Bool := w.interactive u && ready w u

/-- steps of the cursor walk before slot `s` is looked at -/
def rank (w : World) (s : Nat) : Nat :=
  if s ≤ w.cursor then w.cursor - s else w.cursor + w.slots.length - s

/-- user `u` sits in slot `i` -/
def At (w : World) (i u : Nat) : Prop := w.slots[i]? = some (some u)

theorem At_congr {w w' : World} (hs : w'.slots = w.slots) (i u : Nat) : At w' i u ↔ At w i u := by
  unfold At; rw [hs]

theorem interactive_congr {w w' : World} (hs : w'.slots = w.slots) (u : Nat) : w'.interactive u = w.interactive u := by
  simp only [World.interactive, hs]

theorem At_lt (w : World) (i u : Nat) (h : At w i u) : i < w.slots.length := by
  unfold At at h
  exact (List.getElem?_eq_some_iff.mp h).1

theorem At_interactive (w : World) (i u : Nat) (h : At w i u) : w.interactive u = true := by
  unfold At at h
  simp only [World.interactive, List.contains_iff_mem]
  exact List.mem_of_getElem? h

theorem interactive_At (w : World) (u : Nat) (h : w.interactive u = true) : ∃ i, At w i u := by
  simp only [World.interactive, List.contains_iff_mem] at h
  obtain ⟨j, hj, he⟩ := List.getElem_of_mem h
  exact ⟨j, by simp [At, List.getElem?_eq_getElem hj, he]⟩

/-- `rank` without subtraction: rank plus slot is the cursor, or the cursor plus one turn round the table -/
theorem rank_add (w : World) (s : Nat) (hc : w.cursor < w.slots.length) (hs : s < w.slots.length) :
    rank w s < w.slots.length ∧
      ((s ≤ w.cursor ∧ rank w s + s = w.cursor) ∨ (w.cursor < s ∧ rank w s + s = w.cursor + w.slots.length)) := by
  unfold rank; split <;> omega

theorem rank_lt (w : World) (s : Nat) (hc : w.cursor < w.slots.length) (hs : s < w.slots.length) :
    rank w s < w.slots.length := (rank_add w s hc hs).1

/-- the arithmetic of one cursor step, on numbers: `c` the cursor, `len` the table size, `s` a slot -/
theorem walk_step (c len s : Nat) (hc : c < len) (hs : s < len) :
    (if s ≤ (if c = 0 then len - 1 else c - 1) then (if c = 0 then len - 1 else c - 1) - s
      else (if c = 0 then len - 1 else c - 1) + len - s)
      = if s = c then len - 1 else (if s ≤ c then c - s else c + len - s) - 1 := by
  rcases Nat.eq_zero_or_pos c with h0 | h0
  · subst h0
    rw [if_pos rfl, if_pos (Nat.le_sub_one_of_lt hs)]
    rcases Nat.eq_zero_or_pos s with h1 | h1
    · rw [if_pos h1, h1]; rfl
    · rw [if_neg (Nat.ne_of_gt h1), if_neg (Nat.not_le_of_gt h1)]; omega
  · rw [if_neg (Nat.ne_of_gt h0)]
    rcases Nat.lt_trichotomy s c with h | h | h
    · rw [if_pos (Nat.le_sub_one_of_lt h), if_neg (Nat.ne_of_lt h), if_pos (Nat.le_of_lt h)]; omega
    · subst h; rw [if_neg (by omega), if_pos rfl]; omega
    · rw [if_neg (by omega), if_neg (Nat.ne_of_gt h), if_neg (Nat.not_le_of_gt h)]; omega

/-- one step of the cursor: the slot just looked at goes to the end of the walk, every other slot comes one step closer -/
theorem rank_dec (w : World) (s : Nat) (hc : w.cursor < w.slots.length) (hs : s < w.slots.length) :
    rank (decCursor w) s = (if s = w.cursor then w.slots.length - 1 else rank w s - 1) ∧
      (s ≠ w.cursor → 1 ≤ rank w s) :=
  ⟨walk_step w.cursor w.slots.length s hc hs, fun hne => by unfold rank; split <;> omega⟩

theorem rank_dec_users (w1 : World) (us : AMap U) (s : Nat) :
    rank (decCursor { w1 with users := us }) s = rank (decCursor w1) s := rfl

theorem rank_cursor (w : World) : rank w w.cursor = 0 := by simp [rank]

/-- the table grows at its end while the cursor stays: slots at or below the cursor keep their rank, the others move
    back by the growth -/
theorem rank_grow (w w' : World) (s d : Nat) (hc : w'.cursor = w.cursor) (hl : w'.slots.length = w.slots.length + d)
    (hs : s < w.slots.length) :
    rank w' s = if s ≤ w.cursor then rank w s else rank w s + d := by
  unfold rank
  rw [hc, hl]
  split <;> omega

/-- ... so growth keeps the order of the walk: a slot above the cursor is reached after every slot at or below it -/
theorem rank_grow_lt (w w' : World) (i j d : Nat) (hc : w'.cursor = w.cursor) (hl : w'.slots.length = w.slots.length + d)
    (hcur : w.cursor < w.slots.length) (hi : i < w.slots.length) (hj : j < w.slots.length) (h : rank w i < rank w j) :
    rank w' i < rank w' j := by
  have ri := rank_add w i hcur hi
  have rj := rank_add w j hcur hj
  rw [rank_grow w w' i d hc hl hi, rank_grow w w' j d hc hl hj]
  split <;> split <;> omega

theorem rank_congr (w w' : World) (hc : w'.cursor = w.cursor) (hl : w'.slots.length = w.slots.length) (s : Nat) :
    rank w' s = rank w s := by simp [rank, hc, hl]

/-- ranks seen from another cursor position `c'`: every slot not passed on the way from the cursor to `c'` keeps its
    rank, less the length of that way -/
theorem rank_shift (w w' : World) (s : Nat) (hl : w'.slots.length = w.slots.length) (hc : w.cursor < w.slots.length)
    (hc' : w'.cursor < w.slots.length) (hs : s < w.slots.length) (h : rank w w'.cursor ≤ rank w s) :
    rank w' s = rank w s - rank w w'.cursor := by
  have h1 := rank_add w s hc hs
  have h2 := rank_add w w'.cursor hc hc'
  have h3 := rank_add w' s (by rw [hl]; exact hc') (by rw [hl]; exact hs)
  rw [hl] at h3
  omega

/-- a flagged record that get_user_command looks at without handing out a command: first_cmd_in_buf has moved
    `text_start` over the leading NULs, CMD_IN_BUF stays exactly when a complete command is there -/
def skim (us : U) : U := { us with buf := dropNul us.buf, cmdInBuf := hasCmd us.single us.buf }

/-- the record a command was taken from: turn used up, next_cmd_in_buf has stepped over the command and the NULs
    behind it, CMD_IN_BUF recomputed -/
def servedU (us : U) : U :=
  { us with turn := false, buf := nextCmd (dropNul us.buf), cmdInBuf := hasCmd us.single (nextCmd (dropNul us.buf)) }

/-- `b` is `a` after any number of unsuccessful looks -/
def Touched (a b : U) : Prop := b = a ∨ (a.cmdInBuf = true ∧ b = skim a)

theorem skim_skim (a : U) : skim (skim a) = skim a := by
  simp only [skim, dropNul_idem, hasCmd_dropNul]

theorem Touched.refl (a : U) : Touched a a := Or.inl rfl

theorem Touched.trans {a b c : U} (h1 : Touched a b) (h2 : Touched b c) : Touched a c := by
  rcases h1 with rfl | ⟨ha, rfl⟩
  · exact h2
  · rcases h2 with rfl | ⟨_, rfl⟩
    · exact Or.inr ⟨ha, rfl⟩
    · exact Or.inr ⟨ha, skim_skim a⟩

/-- looks change neither turn nor mode nor the pending call, never set CMD_IN_BUF, and leave the same commands in
    the buffer -/
structure SameCmds (a b : U) : Prop where
  turn : b.turn = a.turn
  single : b.single = a.single
  inputTo : b.inputTo = a.inputTo
  flag : b.cmdInBuf = true → a.cmdInBuf = true
  cmd : firstCmd b.single b.buf = firstCmd a.single a.buf
  skimmed : skim b = skim a

theorem Touched.same {a b : U} (h : Touched a b) : SameCmds a b := by
  rcases h with rfl | ⟨ha, rfl⟩
  · exact ⟨rfl, rfl, rfl, id, rfl, rfl⟩
  · exact ⟨rfl, rfl, rfl, fun _ => ha, firstCmd_dropNul _ _, skim_skim a⟩

theorem Touched.buf {a b : U} (h : Touched a b) : b.buf = a.buf ∨ b.buf = dropNul a.buf := by
  rcases h with rfl | ⟨_, rfl⟩
  · exact Or.inl rfl
  · exact Or.inr rfl

theorem Touched.ready_eq {w w' : World} {x : Nat} (h : Touched (w.users.get x) (w'.users.get x)) :
    ready w' x = ready w x := by
  unfold ready turnOf
  rcases h with h | ⟨ha, h⟩
  · rw [h]
  · rw [h, ha]; simp only [skim, hasCmd_dropNul, Bool.true_and, Bool.and_self]

theorem skim_of_cmd (us : U) (t : List Char) (hc : us.cmdInBuf = true) (ht : (firstCmd us.single us.buf).2 = some t) :
    { us with buf := (firstCmd us.single us.buf).1 } = skim us := by
  have hh : hasCmd us.single us.buf = true := by rw [hasCmd, ht]; rfl
  rw [skim, hh, firstCmd_fst_dropNul, ← hc]

theorem skim_of_none (us : U) (ht : (firstCmd us.single us.buf).2 = none) :
    { us with buf := (firstCmd us.single us.buf).1, cmdInBuf := false } = skim us := by
  have hh : hasCmd us.single us.buf = false := by rw [hasCmd, ht]; rfl
  rw [skim, hh, firstCmd_fst_dropNul]

/-- get_user_command writes user records, the cursor and (outside the table) the crash flag; the rest stays -/
structure TableKept (w w' : World) : Prop where
  slots : w'.slots = w.slots
  net : w'.net = w.net
  naccepted : w'.naccepted = w.naccepted
  dead : w'.dead = w.dead
  thrown : w'.thrown = w.thrown
  overflow : w'.overflow = w.overflow

theorem TableKept.refl (w : World) : TableKept w w := ⟨rfl, rfl, rfl, rfl, rfl, rfl⟩

theorem TableKept.trans {a b c : World} (h1 : TableKept a b) (h2 : TableKept b c) : TableKept a c :=
  ⟨h2.slots.trans h1.slots, h2.net.trans h1.net, h2.naccepted.trans h1.naccepted, h2.dead.trans h1.dead,
   h2.thrown.trans h1.thrown, h2.overflow.trans h1.overflow⟩

theorem decCursor_kept (w : World) : TableKept w (decCursor w) := ⟨rfl, rfl, rfl, rfl, rfl, rfl⟩

theorem scanStep_crash (w : World) (h : scanStep w = .crash) : w.slots.length ≤ w.cursor := by
  unfold scanStep at h
  split at h
  · rename_i hh
    simpa [List.getElem?_eq_none_iff] using hh
  · cases h
  · dsimp only at h
    split at h
    · split at h
      · split at h <;> cases h
      · cases h
    · cases h

/-- the slot is passed over: its user, if any, is not ready and its record is at most skimmed -/
structure ScanNext (w w' : World) : Prop where
  world : w' = w ∨ ∃ u, w' = { w with users := upd w.users u (skim (w.users.get u)) }
  kept : TableKept w w'
  cursor : w'.cursor = w.cursor
  crashed : w'.crashed = w.crashed
  touched : ∀ y, Touched (w.users.get y) (w'.users.get y)
  notReady : ∀ u, At w w.cursor u → ready w u = false

theorem scanStep_next (w w' : World) (h : scanStep w = .next w') : ScanNext w w' := by
  unfold scanStep at h
  split at h
  · cases h
  · rename_i hs
    cases h
    exact ⟨.inl rfl, .refl w, rfl, rfl, fun _ => .refl _, fun u hu => by rw [At, hs] at hu; cases hu⟩
  · rename_i u hs
    have hat : ∀ v, At w w.cursor v → ready w u = false → ready w v = false := by
      intro v hv hr; rw [At, hs] at hv; cases hv; exact hr
    -- the two ways a flagged record is passed over: no turn, or nothing complete
    have fin : ∀ X : U, X = skim (w.users.get u) → (w.users.get u).cmdInBuf = true → ready w u = false →
        w' = { w with users := upd w.users u X } → ScanNext w w' := by
      intro X hX hc hr hw
      subst hw hX
      refine ⟨.inr ⟨u, rfl⟩, ⟨rfl, rfl, rfl, rfl, rfl, rfl⟩, rfl, rfl, fun y => ?_, fun v hv => hat v hv hr⟩
      simp only [get_upd]
      split
      · rename_i hy; subst hy; exact Or.inr ⟨hc, rfl⟩
      · exact .refl _
    dsimp only at h
    split at h
    · rename_i hc
      split at h
      · rename_i t ht
        split at h
        · cases h
        · rename_i hturn
          cases h
          exact fin _ (skim_of_cmd _ t hc ht) hc (by simp [ready, turnOf, hturn]) rfl
      · rename_i ht
        cases h
        exact fin _ (skim_of_none _ ht) hc (by simp [ready, hasCmd, ht]) rfl
    · rename_i hc
      cases h
      exact ⟨.inl rfl, .refl w, rfl, rfl, fun _ => .refl _, fun v hv => hat v hv (by simp [ready, hc])⟩

/-- the slot holds a user with a turn and a complete flagged command: `break` with the cursor on it -/
structure ScanFound (w w' : World) (u : Nat) (t : List Char) : Prop where
  world : w' = { w with users := upd w.users u { skim (w.users.get u) with turn := false } }
  kept : TableKept w w'
  cursor : w'.cursor = w.cursor
  crashed : w'.crashed = w.crashed
  slot : At w w.cursor u
  cmd : (firstCmd (w.users.get u).single (w.users.get u).buf).2 = some t
  turn : (w.users.get u).turn = true
  flag : (w.users.get u).cmdInBuf = true
  record : w'.users.get u = { skim (w.users.get u) with turn := false }
  others : ∀ y, y ≠ u → w'.users.get y = w.users.get y

theorem scanStep_found (w w' : World) (u : Nat) (t : List Char) (h : scanStep w = .found w' u t) :
    ScanFound w w' u t := by
  unfold scanStep at h
  split at h
  · cases h
  · cases h
  · rename_i v hs
    dsimp only at h
    split at h
    · rename_i hc
      split at h
      · rename_i t' ht
        split at h
        · rename_i hturn
          cases h
          refine ⟨by rw [← skim_of_cmd _ t hc ht], ⟨rfl, rfl, rfl, rfl, rfl, rfl⟩, rfl, rfl, hs, ht, hturn, hc, ?_,
            fun y hy => by simp [hy]⟩
          simp only [get_upd, if_true, ← skim_of_cmd _ t hc ht]
        · cases h
      · cases h
    · cases h

theorem scan_kept (n : Nat) (w : World) : TableKept w (scan n w).1 := by
  induction n generalizing w with
  | zero => exact .refl w
  | succ n ih =>
    unfold scan
    cases hstep : scanStep w with
    | crash => exact ⟨rfl, rfl, rfl, rfl, rfl, rfl⟩
    | found w' u t => exact (scanStep_found w w' u t hstep).kept
    | next w' => exact (scanStep_next w w' hstep).kept.trans ((decCursor_kept w').trans (ih (decCursor w')))

theorem Safe.cursor_lt {w : World} (hs : Safe w) (hpos : 0 < w.slots.length) : w.cursor < w.slots.length := by
  rcases hs.2 with h | h
  · exact h
  · omega

/-- user `x` is handed the command `t` on the way from `w` to `w'`: he sat in the table, held a turn and a flagged
    complete command; his record becomes `r`, the other records are at most skimmed -/
structure Handed (w w' : World) (x : Nat) (t : List Char) (r : U) : Prop where
  interactive : w.interactive x = true
  cmd : (firstCmd (w.users.get x).single (w.users.get x).buf).2 = some t
  turn : (w.users.get x).turn = true
  flag : (w.users.get x).cmdInBuf = true
  record : w'.users.get x = r
  others : ∀ y, y ≠ x → Touched (w.users.get y) (w'.users.get y)

/-- **the scan and the records**: a user who is handed out held a turn and a flagged complete command and loses the
    turn; every other record is at most skimmed (no assumption on the cursor: a crash leaves the records alone) -/
theorem scan_records (n : Nat) (w : World) :
    match (scan n w).2 with
    | none => ∀ y, Touched (w.users.get y) ((scan n w).1.users.get y)
    | some (x, t) => Handed w (scan n w).1 x t { skim (w.users.get x) with turn := false } := by
  induction n generalizing w with
  | zero => exact fun _ => .refl _
  | succ n ih =>
    unfold scan
    cases hstep : scanStep w with
    | crash => exact fun _ => .refl _
    | found w' u t =>
      have f := scanStep_found w w' u t hstep
      exact ⟨At_interactive w _ u f.slot, f.cmd, f.turn, f.flag, f.record, fun y hy => .inl (f.others y hy)⟩
    | next w' =>
      have nx := scanStep_next w w' hstep
      have i := ih (decCursor w')
      dsimp only
      cases hres : (scan n (decCursor w')).2 with
      | none => rw [hres] at i; exact fun y => (nx.touched y).trans (i y)
      | some p =>
        obtain ⟨x, t⟩ := p
        rw [hres] at i
        have hx : SameCmds (w.users.get x) ((decCursor w').users.get x) := (nx.touched x).same
        exact ⟨(interactive_congr (w' := decCursor w') nx.kept.slots x).symm.trans i.interactive, hx.cmd ▸ i.cmd,
          hx.turn ▸ i.turn, hx.flag i.flag, hx.skimmed ▸ i.record, fun y hy => (nx.touched y).trans (i.others y hy)⟩

/-- **the scan and the walk**, `n` slots from the cursor downwards (wrapping): the cursor stays inside the table;
    nothing found - every slot looked at holds nobody ready; user `x` found - the cursor stands on his slot and the
    slots passed over on the way hold nobody ready -/
theorem scan_walk (n : Nat) (w : World) (hs : Safe w) (hn : n = 0 ∨ 0 < w.slots.length) :
    Safe (scan n w).1 ∧
      match (scan n w).2 with
      | none => ∀ s u, At w s u → rank w s < n → ready w u = false
      | some (x, _) => At w (scan n w).1.cursor x ∧ rank w (scan n w).1.cursor < n ∧
          ∀ s u, At w s u → rank w s < rank w (scan n w).1.cursor → ready w u = false := by
  induction n generalizing w with
  | zero => exact ⟨hs, fun _ _ _ h => by omega⟩
  | succ n ih =>
    have hpos : 0 < w.slots.length := by omega
    have hcur := hs.cursor_lt hpos
    unfold scan
    cases hstep : scanStep w with
    | crash => have := scanStep_crash w hstep; omega
    | found w' u t =>
      have f := scanStep_found w w' u t hstep
      refine ⟨⟨by rw [f.crashed]; exact hs.1, by rw [f.kept.slots, f.cursor]; exact hs.2⟩, ?_⟩
      dsimp only
      rw [f.cursor, rank_cursor]
      exact ⟨f.slot, Nat.succ_pos n, fun _ _ _ h => by omega⟩
    | next w' =>
      have nx := scanStep_next w w' hstep
      have hlen : (decCursor w').slots.length = w.slots.length := by rw [decCursor_slots, nx.kept.slots]
      have hsd : Safe (decCursor w') :=
        decCursor_safe w' ⟨by rw [nx.crashed]; exact hs.1, by rw [nx.kept.slots, nx.cursor]; exact hs.2⟩
          (by rw [nx.kept.slots]; exact hpos)
      -- slots, ranks and readiness of the rest of the walk, in terms of `w`
      have hAt : ∀ s u, At (decCursor w') s u ↔ At w s u := fun s u => At_congr (w' := decCursor w') nx.kept.slots s u
      have hrk : ∀ s, s < w.slots.length →
          rank (decCursor w') s = (if s = w.cursor then w.slots.length - 1 else rank w s - 1) ∧
            (s ≠ w.cursor → 1 ≤ rank w s) := by
        intro s hsl
        have := rank_dec w' s (by rw [nx.kept.slots, nx.cursor]; exact hcur) (by rw [nx.kept.slots]; exact hsl)
        rwa [rank_congr w w' nx.cursor (by rw [nx.kept.slots]), nx.kept.slots, nx.cursor] at this
      have hrd : ∀ u, ready (decCursor w') u = ready w u := fun u => (nx.touched u).ready_eq
      obtain ⟨i1, i2⟩ := ih (decCursor w') hsd (Or.inr (by rw [hlen]; exact hpos))
      refine ⟨i1, ?_⟩
      dsimp only
      cases hres : (scan n (decCursor w')).2 with
      | none =>
        rw [hres] at i2
        intro s u hsu hr
        by_cases hsc : s = w.cursor
        · exact nx.notReady u (hsc ▸ hsu)
        · obtain ⟨r1, r2⟩ := hrk s (At_lt w s u hsu)
          rw [← hrd u]
          refine i2 s u ((hAt s u).mpr hsu) ?_
          rw [r1, if_neg hsc]; have := r2 hsc; omega
      | some p =>
        obtain ⟨x, t⟩ := p
        rw [hres] at i2
        obtain ⟨j1, j2, j8⟩ := i2
        have j1' := (hAt _ x).mp j1
        obtain ⟨c1, c2⟩ := hrk _ (At_lt w _ x j1')
        refine ⟨j1', ?_, fun s u hsu hr => ?_⟩
        · rw [c1] at j2; split at j2
          · rename_i hh; rw [hh, rank_cursor]; exact Nat.succ_pos n
          · omega
        · by_cases hsc : s = w.cursor
          · exact nx.notReady u (hsc ▸ hsu)
          · obtain ⟨r1, r2⟩ := hrk s (At_lt w s u hsu)
            rw [← hrd u]
            refine j8 s u ((hAt s u).mpr hsu) ?_
            rw [r1, c1, if_neg hsc]
            have := r2 hsc
            split
            · rename_i hh; rw [hh, rank_cursor] at hr; omega
            · omega

/-- the whole scan: table untouched, invariant kept, turns only cleared -/
theorem scan_spec (n : Nat) (w : World) (hs : Safe w) (hn : n = 0 ∨ 0 < w.slots.length) :
    (scan n w).1.slots = w.slots ∧ Safe (scan n w).1 ∧
      (∀ x, turnOf (scan n w).1 x = (match (scan n w).2 with
                                       | some (u, _) => if x = u then false else turnOf w x
                                       | none => turnOf w x)) ∧
      (∀ u t, (scan n w).2 = some (u, t) → turnOf w u = true) := by
  have h2 := scan_records n w
  refine ⟨(scan_kept n w).slots, (scan_walk n w hs hn).1, ?_⟩
  cases hres : (scan n w).2 with
  | none =>
    rw [hres] at h2
    exact ⟨fun x => (h2 x).same.turn, fun _ _ h => by cases h⟩
  | some p =>
    obtain ⟨u, t⟩ := p
    rw [hres] at h2
    refine ⟨fun x => ?_, fun u' t' h => by cases h; exact h2.turn⟩
    dsimp only
    split
    · rename_i hx; rw [hx, turnOf, h2.record]
    · rename_i hx; exact (h2.others x hx).same.turn

theorem guc_kept (w : World) : TableKept w (getUserCommand w).1 := by
  have h := scan_kept (NV.Gen.C12.scanLength w.slots.length) w
  unfold getUserCommand
  cases hsc : scan (NV.Gen.C12.scanLength w.slots.length) w with
  | mk w1 r =>
    rw [hsc] at h
    cases r with
    | none => exact h
    | some p => exact ⟨h.slots, h.net, h.naccepted, h.dead, h.thrown, h.overflow⟩

/-- "no command": records are at most skimmed -/
theorem guc_none_records (w : World) (h : (getUserCommand w).2 = none) :
    ∀ y, Touched (w.users.get y) ((getUserCommand w).1.users.get y) := by
  have hc := scan_records (NV.Gen.C12.scanLength w.slots.length) w
  unfold getUserCommand at h ⊢
  cases hsc : scan (NV.Gen.C12.scanLength w.slots.length) w with
  | mk w1 r =>
    rw [hsc] at hc h
    cases r with
    | some p => cases h
    | none => exact hc

/-- get_user_command returns `t` for user `x`: it is the command `t0` he is handed, cleaned of telnet negotiations,
    and his record is `servedU` -/
theorem guc_some_records (w : World) (x : Nat) (t : List Char) (h : (getUserCommand w).2 = some (x, t)) :
    ∃ t0, t = telnetNeg t0 ∧ Handed w (getUserCommand w).1 x t0 (servedU (w.users.get x)) := by
  have hc := scan_records (NV.Gen.C12.scanLength w.slots.length) w
  unfold getUserCommand at h ⊢
  cases hsc : scan (NV.Gen.C12.scanLength w.slots.length) w with
  | mk w1 r =>
    rw [hsc] at hc h
    cases r with
    | none => cases h
    | some p =>
      obtain ⟨u, t0⟩ := p
      dsimp only at hc
      simp only [Option.some.injEq, Prod.mk.injEq] at h
      obtain ⟨rfl, rfl⟩ := h
      refine ⟨t0, rfl, hc.interactive, hc.cmd, hc.turn, hc.flag, ?_, fun y hy => ?_⟩
      · have hh : hasCmd (w.users.get u).single (w.users.get u).buf = true := by rw [hasCmd, hc.cmd]; rfl
        simp only [decCursor_users, get_upd, if_true, hc.record, skim, servedU, hh, Bool.true_and]
      · simp only [decCursor_users, get_upd, hy, if_false]; exact hc.others y hy

/-- the scan leaves the cursor inside the table, and so does the step past the user it found (who sits in the table,
    so the table is not empty) -/
theorem guc_safe (w : World) (hs : Safe w) : Safe (getUserCommand w).1 := by
  have hc := scan_walk w.slots.length w hs (by omega)
  have hk := scan_kept w.slots.length w
  unfold getUserCommand
  rw [scanLength_spec]
  cases hsc : scan w.slots.length w with
  | mk w1 r =>
    rw [hsc] at hc hk
    cases r with
    | none => exact hc.1
    | some p =>
      have hat : At w w1.cursor p.1 := hc.2.1
      exact decCursor_safe _ hc.1 (by have := At_lt w _ _ hat; rw [hk.slots]; omega)

/-- **"no command"**: the scan has looked at every slot, so nobody in the table is eligible -/
theorem guc_none (w : World) (hs : Safe w) (h : (getUserCommand w).2 = none) : ∀ u, elig w u = false := by
  have hc := scan_walk w.slots.length w hs (by omega)
  unfold getUserCommand at h
  rw [scanLength_spec] at h
  cases hsc : scan w.slots.length w with
  | mk w1 r =>
    rw [hsc] at hc h
    cases r with
    | some p => cases h
    | none =>
      intro u
      cases hi : w.interactive u with
      | false => simp [elig, hi]
      | true =>
        obtain ⟨s, hsu⟩ := interactive_At w u hi
        have hl := At_lt w s u hsu
        rw [elig, hi, hc.2 s u hsu (rank_lt w s (hs.cursor_lt (by omega)) hl)]; rfl

/-- **a command is handed out**: the user sat in slot `c`, the cursor now stands one step past it, and the slots
    passed over on the way hold nobody ready -/
theorem guc_some (w : World) (hs : Safe w) (x : Nat) (t : List Char) (h : (getUserCommand w).2 = some (x, t)) :
    ∃ c, At w c x ∧ (getUserCommand w).1.cursor = NV.Gen.C12.cursorNext c w.slots.length ∧
      ∀ s u, At w s u → rank w s < rank w c → ready w u = false := by
  have hc := scan_walk w.slots.length w hs (by omega)
  have hk := scan_kept w.slots.length w
  unfold getUserCommand at h ⊢
  rw [scanLength_spec] at h ⊢
  cases hsc : scan w.slots.length w with
  | mk w1 r =>
    rw [hsc] at hc h hk
    cases r with
    | none => cases h
    | some p =>
      obtain ⟨u, t0⟩ := p
      dsimp only at hc hk
      obtain ⟨_, h2, _, h9⟩ := hc
      simp only [Option.some.injEq, Prod.mk.injEq] at h
      obtain ⟨rfl, rfl⟩ := h
      exact ⟨w1.cursor, h2, by rw [← hk.slots]; rfl, h9⟩

end NV.C12
