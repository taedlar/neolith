/-
C12 — the liveness oracle's notion of a live user (logged on, not kicked / dropped,
client has not closed) against the connection table of the model, through scripts, process_user_command, the command
loop, accept and get_user_data (`LiveOK`).
-/
import NV.C12.LiveOracle
import NV.C12.Io

namespace NV.C12

/-- users the oracle considers live sit in the connection table and their client has not closed -/
def LiveOK (js : JState) (w : World) : Prop :=
  ∀ u, live (js.us.get u) = true → w.interactive u = true ∧ (w.net.get u).eof = false

theorem LiveOK_congr (js js' : JState) (w w' : World) (h : LiveOK js w)
    (hl : ∀ u, live (js'.us.get u) = true → live (js.us.get u) = true)
    (hs : w'.slots = w.slots) (hn : ∀ u, (w'.net.get u).eof = (w.net.get u).eof) : LiveOK js' w' := by
  intro u hu
  obtain ⟨h1, h2⟩ := h u (hl u hu)
  exact ⟨(interactive_congr hs u).trans h1, by rw [hn u]; exact h2⟩

/-- a user leaves the table (kick / drop) and the oracle is told -/
theorem LiveOK_remove (js : JState) (w w' : World) (t : Nat) (h : LiveOK js w)
    (hs : w'.slots = removeUser w.slots t) (hn : w'.net = w.net) :
    LiveOK { js with us := upd js.us t { js.us.get t with connected := false } } w' := by
  intro u hu
  simp only [get_upd] at hu
  split at hu
  · simp [live] at hu
  · rename_i hne
    obtain ⟨h1, h2⟩ := h u hu
    refine ⟨?_, by rw [hn]; exact h2⟩
    simp only [World.interactive] at h1 ⊢
    rw [hs, removeUser_contains, h1]
    simp [hne]

theorem LiveOK_runOps (sc : Scripts) (f : Nat) (w : World) (me : Nat) (ops : List Op) (js : JState) (h : LiveOK js w) :
    LiveOK ((runOps sc f w me ops).2.foldl judgeStep js) (runOps sc f w me ops).1 := by
  apply runOps_sim judgeStep (fun s w => LiveOK s w)
  · intro s w me t hh
    cases ha : w.alive t with
    | true => exact LiveOK_remove s w _ t hh rfl rfl
    | false => exact hh
  · intro s w me t hh
    cases ha : (w.alive t && w.interactive t) with
    | true => simp only [if_true]; exact LiveOK_remove s w _ t hh rfl rfl
    | false => exact hh
  · intro s w me hh
    have k := setCall_kept w me true
    cases hr : (setCall w me true).2 with
    | true =>
      apply LiveOK_congr s _ w _ hh ?_ k.slots (fun u => by rw [k.net])
      intro u hu
      simp only [judgeStep, get_upd] at hu
      split at hu
      · rename_i hx; subst hx; exact hu
      · exact hu
    | false => exact LiveOK_congr s _ w _ hh (fun u hu => hu) k.slots (fun u => by rw [k.net])
  · intro s w me hh
    have k := setCall_kept w me false
    exact LiveOK_congr s _ w _ hh (fun u hu => hu) k.slots (fun u => by rw [k.net])
  · intro s w me t x hh; exact hh
  · intro s w me t x hh; exact hh
  · intro s w me hh; exact LiveOK_congr s _ w _ hh (fun u hu => hu) rfl (fun u => rfl)
  · intro s w me hh; exact hh
  · exact h

/-- user `x` is handed a command: the table and the sockets stay, and `cmd x` revives nobody -/
theorem LiveOK_serve (w : World) (js : JState) (h : LiveOK js w) (x : Nat) (t : List Char) :
    LiveOK (judgeStep js (.cmd x t)) (afterInput (getUserCommand w).1 x) := by
  apply LiveOK_congr js _ w _ h ?_ (serve_kept w x).slots (fun u => by rw [(serve_kept w x).net])
  intro u hu
  simp only [judgeStep, get_upd] at hu
  split at hu
  · rename_i hxu; subst hxu; exact hu
  · exact hu

theorem LiveOK_puc (sc : Scripts) (w : World) (js : JState) (h : LiveOK js w) :
    LiveOK ((processUserCommand sc w).2.1.foldl judgeStep js) (processUserCommand sc w).1 := by
  rcases puc_cases sc w with ⟨_, e⟩ | ⟨_, ⟨_, e⟩ | ⟨x, t, _, e⟩⟩ <;> rw [e]
  · exact h
  · exact LiveOK_congr js _ w _ h (fun u hu => hu) (guc_kept w).slots (fun u => by rw [(guc_kept w).net])
  · rw [List.foldl_cons]
    exact LiveOK_runOps sc _ _ x _ _ (LiveOK_serve w js h x t)

theorem LiveOK_cmdLoop (sc : Scripts) (k : Nat) (w : World) (js : JState) (h : LiveOK js w) :
    LiveOK ((cmdLoop sc k w).2.foldl judgeStep js) (cmdLoop sc k w).1 :=
  cmdLoop_sim sc judgeStep LiveOK (fun js w h => LiveOK_puc sc w js h) k w js h

theorem LiveOK_userIO (js : JState) (w : World) (u : Nat) (h : LiveOK js w) : LiveOK js (userIO w u) := by
  have heof := (userIO_kept w u).eof
  rcases userIO_cases w u with ⟨_, e⟩ | ⟨_, _, e⟩ | ⟨_, _, he, e⟩ | ⟨_, _, e⟩
  · exact LiveOK_congr js js w _ h (fun _ hu => hu) (by rw [e]) heof
  · exact LiveOK_congr js js w _ h (fun _ hu => hu) (by rw [e]) heof
  · -- EOF: the user leaves the table, and the oracle does not consider him live (his client has closed)
    rw [e]
    intro x hx
    obtain ⟨h1, h2⟩ := h x hx
    have hne : x ≠ u := by
      intro hxu; subst hxu; rw [he] at h2; cases h2
    refine ⟨?_, h2⟩
    simp only [World.interactive] at h1 ⊢
    rw [removeUser_contains, h1]; simp [hne]
  · rw [e]; exact h

/-- process_io: the accepted user (logon event) is live and in the table; live users stay -/
theorem LiveOK_processIO (js : JState) (w : World) (h : LiveOK js w)
    (hnew : (w.net.get (w.naccepted + 1)).eof = false) :
    LiveOK ((processIO w).2.foldl judgeStep js) (processIO w).1 := by
  rw [processIO_eq]
  split
  · refine foldl_userIO_ind (LiveOK _) (LiveOK_userIO _) _ _ fun u hu => ?_
    simp only [List.foldl_cons, List.foldl_nil, judgeStep, get_upd] at hu
    split at hu
    · rename_i hx; subst hx
      exact ⟨accept_interactive_self w _, hnew⟩
    · obtain ⟨h1, h2⟩ := h u hu
      exact ⟨accept_interactive w _ u h1, h2⟩
  · exact foldl_userIO_ind (LiveOK js) (LiveOK_userIO js) _ w h

end NV.C12
