/-
C12 — clause `overtaken`: the invariant `OB` through process_io (accept with table growth, EOF removals), over one
iteration (`OB_cycle`), over the restarts, over harness actions and histories; `judgeOrder_events` and the top theorem
`model_satisfies_spec`.
-/
import NV.C12.OrderLoop
import NV.C12.Live

namespace NV.C12


theorem cplO_fold_nocmd (l : List Ev) (hl : ∀ u t, Ev.cmd u t ∉ l) (js : JState) (os : OState) (h : CplO js os) :
    CplO (l.foldl judgeStep js) (l.foldl orderStep os) := by
  induction l generalizing js os with
  | nil => exact h
  | cons e r ih =>
    rw [List.foldl_cons, List.foldl_cons]
    apply ih (fun u t hm => hl u t (List.mem_cons_of_mem _ hm))
    exact cplO_step js os e h (fun u t heq => absurd (by rw [heq]; exact List.mem_cons_self) (hl u t))

theorem ologon_get (os : OState) (k v : Nat) :
    (orderStep os (.logon k)).us.get v = if v = k then { connected := true } else os.us.get v := by
  simp only [orderStep, get_upd]

/-- the user who logs on does not wait; who waits afterwards waited before -/
theorem Wo_logon (os : OState) (k v : Nat) (hw : Wo (orderStep os (.logon k)) v) : v ≠ k ∧ Wo os v := by
  obtain ⟨hw1, hw2⟩ := hw
  rw [ologon_get] at hw1 hw2
  split at hw1
  · cases hw1
  · rename_i hne
    simp only [hne, if_false] at hw2
    exact ⟨hne, hw1, hw2⟩

/-- the accepted connection gets the next number, which nobody in the table has, and a free slot -/
theorem accept_TableOK (w : World) (htab : TableOK w) : TableOK (accept w (w.naccepted + 1)) := by
  constructor
  · intro i j u hi hj
    rcases (accept_At w _ i u).mp hi with ⟨hi1, hi2⟩ | ⟨hi1, hi2⟩ <;>
    rcases (accept_At w _ j u).mp hj with ⟨hj1, hj2⟩ | ⟨hj1, hj2⟩
    · rw [hi1, hj1]
    · exact absurd (hi2 ▸ (htab.acc j u hj1).2) (Nat.not_succ_le_self _)
    · exact absurd (hj2 ▸ (htab.acc i u hi1).2) (Nat.not_succ_le_self _)
    · exact htab.uniq i j u hi1 hj1
  · intro i u hi
    show _ ∧ u ≤ w.naccepted + 1
    rcases (accept_At w _ i u).mp hi with ⟨_, hi2⟩ | ⟨hi1, _⟩
    · rw [hi2]; exact ⟨Nat.succ_pos _, Nat.le_refl _⟩
    · exact ⟨(htab.acc i u hi1).1, Nat.le_succ_of_le (htab.acc i u hi1).2⟩

/-- the new user neither waits nor was served while anybody waited, everybody else sits where he sat, and a table
    that grows at its end keeps the order of the walk (`rank_grow_lt`) -/
theorem accept_OrdO (os : OState) (w : World) (hsafe : Safe w) (hord : OrdO os w)
    (hpacc : ∀ v u, u ∈ (os.us.get v).passed → u ≤ w.naccepted) :
    OrdO (orderStep os (.logon (w.naccepted + 1))) (accept w (w.naccepted + 1)) := by
  obtain ⟨d, hlen⟩ := accept_length w (w.naccepted + 1)
  intro i j v u hi hj hw hp
  obtain ⟨hvk, hWv⟩ := Wo_logon os _ v hw
  have hp0 : u ∈ (os.us.get v).passed := by
    have : u ∈ ((orderStep os (.logon (w.naccepted + 1))).us.get v).passed := hp
    rw [ologon_get] at this; simp only [hvk, if_false] at this; exact this
  have huk : u ≠ w.naccepted + 1 := fun hh => absurd (hh ▸ hpacc v u hp0) (Nat.not_succ_le_self _)
  have hi0 : At w i v := by
    rcases (accept_At w _ i v).mp hi with ⟨_, h2⟩ | ⟨h1, _⟩
    · exact absurd h2 hvk
    · exact h1
  have hj0 : At w j u := by
    rcases (accept_At w _ j u).mp hj with ⟨_, h2⟩ | ⟨h1, _⟩
    · exact absurd h2 huk
    · exact h1
  have hil := At_lt w i v hi0
  exact rank_grow_lt w _ i j d rfl hlen (hsafe.cursor_lt (Nat.lt_of_le_of_lt (Nat.zero_le _) hil)) hil
    (At_lt w j u hj0) (hord i j v u hi0 hj0 hWv hp0)

/-- the part of `OB` that talks about table and cursor, through process_io (with its logon event) -/
theorem processIO_OB (os : OState) (w : World) (hsafe : Safe w) (htab : TableOK w) (hord : OrdO os w)
    (hnoid : ∀ v, v ∉ os.ids → (os.us.get v).waiting = false)
    (hpacc : ∀ v u, u ∈ (os.us.get v).passed → u ≤ w.naccepted) (hidacc : ∀ v, v ∈ os.ids → v ≤ w.naccepted) :
    OrdO ((processIO w).2.foldl orderStep os) (processIO w).1 ∧ TableOK (processIO w).1 ∧
    (∀ v, v ∉ ((processIO w).2.foldl orderStep os).ids → (((processIO w).2.foldl orderStep os).us.get v).waiting = false) ∧
    (∀ v u, u ∈ (((processIO w).2.foldl orderStep os).us.get v).passed → u ≤ (processIO w).1.naccepted) ∧
    (∀ v, v ∈ ((processIO w).2.foldl orderStep os).ids → v ≤ (processIO w).1.naccepted) ∧
    ((processIO w).2.foldl orderStep os).bad = os.bad ∧
    (∀ v, Wo ((processIO w).2.foldl orderStep os) v → Wo os v) := by
  generalize hp : processIO w = p
  rw [processIO_eq] at hp
  split at hp <;> subst hp
  · -- a connection is accepted (`accept_OrdO`, `accept_TableOK`); the reads only take entries out of the table
    have f := foldl_userIO_kept (w.slots.filterMap id) (accept w (w.naccepted + 1))
    have l3 : (accept w (w.naccepted + 1)).naccepted = w.naccepted + 1 := rfl
    simp only [List.foldl_cons, List.foldl_nil]
    refine ⟨?_, ?_, ?_, ?_, ?_, rfl, fun v hw => (Wo_logon os _ v hw).2⟩
    · exact OrdO_mono' _ _ _ _ f.table f.cursor f.length (fun v u h1 h2 => ⟨h1, h2⟩) (accept_OrdO os w hsafe hord hpacc)
    · exact TableOK_mono _ _ f.table (by rw [f.naccepted]; exact Nat.le_refl _) (accept_TableOK w htab)
    · intro v hv
      have hv' : v ∉ (w.naccepted + 1) :: os.ids := hv
      simp only [List.mem_cons, not_or] at hv'
      rw [ologon_get]; simp only [hv'.1, if_false]
      exact hnoid v hv'.2
    · intro v u hu
      rw [f.naccepted, l3]
      rw [ologon_get] at hu
      split at hu
      · cases hu
      · exact Nat.le_succ_of_le (hpacc v u hu)
    · intro v hv
      rw [f.naccepted, l3]
      have hv' : v ∈ (w.naccepted + 1) :: os.ids := hv
      rcases List.mem_cons.mp hv' with hh | hh
      · exact Nat.le_of_eq hh
      · exact Nat.le_succ_of_le (hidacc v hh)
  · have f := foldl_userIO_kept (w.slots.filterMap id) w
    refine ⟨OrdO_mono' _ _ _ _ f.table f.cursor f.length (fun v u h1 h2 => ⟨h1, h2⟩) hord,
      TableOK_mono _ _ f.table (by rw [f.naccepted]; exact Nat.le_refl _) htab, hnoid,
      fun v u hu => by rw [f.naccepted]; exact hpacc v u hu, fun v hv => by rw [f.naccepted]; exact hidacc v hv, rfl, fun _ h => h⟩

/-- `v` waits after `begin n`: he is connected with a complete command pending, and whom he has seen served he had
    seen before, waiting then already -/
structure WaitsAtBegin (os : OState) (n v : Nat) : Prop where
  live : oLive (os.us.get v) = true
  complete : complete (os.us.get v).charMode (os.us.get v).pending = true
  seen : ∀ u, Pdo (orderStep os (.begin n)) v u → Wo os v ∧ Pdo os v u

theorem Wo_begin (os : OState) (n v : Nat) (hnoid : ∀ v, v ∉ os.ids → (os.us.get v).waiting = false)
    (h : Wo (orderStep os (.begin n)) v) : WaitsAtBegin os n v := by
  suffices hh : oLive (os.us.get v) = true ∧ complete (os.us.get v).charMode (os.us.get v).pending = true ∧
      ∀ u, Pdo (orderStep os (.begin n)) v u → Wo os v ∧ Pdo os v u from
    let ⟨hl, hc, hs⟩ := hh; ⟨hl, hc, hs⟩
  obtain ⟨h1, h2⟩ := h
  unfold Pdo
  rw [obegin_get] at h1 h2 ⊢
  by_cases hm : v ∈ os.ids
  · simp only [hm, if_true] at h1 h2 ⊢
    unfold obeginU at h1 h2 ⊢
    by_cases hc : (oLive (os.us.get v) && complete (os.us.get v).charMode (os.us.get v).pending) = true
    · simp only [hc, if_true] at h1 h2 ⊢
      have hc' := hc
      simp only [Bool.and_eq_true] at hc'
      refine ⟨hc'.1, hc'.2, ?_⟩
      by_cases hw : (os.us.get v).waiting = true
      · simp only [hw, if_true]
        intro u hu; exact ⟨⟨hw, hc'.1⟩, hu⟩
      · simp only [hw, Bool.false_eq_true, if_false]
        intro u hu; cases hu
    · simp only [hc, Bool.false_eq_true, if_false] at h1
  · simp only [hm, if_false] at h1
    rw [hnoid v hm] at h1; cases h1


theorem obeginU_passed_sub (j : OU) (u : Nat) (h : u ∈ (obeginU j).passed) : u ∈ j.passed := by
  unfold obeginU at h
  split at h
  · split at h
    · exact h
    · cases h
  · cases h

theorem OB_cycle (sc : Scripts) (fs : FState) (js : JState) (os : OState) (w : World) (hb : B fs js w)
    (h : OB js os w) (hq : Quiet w) (hno : (cycleStep sc w).1.overflow = false) :
    OB ((cycleStep sc w).2.foldl judgeStep js) ((cycleStep sc w).2.foldl orderStep os) (cycleStep sc w).1 := by
  have hsafeEnd := cycleStep_safe sc w hq.1
  have hnoIO := (cycleStep_ovf sc w hno).1
  have tp := B_top fs js w hb hnoIO
  -- the order oracle at the top of the iteration: `begin` (the poll is not its business), then the logon of process_io
  have htopO : (topEvents w).foldl orderStep os =
      (processIO { w with cycle := w.cycle + 1, users := grantAll w.users w.slots }).2.foldl orderStep
        (orderStep os (.begin (w.cycle + 1))) := by
    rw [topEvents, List.foldl_append, ioEvents_eq]; rfl
  have hat0 : ∀ i u, At { w with cycle := w.cycle + 1, users := grantAll w.users w.slots } i u → At w i u := fun _ _ hh => hh
  have hnoid1 : ∀ v, v ∉ (orderStep os (.begin (w.cycle + 1))).ids →
      ((orderStep os (.begin (w.cycle + 1))).us.get v).waiting = false := by
    intro v hv
    have hv' : v ∉ os.ids := hv
    rw [obegin_get]; simp only [hv', if_false]; exact h.noid v hv'
  have hpacc1 : ∀ v u, u ∈ ((orderStep os (.begin (w.cycle + 1))).us.get v).passed → u ≤ w.naccepted := by
    intro v u hu
    rw [obegin_get] at hu
    split at hu
    · exact h.pacc v u (obeginU_passed_sub _ u hu)
    · exact h.pacc v u hu
  obtain ⟨q1, q2, q3, q4, q5, q6, q7⟩ := processIO_OB (orderStep os (.begin (w.cycle + 1)))
    { w with cycle := w.cycle + 1, users := grantAll w.users w.slots } ⟨hq.1.1, hq.1.2⟩
    (TableOK_mono w _ hat0 (Nat.le_refl _) h.tab)
    (OrdO_mono' os _ w _ hat0 rfl rfl (fun v u hw hp => (Wo_begin os _ v h.noid hw).seen u hp) h.ord)
    hnoid1 hpacc1 (fun v hv => h.idacc v hv)
  rw [← htopO] at q1 q3 q4 q5 q6 q7
  have hcplA : CplO ((topEvents w).foldl judgeStep js) ((topEvents w).foldl orderStep os) :=
    cplO_fold_nocmd (topEvents w) (fun u t hm => by rcases mem_topEvents w _ hm with e | e | e <;> cases e) js os h.cpl
  -- the waiting users are eligible when the command phase starts
  have heligA : EligO ((topEvents w).foldl orderStep os) (cmdPhaseStart w) := by
    intro v hw
    have wb := Wo_begin os _ v h.noid (q7 v hw)
    apply eligible_start fs js w hb.g hb.cpl hb.live hb.flag v
    · rw [← CplO_live h.cpl v]; exact wb.live
    · rw [← h.cpl.mode v, ← h.cpl.pend v]; exact wb.complete
    · exact hnoIO
  have hOL3 := cmdLoop_OL sc (NV.Gen.C12.loopCalls (connectedUsers w) w.maxUsers) (cmdPhaseStart w) _ _
    { ob := { cpl := hcplA, ord := q1, tab := q2, obad := by rw [q6]; exact h.obad, noid := q3, pacc := q4, idacc := q5 },
      live := tp.live, elig := heligA, safe := cmdPhaseStart_safe w hq.1, jfresh := tp.fresh, jacc := tp.acc }
  -- the end of the iteration
  rw [cycle_events]
  simp only [List.foldl_append]
  rw [cycleStep_world] at hsafeEnd ⊢
  generalize (cmdLoop sc (NV.Gen.C12.loopCalls (connectedUsers w) w.maxUsers) (cmdPhaseStart w)).2.foldl judgeStep
    ((topEvents w).foldl judgeStep js) = js3 at hOL3 ⊢
  generalize (cmdLoop sc (NV.Gen.C12.loopCalls (connectedUsers w) w.maxUsers) (cmdPhaseStart w)).2.foldl orderStep
    ((topEvents w).foldl orderStep os) = os3 at hOL3 ⊢
  rw [endEvents, hsafeEnd.1]
  simp only [Bool.false_eq_true, if_false]
  split
  · -- aborted: the oracles do not move
    simp only [List.foldl_cons, List.foldl_nil]
    have hc := cplO_step js3 os3 (.abort (w.cycle + 1)) hOL3.ob.cpl (fun u t hh => by cases hh)
    exact ⟨hc, hOL3.ob.ord, hOL3.ob.tab, hOL3.ob.obad, hOL3.ob.noid, hOL3.ob.pacc, hOL3.ob.idacc⟩
  · -- completed: nobody waits any more
    simp only [List.foldl_cons, List.foldl_nil]
    generalize (cmdLoop sc _ (cmdPhaseStart w)).1.maxUsers = m
    generalize layout (cmdLoop sc _ (cmdPhaseStart w)).1 = l
    have hnow : ∀ v, ((orderStep os3 (.endc (w.cycle + 1) m l)).us.get v).waiting = false := by
      intro v
      rw [oendc_get]
      split
      · rfl
      · rename_i hv; exact hOL3.ob.noid v hv
    refine ⟨cplO_step js3 os3 _ hOL3.ob.cpl (fun u t hh => by cases hh), ?_, hOL3.ob.tab, hOL3.ob.obad,
      fun v _ => hnow v, ?_, hOL3.ob.idacc⟩
    · intro i j v u _ _ hw _
      have := hnow v
      rw [hw.1] at this; cases this
    · intro v u hu
      rw [oendc_get] at hu
      split at hu
      · cases hu
      · exact hOL3.ob.pacc v u hu

theorem OB_clear (js : JState) (os : OState) (w : World) (h : OB js os w) : OB js os { w with thrown := false } :=
  OB_world h (fun _ _ hh => hh) rfl rfl rfl

theorem OB_cycleRun (sc : Scripts) (fs : FState) (js : JState) (os : OState) (w : World) (hb : B fs js w)
    (h : OB js os w) (hq : Quiet w) (hno : (cycleRun sc (weight w + 1) w).1.overflow = false) :
    OB ((cycleRun sc (weight w + 1) w).2.foldl judgeStep js) ((cycleRun sc (weight w + 1) w).2.foldl orderStep os)
      (cycleRun sc (weight w + 1) w).1 :=
  (cycleRun_events sc (fun es w => w.overflow = false → B (es.foldl fifoStep fs) (es.foldl judgeStep js) w ∧
      OB (es.foldl judgeStep js) (es.foldl orderStep os) w)
    (hstep := fun es w hh hq' hn => by
      have hh' := hh (cycleStep_ovf sc w hn).2
      simp only [List.foldl_append]
      exact ⟨B_cycle sc _ _ w hh'.1 hq' hn, OB_cycle sc _ _ _ w hh'.1 hh'.2 hq' hn⟩)
    (hclear := fun es w hh hn => ⟨B_clear _ _ w (hh hn).1, OB_clear _ _ w (hh hn).2⟩) (weight w + 1) w []
    (fun _ => ⟨hb, h⟩) hq (Nat.lt_succ_self _) hno).2

theorem OB_step (sc : Scripts) (fs : FState) (js : JState) (os : OState) (w : World) (c : Cmd) (hb : B fs js w)
    (h : OB js os w) (hq : Quiet w) (hno : (step sc w c).1.overflow = false) :
    OB ((step sc w c).2.foldl judgeStep js) ((step sc w c).2.foldl orderStep os) (step sc w c).1 := by
  have hcr := hq.1.1
  cases c with
  | cycle => rw [step_cycle sc w hcr] at hno ⊢; exact OB_cycleRun sc fs js os w hb h hq hno
  | conn =>
    rw [step_conn sc w hcr]
    exact OB_world h (fun _ _ hh => hh) rfl rfl rfl
  | send u d =>
    rcases step_send sc w u d hcr with e | ⟨_, _, _, e⟩ <;> rw [e]
    · exact h
    · exact OB_world (OB_touch h u _ (cplO_step js os (.send u d) h.cpl (fun _ _ hh => by cases hh)) rfl rfl id)
        (fun _ _ hh => hh) rfl rfl rfl
  | close u =>
    rcases step_close sc w u hcr with e | ⟨_, _, e⟩ <;> rw [e]
    · exact h
    · split
      · exact OB_world (OB_touch h u _ (cplO_step js os (.close u) h.cpl (fun _ _ hh => by cases hh)) rfl rfl
          (by simp [oLive])) (fun _ _ hh => hh) rfl rfl rfl
      · exact OB_world h (fun _ _ hh => hh) rfl rfl rfl

theorem OB_init : OB {} {} {} :=
  ⟨⟨fun _ => rfl, fun _ => rfl, fun _ => rfl, fun _ => rfl, rfl⟩,
   (fun i j v u hi _ _ _ => by unfold At at hi; simp at hi),
   ⟨(fun i j u hi _ => by unfold At at hi; simp at hi), (fun i u hi => by unfold At at hi; simp at hi)⟩,
   rfl, (fun _ _ => rfl), (fun v u hu => by cases hu), (fun v hv => by cases hv)⟩

theorem OB_run (sc : Scripts) (cs : List Cmd) (fs : FState) (js : JState) (os : OState) (w : World) (hb : B fs js w)
    (h : OB js os w) (hq : Quiet w) (hp : plainCmds cs = true) (hno : (run sc w cs).1.overflow = false) :
    OB ((run sc w cs).2.foldl judgeStep js) ((run sc w cs).2.foldl orderStep os) (run sc w cs).1 :=
  ((run_events sc (fun es w => Quiet w ∧ (w.overflow = false → B (es.foldl fifoStep fs) (es.foldl judgeStep js) w ∧
      OB (es.foldl judgeStep js) (es.foldl orderStep os) w)) _
    (fun es w c hc ⟨hq, hh⟩ => ⟨cursor_in_bounds sc w c hq, fun hn => by
      obtain ⟨h1, h2⟩ := hh (step_ovf sc w c hn)
      simp only [List.foldl_append]
      exact ⟨B_step sc _ _ w c h1 hq hc hn, OB_step sc _ _ _ w c h1 h2 hq hn⟩⟩)
    cs (plainCmds_mem cs hp) w [] ⟨hq, fun _ => ⟨hb, h⟩⟩).2 hno).2

/-- **trace theorem 5** (clause `overtaken`): for every history with plain bytes and every script oracle - in particular
    through iterations that an uncaught error aborts and the restarts that follow, with the connection table growing in
    between - nobody is served a second time while another user, who had a complete command at the top of an iteration,
    still waits for his first service: the cursor was stepped past every user it served, so the restarted walk reaches
    every waiting user before it comes back to a served one (`rank`, `guc_ord`). -/
theorem judgeOrder_events (sc : Scripts) (cs : List Cmd) (hp : plainCmds cs = true)
    (hno : (run sc {} cs).1.overflow = false) : judgeOrder (events sc cs) = [] := by
  unfold judgeOrder events
  rw [(OB_run sc cs {} {} {} {} B_init OB_init quiet_init hp hno).obad]
  rfl

/-- **TOP THEOREM**: for every history of connects, sends of plain bytes, closes and backend iterations, and EVERY
    script oracle (kicks, drops, get_char / input_to, nested command() calls, uncaught errors), the specification oracle -
    all five clause oracles: twice / outside / crash / malformed, efun, fifo, starved / idleWait, overtaken - accepts
    the event trace of the model. -/
theorem model_satisfies_spec (sc : Scripts) (cs : List Cmd) (hp : plainCmds cs = true)
    (hno : (run sc {} cs).1.overflow = false) : judgeEv (events sc cs) = [] := by
  rw [judgeEv_events_eq_order sc cs hp hno]
  exact judgeOrder_events sc cs hp hno

end NV.C12
