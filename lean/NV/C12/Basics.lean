/-
C12 — the bridging lemmas (the scheduling expressions and statement orders regenerated from the source are the ones
the model uses), finite maps, the cursor invariant `Safe`.
-/
import NV.C12.Model

namespace NV.C12

/-! ### bridging lemmas: the scheduling expressions regenerated from the source are the ones the theorems are about.
A change of the cursor step / wrap, of the scan length, of the command-loop bound or of the grant condition in the C
source changes `NV/Gen/C12.lean` and breaks the corresponding lemma here. -/

open NV.Gen.C12 in
/-- `if (s_next_user-- == 0) s_next_user = max_users - 1;` : decrementing cursor that wraps to the last slot -/
@[simp] theorem cursorNext_spec (c m : Nat) : cursorNext c m = if c = 0 then m - 1 else c - 1 := rfl

open NV.Gen.C12 in
/-- one scan of get_user_command makes `max_users` iterations -/
@[simp] theorem scanLength_spec (m : Nat) : scanLength m = m := rfl

open NV.Gen.C12 in
/-- `for (i = 0; process_user_command () && i < connected_users; i++);` allows `connected_users + 1` calls -/
@[simp] theorem loopCalls_spec (cu m : Nat) : loopCalls cu m = cu + 1 := rfl

open NV.Gen.C12 in
/-- the grant loop gives a turn to, and counts, exactly the occupied slots -/
@[simp] theorem grantCond_spec (b : Bool) : grantCond b = b := rfl

open NV.Gen.C12 in
@[simp] theorem countCond_spec (b : Bool) : countCond b = b := rfl

open NV.Gen.C12 in
/-- backend blocks in the poller exactly when no occupied slot has CMD_IN_BUF (heart beat off) -/
@[simp] theorem pollBlocks_spec (p : Bool) : pollBlocks p = !p := by cases p <;> rfl

/-- network users are searched a slot from index 1 on (slot 0 is the console user's) -/
theorem firstUserSlot_spec : NV.Gen.C12.firstUserSlot = 1 := rfl

open NV.Gen.C12 in
/-- get_user_data's room rule (space at `text_end`; if short: space at the pending length; if that is short too: hold
    the read back when a complete command is buffered, else discard) decides by the pending length alone - `text_start`
    does not matter - and whenever it reads it asks recv() for at least `MAX_TEXT / 16` bytes -/
theorem cSpaceRule_spec (start len : Nat) (c : Bool) :
    ((cSpaceRule start len c).2.1 = RoomAct.hold ↔ (roomShort len = true ∧ c = true)) ∧
    ((cSpaceRule start len c).2.1 = RoomAct.discard ↔ (roomShort len = true ∧ c = false)) ∧
    ((cSpaceRule start len c).2.1 ≠ RoomAct.hold → recvChunk ≤ (cSpaceRule start len c).2.2) := by
  have hmono : (maxText - (start + len) - 1) / spaceDiv ≤ (maxText - len - 1) / spaceDiv :=
    Nat.div_le_div_right (by omega)
  unfold cSpaceRule roomShort recvChunk
  dsimp only
  by_cases h1 : (maxText - (start + len) - 1) / spaceDiv < maxText / compactDiv
  · simp only [h1, if_true]
    by_cases h2 : (maxText - len - 1) / spaceDiv < maxText / compactDiv
    · cases c with
      | true => simp [h2]
      | false =>
        simp only [h2, decide_true, Bool.and_false, Bool.false_eq_true, if_false, if_true]
        refine ⟨by simp, by simp, fun _ => by decide⟩
    · simp only [h2, decide_false, Bool.false_and, Bool.false_eq_true, if_false]
      refine ⟨by simp, by simp, fun _ => by omega⟩
  · simp only [h1, if_false]
    have h2 : ¬ (maxText - len - 1) / spaceDiv < maxText / compactDiv := by omega
    simp only [h2, decide_false]
    refine ⟨by simp, by simp, fun _ => by omega⟩

/-- the table really grows when it is full (otherwise `all_users[i]` would be written outside it) -/
theorem growBy_pos : 0 < growBy := by decide

open NV.Gen.C12 in
/-- statement order of one iteration of backend()'s loop (clang AST of the working tree): reset of
    current_interactive / eval_cost, shutdown test, remove_destructed_objects, slow shutdown, THEN the turn-grant loop
    (which also counts connected_users and computes has_pending_commands), the timeout choice, do_comm_polling,
    process_io when events are pending, the bounded command loop, heart beat, hook - the order `cycleStep` mirrors -/
theorem backendOrder_spec : backendOrder =
    ["BinaryOperator:current_interactive", "BinaryOperator:eval_cost", "IfStmt:g_proceeding_shutdown",
     "CallExpr:remove_destructed_objects", "IfStmt:do_slow_shutdown,slow_shutdown_to_do",
     "DeclStmt:has_pending_commands", "DeclStmt:connected_users",
     "ForStmt:all_users,connected_users,has_pending_commands,iflags,max_users",
     "IfStmt:has_pending_commands,heart_beat_flag,timeout,tv_sec", "BinaryOperator:do_comm_polling,nb,timeout",
     "IfStmt:fatal,nb", "IfStmt:nb,process_io", "ForStmt:connected_users,process_user_command",
     "IfStmt:call_heart_beat,heart_beat_flag", "IfStmt:verif_backend_cycle_hook"] := rfl

open NV.Gen.C12 in
/-- an uncaught error re-enters backend() in front of the loop: the iteration is abandoned, a new one starts
    (`cycleRun`) -/
theorem errorReentry_spec : errorReentry = "before-loop" := rfl

open NV.Gen.C12 in
/-- statement order of get_user_command(): scan loop, "no command" exit, command_giver, telnet_neg, next_cmd_in_buf,
    CMD_IN_BUF cleared when nothing complete is left, second cursor step, NOECHO handling, last_time -
    the order `getUserCommand` mirrors -/
theorem gucOrder_spec : gucOrder =
    ["DeclStmt:s_next_user", "DeclStmt:ip", "DeclStmt:user_command",
     "ForStmt:all_users,first_cmd_in_buf,flush_message,iflags,ip,max_users,message_length,ob,s_next_user,user_command",
     "IfStmt:ip,user_command", "BinaryOperator:command_giver,ip,ob", "CallExpr:telnet_neg,user_command",
     "CallExpr:ip,next_cmd_in_buf", "IfStmt:cmd_in_buf,iflags,ip", "IfStmt:max_users,s_next_user",
     "IfStmt:add_message,command_giver,iflags,ip", "BinaryOperator:ip,last_time"] := rfl

open NV.Gen.C12 in
/-- body of the scan loop: fetch the slot under the cursor, flush pending output, the CMD_IN_BUF / first_cmd_in_buf /
    turn test, THEN the cursor step - the order `scanStep` + `scan` mirror -/
theorem gucScanOrder_spec : gucScanOrder =
    ["BinaryOperator:all_users,ip,s_next_user", "IfStmt:flush_message,ip,message_length,ob",
     "IfStmt:first_cmd_in_buf,iflags,ip,user_command", "IfStmt:max_users,s_next_user"] := rfl

open NV.Gen.C12 in
/-- process_user_command(): one `if ((user_command = get_user_command ()))` block holding all the processing, then
    the "no more commands" exit -/
theorem pucOrder_spec : pucOrder =
    ["DeclStmt:user_command", "DeclStmt:command_giver", "DeclStmt:ip",
     "IfStmt:apply,call_function_interactive,command_giver,current_interactive,get_user_command,iflags,ip,print_prompt,process_command,user_command",
     "BinaryOperator:command_giver", "BinaryOperator:current_interactive"] := rfl

open NV.Gen.C12 in
/-- first_cmd_in_buf: skip NULs (text_start), empty -> reset, single-char -> hit, find the end, terminated -> hit,
    otherwise move the partial line to the front (and truncate an over-long one) - the order `firstCmd` mirrors -/
theorem firstCmdInBufOrder_spec : firstCmdInBufOrder =
    ["BinaryOperator:ip,text,text_start", "WhileStmt:ip,text,text_end", "BinaryOperator:ip,text,text_start",
     "IfStmt:ip,text,text_end,text_start", "IfStmt:iflags,ip,text,text_start", "WhileStmt:ip,text,text_end",
     "IfStmt:ip,text,text_end,text_start", "BinaryOperator:ip,text,text_start", "BinaryOperator:ip,text",
     "WhileStmt:ip,text,text_end", "CompoundAssignOperator:ip,text_end,text_start", "BinaryOperator:ip,text_start",
     "IfStmt:ip,text,text_end"] := rfl

open NV.Gen.C12 in
/-- cmd_in_buf: skip NULs, empty -> no, single-char -> yes, find the end, terminated -> yes (`hasCmd`) -/
theorem cmdInBufOrder_spec : cmdInBufOrder =
    ["BinaryOperator:ip,text,text_start", "WhileStmt:ip,text,text_end", "IfStmt:ip,text,text_end", "IfStmt:iflags,ip",
     "WhileStmt:ip,text,text_end", "IfStmt:ip,text,text_end"] := rfl

open NV.Gen.C12 in
/-- next_cmd_in_buf: step over the command, over the NULs behind it, advance text_start or reset (`nextCmd`) -/
theorem nextCmdInBufOrder_spec : nextCmdInBufOrder =
    ["DeclStmt:ip,text,text_start", "WhileStmt:ip,text,text_end", "WhileStmt:ip,text,text_end",
     "IfStmt:ip,text,text_end,text_start"] := rfl

theorem AMap.get_filter_ne {α : Type} [Inhabited α] (m : AMap α) (k i : Nat) (h : i ≠ k) :
    AMap.get (m.filter (fun e => e.1 != k)) i = AMap.get m i := by
  induction m with
  | nil => rfl
  | cons e r ih =>
    obtain ⟨k', v⟩ := e
    by_cases hk : k' = k
    · subst hk
      simp [List.filter, AMap.get, h, ih]
    · have : (k' != k) = true := by simp [hk]
      simp only [List.filter, this, AMap.get, ih]

@[simp] theorem get_upd {α : Type} [Inhabited α] (m : AMap α) (k i : Nat) (v : α) :
    AMap.get (upd m k v) i = if i = k then v else AMap.get m i := by
  unfold upd
  by_cases h : i = k
  · simp [AMap.get, h]
  · simp [AMap.get, h, AMap.get_filter_ne m k i h]

/-- folding a step function over events each of which leaves the state alone -/
theorem foldl_ignored {σ ε : Type} (g : σ → ε → σ) (s : σ) (l : List ε) (h : ∀ e ∈ l, g s e = s) : l.foldl g s = s := by
  induction l with
  | nil => rfl
  | cons e r ih =>
    rw [List.foldl_cons, h e List.mem_cons_self]
    exact ih (fun x hx => h x (List.mem_cons_of_mem _ hx))

/-- the events so far, kept as an oracle state -/
theorem foldl_snoc {ε : Type} (l es : List ε) : l.foldl (fun s e => s ++ [e]) es = es ++ l := by
  induction l generalizing es with
  | nil => simp
  | cons a r ih => rw [List.foldl_cons, ih]; simp

/-- two oracles folded side by side are one fold over the pair of their states -/
theorem foldl_prod {σ τ ε : Type} (g : σ → ε → σ) (k : τ → ε → τ) (l : List ε) (a : σ) (b : τ) :
    l.foldl (fun p e => (g p.1 e, k p.2 e)) (a, b) = (l.foldl g a, l.foldl k b) := by
  induction l generalizing a b with
  | nil => rfl
  | cons e r ih => exact ih _ _

/-- HAS_CMD_TURN of user `x` -/
def turnOf (w : World) (x : Nat) : Bool := (w.users.get x).turn

/-- `s_next_user` indexes inside the table (or the table does not exist yet), and no crash has happened -/
def Safe (w : World) : Prop :=
  w.crashed = false ∧ (w.cursor < w.slots.length ∨ (w.slots.length = 0 ∧ w.cursor = 0))

@[simp] theorem removeUser_length (s : List (Option Nat)) (u : Nat) : (removeUser s u).length = s.length := by
  simp [removeUser]

theorem removeUser_contains (s : List (Option Nat)) (t u : Nat) :
    (removeUser s t).contains (some u) = (s.contains (some u) && !(u == t)) := by
  induction s with
  | nil => simp [removeUser]
  | cons a r ih =>
    simp only [removeUser, List.map_cons, List.contains_cons] at ih ⊢
    rw [ih]
    cases a with
    | none => simp
    | some x =>
      by_cases hx : x = t
      · subst hx
        by_cases hu : u = x
        · subst hu; simp
        · have : (some u == some x) = false := by simp [hu]
          simp [this]
      · have h1 : (some x == some t) = false := by simp [hx]
        simp only [h1, Bool.false_eq_true, if_false]
        by_cases hu : u = t
        · subst hu
          have : (some u == some x) = false := by simp; exact fun h => hx h.symm
          simp [this]
        · have hut : (u == t) = false := by simp [hu]
          simp [hut]

theorem countP_removeUser_le (p : Option Nat → Bool) (hp : p none = false) (s : List (Option Nat)) (t : Nat) :
    (removeUser s t).countP p ≤ s.countP p := by
  induction s with
  | nil => simp [removeUser]
  | cons a r ih =>
    simp only [removeUser, List.map_cons, List.countP_cons] at ih ⊢
    split
    · simp only [hp, Bool.false_eq_true, if_false]
      split <;> omega
    · omega

theorem countP_lt_of_mem (p q : Option Nat → Bool) (l : List (Option Nat)) (hpq : ∀ a, p a = true → q a = true)
    (a : Option Nat) (ha : a ∈ l) (hq : q a = true) (hp : p a = false) : l.countP p < l.countP q := by
  induction l with
  | nil => cases ha
  | cons b r ih =>
    simp only [List.countP_cons]
    have hle : r.countP p ≤ r.countP q := List.countP_mono_left (fun x _ => hpq x)
    rcases List.mem_cons.mp ha with h | h
    · subst h
      simp only [hq, hp, if_true, Bool.false_eq_true, if_false]
      omega
    · have := ih h
      cases hpb : p b with
      | true => simp [hpq b hpb]; omega
      | false => simp; split <;> omega

theorem countP_set_le (p : Option Nat → Bool) (a : Option Nat) (hp : p a = false) (l : List (Option Nat)) (i : Nat) :
    (l.set i a).countP p ≤ l.countP p := by
  induction l generalizing i with
  | nil => simp
  | cons b r ih =>
    cases i with
    | zero => simp only [List.set_cons_zero, List.countP_cons, hp, Bool.false_eq_true, if_false]; split <;> omega
    | succ i => simp only [List.set_cons_succ, List.countP_cons]; have := ih i; omega

theorem grantAll_get (users : AMap U) (sl : List (Option Nat)) (x : Nat) :
    (grantAll users sl).get x = if some x ∈ sl then { users.get x with turn := true } else users.get x := by
  induction sl generalizing users with
  | nil => rfl
  | cons a r ih =>
    cases a with
    | none => simp only [grantAll, ih, List.mem_cons, reduceCtorEq, false_or]
    | some u =>
      simp only [grantAll, grantCond_spec, if_true, ih, get_upd, List.mem_cons, Option.some.injEq]
      by_cases hx : x = u
      · subst hx; simp only [if_true, true_or]; split <;> rfl
      · simp only [hx, if_false, false_or]

theorem hasPending_of (w : World) (u : Nat) (hi : w.interactive u = true) (hc : (w.users.get u).cmdInBuf = true) :
    hasPending w = true := by
  unfold hasPending
  simp only [List.any_eq_true]
  exact ⟨some u, by simpa [World.interactive] using hi, hc⟩

@[simp] theorem decCursor_slots (w : World) : (decCursor w).slots = w.slots := rfl
@[simp] theorem decCursor_users (w : World) : (decCursor w).users = w.users := rfl
@[simp] theorem decCursor_crashed (w : World) : (decCursor w).crashed = w.crashed := rfl

theorem decCursor_safe (w : World) (hs : Safe w) (hpos : 0 < w.slots.length) : Safe (decCursor w) := by
  refine ⟨hs.1, Or.inl ?_⟩
  have hc : w.cursor < w.slots.length := by
    rcases hs.2 with h | h
    · exact h
    · omega
  simp only [decCursor, cursorNext_spec]
  split <;> omega


end NV.C12
