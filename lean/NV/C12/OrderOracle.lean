/-
C12 — clause `overtaken`, the order oracle (`orderStep`) alone: on a trace without aborted iterations that the
structure oracle accepts it finds nothing (`order_of_struct`: inside a completed iteration "served again while somebody
waits" would be a second command of one user in one cycle); it keeps the same connection / byte records as the
liveness oracle (`CplO`).
-/
import NV.C12.LiveOracle

namespace NV.C12

def Ev.isAbort : Ev → Bool
  | .abort _ => true
  | _ => false

/-! ### oracle only: structure oracle and order oracle side by side -/

theorem struct_bad_mono (s : SState) (e : Ev) (h : (structStep s e).bad = []) : s.bad = [] := by
  cases e with
  | begin n => simp only [structStep] at h; split at h <;> simp_all
  | cmd u t =>
    simp only [structStep] at h
    split at h
    · simp at h
    · split at h
      · simp at h
      · exact h
  | endc n m l => simp only [structStep] at h; split at h <;> simp_all
  | abort n => simp only [structStep] at h; split at h <;> simp_all
  | crash w => simp [structStep] at h
  | other l => simp [structStep] at h
  | _ => exact h

theorem struct_fold_bad_mono (l : List Ev) (s : SState) (h : (l.foldl structStep s).bad = []) : s.bad = [] := by
  induction l generalizing s with
  | nil => exact h
  | cons e r ih => exact struct_bad_mono s e (ih _ h)

/-- invariant tying the two oracles together on traces without aborted iterations -/
structure OInv (ss : SState) (os : OState) : Prop where
  obad : os.bad = []
  idle : ss.cyc = none → ∀ v, (os.us.get v).waiting = false
  passed : ∀ v, (os.us.get v).waiting = true → ∀ u ∈ (os.us.get v).passed, u ∈ ss.served
  noid : ∀ v, v ∉ os.ids → (os.us.get v).waiting = false

theorem obegin_get (s : OState) (n x : Nat) :
    (orderStep s (.begin n)).us.get x = if x ∈ s.ids then obeginU (s.us.get x) else s.us.get x :=
  foldl_upd_get (fun u => obeginU (s.us.get u)) s.ids s.us x

theorem ocmd_get (s : OState) (u : Nat) (t : List Char) (x : Nat) :
    (orderStep s (.cmd u t)).us.get x = if x ∈ s.ids then ocmdU u t x (s.us.get x) else s.us.get x :=
  foldl_upd_get (fun v => ocmdU u t v (s.us.get v)) s.ids s.us x

theorem oendc_get (s : OState) (n m : Nat) (l : List (Nat × Nat × Nat)) (x : Nat) :
    (orderStep s (.endc n m l)).us.get x = if x ∈ s.ids then oendU (s.us.get x) else s.us.get x :=
  foldl_upd_get (fun u => oendU (s.us.get u)) s.ids s.us x

theorem obeginU_fresh (j : OU) (hj : j.waiting = false) : (obeginU j).passed = [] := by
  unfold obeginU
  split
  · simp only [hj, Bool.false_eq_true, if_false]
  · rfl

theorem ocmdU_passed (u : Nat) (t : List Char) (v : Nat) (j : OU) (x : Nat) (hw : (ocmdU u t v j).waiting = true)
    (hx : x ∈ (ocmdU u t v j).passed) : j.waiting = true ∧ (x = u ∨ x ∈ j.passed) := by
  unfold ocmdU at hw hx
  split at hw
  · cases hw
  · rename_i hne
    simp only [hne] at hx
    split at hw
    · rename_i hwj
      simp only [hwj, if_true] at hx
      exact ⟨hwj, List.mem_cons.mp hx⟩
    · rename_i hwj
      exact absurd hw hwj

/-- rewriting one record of the order oracle without touching `waiting` / `passed` (and, for the last part, without
    reviving the user): what every record then looks like -/
theorem otouch (os : OState) (u : Nat) (o : OU) (hw : o.waiting = (os.us.get u).waiting)
    (hp : o.passed = (os.us.get u).passed) (v : Nat) :
    ((upd os.us u o).get v).waiting = (os.us.get v).waiting ∧ ((upd os.us u o).get v).passed = (os.us.get v).passed ∧
      ((oLive o = true → oLive (os.us.get u) = true) →
        oLive ((upd os.us u o).get v) = true → oLive (os.us.get v) = true) := by
  rw [get_upd]
  split
  · rename_i hv; rw [hv]; exact ⟨hw, hp, id⟩
  · exact ⟨rfl, rfl, fun _ => id⟩

theorem OInv_touch (ss : SState) (os : OState) (h : OInv ss os) (u : Nat) (o : OU)
    (hw : o.waiting = (os.us.get u).waiting) (hp : o.passed = (os.us.get u).passed) :
    OInv ss { os with us := upd os.us u o } := by
  have hrec := otouch os u o hw hp
  exact ⟨h.obad, fun hc v => by rw [(hrec v).1]; exact h.idle hc v,
    fun v hv x hx => h.passed v (by rw [← (hrec v).1]; exact hv) x (by rw [← (hrec v).2.1]; exact hx),
    fun v hv => by rw [(hrec v).1]; exact h.noid v hv⟩

/-- one step, given that the structure oracle adds no verdict and the event is no `abort` -/
theorem OInv_step (ss : SState) (os : OState) (e : Ev) (h : OInv ss os) (hs : (structStep ss e).bad = [])
    (ha : e.isAbort = false) : OInv (structStep ss e) (orderStep os e) := by
  cases e with
  | abort n => cases ha
  -- events that rewrite at most one record, in a way `OInv` does not read; then `begin`, `cmd`, `endc`, `logon`
  | send u d => exact OInv_touch ss os h u _ rfl rfl
  | close u => exact OInv_touch ss os h u _ rfl rfl
  | kick a t ok => cases ok with
    | false => exact h
    | true => exact OInv_touch ss os h t _ rfl rfl
  | drop a t ok => cases ok with
    | false => exact h
    | true => exact OInv_touch ss os h t _ rfl rfl
  | gc u r => cases r with
    | false => exact h
    | true => exact OInv_touch ss os h u _ rfl rfl
  | crash w => simp [structStep] at hs
  | other l => simp [structStep] at hs
  | conn | poll | ecmd | force | it | err | exec => exact h
  | begin n =>
    have hcyc : ss.cyc = none := by
      simp only [structStep] at hs
      cases hc : ss.cyc with
      | none => rfl
      | some k => simp [hc] at hs
    have hidle := h.idle hcyc
    refine ⟨h.obad, fun hc => by simp [structStep] at hc, ?_, ?_⟩
    · intro v hw u hu
      rw [obegin_get] at hw hu
      split at hw
      · rename_i hm
        simp only [hm, if_true] at hu
        rw [obeginU_fresh _ (hidle v)] at hu
        cases hu
      · rw [hidle v] at hw; cases hw
    · intro v hv
      rw [obegin_get]
      have hv' : v ∉ os.ids := hv
      simp only [hv', if_false]
      exact h.noid v hv'
  | cmd u t =>
    have hcs : ss.cyc.isSome = true ∧ u ∉ ss.served := by
      simp only [structStep] at hs
      constructor
      · cases hc : ss.cyc with
        | none => simp [hc] at hs; split at hs <;> simp at hs
        | some k => rfl
      · intro hm
        simp [hm] at hs
    have hvict : os.ids.filter (fun v => v != u && (os.us.get v).waiting && oLive (os.us.get v) &&
        (os.us.get v).passed.contains u) = [] := by
      rw [List.filter_eq_nil_iff]
      intro v _ hc
      simp only [Bool.and_eq_true] at hc
      obtain ⟨⟨⟨_, hw⟩, _⟩, hp⟩ := hc
      exact hcs.2 (h.passed v hw u (by simpa using hp))
    refine ⟨?_, ?_, ?_, ?_⟩
    · show (List.map _ (List.filter _ os.ids).reverse ++ os.bad) = []
      rw [hvict, h.obad]; rfl
    · intro hc
      have : (structStep ss (.cmd u t)).cyc = ss.cyc := rfl
      rw [this] at hc
      rw [hc] at hcs; cases hcs.1
    · intro v hw x hx
      have hsv : (structStep ss (.cmd u t)).served = u :: ss.served := rfl
      rw [hsv]
      rw [ocmd_get] at hw hx
      split at hw
      · rename_i hm
        simp only [hm, if_true] at hx
        obtain ⟨hwj, hxx⟩ := ocmdU_passed u t v _ x hw hx
        rcases hxx with hxx | hxx
        · rw [hxx]; exact List.mem_cons_self
        · exact List.mem_cons_of_mem _ (h.passed v hwj x hxx)
      · rename_i hni
        simp only [hni, if_false] at hx
        exact List.mem_cons_of_mem _ (h.passed v hw x hx)
    · intro v hv
      have hv' : v ∉ os.ids := hv
      rw [ocmd_get]
      simp only [hv', if_false]
      exact h.noid v hv'
  | endc n m l =>
    refine ⟨h.obad, ?_, ?_, ?_⟩
    · intro _ v
      rw [oendc_get]
      split
      · rfl
      · rename_i hni; exact h.noid v hni
    · intro v hw
      rw [oendc_get] at hw
      split at hw
      · cases hw
      · rename_i hni; rw [h.noid v hni] at hw; cases hw
    · intro v hv
      have hv' : v ∉ os.ids := hv
      rw [oendc_get]
      simp only [hv', if_false]
      exact h.noid v hv'
  | logon u =>
    refine ⟨h.obad, ?_, ?_, ?_⟩
    · intro hc v
      simp only [orderStep, get_upd]
      split
      · rfl
      · exact h.idle hc v
    · intro v hw x hx
      simp only [orderStep, get_upd] at hw hx
      split at hw
      · cases hw
      · rename_i hne
        simp only [hne, if_false] at hx
        exact h.passed v hw x hx
    · intro v hv
      have hv' : v ∉ u :: os.ids := hv
      simp only [List.mem_cons, not_or] at hv'
      simp only [orderStep, get_upd, hv'.1, if_false]
      exact h.noid v hv'.2

theorem OInv_fold (l : List Ev) (ss : SState) (os : OState) (h : OInv ss os)
    (hs : (l.foldl structStep ss).bad = []) (ha : ∀ e ∈ l, Ev.isAbort e = false) :
    OInv (l.foldl structStep ss) (l.foldl orderStep os) := by
  induction l generalizing ss os with
  | nil => exact h
  | cons e r ih =>
    rw [List.foldl_cons] at hs ⊢
    rw [List.foldl_cons]
    have h1 : (structStep ss e).bad = [] := struct_fold_bad_mono r _ hs
    exact ih _ _ (OInv_step ss os e h h1 (ha e List.mem_cons_self)) hs
      (fun x hx => ha x (List.mem_cons_of_mem _ hx))

/-- **oracle-level**: on a trace without aborted iterations that the structure oracle accepts (cycles bracketed,
    at most one buffered command per user and cycle), nobody is overtaken -/
theorem order_of_struct (tr : List Ev) (hs : judgeStruct tr = []) (ha : ∀ e ∈ tr, Ev.isAbort e = false) :
    judgeOrder tr = [] := by
  unfold judgeStruct at hs
  unfold judgeOrder
  have hb : (tr.foldl structStep {}).bad = [] := by simpa using hs
  have h0 : OInv {} {} := ⟨rfl, fun _ _ => rfl, (fun v hw => by cases hw), fun _ _ => rfl⟩
  rw [(OInv_fold tr {} {} h0 hb ha).obad]
  rfl


/-- the order oracle and the liveness oracle hold the same per-user connection data -/
structure CplO (js : JState) (os : OState) : Prop where
  conn : ∀ u, (os.us.get u).connected = (js.us.get u).connected
  opn : ∀ u, (os.us.get u).clientOpen = (js.us.get u).clientOpen
  pend : ∀ u, (os.us.get u).pending = (js.us.get u).pending ++ (js.us.get u).fresh
  mode : ∀ u, (os.us.get u).charMode = (js.us.get u).charMode
  ids : os.ids = js.ids

theorem CplO_live {js : JState} {os : OState} (h : CplO js os) (u : Nat) : oLive (os.us.get u) = live (js.us.get u) := by
  simp only [oLive, live, h.conn u, h.opn u]

/-- `CplO` for the two records of one user -/
structure CplU (j : JU) (o : OU) : Prop where
  conn : o.connected = j.connected
  opn : o.clientOpen = j.clientOpen
  pend : o.pending = j.pending ++ j.fresh
  mode : o.charMode = j.charMode

theorem CplO.user {js : JState} {os : OState} (h : CplO js os) (u : Nat) : CplU (js.us.get u) (os.us.get u) :=
  ⟨h.conn u, h.opn u, h.pend u, h.mode u⟩

theorem CplO.ofUsers {js : JState} {os : OState} (h : ∀ u, CplU (js.us.get u) (os.us.get u)) (hi : os.ids = js.ids) :
    CplO js os :=
  ⟨fun u => (h u).conn, fun u => (h u).opn, fun u => (h u).pend, fun u => (h u).mode, hi⟩

theorem obeginU_fields (j : OU) : (obeginU j).connected = j.connected ∧ (obeginU j).clientOpen = j.clientOpen ∧
    (obeginU j).pending = j.pending ∧ (obeginU j).charMode = j.charMode := by
  unfold obeginU
  split
  · split <;> exact ⟨rfl, rfl, rfl, rfl⟩
  · exact ⟨rfl, rfl, rfl, rfl⟩

theorem CplU_begin {j : JU} {o : OU} (h : CplU j o) : CplU (beginU j) (obeginU o) := by
  obtain ⟨a, b, c, d⟩ := obeginU_fields o
  exact ⟨a.trans h.conn, b.trans h.opn, by rw [c, h.pend]; exact (List.append_nil _).symm, d.trans h.mode⟩

/-- the record `j` of a user other than `u`, after `cmd u` (`j'`): if he waits, he has seen `u` served -/
structure OcmdOther (u : Nat) (j j' : OU) : Prop where
  connected : j'.connected = j.connected
  clientOpen : j'.clientOpen = j.clientOpen
  pending : j'.pending = j.pending
  charMode : j'.charMode = j.charMode
  waiting : j'.waiting = j.waiting
  passed : j'.passed = (if j.waiting then u :: j.passed else j.passed)

theorem ocmdU_other (u : Nat) (t : List Char) (v : Nat) (j : OU) (h : v ≠ u) : OcmdOther u j (ocmdU u t v j) := by
  have hb : (v == u) = false := by simp [h]
  unfold ocmdU
  simp only [hb, Bool.false_eq_true, if_false]
  split <;> exact ⟨rfl, rfl, rfl, rfl, rfl, by simp_all⟩

theorem ocmdU_self (u : Nat) (t : List Char) (j : OU) :
    ocmdU u t u j = { j with pending := (consume j.charMode j.pending t).getD (onMiss j.pending t), charMode := false,
                             waiting := false, passed := [] } := by
  unfold ocmdU; simp

/-- both oracles rewrite the record of one user (and perhaps note a new id) in corresponding ways -/
theorem CplO_touch {js : JState} {os : OState} (h : CplO js os) (u : Nat) (j : JU) (o : OU) (ij io : List Nat)
    (hu : CplU j o) (hi : io = ij) :
    CplO { js with us := upd js.us u j, ids := ij } { os with us := upd os.us u o, ids := io } := by
  refine .ofUsers (fun x => ?_) hi
  simp only [get_upd]
  split
  · exact hu
  · exact h.user x

/-- every event keeps the coupling (a `cmd` must be for a user that has logged on, with nothing sent since `begin`) -/
theorem cplO_step (js : JState) (os : OState) (e : Ev) (h : CplO js os)
    (hcmd : ∀ u t, e = .cmd u t → u ∈ js.ids ∧ (js.us.get u).fresh = []) :
    CplO (judgeStep js e) (orderStep os e) := by
  cases e with
  | logon u => exact CplO_touch h u _ _ _ _ ⟨rfl, rfl, rfl, rfl⟩ (by rw [h.ids])
  | send u d =>
    exact CplO_touch h u _ _ _ _ ⟨h.conn u, h.opn u, by simp only [h.pend u, List.append_assoc], h.mode u⟩ h.ids
  | close u => exact CplO_touch h u _ _ _ _ ⟨h.conn u, rfl, h.pend u, h.mode u⟩ h.ids
  | kick a t ok => cases ok with
    | false => exact h
    | true => exact CplO_touch h t _ _ _ _ ⟨rfl, h.opn t, h.pend t, h.mode t⟩ h.ids
  | drop a t ok => cases ok with
    | false => exact h
    | true => exact CplO_touch h t _ _ _ _ ⟨rfl, h.opn t, h.pend t, h.mode t⟩ h.ids
  | gc u r => cases r with
    | false => exact h
    | true => exact CplO_touch h u _ _ _ _ ⟨h.conn u, h.opn u, h.pend u, rfl⟩ h.ids
  | begin n =>
    refine .ofUsers (fun x => ?_) h.ids
    rw [obegin_get, begin_get, h.ids]
    split
    · exact CplU_begin (h.user x)
    · exact h.user x
  | cmd u t =>
    obtain ⟨hmem, hfr⟩ := hcmd u t rfl
    refine .ofUsers (fun x => ?_) h.ids
    rw [ocmd_get]
    simp only [judgeStep, get_upd]
    by_cases hx : x = u
    · -- the served user: both oracles consume from the same bytes in the same mode
      subst hx
      have hp : (os.us.get x).pending = (js.us.get x).pending := by rw [h.pend x, hfr, List.append_nil]
      rw [if_pos rfl, if_pos (h.ids ▸ hmem), ocmdU_self]
      exact ⟨h.conn x, h.opn x, by simp only [hp, h.mode x, hfr, List.append_nil], rfl⟩
    · have o := ocmdU_other u t x (os.us.get x) hx
      rw [if_neg hx]
      split
      · exact ⟨o.connected.trans (h.conn x), o.clientOpen.trans (h.opn x), o.pending.trans (h.pend x),
          o.charMode.trans (h.mode x)⟩
      · exact h.user x
  | endc n m l =>
    refine .ofUsers (fun x => ?_) h.ids
    rw [oendc_get]
    split
    · exact ⟨h.conn x, h.opn x, h.pend x, h.mode x⟩
    · exact h.user x
  | poll n b =>
    have hus : (judgeStep js (.poll n b)).us = js.us ∧ (judgeStep js (.poll n b)).ids = js.ids := by
      simp only [judgeStep]
      split <;> exact ⟨rfl, rfl⟩
    exact .ofUsers (fun x => by rw [hus.1]; exact h.user x) (by rw [hus.2]; exact h.ids)
  | abort n => exact ⟨h.conn, h.opn, h.pend, h.mode, h.ids⟩
  | conn | ecmd | force | it | err | exec | crash | other => exact h

end NV.C12
