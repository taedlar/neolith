/-
C12 — executable model of the buffered-command scheduler of the driver.

Mirrors, line by line:
  src/backend.c  backend()            -> `cycleStep`  (turn-grant loop, `connected_users`, `has_pending_commands`,
                                                       poll, process_io, the bounded command loop, in this order)
  src/comm.c     get_user_command()   -> `scan` + `getUserCommand` (rotating static cursor `s_next_user`, decrementing,
                                                       wrap to `max_users - 1`; the turn is consumed only when a complete
                                                       command exists; CMD_IN_BUF cleared when there is none)
                 process_user_command -> `processUserCommand` (input_to / get_char callback or process_input + parser)
                 first_cmd_in_buf / cmd_in_buf / next_cmd_in_buf -> `firstCmd` / `hasCmd` / `nextCmd`
                 copy_chars (TS_DATA) -> `copyChars`   (CR LF -> " \b\0" in line mode, raw in single-char mode)
                 new_interactive      -> `accept`      (first free slot >= 1, table grows by 50; repaired code)
                 remove_interactive   -> `removeUser`
                 set_call (input_to / get_char) -> `setCall` (repaired code: typed-ahead text is flagged at once)
                 call_function_interactive      -> `endInput` (repaired code: raw single-char input is reframed)
  lib/efuns/command.c f_command       -> `Op.ecmd` in `runOps` (process_command directly: no turn involved)

Abstractions: `interactive_t.text[text_start..text_end)` is a `List Char` (NUL = end of a command); the iflags that
matter are three booleans (the generated bit values are only used to print them, see `U.iflags`; `flag_bits`, Props.lean, shows the
bits are distinct); LPC code run by a command is an oracle `Scripts` plus fuel.  A C access `all_users[s_next_user]` outside
`[0, max_users)` is the explicit outcome `crashed`.
The network between the test clients and the driver is part of the model (`Net`): one accept per cycle per listening
port (level-triggered poll), one recv per readable user per cycle, EOF seen by the first recv that finds no data.
Out of the model (see notes/C12.md): buffer compaction in get_user_data (C13; its room rule IS modelled: `cSpaceRule`,
`roomShort`, `userIO`), `!` shell escapes, ed, telnet negotiation bytes.  Uncaught errors thrown by commands ARE modelled (`Op.err`, `cycleRun`).
-/
import NV.Gen.C12

namespace NV.C12

abbrev NUL : Char := Char.ofNat 0
abbrev BS : Char := Char.ofNat 8
abbrev DEL : Char := Char.ofNat 127
abbrev CR : Char := Char.ofNat 13
abbrev LF : Char := Char.ofNat 10

/-- the table grows by this many slots (`new_max_users = max_users + N` in new_interactive, regenerated) -/
def growBy : Nat := NV.Gen.C12.growBy

/-- what a scripted command does (harness/mudlib/c12/user.c `do_op`) -/
inductive Op where
  | kick (t : Nat)                      -- destruct(user t)
  | drop (t : Nat)                      -- remove_interactive(user t)
  | ecmd (t : Nat) (text : List Char)   -- t->force(text): command(text) in t
  | gc                                  -- get_char("got_char")
  | it                                  -- input_to("got_line")
  | err                                 -- error("c12-throw"): an uncaught LPC error, longjmp to the top of backend()
  | exec                                -- exec(new body, current body of this user): the connection moves to another object
  deriving Repr, BEq, DecidableEq

/-- harness actions (case lines) -/
inductive Cmd where
  | conn
  | send (u : Nat) (data : List Char)   -- `~` stands for CR LF
  | close (u : Nat)
  | cycle
  deriving Repr, BEq, DecidableEq

/-- oracle: the script user `u` runs when it executes command `text` -/
abbrev Scripts := Nat → List Char → List Op

/-- observable events; `render` (Drive.lean) turns them into the canonical trace lines of the harness -/
inductive Ev where
  | conn (u : Nat)
  | begin (n : Nat)
  | poll (n : Nat) (block : Bool)
  | logon (u : Nat)
  | send (u : Nat) (data : List Char)
  | close (u : Nat)
  | cmd (u : Nat) (text : List Char)
  | ecmd (u : Nat) (text : List Char)
  | kick (actor target : Nat) (ok : Bool)
  | drop (actor target : Nat) (ok : Bool)
  | force (actor target : Nat) (text : List Char) (ok : Bool)
  | gc (u : Nat) (r : Bool)
  | it (u : Nat) (r : Bool)
  | endc (n : Nat) (max : Nat) (layout : List (Nat × Nat × Nat))   -- (slot, user, masked iflags)
  | err (u : Nat)                    -- the script of user `u` raises an uncaught LPC error
  | exec (u : Nat) (r : Bool)        -- exec() moved the interactive of user `u` to a fresh object (r = it had one)
  | abort (n : Nat)                  -- iteration `n` of backend() was left by longjmp (no heart beat, no hook): the loop restarts
  | crash (what : String)
  | other (line : String)            -- only produced by the trace parser: a line that is no event
  deriving Repr, BEq, DecidableEq

/-- finite map with a default (a data structure: compiled closures chains would be re-evaluated) -/
abbrev AMap (α : Type) := List (Nat × α)

def AMap.get {α : Type} [Inhabited α] : AMap α → Nat → α
  | [], _ => default
  | (k, v) :: r, i => if i = k then v else AMap.get r i

def upd {α : Type} (m : AMap α) (k : Nat) (v : α) : AMap α := (k, v) :: m.filter (fun e => e.1 != k)

/-- the modelled part of `interactive_t` -/
structure U where
  turn : Bool := false       -- HAS_CMD_TURN
  cmdInBuf : Bool := false   -- CMD_IN_BUF
  single : Bool := false     -- SINGLE_CHAR
  inputTo : Bool := false    -- ip->input_to != 0
  buf : List Char := []      -- text[text_start .. text_end)
  deriving Repr, BEq, DecidableEq, Inhabited

/-- the masked value of `ip->iflags` printed by the harness -/
def U.iflags (u : U) : Nat :=
  (if u.turn then NV.Gen.C12.hasCmdTurn else 0) + (if u.cmdInBuf then NV.Gen.C12.cmdInBuf else 0)
    + (if u.single then NV.Gen.C12.singleChar else 0)

/-- client side of one connection -/
structure Net where
  rx : List Char := []       -- sent by the client, not yet read by the driver
  eof : Bool := false        -- the client has closed its socket
  deriving Repr, BEq, DecidableEq, Inhabited

structure World where
  slots : List (Option Nat) := []     -- all_users[0 .. max_users)
  users : AMap U := []                -- the interactive_t of user k
  cursor : Nat := 0                   -- static s_next_user
  dead : List Nat := []               -- destructed user objects
  net : AMap Net := []
  nconn : Nat := 0                    -- clients that have connected
  naccepted : Nat := 0                -- connections accepted so far (users are numbered in accept order)
  cycle : Nat := 0
  crashed : Bool := false
  thrown : Bool := false              -- an uncaught LPC error is unwinding to `setjmp (econ.context)` in backend()
  overflow : Bool := false            -- get_user_data met a text buffer short of room (read held back / line discarded); sticky

def World.maxUsers (w : World) : Nat := w.slots.length
/-- the user object exists (created when the connection was accepted) and was not destructed -/
def World.alive (w : World) (u : Nat) : Bool := u ≥ 1 && u ≤ w.naccepted && !w.dead.contains u
def World.interactive (w : World) (u : Nat) : Bool := w.slots.contains (some u)

/-! ### the text buffer -/

def dropNul (b : List Char) : List Char := b.dropWhile (· == NUL)

/-- first_cmd_in_buf: new buffer (leading NULs skipped) and the raw command, if one is complete -/
def firstCmd (single : Bool) (b : List Char) : List Char × Option (List Char) :=
  let b' := dropNul b
  if b'.isEmpty then ([], none)
  else if single then (b', some (b'.takeWhile (· != NUL)))
  else if b'.contains NUL then (b', some (b'.takeWhile (· != NUL)))
  else (b', none)

/-- cmd_in_buf -/
def hasCmd (single : Bool) (b : List Char) : Bool := (firstCmd single b).2.isSome

/-- next_cmd_in_buf (called with text_start at the command found by first_cmd_in_buf) -/
def nextCmd (b : List Char) : List Char := dropNul (b.dropWhile (· != NUL))

/-- telnet_neg as applied to a command: backspace / delete editing -/
def telnetNeg (t : List Char) : List Char :=
  t.foldl (fun acc c => if c == BS || c == DEL then acc.dropLast else acc ++ [c]) []

/-- copy_chars in state TS_DATA for the bytes the harness sends (`~` = CR LF sent together) -/
def copyChars (single : Bool) (data : List Char) : List Char :=
  data.flatMap (fun c => if c == '~' then (if single then [CR, LF] else [' ', BS, NUL]) else [c])

/-- reframe_single_char_input: text that arrived in single-char mode (raw CR LF) gets the line-mode framing when the
    mode ends; a lone CR is dropped -/
def reframeAux : Bool → List Char → List Char
  | _, [] => []
  | true, c :: r =>
    if c == LF then ' ' :: BS :: NUL :: reframeAux false r
    else if c == CR then reframeAux true r
    else c :: reframeAux false r
  | false, c :: r => if c == CR then reframeAux true r else c :: reframeAux false r

def reframe (b : List Char) : List Char := reframeAux false b

/-! ### connection table -/

def removeUser (slots : List (Option Nat)) (u : Nat) : List (Option Nat) :=
  slots.map (fun s => if s == some u then none else s)

/-- `for (i = 1; i < max_users; i++) if (!all_users[i]) break;` (the start index is regenerated: `Gen.firstUserSlot`) -/
def newSlot (slots : List (Option Nat)) : Nat :=
  go (slots.drop NV.Gen.C12.firstUserSlot) NV.Gen.C12.firstUserSlot
where
  go : List (Option Nat) → Nat → Nat
    | [], i => i
    | none :: _, i => i
    | some _ :: r, i => go r (i + 1)

/-- new_interactive + mudlib_connect + logon for user `k` -/
def accept (w : World) (k : Nat) : World :=
  let i := newSlot w.slots
  let slots := if i ≥ w.slots.length then w.slots ++ List.replicate growBy none else w.slots
  { w with slots := slots.set i (some k), users := upd w.users k {}, naccepted := k }

/-- bytes on the wire (`~` = CR LF) -/
def rawLen (d : List Char) : Nat := d.length + d.count '~'

/-- the most a client may have unread when backend polls: `MAX_TEXT / 16` bytes, the least get_user_data ever asks
    recv() for - so one read always takes everything (harness discipline, enforced by harness and model alike) -/
def recvChunk : Nat := NV.Gen.C12.maxText / NV.Gen.C12.compactDiv

/-- what get_user_data decides before it reads -/
inductive RoomAct where
  | read      -- recv() is called
  | discard   -- the pending text is thrown away first, then recv()
  | hold      -- nothing is read: the data stays in the socket
  deriving Repr, BEq, DecidableEq

/-- the room rule of get_user_data (PORT_TELNET, readiness model) as a function of `text_start`, the pending length
    `text_end - text_start` and `cmd_in_buf (ip)`: `(new text_start, action, space asked from recv)` - mirrors the C code -/
def cSpaceRule (start len : Nat) (cmdInBuf : Bool) : Nat × RoomAct × Nat :=
  let space := (NV.Gen.C12.maxText - (start + len) - 1) / NV.Gen.C12.spaceDiv
  if space < NV.Gen.C12.maxText / NV.Gen.C12.compactDiv then
    let space1 := (NV.Gen.C12.maxText - len - 1) / NV.Gen.C12.spaceDiv
    if space1 < NV.Gen.C12.maxText / NV.Gen.C12.compactDiv && cmdInBuf then (start, .hold, 0)
    else if space1 < NV.Gen.C12.maxText / NV.Gen.C12.compactDiv then
      (0, .discard, NV.Gen.C12.maxText / NV.Gen.C12.discardSpaceDiv)
    else (0, .read, space1)
  else (start, .read, space)

/-- the pending text alone leaves less than `MAX_TEXT / 16` room: the read is held back when a complete command is
    buffered, an unfinished over-long line is discarded otherwise (`cSpaceRule_spec`, Basics.lean: `text_start` does not
    matter) -/
def roomShort (len : Nat) : Bool :=
  (NV.Gen.C12.maxText - len - 1) / NV.Gen.C12.spaceDiv < NV.Gen.C12.maxText / NV.Gen.C12.compactDiv

/-- get_user_data holds the read back: there is an event for the user (data or EOF), the pending text leaves less than
    `MAX_TEXT / 16` room and contains a complete command (`cmd_in_buf`) - the new data stays in the socket until some
    of the commands typed ahead have been executed (CMD_IN_BUF is set: backend() does not wait meanwhile) -/
def heldBack (w : World) (u : Nat) : Bool :=
  (!(w.net.get u).rx.isEmpty || (w.net.get u).eof) && roomShort (w.users.get u).buf.length &&
    hasCmd (w.users.get u).single (w.users.get u).buf

/-- get_user_data / EOF handling for one user with a poll event, when the read is not held back -/
def userIO0 (w : World) (u : Nat) : World :=
  let nt := w.net.get u
  if !nt.rx.isEmpty then
    let us := w.users.get u
    -- "almost 2k of data without a newline": an unfinished over-long line is thrown away
    let b := (if roomShort us.buf.length then [] else us.buf) ++ copyChars us.single nt.rx
    { w with users := upd w.users u { us with buf := b, cmdInBuf := us.cmdInBuf || hasCmd us.single b },
             net := upd w.net u { nt with rx := [] }, overflow := w.overflow || roomShort us.buf.length }
  else if nt.eof then { w with slots := removeUser w.slots u }
  else w

/-- get_user_data / EOF handling for one user with a poll event.  `overflow` (sticky) records that the pending text
    of some user was short of room at a read: the read was held back, or an unfinished over-long line was discarded -/
def userIO (w : World) (u : Nat) : World :=
  if heldBack w u then
    { w with users := upd w.users u { w.users.get u with cmdInBuf := true }, overflow := true }
  else userIO0 w u

/-- process_io -/
def processIO (w : World) : World × List Ev :=
  let (w1, e1) := if w.naccepted < w.nconn then (accept w (w.naccepted + 1), [Ev.logon (w.naccepted + 1)]) else (w, [])
  ((w.slots.filterMap id).foldl userIO w1, e1)

/-! ### turn grant -/

def grantAll (users : AMap U) : List (Option Nat) → AMap U
  | [] => users
  | none :: r => grantAll users r
  | some u :: r =>
    if NV.Gen.C12.grantCond true then grantAll (upd users u { users.get u with turn := true }) r
    else grantAll users r

def connectedUsers (w : World) : Nat := (w.slots.filter (fun s => NV.Gen.C12.countCond s.isSome)).length

def hasPending (w : World) : Bool :=
  w.slots.any (fun s => match s with | some u => (w.users.get u).cmdInBuf | none => false)

/-- backend asks the poller to block: `timeout.tv_sec` (regenerated) is not zero; the heart-beat flag is off in the
    harness (timer flags cleared) -/
def pollBlocks (pending : Bool) : Bool := NV.Gen.C12.pollTimeout false pending != 0

/-! ### get_user_command -/

/-- `if (s_next_user-- == 0) s_next_user = max_users - 1;` - the expression is regenerated from the source
    (`Gen.cursorNext`, see `cursorNext_spec`) -/
def decCursor (w : World) : World :=
  { w with cursor := NV.Gen.C12.cursorNext w.cursor w.slots.length }

/-- outcome of one iteration of the `for (i = 0; i < max_users; i++)` loop of get_user_command -/
inductive ScanRes where
  | crash                                             -- all_users[s_next_user] outside the table
  | found (w : World) (u : Nat) (t : List Char)        -- `break`: turn consumed, cursor NOT moved
  | next (w : World)                                   -- go on with the next slot

/-- the body of the loop for the slot under the cursor -/
def scanStep (w : World) : ScanRes :=
  match w.slots[w.cursor]? with
  | none => .crash
  | some none => .next w
  | some (some u) =>
    let us := w.users.get u
    if us.cmdInBuf then
      let r := firstCmd us.single us.buf
      match r.2 with
      | some t =>
        if us.turn then .found { w with users := upd w.users u { us with buf := r.1, turn := false } } u t
        else .next { w with users := upd w.users u { us with buf := r.1 } }
      | none => .next { w with users := upd w.users u { us with buf := r.1, cmdInBuf := false } }
    else .next w

/-- the loop with `n` iterations left -/
def scan : Nat → World → World × Option (Nat × List Char)
  | 0, w => (w, none)
  | n + 1, w =>
    match scanStep w with
    | .crash => ({ w with crashed := true }, none)
    | .found w' u t => (w', some (u, t))
    | .next w' => scan n (decCursor w')

/-- get_user_command: the user served and the command text handed to the mudlib -/
def getUserCommand (w : World) : World × Option (Nat × List Char) :=
  match scan (NV.Gen.C12.scanLength w.slots.length) w with
  | (w1, none) => (w1, none)
  | (w1, some (u, t)) =>
    let us := w1.users.get u
    let b := nextCmd us.buf
    let w2 := { w1 with users := upd w1.users u { us with buf := b, cmdInBuf := us.cmdInBuf && hasCmd us.single b } }
    (decCursor w2, some (u, telnetNeg t))

/-! ### command execution (oracle scripts) -/

/-- set_call: input_to (single = false) or get_char (single = true) for user `me` -/
def setCall (w : World) (me : Nat) (single : Bool) : World × Bool :=
  let us := w.users.get me
  if !w.alive me || !w.interactive me || us.inputTo then (w, false)
  else
    let us1 := { us with inputTo := true, single := us.single || single }
    let us2 := if single then { us1 with cmdInBuf := us1.cmdInBuf || hasCmd us1.single us1.buf } else us1
    ({ w with users := upd w.users me us2 }, true)

/-- run the ops of a script in object `me` (which is also command_giver) -/
def runOps (sc : Scripts) : Nat → World → Nat → List Op → World × List Ev
  | 0, w, _, _ => (w, [])
  | _ + 1, w, _, [] => (w, [])
  | f + 1, w, me, op :: rest =>
    let (w1, e1) : World × List Ev :=
      match op with
      | .kick t =>
        let ok := w.alive t
        (if ok then { w with slots := removeUser w.slots t, dead := t :: w.dead } else w, [Ev.kick me t ok])
      | .drop t =>
        let ok := w.alive t && w.interactive t
        (if ok then { w with slots := removeUser w.slots t } else w, [Ev.drop me t ok])
      | .ecmd t text =>
        let ok := w.alive t
        if ok then
          let (w', e') := runOps sc f w t (sc t text)
          (w', Ev.force me t text true :: Ev.ecmd t text :: e')
        else (w, [Ev.force me t text false])
      | .gc => let (w', r) := setCall w me true; (w', [Ev.gc me r])
      | .it => let (w', r) := setCall w me false; (w', [Ev.it me r])
      | .err => ({ w with thrown := true }, [Ev.err me])
      -- replace_interactive: the interactive_t (slot, iflags, text buffer) is handed to the new object untouched
      | .exec => (w, [Ev.exec me (w.alive me && w.interactive me)])
    if w1.thrown then (w1, e1)        -- the error unwinds every frame: nothing after it runs
    else if w1.alive me then
      let (w2, e2) := runOps sc f w1 me rest
      (w2, e1 ++ e2)
    else (w1, e1)

/-- fuel for scripts (the real limit is the evaluation cost) -/
def scriptFuel : Nat := 100000

/-- call_function_interactive on the record of the user: the pending input_to / get_char is consumed; when
    single-char mode was on it ends and the buffered text is reframed (and flagged if that completes a command) -/
def endInput (us : U) : U :=
  if us.single then
    { us with inputTo := false, single := false, buf := reframe us.buf,
              cmdInBuf := us.cmdInBuf || hasCmd false (reframe us.buf) }
  else { us with inputTo := false }

/-- process_user_command: `true` = a command was processed -/
def processUserCommand (sc : Scripts) (w : World) : World × List Ev × Bool :=
  if w.crashed || w.thrown then (w, [], false) else    -- (thrown: the loop of backend() was left by the longjmp)
  match getUserCommand w with
  | (w1, none) => (w1, [], false)
  | (w1, some (u, text)) =>
    let us := w1.users.get u
    -- call_function_interactive: the pending input_to/get_char is consumed, single-char mode ends
    let w2 := if us.inputTo then { w1 with users := upd w1.users u (endInput us) } else w1
    let (w3, e3) := runOps sc scriptFuel w2 u (sc u text)
    (w3, Ev.cmd u text :: e3, true)

/-- `for (i = 0; process_user_command () && i < connected_users; i++);` with `k` calls still allowed
    (`k = connected_users + 1` initially) -/
def cmdLoop (sc : Scripts) : Nat → World → World × List Ev
  | 0, w => (w, [])
  | k + 1, w =>
    match processUserCommand sc w with
    | (w1, e1, true) => let (w2, e2) := cmdLoop sc k w1; (w2, e1 ++ e2)
    | (w1, e1, false) => (w1, e1)

def layout (w : World) : List (Nat × Nat × Nat) :=
  (w.slots.zipIdx.filterMap (fun (s, i) => s.map (fun u => (i, u, (w.users.get u).iflags))))

/-- one iteration of the `while (1)` loop of backend() -/
def cycleStep (sc : Scripts) (w : World) : World × List Ev :=
  let n := w.cycle + 1
  let cu := connectedUsers w
  let pending := hasPending w
  let w1 := { w with cycle := n, users := grantAll w.users w.slots }
  let (w2, e2) := processIO w1
  let (w3, e3) := cmdLoop sc (NV.Gen.C12.loopCalls cu w.maxUsers) w2
  (w3, [Ev.begin n, Ev.poll n (pollBlocks pending)] ++ e2 ++ e3 ++
        (if w3.crashed then [Ev.crash "all_users[s_next_user] out of range"]
         else if w3.thrown then [Ev.abort n] else [Ev.endc n w3.maxUsers (layout w3)]))

/-! ### uncaught errors: the aborted iteration and the restart of the loop

An LPC error that no `catch` handles leaves process_user_command() by `longjmp` to `setjmp (econ.context)` in backend():
the rest of the iteration (remaining commands, heart beat, the verification hook) is skipped and the `while (1)` loop
starts its next iteration at once - turns are granted again to everybody, poll, process_io, command loop.  The static
cursor keeps its value (it was already stepped past the user whose command threw), the thrown command stays consumed.
The harness sees the restart through the second poll of one hook period.

Every aborted iteration has served a buffered command, which strictly lowers `weight` (Weight.lean), so
`weight w + 1` iterations always suffice; running out of this fuel is the explicit outcome `crash`. -/

/-- weighted size of buffered text: CR and LF count twice (reframing CR LF yields three bytes) -/
def wlen (b : List Char) : Nat := (b.map (fun c => if c == CR || c == LF then 2 else 1)).sum

def usersWeight (m : AMap U) : Nat := (m.map (fun e => wlen e.2.buf)).sum
def netWeight (m : AMap Net) : Nat := (m.map (fun e => 4 * e.2.rx.length)).sum

/-- bytes that can still become commands: buffered text and unread client data (at most 4 weight units per byte) -/
def weight (w : World) : Nat := usersWeight w.users + netWeight w.net

/-- the iterations of backend() between two hook calls: restart after every aborted one -/
def cycleRun (sc : Scripts) : Nat → World → World × List Ev
  | 0, w => ({ w with crashed := true }, [Ev.crash "restart bound of the model exhausted"])
  | f + 1, w =>
    match cycleStep sc w with
    | (w1, e1) =>
      if w1.thrown then
        let (w2, e2) := cycleRun sc f { w1 with thrown := false }
        (w2, e1 ++ e2)
      else (w1, e1)

/-- users of the table whose descriptor is ready for the next poll round (unread data or a closed client) -/
def readyUsers (w : World) : List Nat :=
  (w.slots.filterMap id).filter (fun u => !(w.net.get u).rx.isEmpty || (w.net.get u).eof)

/-- the poller hands out at most `MAX_EVENTS` events per round (lib/async/async_runtime_epoll.c); two are kept for
    the listening port and the wake-up descriptor.  Harness discipline (harness and model alike): never more ready
    descriptors than that, so one process_io sees every ready user -/
def readyMax : Nat := NV.Gen.C12.maxEvents - 2

def roundRoom (w : World) (u : Nat) : Bool :=
  !(w.net.get u).rx.isEmpty || (w.net.get u).eof || decide ((readyUsers w).length < readyMax)

/-- one harness action -/
def step (sc : Scripts) (w : World) (c : Cmd) : World × List Ev :=
  if w.crashed then (w, []) else
  match c with
  | .conn => ({ w with nconn := w.nconn + 1 }, [Ev.conn (w.nconn + 1)])
  | .send u data =>
    if u ≥ 1 && u ≤ w.naccepted && !(w.net.get u).eof && w.interactive u &&
        rawLen ((w.net.get u).rx ++ data) ≤ recvChunk && roundRoom w u && !data.contains '!' then   -- (`!` escapes: not modelled)
      ({ w with net := upd w.net u { w.net.get u with rx := (w.net.get u).rx ++ data } }, [Ev.send u data])
    else (w, [])
  | .close u =>
    if u ≥ 1 && u ≤ w.naccepted && !(w.net.get u).eof && roundRoom w u then
      ({ w with net := upd w.net u { w.net.get u with eof := true } }, if w.interactive u then [Ev.close u] else [])
    else (w, [])
  | .cycle => cycleRun sc (weight w + 1) w

def run (sc : Scripts) : World → List Cmd → World × List Ev
  | w, [] => (w, [])
  | w, c :: cs =>
    let (w1, e1) := step sc w c
    let (w2, e2) := run sc w1 cs
    (w2, e1 ++ e2)

def events (sc : Scripts) (cs : List Cmd) : List Ev := (run sc {} cs).2

end NV.C12
