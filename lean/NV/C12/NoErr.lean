/-
C12 — script oracles that never raise an uncaught error: `NoErr sc` (no script contains the op `err`); then no
iteration of the model is aborted (`run_noerr`), and the clause `overtaken` follows from the structure oracle alone
(`order_of_struct`, OrderOracle.lean): `model_satisfies_spec_noerr`.  The theorem for ALL script oracles is
`model_satisfies_spec` (Order.lean).
-/
import NV.C12.Live
import NV.C12.OrderOracle

namespace NV.C12

/-- no script contains the op `err` -/
def NoErr (sc : Scripts) : Prop := ∀ u t, Op.err ∉ sc u t

theorem runOps_noerr (sc : Scripts) (hn : NoErr sc) (f : Nat) (w : World) (me : Nat) (ops : List Op)
    (ho : Op.err ∉ ops) : (runOps sc f w me ops).1.thrown = w.thrown := by
  induction f generalizing w me ops with
  | zero => simp [runOps]
  | succ f ih =>
    cases ops with
    | nil => simp [runOps]
    | cons op rest =>
      have hrest : Op.err ∉ rest := fun h => ho (List.mem_cons_of_mem _ h)
      have hop : ∀ (w1 : World) (e1 : List Ev), w1.thrown = w.thrown →
          (if w1.thrown then (w1, e1) else if w1.alive me then ((runOps sc f w1 me rest).1, e1 ++ (runOps sc f w1 me rest).2) else (w1, e1)).1.thrown = w.thrown := by
        intro w1 e1 he
        split
        · exact he
        split
        · exact (ih w1 me rest hrest).trans he
        · exact he
      unfold runOps
      cases op with
      | kick t => apply hop; split <;> rfl
      | drop t => apply hop; split <;> rfl
      | ecmd t text =>
        dsimp only
        split
        · apply hop; exact ih w t (sc t text) (hn t text)
        · apply hop; rfl
      | gc => apply hop; exact (setCall_kept w me true).thrown
      | it => apply hop; exact (setCall_kept w me false).thrown
      | err => exact absurd List.mem_cons_self ho
      | exec => apply hop; rfl

theorem scan_thrown (n : Nat) (w : World) : (scan n w).1.thrown = w.thrown := (scan_kept n w).thrown

theorem puc_noerr (sc : Scripts) (hn : NoErr sc) (w : World) : (processUserCommand sc w).1.thrown = w.thrown := by
  rcases puc_cases sc w with ⟨_, e⟩ | ⟨_, ⟨_, e⟩ | ⟨x, t, _, e⟩⟩ <;> rw [e]
  · exact (guc_kept w).thrown
  · exact (runOps_noerr sc hn scriptFuel _ x (sc x t) (hn x t)).trans (serve_kept w x).thrown

theorem cmdLoop_noerr (sc : Scripts) (hn : NoErr sc) (k : Nat) (w : World) : (cmdLoop sc k w).1.thrown = w.thrown :=
  cmdLoop_ind sc (fun w' => w'.thrown = w.thrown) (fun w' h => (puc_noerr sc hn w').trans h) k w rfl

theorem cycleStep_noerr (sc : Scripts) (hn : NoErr sc) (w : World) (ht : w.thrown = false) :
    (cycleStep sc w).1.thrown = false ∧ ∀ e ∈ (cycleStep sc w).2, Ev.isAbort e = false := by
  have hthr : (cycleStep sc w).1.thrown = false := by
    rw [cycleStep_world, cmdLoop_noerr sc hn, cmdPhaseStart_thrown]; exact ht
  refine ⟨hthr, ?_⟩
  rw [cycle_events, endEvents, hthr]
  intro e he
  rcases List.mem_append.mp he with he | he
  · rcases List.mem_append.mp he with he | he
    · rcases mem_topEvents w e he with rfl | rfl | rfl <;> rfl
    · have := cmdLoop_inLoop sc _ _ e he
      cases e <;> first | rfl | cases this
  · split at he <;> (rw [List.mem_singleton.mp he]; rfl)

theorem cycleRun_noerr (sc : Scripts) (hn : NoErr sc) (f : Nat) (w : World) (ht : w.thrown = false) :
    (cycleRun sc f w).1.thrown = false ∧ ∀ e ∈ (cycleRun sc f w).2, Ev.isAbort e = false := by
  cases f with
  | zero => exact ⟨ht, fun e he => by simp [cycleRun] at he; subst he; rfl⟩
  | succ f =>
    obtain ⟨h1, h2⟩ := cycleStep_noerr sc hn w ht
    unfold cycleRun
    cases hc : cycleStep sc w with
    | mk w1 e1 =>
      rw [hc] at h1 h2
      dsimp only at h1 h2 ⊢
      rw [h1]
      simp only [Bool.false_eq_true, if_false]
      exact ⟨h1, h2⟩

theorem step_noerr (sc : Scripts) (hn : NoErr sc) (w : World) (c : Cmd) (ht : w.thrown = false) :
    (step sc w c).1.thrown = false ∧ ∀ e ∈ (step sc w c).2, Ev.isAbort e = false := by
  by_cases hc : c = .cycle
  · rw [hc, step_cycle_eq]
    split
    · exact ⟨ht, fun e he => by cases he⟩
    · exact cycleRun_noerr sc hn _ w ht
  · have k := step_io sc w c hc
    refine ⟨by rw [k.thrown]; exact ht, fun e he => ?_⟩
    rcases k.events e he with ⟨_, rfl⟩ | ⟨_, _, rfl⟩ | ⟨_, rfl⟩ <;> rfl

theorem run_noerr (sc : Scripts) (hn : NoErr sc) (cs : List Cmd) (w : World) (ht : w.thrown = false) :
    ∀ e ∈ (run sc w cs).2, Ev.isAbort e = false := by
  induction cs generalizing w with
  | nil => intro e he; cases he
  | cons c r ih =>
    obtain ⟨h1, h2⟩ := step_noerr sc hn w c ht
    intro e he
    simp only [run, List.mem_append] at he
    rcases he with he | he
    · exact h2 e he
    · exact ih _ h1 e he

/-- **top theorem for script oracles that never raise an uncaught error** (kicks, drops, get_char / input_to, nested
    command() calls): for every history with plain bytes the specification
    oracle - all five clause oracles - accepts the trace of the model -/
theorem model_satisfies_spec_noerr (sc : Scripts) (hn : NoErr sc) (cs : List Cmd) (hp : plainCmds cs = true)
    (hno : (run sc {} cs).1.overflow = false) :
    judgeEv (events sc cs) = [] := by
  rw [judgeEv_events_eq_order sc cs hp hno]
  exact order_of_struct _ (judgeStruct_events sc cs) (run_noerr sc hn cs {} rfl)

end NV.C12
