/-
C12 — closed clients and turns through process_io, "the oracle says complete => cmd_in_buf() says
yes", and the two facts about the top of an iteration that the clauses of the liveness oracle need:
  * `blocker_pending`  (clause `idleWait`): a live user whose complete command was already buffered makes
                        `has_pending_commands` true, so backend does not block;
  * `eligible_start`   (clause `starved`): a live user with a complete command (buffered or still in the socket) when
                        the iteration starts is eligible when its command phase starts.
-/
import NV.C12.LiveTable
import NV.C12.Fifo
import NV.C12.Flag
import NV.C12.Props

namespace NV.C12

theorem processIO_eof (w : World) (x : Nat) : ((processIO w).1.net.get x).eof = (w.net.get x).eof :=
  processIO_ind (fun w' => (w'.net.get x).eof = (w.net.get x).eof) w rfl (fun h => h)
    (fun a u h => ((userIO_kept a u).eof x).trans h)

theorem processIO_turn (w : World) (x : Nat) (hx : x ≠ w.naccepted + 1) : turnOf (processIO w).1 x = turnOf w x :=
  processIO_ind (fun w' => turnOf w' x = turnOf w x) w rfl
    (fun _ => by simp only [turnOf, accept, get_upd, hx, if_false])
    (fun a u h => ((userIO_kept a u).turn x).trans h)

/-- live users stay in the table through process_io (the oracle state is not advanced over the `logon` event; with
    it: `LiveOK_processIO`, LiveTable.lean) -/
theorem LiveOK_processIO_world (js : JState) (w : World) (h : LiveOK js w) : LiveOK js (processIO w).1 :=
  processIO_ind (LiveOK js) w h (fun _ u hu => ⟨accept_interactive w _ u (h u hu).1, (h u hu).2⟩)
    (fun a u ha => LiveOK_userIO js a u ha)

/-- what the oracle calls a complete command is one for cmd_in_buf() -/
theorem complete_hasCmd (single : Bool) (p1 p2 : List Char) (h1 : p1.all plainChar = true) (h2 : p2.all plainChar = true)
    (h3 : single = false → p2 = []) (hc : complete single (p1 ++ p2) = true) :
    hasCmd single (encL p1 ++ encR p2) = true := by
  cases hcont : p1.contains '~' with
  | true =>
    obtain ⟨l, r, hp, hl⟩ := split_at_tilde p1 hcont
    subst hp
    have := (firstCmd_line single l r p2 hl h1 h2).1
    simp [hasCmd, this]
  | false =>
    cases single with
    | false =>
      have hp2 := h3 rfl
      subst hp2
      simp only [complete, List.append_nil, Bool.false_eq_true, if_false] at hc
      rw [hcont] at hc; cases hc
    | true =>
      simp only [complete, if_true] at hc
      have hne : (p1 ++ encR p2).isEmpty = false := by
        cases hh : (p1 ++ encR p2).isEmpty with
        | false => rfl
        | true =>
          have h0 : p1 ++ encR p2 = [] := by simpa using hh
          have hp1 : p1 = [] := List.append_eq_nil_iff.mp h0 |>.1
          have hp2e : encR p2 = [] := List.append_eq_nil_iff.mp h0 |>.2
          have hp2 : p2 = [] := encR_isEmpty p2 (by simp [hp2e])
          subst hp1; subst hp2
          simp at hc
      have := (firstCmd_char p1 p2 hcont h1 h2 hne).1
      simp [hasCmd, this]

theorem QInv_complete (f : FU) (us : U) (h : QInv f us []) (hc : complete f.charMode f.pending = true) :
    hasCmd us.single us.buf = true := by
  obtain ⟨p1, p2, e1, e2, e3⟩ := h.split
  have hp : (p1 ++ p2).all plainChar = true := by
    have := h.plain; rw [e1] at this; simpa using this
  simp only [List.all_append, Bool.and_eq_true] at hp
  rw [e2]
  apply complete_hasCmd us.single p1 p2 hp.1 hp.2 e3
  rw [← h.mode]
  simpa [e1] using hc

/-- clause `idleWait`: the oracle's blocker has CMD_IN_BUF set in the model -/
theorem blocker_pending (fs : FState) (js : JState) (w : World) (hg : G fs w) (hcp : Cpl fs js)
    (hrx : ∀ u, w.interactive u = true → (w.net.get u).rx = (js.us.get u).fresh) (hl : LiveOK js w)
    (hfl : FlagSound w) (u : Nat) (hlive : live (js.us.get u) = true)
    (hc : complete (js.us.get u).charMode (js.us.get u).pending = true) : hasPending w = true := by
  obtain ⟨hi, _⟩ := hl u hlive
  have hq := hg.q u
  obtain ⟨p1, p2, e1, e2, e3⟩ := hq.split
  have hpend : (js.us.get u).pending = p1 ++ p2 := by
    have := hcp.pend u
    rw [e1, hrx u hi] at this
    exact List.append_cancel_right this
  have hp : (p1 ++ p2).all plainChar = true := by
    have := hq.plain; rw [e1] at this
    simp only [List.all_append, Bool.and_eq_true] at this ⊢
    exact this.1
  simp only [List.all_append, Bool.and_eq_true] at hp
  have hcmd : hasCmd (w.users.get u).single (w.users.get u).buf = true := by
    rw [e2]
    apply complete_hasCmd _ p1 p2 hp.1 hp.2 e3
    rw [← hq.mode, ← hcp.mode u, ← hpend]; exact hc
  exact hasPending_of w u hi (hfl u hcmd)

/-- clause `starved`: live with a complete command (buffered or still unread) when the iteration starts => eligible
    when its command phase starts -/
theorem eligible_start (fs : FState) (js : JState) (w : World) (hg : G fs w) (hcp : Cpl fs js) (hl : LiveOK js w)
    (hfl : FlagSound w) (u : Nat) (hlive : live (js.us.get u) = true)
    (hc : complete (js.us.get u).charMode ((js.us.get u).pending ++ (js.us.get u).fresh) = true)
    (hno : (cmdPhaseStart w).overflow = false) :
    elig (cmdPhaseStart w) u = true := by
  have hl0 : LiveOK js { w with cycle := w.cycle + 1, users := grantAll w.users w.slots } :=
    LiveOK_congr js js w _ hl (fun _ h => h) rfl (fun _ => rfl)
  obtain ⟨hi, _⟩ := hl u hlive
  -- when the command phase starts
  obtain ⟨hg2, hd2⟩ := G_phaseStart fs w hg hno
  have hl2 := LiveOK_processIO_world js _ hl0
  have hfl2 := cmdPhaseStart_flag w hfl
  obtain ⟨hi2, _⟩ := hl2 u hlive
  have hcF : complete (fs.us.get u).charMode (fs.us.get u).pending = true := by
    rw [← hcp.mode u, ← hcp.pend u]; exact hc
  -- the user was accepted before this iteration
  have hacc : u ≤ w.naccepted := by
    cases Nat.lt_or_ge w.naccepted u with
    | inr hle => exact hle
    | inl hlt =>
      have := (hg.fresh u hlt).1
      rw [this] at hcF
      simp [complete] at hcF
  have hq : QInv (fs.us.get u) ((cmdPhaseStart w).users.get u) [] := by
    have := hg2.q u
    rw [hd2 u hi2] at this
    exact this
  have hcmd := QInv_complete _ _ hq hcF
  have hflag := hfl2 u hcmd
  have hturn : turnOf (cmdPhaseStart w) u = true := by
    unfold cmdPhaseStart
    rw [processIO_turn _ u (by simp only; omega)]
    exact grant_gives_turn w.users w.slots u (by simpa [World.interactive] using hi)
  simp only [elig, ready, Bool.and_eq_true]
  exact ⟨hi2, hturn, hflag, hcmd⟩

end NV.C12
