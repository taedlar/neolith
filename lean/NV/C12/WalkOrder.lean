/-
C12 — geometry of the rotating cursor, for the clause `overtaken` (round robin across aborted iterations).

`rank w s` = number of slots get_user_command still has to look at before it reaches slot `s` (cursor walks downwards
and wraps to `max_users - 1`).  For a set `W` of waiting users that are all eligible (`EligP`) and a relation `Pd v u`
("`u` was served while `v` has been waiting"), `OrdP` says: every waiting user is reached before any user that was served
while he waited.  One scan keeps this (`scan_ord`), and when get_user_command hands out user `x` (`guc_ord`):
  * no waiting user has `x` among the users served while he waited (so `cmd x` overtakes nobody),
  * afterwards `x` lies behind every other waiting user, and the old pairs keep their order.
Growth of the table (accept) keeps the order as well (`rank_grow`, Scan.lean).
-/
import NV.C12.Scan

namespace NV.C12

def OrdP (W : Nat → Prop) (Pd : Nat → Nat → Prop) (w : World) : Prop :=
  ∀ i j v u, At w i v → At w j u → W v → Pd v u → rank w i < rank w j

def EligP (W : Nat → Prop) (w : World) : Prop := ∀ v, W v → elig w v = true

/-- one scan keeps the order; when it finds user `x`, `x` sits under the cursor: waiting users are eligible, so none of
    them was passed over on the way, and seen from the new cursor everything not passed over keeps its place -/
theorem scan_ord (W : Nat → Prop) (Pd : Nat → Nat → Prop) (n : Nat) (w : World) (hs : Safe w)
    (hn : n = 0 ∨ 0 < w.slots.length) (he : EligP W w) (ho : OrdP W Pd w) :
    ∀ x t, (scan n w).2 = some (x, t) →
      At (scan n w).1 (scan n w).1.cursor x ∧ (scan n w).1.slots = w.slots ∧ Safe (scan n w).1 ∧
      OrdP W Pd (scan n w).1 := by
  intro x t h
  obtain ⟨h1, h2⟩ := scan_walk n w hs hn
  rw [h] at h2
  obtain ⟨hat, _, hpass⟩ := h2
  have k := scan_kept n w
  have hAt : ∀ i v, At (scan n w).1 i v → At w i v := fun i v => (At_congr k.slots i v).mp
  refine ⟨(At_congr k.slots _ x).mpr hat, k.slots, h1, fun i j v u hi hj hw hp => ?_⟩
  have hc := hs.cursor_lt (Nat.lt_of_le_of_lt (Nat.zero_le _) (At_lt w _ x hat))
  have hlt := ho i j v u (hAt i v hi) (hAt j u hj) hw hp
  have hci : rank w (scan n w).1.cursor ≤ rank w i := by
    cases Nat.lt_or_ge (rank w i) (rank w (scan n w).1.cursor) with
    | inr hge => exact hge
    | inl hlt' =>
      have hr := hpass i v (hAt i v hi) hlt'
      have hel := he v hw
      rw [elig, hr, Bool.and_false] at hel; cases hel
  rw [rank_shift w _ i (by rw [k.slots]) hc (At_lt w _ x hat) (At_lt w i v (hAt i v hi)) hci,
    rank_shift w _ j (by rw [k.slots]) hc (At_lt w _ x hat) (At_lt w j u (hAt j u hj)) (by omega)]
  omega

/-- get_user_command hands out user `x` -/
theorem guc_ord (W : Nat → Prop) (Pd : Nat → Nat → Prop) (w : World) (hs : Safe w) (he : EligP W w) (ho : OrdP W Pd w)
    (x : Nat) (t : List Char) (h : (getUserCommand w).2 = some (x, t)) :
    ∃ c, At w c x ∧ (getUserCommand w).1.slots = w.slots ∧
      (∀ i v, At w i v → W v → ¬ Pd v x) ∧
      (∀ i j v u, At w i v → At w j u → W v → i ≠ c → Pd v u → rank (getUserCommand w).1 i < rank (getUserCommand w).1 j) ∧
      (∀ i v, At w i v → W v → i ≠ c → rank (getUserCommand w).1 i < rank (getUserCommand w).1 c) := by
  have hn : w.slots.length = 0 ∨ 0 < w.slots.length := by omega
  have hsc := scan_ord W Pd w.slots.length w hs hn he ho
  unfold getUserCommand at h ⊢
  simp only [scanLength_spec] at h ⊢
  cases hscan : scan w.slots.length w with
  | mk w1 r =>
    rw [hscan] at hsc h
    cases r with
    | none => simp at h
    | some p =>
      obtain ⟨y, t0⟩ := p
      dsimp only at h hsc ⊢
      simp only [Option.some.injEq, Prod.mk.injEq] at h
      obtain ⟨hy, _⟩ := h
      subst hy
      obtain ⟨a1, a2, a3, a4⟩ := hsc y t0 rfl
      have hat : ∀ i v, At w1 i v ↔ At w i v := At_congr a2
      have hc1 : w1.cursor < w1.slots.length := At_lt w1 _ y a1
      refine ⟨w1.cursor, (hat _ _).mp a1, by simp [a2], ?_, ?_, ?_⟩
      · intro i v hi hw hp
        have := a4 i w1.cursor v y ((hat i v).mpr hi) a1 hw hp
        rw [rank_cursor] at this; omega
      · intro i j v u hi hj hw hic hp
        have hlt := a4 i j v u ((hat i v).mpr hi) ((hat j u).mpr hj) hw hp
        have hil : i < w1.slots.length := At_lt w1 i v ((hat i v).mpr hi)
        have hjl : j < w1.slots.length := At_lt w1 j u ((hat j u).mpr hj)
        have hjc : j ≠ w1.cursor := by
          intro hh; rw [hh, rank_cursor] at hlt; omega
        show rank (decCursor w1) i < rank (decCursor w1) j
        obtain ⟨ri, ri1⟩ := rank_dec w1 i hc1 hil
        obtain ⟨rj, _⟩ := rank_dec w1 j hc1 hjl
        rw [ri, rj]
        simp only [hic, hjc, if_false]
        have := ri1 hic
        omega
      · intro i v hi hw hic
        have hil : i < w1.slots.length := At_lt w1 i v ((hat i v).mpr hi)
        show rank (decCursor w1) i < rank (decCursor w1) w1.cursor
        obtain ⟨ri, ri1⟩ := rank_dec w1 i hc1 hil
        obtain ⟨rc, _⟩ := rank_dec w1 w1.cursor hc1 hc1
        rw [ri, rc]
        simp only [hic, if_false, if_true]
        have := rank_lt w1 i hc1 hil
        have := ri1 hic
        omega

end NV.C12
