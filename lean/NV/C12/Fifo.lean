/-
C12 — the global induction for the FIFO clause oracle: `QInv` (Queue.lean) for every user (`G`), threaded through
get_user_command, scripts, process_user_command, the command loop, process_io (which also drains the sockets of the
table users: `Drained`), the iteration, its restarts and whole histories, gives `judgeFifo (events sc cs) = []` for
every history whose sent bytes are plain.
-/
import NV.C12.Queue
import NV.C12.Ovf

namespace NV.C12

/-- so an unsuccessful look of get_user_command does not move the queue -/
theorem QInv_touched (f : FU) (a b : U) (rx : List Char) (h : QInv f a rx) (ht : Touched a b) : core b = core a := by
  have hb : b.buf = a.buf := by
    rcases ht.buf with hb | hb
    · exact hb
    · rw [hb, QInv_noLead f a rx h]
  rw [core, core, ht.same.single, ht.same.inputTo, hb]

structure G (s : FState) (w : World) : Prop where
  q : ∀ u, QInv (s.us.get u) (w.users.get u) (w.net.get u).rx
  fresh : ∀ u, w.naccepted < u → s.us.get u = {} ∧ (w.net.get u).rx = []
  clean : s.bad = []

/-- during the command phase the sockets of the users in the table have been read -/
def Drained (w : World) : Prop := ∀ u, w.interactive u = true → (w.net.get u).rx = []

/-- same users, sockets and accept counter: only table / dead list / cursor / turn-like fields differ -/
theorem G_congr (s : FState) (w w' : World) (h : G s w) (hc : ∀ x, core (w'.users.get x) = core (w.users.get x))
    (hnet : w'.net = w.net) (hna : w'.naccepted = w.naccepted) : G s w' :=
  ⟨fun u => by rw [hnet]; exact QInv_congr _ _ _ _ (hc u) (h.q u), fun u hu => by rw [hnet]; exact h.fresh u (by rw [← hna]; exact hu), h.clean⟩

/-- the queue of ONE accepted user changes, on either side or both; he is not among the users that `fresh` speaks of -/
theorem G_touch {s s' : FState} {w w' : World} (h : G s w) (v : Nat) (hv : v ≤ w.naccepted)
    (hq : QInv (s'.us.get v) (w'.users.get v) (w'.net.get v).rx)
    (hoth : ∀ u, u ≠ v → s'.us.get u = s.us.get u ∧ core (w'.users.get u) = core (w.users.get u) ∧
      (w'.net.get u).rx = (w.net.get u).rx)
    (hna : w'.naccepted = w.naccepted) (hbad : s'.bad = s.bad) : G s' w' := by
  refine ⟨fun u => ?_, fun u hu => ?_, hbad.trans h.clean⟩
  · by_cases huv : u = v
    · rw [huv]; exact hq
    · obtain ⟨a, b, c⟩ := hoth u huv; rw [a, c]; exact QInv_congr _ _ _ _ b (h.q u)
  · rw [hna] at hu
    obtain ⟨a, _, c⟩ := hoth u (Nat.ne_of_gt (Nat.lt_of_le_of_lt hv hu)); rw [a, c]; exact h.fresh u hu

theorem Drained_of (w w' : World) (hd : Drained w) (hi : ∀ u, w'.interactive u = true → w.interactive u = true)
    (hn : w'.net = w.net) : Drained w' := fun u hu => by rw [hn]; exact hd u (hi u hu)

theorem removeUser_interactive (w w' : World) (t : Nat) (hs : w'.slots = removeUser w.slots t) (u : Nat)
    (hu : w'.interactive u = true) : w.interactive u = true := by
  simp only [World.interactive, hs, removeUser_contains, Bool.and_eq_true] at hu
  exact hu.1

theorem G_setCall (s : FState) (w : World) (me : Nat) (single : Bool) (h : G s w) (hd : Drained w) :
    G (fifoStep s (if single then Ev.gc me (setCall w me single).2 else Ev.it me (setCall w me single).2))
      (setCall w me single).1 ∧ Drained (setCall w me single).1 := by
  rw [setCall_eq]
  by_cases hcond : (!w.alive me || !w.interactive me || (w.users.get me).inputTo) = true
  · rw [if_pos hcond]; cases single <;> exact ⟨h, hd⟩
  · rw [if_neg hcond]
    simp only [Bool.or_eq_true, Bool.not_eq_true', not_or, Bool.not_eq_false] at hcond
    obtain ⟨⟨halive, _⟩, hfree⟩ := hcond
    have hme : me ≤ w.naccepted := by
      simp only [World.alive, Bool.and_eq_true, decide_eq_true_eq] at halive
      exact halive.1.2
    have hq := sim_setCall (s.us.get me) (w.users.get me) (w.net.get me).rx (h.q me) single
      (setCallU (w.users.get me) single).cmdInBuf (by simpa using hfree)
    have hqX : QInv (if single then { s.us.get me with charMode := true } else s.us.get me)
        (setCallU (w.users.get me) single) (w.net.get me).rx :=
      QInv_congr _ _ _ _ (by cases single <;> simp [core, setCallU]) hq
    refine ⟨G_touch h me hme ?_ (fun u hu => ?_) rfl ?_, fun u hu => hd u hu⟩
    · cases single <;> simpa [fifoStep] using hqX
    · cases single <;> simp [fifoStep, hu]
    · cases single <;> rfl

theorem G_runOps (sc : Scripts) (f : Nat) (w : World) (me : Nat) (ops : List Op) (s : FState) (h : G s w) (hd : Drained w) :
    G ((runOps sc f w me ops).2.foldl fifoStep s) (runOps sc f w me ops).1 ∧ Drained (runOps sc f w me ops).1 := by
  have hrem : ∀ (s : FState) (w : World) (t : Nat) (w' : World), G s w ∧ Drained w → w'.slots = removeUser w.slots t →
      w'.users = w.users → w'.net = w.net → w'.naccepted = w.naccepted → G s w' ∧ Drained w' :=
    fun s w t w' hh hs hu hn ha =>
      ⟨G_congr _ _ _ hh.1 (fun _ => by rw [hu]) hn ha, Drained_of w w' hh.2 (removeUser_interactive w w' t hs) hn⟩
  refine runOps_sim fifoStep (fun s w => G s w ∧ Drained w) ?_ ?_ (fun s w me hh => G_setCall s w me true hh.1 hh.2)
    (fun s w me hh => G_setCall s w me false hh.1 hh.2) (fun _ _ _ _ _ hh => hh) (fun _ _ _ _ _ hh => hh) ?_
    (fun _ _ _ hh => hh) sc f w me ops s ⟨h, hd⟩
  · intro s w me t hh
    split
    · exact hrem s w t _ hh rfl rfl rfl rfl
    · exact hh
  · intro s w me t hh
    split
    · exact hrem s w t _ hh rfl rfl rfl rfl
    · exact hh
  · intro s w me hh
    exact ⟨G_congr _ _ _ hh.1 (fun _ => rfl) rfl rfl, fun u hu => hh.2 u hu⟩

/-! ### process_user_command and the command loop keep the invariant, and the oracle stays silent -/

theorem served_accepted (s : FState) (w : World) (h : G s w) (v : Nat) (t0 : List Char)
    (hf : (firstCmd (w.users.get v).single (w.users.get v).buf).2 = some t0) : v ≤ w.naccepted := by
  cases Nat.lt_or_ge w.naccepted v with
  | inr hle => exact hle
  | inl hlt =>
    exfalso
    obtain ⟨he, hrx⟩ := h.fresh v hlt
    obtain ⟨p1, p2, h1, h2, _⟩ := (h.q v).split
    rw [he] at h1
    have hnil : p1 ++ p2 ++ (w.net.get v).rx = [] := h1.symm
    simp only [List.append_eq_nil_iff] at hnil
    rw [h2, hnil.1.1, hnil.1.2] at hf
    simp [firstCmd, dropNul, encL_nil, encR_nil] at hf

theorem G_puc (sc : Scripts) (w : World) (s : FState) (h : G s w) (hd : Drained w) :
    G ((processUserCommand sc w).2.1.foldl fifoStep s) (processUserCommand sc w).1 ∧
      Drained (processUserCommand sc w).1 := by
  rcases puc_cases sc w with ⟨_, e⟩ | ⟨_, ⟨hn, e⟩ | ⟨v, t, hg, e⟩⟩ <;> rw [e]
  · exact ⟨h, hd⟩
  · have k := guc_kept w
    exact ⟨G_congr s w _ h (fun x => QInv_touched _ _ _ _ (h.q x) (guc_none_records w hn x)) k.net k.naccepted,
      Drained_of w _ hd (fun u hu => (interactive_congr k.slots u).symm.trans hu) k.net⟩
  · obtain ⟨t0, ht, g⟩ := guc_some_records w v t hg
    have a := serve_kept w v
    have hrx : (w.net.get v).rx = [] := hd v g.interactive
    have hq : QInv (s.us.get v) (w.users.get v) [] := by have := h.q v; rw [hrx] at this; exact this
    have hv : v ≤ w.naccepted := served_accepted s w h v t0 g.cmd
    -- the oracle consumes the command that first_cmd_in_buf found, and the relation holds for what is left
    obtain ⟨p', hcons, hq'⟩ := sim_serve (s.us.get v) (w.users.get v) ((getUserCommand w).1.users.get v) hq t0 g.cmd
      (by rw [g.record, firstCmd_fst_dropNul]; rfl) (by rw [g.record]; rfl) (by rw [g.record]; rfl)
    have hstep : fifoStep s (Ev.cmd v t) = { s with us := upd s.us v { pending := p', charMode := false } } := by
      simp only [fifoStep, ht, hcons]
    rw [List.foldl_cons, hstep]
    refine G_runOps sc scriptFuel _ v (sc v t) _ (G_touch h v hv ?_ (fun u hu => ⟨?_, ?_, ?_⟩) a.naccepted rfl)
      (Drained_of w _ hd (fun u hu => (interactive_congr a.slots u).symm.trans hu) a.net)
    · rw [a.net, hrx, afterInput_get]
      simp only [get_upd, if_true]
      exact hq'
    · simp only [get_upd, hu, if_false]
    · rw [afterInput_get, if_neg hu]; exact QInv_touched _ _ _ _ (h.q u) (g.others u hu)
    · rw [a.net]

theorem G_cmdLoop (sc : Scripts) (k : Nat) (w : World) (s : FState) (h : G s w) (hd : Drained w) :
    G ((cmdLoop sc k w).2.foldl fifoStep s) (cmdLoop sc k w).1 :=
  (cmdLoop_sim sc fifoStep (fun s w => G s w ∧ Drained w) (fun s w hh => G_puc sc w s hh.1 hh.2) k w s ⟨h, hd⟩).1

/-- decidable side condition of the FIFO trace theorem: no sent byte is NUL, BS, DEL, CR or LF (a line end is `~`).
    With such a byte the statement is false for the model as for the driver: a backspace edits the line. -/
def plainCmds (cs : List Cmd) : Bool :=
  cs.all (fun c => match c with | .send _ d => d.all plainChar | _ => true)

theorem grantAll_core (users : AMap U) (sl : List (Option Nat)) (x : Nat) :
    core ((grantAll users sl).get x) = core (users.get x) := by
  rw [grantAll_get]; split <;> rfl

theorem G_accept (s : FState) (w : World) (h : G s w) : G s (accept w (w.naccepted + 1)) := by
  obtain ⟨he, hrx⟩ := h.fresh (w.naccepted + 1) (Nat.lt_succ_self _)
  refine ⟨?_, ?_, h.clean⟩
  · intro u
    simp only [accept, get_upd]
    split
    · rename_i hu; subst hu
      rw [he, hrx]; exact QInv_init
    · exact h.q u
  · intro u hu
    have : w.naccepted < u := Nat.lt_of_succ_lt hu
    exact h.fresh u this

theorem G_userIO (s : FState) (w : World) (u : Nat) (h : G s w) (hno : (userIO w u).overflow = false) :
    G s (userIO w u) := by
  obtain ⟨_, hroom, _⟩ := userIO_ovf w u hno
  rcases userIO_cases w u with ⟨_, e⟩ | ⟨_, hne, e⟩ | ⟨_, _, _, e⟩ | ⟨_, _, e⟩
  · rw [e] at hno; cases hno
  · rw [e]
    simp only [hroom hne, Bool.false_eq_true, if_false]
    have hu : u ≤ w.naccepted := by
      cases Nat.lt_or_ge w.naccepted u with
      | inr hle => exact hle
      | inl hlt => rw [(h.fresh u hlt).2] at hne; cases hne
    refine G_touch h u hu ?_ (fun x hx => ?_) rfl rfl
    · simpa only [get_upd, if_true] using sim_arrive _ _ _ (h.q u) _
    · simp only [get_upd, hx, if_false, and_self]
  · rw [e]; exact G_congr s w _ h (fun _ => rfl) rfl rfl
  · rw [e]; exact h

theorem userIO_facts (w : World) (u : Nat) :
    ((userIO w u).net.get u).rx = [] ∨ (w.net.get u).rx ≠ [] → True := fun _ => trivial

/-- a read that is not held back empties the socket of its user, leaves the other sockets alone and lets nobody into
    the table -/
theorem userIO_rx (w : World) (u : Nat) :
    ((userIO w u).overflow = false → ((userIO w u).net.get u).rx = []) ∧
    (∀ x, (w.net.get x).rx = [] → ((userIO w u).net.get x).rx = []) ∧
    (∀ x, (userIO w u).interactive x = true → w.interactive x = true) := by
  rcases userIO_cases w u with ⟨_, e⟩ | ⟨_, _, e⟩ | ⟨_, hr, _, e⟩ | ⟨_, hr, e⟩ <;> rw [e]
  · exact ⟨(fun h => by cases h), fun _ h => h, fun _ h => h⟩
  · refine ⟨(fun _ => by simp), fun x hx => ?_, fun _ h => h⟩
    simp only [get_upd]; split
    · rfl
    · exact hx
  · exact ⟨fun _ => List.isEmpty_iff.mp hr, fun _ h => h, removeUser_interactive w _ u rfl⟩
  · exact ⟨fun _ => List.isEmpty_iff.mp hr, fun _ h => h, fun _ h => h⟩

theorem fold_userIO (L : List Nat) (w : World) (s : FState) (h : G s w) (hno : (L.foldl userIO w).overflow = false) :
    G s (L.foldl userIO w) ∧ (∀ u, u ∈ L → ((L.foldl userIO w).net.get u).rx = []) ∧
    (∀ x, (w.net.get x).rx = [] → ((L.foldl userIO w).net.get x).rx = []) ∧
    (∀ x, (L.foldl userIO w).interactive x = true → w.interactive x = true) := by
  induction L generalizing w with
  | nil => exact ⟨h, (fun _ hu => by cases hu), fun _ hx => hx, fun _ hx => hx⟩
  | cons u r ih =>
    have hno1 : (userIO w u).overflow = false :=
      foldl_userIO_ind (fun w' => w'.overflow = false → (userIO w u).overflow = false)
        (fun a v ih h => ih (userIO_ovf a v h).1) r _ id hno
    obtain ⟨r1, r2, r3⟩ := userIO_rx w u
    obtain ⟨i1, i2, i3, i4⟩ := ih (userIO w u) (G_userIO s w u h hno1) hno
    refine ⟨i1, ?_, fun x hx => i3 x (r2 x hx), fun x hx => r3 x (i4 x hx)⟩
    intro x hx
    rcases List.mem_cons.mp hx with hx | hx
    · subst hx; exact i3 x (r1 hno1)
    · exact i2 x hx

theorem G_processIO (s : FState) (w : World) (h : G s w) (hno : (processIO w).1.overflow = false) :
    G ((processIO w).2.foldl fifoStep s) (processIO w).1 ∧ Drained (processIO w).1 := by
  have hmem : ∀ x, w.interactive x = true → x ∈ w.slots.filterMap id := by
    intro x hx
    simp only [World.interactive, List.contains_iff_mem] at hx
    exact List.mem_filterMap.mpr ⟨some x, hx, rfl⟩
  rw [processIO_eq] at hno ⊢
  split
  · rename_i hlt
    rw [if_pos hlt] at hno
    obtain ⟨f1, f2, f3, f4⟩ := fold_userIO (w.slots.filterMap id) (accept w (w.naccepted + 1)) s (G_accept s w h) hno
    refine ⟨f1, fun x hx => ?_⟩
    obtain ⟨i, hi⟩ := interactive_At _ x (f4 x hx)
    rcases (accept_At w _ i x).mp hi with ⟨_, rfl⟩ | ⟨hi, _⟩
    · exact f3 _ (h.fresh _ (Nat.lt_succ_self _)).2
    · exact f2 x (hmem x (At_interactive w i x hi))
  · rename_i hlt
    rw [if_neg hlt] at hno
    obtain ⟨f1, f2, _, f4⟩ := fold_userIO (w.slots.filterMap id) w s h hno
    exact ⟨f1, fun x hx => f2 x (hmem x (f4 x hx))⟩

/-- when the command phase starts the simulation holds and the sockets of the table have been read -/
theorem G_phaseStart (fs : FState) (w : World) (h : G fs w) (hno : (cmdPhaseStart w).overflow = false) :
    G fs (cmdPhaseStart w) ∧ Drained (cmdPhaseStart w) := by
  have := G_processIO fs _ (G_congr fs w { w with cycle := w.cycle + 1, users := grantAll w.users w.slots } h
    (fun x => grantAll_core w.users w.slots x) rfl rfl) hno
  rwa [foldl_ignored fifoStep fs _ (fun e he => by obtain ⟨k, rfl⟩ := processIO_events _ e he; rfl)] at this

/-- of an iteration the FIFO oracle sees the events of the command loop only -/
theorem fifo_cycle (sc : Scripts) (w : World) (fs : FState) :
    (cycleStep sc w).2.foldl fifoStep fs =
      (cmdLoop sc (NV.Gen.C12.loopCalls (connectedUsers w) w.maxUsers) (cmdPhaseStart w)).2.foldl fifoStep fs := by
  rw [cycle_events]
  simp only [List.foldl_append]
  rw [foldl_ignored fifoStep fs (topEvents w) (fun e he => by
    rcases mem_topEvents w e he with rfl | rfl | rfl <;> rfl)]
  exact foldl_ignored fifoStep _ _ (fun e he => by
    rcases mem_endEvents _ _ e he with ⟨_, rfl⟩ | rfl | ⟨_, _, rfl⟩ <;> rfl)

theorem G_cycle (sc : Scripts) (w : World) (s : FState) (h : G s w) (hno : (cycleStep sc w).1.overflow = false) :
    G ((cycleStep sc w).2.foldl fifoStep s) (cycleStep sc w).1 := by
  obtain ⟨p1, p2⟩ := G_phaseStart s w h (cycleStep_ovf sc w hno).1
  rw [fifo_cycle, cycleStep_world]
  exact G_cmdLoop sc _ _ _ p1 p2

theorem G_cycleRun (sc : Scripts) (f : Nat) (w : World) (s : FState) (h : G s w)
    (hno : (cycleRun sc f w).1.overflow = false) :
    G ((cycleRun sc f w).2.foldl fifoStep s) (cycleRun sc f w).1 :=
  cycleRun_fold_noQuiet sc fifoStep (fun s w => w.overflow = false → G s w)
    (hstep := fun s w hh hn => G_cycle sc w s (hh (cycleStep_ovf sc w hn).2) hn)
    (hclear := fun s w hh hn => G_congr s w _ (hh hn) (fun _ => rfl) rfl rfl)
    (hcrash := fun s w hh hn => G_congr s w _ (hh hn) (fun _ => rfl) rfl rfl) f w s (fun _ => h) hno

/-- a socket whose `rx` is as before: the queues of the FIFO invariant do not notice -/
theorem G_net (s : FState) (w : World) (h : G s w) (net : AMap Net) (hrx : ∀ x, (net.get x).rx = (w.net.get x).rx) :
    G s { w with net := net } :=
  ⟨fun x => by show QInv _ _ (net.get x).rx; rw [hrx]; exact h.q x,
   fun x hx => by show _ ∧ (net.get x).rx = []; rw [hrx]; exact h.fresh x hx, h.clean⟩

theorem G_step (sc : Scripts) (w : World) (s : FState) (c : Cmd) (h : G s w)
    (hc : (match c with | .send _ d => d.all plainChar | _ => true) = true)
    (hno : (step sc w c).1.overflow = false) :
    G ((step sc w c).2.foldl fifoStep s) (step sc w c).1 := by
  cases hcr : w.crashed with
  | true =>
    have : step sc w c = (w, []) := by simp [step, hcr]
    rw [this]; exact h
  | false =>
    cases c with
    | cycle => rw [step_cycle sc w hcr] at hno ⊢; exact G_cycleRun sc _ w s h hno
    | conn => rw [step_conn sc w hcr]; exact G_congr s w _ h (fun _ => rfl) rfl rfl
    | close u =>
      rcases step_close sc w u hcr with e | ⟨_, _, e⟩ <;> rw [e]
      · exact h
      · have hs : (if w.interactive u = true then [Ev.close u] else []).foldl fifoStep s = s := by
          split <;> rfl
        rw [hs]
        exact G_net s w h _ (fun x => by
          simp only [get_upd]; split
          · rename_i hx; rw [hx]
          · rfl)
    | send u d =>
      rcases step_send sc w u d hcr with e | ⟨_, hu, _, e⟩ <;> rw [e]
      · exact h
      · refine G_touch h u hu ?_ (fun x hx => ?_) rfl rfl
        · simpa only [List.foldl_cons, List.foldl_nil, fifoStep, get_upd, if_true] using sim_send _ _ _ _ (h.q u) hc
        · simp only [List.foldl_cons, List.foldl_nil, fifoStep, get_upd, hx, if_false, and_self]

theorem plainCmds_mem (cs : List Cmd) (hp : plainCmds cs = true) :
    ∀ c ∈ cs, (match c with | .send _ d => d.all plainChar | _ => true) = true :=
  List.all_eq_true.mp hp

theorem G_run (sc : Scripts) (cs : List Cmd) (w : World) (s : FState) (h : G s w) (hp : plainCmds cs = true)
    (hno : (run sc w cs).1.overflow = false) :
    G ((run sc w cs).2.foldl fifoStep s) (run sc w cs).1 :=
  run_events sc (fun es w => w.overflow = false → G (es.foldl fifoStep s) w) _
    (fun es w c hc h hn => by rw [List.foldl_append]; exact G_step sc w _ c (h (step_ovf sc w c hn)) hc hn)
    cs (plainCmds_mem cs hp) w [] (fun _ => h) hno

theorem G_init : G {} {} :=
  ⟨fun _ => QInv_init, fun _ _ => ⟨rfl, rfl⟩, rfl⟩

/-- **trace theorem 3** (`per_user_fifo` at trace level, clause `fifo`): for every history whose sent bytes are plain and
    every script oracle, each buffered command executed by the model is the oldest unconsumed input of its user - a
    complete line in line mode, everything typed so far in single-char mode: order, no loss, no duplication, through
    mode switches, reframing, kicks and command() calls. -/
theorem judgeFifo_events (sc : Scripts) (cs : List Cmd) (hp : plainCmds cs = true)
    (hno : (run sc {} cs).1.overflow = false) : judgeFifo (events sc cs) = [] := by
  unfold judgeFifo events
  rw [(G_run sc cs {} {} G_init hp hno).clean]
  rfl

end NV.C12
