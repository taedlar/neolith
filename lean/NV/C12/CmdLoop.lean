/-
C12 — process_user_command and the bounded loop of backend(), taken apart once: a call does nothing (crash / error
pending), or get_user_command finds nobody, or it hands out a command, call_function_interactive does its bookkeeping
(`afterInput`) and the script runs.  `cmdLoop_sim` is the induction over the loop.
-/
import NV.C12.Script

namespace NV.C12

/-- call_function_interactive on a record: a pending input_to / get_char is consumed -/
def ended (us : U) : U := if us.inputTo then endInput us else us

/-- the world after call_function_interactive's bookkeeping for the served user -/
def afterInput (w1 : World) (x : Nat) : World :=
  if (w1.users.get x).inputTo then { w1 with users := upd w1.users x (endInput (w1.users.get x)) } else w1

theorem afterInput_kept (w1 : World) (x : Nat) : TableKept w1 (afterInput w1 x) := by
  unfold afterInput
  split <;> exact ⟨rfl, rfl, rfl, rfl, rfl, rfl⟩

theorem serve_kept (w : World) (x : Nat) : TableKept w (afterInput (getUserCommand w).1 x) :=
  (guc_kept w).trans (afterInput_kept _ x)

theorem afterInput_get (w1 : World) (x y : Nat) :
    (afterInput w1 x).users.get y = if y = x then ended (w1.users.get x) else w1.users.get y := by
  unfold afterInput ended
  split
  · simp only [get_upd]
  · split
    · rename_i h; rw [h]
    · rfl

theorem afterInput_frame (w1 : World) (x : Nat) : SchedFrame w1 (afterInput w1 x) := by
  unfold afterInput
  split
  · exact SchedFrame.upd w1 x _ (endInput_turn _)
  · exact SchedFrame.refl w1

theorem puc_cases (sc : Scripts) (w : World) :
    ((w.crashed || w.thrown) = true ∧ processUserCommand sc w = (w, [], false)) ∨
    ((w.crashed || w.thrown) = false ∧
      (((getUserCommand w).2 = none ∧ processUserCommand sc w = ((getUserCommand w).1, [], false)) ∨
       ∃ x t, (getUserCommand w).2 = some (x, t) ∧ processUserCommand sc w =
         ((runOps sc scriptFuel (afterInput (getUserCommand w).1 x) x (sc x t)).1,
          Ev.cmd x t :: (runOps sc scriptFuel (afterInput (getUserCommand w).1 x) x (sc x t)).2, true))) := by
  unfold processUserCommand
  split
  · rename_i h; exact Or.inl ⟨h, rfl⟩
  · rename_i h
    refine Or.inr ⟨by simpa using h, ?_⟩
    cases hg : getUserCommand w with
    | mk w1 r =>
      cases r with
      | none => exact Or.inl ⟨rfl, rfl⟩
      | some p => obtain ⟨x, t⟩ := p; exact Or.inr ⟨x, t, rfl, rfl⟩

/-- while an uncaught error unwinds, process_user_command is not called any more (the loop was left by longjmp) -/
theorem puc_thrown (sc : Scripts) (w : World) (h : w.thrown = true) : processUserCommand sc w = (w, [], false) := by
  simp [processUserCommand, h]

/-- the events of a call: none, or `cmd` followed by script events -/
theorem puc_events (sc : Scripts) (w : World) :
    (processUserCommand sc w).2.1 = [] ∨
      ∃ u t rest, (processUserCommand sc w).2.1 = Ev.cmd u t :: rest ∧
        ∀ e ∈ rest, Ev.inLoop e = true ∧ ∀ v, Ev.isCmdOf v e = false := by
  rcases puc_cases sc w with ⟨_, h⟩ | ⟨_, ⟨_, h⟩ | ⟨x, t, _, h⟩⟩
  · rw [h]; exact Or.inl rfl
  · rw [h]; exact Or.inl rfl
  · rw [h]; exact Or.inr ⟨x, t, _, rfl, runOps_events sc _ _ _ _⟩

/-- **the induction over the bounded loop**: a relation between an oracle state folded over the events and the
    world that one call of process_user_command keeps is kept by the loop -/
theorem cmdLoop_sim {σ : Type} (sc : Scripts) (g : σ → Ev → σ) (R : σ → World → Prop)
    (hpuc : ∀ s w, R s w → R ((processUserCommand sc w).2.1.foldl g s) (processUserCommand sc w).1)
    (k : Nat) (w : World) (s : σ) (h : R s w) : R ((cmdLoop sc k w).2.foldl g s) (cmdLoop sc k w).1 := by
  induction k generalizing w s with
  | zero => exact h
  | succ k ih =>
    have hp := hpuc s w h
    unfold cmdLoop
    cases hc : processUserCommand sc w with
    | mk w1 r =>
      obtain ⟨e1, b⟩ := r
      rw [hc] at hp
      cases b with
      | false => exact hp
      | true =>
        dsimp only
        rw [List.foldl_append]
        exact ih w1 _ hp

/-- world only -/
theorem cmdLoop_ind (sc : Scripts) (P : World → Prop) (hpuc : ∀ w, P w → P (processUserCommand sc w).1)
    (k : Nat) (w : World) (h : P w) : P (cmdLoop sc k w).1 :=
  cmdLoop_sim sc (fun (_ : Unit) _ => ()) (fun _ w => P w) (fun _ w h => hpuc w h) k w () h

/-- events only -/
theorem cmdLoop_events (sc : Scripts) (p : Ev → Prop) (hpuc : ∀ w, ∀ e ∈ (processUserCommand sc w).2.1, p e)
    (k : Nat) (w : World) : ∀ e ∈ (cmdLoop sc k w).2, p e := by
  have := cmdLoop_sim sc (fun s e => s ++ [e]) (fun es _ => ∀ e ∈ es, p e) (fun es w h e he => by
    rw [foldl_snoc] at he
    rcases List.mem_append.mp he with he | he
    · exact h e he
    · exact hpuc w e he) k w [] (fun _ he => by cases he)
  rwa [foldl_snoc, List.nil_append] at this

theorem cmdLoop_inLoop (sc : Scripts) (k : Nat) (w : World) : ∀ e ∈ (cmdLoop sc k w).2, Ev.inLoop e = true :=
  cmdLoop_events sc (fun e => Ev.inLoop e = true) (fun w e he => by
    rcases puc_events sc w with h | ⟨u, t, rest, h, hr⟩
    · rw [h] at he; cases he
    · rw [h] at he
      rcases List.mem_cons.mp he with he | he
      · rw [he]; rfl
      · exact (hr e he).1) k w

/-! ### what the command phase never writes: sockets, accept counter, overflow flag -/

structure NetKept (w w' : World) : Prop where
  net : w'.net = w.net
  naccepted : w'.naccepted = w.naccepted
  overflow : w'.overflow = w.overflow

theorem NetKept.refl (w : World) : NetKept w w := ⟨rfl, rfl, rfl⟩

theorem NetKept.trans {a b c : World} (h1 : NetKept a b) (h2 : NetKept b c) : NetKept a c :=
  ⟨h2.net.trans h1.net, h2.naccepted.trans h1.naccepted, h2.overflow.trans h1.overflow⟩

theorem TableKept.netKept {w w' : World} (h : TableKept w w') : NetKept w w' := ⟨h.net, h.naccepted, h.overflow⟩

theorem runOps_net (sc : Scripts) (f : Nat) (w : World) (me : Nat) (ops : List Op) : NetKept w (runOps sc f w me ops).1 :=
  runOps_rel NetKept .refl (fun _ _ _ => .trans) (fun _ _ => ⟨rfl, rfl, rfl⟩) (fun _ _ => ⟨rfl, rfl, rfl⟩)
    (fun w me s => (setCall_kept w me s).netKept) (fun _ => ⟨rfl, rfl, rfl⟩) sc f w me ops

theorem puc_net (sc : Scripts) (w : World) : NetKept w (processUserCommand sc w).1 := by
  rcases puc_cases sc w with ⟨_, h⟩ | ⟨_, ⟨_, h⟩ | ⟨x, t, _, h⟩⟩ <;> rw [h]
  · exact .refl w
  · exact (guc_kept w).netKept
  · exact (serve_kept w x).netKept.trans (runOps_net sc scriptFuel _ x (sc x t))

theorem cmdLoop_net (sc : Scripts) (k : Nat) (w : World) : NetKept w (cmdLoop sc k w).1 :=
  cmdLoop_ind sc (NetKept w) (fun w1 h => h.trans (puc_net sc w1)) k w (.refl w)

/-! ### turns: a call serves a user who held a turn and clears exactly that turn -/

/-- a call of process_user_command from `w` with result `r`: it reports "no more commands", logs nothing and leaves the
    turns alone, or it serves a user who held a turn and clears exactly that turn -/
structure PucTurns (w : World) (r : World × List Ev × Bool) : Prop where
  safe : Safe r.1
  length : r.1.slots.length = w.slots.length
  idle : r.2.2 = false → r.2.1 = [] ∧ ∀ x, turnOf r.1 x = turnOf w x
  served : r.2.2 = true →
    ∃ u t rest, r.2.1 = Ev.cmd u t :: rest ∧ (∀ v, ∀ e ∈ rest, Ev.isCmdOf v e = false) ∧ turnOf w u = true ∧
      ∀ x, turnOf r.1 x = (if x = u then false else turnOf w x)

theorem puc_turns (sc : Scripts) (w : World) (hs : Safe w) : PucTurns w (processUserCommand sc w) := by
  have k := guc_kept w
  rcases puc_cases sc w with ⟨_, h⟩ | ⟨_, ⟨hn, h⟩ | ⟨u, t, hg, h⟩⟩
  · rw [h]; exact ⟨hs, rfl, fun _ => ⟨rfl, fun _ => rfl⟩, fun hh => by cases hh⟩
  · rw [h]
    exact ⟨guc_safe w hs, by rw [k.slots], fun _ => ⟨rfl, fun x => (guc_none_records w hn x).same.turn⟩,
      fun hh => by cases hh⟩
  · rw [h]
    obtain ⟨_, _, g⟩ := guc_some_records w u t hg
    obtain ⟨r1, r2⟩ := runOps_frame sc scriptFuel (afterInput (getUserCommand w).1 u) u (sc u t)
    have hF := (afterInput_frame (getUserCommand w).1 u).trans r1
    refine ⟨hF.safe (guc_safe w hs), by rw [hF.length, k.slots], (fun hh => by cases hh),
      fun _ => ⟨u, t, _, rfl, r2, g.turn, fun x => ?_⟩⟩
    rw [hF.turn x]
    split
    · rename_i hx; rw [hx, turnOf, g.record]; rfl
    · rename_i hx; exact (g.others x hx).same.turn

theorem cmdLoop_spec (sc : Scripts) (k : Nat) (w : World) (hs : Safe w) :
    Safe (cmdLoop sc k w).1 ∧ (cmdLoop sc k w).1.slots.length = w.slots.length ∧
      (∀ u, cmdCount u (cmdLoop sc k w).2 ≤ (if turnOf w u then 1 else 0)) ∧
      (∀ x, turnOf (cmdLoop sc k w).1 x = true → turnOf w x = true) := by
  induction k generalizing w with
  | zero => simp [cmdLoop, hs, cmdCount]
  | succ k ih =>
    have p := puc_turns sc w hs
    unfold cmdLoop
    cases hp : processUserCommand sc w with
    | mk w1 r =>
      obtain ⟨e1, b⟩ := r
      rw [hp] at p
      cases b with
      | false =>
        obtain ⟨q1, q2⟩ := p.idle rfl
        dsimp only at q1 q2 ⊢
        refine ⟨p.safe, p.length, ?_, ?_⟩
        · intro u; subst q1; simp [cmdCount]
        · intro x hx; rw [q2 x] at hx; exact hx
      | true =>
        obtain ⟨u, t, rest, q1, q2, q3, q4⟩ := p.served rfl
        obtain ⟨i1, i2, i3, i4⟩ := ih w1 p.safe
        dsimp only at q1 q4 ⊢
        refine ⟨i1, by rw [i2]; exact p.length, ?_, ?_⟩
        · intro v
          rw [cmdCount_append, q1]
          have hhead : cmdCount v (Ev.cmd u t :: rest) = (if u = v then 1 else 0) := by
            have h0 := cmdCount_zero_of_none v rest (q2 v)
            simp only [cmdCount] at h0
            simp [cmdCount, List.countP_cons, Ev.isCmdOf, h0]
          rw [hhead]
          have htail := i3 v
          rw [q4 v] at htail
          by_cases hv : v = u
          · subst hv
            simp at htail
            rw [q3]; simp [htail]
          · have hv' : ¬ u = v := fun h => hv h.symm
            simp only [hv, if_false] at htail
            simp only [hv', if_false, Nat.zero_add]
            exact htail
        · intro x hx
          have := i4 x hx
          rw [q4 x] at this
          split at this
          · cases this
          · exact this

theorem cmdLoop_safe (sc : Scripts) (k : Nat) (w : World) (hs : Safe w) : Safe (cmdLoop sc k w).1 :=
  (cmdLoop_spec sc k w hs).1

/-- the loop serves a user at most once, and only if he held a turn -/
theorem cmdLoop_cmdCount_le (sc : Scripts) (k : Nat) (w : World) (hs : Safe w) (u : Nat) :
    cmdCount u (cmdLoop sc k w).2 ≤ (if turnOf w u then 1 else 0) :=
  (cmdLoop_spec sc k w hs).2.2.1 u

end NV.C12
