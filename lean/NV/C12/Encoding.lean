/-
C12 — the two encodings of sent bytes in `interactive_t.text` (`encL`: line mode, `~` -> " \b\0";  `encR`: single-char
mode, `~` -> CR LF), what first_cmd_in_buf / next_cmd_in_buf / telnet_neg / reframe do to an encoded buffer, and that the
oracle's `consume` follows the extraction.
-/
import NV.C12.Spec
import NV.C12.Basics

namespace NV.C12

/-- bytes the theorem quantifies over: anything except the five bytes the framing itself reacts to -/
def plainChar (c : Char) : Bool := c != NUL && c != BS && c != DEL && c != CR && c != LF

def encL (p : List Char) : List Char := copyChars false p
def encR (p : List Char) : List Char := copyChars true p

theorem encL_nil : encL [] = [] := rfl
theorem encR_nil : encR [] = [] := rfl

theorem copyChars_cons (single : Bool) (c : Char) (p : List Char) :
    copyChars single (c :: p) =
      (if c == '~' then (if single then [CR, LF] else [' ', BS, NUL]) else [c]) ++ copyChars single p := by
  simp [copyChars]

theorem encL_cons (c : Char) (p : List Char) :
    encL (c :: p) = (if c == '~' then [' ', BS, NUL] else [c]) ++ encL p :=
  copyChars_cons false c p

theorem encR_cons (c : Char) (p : List Char) :
    encR (c :: p) = (if c == '~' then [CR, LF] else [c]) ++ encR p :=
  copyChars_cons true c p

theorem encL_append (a b : List Char) : encL (a ++ b) = encL a ++ encL b := by
  simp [encL, copyChars]

theorem encR_append (a b : List Char) : encR (a ++ b) = encR a ++ encR b := by
  simp [encR, copyChars]

theorem copyChars_eq (single : Bool) (d : List Char) : copyChars single d = if single then encR d else encL d := by
  cases single <;> rfl

/-- text without a line terminator is copied as it is, in either mode -/
theorem copyChars_noTilde (single : Bool) (l : List Char) (h : l.contains '~' = false) : copyChars single l = l := by
  induction l with
  | nil => rfl
  | cons c r ih =>
    simp only [List.contains_cons, Bool.or_eq_false_iff] at h
    have hc : (c == '~') = false := by
      have := h.1
      simp only [beq_eq_false_iff_ne, ne_eq] at this ⊢
      exact fun hh => this hh.symm
    rw [copyChars_cons, hc, ih h.2]; rfl

theorem encL_noTilde (l : List Char) (h : l.contains '~' = false) : encL l = l := copyChars_noTilde false l h

theorem encR_noTilde (l : List Char) (h : l.contains '~' = false) : encR l = l := copyChars_noTilde true l h

/-- the head of a non-empty encoded buffer is never NUL -/
theorem enc_head_ne_nul (p1 p2 : List Char) (h1 : p1.all plainChar = true) (h2 : p2.all plainChar = true) :
    dropNul (encL p1 ++ encR p2) = encL p1 ++ encR p2 := by
  unfold dropNul
  cases p1 with
  | cons c r =>
    rw [encL_cons]
    by_cases hc : (c == '~') = true
    · have : (' ' == NUL) = false := by decide
      simp [hc, this]
    · simp only [hc, Bool.false_eq_true, if_false, List.cons_append, List.nil_append, List.dropWhile_cons]
      simp only [List.all_cons, Bool.and_eq_true] at h1
      have : (c == NUL) = false := by
        have := h1.1; simp [plainChar] at this; simp [this.1]
      simp [this]
  | nil =>
    simp only [encL_nil, List.nil_append]
    cases p2 with
    | nil => rfl
    | cons c r =>
      rw [encR_cons]
      by_cases hc : (c == '~') = true
      · have : (CR == NUL) = false := by decide
        simp [hc, this]
      · simp only [hc, Bool.false_eq_true, if_false, List.cons_append, List.nil_append, List.dropWhile_cons]
        simp only [List.all_cons, Bool.and_eq_true] at h2
        have : (c == NUL) = false := by
          have := h2.1; simp [plainChar] at this; simp [this.1]
        simp [this]

theorem takeWhile_toNul (l X : List Char) (h : l.all (· != NUL) = true) :
    (l ++ NUL :: X).takeWhile (· != NUL) = l := by
  rw [List.takeWhile_append_of_pos (List.all_eq_true.mp h)]; simp

theorem dropWhile_toNul (l X : List Char) (h : l.all (· != NUL) = true) :
    (l ++ NUL :: X).dropWhile (· != NUL) = NUL :: X := by
  rw [List.dropWhile_append_of_pos (List.all_eq_true.mp h)]; simp

theorem takeWhile_noNul (l : List Char) (h : l.all (· != NUL) = true) : l.takeWhile (· != NUL) = l := by
  simpa using List.takeWhile_append_of_pos (l₂ := []) (List.all_eq_true.mp h)

theorem dropWhile_noNul (l : List Char) (h : l.all (· != NUL) = true) : l.dropWhile (· != NUL) = [] := by
  simpa using List.dropWhile_append_of_pos (l₂ := []) (List.all_eq_true.mp h)

theorem contains_nul_of (l X : List Char) : (l ++ NUL :: X).contains NUL = true := by
  simp

theorem contains_nul_false (l : List Char) (h : l.all (· != NUL) = true) : l.contains NUL = false := by
  induction l with
  | nil => rfl
  | cons c r ih =>
    simp only [List.all_cons, Bool.and_eq_true] at h
    have hc : (c != NUL) = true := h.1
    simp only [List.contains_cons, ih h.2, Bool.or_false]
    simp only [bne_iff_ne, ne_eq] at hc
    simp only [beq_eq_false_iff_ne, ne_eq]
    exact fun hh => hc hh.symm

theorem telnetNeg_fold (acc l : List Char) (h : l.all (fun c => c != BS && c != DEL) = true) :
    l.foldl (fun acc c => if c == BS || c == DEL then acc.dropLast else acc ++ [c]) acc = acc ++ l := by
  induction l generalizing acc with
  | nil => simp
  | cons c r ih =>
    simp only [List.all_cons, Bool.and_eq_true, bne_iff_ne, ne_eq] at h
    have h1 : (c == BS) = false := by simp [h.1.1]
    have h2 : (c == DEL) = false := by simp [h.1.2]
    have hr : r.all (fun c => c != BS && c != DEL) = true := h.2
    simp only [List.foldl_cons, h1, h2, Bool.or_false, Bool.false_eq_true, if_false]
    rw [ih _ hr]; simp

theorem telnetNeg_plain (l : List Char) (h : l.all (fun c => c != BS && c != DEL) = true) : telnetNeg l = l := by
  unfold telnetNeg; rw [telnetNeg_fold [] l h]; rfl

theorem telnetNeg_line (l : List Char) (h : l.all (fun c => c != BS && c != DEL) = true) :
    telnetNeg (l ++ [' ', BS]) = l := by
  unfold telnetNeg
  rw [List.foldl_append, telnetNeg_fold [] l h]
  have h1 : ¬ (' ' = BS) := by decide
  have h2 : ¬ (' ' = DEL) := by decide
  simp [List.foldl_cons, h1, h2]

theorem plain_noNul (l : List Char) (h : l.all plainChar = true) : l.all (· != NUL) = true := by
  simp only [List.all_eq_true] at h ⊢
  intro c hc; have := h c hc; simp only [plainChar, Bool.and_eq_true] at this; exact this.1.1.1.1

theorem plain_noEdit (l : List Char) (h : l.all plainChar = true) : l.all (fun c => c != BS && c != DEL) = true := by
  simp only [List.all_eq_true] at h ⊢
  intro c hc; have := h c hc; simp only [plainChar, Bool.and_eq_true] at this
  simp [this.1.1.1.2, this.1.1.2]

theorem encR_noNul (p : List Char) (h : p.all plainChar = true) : (encR p).all (· != NUL) = true := by
  induction p with
  | nil => rfl
  | cons c r ih =>
    simp only [List.all_cons, Bool.and_eq_true] at h
    rw [encR_cons, List.all_append, ih h.2, Bool.and_true]
    split
    · decide
    · have := h.1; simp only [plainChar, Bool.and_eq_true] at this
      simp [this.1.1.1.1]

theorem encR_noEdit (p : List Char) (h : p.all plainChar = true) :
    (encR p).all (fun c => c != BS && c != DEL) = true := by
  induction p with
  | nil => rfl
  | cons c r ih =>
    simp only [List.all_cons, Bool.and_eq_true] at h
    rw [encR_cons, List.all_append, ih h.2, Bool.and_true]
    split
    · decide
    · have := h.1; simp only [plainChar, Bool.and_eq_true] at this
      simp [this.1.1.1.2, this.1.1.2]

theorem dropNul_nul_cons (X : List Char) : dropNul (NUL :: X) = dropNul X := by
  simp [dropNul]

theorem encL_line (l r : List Char) (hl : l.contains '~' = false) :
    encL (l ++ '~' :: r) = (l ++ [' ', BS]) ++ NUL :: encL r := by
  rw [encL_append, encL_noTilde l hl, encL_cons]
  simp

/-- line case: the oldest pending input is a complete line `l` that arrived in line mode -/
theorem firstCmd_line (single : Bool) (l r p2 : List Char) (hl : l.contains '~' = false)
    (h1 : (l ++ '~' :: r).all plainChar = true) (h2 : p2.all plainChar = true) :
    firstCmd single (encL (l ++ '~' :: r) ++ encR p2) = (encL (l ++ '~' :: r) ++ encR p2, some (l ++ [' ', BS])) ∧
    nextCmd (encL (l ++ '~' :: r) ++ encR p2) = encL r ++ encR p2 ∧
    telnetNeg (l ++ [' ', BS]) = l := by
  have hd := enc_head_ne_nul (l ++ '~' :: r) p2 h1 h2
  have hlp : l.all plainChar = true := by
    simp only [List.all_append, Bool.and_eq_true] at h1; exact h1.1
  have hrp : r.all plainChar = true := by
    simp only [List.all_append, List.all_cons, Bool.and_eq_true] at h1; exact h1.2.2
  have hnn : (l ++ [' ', BS]).all (· != NUL) = true := by
    rw [List.all_append, plain_noNul l hlp]; decide
  have hshape : encL (l ++ '~' :: r) ++ encR p2 = (l ++ [' ', BS]) ++ NUL :: (encL r ++ encR p2) := by
    rw [encL_line l r hl]; simp
  refine ⟨?_, ?_, telnetNeg_line l (plain_noEdit l hlp)⟩
  · unfold firstCmd
    simp only [hd]
    rw [hshape, takeWhile_toNul _ _ hnn]
    have hne : ((l ++ [' ', BS]) ++ NUL :: (encL r ++ encR p2)).isEmpty = false := by
      cases l <;> rfl
    simp only [hne, Bool.false_eq_true, if_false, contains_nul_of, if_true]
    cases single <;> rfl
  · unfold nextCmd
    rw [hshape, dropWhile_toNul _ _ hnn, dropNul_nul_cons]
    exact enc_head_ne_nul r p2 hrp h2

/-- char case: no complete line-mode line is pending; in single-char mode everything buffered is one command -/
theorem firstCmd_char (p1 p2 : List Char) (hl : p1.contains '~' = false) (h1 : p1.all plainChar = true)
    (h2 : p2.all plainChar = true) (hne : (p1 ++ encR p2).isEmpty = false) :
    firstCmd true (encL p1 ++ encR p2) = (p1 ++ encR p2, some (p1 ++ encR p2)) ∧
    nextCmd (p1 ++ encR p2) = [] ∧ telnetNeg (p1 ++ encR p2) = p1 ++ encR p2 := by
  have hd := enc_head_ne_nul p1 p2 h1 h2
  rw [encL_noTilde p1 hl] at hd ⊢
  have hnn : (p1 ++ encR p2).all (· != NUL) = true := by
    rw [List.all_append, plain_noNul p1 h1, encR_noNul p2 h2]; rfl
  have hed : (p1 ++ encR p2).all (fun c => c != BS && c != DEL) = true := by
    rw [List.all_append, plain_noEdit p1 h1, encR_noEdit p2 h2]; rfl
  refine ⟨?_, ?_, telnetNeg_plain _ hed⟩
  · unfold firstCmd
    simp only [hd, hne, Bool.false_eq_true, if_false, if_true, takeWhile_noNul _ hnn]
  · unfold nextCmd
    rw [dropWhile_noNul _ hnn]; rfl

/-- nothing complete in line mode -/
theorem firstCmd_partial (p1 : List Char) (hl : p1.contains '~' = false) (h1 : p1.all plainChar = true) :
    (firstCmd false (encL p1 ++ encR [])).2 = none := by
  have hd := enc_head_ne_nul p1 [] h1 rfl
  rw [encL_noTilde p1 hl] at hd ⊢
  simp only [encR_nil, List.append_nil] at hd ⊢
  unfold firstCmd
  simp only [hd, contains_nul_false p1 (plain_noNul p1 h1), Bool.false_eq_true, if_false]
  split <;> rfl

theorem isPrefixOf_self_append (a b : List Char) : (a).isPrefixOf (a ++ b) = true := by
  rw [List.isPrefixOf_iff_prefix]; exact List.prefix_append a b

theorem consume_line (cm : Bool) (l r : List Char) : consume cm (l ++ '~' :: r) l = some r := by
  unfold consume
  have : l ++ '~' :: r = (l ++ ['~']) ++ r := by simp
  simp only [this, isPrefixOf_self_append, if_true, List.drop_left]

theorem encR_length_ge (p : List Char) : p.length ≤ (encR p).length := by
  induction p with
  | nil => simp [encR_nil]
  | cons c r ih => rw [encR_cons]; split <;> simp <;> omega

theorem encR_isEmpty (p : List Char) (h : (encR p).isEmpty = true) : p = [] := by
  have := encR_length_ge p
  cases p with
  | nil => rfl
  | cons c r =>
    have h0 : (encR (c :: r)).length = 0 := by simpa using h
    simp only [List.length_cons] at this
    omega

theorem stripRaw_enc (q t r : List Char) (hq : q.all plainChar = true) :
    stripRaw (encR q ++ t) (q ++ r) = stripRaw t r := by
  induction q with
  | nil => simp [encR_nil]
  | cons x q ih =>
    simp only [List.all_cons, Bool.and_eq_true] at hq
    rw [encR_cons]
    by_cases hx : (x == '~') = true
    · simp only [hx, if_true, List.cons_append, List.nil_append]
      conv => lhs; unfold stripRaw
      simp only [hx, if_true]
      have h1 : (CR == CR) = true := by decide
      have h2 : (LF == LF) = true := by decide
      simp only [h1, h2, Bool.and_self, if_true]
      exact ih hq.2
    · simp only [hx, Bool.false_eq_true, if_false, List.cons_append, List.nil_append]
      conv => lhs; unfold stripRaw
      simp only [hx, Bool.false_eq_true, if_false, beq_self_eq_true, if_true]
      exact ih hq.2

/-- char case of the oracle: the whole pending input, raw-encoded, is consumed entirely -/
theorem consume_char (p1 p2 : List Char) (hl : p1.contains '~' = false) (h1 : p1.all plainChar = true)
    (h2 : p2.all plainChar = true) (hne : (p1 ++ encR p2).isEmpty = false) :
    consume true (p1 ++ p2) (p1 ++ encR p2) = some [] := by
  unfold consume
  have hlen : ¬ ((p1 ++ encR p2 ++ ['~']).isPrefixOf (p1 ++ p2) = true) := by
    intro h
    rw [List.isPrefixOf_iff_prefix] at h
    have := h.length_le
    have := encR_length_ge p2
    simp at *
    omega
  simp only [hlen, hne, Bool.not_false, Bool.and_self, if_true]
  have : p1 ++ encR p2 = encR (p1 ++ p2) ++ [] := by
    rw [encR_append, encR_noTilde p1 hl]; simp
  rw [this]
  have hall : (p1 ++ p2).all plainChar = true := by rw [List.all_append, h1, h2]; rfl
  have := stripRaw_enc (p1 ++ p2) [] [] hall
  simp only [List.append_nil] at this ⊢
  rw [this]; rfl

theorem reframeAux_encL (a Y : List Char) (ha : a.all plainChar = true) :
    reframeAux false (encL a ++ Y) = encL a ++ reframeAux false Y := by
  induction a with
  | nil => simp [encL_nil]
  | cons c r ih =>
    simp only [List.all_cons, Bool.and_eq_true] at ha
    rw [encL_cons]
    by_cases hc : (c == '~') = true
    · simp only [hc, if_true, List.cons_append, List.nil_append]
      have e1 : (' ' == CR) = false := by decide
      have e2 : (BS == CR) = false := by decide
      have e3 : (NUL == CR) = false := by decide
      simp only [reframeAux, e1, e2, e3, Bool.false_eq_true, if_false, ih ha.2]
    · have hcr : (c == CR) = false := by
        have := ha.1; simp only [plainChar, Bool.and_eq_true, bne_iff_ne, ne_eq] at this
        simp [this.1.2]
      simp only [hc, Bool.false_eq_true, if_false, List.cons_append, List.nil_append, reframeAux, hcr, ih ha.2]

theorem reframeAux_encR (b : List Char) (hb : b.all plainChar = true) : reframeAux false (encR b) = encL b := by
  induction b with
  | nil => rfl
  | cons c r ih =>
    simp only [List.all_cons, Bool.and_eq_true] at hb
    rw [encR_cons, encL_cons]
    by_cases hc : (c == '~') = true
    · have e1 : (CR == CR) = true := by decide
      have e2 : (LF == LF) = true := by decide
      simp only [hc, if_true, List.cons_append, List.nil_append, reframeAux, e1, e2, ih hb.2]
    · have hcr : (c == CR) = false := by
        have := hb.1; simp only [plainChar, Bool.and_eq_true, bne_iff_ne, ne_eq] at this
        simp [this.1.2]
      simp only [hc, Bool.false_eq_true, if_false, List.cons_append, List.nil_append, reframeAux, hcr, ih hb.2]

/-- when single-char mode ends the raw tail gets the line framing: the buffer is the line encoding of everything -/
theorem reframe_enc (a b : List Char) (ha : a.all plainChar = true) (hb : b.all plainChar = true) :
    reframe (encL a ++ encR b) = encL (a ++ b) := by
  unfold reframe
  rw [reframeAux_encL a _ ha, reframeAux_encR b hb, encL_append]

end NV.C12
