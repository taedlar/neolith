/-
C12 — the byte-queue simulation between the FIFO clause oracle (`fifoStep`, NV/C12/Spec.lean) and the model, proved
locally for each of the three places where the queue of a user changes:
  arrival        (`userIO`:   get_user_data appends)                       `sim_arrive`
  mode switch    (`setCall`:  get_char / input_to)                         `sim_setCall`
  service        (`scanStep` found + `getUserCommand` + `endInput`)        `sim_serve`
`QInv f us rx` relates the oracle's record `f` of a user (bytes sent and not consumed, get_char pending) to the model's
`interactive_t` record `us` and the bytes `rx` still in the socket: the unconsumed bytes are, in order, a line-encoded
part, a raw (single-char) part - non-empty only while single-char mode is on - and the unread part.
The global induction that threads `QInv` through `run` is Fifo.lean.
-/
import NV.C12.Encoding

namespace NV.C12

structure QInv (f : FU) (us : U) (rx : List Char) : Prop where
  mode : f.charMode = us.single
  -- single-char mode is switched on by get_char only, together with the pending input (`setCall`); hence the service
  -- that consumes the input (`endInput`) is also the one that ends the mode and reframes the raw part (`sim_serve`)
  inp : us.single = true → us.inputTo = true
  plain : f.pending.all plainChar = true
  -- line-encoded part `p1`, raw part `p2`, unread part `rx`
  split : ∃ p1 p2, f.pending = p1 ++ p2 ++ rx ∧ us.buf = encL p1 ++ encR p2 ∧ (us.single = false → p2 = [])

/-- non-vacuity / initial state -/
theorem QInv_init : QInv {} {} [] := ⟨rfl, (by intro h; cases h), rfl, [], [], rfl, rfl, fun _ => rfl⟩

/-- the part of `interactive_t` the byte queue lives in -/
def core (us : U) : Bool × Bool × List Char := (us.single, us.inputTo, us.buf)

theorem QInv_congr (f : FU) (us us' : U) (rx : List Char) (hc : core us' = core us) (h : QInv f us rx) : QInv f us' rx := by
  simp only [core, Prod.mk.injEq] at hc
  obtain ⟨c1, c2, c3⟩ := hc
  obtain ⟨p1, p2, h1, h2, h3⟩ := h.split
  exact ⟨by rw [c1]; exact h.mode, by rw [c1, c2]; exact h.inp, h.plain, p1, p2, h1, by rw [c3]; exact h2, by rw [c1]; exact h3⟩

/-- an encoded buffer never starts with a NUL -/
theorem QInv_noLead (f : FU) (us : U) (rx : List Char) (h : QInv f us rx) : dropNul us.buf = us.buf := by
  obtain ⟨p1, p2, h1, h2, _⟩ := h.split
  have hp : (p1 ++ p2 ++ rx).all plainChar = true := by rw [← h1]; exact h.plain
  simp only [List.all_append, Bool.and_eq_true] at hp
  rw [h2]; exact enc_head_ne_nul p1 p2 hp.1.1 hp.1.2

/-- a client sends plain bytes: the oracle appends them to `pending`, the model to the socket -/
theorem sim_send (f : FU) (us : U) (rx d : List Char) (h : QInv f us rx) (hd : d.all plainChar = true) :
    QInv { f with pending := f.pending ++ d } us (rx ++ d) := by
  obtain ⟨p1, p2, h1, h2, h3⟩ := h.split
  refine ⟨h.mode, h.inp, by simp [List.all_append, h.plain, hd], p1, p2, ?_, h2, h3⟩
  simp [h1]

/-- get_user_data: the unread bytes are appended to the buffer in the encoding of the current mode; the oracle
    does not move -/
theorem sim_arrive (f : FU) (us : U) (rx : List Char) (h : QInv f us rx) (flag : Bool) :
    QInv f { us with buf := us.buf ++ copyChars us.single rx, cmdInBuf := flag } [] := by
  obtain ⟨p1, p2, h1, h2, h3⟩ := h.split
  refine ⟨h.mode, h.inp, h.plain, ?_⟩
  cases hs : us.single with
  | true =>
    refine ⟨p1, p2 ++ rx, by simp [h1], ?_, by intro hh; cases hh⟩
    simp [h2, copyChars_eq, encR_append]
  | false =>
    have := h3 hs
    subst this
    refine ⟨p1 ++ rx, [], by simp [h1], ?_, fun _ => rfl⟩
    simp [h2, copyChars_eq, encL_append, encR_nil]

/-- get_char / input_to succeed: both sides switch the mode together, the queue does not move -/
theorem sim_setCall (f : FU) (us : U) (rx : List Char) (h : QInv f us rx) (single : Bool) (flag : Bool)
    (hfree : us.inputTo = false) :
    QInv (if single then { f with charMode := true } else f)
      { us with inputTo := true, single := us.single || single, cmdInBuf := flag } rx := by
  have hs : us.single = false := by
    cases hh : us.single with
    | false => rfl
    | true => have := h.inp hh; rw [hfree] at this; cases this
  obtain ⟨p1, p2, h1, h2, h3⟩ := h.split
  have hp2 := h3 hs
  subst hp2
  cases single with
  | true =>
    exact ⟨by simp [hs], fun _ => rfl, h.plain, p1, [], h1, h2, fun hh => by simp [hs] at hh⟩
  | false =>
    refine ⟨by simpa [hs] using h.mode, fun hh => rfl, h.plain, p1, [], h1, h2, fun _ => rfl⟩

theorem split_at_tilde (p : List Char) (h : p.contains '~' = true) :
    ∃ l r, p = l ++ '~' :: r ∧ l.contains '~' = false := by
  induction p with
  | nil => simp at h
  | cons c q ih =>
    by_cases hc : c = '~'
    · exact ⟨[], q, by simp [hc], rfl⟩
    · have hq : q.contains '~' = true := by
        simp only [List.contains_cons, Bool.or_eq_true, beq_iff_eq] at h
        rcases h with h | h
        · exact absurd h.symm hc
        · exact h
      obtain ⟨l, r, h1, h2⟩ := ih hq
      refine ⟨c :: l, r, by simp [h1], ?_⟩
      simp only [List.contains_cons, h2, Bool.or_false, beq_eq_false_iff_ne, ne_eq]
      exact fun hh => hc hh.symm

/-- **service**: the user's socket is drained (`rx = []`), get_user_command hands out the command `t` found by
    first_cmd_in_buf, leaves `next_cmd_in_buf` of the buffer, and process_user_command ends a pending
    input_to / get_char.  Then the oracle accepts the text `telnet_neg t` as the oldest pending input of that user
    (no `fifo` violation), and the relation holds again for what is left. -/
theorem sim_serve (f : FU) (us us1 : U) (h : QInv f us []) (t : List Char)
    (hfound : (firstCmd us.single us.buf).2 = some t)
    (hbuf : us1.buf = nextCmd (firstCmd us.single us.buf).1) (hsingle : us1.single = us.single)
    (hinp : us1.inputTo = us.inputTo) :
    ∃ p', consume f.charMode f.pending (telnetNeg t) = some p' ∧
      QInv { pending := p', charMode := false } (if us1.inputTo then endInput us1 else us1) [] := by
  obtain ⟨p1, p2, h1, h2, h3⟩ := h.split
  simp only [List.append_nil] at h1
  have hplain : (p1 ++ p2).all plainChar = true := by rw [← h1]; exact h.plain
  have hp1 : p1.all plainChar = true := by simp only [List.all_append, Bool.and_eq_true] at hplain; exact hplain.1
  have hp2 : p2.all plainChar = true := by simp only [List.all_append, Bool.and_eq_true] at hplain; exact hplain.2
  -- what is left after the service, as a relation on the final record
  have finish : ∀ (q1 : List Char), (q1 ++ p2).all plainChar = true → us1.buf = encL q1 ++ encR p2 →
      QInv { pending := q1 ++ p2, charMode := false } (if us1.inputTo then endInput us1 else us1) [] := by
    intro q1 hq hb
    have hq1 : q1.all plainChar = true := by simp only [List.all_append, Bool.and_eq_true] at hq; exact hq.1
    cases hi : us1.inputTo with
    | false =>
      have hs : us.single = false := by
        cases hh : us.single with
        | false => rfl
        | true => have := h.inp hh; rw [← hinp, hi] at this; cases this
      have := h3 hs; subst this
      simp only [Bool.false_eq_true, if_false]
      exact ⟨by rw [hsingle, hs], (by rw [hsingle, hs]; intro hh; cases hh), hq, q1, [], by simp, hb, fun _ => rfl⟩
    | true =>
      simp only [if_true]
      unfold endInput
      cases hs : us1.single with
      | true =>
        simp only [if_true]
        refine ⟨rfl, (by intro hh; cases hh), hq, q1 ++ p2, [], by simp, ?_, fun _ => rfl⟩
        simp only [hb, encR_nil, List.append_nil]
        exact reframe_enc q1 p2 hq1 hp2
      | false =>
        simp only [Bool.false_eq_true, if_false]
        have := h3 (by rw [← hsingle]; exact hs); subst this
        refine ⟨?_, ?_, hq, q1, [], by simp, hb, fun _ => rfl⟩
        · rfl
        · intro hh; cases hh
  rw [h2] at hfound hbuf
  cases hc : p1.contains '~' with
  | true =>
    obtain ⟨l, r, hl1, hl2⟩ := split_at_tilde p1 hc
    subst hl1
    obtain ⟨c1, c2, c3⟩ := firstCmd_line us.single l r p2 hl2 hp1 hp2
    rw [c1] at hfound hbuf
    simp only [Option.some.injEq] at hfound
    subst hfound
    rw [c2] at hbuf
    refine ⟨r ++ p2, ?_, ?_⟩
    · rw [c3, h1]
      have : l ++ '~' :: r ++ p2 = l ++ '~' :: (r ++ p2) := by simp
      rw [this]; exact consume_line _ l (r ++ p2)
    · apply finish r _ hbuf
      simp only [List.all_append, List.all_cons, Bool.and_eq_true] at hplain ⊢
      exact ⟨hplain.1.2.2, hplain.2⟩
  | false =>
    cases hs : us.single with
    | false =>
      have := h3 hs; subst this
      rw [hs, firstCmd_partial p1 hc hp1] at hfound
      cases hfound
    | true =>
      rw [hs] at hfound hbuf
      have hne : (p1 ++ encR p2).isEmpty = false := by
        cases he : (p1 ++ encR p2).isEmpty with
        | false => rfl
        | true =>
          have : p1 ++ encR p2 = [] := by simpa using he
          rw [encL_noTilde p1 hc, this] at hfound
          simp [firstCmd, dropNul] at hfound
      obtain ⟨c1, c2, c3⟩ := firstCmd_char p1 p2 hc hp1 hp2 hne
      rw [c1] at hfound hbuf
      simp only [Option.some.injEq] at hfound
      subst hfound
      rw [c2] at hbuf
      refine ⟨[], ?_, ?_⟩
      · rw [c3, h1, h.mode, hs]
        exact consume_char p1 p2 hc hp1 hp2 hne
      · have hi : us1.inputTo = true := by rw [hinp]; exact h.inp hs
        have hs1 : us1.single = true := by rw [hsingle]; exact hs
        simp only [hi, if_true]
        unfold endInput
        simp only [hs1, if_true]
        refine ⟨rfl, (by intro hh; cases hh), rfl, [], [], rfl, ?_, fun _ => rfl⟩
        simp [hbuf, reframe, reframeAux, encL_nil, encR_nil]

end NV.C12
