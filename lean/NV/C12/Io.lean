/-
C12 — process_io, taken apart once: get_user_data for one user by cases (`userIO_cases`), the induction over the
accept and the reads of one call (`processIO_ind`), what no read ever writes (`userIO_kept`), and where
new_interactive puts a new user (`newSlot_free`, `accept_At`).  At the end, an iteration of backend() as the later files
use it: `cycle_events` (= `topEvents`, the command loop from `cmdPhaseStart`, `endEvents`).
-/
import NV.C12.CmdLoop

namespace NV.C12

/-- the four things get_user_data / the EOF handling can do for a user with a poll event -/
theorem userIO_cases (w : World) (u : Nat) :
    (heldBack w u = true ∧
      userIO w u = { w with users := upd w.users u { w.users.get u with cmdInBuf := true }, overflow := true }) ∨
    (heldBack w u = false ∧ (w.net.get u).rx.isEmpty = false ∧
      userIO w u =
        { w with users := upd w.users u
                   { w.users.get u with
                     buf := (if roomShort (w.users.get u).buf.length then [] else (w.users.get u).buf) ++
                              copyChars (w.users.get u).single (w.net.get u).rx,
                     cmdInBuf := (w.users.get u).cmdInBuf ||
                       hasCmd (w.users.get u).single
                         ((if roomShort (w.users.get u).buf.length then [] else (w.users.get u).buf) ++
                            copyChars (w.users.get u).single (w.net.get u).rx) },
                 net := upd w.net u { w.net.get u with rx := [] },
                 overflow := w.overflow || roomShort (w.users.get u).buf.length }) ∨
    (heldBack w u = false ∧ (w.net.get u).rx.isEmpty = true ∧ (w.net.get u).eof = true ∧
      userIO w u = { w with slots := removeUser w.slots u }) ∨
    (heldBack w u = false ∧ (w.net.get u).rx.isEmpty = true ∧ userIO w u = w) := by
  unfold userIO
  split
  · rename_i h; exact Or.inl ⟨h, rfl⟩
  · rename_i h
    have h' : heldBack w u = false := by simpa using h
    unfold userIO0
    dsimp only
    split
    · rename_i hr; exact Or.inr (Or.inl ⟨h', by simpa using hr, rfl⟩)
    · rename_i hr
      have hr' : (w.net.get u).rx.isEmpty = true := by simpa using hr
      split
      · rename_i he; exact Or.inr (Or.inr (Or.inl ⟨h', hr', he, rfl⟩))
      · exact Or.inr (Or.inr (Or.inr ⟨h', hr', rfl⟩))

theorem removeUser_At (slots : List (Option Nat)) (t i u : Nat) (h : (removeUser slots t)[i]? = some (some u)) :
    slots[i]? = some (some u) := by
  unfold removeUser at h
  rw [List.getElem?_map] at h
  cases hs : slots[i]? with
  | none => rw [hs] at h; cases h
  | some a =>
    rw [hs] at h
    simp only [Option.map_some] at h
    split at h
    · cases h
    · exact h

/-- what no read writes: cursor, flags of the world, counters, table size, turns, closed clients; the table only
    loses entries -/
structure ReadKept (w w' : World) : Prop where
  cursor : w'.cursor = w.cursor
  crashed : w'.crashed = w.crashed
  thrown : w'.thrown = w.thrown
  naccepted : w'.naccepted = w.naccepted
  length : w'.slots.length = w.slots.length
  turn : ∀ x, turnOf w' x = turnOf w x
  eof : ∀ x, (w'.net.get x).eof = (w.net.get x).eof
  table : ∀ i x, At w' i x → At w i x

theorem ReadKept.trans {a b c : World} (h1 : ReadKept a b) (h2 : ReadKept b c) : ReadKept a c :=
  { cursor := h2.cursor.trans h1.cursor, crashed := h2.crashed.trans h1.crashed, thrown := h2.thrown.trans h1.thrown,
    naccepted := h2.naccepted.trans h1.naccepted, length := h2.length.trans h1.length,
    turn := fun x => (h2.turn x).trans (h1.turn x), eof := fun x => (h2.eof x).trans (h1.eof x),
    table := fun i x h => h1.table i x (h2.table i x h) }

theorem userIO_kept (w : World) (u : Nat) : ReadKept w (userIO w u) := by
  have hupd : ∀ (X : U), X.turn = (w.users.get u).turn → ∀ x, ((upd w.users u X).get x).turn = (w.users.get x).turn := by
    intro X hX x; rw [get_upd]; split
    · rename_i hx; rw [hx]; exact hX
    · rfl
  rcases userIO_cases w u with ⟨_, h⟩ | ⟨_, _, h⟩ | ⟨_, _, _, h⟩ | ⟨_, _, h⟩ <;> rw [h]
  · exact { cursor := rfl, crashed := rfl, thrown := rfl, naccepted := rfl, length := rfl, turn := hupd _ rfl,
            eof := fun _ => rfl, table := fun _ _ h => h }
  · refine { cursor := rfl, crashed := rfl, thrown := rfl, naccepted := rfl, length := rfl, turn := hupd _ rfl,
             eof := fun x => ?_, table := fun _ _ h => h }
    simp only [get_upd]; split
    · rename_i hx; rw [hx]
    · rfl
  · exact { cursor := rfl, crashed := rfl, thrown := rfl, naccepted := rfl, length := removeUser_length _ _,
            turn := fun _ => rfl, eof := fun _ => rfl, table := fun i x h => removeUser_At w.slots u i x h }
  · exact { cursor := rfl, crashed := rfl, thrown := rfl, naccepted := rfl, length := rfl, turn := fun _ => rfl,
            eof := fun _ => rfl, table := fun _ _ h => h }

theorem processIO_eq (w : World) :
    processIO w = if w.naccepted < w.nconn then
        ((w.slots.filterMap id).foldl userIO (accept w (w.naccepted + 1)), [Ev.logon (w.naccepted + 1)])
      else ((w.slots.filterMap id).foldl userIO w, []) := by
  unfold processIO
  dsimp only
  split <;> rfl

/-- the reads of one process_io: what every read keeps, they all keep -/
theorem foldl_userIO_ind (P : World → Prop) (hio : ∀ a u, P a → P (userIO a u)) (l : List Nat) (a : World) (h : P a) :
    P (l.foldl userIO a) := by
  induction l generalizing a with
  | nil => exact h
  | cons u r ih => exact ih _ (hio a u h)

theorem foldl_userIO_kept (l : List Nat) (w : World) : ReadKept w (l.foldl userIO w) :=
  foldl_userIO_ind (ReadKept w) (fun a u h => h.trans (userIO_kept a u)) l w
    { cursor := rfl, crashed := rfl, thrown := rfl, naccepted := rfl, length := rfl, turn := fun _ => rfl,
      eof := fun _ => rfl, table := fun _ _ h => h }

/-- **the induction over one process_io**: what the accept (of the next connection, if one is waiting) and every
    read keep, the call keeps -/
theorem processIO_ind (P : World → Prop) (w : World) (h : P w) (hacc : P w → P (accept w (w.naccepted + 1)))
    (hio : ∀ a u, P a → P (userIO a u)) : P (processIO w).1 := by
  rw [processIO_eq]
  split
  · exact foldl_userIO_ind P hio _ _ (hacc h)
  · exact foldl_userIO_ind P hio _ _ h

/-- process_io produces no buffered-command event -/
theorem processIO_events (w : World) : ∀ e ∈ (processIO w).2, ∃ k, e = Ev.logon k := by
  rw [processIO_eq]
  split
  · intro e he; exact ⟨_, List.mem_singleton.mp he⟩
  · intro e he; cases he

theorem newSlot_go (r : List (Option Nat)) (i : Nat) :
    i ≤ newSlot.go r i ∧ newSlot.go r i ≤ i + r.length ∧
      (r[newSlot.go r i - i]? = some none ∨ r.length ≤ newSlot.go r i - i) := by
  induction r generalizing i with
  | nil => simp [newSlot.go]
  | cons a r ih =>
    cases a with
    | none => simp [newSlot.go]
    | some x =>
      obtain ⟨h1, h2, h3⟩ := ih (i + 1)
      simp only [newSlot.go, List.length_cons]
      refine ⟨by omega, by omega, ?_⟩
      have hidx : newSlot.go r (i + 1) - i = (newSlot.go r (i + 1) - (i + 1)) + 1 := by omega
      rw [hidx, List.getElem?_cons_succ]
      rcases h3 with h3 | h3
      · left; exact h3
      · right; omega

/-- the slot chosen for a new user: index >= 1, at most one past the table, and not occupied -/
theorem newSlot_free (slots : List (Option Nat)) :
    1 ≤ newSlot slots ∧ newSlot slots ≤ max 1 slots.length ∧
      (slots[newSlot slots]? = some none ∨ slots.length ≤ newSlot slots) := by
  obtain ⟨h1, h2, h3⟩ := newSlot_go (slots.drop 1) 1
  unfold newSlot
  rw [firstUserSlot_spec]
  simp only [List.length_drop] at h2 h3
  refine ⟨h1, by omega, ?_⟩
  rcases h3 with h3 | h3
  · left
    rw [List.getElem?_drop] at h3
    have : 1 + (newSlot.go (List.drop 1 slots) 1 - 1) = newSlot.go (List.drop 1 slots) 1 := by omega
    rw [this] at h3; exact h3
  · right; omega

/-- the table after an accept, before the new user is written into it -/
def acceptBase (slots : List (Option Nat)) : List (Option Nat) :=
  if newSlot slots ≥ slots.length then slots ++ List.replicate growBy none else slots

theorem accept_slots (w : World) (k : Nat) : (accept w k).slots = (acceptBase w.slots).set (newSlot w.slots) (some k) := rfl

/-- growing the table adds empty slots only, and the chosen slot lies inside the (grown) table -/
theorem acceptBase_get (slots : List (Option Nat)) :
    (∀ (i u : Nat), (acceptBase slots)[i]? = some (some u) ↔ slots[i]? = some (some u)) ∧
      newSlot slots < (acceptBase slots).length := by
  obtain ⟨_, h2, _⟩ := newSlot_free slots
  have hg : 2 ≤ growBy := by decide
  unfold acceptBase
  split
  · refine ⟨fun i u => ?_, by simp only [List.length_append, List.length_replicate]; omega⟩
    by_cases hi : i < slots.length
    · rw [List.getElem?_append_left hi]
    · rw [List.getElem?_append_right (by omega), List.getElem?_eq_none (by omega : slots.length ≤ i)]
      simp only [List.getElem?_replicate]
      split <;> simp
  · exact ⟨fun _ _ => Iff.rfl, by omega⟩

/-- the table after an accept: the new user in the chosen slot, which was free; everybody else where he was -/
theorem accept_At (w : World) (k i u : Nat) :
    At (accept w k) i u ↔ (i = newSlot w.slots ∧ u = k) ∨ (At w i u ∧ i ≠ newSlot w.slots) := by
  obtain ⟨hb, hlt⟩ := acceptBase_get w.slots
  unfold At
  rw [accept_slots, List.getElem?_set]
  by_cases hg : newSlot w.slots = i
  · rw [if_pos hg, if_pos hlt]
    constructor
    · intro h; cases h; exact Or.inl ⟨hg.symm, rfl⟩
    · rintro (⟨_, h2⟩ | ⟨_, h2⟩)
      · rw [h2]
      · exact absurd hg.symm h2
  · rw [if_neg hg, hb i u]
    constructor
    · exact fun h => Or.inr ⟨h, fun hh => hg hh.symm⟩
    · rintro (⟨h1, _⟩ | ⟨h1, _⟩)
      · exact absurd h1.symm hg
      · exact h1

theorem At_ne_newSlot (w : World) (i u : Nat) (h : At w i u) : i ≠ newSlot w.slots := by
  intro hi
  unfold At at h
  rcases (newSlot_free w.slots).2.2 with hf | hf
  · rw [hi, hf] at h; cases h
  · rw [hi, List.getElem?_eq_none hf] at h; cases h

theorem accept_interactive (w : World) (k u : Nat) (h : w.interactive u = true) : (accept w k).interactive u = true := by
  obtain ⟨i, hi⟩ := interactive_At w u h
  exact At_interactive _ i u ((accept_At w k i u).mpr (Or.inr ⟨hi, At_ne_newSlot w i u hi⟩))

theorem accept_interactive_self (w : World) (k : Nat) : (accept w k).interactive k = true :=
  At_interactive _ _ k ((accept_At w k _ k).mpr (Or.inl ⟨rfl, rfl⟩))

/-- an accept only makes the table longer (cursor and crash flag are not written: `rfl`) -/
theorem accept_length (w : World) (k : Nat) : ∃ d, (accept w k).slots.length = w.slots.length + d := by
  refine ⟨(acceptBase w.slots).length - w.slots.length, ?_⟩
  rw [accept_slots, List.length_set]
  unfold acceptBase
  split <;> simp

/-- the state in which the command phase of the cycle starting in `w` begins: turns granted, I/O processed -/
def cmdPhaseStart (w : World) : World :=
  (processIO { w with cycle := w.cycle + 1, users := grantAll w.users w.slots }).1

theorem cycleStep_world (sc : Scripts) (w : World) :
    (cycleStep sc w).1 = (cmdLoop sc (NV.Gen.C12.loopCalls (connectedUsers w) w.maxUsers) (cmdPhaseStart w)).1 := by
  unfold cycleStep cmdPhaseStart; rfl

/-- the events at the top of an iteration: `begin`, `poll`, and the logon of the connection process_io accepts -/
def topEvents (w : World) : List Ev :=
  [Ev.begin (w.cycle + 1), Ev.poll (w.cycle + 1) (pollBlocks (hasPending w))] ++
    (if w.naccepted < w.nconn then [Ev.logon (w.naccepted + 1)] else [])

/-- the event that ends iteration `n`, left in world `w3` -/
def endEvents (n : Nat) (w3 : World) : List Ev :=
  if w3.crashed then [Ev.crash "all_users[s_next_user] out of range"]
  else if w3.thrown then [Ev.abort n] else [Ev.endc n w3.maxUsers (layout w3)]

theorem ioEvents_eq (w : World) :
    (processIO { w with cycle := w.cycle + 1, users := grantAll w.users w.slots }).2 =
      if w.naccepted < w.nconn then [Ev.logon (w.naccepted + 1)] else [] := by
  rw [processIO_eq]; split <;> rfl

theorem mem_topEvents (w : World) (e : Ev) (h : e ∈ topEvents w) :
    e = .begin (w.cycle + 1) ∨ e = .poll (w.cycle + 1) (pollBlocks (hasPending w)) ∨ e = .logon (w.naccepted + 1) := by
  unfold topEvents at h
  rcases List.mem_append.mp h with h | h
  · rcases List.mem_cons.mp h with h | h
    · exact Or.inl h
    · exact Or.inr (Or.inl (List.mem_singleton.mp h))
  · split at h
    · exact Or.inr (Or.inr (List.mem_singleton.mp h))
    · cases h

theorem mem_endEvents (n : Nat) (w3 : World) (e : Ev) (h : e ∈ endEvents n w3) :
    (∃ s, e = .crash s) ∨ e = .abort n ∨ ∃ m l, e = .endc n m l := by
  unfold endEvents at h
  split at h
  · exact Or.inl ⟨_, List.mem_singleton.mp h⟩
  · split at h
    · exact Or.inr (Or.inl (List.mem_singleton.mp h))
    · exact Or.inr (Or.inr ⟨_, _, List.mem_singleton.mp h⟩)

theorem cycle_events (sc : Scripts) (w : World) :
    (cycleStep sc w).2 = topEvents w ++
      (cmdLoop sc (NV.Gen.C12.loopCalls (connectedUsers w) w.maxUsers) (cmdPhaseStart w)).2 ++
      endEvents (w.cycle + 1) (cycleStep sc w).1 := by
  have h : (cycleStep sc w).2 =
      [Ev.begin (w.cycle + 1), Ev.poll (w.cycle + 1) (pollBlocks (hasPending w))] ++
      (processIO { w with cycle := w.cycle + 1, users := grantAll w.users w.slots }).2 ++
      (cmdLoop sc (NV.Gen.C12.loopCalls (connectedUsers w) w.maxUsers) (cmdPhaseStart w)).2 ++
      endEvents (w.cycle + 1) (cycleStep sc w).1 := by
    unfold cycleStep cmdPhaseStart endEvents; rfl
  rw [h, ioEvents_eq]; rfl

theorem cmdPhaseStart_naccepted (w : World) :
    (cmdPhaseStart w).naccepted = if w.naccepted < w.nconn then w.naccepted + 1 else w.naccepted := by
  unfold cmdPhaseStart
  rw [processIO_eq]
  split <;> exact (foldl_userIO_kept _ _).naccepted

/-- neither the turn grant nor process_io raises or clears a pending error -/
theorem cmdPhaseStart_thrown (w : World) : (cmdPhaseStart w).thrown = w.thrown :=
  processIO_ind (fun w' => w'.thrown = w.thrown) _ rfl (fun h => h) (fun a u h => (userIO_kept a u).thrown.trans h)

end NV.C12
