/-
C12 — uncaught errors: an iteration of backend() that is left by an uncaught LPC error has served (and consumed) a
buffered command, which strictly lowers `weight` (buffered text + unread client data, Model.lean); nothing in an
iteration makes the world heavier.  Hence the loop restarts only finitely often between two calls of the
verification hook, and `weight w + 1` is enough fuel for `cycleRun`.
-/
import NV.C12.Io

namespace NV.C12

def amapSum {α : Type} (f : α → Nat) (m : AMap α) : Nat := (m.map (fun e => f e.2)).sum

theorem amapSum_cons {α : Type} (f : α → Nat) (k : Nat) (v : α) (m : AMap α) :
    amapSum f ((k, v) :: m) = f v + amapSum f m := by
  simp [amapSum]

theorem amapSum_filter_le {α : Type} (f : α → Nat) (p : Nat × α → Bool) (m : AMap α) :
    amapSum f (m.filter p) ≤ amapSum f m := by
  induction m with
  | nil => exact Nat.le_refl _
  | cons e r ih =>
    obtain ⟨k, v⟩ := e
    rw [List.filter_cons]
    split
    · rw [amapSum_cons, amapSum_cons]; omega
    · rw [amapSum_cons]; omega

theorem amapSum_filter_get {α : Type} [Inhabited α] (f : α → Nat) (hf : f default = 0) (m : AMap α) (k : Nat) :
    amapSum f (m.filter (fun e => e.1 != k)) + f (m.get k) ≤ amapSum f m := by
  induction m with
  | nil => simp [amapSum, AMap.get, hf]
  | cons e r ih =>
    obtain ⟨k', v⟩ := e
    rw [List.filter_cons]
    by_cases hk : k = k'
    · subst hk
      have h1 := amapSum_filter_le f (fun e => e.1 != k) r
      have hg : AMap.get ((k, v) :: r) k = v := by simp [AMap.get]
      rw [hg, amapSum_cons]
      simp only [bne_self_eq_false, Bool.false_eq_true, if_false]
      omega
    · have hne : (k' != k) = true := by simp; exact fun h => hk h.symm
      have hg : AMap.get ((k', v) :: r) k = AMap.get r k := by simp [AMap.get, hk]
      rw [hg, amapSum_cons]
      simp only [hne, if_true]
      rw [amapSum_cons]
      omega

/-- replacing the entry of `k`: the sum changes by at most the difference of the two values -/
theorem amapSum_upd {α : Type} [Inhabited α] (f : α → Nat) (hf : f default = 0) (m : AMap α) (k : Nat) (v : α) :
    amapSum f (upd m k v) + f (m.get k) ≤ amapSum f m + f v := by
  have := amapSum_filter_get f hf m k
  unfold upd
  rw [amapSum_cons]
  omega

theorem wlen_nil : wlen [] = 0 := rfl

theorem usersWeight_upd (m : AMap U) (k : Nat) (v : U) :
    usersWeight (upd m k v) + wlen (m.get k).buf ≤ usersWeight m + wlen v.buf :=
  amapSum_upd (fun (u : U) => wlen u.buf) rfl m k v

theorem netWeight_upd (m : AMap Net) (k : Nat) (v : Net) :
    netWeight (upd m k v) + 4 * (m.get k).rx.length ≤ netWeight m + 4 * v.rx.length :=
  amapSum_upd (fun (n : Net) => 4 * n.rx.length) rfl m k v

/-- replacing the record of one user by one whose buffer is not heavier -/
theorem weight_upd_le (w : World) (k : Nat) (v : U) (h : wlen v.buf ≤ wlen (w.users.get k).buf) :
    weight { w with users := upd w.users k v } ≤ weight w := by
  have := usersWeight_upd w.users k v
  simp only [weight]; omega

theorem weight_upd_lt (w : World) (k : Nat) (v : U) (h : wlen v.buf < wlen (w.users.get k).buf) :
    weight { w with users := upd w.users k v } < weight w := by
  have := usersWeight_upd w.users k v
  simp only [weight]; omega

theorem weight_decCursor (w : World) : weight (decCursor w) = weight w := rfl

theorem wlen_cons (c : Char) (b : List Char) : wlen (c :: b) = (if c == CR || c == LF then 2 else 1) + wlen b := by
  simp [wlen]

theorem wlen_append (a b : List Char) : wlen (a ++ b) = wlen a + wlen b := by
  induction a with
  | nil => simp [wlen]
  | cons c r ih => rw [List.cons_append, wlen_cons, wlen_cons, ih]; omega

theorem wlen_cons_pos (c : Char) (b : List Char) : wlen b < wlen (c :: b) := by
  rw [wlen_cons]; split <;> omega

theorem wlen_cons_le (c : Char) (b : List Char) : wlen (c :: b) ≤ 2 + wlen b := by
  rw [wlen_cons]; split <;> omega

theorem wlen_dropWhile_le (p : Char → Bool) (b : List Char) : wlen (b.dropWhile p) ≤ wlen b := by
  induction b with
  | nil => exact Nat.le_refl _
  | cons c r ih =>
    rw [List.dropWhile_cons]
    split
    · have := wlen_cons_pos c r; omega
    · exact Nat.le_refl _

theorem wlen_dropNul_le (b : List Char) : wlen (dropNul b) ≤ wlen b := wlen_dropWhile_le _ b

theorem wlen_copyChars (single : Bool) (d : List Char) : wlen (copyChars single d) ≤ 4 * d.length := by
  induction d with
  | nil => simp [copyChars, wlen]
  | cons c r ih =>
    have hc : copyChars single (c :: r) =
        (if c == '~' then (if single then [CR, LF] else [' ', BS, NUL]) else [c]) ++ copyChars single r := by
      simp [copyChars]
    rw [hc, wlen_append, List.length_cons]
    have h3 : wlen [' ', BS, NUL] = 3 := by decide
    have h4 : wlen [CR, LF] = 4 := by decide
    have h1 : wlen [c] ≤ 2 := by have := wlen_cons_le c []; simpa [wlen_nil] using this
    split
    · split
      · rw [h4]; omega
      · rw [h3]; omega
    · omega

/-- reframing CR LF into " \b\0" does not add weight; a pending CR may turn into three bytes -/
theorem wlen_reframeAux (r : List Char) :
    wlen (reframeAux false r) ≤ wlen r ∧ wlen (reframeAux true r) ≤ wlen r + 2 := by
  induction r with
  | nil => simp [reframeAux, wlen]
  | cons c r ih =>
    obtain ⟨i1, i2⟩ := ih
    have h3 : ∀ X, wlen (' ' :: BS :: NUL :: X) = 3 + wlen X := by
      intro X
      have e : ' ' :: BS :: NUL :: X = [' ', BS, NUL] ++ X := rfl
      have d : wlen [' ', BS, NUL] = 3 := by decide
      rw [e, wlen_append, d]
    constructor
    · unfold reframeAux
      by_cases hcr : (c == CR) = true
      · simp only [hcr, if_true]
        rw [wlen_cons]; simp only [hcr, Bool.true_or, if_true]; omega
      · simp only [hcr, Bool.false_eq_true, if_false]
        rw [wlen_cons, wlen_cons]; omega
    · unfold reframeAux
      by_cases hlf : (c == LF) = true
      · simp only [hlf, if_true]
        rw [h3, wlen_cons]; simp only [hlf, Bool.or_true, if_true]; omega
      · simp only [hlf, Bool.false_eq_true, if_false]
        by_cases hcr : (c == CR) = true
        · simp only [hcr, if_true]
          rw [wlen_cons]; simp only [hcr, Bool.true_or, if_true]; omega
        · simp only [hcr, Bool.false_eq_true, if_false]
          rw [wlen_cons, wlen_cons]; omega

theorem dropWhile_head (p : Char → Bool) (b : List Char) (c : Char) (r : List Char) (h : b.dropWhile p = c :: r) :
    p c = false := by
  induction b with
  | nil => simp at h
  | cons x xs ih =>
    rw [List.dropWhile_cons] at h
    split at h
    · exact ih h
    · rename_i hx
      simp only [List.cons.injEq] at h
      rw [← h.1]; simpa using hx

/-- when first_cmd_in_buf finds a command, stepping over it with next_cmd_in_buf makes the buffer strictly lighter -/
theorem nextCmd_wlen_lt (single : Bool) (b : List Char) (h : (firstCmd single b).2.isSome = true) :
    wlen (nextCmd (dropNul b)) < wlen (dropNul b) := by
  cases hb : dropNul b with
  | nil => simp [firstCmd, hb] at h
  | cons c r =>
    have hc : (c == NUL) = false := dropWhile_head (· == NUL) b c r hb
    have hne' : (c != NUL) = true := by simp [bne, hc]
    unfold nextCmd
    rw [List.dropWhile_cons]
    simp only [hne', if_true]
    have h1 := wlen_dropNul_le (r.dropWhile (· != NUL))
    have h2 := wlen_dropWhile_le (· != NUL) r
    have h3 := wlen_cons_pos c r
    omega

/-! ### `weight` never grows inside an iteration -/

theorem scan_weight (n : Nat) (w : World) :
    weight (scan n w).1 ≤ weight w ∧ ∀ u t, (scan n w).2 = some (u, t) →
      wlen (nextCmd ((scan n w).1.users.get u).buf) < wlen ((scan n w).1.users.get u).buf := by
  induction n generalizing w with
  | zero => exact ⟨Nat.le_refl _, fun u t h => by cases h⟩
  | succ n ih =>
    unfold scan
    cases hstep : scanStep w with
    | crash => exact ⟨Nat.le_refl _, fun u t h => by cases h⟩
    | found w' u t =>
      have f := scanStep_found w w' u t hstep
      refine ⟨by rw [f.world]; exact weight_upd_le w u _ (wlen_dropNul_le _), fun u' t' he => ?_⟩
      cases he
      rw [f.record]
      exact nextCmd_wlen_lt _ _ (by rw [f.cmd]; rfl)
    | next w' =>
      obtain ⟨i1, i2⟩ := ih (decCursor w')
      refine ⟨Nat.le_trans i1 ?_, i2⟩
      rcases (scanStep_next w w' hstep).world with rfl | ⟨u, rfl⟩
      · exact Nat.le_refl _
      · exact weight_upd_le w u _ (wlen_dropNul_le _)

/-- get_user_command: never heavier; strictly lighter when it hands out a command -/
theorem guc_weight (w : World) :
    weight (getUserCommand w).1 ≤ weight w ∧ ((getUserCommand w).2.isSome = true → weight (getUserCommand w).1 < weight w) := by
  obtain ⟨s1, s2⟩ := scan_weight (NV.Gen.C12.scanLength w.slots.length) w
  unfold getUserCommand
  cases hsc : scan (NV.Gen.C12.scanLength w.slots.length) w with
  | mk w1 r =>
    rw [hsc] at s1 s2
    cases r with
    | none => exact ⟨s1, fun h => by cases h⟩
    | some p =>
      obtain ⟨u, t⟩ := p
      have hlt := weight_upd_lt w1 u
        { (w1.users.get u) with
          buf := nextCmd (w1.users.get u).buf,
          cmdInBuf := (w1.users.get u).cmdInBuf && hasCmd (w1.users.get u).single (nextCmd (w1.users.get u).buf) }
        (s2 u t rfl)
      dsimp only at s1 hlt ⊢
      rw [weight_decCursor]
      exact ⟨by omega, fun _ => by omega⟩

theorem setCall_weight (w : World) (me : Nat) (single : Bool) : weight (setCall w me single).1 ≤ weight w := by
  rw [setCall_eq]
  split
  · exact Nat.le_refl _
  · exact weight_upd_le w me _ (by rw [setCallU_buf]; exact Nat.le_refl _)

/-- scripts never make anything heavier (they may set `thrown`) -/
theorem runOps_weight (sc : Scripts) (f : Nat) (w : World) (me : Nat) (ops : List Op) :
    weight (runOps sc f w me ops).1 ≤ weight w :=
  runOps_rel (fun a b => weight b ≤ weight a) (fun _ => Nat.le_refl _) (fun _ _ _ h1 h2 => Nat.le_trans h2 h1)
    (fun _ _ => Nat.le_refl _) (fun _ _ => Nat.le_refl _) setCall_weight (fun _ => Nat.le_refl _) sc f w me ops

theorem afterInput_weight (w1 : World) (x : Nat) : weight (afterInput w1 x) ≤ weight w1 := by
  unfold afterInput
  split
  · apply weight_upd_le
    unfold endInput
    split
    · exact (wlen_reframeAux _).1
    · exact Nat.le_refl _
  · exact Nat.le_refl _

/-- process_user_command: never heavier; a call that served a command made the world strictly lighter; a call that
    served nobody leaves `thrown` alone -/
theorem puc_weight (sc : Scripts) (w : World) :
    weight (processUserCommand sc w).1 ≤ weight w ∧
      ((processUserCommand sc w).2.2 = true → weight (processUserCommand sc w).1 < weight w) ∧
      ((processUserCommand sc w).2.2 = false → (processUserCommand sc w).1.thrown = w.thrown) := by
  obtain ⟨g1, g2⟩ := guc_weight w
  rcases puc_cases sc w with ⟨_, h⟩ | ⟨_, ⟨_, h⟩ | ⟨x, t, hg, h⟩⟩
  · rw [h]; exact ⟨Nat.le_refl _, (fun hh => by cases hh), fun _ => rfl⟩
  · rw [h]; exact ⟨g1, (fun hh => by cases hh), fun _ => (guc_kept w).thrown⟩
  · rw [h]
    have h2 := afterInput_weight (getUserCommand w).1 x
    have h3 := runOps_weight sc scriptFuel (afterInput (getUserCommand w).1 x) x (sc x t)
    have hlt := g2 (by rw [hg]; rfl)
    exact ⟨by dsimp only; omega, (fun _ => by dsimp only; omega), fun hh => by cases hh⟩

theorem cmdLoop_weight (sc : Scripts) (k : Nat) (w : World) :
    weight (cmdLoop sc k w).1 ≤ weight w ∧
      (w.thrown = false → (cmdLoop sc k w).1.thrown = true → weight (cmdLoop sc k w).1 < weight w) :=
  cmdLoop_ind sc (fun w' => weight w' ≤ weight w ∧ (w.thrown = false → w'.thrown = true → weight w' < weight w))
    (fun w1 ⟨h1, h2⟩ => by
      obtain ⟨p1, p2, p3⟩ := puc_weight sc w1
      refine ⟨Nat.le_trans p1 h1, fun ht hthr => ?_⟩
      -- a call that served made the world lighter; one that did not has left `thrown` alone
      cases hb : (processUserCommand sc w1).2.2 with
      | true => exact Nat.lt_of_lt_of_le (p2 hb) h1
      | false => exact Nat.lt_of_le_of_lt p1 (h2 ht (by rw [← p3 hb]; exact hthr)))
    k w ⟨Nat.le_refl _, fun h1 h2 => by rw [h1] at h2; cases h2⟩

theorem grantAll_weight (users : AMap U) (l : List (Option Nat)) : usersWeight (grantAll users l) ≤ usersWeight users := by
  induction l generalizing users with
  | nil => exact Nat.le_refl _
  | cons a r ih =>
    cases a with
    | none => exact ih users
    | some u =>
      unfold grantAll
      split
      · have h := usersWeight_upd users u { users.get u with turn := true }
        have e : wlen ({ users.get u with turn := true } : U).buf = wlen (users.get u).buf := rfl
        exact Nat.le_trans (ih _) (by omega)
      · exact ih users

theorem userIO_weight (w : World) (u : Nat) : weight (userIO w u) ≤ weight w := by
  rcases userIO_cases w u with ⟨_, h⟩ | ⟨_, _, h⟩ | ⟨_, _, _, h⟩ | ⟨_, _, h⟩ <;> rw [h]
  · exact weight_upd_le w u _ (Nat.le_refl _)
  · -- the bytes read leave the socket (4 units each) and arrive in the buffer (at most 4 units each)
    have h1 := usersWeight_upd w.users u
      { w.users.get u with
        buf := (if roomShort (w.users.get u).buf.length then [] else (w.users.get u).buf) ++
                 copyChars (w.users.get u).single (w.net.get u).rx,
        cmdInBuf := (w.users.get u).cmdInBuf ||
          hasCmd (w.users.get u).single
            ((if roomShort (w.users.get u).buf.length then [] else (w.users.get u).buf) ++
               copyChars (w.users.get u).single (w.net.get u).rx) }
    have h2 := netWeight_upd w.net u { w.net.get u with rx := [] }
    have h3 := wlen_copyChars (w.users.get u).single (w.net.get u).rx
    have h4 : wlen (if roomShort (w.users.get u).buf.length = true then [] else (w.users.get u).buf) ≤
        wlen (w.users.get u).buf := by
      split
      · exact Nat.zero_le _
      · exact Nat.le_refl _
    simp only [wlen_append, List.length_nil] at h1 h2
    simp only [weight]
    omega
  · exact Nat.le_refl _
  · exact Nat.le_refl _

theorem cmdPhaseStart_weight (w : World) : weight (cmdPhaseStart w) ≤ weight w := by
  have h0 : weight { w with cycle := w.cycle + 1, users := grantAll w.users w.slots } ≤ weight w := by
    have := grantAll_weight w.users w.slots
    simp only [weight]; omega
  refine processIO_ind (fun w' => weight w' ≤ weight w) _ h0 (fun h => Nat.le_trans ?_ h)
    (fun a u h => Nat.le_trans (userIO_weight a u) h)
  have := usersWeight_upd (grantAll w.users w.slots) (w.naccepted + 1) ({} : U)
  have h1 : wlen ({} : U).buf = 0 := rfl
  simp only [weight, accept]
  omega

theorem cycleStep_weight_le (sc : Scripts) (w : World) : weight (cycleStep sc w).1 ≤ weight w := by
  rw [cycleStep_world]
  exact Nat.le_trans (cmdLoop_weight sc _ _).1 (cmdPhaseStart_weight w)

/-- **an aborted iteration has consumed input**: an iteration of backend() that ends with an uncaught error is
    strictly lighter than it began - the command that threw was taken out of its user's buffer -/
theorem cycleStep_weight (sc : Scripts) (w : World) (ht : w.thrown = false)
    (h : (cycleStep sc w).1.thrown = true) : weight (cycleStep sc w).1 < weight w := by
  rw [cycleStep_world] at h ⊢
  have := (cmdLoop_weight sc (NV.Gen.C12.loopCalls (connectedUsers w) w.maxUsers) _).2
    (by rw [cmdPhaseStart_thrown]; exact ht) h
  have := cmdPhaseStart_weight w
  omega

end NV.C12
