/-
C12 — flag soundness: in every state reachable by `run`, a buffer that holds a complete command has CMD_IN_BUF set.
Consequence (clause `idleWait` at model level): backend never asks the poller to block while a user in the table has
a complete command buffered.
-/
import NV.C12.Run

namespace NV.C12

/-- CMD_IN_BUF is set whenever cmd_in_buf() would say yes -/
def FlagSound (w : World) : Prop :=
  ∀ u, hasCmd (w.users.get u).single (w.users.get u).buf = true → (w.users.get u).cmdInBuf = true

def flagOK (us : U) : Prop := hasCmd us.single us.buf = true → us.cmdInBuf = true

theorem flagSound_upd (w : World) (u : Nat) (X : U) (h : FlagSound w) (hX : flagOK X) :
    FlagSound { w with users := upd w.users u X } := by
  intro x
  simp only [get_upd]
  split
  · exact hX
  · exact h x

theorem Touched.flagOK {a b : U} (h : Touched a b) (ha : flagOK a) : flagOK b := by
  rcases h with rfl | ⟨_, rfl⟩
  · exact ha
  · intro hc; simpa only [skim, hasCmd_dropNul] using hc

theorem setCall_flag (w : World) (me : Nat) (single : Bool) (h : FlagSound w) : FlagSound (setCall w me single).1 := by
  rw [setCall_eq]
  split
  · exact h
  · refine flagSound_upd w me _ h ?_
    unfold setCallU
    cases single with
    | true => intro hc; simp only [if_true] at hc ⊢; rw [hc]; simp
    | false => exact h me

theorem runOps_flag (sc : Scripts) (f : Nat) (w : World) (me : Nat) (ops : List Op) (h : FlagSound w) :
    FlagSound (runOps sc f w me ops).1 :=
  runOps_rel (fun a b => FlagSound a → FlagSound b) (fun _ hh => hh) (fun _ _ _ h1 h2 hh => h2 (h1 hh))
    (fun _ _ hh => hh) (fun _ _ hh => hh) (fun w me s hh => setCall_flag w me s hh) (fun _ hh => hh) sc f w me ops h

theorem afterInput_flag (w1 : World) (x : Nat) (h : FlagSound w1) : FlagSound (afterInput w1 x) := by
  unfold afterInput
  split
  · refine flagSound_upd w1 x _ h ?_
    unfold endInput
    split
    · intro hc; simp only at hc ⊢; rw [hc]; simp
    · exact h x
  · exact h

theorem puc_flag (sc : Scripts) (w : World) (h : FlagSound w) : FlagSound (processUserCommand sc w).1 := by
  rcases puc_cases sc w with ⟨_, e⟩ | ⟨_, ⟨hn, e⟩ | ⟨x, t, hg, e⟩⟩ <;> rw [e]
  · exact h
  · exact fun y => (guc_none_records w hn y).flagOK (h y)
  · obtain ⟨_, _, g⟩ := guc_some_records w x t hg
    refine runOps_flag sc _ _ _ _ (afterInput_flag _ x fun y => ?_)
    by_cases hy : y = x
    · rw [hy, g.record]; exact id
    · exact (g.others y hy).flagOK (h y)

theorem userIO_flag (w : World) (u : Nat) (h : FlagSound w) : FlagSound (userIO w u) := by
  rcases userIO_cases w u with ⟨_, e⟩ | ⟨_, _, e⟩ | ⟨_, _, _, e⟩ | ⟨_, _, e⟩ <;> rw [e]
  · exact flagSound_upd w u _ h (fun _ => rfl)
  · refine flagSound_upd w u _ h ?_
    intro hc; simp only at hc ⊢; rw [hc]; simp
  · exact h
  · exact h

theorem grantAll_flag (users : AMap U) (sl : List (Option Nat)) (h : ∀ x, flagOK (users.get x)) :
    ∀ x, flagOK ((grantAll users sl).get x) := fun x => by
  rw [grantAll_get]; split <;> exact h x

theorem cmdPhaseStart_flag (w : World) (h : FlagSound w) : FlagSound (cmdPhaseStart w) :=
  processIO_ind FlagSound _ (grantAll_flag w.users w.slots h)
    (fun ha => flagSound_upd _ _ {} ha (fun hc => by simp [hasCmd, firstCmd, dropNul] at hc)) userIO_flag

theorem cycleStep_flag (sc : Scripts) (w : World) (h : FlagSound w) : FlagSound (cycleStep sc w).1 := by
  rw [cycleStep_world]
  exact cmdLoop_ind sc FlagSound (puc_flag sc) _ _ (cmdPhaseStart_flag w h)

theorem step_flag (sc : Scripts) (w : World) (c : Cmd) (h : FlagSound w) : FlagSound (step sc w c).1 := by
  by_cases hc : c = .cycle
  · rw [hc, step_cycle_eq]
    split
    · exact h
    · exact cycleRun_fold_noQuiet sc (fun (s : Unit) _ => s) (fun _ w => FlagSound w)
        (hstep := fun _ w hh => cycleStep_flag sc w hh) (hclear := fun _ _ hh => hh) (hcrash := fun _ _ hh => hh) _ w () h
  · intro u; rw [(step_io sc w c hc).users]; exact h u

/-- **flag_sound**: in every state reachable from the initial one, a buffer holding a complete command (a full line;
    anything at all in single-char mode) has CMD_IN_BUF set - through arrivals, extraction, get_char / input_to,
    the reframing at the end of single-char mode, kicks and command() calls. -/
theorem flag_sound (sc : Scripts) (cs : List Cmd) : FlagSound (run sc {} cs).1 :=
  run_events sc (fun _ w => FlagSound w) (fun _ => True) (fun _ w c _ h => step_flag sc w c h)
    cs (fun _ _ => trivial) {} [] (fun u hc => by
      change hasCmd ({} : U).single ({} : U).buf = true at hc
      simp [hasCmd, firstCmd, dropNul] at hc)

/-- **no_idle_wait** (clause `idleWait` at model level): when a user in the table has a complete command buffered at
    the top of a cycle, backend polls with a zero timeout (the `poll` event of the cycle is `now`). -/
theorem no_idle_wait (sc : Scripts) (w : World) (h : FlagSound w) (u : Nat) (hi : w.interactive u = true)
    (hc : hasCmd (w.users.get u).single (w.users.get u).buf = true) :
    Ev.poll (w.cycle + 1) false ∈ (cycleStep sc w).2 := by
  rw [cycle_events, topEvents, hasPending_of w u hi (h u hc)]
  simp

end NV.C12
