/-
C12 — the flag `World.overflow` (a read found the pending text of a user short of room: the read was held back, or an
unfinished over-long line was discarded) is only ever raised by get_user_data (`userIO`) and never lowered: if it is
off at the end of a run it was off all the time.  The trace theorems for the clauses `fifo`, `starved` / `idleWait`
and `overtaken` hold for the runs in which it stays off.
-/
import NV.C12.Run

namespace NV.C12

/-- get_user_data: the flag is raised exactly when the pending text is short of room at a read -/
theorem userIO_ovf (w : World) (u : Nat) (h : (userIO w u).overflow = false) :
    w.overflow = false ∧ ((w.net.get u).rx.isEmpty = false → roomShort (w.users.get u).buf.length = false) ∧
      heldBack w u = false := by
  rcases userIO_cases w u with ⟨_, e⟩ | ⟨hh, _, e⟩ | ⟨hh, hr, _, e⟩ | ⟨hh, hr, e⟩ <;> rw [e] at h
  · cases h
  · simp only [Bool.or_eq_false_iff] at h
    exact ⟨h.1, fun _ => h.2, hh⟩
  · exact ⟨h, (fun hn => by rw [hr] at hn; cases hn), hh⟩
  · exact ⟨h, (fun hn => by rw [hr] at hn; cases hn), hh⟩

theorem processIO_ovf (w : World) (h : (processIO w).1.overflow = false) : w.overflow = false :=
  processIO_ind (fun w' => w'.overflow = false → w.overflow = false) w id (fun ih h => ih h)
    (fun a u ih h => ih (userIO_ovf a u h).1) h

/-- off at the end of an iteration: off when its command phase started, and off when it began -/
theorem cycleStep_ovf (sc : Scripts) (w : World) (h : (cycleStep sc w).1.overflow = false) :
    (cmdPhaseStart w).overflow = false ∧ w.overflow = false := by
  rw [cycleStep_world, (cmdLoop_net sc _ _).overflow] at h
  exact ⟨h, processIO_ovf { w with cycle := w.cycle + 1, users := grantAll w.users w.slots } h⟩

theorem cycleRun_ovf (sc : Scripts) (f : Nat) (w : World) (h : (cycleRun sc f w).1.overflow = false) :
    w.overflow = false :=
  cycleRun_fold_noQuiet sc (fun (_ : Unit) _ => ()) (fun _ w' => w'.overflow = false → w.overflow = false)
    (hstep := fun _ a ih h => ih (cycleStep_ovf sc a h).2) (hclear := fun _ _ ih h => ih h)
    (hcrash := fun _ _ ih h => ih h) f w () id h

theorem step_ovf (sc : Scripts) (w : World) (c : Cmd) (h : (step sc w c).1.overflow = false) : w.overflow = false := by
  by_cases hc : c = .cycle
  · rw [hc, step_cycle_eq] at h
    split at h
    · exact h
    · exact cycleRun_ovf sc _ w h
  · rw [(step_io sc w c hc).overflow] at h; exact h

theorem run_ovf (sc : Scripts) (cs : List Cmd) (w : World) (h : (run sc w cs).1.overflow = false) : w.overflow = false := by
  induction cs generalizing w with
  | nil => exact h
  | cons c r ih => exact step_ovf sc w c (ih _ h)

end NV.C12
