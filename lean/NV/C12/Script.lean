/-
C12 — what LPC code run by a command can do (`runOps`): one induction over the script interpreter (`runOps_sim`, a
relation between an oracle state folded over the events and the world), from which the world-only and the
oracle-only principles follow; `set_call` and `call_function_interactive` on the record of a user.
-/
import NV.C12.Scan

namespace NV.C12

/-- buffered-command events -/
def Ev.isCmdOf (u : Nat) : Ev → Bool
  | .cmd v _ => v == u
  | _ => false

/-- number of buffered commands of user `u` among events -/
def cmdCount (u : Nat) (es : List Ev) : Nat := es.countP (Ev.isCmdOf u)

theorem cmdCount_append (u : Nat) (a b : List Ev) : cmdCount u (a ++ b) = cmdCount u a + cmdCount u b := by
  simp [cmdCount, List.countP_append]

theorem cmdCount_zero_of_none (u : Nat) (es : List Ev) (h : ∀ e ∈ es, Ev.isCmdOf u e = false) : cmdCount u es = 0 := by
  simp only [cmdCount, List.countP_eq_zero]
  intro e he; simp [h e he]

def Ev.inLoop : Ev → Bool
  | .cmd _ _ => true
  | .ecmd _ _ => true
  | .kick _ _ _ => true
  | .drop _ _ _ => true
  | .force _ _ _ _ => true
  | .gc _ _ => true
  | .it _ _ => true
  | .err _ => true
  | .exec _ _ => true
  | _ => false

/-- the record after a successful input_to (`single = false`) / get_char (`single = true`) -/
def setCallU (us : U) (single : Bool) : U :=
  if single then { us with inputTo := true, single := true, cmdInBuf := us.cmdInBuf || hasCmd true us.buf }
  else { us with inputTo := true }

theorem setCall_eq (w : World) (me : Nat) (single : Bool) :
    setCall w me single =
      if !w.alive me || !w.interactive me || (w.users.get me).inputTo then (w, false)
      else ({ w with users := upd w.users me (setCallU (w.users.get me) single) }, true) := by
  unfold setCall setCallU
  cases single <;> simp

theorem setCall_kept (w : World) (me : Nat) (single : Bool) : TableKept w (setCall w me single).1 := by
  rw [setCall_eq]; split <;> exact ⟨rfl, rfl, rfl, rfl, rfl, rfl⟩

theorem setCallU_turn (us : U) (single : Bool) : (setCallU us single).turn = us.turn := by
  cases single <;> rfl

theorem setCallU_buf (us : U) (single : Bool) : (setCallU us single).buf = us.buf := by
  cases single <;> rfl

theorem setCallU_cmdInBuf (us : U) (single : Bool) (h : us.cmdInBuf = true) : (setCallU us single).cmdInBuf = true := by
  cases single
  · exact h
  · simp [setCallU, h]

theorem endInput_turn (us : U) : (endInput us).turn = us.turn := by
  unfold endInput; split <;> rfl

/-- **the induction over `runOps`**: a relation between an oracle state and the world that every single script
    event keeps (for `force .. true` together with the `ecmd` that follows it) holds between the oracle state folded
    over the events of a script and the world the script leaves -/
theorem runOps_sim {σ : Type} (g : σ → Ev → σ) (R : σ → World → Prop)
    (hkick : ∀ s w me t, R s w → R (g s (.kick me t (w.alive t)))
        (if w.alive t then { w with slots := removeUser w.slots t, dead := t :: w.dead } else w))
    (hdrop : ∀ s w me t, R s w → R (g s (.drop me t (w.alive t && w.interactive t)))
        (if (w.alive t && w.interactive t) = true then { w with slots := removeUser w.slots t } else w))
    (hgc : ∀ s w me, R s w → R (g s (.gc me (setCall w me true).2)) (setCall w me true).1)
    (hit : ∀ s w me, R s w → R (g s (.it me (setCall w me false).2)) (setCall w me false).1)
    (hff : ∀ s w me t x, R s w → R (g s (.force me t x false)) w)
    (hpair : ∀ s w me t x, R s w → R (g (g s (.force me t x true)) (.ecmd t x)) w)
    (herr : ∀ s w me, R s w → R (g s (.err me)) { w with thrown := true })
    (hexec : ∀ s w me, R s w → R (g s (.exec me (w.alive me && w.interactive me))) w)
    (sc : Scripts) (f : Nat) (w : World) (me : Nat) (ops : List Op) (s : σ) (hs : R s w) :
    R ((runOps sc f w me ops).2.foldl g s) (runOps sc f w me ops).1 := by
  induction f generalizing w me ops s with
  | zero => simpa [runOps] using hs
  | succ f ih =>
    cases ops with
    | nil => simpa [runOps] using hs
    | cons op rest =>
      -- after the first op: stop on an error or when the object is gone, else go on with the rest
      have hop : ∀ (w1 : World) (e1 : List Ev), R (e1.foldl g s) w1 →
          R ((if w1.thrown then (w1, e1) else if w1.alive me then ((runOps sc f w1 me rest).1, e1 ++ (runOps sc f w1 me rest).2) else (w1, e1)).2.foldl g s)
            (if w1.thrown then (w1, e1) else if w1.alive me then ((runOps sc f w1 me rest).1, e1 ++ (runOps sc f w1 me rest).2) else (w1, e1)).1 := by
        intro w1 e1 he
        split
        · exact he
        split
        · simp only [List.foldl_append]; exact ih w1 me rest _ he
        · exact he
      unfold runOps
      cases op with
      | kick t => exact hop _ _ (by simpa using hkick s w me t hs)
      | drop t => exact hop _ _ (by simpa using hdrop s w me t hs)
      | ecmd t text =>
        dsimp only
        split
        · apply hop
          simp only [List.foldl_cons]
          exact ih w t (sc t text) _ (hpair s w me t text hs)
        · exact hop _ _ (by simpa using hff s w me t text hs)
      | gc =>
        have hg := hgc s w me hs
        revert hg
        cases hsc : setCall w me true with
        | mk w' r => intro hg; exact hop _ _ (by simpa using hg)
      | it =>
        have hg := hit s w me hs
        revert hg
        cases hsc : setCall w me false with
        | mk w' r => intro hg; exact hop _ _ (by simpa using hg)
      | err => exact hop _ _ (by simpa using herr s w me hs)
      | exec => exact hop _ _ (by simpa using hexec s w me hs)

/-- world only: a reflexive, transitive relation that holds for the primitive effects of a script op holds for a script -/
theorem runOps_rel (R : World → World → Prop) (hrefl : ∀ w, R w w) (htrans : ∀ a b c, R a b → R b c → R a c)
    (hkick : ∀ w t, R w { w with slots := removeUser w.slots t, dead := t :: w.dead })
    (hdrop : ∀ w t, R w { w with slots := removeUser w.slots t })
    (hset : ∀ w me s, R w (setCall w me s).1)
    (hthrow : ∀ w, R w { w with thrown := true })
    (sc : Scripts) (f : Nat) (w : World) (me : Nat) (ops : List Op) : R w (runOps sc f w me ops).1 :=
  runOps_sim (fun (_ : Unit) _ => ()) (fun _ w' => R w w')
    (fun _ w1 _ t h => by split; exact htrans _ _ _ h (hkick w1 t); exact h)
    (fun _ w1 _ t h => by split; exact htrans _ _ _ h (hdrop w1 t); exact h)
    (fun _ w1 me h => htrans _ _ _ h (hset w1 me true)) (fun _ w1 me h => htrans _ _ _ h (hset w1 me false))
    (fun _ _ _ _ _ h => h) (fun _ _ _ _ _ h => h) (fun _ w1 _ h => htrans _ _ _ h (hthrow w1)) (fun _ _ _ h => h)
    sc f w me ops () (hrefl w)

/-- oracle only: folding an oracle step over the events of a script returns to the state it started from, provided every
    event other than a successful `force` leaves such a state alone and a `force .. true` / `ecmd` pair does too -/
theorem runOps_fold {σ : Type} (g : σ → Ev → σ) (Inv : σ → Prop)
    (hother : ∀ s e, Inv s → (∀ a t x, e ≠ Ev.force a t x true) → g s e = s)
    (hpair : ∀ s a t x, Inv s → g (g s (.force a t x true)) (.ecmd t x) = s)
    (sc : Scripts) (f : Nat) (w : World) (me : Nat) (ops : List Op) (s : σ) (hs : Inv s) :
    (runOps sc f w me ops).2.foldl g s = s :=
  runOps_sim g (fun s' _ => s' = s)
    (fun _ _ _ _ h => by rw [h]; exact hother _ _ hs (fun _ _ _ hh => by cases hh))
    (fun _ _ _ _ h => by rw [h]; exact hother _ _ hs (fun _ _ _ hh => by cases hh))
    (fun _ _ _ h => by rw [h]; exact hother _ _ hs (fun _ _ _ hh => by cases hh))
    (fun _ _ _ h => by rw [h]; exact hother _ _ hs (fun _ _ _ hh => by cases hh))
    (fun _ _ _ _ _ h => by rw [h]; exact hother _ _ hs (fun _ _ _ hh => by cases hh))
    (fun _ _ _ _ _ h => by rw [h]; exact hpair _ _ _ _ hs)
    (fun _ _ _ h => by rw [h]; exact hother _ _ hs (fun _ _ _ hh => by cases hh))
    (fun _ _ _ h => by rw [h]; exact hother _ _ hs (fun _ _ _ hh => by cases hh))
    sc f w me ops s rfl

/-- the events of a script are events of the command loop, and none is a buffered command -/
theorem runOps_events (sc : Scripts) (f : Nat) (w : World) (me : Nat) (ops : List Op) :
    ∀ e ∈ (runOps sc f w me ops).2, Ev.inLoop e = true ∧ ∀ u, Ev.isCmdOf u e = false := by
  have snoc : ∀ (es : List Ev) (e0 : Ev), (∀ e ∈ es, Ev.inLoop e = true ∧ ∀ u, Ev.isCmdOf u e = false) →
      (Ev.inLoop e0 = true ∧ ∀ u, Ev.isCmdOf u e0 = false) →
      ∀ e ∈ es ++ [e0], Ev.inLoop e = true ∧ ∀ u, Ev.isCmdOf u e = false := by
    intro es e0 h h0 e he
    rcases List.mem_append.mp he with he | he
    · exact h e he
    · rw [List.mem_singleton.mp he]; exact h0
  have := runOps_sim (fun s e => s ++ [e]) (fun es _ => ∀ e ∈ es, Ev.inLoop e = true ∧ ∀ u, Ev.isCmdOf u e = false)
    (fun _ _ _ _ h => snoc _ _ h ⟨rfl, fun _ => rfl⟩) (fun _ _ _ _ h => snoc _ _ h ⟨rfl, fun _ => rfl⟩)
    (fun _ _ _ h => snoc _ _ h ⟨rfl, fun _ => rfl⟩) (fun _ _ _ h => snoc _ _ h ⟨rfl, fun _ => rfl⟩)
    (fun _ _ _ _ _ h => snoc _ _ h ⟨rfl, fun _ => rfl⟩)
    (fun _ _ _ _ _ h => snoc _ _ (snoc _ _ h ⟨rfl, fun _ => rfl⟩) ⟨rfl, fun _ => rfl⟩)
    (fun _ _ _ h => snoc _ _ h ⟨rfl, fun _ => rfl⟩) (fun _ _ _ h => snoc _ _ h ⟨rfl, fun _ => rfl⟩)
    sc f w me ops [] (fun _ he => by cases he)
  rwa [foldl_snoc, List.nil_append] at this

/-! ### scripts leave cursor, table size and turn flags alone -/

/-- `w'` differs from `w` in nothing the scheduler looks at: table size, cursor, crash flag, turn flags -/
structure SchedFrame (w w' : World) : Prop where
  length : w'.slots.length = w.slots.length
  cursor : w'.cursor = w.cursor
  crashed : w'.crashed = w.crashed
  turn : ∀ x, turnOf w' x = turnOf w x

theorem SchedFrame.refl (w : World) : SchedFrame w w := ⟨rfl, rfl, rfl, fun _ => rfl⟩

theorem SchedFrame.trans {a b c : World} (h1 : SchedFrame a b) (h2 : SchedFrame b c) : SchedFrame a c :=
  ⟨h2.length.trans h1.length, h2.cursor.trans h1.cursor, h2.crashed.trans h1.crashed,
    fun x => (h2.turn x).trans (h1.turn x)⟩

theorem SchedFrame.safe {a b : World} (h : SchedFrame a b) (hs : Safe a) : Safe b :=
  ⟨by rw [h.crashed]; exact hs.1, by rw [h.length, h.cursor]; exact hs.2⟩

/-- replacing one record by one with the same turn flag -/
theorem SchedFrame.upd (w : World) (u : Nat) (X : U) (h : X.turn = (w.users.get u).turn) :
    SchedFrame w { w with users := upd w.users u X } := by
  refine ⟨rfl, rfl, rfl, fun x => ?_⟩
  simp only [turnOf, get_upd]
  split
  · rename_i hx; rw [hx]; exact h
  · rfl

theorem setCall_frame (w : World) (me : Nat) (single : Bool) : SchedFrame w (setCall w me single).1 := by
  rw [setCall_eq]
  split
  · exact SchedFrame.refl w
  · exact SchedFrame.upd w me _ (setCallU_turn _ _)

theorem runOps_frame (sc : Scripts) (f : Nat) (w : World) (me : Nat) (ops : List Op) :
    SchedFrame w (runOps sc f w me ops).1 ∧ ∀ u, ∀ e ∈ (runOps sc f w me ops).2, Ev.isCmdOf u e = false :=
  ⟨runOps_rel SchedFrame SchedFrame.refl (fun _ _ _ => SchedFrame.trans)
      (fun _ _ => ⟨by simp, rfl, rfl, fun _ => rfl⟩) (fun _ _ => ⟨by simp, rfl, rfl, fun _ => rfl⟩) setCall_frame
      (fun _ => ⟨rfl, rfl, rfl, fun _ => rfl⟩) sc f w me ops,
   fun u e he => (runOps_events sc f w me ops e he).2 u⟩

end NV.C12
