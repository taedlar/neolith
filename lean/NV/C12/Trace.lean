/-
C12 — trace-level theorems: two of the five clause oracles of NV/C12/Spec.lean accept the event trace of EVERY
history of the model under EVERY script oracle:
  `judgeStruct (events sc cs) = []`  (clauses twice / outside / crash / malformed)
  `judgeEfun   (events sc cs) = []`  (clause efun)
-/
import NV.C12.Props

namespace NV.C12

theorem struct_script (s : SState) : (∀ a t ok, structStep s (.kick a t ok) = s) ∧ (∀ a t ok, structStep s (.drop a t ok) = s) ∧
    (∀ u r, structStep s (.gc u r) = s) ∧ (∀ u r, structStep s (.it u r) = s) ∧
    (∀ a t x ok, structStep s (.force a t x ok) = s) ∧ (∀ t x, structStep s (.ecmd t x) = s) :=
  ⟨fun _ _ _ => rfl, fun _ _ _ => rfl, fun _ _ => rfl, fun _ _ => rfl, fun _ _ _ _ => rfl, fun _ _ => rfl⟩

/-- the structure oracle does not look at the events of scripts -/
theorem struct_scriptEvents (l : List Ev) (hl : ∀ e ∈ l, Ev.inLoop e = true ∧ ∀ v, Ev.isCmdOf v e = false) (s : SState) :
    l.foldl structStep s = s := by
  induction l with
  | nil => rfl
  | cons e r ih =>
    obtain ⟨h1, h2⟩ := hl e List.mem_cons_self
    have he : structStep s e = s := by
      cases e with
      | cmd u t => have := h2 u; simp [Ev.isCmdOf] at this
      | kick | drop | gc | it | force | ecmd | err | exec => rfl
      | _ => cases h1
    rw [List.foldl_cons, he]
    exact ih (fun x hx => hl x (List.mem_cons_of_mem _ hx))

/-- inside a cycle the command loop adds no violation: whoever is in `served` holds no turn any more -/
theorem struct_cmdLoop (sc : Scripts) (k : Nat) (w : World) (hs : Safe w) (s : SState) (n : Nat) (hc : s.cyc = some n)
    (hserved : ∀ u, u ∈ s.served → turnOf w u = false) :
    ((cmdLoop sc k w).2.foldl structStep s).cyc = some n ∧ ((cmdLoop sc k w).2.foldl structStep s).bad = s.bad := by
  have := cmdLoop_sim sc structStep
    (fun s' w' => Safe w' ∧ s'.cyc = some n ∧ s'.bad = s.bad ∧ ∀ u, u ∈ s'.served → turnOf w' u = false)
    (fun s' w' ⟨h1, h2, h3, h4⟩ => by
      have p := puc_turns sc w' h1
      cases hb : (processUserCommand sc w').2.2 with
      | false =>
        obtain ⟨q1, q2⟩ := p.idle hb
        rw [q1]
        exact ⟨p.safe, h2, h3, fun u hu => by rw [q2 u]; exact h4 u hu⟩
      | true =>
        obtain ⟨u, t, rest, q1, q2, q3, q4⟩ := p.served hb
        have hin : ∀ e ∈ rest, Ev.inLoop e = true ∧ ∀ v, Ev.isCmdOf v e = false := by
          rcases puc_events sc w' with he | ⟨u', t', rest', he, hr⟩
          · rw [he] at q1; cases q1
          · rw [he] at q1; cases q1; exact hr
        have hmem : ¬ u ∈ s'.served := fun hm => by rw [h4 u hm] at q3; cases q3
        have hstep : structStep s' (Ev.cmd u t) = { s' with served := u :: s'.served } := by
          simp [structStep, h2, hmem]
        rw [q1, List.foldl_cons, struct_scriptEvents rest hin, hstep]
        refine ⟨p.safe, h2, h3, fun x hx => ?_⟩
        rw [q4 x]
        split
        · rfl
        · rename_i hne
          rcases List.mem_cons.mp hx with hx | hx
          · exact absurd hx hne
          · exact h4 x hx) k w s ⟨hs, hc, rfl, hserved⟩
  exact ⟨this.2.1, this.2.2.1⟩

theorem struct_cycle (sc : Scripts) (w : World) (hs : Safe w) :
    (cycleStep sc w).2.foldl structStep {} = {} := by
  have hsafe := cycleStep_safe sc w hs
  have htop : (topEvents w).foldl structStep {} = { cyc := some (w.cycle + 1), served := [], bad := [] } := by
    unfold topEvents; split <;> rfl
  obtain ⟨c1, c2⟩ := struct_cmdLoop sc (NV.Gen.C12.loopCalls (connectedUsers w) w.maxUsers) (cmdPhaseStart w)
    (cmdPhaseStart_safe w hs) { cyc := some (w.cycle + 1), served := [], bad := [] } (w.cycle + 1) rfl
    (by intro u hu; cases hu)
  rw [cycle_events]
  simp only [List.foldl_append]
  rw [htop, endEvents, hsafe.1]
  simp only [Bool.false_eq_true, if_false]
  split <;> (simp only [List.foldl_cons, List.foldl_nil, structStep, c1, c2]; simp)

/-- the same for all iterations between two hook calls (aborted ones end with `abort n`, which closes cycle `n`) -/
theorem struct_run (sc : Scripts) (w : World) (hq : Quiet w) :
    (cycleRun sc (weight w + 1) w).2.foldl structStep {} = {} :=
  (cycleRun_fold sc structStep (fun s _ => s = {})
    (hstep := fun s w hs hq => by subst hs; exact struct_cycle sc w hq.1) (hclear := fun _ _ h => h) (weight w + 1) w {} rfl hq (by omega)).1

theorem events_fold_init {σ : Type} (sc : Scripts) (g : σ → Ev → σ) (s0 : σ)
    (hio : ∀ k u d, g s0 (.conn k) = s0 ∧ g s0 (.send u d) = s0 ∧ g s0 (.close u) = s0)
    (hrun : ∀ w, Quiet w → (cycleRun sc (weight w + 1) w).2.foldl g s0 = s0) (cs : List Cmd) :
    (events sc cs).foldl g s0 = s0 := by
  have := run_events sc (fun es w => Quiet w ∧ es.foldl g s0 = s0) (fun _ => True) (fun es w c _ h => by
    rw [List.foldl_append, h.2]
    refine ⟨cursor_in_bounds sc w c h.1, ?_⟩
    by_cases hc : c = .cycle
    · rw [hc, step_cycle sc w h.1.1.1]; exact hrun w h.1
    · exact foldl_ioEvents g s0 hio _ (step_io sc w c hc).events)
    cs (fun _ _ => trivial) {} [] ⟨quiet_init, rfl⟩
  rw [List.nil_append] at this
  exact this.2

/-- **trace theorem 1**: for every history and every script oracle the structure oracle accepts the trace of the
    model: never a second buffered command of one user inside a cycle (`twice`), no command outside a cycle, no crash,
    cycles properly bracketed. -/
theorem judgeStruct_events (sc : Scripts) (cs : List Cmd) : judgeStruct (events sc cs) = [] := by
  unfold judgeStruct
  rw [events_fold_init sc structStep {} (fun _ _ _ => ⟨rfl, rfl, rfl⟩) (struct_run sc)]
  rfl

theorem efun_neutral (s : EState) (hs : s.expect = none) (e : Ev)
    (he : ∀ a t x, e ≠ Ev.force a t x true) : efunStep s e = s := by
  cases e with
  | force a t x ok =>
    cases ok with
    | true => exact absurd rfl (he a t x)
    | false => simp [efunStep, hs]
  | _ => simp [efunStep, hs]

theorem efun_runOps (sc : Scripts) (f : Nat) (w : World) (me : Nat) (ops : List Op) (s : EState) (hs : s.expect = none) :
    (runOps sc f w me ops).2.foldl efunStep s = s :=
  runOps_fold efunStep (fun s => s.expect = none) (fun s e h he => efun_neutral s h e he)
    (fun s a t x h => by
      obtain ⟨ex, bad⟩ := s
      simp only at h
      subst h
      simp [efunStep]) sc f w me ops s hs

theorem efun_cmdLoop (sc : Scripts) (k : Nat) (w : World) (s : EState) (hs : s.expect = none) :
    (cmdLoop sc k w).2.foldl efunStep s = s :=
  cmdLoop_sim sc efunStep (fun s' _ => s' = s) (fun s' w' h => by
    rw [h]
    rcases puc_cases sc w' with ⟨_, h⟩ | ⟨_, ⟨_, h⟩ | ⟨x, t, _, h⟩⟩ <;> rw [h]
    · rfl
    · rfl
    · rw [List.foldl_cons, efun_neutral s hs _ (by intro _ _ _ hh; cases hh)]
      exact efun_runOps sc _ _ _ _ s hs) k w s rfl

theorem efun_cycle (sc : Scripts) (w : World) (s : EState) (hs : s.expect = none) :
    (cycleStep sc w).2.foldl efunStep s = s := by
  rw [cycle_events]
  simp only [List.foldl_append]
  rw [foldl_ignored efunStep s (topEvents w) (fun e he => efun_neutral s hs e (by
      rcases mem_topEvents w e he with rfl | rfl | rfl <;> (intro _ _ _ hh; cases hh))),
    efun_cmdLoop sc _ _ s hs]
  exact foldl_ignored efunStep s _ (fun e he => efun_neutral s hs e (by
    rcases mem_endEvents _ _ e he with ⟨_, rfl⟩ | rfl | ⟨_, _, rfl⟩ <;> (intro _ _ _ hh; cases hh)))

theorem efun_run (sc : Scripts) (f : Nat) (w : World) (s : EState) (hs : s.expect = none) :
    (cycleRun sc f w).2.foldl efunStep s = s :=
  cycleRun_fold_noQuiet sc efunStep (fun s' _ => s' = s)
    (hstep := fun s' w h => by rw [h]; exact efun_cycle sc w s hs) (hclear := fun _ _ h => h)
    (hcrash := fun s' _ h => by rw [h]; exact efun_neutral s hs _ (by intro _ _ _ hh; cases hh)) f w s rfl

/-- **trace theorem 2** (`command_efun_unlimited` at trace level): for every history and every script oracle, every
    `command()` requested on a live object is the very next event of the trace - no turn, no cycle limit. -/
theorem judgeEfun_events (sc : Scripts) (cs : List Cmd) : judgeEfun (events sc cs) = [] := by
  unfold judgeEfun
  rw [events_fold_init sc efunStep {} (fun _ _ _ => ⟨rfl, rfl, rfl⟩) (fun w _ => efun_run sc _ w {} rfl)]
  rfl

/-- the part of the top theorem proved here: the clause oracles for `twice` / `outside` / `crash` / `malformed`
    and for `efun` accept every trace of the model -/
theorem judgeEv_events_eq_data (sc : Scripts) (cs : List Cmd) :
    judgeEv (events sc cs) = judgeFifo (events sc cs) ++ judgeLive (events sc cs) ++ judgeOrder (events sc cs) := by
  unfold judgeEv
  rw [judgeStruct_events, judgeEfun_events]
  rfl

-- non-vacuity: a history with two users, a deep queue, a nested command() and a kick produces a trace with buffered
-- commands, efun commands and several cycles; the trace theorems speak about such traces
example :
    let sc : Scripts := fun u t => if u = 1 ∧ t = ['f'] then [Op.ecmd 2 ['m'], Op.ecmd 2 ['m'], Op.kick 2] else []
    let tr := events sc [.conn, .cycle, .conn, .cycle, .send 1 "a~f~b~".toList, .send 2 "x~y~z~".toList, .cycle, .cycle, .cycle]
    (tr.filter (fun e => match e with | .cmd _ _ => true | _ => false)).length = 5 ∧
    (tr.filter (fun e => match e with | .ecmd _ _ => true | _ => false)).length = 2 ∧
    judgeEv tr = [] := by decide +kernel

end NV.C12
