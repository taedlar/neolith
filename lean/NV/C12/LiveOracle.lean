/-
C12 — the liveness oracle (`judgeStep`, clauses `starved`, `idleWait`) alone:

* what `begin` does to the record of one user (`begin_get`);
* the events of the command loop (`Ev.inLoop`) leave `bad`, `ids`, `mustNotBlock`, every `eligible` / `fresh` / `clientOpen`
  alone, `served` only goes up (`inLoop_loop`) and a `cmd u` sets it (`inLoop_served`);
* coupling with the FIFO oracle (`Cpl`): both consume the same bytes, so the simulation proved for the FIFO oracle
  (`G`, Fifo.lean) carries over.
-/
import NV.C12.Spec
import NV.C12.Script

namespace NV.C12

theorem foldl_upd_get {α : Type} [Inhabited α] (f : Nat → α) (l : List Nat) (m : AMap α) (x : Nat) :
    (l.foldl (fun m u => upd m u (f u)) m).get x = if x ∈ l then f x else m.get x := by
  induction l generalizing m with
  | nil => simp
  | cons a r ih =>
    rw [List.foldl_cons, ih]
    by_cases hr : x ∈ r
    · simp [hr]
    · simp only [hr, if_false, get_upd, List.mem_cons, or_false]
      split
      · rename_i hx; subst hx; rfl
      · rfl

/-- what `begin` does to the record of a user that has logged on -/
def beginU (j : JU) : JU :=
  { j with pending := j.pending ++ j.fresh, fresh := [], served := false,
           eligible := live j && complete j.charMode (j.pending ++ j.fresh) }

theorem begin_get (s : JState) (n x : Nat) :
    ((judgeStep s (.begin n)).us.get x) = if x ∈ s.ids then beginU (s.us.get x) else s.us.get x :=
  foldl_upd_get (fun u => beginU (s.us.get u)) s.ids s.us x

theorem begin_bad (s : JState) (n : Nat) : (judgeStep s (.begin n)).bad = s.bad := rfl
theorem begin_ids (s : JState) (n : Nat) : (judgeStep s (.begin n)).ids = s.ids := rfl
theorem begin_mnb (s : JState) (n : Nat) : (judgeStep s (.begin n)).mustNotBlock =
    s.ids.find? (fun u => live (s.us.get u) && complete (s.us.get u).charMode (s.us.get u).pending) := rfl

/-- what the command loop may do to a record `j` of the liveness oracle (`j'` afterwards): `served` only goes up,
    nobody connects, the rest of what `begin` and `endc` read stays -/
structure JKept (j j' : JU) : Prop where
  eligible : j'.eligible = j.eligible
  fresh : j'.fresh = j.fresh
  clientOpen : j'.clientOpen = j.clientOpen
  served : j.served = true → j'.served = true
  connected : j'.connected = true → j.connected = true

theorem JKept.refl (j : JU) : JKept j j := ⟨rfl, rfl, rfl, id, id⟩

theorem JKept.trans {a b c : JU} (h1 : JKept a b) (h2 : JKept b c) : JKept a c :=
  ⟨h2.eligible.trans h1.eligible, h2.fresh.trans h1.fresh, h2.clientOpen.trans h1.clientOpen,
    fun h => h2.served (h1.served h), fun h => h1.connected (h2.connected h)⟩

/-- ... and to the whole oracle state -/
structure JLoop (s s' : JState) : Prop where
  bad : s'.bad = s.bad
  ids : s'.ids = s.ids
  mustNotBlock : s'.mustNotBlock = s.mustNotBlock
  us : ∀ u, JKept (s.us.get u) (s'.us.get u)

theorem JLoop.refl (s : JState) : JLoop s s := ⟨rfl, rfl, rfl, fun _ => .refl _⟩

theorem JLoop.trans {a b c : JState} (h1 : JLoop a b) (h2 : JLoop b c) : JLoop a c :=
  ⟨h2.bad.trans h1.bad, h2.ids.trans h1.ids, h2.mustNotBlock.trans h1.mustNotBlock, fun u => (h1.us u).trans (h2.us u)⟩

/-- rewriting the record of one user `t` in such a way -/
theorem jtouch (s : JState) (t : Nat) (j : JU) (h : JKept (s.us.get t) j) (u : Nat) :
    JKept (s.us.get u) ((upd s.us t j).get u) := by
  rw [get_upd]
  split
  · rename_i hu; rw [hu]; exact h
  · exact .refl _

/-- one event of the command loop, seen by the liveness oracle -/
theorem inLoop_step (s : JState) (e : Ev) (he : e.inLoop = true) : JLoop s (judgeStep s e) := by
  cases e with
  | cmd v t => exact ⟨rfl, rfl, rfl, jtouch s v _ ⟨rfl, rfl, rfl, fun _ => rfl, id⟩⟩
  | kick a t ok => cases ok with
    | true => exact ⟨rfl, rfl, rfl, jtouch s t _ ⟨rfl, rfl, rfl, id, fun h => by cases h⟩⟩
    | false => exact .refl s
  | drop a t ok => cases ok with
    | true => exact ⟨rfl, rfl, rfl, jtouch s t _ ⟨rfl, rfl, rfl, id, fun h => by cases h⟩⟩
    | false => exact .refl s
  | gc v r => cases r with
    | true => exact ⟨rfl, rfl, rfl, jtouch s v _ ⟨rfl, rfl, rfl, id, id⟩⟩
    | false => exact .refl s
  | ecmd | force | it | err | exec => exact .refl s
  | _ => cases he

/-- a list of events of the command loop -/
theorem inLoop_loop (l : List Ev) (hl : ∀ e ∈ l, Ev.inLoop e = true) (s : JState) : JLoop s (l.foldl judgeStep s) := by
  induction l generalizing s with
  | nil => exact .refl s
  | cons e r ih =>
    exact (inLoop_step s e (hl e List.mem_cons_self)).trans (ih (fun x hx => hl x (List.mem_cons_of_mem _ hx)) _)

/-- a `cmd u` among them marks `u` served, and he stays so -/
theorem inLoop_served (l : List Ev) (hl : ∀ e ∈ l, Ev.inLoop e = true) (s : JState) (u : Nat) (hc : 1 ≤ cmdCount u l) :
    ((l.foldl judgeStep s).us.get u).served = true := by
  induction l generalizing s with
  | nil => simp [cmdCount] at hc
  | cons e r ih =>
    have hr := fun x hx => hl x (List.mem_cons_of_mem _ hx)
    rw [List.foldl_cons]
    by_cases he : Ev.isCmdOf u e = true
    · apply ((inLoop_loop r hr (judgeStep s e)).us u).served
      cases e with
      | cmd v t =>
        have hv : v = u := by simpa [Ev.isCmdOf] using he
        simp [judgeStep, hv]
      | _ => cases he
    · apply ih hr
      have : cmdCount u (e :: r) = cmdCount u r := by
        simp only [cmdCount, List.countP_cons]
        simp [he]
      omega

theorem inLoop_fold (l : List Ev) (hl : ∀ e ∈ l, Ev.inLoop e = true) (s : JState) :
    (l.foldl judgeStep s).bad = s.bad ∧ (l.foldl judgeStep s).ids = s.ids ∧
    (l.foldl judgeStep s).mustNotBlock = s.mustNotBlock ∧
    ∀ u, ((l.foldl judgeStep s).us.get u).eligible = (s.us.get u).eligible ∧
         ((l.foldl judgeStep s).us.get u).fresh = (s.us.get u).fresh ∧
         ((l.foldl judgeStep s).us.get u).clientOpen = (s.us.get u).clientOpen ∧
         ((s.us.get u).served = true → ((l.foldl judgeStep s).us.get u).served = true) ∧
         (1 ≤ cmdCount u l → ((l.foldl judgeStep s).us.get u).served = true) ∧
         (((l.foldl judgeStep s).us.get u).connected = true → (s.us.get u).connected = true) :=
  have k := inLoop_loop l hl s
  ⟨k.bad, k.ids, k.mustNotBlock, fun u => ⟨(k.us u).eligible, (k.us u).fresh, (k.us u).clientOpen, (k.us u).served,
    inLoop_served l hl s u, (k.us u).connected⟩⟩

/-- both oracles hold the same unconsumed bytes and the same mode for every user -/
structure Cpl (fs : FState) (js : JState) : Prop where
  pend : ∀ u, (js.us.get u).pending ++ (js.us.get u).fresh = (fs.us.get u).pending
  mode : ∀ u, (js.us.get u).charMode = (fs.us.get u).charMode

/-- the liveness oracle rewrites a record without touching its bytes or its mode (the FIFO oracle does nothing) -/
theorem Cpl_jtouch {fs : FState} {js : JState} (h : Cpl fs js) (t : Nat) (j : JU)
    (hp : j.pending ++ j.fresh = (js.us.get t).pending ++ (js.us.get t).fresh)
    (hm : j.charMode = (js.us.get t).charMode) : Cpl fs { js with us := upd js.us t j } := by
  constructor <;> (intro u; simp only [get_upd]; split)
  · rename_i hu; rw [hp, ← hu]; exact h.pend u
  · exact h.pend u
  · rename_i hu; rw [hm, ← hu]; exact h.mode u
  · exact h.mode u

/-- both oracles rewrite the record of one user, to the same bytes and the same mode -/
theorem Cpl_touch {fs : FState} {js : JState} (h : Cpl fs js) (t : Nat) (f : FU) (j : JU) (b : List Viol)
    (hp : j.pending ++ j.fresh = f.pending) (hm : j.charMode = f.charMode) :
    Cpl { us := upd fs.us t f, bad := b } { js with us := upd js.us t j } := by
  constructor <;> (intro u; simp only [get_upd]; split)
  · exact hp
  · exact h.pend u
  · exact hm
  · exact h.mode u

theorem cpl_inLoop (fs : FState) (js : JState) (e : Ev) (he : e.inLoop = true) (h : Cpl fs js)
    (hf : ∀ u, (js.us.get u).fresh = []) : Cpl (fifoStep fs e) (judgeStep js e) := by
  cases e with
  | cmd v t =>
    -- both oracles consume the command from the same bytes in the same mode
    have hp : (js.us.get v).pending = (fs.us.get v).pending := by
      have := h.pend v; rw [hf v, List.append_nil] at this; exact this
    simp only [fifoStep, judgeStep]
    rw [h.mode v, hp]
    cases hc : consume (fs.us.get v).charMode (fs.us.get v).pending t with
    | some p => exact Cpl_touch h v _ _ _ (by rw [hf v, List.append_nil]; rfl) rfl
    | none => exact Cpl_touch h v _ _ _ (by rw [hf v, List.append_nil]; rfl) rfl
  | kick a t ok => cases ok with
    | true => exact Cpl_jtouch h t _ rfl rfl
    | false => exact h
  | drop a t ok => cases ok with
    | true => exact Cpl_jtouch h t _ rfl rfl
    | false => exact h
  | gc v r => cases r with
    | true => exact Cpl_touch h v _ _ _ (h.pend v) rfl
    | false => exact h
  | ecmd | force | it | err | exec => exact h
  | _ => cases he

theorem cpl_fold (l : List Ev) (hl : ∀ e ∈ l, Ev.inLoop e = true) (fs : FState) (js : JState) (h : Cpl fs js)
    (hf : ∀ u, (js.us.get u).fresh = []) : Cpl (l.foldl fifoStep fs) (l.foldl judgeStep js) := by
  induction l generalizing fs js with
  | nil => exact h
  | cons e r ih =>
    rw [List.foldl_cons, List.foldl_cons]
    have he := hl e (List.mem_cons_self)
    apply ih (fun x hx => hl x (List.mem_cons_of_mem _ hx)) _ _ (cpl_inLoop fs js e he h hf)
    intro u
    rw [((inLoop_step js e he).us u).fresh]; exact hf u

end NV.C12
