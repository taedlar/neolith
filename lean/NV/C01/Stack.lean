/-
C01 model, part 3: height of the value stack (src/stack.c, src/interpret.h, src/frame.c).

`reset_interpreter` allocates `size` svalues and sets `end_of_stack = start + size - 5` (REGENERATED `endOfStack`).
Checked pushes (`CHECK_AND_PUSH`, `STACK_CHECK` in push_undefineds / push_some_svalues ...) test the REGENERATED
guards; the opcode cases F_PUSH / F_LOCAL / F_GLOBAL ... and the `push_svalue` macro do `*++sp = v` with no test.
A write at an index >= size is the explicit outcome `crash` (heap overflow of the calloc'ed stack).
Stack positions are indices relative to start_of_stack; `sp = -1` is the empty stack.
-/
import NV.Gen.C01

namespace NV.C01
open NV.Gen.C01

structure StackCfg where
  size : Int := 1000          -- StackSize
  maxDepth : Int := 50        -- MaxCallDepth
  deriving Repr

inductive SOp
  | pushC (n : Nat)           -- checked push of n values (CHECK_AND_PUSH / STACK_CHECK(n) then n stores)
  | pushU (n : Nat)           -- n unchecked stores `*++sp = v`
  | pop (n : Nat)
  | enter (locals : Nat)      -- push_control_stack + setup_variables: push_undefineds (locals)
  | leave
  deriving Repr, DecidableEq

inductive SErr
  | stackOverflow             -- LPC error "***Stack overflow!"
  | tooDeep                   -- LPC error "***Too deep recursion."
  | crash (idx : Int)         -- store outside the allocation
  deriving Repr, DecidableEq

structure SState where
  sp : Int := -1
  depth : Int := 0
  deriving Repr, DecidableEq

def stackEnd (cfg : StackCfg) : Int := endOfStack 0 cfg.size

def sstep (cfg : StackCfg) (s : SState) : SOp → Except SErr SState
  | .pushC n =>
    if guard_stack_push_undefineds s.sp n (stackEnd cfg) then .error .stackOverflow
    else if s.sp + n ≥ cfg.size then .error (.crash (s.sp + n))
    else .ok { s with sp := s.sp + n }
  | .pushU n =>
    if s.sp + n ≥ cfg.size then .error (.crash (max (s.sp + 1) cfg.size))
    else .ok { s with sp := s.sp + n }
  | .pop n => .ok { s with sp := s.sp - n }
  | .enter locals =>
    if s.depth ≥ cfg.maxDepth then .error .tooDeep
    else if guard_stack_push_undefineds s.sp locals (stackEnd cfg) then .error .stackOverflow
    else if s.sp + locals ≥ cfg.size then .error (.crash (s.sp + locals))
    else .ok { sp := s.sp + locals, depth := s.depth + 1 }
  | .leave => .ok { s with depth := s.depth - 1 }

def srun (cfg : StackCfg) : SState → List SOp → Except SErr SState
  | s, [] => .ok s
  | s, op :: rest =>
    match sstep cfg s op with
    | .ok s' => srun cfg s' rest
    | .error e => .error e

/-- the op script of the harness program `stackprog depth nargs`:
      int rec (int d, int a0 .. a{n-1}) { if (d <= 0) return 0; return 1 + rec (d - 1, a0, .., a{n-1}); }
      int go () { int x; x = 7; return rec (depth, x, .., x); } -/
def recLevel (nargs nlocals : Nat) : List SOp :=
  [.enter nlocals, .pushU 1, .pushC 1, .pop 1, .pushU nargs]

/-- `nlocals` extra local variables per level (pushed by push_undefineds in the frame set-up: checked) -/
def stackprogOps (depth nargs : Nat) (nlocals : Nat := 0) : List SOp :=
  [.enter 1, .pushC 1, .pushU nargs] ++ (List.replicate depth (recLevel nargs nlocals)).flatten ++ [.enter nlocals]

/-- every run of unchecked pushes between two checked operations pushes at most `slack` values -/
def burstOk (slack : Nat) : Nat → List SOp → Bool
  | _, [] => true
  | acc, .pushU n :: rest => decide (acc + n ≤ slack) && burstOk slack (acc + n) rest
  | _, .pushC _ :: rest => burstOk slack 0 rest
  | _, .enter _ :: rest => burstOk slack 0 rest
  | acc, _ :: rest => burstOk slack acc rest

def noUnchecked : List SOp → Bool
  | [] => true
  | .pushU _ :: _ => false
  | _ :: rest => noUnchecked rest

def isCrash : Except SErr SState → Bool
  | .error (.crash _) => true
  | _ => false

end NV.C01
