/-
C01 - F_SWITCH: every table entry probed by the search lies inside the table, for every table size, every size code the
compiler can store and EVERY sequence of comparison results.
-/
import NV.C01.Switch
import NV.Gen.C01

namespace NV.C01
open NV.Gen.C01

theorem swStep_zero : swStep 0 = 0 := rfl
theorem swStep_one : swStep 1 = 1 := rfl
theorem swStep_succ_eq (m : Nat) : swStep (m + 1) = 2 ^ m := rfl

theorem swStep_succ (m : Nat) (h : 1 ≤ m) : swStep (m + 1) = 2 * swStep m := by
  obtain ⟨k, rfl⟩ : ∃ k, m = k + 1 := ⟨m - 1, by omega⟩
  rw [swStep_succ_eq, swStep_succ_eq, Int.pow_succ]; omega

theorem swStep_pos (m : Nat) (h : 1 ≤ m) : 1 ≤ swStep m := by
  obtain ⟨k, rfl⟩ : ∃ k, m = k + 1 := ⟨m - 1, by omega⟩
  have : (0 : Int) < 2 ^ k := Int.pow_pos (by decide)
  rw [swStep_succ_eq]; omega

theorem swStep_nonneg (m : Nat) : 0 ≤ swStep m := by
  by_cases h : m = 0
  · subst h; decide
  · have := swStep_pos m (by omega); omega

/-- `d >>= 1` halves the step (a step of one entry becomes "d < SWITCH_CASE_SIZE") -/
theorem swStep_half (m : Nat) : 2 * swStep (m - 1) ≤ swStep m :=
  match m with
  | 0 | 1 => by decide
  | k + 2 => Int.le_of_eq (swStep_succ (k + 1) (by omega)).symm

theorem swStep_mono (a b : Nat) (h : a ≤ b) : swStep a ≤ swStep b := by
  induction h with
  | refl => exact Int.le_refl _
  | @step k _ ih =>
    have h2 : 2 * swStep k ≤ swStep k.succ := swStep_half (k + 1)
    have := swStep_nonneg k
    omega

/-- the fix-up loop for tables whose size is not a power of two: entered with n <= k, having come from entry
    k - step (< n); it ends either exactly at `end_tab` (k = n: default) or strictly between the entry it came from
    and the end of the table -/
theorem swFixup_ok (n : Int) : ∀ (m : Nat) (k : Int), n ≤ k → k - swStep m < n →
    ((swFixup n m k).1 = n ∨ ((swFixup n m k).1 < n ∧ 1 ≤ (swFixup n m k).2)) ∧
    k - swStep m < (swFixup n m k).1 ∧ (swFixup n m k).2 ≤ m := by
  intro m
  induction m with
  | zero => intro k h1 h2; rw [swStep_zero] at h2; omega
  | succ m ih =>
    intro k h1 h2
    unfold swFixup
    by_cases hm : m = 0
    · subst hm
      rw [swStep_one] at h2
      simp only [if_true]
      refine ⟨Or.inl (by omega), by rw [swStep_one]; omega, by omega⟩
    · simp only [hm, if_false]
      have hs := swStep_succ m (by omega)
      have hp := swStep_pos m (by omega)
      by_cases hk : k - swStep m ≥ n
      · simp only [hk, if_true]
        have r := ih (k - swStep m) hk (by omega)
        refine ⟨r.1, by omega, by omega⟩
      · simp only [hk, if_false]
        refine ⟨Or.inr ⟨by omega, by omega⟩, by omega, by omega⟩

/-- loop invariant of the search: 0 <= k < n and 2 * step <= k + 1 -/
theorem swLoop_ok (n : Int) (cmp : Int → Int) : ∀ (fuel m : Nat) (k : Int), m + 1 ≤ fuel → 0 ≤ k → k < n →
    2 * swStep m ≤ k + 1 → ∀ p ∈ swLoop n cmp fuel m k, 0 ≤ p ∧ p < n := by
  intro fuel
  induction fuel with
  | zero => intro m k hf; omega
  | succ f ih =>
    intro m k hf h0 h1 h2 p hp
    unfold swLoop at hp
    simp only at hp
    by_cases hd : cmp k = 0
    · simp only [hd, if_true, List.mem_singleton] at hp; omega
    · simp only [hd, if_false] at hp
      by_cases hm : m = 0
      · by_cases hlt : cmp k < 0 <;> simp only [hlt, hm, if_true, if_false, List.mem_singleton] at hp <;> omega
      · have hpos := swStep_pos m (by omega)
        have hhalf := swStep_half m
        by_cases hlt : cmp k < 0
        · simp only [hlt, hm, if_true, if_false, List.mem_cons] at hp
          rcases hp with rfl | hp
          · omega
          · -- one step down stays at or above entry 0 because `2 * step ≤ k + 1`; halving the step restores that
            have step : 2 * swStep (m - 1) ≤ k - swStep m + 1 := by omega
            exact ih (m - 1) (k - swStep m) (by omega) (by omega) (by omega) step p hp
        · simp only [hlt, hm, if_false] at hp
          by_cases hk1 : k + swStep m ≥ n
          · simp only [hk1, if_true] at hp
            have r := swFixup_ok n m (k + swStep m) hk1 (by omega)
            generalize swFixup n m (k + swStep m) = res at hp r
            obtain ⟨k2, m2⟩ := res
            simp only at hp r
            by_cases hend : k2 = n
            · simp only [hend, if_true, List.mem_singleton] at hp; omega
            · simp only [hend, if_false, List.mem_cons] at hp
              rcases hp with rfl | hp
              · omega
              · -- the fix-up comes back to an entry beyond `k` with a step no larger: `2 * step ≤ k + 1` carries over
                have step : 2 * swStep (m2 - 1) ≤ k2 + 1 := by
                  have := swStep_mono (m2 - 1) m (by omega)
                  omega
                exact ih (m2 - 1) k2 (by omega) (by omega) (by omega) step p hp
          · simp only [hk1, if_false] at hp
            by_cases hend : k + swStep m = n
            · omega
            · simp only [hend, if_false, List.mem_cons] at hp
              rcases hp with rfl | hp
              · omega
              · -- one step up, still inside the table
                have step : 2 * swStep (m - 1) ≤ k + swStep m + 1 := by omega
                exact ih (m - 1) (k + swStep m) (by omega) (by omega) (by omega) step p hp

/-- `switch_probes_in_bounds`: a table of n >= 1 entries whose size code i satisfies 2^i <= n (what the compiler
    stores: `swCode_ok`): every entry the search reads is inside the table, whatever the comparisons answer -/
theorem switch_probes_in_bounds (n : Int) (i : Nat) (hi : (2 : Int) ^ i ≤ n) (cmp : Int → Int) :
    ∀ p ∈ swSearch n i cmp, 0 ≤ p ∧ p < n := by
  have hpow : (0 : Int) < 2 ^ i := Int.pow_pos (by decide)
  have hstep : 2 * swStep i ≤ 2 ^ i := swStep_half (i + 1)
  -- every round lowers the step measure and the round with measure 0 is the last: `i + 1` rounds, `swSearch` allows `i + 2`
  exact swLoop_ok n cmp (i + 2) i (2 ^ i - 1) (by omega) (by omega) (by omega) (by omega)

/-- the compiler's size code: the loop of icode.c ends with 2^i <= table_size -/
theorem swCodeAux_ok (n : Nat) : ∀ (fuel p i : Nat), p = 2 ^ i → p ≤ n → 2 ^ (swCodeAux n fuel p i) ≤ n := by
  intro fuel
  induction fuel with
  | zero => intro p i hp hn; unfold swCodeAux; omega
  | succ f ih =>
    intro p i hp hn
    unfold swCodeAux
    by_cases h : 2 * p ≤ n
    · simp only [h, if_true]
      exact ih (2 * p) (i + 1) (by rw [hp, Nat.pow_succ]; omega) h
    · simp only [h, if_false]; omega

theorem swCode_ok (n : Nat) (h : 1 ≤ n) : 2 ^ (swCode n) ≤ n := by
  unfold swCode
  exact swCodeAux_ok n n 1 0 (by simp) h

/-- the two together: for every table with at least one entry, with the code the compiler stores -/
theorem switch_probes_in_bounds_compiled (n : Nat) (h : 1 ≤ n) (cmp : Int → Int) :
    ∀ p ∈ swSearch n (swCode n) cmp, 0 ≤ p ∧ p < (n : Int) := by
  apply switch_probes_in_bounds
  have := swCode_ok n h
  exact_mod_cast this

/-! ### bridging lemmas: the entry-unit model vs the byte arithmetic of f_switch (REGENERATED `swOffTab`, `swDInit`,
`switchCaseSize`, `swShape`) -/

/-- the updates of l / d and the tests of the search loop, in source order: s < r: [d<S] l -= d; d >>= 1 -
    s > r: [d<S] l += d; while (l >= end_tab) { d >>= 1; if (d < S) { d = 0; break; } l -= d; } if (l == end_tab) ..; d >>= 1 -/
theorem sw_shape : swShape = ["d<S", "l-=d", "d>>=1", "d<S", "l+=d", "l>=end", "d>>=1", "d<S", "d=0", "l-=d", "l==end", "d>>=1"] := by
  decide +kernel

/-- `off_tab[i]` = (2^i - 1) entries: the search starts at entry 2^i - 1 -/
theorem sw_offtab_pow : (List.range swOffTab.length).all (fun i => swOffTab.getD i 0 == 2 ^ i - 1) = true := by decide +kernel

/-- an entry has an even number of bytes (so that halving a step of 2^j entries is exact) -/
theorem sw_size_even : switchCaseSize % 2 = 0 ∧ 2 ≤ switchCaseSize := by decide +kernel

/-- the initial step `d = (off_tab[i] + SIZE) >> 1`, with "d < SIZE means 0", is `swStep i` entries -/
theorem sw_dinit_is_step : (List.range swOffTab.length).all (fun i =>
    let d := swDInit (swOffTab.getD i 0 * switchCaseSize)
    (if d < switchCaseSize then 0 else d) == swStep i * switchCaseSize) = true := by decide +kernel

/-- `d >>= 1` on a step of `swStep m` entries, with "d < SIZE means 0", is `swStep (m - 1)` entries -/
theorem sw_halving_is_pred : (List.range swOffTab.length).all (fun m =>
    let d := (swStep m * switchCaseSize) / 2
    (if d < switchCaseSize then 0 else d) == swStep (m - 1) * switchCaseSize) = true := by decide +kernel

/-- the size codes that reach the search (i < 14; 14 is the direct-lookup format, 15 is fatal) have a start entry -/
theorem sw_offtab_covers_codes : swOffTab.length = 14 := by decide +kernel

/-- non-vacuity: 5 entries (code 2: start at entry 3), key larger than everything: 3, then the fix-up lands on 4 -/
example : swSearch 5 (swCode 5) (fun _ => 1) = [3, 4] := by decide +kernel
example : swSearch 5 (swCode 5) (fun _ => -1) = [3, 1, 0] := by decide +kernel
example : swSearch 1 (swCode 1) (fun _ => 1) = [0] := by decide +kernel
example : swCode 5 = 2 ∧ swCode 8 = 3 ∧ swCode 1 = 0 := by decide +kernel

end NV.C01
