/-
C01 — index theorems: every access of `c[n]`, `c[<n]` (F_INDEX, F_RINDEX) lies inside the container, for every kind, size
and int64 operand; so does the store of `c[n] = v`, `c[<n] = v` once its index is computed (second half of
push_indexed_lvalue + F_VOID_ASSIGN: `lindexCore_ok`; the whole opcode, with the counted-from-the-end arithmetic in
front: `opLindex_ok` in PropsWrap).

PARTIAL property: the C01 theorems cover the bounds / bookkeeping LOGIC of the interpreter - index and range
arithmetic, error-buffer arithmetic, value-stack checks, dispatch-time type checks, format-argument inventory -
over the REGENERATED guards and tables of `NV.Gen.C01`.  Heap safety of efun bodies is observed by sanitizer runs only.
-/
import NV.C01.Guards

namespace NV.C01
open NV.Gen.C01

/-- an element inside the container is inside its allocation (strings: so is the NUL behind the last one) -/
theorem one_access_in_bounds (k : Kind) (size i : Int) (rw : Rw) (h0 : 0 ≤ i)
    (hi : if k = .str then i ≤ size else i < size) : (⟨.owner, i, 1, rw⟩ : Access).inBounds k size 0 := by
  refine ⟨(by decide : (0 : Int) ≤ 1), h0, ?_⟩
  cases k <;> simp only [allocOf, reduceCtorEq, if_true, if_false] at hi ⊢ <;> omega

/-- F_INDEX and F_RINDEX read one element: inside the allocation, and - the *logical* bound - at an offset below the
    size (strings: at most the size, the NUL may be read) -/
theorem rvalue_index_ok (k : Kind) (size n : Int) (out : Out) (hk : SizeOk k size)
    (h : opIndex k size n = .ok out ∨ opRindex k size n = .ok out) :
    ∀ a ∈ out.acc, a.inBounds k size 0 ∧ 0 ≤ a.off ∧ if k = .str then a.off ≤ size else a.off < size := by
  have ⟨i, e, h0, hi⟩ : ∃ i, out.acc = [rd .owner i 1] ∧ 0 ≤ i ∧ if k = .str then i ≤ size else i < size := by
    obtain ⟨h0, hk⟩ := hk
    cases k <;> rcases h with h | h
    · obtain ⟨g1, h⟩ := ok_of_guard h
      obtain ⟨g2, h⟩ := ok_of_guard h
      cases h
      exact ⟨_, rfl, g_index_arr n size h0 hk g1 g2⟩
    · obtain ⟨g1, h⟩ := ok_of_guard h
      obtain ⟨_, h⟩ := ok_of_guard h
      cases h
      obtain ⟨lo, hi, _⟩ := g_rindex_arr n size h0 hk g1
      exact ⟨_, rfl, lo, hi⟩
    · obtain ⟨g1, h⟩ := ok_of_guard h
      cases h
      exact ⟨_, rfl, g_index_str n size h0 hk g1⟩
    · obtain ⟨g1, h⟩ := ok_of_guard h
      cases h
      exact ⟨_, rfl, g_rindex_str n size h0 hk g1⟩
    · obtain ⟨g1, h⟩ := ok_of_guard h
      cases h
      exact ⟨_, rfl, g_index_buf n size h0 hk g1⟩
    · obtain ⟨g1, h⟩ := ok_of_guard h
      cases h
      exact ⟨_, rfl, g_rindex_buf n size h0 hk g1⟩
  rw [e]
  exact List.forall_mem_singleton.mpr ⟨one_access_in_bounds k size i .read h0 hi, h0, hi⟩

/-- F_INDEX: every access of `c[n]` lies inside the allocation of the container (strings: the NUL counts), for every
    size and every int64 operand. -/
theorem index_access_in_bounds (k : Kind) (size n : Int) (out : Out) (hk : SizeOk k size)
    (h : opIndex k size n = .ok out) : ∀ a ∈ out.acc, a.inBounds k size 0 :=
  fun a ha => (rvalue_index_ok k size n out hk (.inl h) a ha).1

theorem rindex_access_in_bounds (k : Kind) (size n : Int) (out : Out) (hk : SizeOk k size)
    (h : opRindex k size n = .ok out) : ∀ a ∈ out.acc, a.inBounds k size 0 :=
  fun a ha => (rvalue_index_ok k size n out hk (.inr h) a ha).1

theorem index_logical_bound_arr (size n : Int) (out : Out) (hk : SizeOk .arr size) :
    (opIndex .arr size n = .ok out ∨ opRindex .arr size n = .ok out) → ∀ a ∈ out.acc, 0 ≤ a.off ∧ a.off < size :=
  fun h a ha => (rvalue_index_ok .arr size n out hk h a ha).2

/-- since the buffer guards were repaired (`>=`), the logical bound holds for buffers too -/
theorem index_logical_bound_buf (size n : Int) (out : Out) (hk : SizeOk .buf size) :
    (opIndex .buf size n = .ok out ∨ opRindex .buf size n = .ok out) → ∀ a ∈ out.acc, 0 ≤ a.off ∧ a.off < size :=
  fun h a ha => (rvalue_index_ok .buf size n out hk h a ha).2

/-- strings: the rvalue index may equal the length (the terminating NUL is read, `s[strlen(s)] == 0`) -/
theorem index_logical_bound_str (size n : Int) (out : Out) (hk : SizeOk .str size) :
    (opIndex .str size n = .ok out ∨ opRindex .str size n = .ok out) → ∀ a ∈ out.acc, 0 ≤ a.off ∧ a.off ≤ size :=
  fun h a ha => (rvalue_index_ok .str size n out hk h a ha).2

/-- after its guard F_RINDEX on arrays never overflows `int` (the former undefined behaviour is gone) -/
theorem rindex_arr_no_ub (size n : Int) (hk : SizeOk .arr size) (s : String) : opRindex .arr size n ≠ .error (.ub s) := by
  unfold opRindex
  cases g : guard_rindex_arr n size
  · obtain ⟨_, _, (fits : inS32 (size - trunc32 n) = true)⟩ := g_rindex_arr n size hk.1 hk.2 g
    simp only [fits]; nofun
  · nofun

/-- second half of push_indexed_lvalue + the store: one element is written, strictly below the size -/
theorem lindexCore_ok (k : Kind) (onStack : Bool) (size ind v : Int) (out : Out) (hk : SizeOk k size)
    (h : lindexCore k onStack size ind v = .ok out) : out.acc = [wr .owner ind 1] ∧ 0 ≤ ind ∧ ind < size := by
  obtain ⟨h0, hk⟩ := hk
  cases k
  · obtain ⟨g, h⟩ := ok_of_guard h
    cases h
    cases onStack
    · exact ⟨rfl, g_lindex_arr ind size h0 hk g⟩
    · exact ⟨rfl, g_sindex_arr ind size h0 hk g⟩
  · obtain ⟨g, h⟩ := ok_of_guard h
    obtain ⟨_, h⟩ := ok_of_guard h
    cases h
    exact ⟨rfl, g_lindex_str ind size h0 (Int.le_trans hk (by decide)) g⟩
  · obtain ⟨g, h⟩ := ok_of_guard h
    obtain ⟨_, h⟩ := ok_of_guard h
    cases h
    cases onStack
    · exact ⟨rfl, g_lindex_buf ind size h0 g⟩
    · exact ⟨rfl, g_sindex_buf ind size h0 g⟩

end NV.C01
