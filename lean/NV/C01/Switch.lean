/-
C01 model, part 8: the table search of F_SWITCH (lib/lpc/operator.c f_switch, sorted tables of string / integer
labels; the direct-lookup format `i == 14` is guarded by an explicit range test and not part of this model).

Units: table ENTRIES (one entry = SWITCH_CASE_SIZE bytes: key pointer + 2-byte address).  The C code keeps
  l = table + k * SIZE          (current entry k)
  d = e * SIZE                  (step: e is a power of two, or 0 = "d < SWITCH_CASE_SIZE": last probe)
and starts with k = 2^i - 1 (`off_tab[i]`), d = (off_tab[i] + SIZE) >> 1, i.e. e = 2^(i-1) (0 for i = 0), where `i` is
the table-size code the COMPILER stored (icode.c: the largest i with 2^i <= table_size).

The step is represented by its measure m:  e = 0 for m = 0,  e = 2^(m-1) otherwise;  `d >>= 1` is m - 1.
Comparison results are DATA: an arbitrary oracle `cmp : entry → Int` (negative: s < r, positive: s > r, 0: equal).
-/
namespace NV.C01

/-- the step in entries for measure m -/
def swStep (m : Nat) : Int := if m = 0 then 0 else 2 ^ (m - 1)

/-- `while (l >= end_tab) { d >>= 1; if (d < SIZE) { d = 0; break; } l -= d; }` entered with k >= n and step measure m.
    Returns (k, m) at loop exit (m = 0: the `break`). -/
def swFixup (n : Int) : Nat → Int → Int × Nat
  | 0, k => (k, 0)
  | m + 1, k =>
    -- d >>= 1
    if m = 0 then (k, 0)                       -- d < SWITCH_CASE_SIZE: d = 0; break
    else
      let k' := k - swStep m
      if k' ≥ n then swFixup n m k' else (k', m)

/-- what one run of the `for (;;)` loop reads: the probed entries, in order -/
def swLoop (n : Int) (cmp : Int → Int) : Nat → Nat → Int → List Int
  | 0, _, _ => []
  | fuel + 1, m, k =>
    let d := cmp k
    if d = 0 then [k]                                          -- found
    else if d < 0 then
      if m = 0 then [k]                                        -- range test on the neighbour / default
      else k :: swLoop n cmp fuel (m - 1) (k - swStep m)       -- l -= d; d >>= 1
    else
      if m = 0 then [k]
      else
        let k1 := k + swStep m                                 -- l += d
        let (k2, m2) := if k1 ≥ n then swFixup n m k1 else (k1, m)
        if k2 = n then [k]                                     -- l == end_tab: default
        else k :: swLoop n cmp fuel (m2 - 1) k2                -- d >>= 1

/-- icode.c: `while ((power_of_two << 1) <= table_size) { power_of_two <<= 1; i++; }` -/
def swCodeAux (n : Nat) : Nat → Nat → Nat → Nat
  | 0, _, i => i
  | fuel + 1, p, i => if 2 * p ≤ n then swCodeAux n fuel (2 * p) (i + 1) else i

def swCode (n : Nat) : Nat := swCodeAux n n 1 0

/-- all probes of f_switch in a table of n entries with size code i: start at entry 2^i - 1, step measure i -/
def swSearch (n : Int) (i : Nat) (cmp : Int → Int) : List Int :=
  swLoop n cmp (i + 2) i (2 ^ i - 1)

end NV.C01
