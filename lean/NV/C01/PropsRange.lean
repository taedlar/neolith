/-
C01 — range theorems: the result of `c[n1..n2]` (f_range), `c[n1..]` (f_extract_range) and slice_array is a slice of
the source, and every access lies inside its allocation.

Every non-empty outcome has one shape - `l` elements from offset `s` are read and a fresh container of `l` elements is
filled (`copy_slice_ok`) - so each opcode case is: name the clamped operands of the C code, say what the clamps
guarantee, and check the shape's side conditions in each branch of the remaining `if`s.
-/
import NV.C01.PropsIndex

namespace NV.C01
open NV.Gen.C01

/-- the result of a range rvalue is a slice of the source: never negative, never beyond the source -/
def SliceOk (size : Int) : Res → Prop
  | .slice s l => 0 ≤ l ∧ 0 ≤ s ∧ s + l ≤ size
  | _ => False

theorem empty_slice_ok (k : Kind) (size : Int) (h0 : 0 ≤ size) :
    SliceOk size (.slice 0 0) ∧ ∀ a ∈ ([] : List Access), a.inBounds k size 0 :=
  ⟨⟨Int.le_refl 0, Int.le_refl 0, by omega⟩, nofun⟩

/-- `l` elements from offset `s` of the source are copied into a fresh container of `l` elements; `w`, `w'` are the
    widths read and written (strings: the NUL travels along), `pad` what the allocation of kind `k` holds beyond
    its elements -/
theorem copy_slice_ok (k : Kind) (pad size s l w w' : Int) (hp : ∀ n, allocOf k n = n + pad) (hl : 0 ≤ l) (hs : 0 ≤ s)
    (hsl : s + l ≤ size) (hw : 0 ≤ w) (hr : s + w ≤ size + pad) (hw' : 0 ≤ w') (hf : w' ≤ l + pad) :
    SliceOk size (.slice s l) ∧ ∀ a ∈ [rd .owner s w, wr (.fresh l) 0 w'], a.inBounds k size 0 := by
  refine ⟨⟨hl, hs, hsl⟩, fun a ha => ?_⟩
  simp only [List.mem_cons, List.not_mem_nil, or_false] at ha
  rcases ha with rfl | rfl
  · exact And.intro hw (And.intro hs (hp size ▸ hr))
  · exact And.intro hw' (And.intro (Int.le_refl 0) (And.intro hl (by show 0 + w' ≤ _; rw [hp]; omega)))

/-- slice_array: the slice is inside the source for every `int` pair -/
theorem sliceArray_ok (size f t : Int) (h0 : 0 ≤ size) (hk : size ≤ 65535) :
    SliceOk size (sliceArray size f t).res ∧ ∀ a ∈ (sliceArray size f t).acc, a.inBounds .arr size 0 := by
  have g := g_slice size f t h0 hk
  unfold sliceArray
  extract_lets at g ⊢
  split
  · exact empty_slice_ok .arr size h0
  · rename_i c
    have := g (eq_false_of_ne_true c)
    apply copy_slice_ok .arr 0 (hp := fun n => (Int.add_zero n).symm) <;> omega

/-- the `(int)` narrowing in front of slice_array is exact after the 64-bit clamps of f_range -/
theorem range_arr_narrowing_exact (size from1 to1 : Int) (h0 : 0 ≤ size) (hk : size ≤ 65535) :
    let from2 := if guard_range_arr_from_neg from1 then 0 else from1
    let to2 := if guard_range_arr_to_hi to1 size then size - 1 else to1
    let to3 := if guard_range_arr_to_lo to2 then -1 else to2
    let from3 := if guard_range_arr_from_hi from2 size then size else from2
    trunc32 from3 = from3 ∧ trunc32 to3 = to3 := by
  have g := g_range_arr_clamps size from1 to1 h0 hk
  extract_lets at g ⊢
  exact ⟨trunc32_id _ (by omega) (by omega), trunc32_id _ (by omega) (by omega)⟩

/-- `if (from < 0) { if ((from += len) < 0) from = 0; }` (f_range on buffers, f_extract_range) on the first operand,
    counted from the end (through range_from_end, which returns an int64 value) or not: not negative afterwards.
    The three sites regenerate to this under names of their own (`rev_range_buf_from`, `rev_erange_str_from`,
    `rev_erange_buf_from` and their guards) and meet it by unfolding. -/
theorem from_end_clamp_nonneg (r : Bool) (len n : Int) (h0 : 0 ≤ len) (hl : len ≤ 2147483647) (hn : InI64 n) :
    let x := if r then rangeFromEnd (trunc64 len) n else n
    0 ≤ if decide (x < trunc64 0) = true then (if decide (trunc64 (x + len) < trunc64 0) = true then 0 else x + len)
      else x := by
  intro x
  have hx : InI64 x := by
    simp only [x]; split
    · exact rangeFromEnd_inI64 _ _
    · exact hn
  unfold InI64 at hx
  simp only [decide_eq_true_eq]
  unfold trunc64; omega

-- `hn2` is not needed: the second operand is only ever compared and clamped (nor `hn1` except for buffers)
set_option linter.unusedVariables false in
/-- `range_result_len`: for every kind, size and int64 operands, `c[n1..n2]` (all four forms) yields a slice of the
    source - length never negative, never beyond the source - and every access is inside its allocation -/
theorem range_result_len (lim : Limits) (k : Kind) (r1 r2 : Bool) (size n1 n2 : Int) (out : Out) (hk : SizeOk k size)
    (hn1 : InI64 n1) (hn2 : InI64 n2) (h : opRange lim k r1 r2 size n1 n2 = .ok out) :
    SliceOk size out.res ∧ ∀ a ∈ out.acc, a.inBounds k size 0 := by
  obtain ⟨h0, hk⟩ := hk
  cases k <;> unfold opRange at h <;> simp -zeta only at h hk
  -- arrays: whatever the 64-bit clamps leave, slice_array clamps again
  · cases h
    exact sliceArray_ok size _ _ h0 hk
  -- strings
  · extract_lets len to1 to2 from1 from2 from3 at h
    have hf : 0 ≤ from3 := by
      simp only [from3, guard_range_str_from_clamp, decide_eq_true_eq]
      unfold trunc64; omega
    clear_value from3 to2
    split at h
    · cases h; exact empty_slice_ok .str len h0
    · rename_i c1
      simp only [guard_range_str_empty, Bool.or_eq_true, decide_eq_true_eq] at c1
      split at h <;> rename_i c2 <;> simp only [guard_range_str_tail, decide_eq_true_eq] at c2 <;> unfold trunc64 at c2 <;>
        cases h
      -- `to >= len - 1`: string_copy of the tail, NUL included
      · apply copy_slice_ok .str 1 (hp := fun _ => rfl) <;> omega
      -- otherwise strncpy of the middle and a NUL behind it
      · apply copy_slice_ok .str 1 (hp := fun _ => rfl) <;> omega
  -- buffers
  · extract_lets len to1 to2 from1 from2 to3 at h
    have hf : 0 ≤ from2 := from_end_clamp_nonneg r1 len n1 h0 hk hn1
    have ht : to3 = if to2 ≥ len then len - 1 else to2 := by
      simp only [to3, guard_range_buf_to_hi, decide_eq_true_eq]
    clear_value from2 to2 to3
    split at h
    · cases h; exact empty_slice_ok .buf len h0
    · rename_i c1
      simp only [guard_range_buf_empty, Bool.or_eq_true, decide_eq_true_eq] at c1
      obtain ⟨_, h⟩ := ok_of_guard h
      cases h
      -- holds whatever the tail padding of `buffer_t` is: the copy stays inside the elements
      apply copy_slice_ok .buf bufTailPad (hp := fun _ => rfl) <;> omega

/-- f_extract_range: `c[n1..]`, `c[<n1..]` -/
theorem erange_result_len (lim : Limits) (k : Kind) (r1 : Bool) (size n1 : Int) (out : Out) (hk : SizeOk k size)
    (hn1 : InI64 n1) (h : opErange lim k r1 size n1 = .ok out) :
    SliceOk size out.res ∧ ∀ a ∈ out.acc, a.inBounds k size 0 := by
  obtain ⟨h0, hk⟩ := hk
  cases k <;> unfold opErange at h <;> simp -zeta only at h hk
  · cases h
    exact sliceArray_ok size _ _ h0 hk
  -- strings
  · extract_lets len from1 from2 at h
    have hf : 0 ≤ from2 := from_end_clamp_nonneg r1 len n1 h0 hk hn1
    clear_value from2
    split at h
    · cases h; exact empty_slice_ok .str len h0
    · rename_i c
      simp only [guard_erange_str_empty, decide_eq_true_eq] at c
      cases h
      apply copy_slice_ok .str 1 (hp := fun _ => rfl) <;> omega
  -- buffers
  · extract_lets len from1 from2 from3 at h
    have hf : 0 ≤ from2 := from_end_clamp_nonneg r1 len n1 h0 hk hn1
    have ht : 0 ≤ from3 ∧ from3 ≤ len := by
      simp only [from3, guard_erange_buf_from_hi, decide_eq_true_eq]
      omega
    clear_value from2 from3
    obtain ⟨_, h⟩ := ok_of_guard h
    cases h
    apply copy_slice_ok .buf bufTailPad (hp := fun _ => rfl) <;> omega

end NV.C01
