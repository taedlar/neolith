/-
C01: soundness of the REGENERATED guards (`NV.Gen.C01.guard_*`) that bound an index, a height or a size by themselves:
index, lvalue-index, class-member and range-lvalue guards, slice_array and the array clamps in front of it, and behind
them the value-stack room tests and the allocation size checks.  (The string / buffer clamps of f_range /
f_extract_range and the guards of error(), explode, add_array, implode are unfolded in the theorems that use them.)
Each lemma has the form  "the guard did not fire  →  the index the C code uses next is inside the container" (stack and
allocation guards: the height / size stays below the limit).
They are closed by `omega` after unfolding the generated definition, so a source change that weakens a guard
(`>=` → `>`, a lost `< 0` disjunct, a changed cast) regenerates a definition for which the proof no longer closes.

Type-range hypotheses are those of the C operands: `unsigned short` array sizes, `unsigned int` buffer sizes,
`size_t` string lengths, `int` / `int64_t` indices.

A guard that did not fire is first turned into propositions (`not_or_of_guard`, `of_decide_eq_false`), the conversions
`trunc*` are unfolded after that.  The same order where `simp` rewrites `decide`: in one call with the unfolding the
`Decidable` instance inside `decide` keeps the folded form, and the rewrite to a proposition silently does not fire.

In front of the guard lemmas: how all C01 proofs read the `if` chains of the models, and the two hypotheses the
theorems about opcodes share (`InI64` for an operand, `SizeOk` for a container size).
-/
import NV.C01.IndexOps

namespace NV.C01
open NV.Gen.C01

/-! ### reading `if` chains: the model's opcode cases and the regenerated C functions are nests of `if`s -/

theorem of_ite_eq {α : Type} {c : Prop} [Decidable c] {a b x : α} (h : (if c then a else b) = x) :
    (c ∧ a = x) ∨ (¬c ∧ b = x) := by
  split at h
  · exact .inl ⟨‹c›, h⟩
  · exact .inr ⟨‹¬c›, h⟩

/-- every opcode case is a chain of `if guard then error else ...`: a successful outcome passed each guard -/
theorem ok_of_guard {α : Type} {g : Bool} {e : Err} {r : Except Err α} {out : α}
    (h : (if g then .error e else r) = .ok out) : g = false ∧ r = .ok out := by
  cases g
  · exact ⟨rfl, h⟩
  · cases h

/-- ... and an outcome that no branch has is not the outcome of the chain -/
theorem ite_ne {α : Type} {c : Prop} [Decidable c] {a b e : α} (ha : a ≠ e) (hb : b ≠ e) :
    (if c then a else b) ≠ e := by
  split <;> assumption

/-- a regenerated guard `p || q` that did not fire: neither test held (a guard with one test: `of_decide_eq_false`) -/
theorem not_or_of_guard {p q : Prop} [Decidable p] [Decidable q] (h : (decide p || decide q) = false) : ¬p ∧ ¬q := by
  simpa only [Bool.or_eq_false_iff, decide_eq_false_iff_not] using h

theorem trunc32_range (x : Int) : -2147483648 ≤ trunc32 x ∧ trunc32 x ≤ 2147483647 := by
  unfold trunc32; omega

theorem trunc32_id (x : Int) (h1 : -2147483648 ≤ x) (h2 : x ≤ 2147483647) : trunc32 x = x := by
  unfold trunc32; omega

theorem trunc64_id (x : Int) (h1 : -9223372036854775808 ≤ x) (h2 : x ≤ 9223372036854775807) : trunc64 x = x := by
  unfold trunc64; omega

theorem truncU64_id (x : Int) (h1 : 0 ≤ x) (h2 : x < 18446744073709551616) : truncU64 x = x :=
  Int.emod_eq_of_lt h1 h2

/-- the range of the C type `int64_t` (an LPC integer operand) -/
def InI64 (x : Int) : Prop := -9223372036854775808 ≤ x ∧ x ≤ 9223372036854775807

/-- C type ranges of the size operand: `unsigned short` array size, `size_t` string length (a string longer than
    2^31-1 cannot be built: MaxStringLength is an int), `unsigned int` buffer size -/
def SizeOk (k : Kind) (size : Int) : Prop :=
  0 ≤ size ∧ match k with
  | .arr => size ≤ 65535
  | .str => size ≤ 2147483647
  | .buf => size ≤ 2147483647

theorem trunc64_inI64 (x : Int) : InI64 (trunc64 x) := by
  unfold InI64 trunc64; omega

/-- the helper range_from_end (REGENERATED `rangeFromEnd`) always returns an int64 value -/
theorem rangeFromEnd_inI64 (len i : Int) : InI64 (rangeFromEnd len i) := by
  unfold rangeFromEnd
  split <;> exact trunc64_inI64 _

/-- `(int)len` of a non-negative length never exceeds the length -/
theorem trunc32_le_of_nonneg (x : Int) (h : 0 ≤ x) : trunc32 x ≤ x := by
  unfold trunc32; omega

theorem inS32_iff (x : Int) : inS32 x = true ↔ (-2147483648 ≤ x ∧ x ≤ 2147483647) := by
  simp only [inS32, Bool.and_eq_true, decide_eq_true_eq]

theorem inS64_iff (x : Int) : inS64 x = true ↔ (-9223372036854775808 ≤ x ∧ x ≤ 9223372036854775807) := by
  simp only [inS64, Bool.and_eq_true, decide_eq_true_eq]

/-! ### F_INDEX / F_RINDEX

The guards test the 64-bit operand `n`; the element accessed is `(int)n` (F_INDEX) or `size - (int)n` (F_RINDEX).
Each lemma concludes about the index that the C code uses. -/

theorem g_index_arr (n size : Int) (hs : 0 ≤ size) (hs2 : size ≤ 65535)
    (h1 : guard_index_arr_neg n = false) (h2 : guard_index_arr n size = false) :
    0 ≤ idx_index_arr n ∧ idx_index_arr n < size := by
  have h1 := of_decide_eq_false h1
  have h2 := of_decide_eq_false h2
  unfold trunc64 at h1 h2
  unfold idx_index_arr trunc32; omega

theorem g_rindex_arr (n size : Int) (hs : 0 ≤ size) (hs2 : size ≤ 65535)
    (h : guard_rindex_arr n size = false) :
    0 ≤ idx_rindex_arr size n ∧ idx_rindex_arr size n < size ∧ inS32 (size - trunc32 n) = true := by
  have h := not_or_of_guard h
  rw [trunc64_id 0 (by decide) (by decide), trunc64_id size (by omega) (by omega)] at h
  -- 0 < n <= size <= 65535: every conversion is exact
  rw [inS32_iff, idx_rindex_arr, trunc32_id n (by omega) (by omega), trunc32_id size (by omega) (by omega),
    trunc32_id (size - n) (by omega) (by omega)]
  omega

/-- strings: the index may equal the length (the NUL is read) -/
theorem g_index_str (n slen : Int) (hs : 0 ≤ slen) (hs2 : slen ≤ 2147483647)
    (h : guard_index_str n slen = false) : 0 ≤ idx_index_str n ∧ idx_index_str n ≤ slen := by
  have h := not_or_of_guard h
  unfold trunc64 at h
  unfold idx_index_str trunc32; omega

theorem g_rindex_str (n slen : Int) (hs : 0 ≤ slen) (hs2 : slen ≤ 2147483647)
    (h : guard_rindex_str n slen = false) :
    0 ≤ idx_rindex_str slen n ∧ idx_rindex_str slen n ≤ slen := by
  have h := not_or_of_guard h
  unfold trunc64 at h
  unfold idx_rindex_str trunc32 truncU64; omega

/-- buffers: the index is strictly below the size (the `>` that accepted i = size is repaired) -/
theorem g_index_buf (n size : Int) (hs : 0 ≤ size) (hs2 : size ≤ 2147483647)
    (h : guard_index_buf n size = false) : 0 ≤ idx_index_buf n ∧ idx_index_buf n < size := by
  have h := not_or_of_guard h
  unfold trunc64 at h
  unfold idx_index_buf trunc32; omega

theorem g_rindex_buf (n size : Int) (hs : 0 ≤ size) (hs2 : size ≤ 2147483647)
    (h : guard_rindex_buf n size = false) :
    0 ≤ idx_rindex_buf size n ∧ idx_rindex_buf size n < size := by
  have h := not_or_of_guard h
  unfold trunc64 at h
  unfold idx_rindex_buf trunc32 truncU32; omega

/-! ### push_indexed_lvalue -/

theorem g_lindex_str (ind len : Int) (hs : 0 ≤ len) (hs2 : len ≤ 9223372036854775807)
    (h : guard_lindex_str ind len = false) : 0 ≤ ind ∧ ind < len := by
  have h := not_or_of_guard h
  unfold trunc64 at h; omega

theorem g_lindex_buf (ind size : Int) (hs : 0 ≤ size)
    (h : guard_lindex_buf ind size = false) : 0 ≤ ind ∧ ind < size := by
  have h := not_or_of_guard h
  unfold trunc64 trunc32 at h; omega

theorem g_sindex_buf (ind size : Int) (hs : 0 ≤ size)
    (h : guard_sindex_buf ind size = false) : 0 ≤ ind ∧ ind < size :=
  -- the same C test at another site regenerates to the same body: `h` read as a fact about that guard (here and below)
  g_lindex_buf ind size hs (show guard_lindex_buf ind size = false from h)

theorem g_lindex_arr (ind size : Int) (hs : 0 ≤ size) (hs2 : size ≤ 65535)
    (h : guard_lindex_arr ind size = false) : 0 ≤ ind ∧ ind < size := by
  have h := not_or_of_guard h
  unfold trunc64 at h; omega

theorem g_sindex_arr (ind size : Int) (hs : 0 ≤ size) (hs2 : size ≤ 65535)
    (h : guard_sindex_arr ind size = false) : 0 ≤ ind ∧ ind < size :=
  g_lindex_arr ind size hs hs2 (show guard_lindex_arr ind size = false from h)

/-! ### push_lvalue_range -/

/-- the 64-bit pre-check keeps the operand where `(int)n`, `size - (int)n` and `++ind2` are exact -/
theorem g_lrange_ind2_pre (n size : Int) (hs : 0 ≤ size) (hs2 : size ≤ 2147483646)
    (h : guard_lrange_ind2_pre n size = false) : -1 ≤ n ∧ n ≤ size + 1 := by
  have h := not_or_of_guard h
  unfold trunc64 trunc32 at h; omega

theorem g_lrange_ind1_pre (n size : Int) (hs : 0 ≤ size) (hs2 : size ≤ 2147483647)
    (h : guard_lrange_ind1_pre n size = false) : 0 ≤ n ∧ n ≤ size := by
  have h := not_or_of_guard h
  unfold trunc64 at h; omega

theorem g_lrange_ind2 (i2 size : Int) (h0 : -2147483648 ≤ i2 + 1) (h1 : i2 + 1 ≤ 2147483647)
    (h : guard_lrange_ind2 i2 size = false) : 0 ≤ i2 + 1 ∧ i2 + 1 ≤ size := by
  have h := not_or_of_guard h
  rw [trunc32_id (i2 + 1) h0 h1] at h; omega

theorem g_lrange_ind1 (ind1 size : Int)
    (h : guard_lrange_ind1 ind1 size = false) : 0 ≤ ind1 ∧ ind1 ≤ size := by
  have h := not_or_of_guard h; omega

/-! ### F_MEMBER / F_MEMBER_LVALUE (eval_instruction): the member number, an unsigned byte of the bytecode, against the
size of the class instance -/

theorem g_member (i size : Int) (hi : 0 ≤ i) (hs : 0 ≤ size) (hs2 : size ≤ 65535)
    (h : guard_member i size = false) : i < size := by
  have h := of_decide_eq_false h
  unfold trunc32 at h; omega

theorem g_member_lv (i size : Int) (hi : 0 ≤ i) (hs : 0 ≤ size) (hs2 : size ≤ 65535)
    (h : guard_member_lv i size = false) : i < size :=
  g_member i size hi hs hs2 (show guard_member i size = false from h)

/-! ### slice_array, and the clamps of f_range / f_extract_range in front of it

The conditions become arithmetic once the guards are unfolded; `omega` splits the `if`s. -/

theorem g_slice (size from0 to0 : Int) (hs : 0 ≤ size) (hs2 : size ≤ 65535) :
    let fromC := if guard_slice_from_neg from0 then 0 else from0
    let toC := if guard_slice_to_hi to0 size then size - 1 else to0
    guard_slice_empty fromC toC = false → 0 ≤ fromC ∧ fromC ≤ toC ∧ toC < size := by
  simp only [guard_slice_from_neg, guard_slice_to_hi, guard_slice_empty, decide_eq_true_eq, decide_eq_false_iff_not]
  unfold trunc32; omega

/-- the 64-bit clamps of f_range in front of slice_array leave values that survive `(int)` unchanged -/
theorem g_range_arr_clamps (size from1 to1 : Int) (hs : 0 ≤ size) (hs2 : size ≤ 65535) :
    let from2 := if guard_range_arr_from_neg from1 then 0 else from1
    let to2 := if guard_range_arr_to_hi to1 size then size - 1 else to1
    let to3 := if guard_range_arr_to_lo to2 then -1 else to2
    let from3 := if guard_range_arr_from_hi from2 size then size else from2
    0 ≤ from3 ∧ from3 ≤ size ∧ -1 ≤ to3 ∧ to3 < size := by
  simp only [guard_range_arr_from_neg, guard_range_arr_to_hi, guard_range_arr_to_lo, guard_range_arr_from_hi,
    decide_eq_true_eq]
  unfold trunc64 trunc32; omega

theorem g_erange_arr_clamps (size from1 : Int) (hs : 0 ≤ size) (hs2 : size ≤ 65535) :
    let from2 := if guard_erange_arr_from_neg from1 then 0 else from1
    let from3 := if guard_erange_arr_from_hi from2 size then size else from2
    0 ≤ from3 ∧ from3 ≤ size := by
  simp only [guard_erange_arr_from_neg, guard_erange_arr_from_hi, decide_eq_true_eq]
  unfold trunc64; omega

/-! ### room on the value stack (five sites, one C test) and the size checks in front of an allocation -/

theorem g_stack_check (sp num size : Int)
    (h : guard_stack_push_undefineds sp num (endOfStack 0 size) = false) : sp + num < size - 5 := by
  have h := of_decide_eq_false h
  unfold endOfStack at h; omega

theorem g_stack_check_some (sp num size : Int)
    (h : guard_stack_push_some_svalues sp num (endOfStack 0 size) = false) : sp + num < size - 5 :=
  g_stack_check sp num size (show guard_stack_push_undefineds sp num (endOfStack 0 size) = false from h)

/-- merge_arg_lists (bound arguments of a function pointer): after the test, `sp += num_arr_arg` stays below the
    slack (repaired: was an unchecked push of a run-time count) -/
theorem g_stack_check_merge (sp num size : Int)
    (h : guard_stack_merge_arg_lists sp num (endOfStack 0 size) = false) : sp + num < size - 5 :=
  g_stack_check sp num size (show guard_stack_push_undefineds sp num (endOfStack 0 size) = false from h)

theorem g_stack_check_transfer (sp num size : Int)
    (h : guard_stack_transfer_push sp num (endOfStack 0 size) = false) : sp + num < size - 5 :=
  g_stack_check sp num size (show guard_stack_push_undefineds sp num (endOfStack 0 size) = false from h)

theorem g_stack_push_number (sp size : Int)
    (h : guard_stack_push_number sp (endOfStack 0 size) = false) : sp + 1 < size - 5 :=
  g_stack_check sp 1 size (show guard_stack_push_undefineds sp 1 (endOfStack 0 size) = false from h)

theorem g_alloc_array (n cfg : Int) (hc : 0 ≤ cfg) (hc2 : cfg ≤ 2147483647)
    (h : guard_alloc_empty_array n cfg = false) : n ≤ cfg := by
  have h := of_decide_eq_false h
  unfold truncU64 at h; omega

theorem g_alloc_array_n (n cfg : Int) (hc : 0 ≤ cfg) (hc2 : cfg ≤ 2147483647)
    (h : guard_alloc_array n cfg = false) : n ≤ cfg :=
  g_alloc_array n cfg hc hc2 (show guard_alloc_empty_array n cfg = false from h)

theorem g_alloc_buffer (n cfg : Int) (hc : 0 ≤ cfg) (hc2 : cfg ≤ 2147483647)
    (h : guard_alloc_buffer n cfg = false) : n ≤ cfg :=
  g_alloc_array n cfg hc hc2 (show guard_alloc_empty_array n cfg = false from h)

end NV.C01
