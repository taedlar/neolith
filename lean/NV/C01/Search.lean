/-
C01 model, part 7: the data-dependent indices of the array builders (lib/lpc/array.c).

* subtract_array(): binary search of every minuend element in the sorted subtrahend table `svt[0 .. size)`.  The
  comparison results are DATA: the model takes them from an arbitrary oracle `cmp : probe index → d` and lists the probed
  indices.  Every arithmetic step is the REGENERATED `bs*` definition.
* alist_sort() / intersect_array(): heap indices - parent of a sift-up step, children of a sift-down step - are the
  REGENERATED `heapParent / heapChild1 / heapChild2`; a child is only used behind `child < size`.
* intersect_array(): the merge pointer `i` into the sorted first operand advances behind `++i >= a1s`.
-/
import NV.Gen.C01

namespace NV.C01
open NV.Gen.C01

/-- the `while ((d = alist_cmp (source, svt + o)))` loop: probes `o`; d = 0 ends it (found), otherwise the bounds move
    and `l > h` ends it (not found).  `fuel` bounds the recursion; `subtract_array_probes_in_bounds` shows size + 1 suffices. -/
def bsLoop (cmp : Int → Int) : Nat → Int → Int → Int → List Int × Bool
  | 0, _, _, _ => ([], false)                        -- out of fuel (never happens: theorem)
  | fuel + 1, l, h, o =>
    let d := cmp o
    if d = 0 then ([o], true)
    else
      let h' := if d < 0 then bsHNext o else h
      let l' := if d < 0 then l else bsLNext o
      if bsDone l' h' then ([o], true)
      else
        let r := bsLoop cmp fuel l' h' (bsMid l' h')
        (o :: r.1, r.2)

/-- all probes of one search in a table of `size` elements; second component: the loop ended by itself -/
def bsearch (size : Int) (cmp : Int → Int) : List Int × Bool :=
  bsLoop cmp (size.toNat + 1) bsLInit (bsHInit size) (bsOInit (bsHInit size))

/-- sift-up from `curix` (> 0): the parents visited (`do { parix = ..; ... } while ((curix = parix))`) -/
def siftUpPath : Nat → Int → List Int
  | 0, _ => []
  | fuel + 1, curix =>
    let p := heapParent curix
    if p = 0 then [p] else p :: siftUpPath fuel p

/-- one sift-down step at `curix` in a table of `size`: the indices of sv_tab[] that are read (child2 and child1 only
    behind their `< size` guard; `sel` says which child wins when both are usable) -/
def siftDownReads (size curix : Int) (sel : Bool) : List Int × Option Int :=
  let c1 := heapChild1 curix
  let c2 := heapChild2 c1
  let r2 := if c2 < size then [c2, c1] else []          -- sv_tab[child2].type, sv_tab[child1].type / alist_cmp
  let c := if c2 < size ∧ sel then c2 else c1
  if c < size then (r2 ++ [c], some c) else (r2, none)

/-- intersect_array: the merge pointer after a `> 0` comparison: `if (++i >= a1s) goto settle_business` -/
def isectAdvance (i a1s : Int) : Option Int :=
  if isectExhausted i a1s then none else some (i + 1)

end NV.C01
