/-
C01 specification oracle.  It knows nothing about the implementation's data structures: it reads the canonical
trace of one case (what each command left behind) and reports every event that the property forbids:

  * a sanitizer report (out-of-bounds read/write, use after free, NULL dereference, stack/heap overflow),
  * the process dying (signal, non-zero exit, timeout),
  * C undefined behaviour observed by UBSan (signed overflow in index arithmetic),
  * a command that produced neither a value nor an LPC error,
  * a generated self-checking program reporting a mismatch (re-entrant callbacks; values held across an efun error).

Every command of a case leaves exactly one result line (`r ...` or `fz ...`), so the command that was executing when
a forbidden event happened is identified by counting result lines.
-/
namespace NV.C01

inductive Ev
  | result (text : String)          -- a command finished: value summary or `!err` (LPC error)
  | lpcError (msg : String)         -- the master's error handler saw this message
  | info (text : String)
  | ub (what : String)              -- UBSan: undefined behaviour
  | sanitizer (what : String)       -- ASan / UBSan report of a memory-safety violation
  | crash (what : String)           -- the driver process died
  | malformed (line : String)
  | reent (tests bad : Nat) (first : String)   -- re-entrant callback program: results compared with LPC references
  | holder (tests bad : Nat) (first : String)  -- error-path program: a value still held by a second holder after an
                                               -- efun raised an error is compared with an independently built copy
  deriving Repr, DecidableEq

structure Violation where
  kind : String
  what : String
  cmd : String
  deriving Repr, DecidableEq

def isResult : Ev → Bool
  | .result _ => true
  | _ => false

/-- the command kinds that leave a result line -/
def producesResult (cmd : String) : Bool :=
  cmd.startsWith "idx " || cmd.startsWith "errlen " || cmd.startsWith "badarg " || cmd.startsWith "run " ||
  cmd.startsWith "stackprog " || cmd.startsWith "expl "

/-- short description of a command for verdict lines: its first three words (the whole line for `stackprog`) -/
def cmdTag (cmd : String) : String :=
  let ws := (cmd.splitOn " ").filter (· ≠ "")
  " ".intercalate (if cmd.startsWith "stackprog " then ws else ws.take 3)

def cmdAt (cmds : List String) (k : Nat) : String :=
  match (cmds.filter producesResult)[k]? with
  | some c => cmdTag c
  | none => "?"

/-- walk the events, counting finished commands -/
def judgeEv (cmds : List String) : Nat → List Ev → List Violation
  | _, [] => []
  | k, .result t :: rest =>
    (if t = "r !noops" || t = "r !nofn" || t = "r !build" then [⟨"no-outcome", t, cmdAt cmds k⟩] else []) ++ judgeEv cmds (k + 1) rest
  | k, .ub w :: rest => ⟨"ub-signed-overflow", w, cmdAt cmds k⟩ :: judgeEv cmds k rest
  | k, .sanitizer w :: rest => ⟨"sanitizer", w, cmdAt cmds k⟩ :: judgeEv cmds k rest
  | k, .crash w :: rest => ⟨"crash", w, cmdAt cmds k⟩ :: judgeEv cmds k rest
  | k, .malformed l :: rest => ⟨"malformed-trace", l, cmdAt cmds k⟩ :: judgeEv cmds k rest
  | k, .reent t b f :: rest =>
    (if b > 0 then [⟨"reentrant-callback-mismatch", s!"bad={b}/{t} first={f}", cmdAt cmds k⟩] else []) ++ judgeEv cmds k rest
  | k, .holder t b f :: rest =>
    (if b > 0 then [⟨"holder-corrupted-after-efun-error", s!"bad={b}/{t} first={f}", cmdAt cmds k⟩] else []) ++ judgeEv cmds k rest
  | k, _ :: rest => judgeEv cmds k rest

def Violation.render (v : Violation) : String :=
  s!"{v.kind} {v.what} cmd={v.cmd}"

/-- an event the property does not forbid (`judgeEv_nil_iff_clean` in SpecProps: no violation is reported exactly when
    every event of the trace is clean) -/
def clean : Ev → Bool
  | .ub _ | .sanitizer _ | .crash _ | .malformed _ => false
  | .reent _ b _ => b == 0
  | .holder _ b _ => b == 0
  | .result t => !(t = "r !noops" || t = "r !nofn" || t = "r !build")
  | _ => true

end NV.C01
