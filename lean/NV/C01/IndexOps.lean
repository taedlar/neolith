/-
C01 model, part 1: every index / reverse-index / range / range-lvalue opcode case of `eval_instruction`
(src/interpret.c F_INDEX, F_RINDEX), `push_indexed_lvalue`, `push_lvalue_range` + `copy_lvalue_range` /
`assign_lvalue_range`, `f_range`, `f_extract_range` (lib/lpc/operator.c) and `slice_array` (lib/lpc/array.c) as a
function
      (container kind, size, int64 operands)  →  Except Err (accesses, result descriptor)

* every guard is the REGENERATED `NV.Gen.C01.guard_<site>` (translator T4) - never a hand copy;
* the arithmetic in front of a guard mirrors the C statement including its integer width: `(int)x` is `trunc32`,
  `size_t` arithmetic is `truncU64`, and a *signed* C operation whose mathematical result does not fit its type is
  the explicit outcome `Err.ub` (undefined behaviour, reported by UBSan on the real driver), never silently wrapped;
  the "counted from the end" subtractions `size - i` are the REGENERATED `rev_*`: done in uint64_t in
  push_indexed_lvalue (they wrap by definition), through the saturating helper `range_from_end` (REGENERATED
  `rangeFromEnd`) in f_range / f_extract_range; `revSitesUnsigned` / `revSitesHelper` record which shape each site has;
* an access is (target allocation, offset, width, read|write) in element units (svalues for arrays, bytes otherwise).

The model mirrors the code that exists, with the build's configuration (OLD_RANGE_BEHAVIOR is defined).
-/
import NV.Gen.C01

namespace NV.C01
open NV.Gen.C01

inductive Kind | arr | str | buf
  deriving DecidableEq, Repr, Inhabited

inductive Rw | read | write
  deriving DecidableEq, Repr

/-- which allocation an access touches -/
inductive Tgt
  | owner                 -- the indexed container (size `size`)
  | rhs                   -- the right-hand side of a range assignment (size `fsize`)
  | rhsHdr                -- the `buffer_t` *header* of the rhs (before the repair copy_lvalue_range copied from
                          -- `from->u.buf`; with `from->u.buf->item` no modelled opcode produces this target)
  | fresh (n : Int)       -- a container newly allocated with n elements
  deriving DecidableEq, Repr

structure Access where
  tgt : Tgt
  off : Int
  width : Int
  rw : Rw
  deriving Repr

inductive Err
  | lpc (msg : String)    -- LPC runtime error raised through error()
  | ub (site : String)    -- C undefined behaviour: signed overflow at this site
  | fatal (msg : String)  -- the driver calls fatal(): the process ends
  deriving Repr, DecidableEq

/-- what the opcode leaves as its value (interpreted by the driver into the harness's value summary) -/
inductive Res
  | elem (off : Int)                         -- the element / byte read at `off`
  | slice (start len : Int)                  -- a new container holding owner[start .. start+len)
  | stored (off : Int) (v : Int)             -- the owner with element `off` replaced by v
  | spliced (ind1 ind2 fsize : Int) (realloc : Bool)   -- owner[0..ind1) ++ rhs ++ owner[ind2..size)
  deriving Repr

structure Out where
  acc : List Access
  res : Res
  deriving Repr

abbrev R := Except Err Out

def inS32 (x : Int) : Bool := decide (-2147483648 ≤ x) && decide (x ≤ 2147483647)
def inS64 (x : Int) : Bool := decide (-9223372036854775808 ≤ x) && decide (x ≤ 9223372036854775807)

/-- configuration limits that reach the modelled paths (`MaxArraySize`, `MaxBufferSize`) -/
structure Limits where
  maxArray : Int := 65535
  maxBuffer : Int := 4000000

def rd (t : Tgt) (off width : Int) : Access := ⟨t, off, width, .read⟩
def wr (t : Tgt) (off width : Int) : Access := ⟨t, off, width, .write⟩

/-- F_INDEX: `c[n]` as an rvalue.  The guards test the 64-bit operand; the index computed afterwards is the
    REGENERATED `idx_index_*` (`i = (int)n`). -/
def opIndex (k : Kind) (size : Int) (n : Int) : R :=
  match k with
  | .buf => if guard_index_buf n size then .error (.lpc msg_index_buf)
            else .ok ⟨[rd .owner (idx_index_buf n) 1], .elem (idx_index_buf n)⟩
  | .str => if guard_index_str n size then .error (.lpc msg_index_str)
            else .ok ⟨[rd .owner (idx_index_str n) 1], .elem (idx_index_str n)⟩
  | .arr =>
    if guard_index_arr_neg n then .error (.lpc msg_index_arr_neg)
    else if guard_index_arr n size then .error (.lpc msg_index_arr)
    else .ok ⟨[rd .owner (idx_index_arr n) 1], .elem (idx_index_arr n)⟩

/-- F_RINDEX: `c[<n]` as an rvalue.  The guards test the 64-bit operand, then the index is computed by the
    REGENERATED `idx_rindex_*` (`size - (int)n` in the arithmetic of the C operand types). -/
def opRindex (k : Kind) (size : Int) (n : Int) : R :=
  match k with
  | .buf =>
    if guard_rindex_buf n size then .error (.lpc msg_rindex_buf)
    else .ok ⟨[rd .owner (idx_rindex_buf size n) 1], .elem (idx_rindex_buf size n)⟩
  | .str =>
    if guard_rindex_str n size then .error (.lpc msg_rindex_str)
    else .ok ⟨[rd .owner (idx_rindex_str size n) 1], .elem (idx_rindex_str size n)⟩
  | .arr =>
    if guard_rindex_arr n size then .error (.lpc msg_rindex_arr)
    -- `arr->size - (int)n` is int arithmetic: leaving the range of int is undefined behaviour
    else if !inS32 (size - trunc32 n) then .error (.ub "rindex_arr")
    else .ok ⟨[rd .owner (idx_rindex_arr size n) 1], .elem (idx_rindex_arr size n)⟩

/-- the byte store of F_VOID_ASSIGN through a T_LVALUE_BYTE -/
def byteStoreOk (v : Int) : Bool := decide (v % 256 ≠ 0)

/-- second half of push_indexed_lvalue + F_VOID_ASSIGN once `ind` is computed: the guard and the store -/
def lindexCore (k : Kind) (onStack : Bool) (size ind v : Int) : R :=
  match k with
  | .str =>
    if guard_lindex_str ind size then .error (.lpc msg_lindex_str)
    else if !byteStoreOk v then .error (.lpc "*Strings cannot contain 0 bytes.")
    else .ok ⟨[wr .owner ind 1], .stored ind (v % 256)⟩
  | .buf =>
    if (if onStack then guard_sindex_buf ind size else guard_lindex_buf ind size) then
      .error (.lpc (if onStack then msg_sindex_buf else msg_lindex_buf))
    -- buffers accept a 0 byte when the NUL tests exempt them (REGENERATED `bufNulStoreAllowed`)
    else if !bufNulStoreAllowed && !byteStoreOk v then .error (.lpc "*Strings cannot contain 0 bytes.")
    else .ok ⟨[wr .owner ind 1], .stored ind (v % 256)⟩
  | .arr =>
    if (if onStack then guard_sindex_arr ind size else guard_lindex_arr ind size) then
      .error (.lpc (if onStack then msg_sindex_arr else msg_lindex_arr))
    else .ok ⟨[wr .owner ind 1], .stored ind v⟩

/-- push_indexed_lvalue(reverse) followed by F_VOID_ASSIGN of the number `v`.
    `onStack` = the second half of the C function: the indexed value is on the stack, not an lvalue. -/
def opLindex (k : Kind) (reverse onStack : Bool) (size : Int) (n v : Int) : R :=
  match k with
  | .str =>
    if onStack then .error (.lpc "*Illegal to make char lvalue from assigned string.")
    else
      -- ind = len - ind : size_t arithmetic, converted to int64_t (REGENERATED `rev_lindex_str`)
      lindexCore .str onStack size (if reverse then rev_lindex_str size n else n) v
  | .buf =>
    -- ind = LPC_INT_SUB (size, ind) : unsigned arithmetic, converted back (REGENERATED `rev_lindex_buf` / `rev_sindex_buf`)
    lindexCore .buf onStack size (if reverse then (if onStack then rev_sindex_buf size n else rev_lindex_buf size n) else n) v
  | .arr =>
    lindexCore .arr onStack size (if reverse then (if onStack then rev_sindex_arr size n else rev_lindex_arr size n) else n) v

/-- slice_array (p, from, to) for an array of `size` elements -/
def sliceArray (size : Int) (from0 to0 : Int) : Out :=
  let fromC := if guard_slice_from_neg from0 then 0 else from0
  let toC := if guard_slice_to_hi to0 size then size - 1 else to0
  if guard_slice_empty fromC toC then ⟨[], .slice 0 0⟩
  else ⟨[rd .owner fromC (toC - fromC + 1), wr (.fresh (toC - fromC + 1)) 0 (toC - fromC + 1)], .slice fromC (toC - fromC + 1)⟩

/-- f_range, T_ARRAY after `from` / `to` are computed: clamps while still 64 bits wide, then
    slice_array (v, (int)from, (int)to) -/
def rangeArrCore (size from1 to1 : Int) : Out :=
  let from2 := if guard_range_arr_from_neg from1 then 0 else from1
  let to2 := if guard_range_arr_to_hi to1 size then size - 1 else to1
  let to3 := if guard_range_arr_to_lo to2 then -1 else to2
  let from3 := if guard_range_arr_from_hi from2 size then size else from2
  sliceArray size (trunc32 from3) (trunc32 to3)

/-- f_extract_range, T_ARRAY -/
def erangeArrCore (size from1 : Int) : Out :=
  let from2 := if guard_erange_arr_from_neg from1 then 0 else from1
  let from3 := if guard_erange_arr_from_hi from2 size then size else from2
  sliceArray size (trunc32 from3) (trunc32 (size - 1))

/-- f_range (code): `c[n1..n2]`, bit 0x10 = first index counted from the end, bit 0x01 = second -/
def opRange (lim : Limits) (k : Kind) (r1 r2 : Bool) (size : Int) (n1 n2 : Int) : R :=
  match k with
  | .str =>
    let len := size
    let to1 := if r2 then rev_range_str_to len n2 else n2
    let to2 := if guard_range_str_to_neg to1 then to1 + len else to1
    let from1 := if r1 then rev_range_str_from len n1 else n1
    let from2 := if guard_range_str_from_neg from1 then from1 + len else from1
    let from3 := if guard_range_str_from_clamp from2 then 0 else from2
    if guard_range_str_empty to2 from3 len then .ok ⟨[], .slice 0 0⟩
    else if guard_range_str_tail to2 len then
      -- string_copy (res + from): reads up to and including the NUL
      .ok ⟨[rd .owner from3 (len - from3 + 1), wr (.fresh (len - from3)) 0 (len - from3 + 1)], .slice from3 (len - from3)⟩
    else
      -- new_string (to - from + 1); strncpy; tmp[to - from + 1] = 0
      .ok ⟨[rd .owner from3 (to2 - from3 + 1), wr (.fresh (to2 - from3 + 1)) 0 (to2 - from3 + 2)], .slice from3 (to2 - from3 + 1)⟩
  | .buf =>
    let len := size
    let to1 := if r2 then rev_range_buf_to len n2 else n2
    let to2 := if guard_range_buf_to_neg to1 then to1 + len else to1
    let from1 := if r1 then rev_range_buf_from len n1 else n1
    let from2 := if guard_range_buf_from_neg from1 then
        (if guard_range_buf_from_neg2 from1 len then 0 else from1 + len) else from1
    if guard_range_buf_empty to2 from2 len then .ok ⟨[], .slice 0 0⟩
    else
      let to3 := if guard_range_buf_to_hi to2 len then len - 1 else to2
      if guard_alloc_buffer (to3 - from2 + 1) lim.maxBuffer then .error (.lpc msg_alloc_buffer)
      else .ok ⟨[rd .owner from2 (to3 - from2 + 1), wr (.fresh (to3 - from2 + 1)) 0 (to3 - from2 + 1)], .slice from2 (to3 - from2 + 1)⟩
  | .arr =>
    let to1 := if r2 then rev_range_arr_to size n2 else n2
    let from1 := if r1 then rev_range_arr_from size n1 else n1
    .ok (rangeArrCore size from1 to1)

/-- f_extract_range (code): `c[n1..]` -/
def opErange (lim : Limits) (k : Kind) (r1 : Bool) (size : Int) (n1 : Int) : R :=
  match k with
  | .str =>
    let len := size
    let from1 := if r1 then rev_erange_str_from len n1 else n1
    let from2 := if guard_erange_str_from_neg from1 then
        (if guard_erange_str_from_neg2 from1 len then 0 else from1 + len) else from1
    if guard_erange_str_empty from2 len then .ok ⟨[], .slice 0 0⟩
    else .ok ⟨[rd .owner from2 (len - from2 + 1), wr (.fresh (len - from2)) 0 (len - from2 + 1)], .slice from2 (len - from2)⟩
  | .buf =>
    let len := size
    let from1 := if r1 then rev_erange_buf_from len n1 else n1
    let from2 := if guard_erange_buf_from_neg from1 then
        (if guard_erange_buf_from_neg2 from1 len then 0 else from1 + len) else from1
    let from3 := if guard_erange_buf_from_hi from2 len then len else from2
    if guard_alloc_buffer (len - from3) lim.maxBuffer then .error (.lpc msg_alloc_buffer)
    else .ok ⟨[rd .owner from3 (len - from3), wr (.fresh (len - from3)) 0 (len - from3)], .slice from3 (len - from3)⟩
  | .arr =>
    let from1 := if r1 then rev_erange_arr_from size n1 else n1
    .ok (erangeArrCore size from1)

/-- push_lvalue_range once the narrowed operands `i1 = (code & 0x10) ? size - (int)n1 : (int)n1` and `i2` (same for
    the 2nd operand) are named: pre-checks on the 64-bit operands, exact tests on the ints.  The second index is
    processed first, as in C; the result is `(ind1, ind2)` with ind2 already incremented. -/
def lrangeBoundsCore (sz n1 n2 i1 i2 : Int) : Except Err (Int × Int) :=
  if guard_lrange_ind2_pre n2 sz then .error (.lpc msg_lrange_ind2_pre)
  else if !inS32 i2 then .error (.ub "lrange_ind2")
  else if !inS32 (i2 + 1) then .error (.ub "lrange_ind2_inc")
  else if guard_lrange_ind2 i2 sz then .error (.lpc msg_lrange_ind2)
  else if guard_lrange_ind1_pre n1 sz then .error (.lpc msg_lrange_ind1_pre)
  else if !inS32 i1 then .error (.ub "lrange_ind1")
  else if guard_lrange_ind1 i1 sz then .error (.lpc msg_lrange_ind1)
  else .ok (i1, i2 + 1)

def lrangeBounds (r1 r2 : Bool) (sz : Int) (n1 n2 : Int) : Except Err (Int × Int) :=
  lrangeBoundsCore sz n1 n2 (if r1 then sz - trunc32 n1 else trunc32 n1) (if r2 then sz - trunc32 n2 else trunc32 n2)

/-- copy_lvalue_range / assign_lvalue_range of a same-kind container of `fsize` elements into [ind1, ind2) -/
def lrangeAssign (lim : Limits) (k : Kind) (sz ind1 ind2 fsize : Int) : R :=
  if fsize = ind2 - ind1 then
    -- same size: overwrite in place
    .ok ⟨[rd .rhs 0 fsize, wr .owner ind1 fsize], .spliced ind1 ind2 fsize false⟩
  else
    let nsz := sz - ind2 + ind1 + fsize
    let tail := sz - ind2
    match k with
    | .arr =>
      if guard_alloc_empty_array nsz lim.maxArray then .error (.lpc msg_alloc_empty_array)
      else .ok ⟨[rd .owner 0 ind1, wr (.fresh nsz) 0 ind1, rd .rhs 0 fsize, wr (.fresh nsz) ind1 fsize,
                 rd .owner ind2 tail, wr (.fresh nsz) (ind1 + fsize) tail], .spliced ind1 ind2 fsize true⟩
    | .str =>
      -- strncpy (tmp, dstr, ind1); strcpy (tmp, from); strncpy (tmp, dstr + ind2, size); *(tmp + size) = 0
      .ok ⟨(if ind1 ≥ 1 then [rd .owner 0 ind1, wr (.fresh nsz) 0 ind1] else []) ++
           [rd .rhs 0 (fsize + 1), wr (.fresh nsz) ind1 (fsize + 1)] ++
           (if tail ≥ 1 then [rd .owner ind2 tail, wr (.fresh nsz) (ind1 + fsize) (tail + 1)] else []),
           .spliced ind1 ind2 fsize true⟩
    | .buf =>
      if guard_alloc_buffer nsz lim.maxBuffer then .error (.lpc msg_alloc_buffer)
      else
      -- memcpy (new_item, from->u.buf->item, fsize)
      .ok ⟨(if ind1 ≥ 1 then [rd .owner 0 ind1, wr (.fresh nsz) 0 ind1] else []) ++
           [rd .rhs 0 fsize, wr (.fresh nsz) ind1 fsize] ++
           (if tail ≥ 1 then [rd .owner ind2 tail, wr (.fresh nsz) (ind1 + fsize) tail] else []),
           .spliced ind1 ind2 fsize true⟩

/-- `int size` of push_lvalue_range: `arr->size`, `(int)SVALUE_STRLEN`, `buf->size` narrowed to int -/
def lrangeSz (k : Kind) (size : Int) : Int :=
  match k with
  | .arr => size
  | .str => trunc32 size
  | .buf => trunc32 size

/-- push_lvalue_range (code) followed by copy_lvalue_range / assign_lvalue_range -/
def opLrange (lim : Limits) (k : Kind) (r1 r2 : Bool) (size : Int) (n1 n2 : Int) (fsize : Int) : R :=
  match lrangeBounds r1 r2 (lrangeSz k size) n1 n2 with
  | .error e => .error e
  | .ok (ind1, ind2) => lrangeAssign lim k (lrangeSz k size) ind1 ind2 fsize

/-! ### allocation geometry -/

/-- elements available from element 0 of a container of `n` elements: arrays exactly n; strings n + 1 (NUL);
    buffers n + tail padding of `buffer_t` (regenerated `bufTailPad`) -/
def allocOf (k : Kind) (n : Int) : Int :=
  match k with
  | .arr => n
  | .str => n + 1
  | .buf => n + bufTailPad

/-- bytes of the `buffer_t` header in front of `item` (ref, padding, size) -/
def bufHeader : Int := bufHeaderSize

def Access.inBounds (k : Kind) (size fsize : Int) (a : Access) : Prop :=
  0 ≤ a.width ∧ 0 ≤ a.off ∧
  match a.tgt with
  | .owner => a.off + a.width ≤ allocOf k size
  | .rhs => a.off + a.width ≤ allocOf k fsize
  | .rhsHdr => a.off + a.width ≤ bufHeader + allocOf .buf fsize
  | .fresh n => 0 ≤ n ∧ a.off + a.width ≤ allocOf k n

end NV.C01
