/-
C01 — Lean-checked counterexample of the full statement that the CURRENT code falsifies (the open known finding
C01-stack-unchecked-push), and non-vacuity examples of the theorems.
-/
import NV.C01.IndexOps
import NV.C01.ErrBuf
import NV.C01.Stack

namespace NV.C01
open NV.Gen.C01

/-- full statement: no script of pushes and calls ever stores outside the value stack -/
def stack_height_bounded_Full : Prop :=
  ∀ (cfg : StackCfg) (ops : List SOp), isCrash (srun cfg { sp := -1, depth := 0 } ops) = false

/-- witness: the default configuration (StackSize 1000, MaxCallDepth 50) and the program
    `rec (d, a0..a22)` recursing 41 deep with its 23 local-variable arguments pushed by F_LOCAL / F_PUSH: the
    frame set-up check passes at height 984 and the next 24 unchecked pushes reach index 1008 -/
theorem stack_height_bounded_false : ¬ stack_height_bounded_Full := by
  intro h
  have := h {} (stackprogOps 41 23 0)
  revert this
  decide +kernel

/-- the same program one level shallower stays inside (the witness is minimal in depth) -/
example : isCrash (srun {} { sp := -1, depth := 0 } (stackprogOps 40 23 0)) = false := by decide +kernel

/-- non-vacuity of `stack_height_bounded_partial`: a script with bursts of at most five unchecked pushes -/
example : burstOk 5 0 [.enter 2, .pushU 3, .pushC 1, .pushU 5, .pop 4, .enter 0, .pushU 2, .leave] = true := by decide

/-- the witness script violates the side condition of the partial theorem -/
example : burstOk 5 0 (stackprogOps 41 23 0) = false := by decide

/-! ## signed overflow (C undefined behaviour) in reverse-index arithmetic: repaired in the C code, so theorems and not
witnesses

F_RINDEX on arrays (`rindex_arr_no_ub`), push_lvalue_range (`lrangeBounds_no_ub`), the buffer index `>=`
(`index_logical_bound_buf`), and - since the `fix:` of C01-ub-index-signed-overflow - `size - ind` in
push_indexed_lvalue and `len - to` / `len - from` in f_range / f_extract_range (`index_arith_defined`, PropsNoUb.lean).
The two examples below are the inputs that overflowed before the repairs. -/

/-- `s[0..2147483647] = x` is rejected by the 64-bit pre-check (before the repair: `++ind2` overflows int) -/
example : opLrange {} .str false false 5 0 2147483647 0 = .error (.lpc msg_lrange_ind2_pre) := rfl
/-- `a[<(-2^31)]` is rejected by the guard (before the repair: `size - (int)n` overflows int) -/
example : opRindex .arr 5 (-2147483648) = .error (.lpc msg_rindex_arr) := rfl

/-! ## non-vacuity of the bound theorems -/

example : ∃ out, opIndex .arr 5 4 = .ok out := ⟨_, rfl⟩
example : opIndex .arr 5 5 = .error (.lpc msg_index_arr) := rfl
example : opIndex .arr 5 4294967296 = .error (.lpc msg_index_arr) := rfl      -- the guard tests the 64-bit operand: not `a[0]`
example : opIndex .buf 5 5 = .error (.lpc msg_index_buf) := rfl               -- b[sizeof(b)] is rejected (`>=`)
example : ∃ out, opRange {} .str false true 10 2 3 = .ok out := ⟨_, rfl⟩
example : ∃ out, opLrange {} .buf false false 5 1 2 4 = .ok out ∧ out.acc.length = 6 := ⟨_, rfl, rfl⟩
example : errorTouches (2 * errBufSize + 21) 97 = [(errBufSize : Int) - 3, (errBufSize : Int) - 2, (errBufSize : Int) - 1] := by decide
example : errorTouches (-1) 97 = [] := by decide
example : errDelivered (8 * errBufSize) false = ((errVsnSize - 1).toNat, true) := by decide

end NV.C01
