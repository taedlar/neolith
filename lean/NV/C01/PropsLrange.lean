/-
C01 — range-lvalue theorem: push_lvalue_range + copy_lvalue_range / assign_lvalue_range.
-/
import NV.C01.PropsIndex

namespace NV.C01
open NV.Gen.C01

/-- push_lvalue_range: the stored bounds lie inside [0, size] whatever the operands -/
theorem lrangeBoundsCore_ok (sz n1 n2 i1 i2 ind1 ind2 : Int)
    (h : lrangeBoundsCore sz n1 n2 i1 i2 = .ok (ind1, ind2)) : 0 ≤ ind1 ∧ ind1 ≤ sz ∧ 0 ≤ ind2 ∧ ind2 ≤ sz := by
  -- only the exact tests on the ints matter (and that `++ind2` fits); the 64-bit pre-checks and the two `(int)`
  -- conversions are passed over
  obtain ⟨(_ : guard_lrange_ind2_pre n2 sz = false), h⟩ := ok_of_guard h
  obtain ⟨(_ : (!inS32 i2) = false), h⟩ := ok_of_guard h
  obtain ⟨(inc : (!inS32 (i2 + 1)) = false), h⟩ := ok_of_guard h
  obtain ⟨(c2 : guard_lrange_ind2 i2 sz = false), h⟩ := ok_of_guard h
  obtain ⟨(_ : guard_lrange_ind1_pre n1 sz = false), h⟩ := ok_of_guard h
  obtain ⟨(_ : (!inS32 i1) = false), h⟩ := ok_of_guard h
  obtain ⟨(c1 : guard_lrange_ind1 i1 sz = false), h⟩ := ok_of_guard h
  cases h
  have e := (inS32_iff _).mp ((Bool.not_eq_false' _).mp inc)
  have a2 := g_lrange_ind2 i2 sz e.1 e.2 c2
  have a1 := g_lrange_ind1 i1 sz c1
  omega

theorem lrangeBounds_ok (r1 r2 : Bool) (sz n1 n2 ind1 ind2 : Int)
    (h : lrangeBounds r1 r2 sz n1 n2 = .ok (ind1, ind2)) : 0 ≤ ind1 ∧ ind1 ≤ sz ∧ 0 ≤ ind2 ∧ ind2 ≤ sz :=
  lrangeBoundsCore_ok sz n1 n2 _ _ ind1 ind2 h

/-- the two `int` conversions and `++ind2` are the only undefined-behaviour outcomes: none is left when each operand
    that passed its 64-bit pre-check is in range as an `int` -/
theorem lrangeBoundsCore_no_ub (sz n1 n2 i1 i2 : Int) (s : String)
    (h2 : guard_lrange_ind2_pre n2 sz = false → inS32 i2 = true ∧ inS32 (i2 + 1) = true)
    (h1 : guard_lrange_ind1_pre n1 sz = false → inS32 i1 = true) :
    lrangeBoundsCore sz n1 n2 i1 i2 ≠ .error (.ub s) := by
  unfold lrangeBoundsCore
  cases c2 : guard_lrange_ind2_pre n2 sz
  · obtain ⟨a, b⟩ := h2 c2
    simp only [a, b, Bool.not_true, Bool.false_eq_true, if_false]
    refine ite_ne nofun ?_
    cases c1 : guard_lrange_ind1_pre n1 sz
    · simp only [h1 c1, Bool.not_true, Bool.false_eq_true, if_false]
      exact ite_ne nofun nofun
    · nofun
  · nofun

/-- after the 64-bit pre-checks the narrowing `(int)n`, `size - (int)n` and `++ind2` are exact: push_lvalue_range
    has no undefined behaviour left (that part of the former known finding is repaired) -/
theorem lrangeBounds_no_ub (r1 r2 : Bool) (sz n1 n2 : Int) (h0 : 0 ≤ sz) (h1 : sz ≤ 2147483645) (s : String) :
    lrangeBounds r1 r2 sz n1 n2 ≠ .error (.ub s) := by
  apply lrangeBoundsCore_no_ub
  · intro c
    have p := g_lrange_ind2_pre n2 sz h0 (by omega) c
    rw [trunc32_id n2 (by omega) (by omega), inS32_iff, inS32_iff]
    split <;> omega
  · intro c
    have p := g_lrange_ind1_pre n1 sz h0 (by omega) c
    rw [trunc32_id n1 (by omega) (by omega), inS32_iff]
    split <;> omega

theorem forall_mem_ite_nil {α : Type} {c : Prop} [Decidable c] {l : List α} {p : α → Prop} :
    (∀ x ∈ (if c then l else []), p x) ↔ (c → ∀ x ∈ l, p x) := by
  split <;> simp [*]

-- `h0` follows from `b`
set_option linter.unusedVariables false in
/-- copy_lvalue_range / assign_lvalue_range: with bounds inside [0, size] every read of the old container and of the
    rhs and every write to the old or the freshly allocated container is inside its allocation -/
theorem lrangeAssign_in_bounds (lim : Limits) (k : Kind) (sz ind1 ind2 fsize : Int) (out : Out)
    (h0 : 0 ≤ sz) (f0 : 0 ≤ fsize) (b : 0 ≤ ind1 ∧ ind1 ≤ sz ∧ 0 ≤ ind2 ∧ ind2 ≤ sz)
    (h : lrangeAssign lim k sz ind1 ind2 fsize = .ok out) :
    ∀ a ∈ out.acc, a.inBounds k sz fsize := by
  -- in each case: name the outcome, spell the membership in its access list out as a conjunction, leave it to `omega`
  rcases of_ite_eq h with ⟨_, h⟩ | ⟨_, h⟩
  · -- same size: overwritten in place
    cases h
    simp only [List.forall_mem_cons, List.not_mem_nil, false_imp_iff, implies_true, and_true, Access.inBounds, rd, wr]
    cases k <;> simp only [allocOf] <;> omega
  · -- a fresh container of `nsz` elements is filled from three pieces: the head `[0, ind1)` of the old one, the rhs
    -- behind it, then the tail `[ind2, sz)`.  That the pieces add up is all that is used of `nsz` and `tail`
    -- (put in for `sz` and `nsz`: cheaper for `omega` than two more equations).
    extract_lets nsz tail at h
    have pieces : 0 ≤ tail ∧ ind2 + tail = sz ∧ nsz = ind1 + fsize + tail := by omega
    clear_value nsz tail
    obtain ⟨_, rfl, rfl⟩ := pieces
    cases k <;> simp only at h
    -- arrays and buffers pass an allocation check first
    case' arr => obtain ⟨_, h⟩ := ok_of_guard h
    case' buf => obtain ⟨_, h⟩ := ok_of_guard h
    all_goals
      cases h
      simp only [List.forall_mem_append, forall_mem_ite_nil, List.forall_mem_cons, List.not_mem_nil, false_imp_iff,
        implies_true, and_true, Access.inBounds, rd, wr, allocOf]
      omega

/-- `(int)` of a size that fits an `int` changes nothing -/
theorem lrangeSz_eq (k : Kind) (size : Int) (h0 : 0 ≤ size) (h1 : size ≤ 2147483647) : lrangeSz k size = size := by
  cases k <;> simp only [lrangeSz] <;> exact trunc32_id _ (by omega) (by omega)

/-- `c[n1..n2] = rhs` (all four forms, all three kinds, in-place and reallocating paths): every access is inside its
    allocation, for every size within the C type ranges (strings / buffers below 2^31-1: `size` is an `int` there)
    and every int64 operand. -/
theorem lrange_access_in_bounds (lim : Limits) (k : Kind) (r1 r2 : Bool) (size n1 n2 fsize : Int) (out : Out)
    (hk : SizeOk k size) (hs : size ≤ 2147483646) (f0 : 0 ≤ fsize)
    (h : opLrange lim k r1 r2 size n1 n2 fsize = .ok out) :
    ∀ a ∈ out.acc, a.inBounds k size fsize := by
  obtain ⟨h0, _⟩ := hk
  unfold opLrange at h
  rw [lrangeSz_eq k size h0 (by omega)] at h
  split at h
  · cases h
  · rename_i i1 i2 hb
    exact lrangeAssign_in_bounds lim k size i1 i2 fsize out h0 f0 (lrangeBounds_ok r1 r2 size n1 n2 i1 i2 hb) h

end NV.C01
