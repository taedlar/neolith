/-
C01 - the oracle clause `ub-signed-overflow` for the modelled opcodes, closed at the level of the model: NO index /
reverse-index / range / range-lvalue opcode case has an undefined-behaviour outcome, for every kind, every size a C
container can have and every operand.  (The driver turns exactly the `.ub` outcomes of these functions into `Ev.ub`
events, so the model trace of an `idx` command never contains the event the clause forbids.)

Where the model has no `.ub` branch at all the proof only walks the `if` chain (`ite_ne`); F_RINDEX on arrays and
push_lvalue_range have such branches, unreachable behind their guards (`rindex_arr_no_ub`, `lrangeBounds_no_ub`).
-/
import NV.C01.PropsLrange

namespace NV.C01
open NV.Gen.C01

theorem opIndex_no_ub (k : Kind) (size n : Int) (s : String) : opIndex k size n ≠ .error (.ub s) := by
  cases k
  · exact ite_ne nofun (ite_ne nofun nofun)
  · exact ite_ne nofun nofun
  · exact ite_ne nofun nofun

theorem opRindex_no_ub (k : Kind) (size n : Int) (hk : SizeOk k size) (s : String) : opRindex k size n ≠ .error (.ub s) := by
  cases k
  · exact rindex_arr_no_ub size n hk s
  · exact ite_ne nofun nofun
  · exact ite_ne nofun nofun

theorem lindexCore_no_ub (k : Kind) (onStack : Bool) (size ind v : Int) (s : String) :
    lindexCore k onStack size ind v ≠ .error (.ub s) := by
  cases k
  · exact ite_ne nofun nofun
  · exact ite_ne nofun (ite_ne nofun nofun)
  · exact ite_ne nofun (ite_ne nofun nofun)

/-- `index_arith_defined`: the full statement that the finding C01-ub-index-signed-overflow falsified before its repair - the index
    arithmetic of the modelled lvalue-index and range opcodes never leaves the range of its C type - for every kind,
    size and operand.  (F_RINDEX: `rindex_arr_no_ub`; push_lvalue_range: `lrangeBounds_no_ub`.) -/
theorem index_arith_defined (lim : Limits) (k : Kind) (r1 r2 onStack : Bool) (size n1 n2 v : Int) (s : String) :
    opLindex k r1 onStack size n1 v ≠ .error (.ub s) ∧ opRange lim k r1 r2 size n1 n2 ≠ .error (.ub s) ∧
    opErange lim k r1 size n1 ≠ .error (.ub s) := by
  refine ⟨?_, ?_, ?_⟩
  -- push_indexed_lvalue + store
  · cases k
    · exact lindexCore_no_ub .arr onStack size _ v s
    · exact ite_ne nofun (lindexCore_no_ub .str onStack size _ v s)
    · exact lindexCore_no_ub .buf onStack size _ v s
  -- f_range
  · cases k
    · nofun
    · exact ite_ne nofun (ite_ne nofun nofun)
    · exact ite_ne nofun (ite_ne nofun nofun)
  -- f_extract_range
  · cases k
    · nofun
    · exact ite_ne nofun nofun
    · exact ite_ne nofun nofun

theorem lrangeAssign_no_ub (lim : Limits) (k : Kind) (sz i1 i2 f : Int) (s : String) :
    lrangeAssign lim k sz i1 i2 f ≠ .error (.ub s) := by
  cases k
  · exact ite_ne nofun (ite_ne nofun nofun)
  · exact ite_ne nofun nofun
  · exact ite_ne nofun (ite_ne nofun nofun)

theorem opLrange_no_ub (lim : Limits) (k : Kind) (r1 r2 : Bool) (size n1 n2 f : Int) (hk : SizeOk k size)
    (h2 : size ≤ 2147483645) (s : String) : opLrange lim k r1 r2 size n1 n2 f ≠ .error (.ub s) := by
  unfold opLrange
  rw [lrangeSz_eq k size hk.1 (by omega)]
  split
  · rename_i e he
    intro hc
    cases hc
    exact lrangeBounds_no_ub r1 r2 size n1 n2 hk.1 h2 s he
  · exact lrangeAssign_no_ub lim k _ _ _ f s

/-- `model_ops_no_ub`: the oracle clause "no C undefined behaviour in index arithmetic", for every modelled opcode case -/
theorem model_ops_no_ub (lim : Limits) (k : Kind) (r1 r2 onStack : Bool) (size n1 n2 v f : Int) (hk : SizeOk k size)
    (h2 : size ≤ 2147483645) (s : String) :
    opIndex k size n1 ≠ .error (.ub s) ∧ opRindex k size n1 ≠ .error (.ub s) ∧
    opLindex k r1 onStack size n1 v ≠ .error (.ub s) ∧ opRange lim k r1 r2 size n1 n2 ≠ .error (.ub s) ∧
    opErange lim k r1 size n1 ≠ .error (.ub s) ∧ opLrange lim k r1 r2 size n1 n2 f ≠ .error (.ub s) :=
  have h := index_arith_defined lim k r1 r2 onStack size n1 n2 v s
  ⟨opIndex_no_ub k size n1 s, opRindex_no_ub k size n1 hk s, h.1, h.2.1, h.2.2,
   opLrange_no_ub lim k r1 r2 size n1 n2 f hk h2 s⟩

end NV.C01
