/-
C01 - audit of the specification oracle: it accepts exactly the traces without a forbidden event, plus negative
examples for every clause.
-/
import NV.C01.Spec

namespace NV.C01

/-- the oracle returns no violation exactly when every event of the trace is clean (no sanitizer report, no crash, no
    undefined behaviour, no malformed line, no command without outcome, no mismatch reported by a re-entrant-callback or error-path program) -/
theorem judgeEv_nil_iff_clean (cmds : List String) : ∀ (evs : List Ev) (k : Nat),
    judgeEv cmds k evs = [] ↔ evs.all clean = true := by
  intro evs
  induction evs with
  | nil => intro k; simp [judgeEv]
  | cons e rest ih =>
    -- per kind of event both sides take one step: a violation is put in front exactly when the event is not clean
    intro k
    cases e <;> simp [judgeEv, clean, ih]

/-! negative examples: one per clause of the oracle -/
example : judgeEv ["idx index arr 5 1 0 0"] 0 [.sanitizer "heap-buffer-overflow"] ≠ [] := by decide +kernel
example : judgeEv ["run p1 run"] 0 [.info "x", .sanitizer "stack-overflow"] ≠ [] := by decide +kernel
example : judgeEv ["idx index arr 5 1 0 0"] 0 [.crash "signal 11"] ≠ [] := by decide +kernel
example : judgeEv ["run p1 run"] 0 [.crash "timeout"] ≠ [] := by decide +kernel
example : judgeEv ["idx rn str 5 1 0 0"] 0 [.ub "signed-overflow"] ≠ [] := by decide +kernel
example : judgeEv ["idx index arr 5 1 0 0"] 0 [.result "r !noops"] ≠ [] := by decide +kernel
example : judgeEv ["idx index arr 5 1 0 0"] 0 [.result "r !nofn"] ≠ [] := by decide +kernel
example : judgeEv ["idx lnn arr 5 1 0 70000"] 0 [.lpcError "Illegal array size.", .result "r !build"] ≠ [] := by decide +kernel
example : judgeEv ["run p1 run"] 0 [.malformed "garbage"] ≠ [] := by decide +kernel
example : judgeEv ["run re0 run"] 0 [.reent 14 1 "p0.d1", .result "fz re0 run done"] ≠ [] := by decide +kernel
example : judgeEv ["run re0 run"] 0 [.reent 3 7 ""] ≠ [] := by decide +kernel
example : judgeEv ["run ep0 run"] 0 [.holder 12 1 "t3.h1", .result "fz ep0 run done"] ≠ [] := by decide +kernel
/-- a forbidden event after any number of good commands is still reported -/
example : (judgeEv ["idx index arr 5 1 0 0", "errlen 5 0", "run p run"] 0
    [.result "r i 1", .lpcError "abcde", .result "r errlen done", .sanitizer "SEGV"]).map (·.kind) = ["sanitizer"] := by decide +kernel
/-! positive examples -/
example : judgeEv ["idx index arr 5 9 0 0"] 0 [.lpcError "*Array index out of bounds.", .result "r !err"] = [] := by decide +kernel
example : judgeEv ["run re0 run"] 0 [.reent 14 0 "", .result "fz re0 run done"] = [] := by decide +kernel
example : judgeEv ["run ep0 run"] 0 [.holder 12 0 "", .result "fz ep0 run done"] = [] := by decide +kernel

end NV.C01
