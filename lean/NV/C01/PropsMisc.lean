/-
C01 — error-buffer, value-stack and format-argument theorems.
-/
import NV.C01.ErrBuf
import NV.C01.Stack
import NV.C01.Guards

namespace NV.C01
open NV.Gen.C01

/-- vsnprintf is told a size that fits the buffer -/
theorem errbuf_vsn_fits : 0 < errVsnSize ∧ errVsnSize ≤ errBufSize := by decide

/-- after the clamp `len` leaves room for the newline and the NUL -/
theorem errLen_le (ret : Int) (hr : inS32 ret = true) :
    errLen ret + 2 ≤ errBufSize ∧ -2147483648 ≤ errLen ret := by
  have hr' := (inS32_iff ret).mp hr
  -- bridging facts over the REGENERATED clamp (no literal buffer size in this proof: a different `sizeof msg` re-proves)
  have hc : errClampTo + 2 ≤ (errBufSize : Int) ∧ -2147483648 ≤ errClampTo := by decide
  have hg : guard_error_clamp ret = decide (ret > errClampTo) := rfl
  unfold errLen
  rw [hg]
  by_cases h : ret > errClampTo <;> simp [h] <;> omega

/-- every index at which error() itself reads or writes `msg` is inside the buffer, for EVERY `int` that vsnprintf
    may return (C99 would-be length of any size, or a negative pre-C99 failure code) and every buffer content -/
theorem errbuf_in_bounds (ret c : Int) (hr : inS32 ret = true) :
    ∀ i ∈ errorTouches ret c, 0 ≤ i ∧ i < errBufSize := by
  have hl := errLen_le ret hr
  intro i hi
  unfold errorTouches at hi
  simp only at hi
  generalize errLen ret = len at hl hi
  by_cases h1 : len > 0
  · -- whichever way the newline test goes, the touches are among `len - 1`, `len`, `len + 1`, and `0 < len ≤ sizeof msg - 2`
    have hi : i ∈ errIdx len := by
      rw [if_pos h1] at hi
      split at hi
      · exact List.take_append_drop 1 (errIdx len) ▸ hi
      · exact List.mem_of_mem_take hi
    simp only [errIdx, List.mem_cons, List.not_mem_nil, or_false] at hi
    unfold trunc32 at hi
    unfold errBufSize at hl ⊢
    omega
  · -- `len ≤ 0`: `&&` short-circuits, nothing is touched
    simp [guard_error_nl, h1] at hi

/-- the slack between `end_of_stack` and the end of the allocation, from the regenerated geometry -/
theorem stack_slack (size : Int) : size - endOfStack 0 size = 5 := by
  simp only [endOfStack]; omega

/-- a checked push (CHECK_AND_PUSH, STACK_CHECK + stores, frame set-up) never stores outside the allocation -/
theorem stack_checked_push_safe (cfg : StackCfg) (s : SState) (n : Nat) :
    isCrash (sstep cfg s (.pushC n)) = false ∧ isCrash (sstep cfg s (.enter n)) = false := by
  constructor
  · simp only [sstep]
    split
    · rfl
    · have := g_stack_check _ _ _ (eq_false_of_ne_true ‹_›)
      rw [if_neg (by omega)]; rfl
  · simp only [sstep]
    split
    · rfl
    · split
      · rfl
      · have := g_stack_check _ _ _ (eq_false_of_ne_true ‹_›)
        rw [if_neg (by omega)]; rfl

/-- `stack_height_bounded`, partial form: when every run of unchecked pushes between two checked operations pushes
    at most 5 values (the slack), no store leaves the allocation - for every script, stack size and starting height
    below `end_of_stack`. -/
theorem stack_height_bounded_partial (cfg : StackCfg) :
    ∀ (ops : List SOp) (acc : Nat) (s : SState), burstOk 5 acc ops = true → s.sp + 5 < cfg.size + acc →
      isCrash (srun cfg s ops) = false := by
  intro ops
  induction ops with
  | nil => intro acc s _ _; rfl
  | cons op rest ih =>
    intro acc s hb hinv
    cases op with
    | pushU n =>
      simp only [burstOk, Bool.and_eq_true, decide_eq_true_eq] at hb
      have hc : ¬ s.sp + (n : Int) ≥ cfg.size := by omega
      simp only [srun, sstep, hc, ↓reduceIte]
      exact ih (acc + n) _ hb.2 (by dsimp only; omega)
    | pushC n =>
      by_cases g : guard_stack_push_undefineds s.sp n (stackEnd cfg) = true
      · simp only [srun, sstep, g, ↓reduceIte, isCrash]
      · have := g_stack_check _ _ _ (eq_false_of_ne_true g)
        have hc : ¬ s.sp + (n : Int) ≥ cfg.size := by omega
        simp only [srun, sstep, g, hc, ↓reduceIte, Bool.false_eq_true]
        exact ih 0 _ hb (by dsimp only; omega)
    | pop n =>
      exact ih acc _ hb (by dsimp only; omega)
    | enter n =>
      by_cases hd : s.depth ≥ cfg.maxDepth
      · simp only [srun, sstep, hd, ↓reduceIte, isCrash]
      · by_cases g : guard_stack_push_undefineds s.sp n (stackEnd cfg) = true
        · simp only [srun, sstep, hd, g, ↓reduceIte, isCrash]
        · have := g_stack_check _ _ _ (eq_false_of_ne_true g)
          have hc : ¬ s.sp + (n : Int) ≥ cfg.size := by omega
          simp only [srun, sstep, hd, g, hc, ↓reduceIte, Bool.false_eq_true]
          exact ih 0 _ hb (by dsimp only; omega)
    | leave =>
      exact ih acc _ hb hinv

/-- the push functions that the interpreter relies on for frame set-up and efun callbacks carry the check -/
theorem stack_push_fns_checked :
    ["push_undefineds", "push_some_svalues", "transfer_push_some_svalues", "push_number", "push_undefined", "push_object",
     "push_real", "copy_and_push_string", "share_and_push_string"].all
      (fun f => stackPushFns.contains (f, true)) = true := by decide +kernel

/-- calls with a non-literal format that are justified:
    * wrappers that forward their own `fmt` parameter to a `v*printf` (error, debug_message, log_message,
      debug_message_with_src, outbuf_addv);
    * `error (regexp_error)` (the three of array.c and inter_sscanf) - the global is only ever set to string literals of
      lib/efuns/regexp.c by `regerror()`;
    * `sprintf_error` - `error (lbuf)` where lbuf was built from a literal table and an int ("%%s" is doubled there);
    * `string_print_formatted` - `snprintf (temp, sizeof temp, cheat, ..)`: `cheat` is rebuilt by the driver from the parsed,
      validated conversion (one `%`, flags, one conversion letter);
    * `yyerrorp` - compile-time messages (C02), called with literals. -/
def formatAllowList : List (String × String × String) :=
  [("lib/efuns/sprintf.c", "sprintf_error", "error"),
   ("lib/efuns/sprintf.c", "string_print_formatted", "snprintf"),
   ("lib/efuns/sscanf.c", "inter_sscanf", "error"),
   ("lib/logger/logger.c", "debug_message", "vsnprintf"),
   ("lib/logger/logger.c", "debug_message_with_src", "vsnprintf"),
   ("lib/logger/logger.c", "log_message", "vfprintf"),
   ("lib/lpc/array.c", "match_single_regexp", "error"),
   ("lib/lpc/array.c", "match_regexp", "error"),
   ("lib/lpc/array.c", "reg_assoc", "error"),
   ("lib/lpc/lex.c", "yyerrorp", "sprintf"),
   ("src/error_context.c", "error", "vsnprintf"),
   ("src/outbuf.c", "outbuf_addv", "vsprintf")]

/-- `no_user_text_as_format`: every call of a printf-style function (libc family + the driver's own variadic
    `(.., const char *fmt, ...)` functions, inventory REGENERATED by clang-query over all of src/ and lib/) whose
    format is not a string literal is on the justified allow-list.  `bad_argument -> error (msg)` is not. -/
theorem no_user_text_as_format : nonLiteralFormatCalls.all (fun c => formatAllowList.contains c) = true := by
  decide +kernel

end NV.C01
