/-
C01 - the "counted from the end" arithmetic after the repair of C01-ub-index-signed-overflow.

`size - i` in push_indexed_lvalue is computed in uint64_t and converted back (LPC_INT_SUB); f_range / f_extract_range
call the helper `range_from_end (len, i)` (C03's repair: SATURATES at INT64_MAX instead of wrapping, so `x[<i..]` with i
near INT64_MIN is empty), whose body is regenerated as `rangeFromEnd` together with the unwrapped values of its signed
operations (`range_from_end_no_overflow`).  The expressions are REGENERATED from the clang AST (`NV.Gen.C01.rev_*`, with the C type of the
subtraction recorded in `revSitesUnsigned`).  Proved here, for every size a C container can have and every int64
operand:
  * every listed site is an unsigned C subtraction (which cannot be undefined behaviour) or a call of the helper -
    `rev_sites_unsigned`, `rev_sites_helper`;
  * the result is the exact difference whenever it is not negative; a wrapped result is always negative, so the bounds
    tests that follow reject it - `rev_*_exact`;
  * `c[n] = v` / `c[<n] = v` write exactly one element, strictly below the size, and it is element `n`, resp. `size - n` -
    `opLindex_ok`; `lindex_access_in_bounds` and `lindex_reverse_exact` are its two halves.
That no modelled opcode has an undefined-behaviour outcome left at these sites is `index_arith_defined` (PropsNoUb).
-/
import NV.C01.PropsIndex

namespace NV.C01
open NV.Gen.C01

/-- the helper range_from_end, for every container length and every int64 operand: the difference when it fits,
    INT64_MAX (saturation: "before the first element") when it does not -/
theorem rangeFromEnd_spec (len i : Int) (h0 : 0 ≤ len) (h1 : len ≤ 9223372036854775807) (hi : InI64 i) :
    InI64 (rangeFromEnd len i) ∧ (len - i ≤ 9223372036854775807 → rangeFromEnd len i = len - i) ∧
    (9223372036854775807 < len - i → rangeFromEnd len i = 9223372036854775807) := by
  unfold InI64 at *
  unfold rangeFromEnd
  split <;> rename_i c <;> simp only [rangeFromEndCond, decide_eq_true_eq] at c <;> unfold trunc64 at * <;> omega

/-- `range_from_end_no_overflow`: no SIGNED C operation of the helper leaves the range of int64_t - the ones in the
    condition always, the ones of each return only on the path that evaluates them.  (The unwrapped values of the signed
    arithmetic nodes are regenerated from the clang AST: `rangeFromEndNodes*`.) -/
theorem range_from_end_no_overflow (len i : Int) (h0 : 0 ≤ len) (h1 : len ≤ 9223372036854775807) (hi : InI64 i) :
    (∀ x ∈ rangeFromEndNodesCond len i, InI64 x) ∧
    (rangeFromEndCond len i = true → ∀ x ∈ rangeFromEndNodesThen len i, InI64 x) ∧
    (rangeFromEndCond len i = false → ∀ x ∈ rangeFromEndNodesElse len i, InI64 x) := by
  unfold InI64 at *
  simp only [rangeFromEndNodesCond, rangeFromEndNodesThen, rangeFromEndNodesElse, rangeFromEndCond,
    List.forall_mem_cons, List.not_mem_nil, false_imp_iff, implies_true, and_true, true_and, decide_eq_false_iff_not]
  refine ⟨by omega, fun c => ?_⟩
  unfold trunc64 at c; omega

/-- the translator found the signed operations of the helper (a helper without any would make the theorem vacuous) -/
theorem range_from_end_nodes_found : (rangeFromEndNodesCond 5 1).length + (rangeFromEndNodesThen 5 1).length +
    (rangeFromEndNodesElse 5 1).length ≥ 2 := by decide

theorem trunc64_trunc64 (x : Int) : trunc64 (trunc64 x) = trunc64 x :=
  trunc64_id _ (trunc64_inI64 x).1 (trunc64_inI64 x).2

/-- every helper site is one of the listed reverse-index sites (no literal site count: the translator decides, per site,
    between "unsigned subtraction" and "helper call", and refuses any other shape) -/
theorem rev_sites_helper : ∀ s ∈ revSitesHelper, s ∈ revSitesUnsigned.map (·.1) := by decide +kernel

/-- every regenerated "counted from the end" computation is an unsigned C subtraction or the proved helper -/
theorem rev_sites_unsigned : ∀ p ∈ revSitesUnsigned, p.2 = true := by decide

/-- the translator found reverse-index sites in all three functions (non-vacuity of `rev_sites_unsigned`; the exact
    number of sites per function is enforced by the translator's site list, not by a literal here) -/
theorem rev_sites_complete : 3 ≤ revSitesUnsigned.length := by decide

/-! ### push_indexed_lvalue: `(int64_t)((uint64_t)size - (uint64_t)ind)` -/

/-- the unsigned subtraction converted back to int64_t: exact when the difference fits, and a wrapped result is
    negative.  All five sites of push_indexed_lvalue regenerate to this expression (`hr` by `rfl`; strings without the
    inner conversion of the length, which changes nothing below 2^64). -/
theorem wrap_sub_exact (size n r : Int) (h0 : 0 ≤ size) (h1 : size ≤ 4294967295) (hn : InI64 n)
    (hr : r = trunc64 (trunc64 (truncU64 (truncU64 size - truncU64 n)))) :
    InI64 r ∧ (0 ≤ r → r = size - n) ∧ (size - n ≤ 9223372036854775807 → r = size - n) := by
  subst hr; unfold InI64 at *; unfold trunc64 truncU64; omega

theorem rev_lindex_str_exact (size n : Int) (h0 : 0 ≤ size) (h1 : size ≤ 4294967295) (hn : InI64 n) :
    InI64 (rev_lindex_str size n) ∧ (0 ≤ rev_lindex_str size n → rev_lindex_str size n = size - n) ∧ (size - n ≤ 9223372036854775807 → rev_lindex_str size n = size - n) :=
  wrap_sub_exact size n _ h0 h1 hn (by rw [rev_lindex_str, truncU64_id size h0 (by omega)])

theorem rev_lindex_buf_exact (size n : Int) (h0 : 0 ≤ size) (h1 : size ≤ 4294967295) (hn : InI64 n) :
    InI64 (rev_lindex_buf size n) ∧ (0 ≤ rev_lindex_buf size n → rev_lindex_buf size n = size - n) ∧ (size - n ≤ 9223372036854775807 → rev_lindex_buf size n = size - n) :=
  wrap_sub_exact size n _ h0 h1 hn rfl

theorem rev_lindex_arr_exact (size n : Int) (h0 : 0 ≤ size) (h1 : size ≤ 4294967295) (hn : InI64 n) :
    InI64 (rev_lindex_arr size n) ∧ (0 ≤ rev_lindex_arr size n → rev_lindex_arr size n = size - n) ∧ (size - n ≤ 9223372036854775807 → rev_lindex_arr size n = size - n) :=
  wrap_sub_exact size n _ h0 h1 hn rfl

theorem rev_sindex_buf_exact (size n : Int) (h0 : 0 ≤ size) (h1 : size ≤ 4294967295) (hn : InI64 n) :
    InI64 (rev_sindex_buf size n) ∧ (0 ≤ rev_sindex_buf size n → rev_sindex_buf size n = size - n) ∧ (size - n ≤ 9223372036854775807 → rev_sindex_buf size n = size - n) :=
  wrap_sub_exact size n _ h0 h1 hn rfl

theorem rev_sindex_arr_exact (size n : Int) (h0 : 0 ≤ size) (h1 : size ≤ 4294967295) (hn : InI64 n) :
    InI64 (rev_sindex_arr size n) ∧ (0 ≤ rev_sindex_arr size n → rev_sindex_arr size n = size - n) ∧ (size - n ≤ 9223372036854775807 → rev_sindex_arr size n = size - n) :=
  wrap_sub_exact size n _ h0 h1 hn rfl

/-! ### f_range / f_extract_range: `range_from_end ((int64_t)size, i)` -/

/-- all nine sites regenerate to this call (`hr` by `rfl`; arrays convert `v->size` twice) -/
theorem from_end_exact (size n r : Int) (h0 : 0 ≤ size) (h1 : size ≤ 4294967295) (hn : InI64 n)
    (hr : r = rangeFromEnd (trunc64 size) n) :
    InI64 r ∧ (size - n ≤ 9223372036854775807 → r = size - n) ∧
    (9223372036854775807 < size - n → r = 9223372036854775807) := by
  subst hr
  rw [trunc64_id size (by omega) (by omega)]
  exact rangeFromEnd_spec size n h0 (by omega) hn

theorem rev_range_str_to_exact (size n : Int) (h0 : 0 ≤ size) (h1 : size ≤ 4294967295) (hn : InI64 n) :
    InI64 (rev_range_str_to size n) ∧ (size - n ≤ 9223372036854775807 → rev_range_str_to size n = size - n) ∧
    (9223372036854775807 < size - n → rev_range_str_to size n = 9223372036854775807) :=
  from_end_exact size n _ h0 h1 hn rfl

theorem rev_range_buf_to_exact (size n : Int) (h0 : 0 ≤ size) (h1 : size ≤ 4294967295) (hn : InI64 n) :
    InI64 (rev_range_buf_to size n) ∧ (size - n ≤ 9223372036854775807 → rev_range_buf_to size n = size - n) ∧
    (9223372036854775807 < size - n → rev_range_buf_to size n = 9223372036854775807) :=
  from_end_exact size n _ h0 h1 hn rfl

theorem rev_range_arr_to_exact (size n : Int) (h0 : 0 ≤ size) (h1 : size ≤ 4294967295) (hn : InI64 n) :
    InI64 (rev_range_arr_to size n) ∧ (size - n ≤ 9223372036854775807 → rev_range_arr_to size n = size - n) ∧
    (9223372036854775807 < size - n → rev_range_arr_to size n = 9223372036854775807) :=
  from_end_exact size n _ h0 h1 hn (by rw [rev_range_arr_to, trunc64_trunc64])

theorem rev_range_str_from_exact (size n : Int) (h0 : 0 ≤ size) (h1 : size ≤ 4294967295) (hn : InI64 n) :
    InI64 (rev_range_str_from size n) ∧ (size - n ≤ 9223372036854775807 → rev_range_str_from size n = size - n) ∧
    (9223372036854775807 < size - n → rev_range_str_from size n = 9223372036854775807) :=
  from_end_exact size n _ h0 h1 hn rfl

theorem rev_range_buf_from_exact (size n : Int) (h0 : 0 ≤ size) (h1 : size ≤ 4294967295) (hn : InI64 n) :
    InI64 (rev_range_buf_from size n) ∧ (size - n ≤ 9223372036854775807 → rev_range_buf_from size n = size - n) ∧
    (9223372036854775807 < size - n → rev_range_buf_from size n = 9223372036854775807) :=
  from_end_exact size n _ h0 h1 hn rfl

theorem rev_range_arr_from_exact (size n : Int) (h0 : 0 ≤ size) (h1 : size ≤ 4294967295) (hn : InI64 n) :
    InI64 (rev_range_arr_from size n) ∧ (size - n ≤ 9223372036854775807 → rev_range_arr_from size n = size - n) ∧
    (9223372036854775807 < size - n → rev_range_arr_from size n = 9223372036854775807) :=
  from_end_exact size n _ h0 h1 hn (by rw [rev_range_arr_from, trunc64_trunc64])

theorem rev_erange_str_from_exact (size n : Int) (h0 : 0 ≤ size) (h1 : size ≤ 4294967295) (hn : InI64 n) :
    InI64 (rev_erange_str_from size n) ∧ (size - n ≤ 9223372036854775807 → rev_erange_str_from size n = size - n) ∧
    (9223372036854775807 < size - n → rev_erange_str_from size n = 9223372036854775807) :=
  from_end_exact size n _ h0 h1 hn rfl

theorem rev_erange_buf_from_exact (size n : Int) (h0 : 0 ≤ size) (h1 : size ≤ 4294967295) (hn : InI64 n) :
    InI64 (rev_erange_buf_from size n) ∧ (size - n ≤ 9223372036854775807 → rev_erange_buf_from size n = size - n) ∧
    (9223372036854775807 < size - n → rev_erange_buf_from size n = 9223372036854775807) :=
  from_end_exact size n _ h0 h1 hn rfl

theorem rev_erange_arr_from_exact (size n : Int) (h0 : 0 ≤ size) (h1 : size ≤ 4294967295) (hn : InI64 n) :
    InI64 (rev_erange_arr_from size n) ∧ (size - n ≤ 9223372036854775807 → rev_erange_arr_from size n = size - n) ∧
    (9223372036854775807 < size - n → rev_erange_arr_from size n = 9223372036854775807) :=
  from_end_exact size n _ h0 h1 hn (by rw [rev_erange_arr_from, trunc64_trunc64])

/-- `c[n] = v`, `c[<n] = v` (push_indexed_lvalue, both halves, + the store), for all three kinds, every size and every
    int64 operand: exactly one element is written, strictly below the size, and it is element `n`, resp. `size - n` -/
theorem opLindex_ok (k : Kind) (rev onStack : Bool) (size n v : Int) (out : Out) (hk : SizeOk k size)
    (h : opLindex k rev onStack size n v = .ok out) :
    ∃ ind, out.acc = [wr .owner ind 1] ∧ 0 ≤ ind ∧ ind < size ∧ (InI64 n → ind = if rev then size - n else n) := by
  have hs : size ≤ 4294967295 := by
    obtain ⟨_, hk⟩ := hk
    cases k <;> exact Int.le_trans hk (by decide)
  -- the second half runs on the operand, or on the regenerated `rev_*` of its site: exact whenever it is not negative
  obtain ⟨ind, hx, h⟩ : ∃ ind, (InI64 n → 0 ≤ ind → ind = if rev then size - n else n) ∧
      lindexCore k onStack size ind v = .ok out := by
    cases rev
    · cases k
      · exact ⟨n, fun _ _ => rfl, h⟩
      · cases onStack
        · exact ⟨n, fun _ _ => rfl, h⟩
        · cases h
      · exact ⟨n, fun _ _ => rfl, h⟩
    · cases k <;> cases onStack
      · exact ⟨_, fun hn => (rev_lindex_arr_exact size n hk.1 hs hn).2.1, h⟩
      · exact ⟨_, fun hn => (rev_sindex_arr_exact size n hk.1 hs hn).2.1, h⟩
      · exact ⟨_, fun hn => (rev_lindex_str_exact size n hk.1 hs hn).2.1, h⟩
      · cases h
      · exact ⟨_, fun hn => (rev_lindex_buf_exact size n hk.1 hs hn).2.1, h⟩
      · exact ⟨_, fun hn => (rev_sindex_buf_exact size n hk.1 hs hn).2.1, h⟩
  -- which passed the bounds test of its kind, so it is not negative
  obtain ⟨e, i0, hi⟩ := lindexCore_ok k onStack size ind v out hk h
  exact ⟨ind, e, i0, hi, fun hn => hx hn i0⟩

/-- push_indexed_lvalue (both halves) + the store: the written element lies inside the container, and - the
    *logical* bound - strictly below its size, for all three kinds, every size and every int64 operand. -/
theorem lindex_access_in_bounds (k : Kind) (rev onStack : Bool) (size n v : Int) (out : Out) (hk : SizeOk k size)
    (h : opLindex k rev onStack size n v = .ok out) :
    ∀ a ∈ out.acc, a.inBounds k size 0 ∧ a.off < size := by
  obtain ⟨ind, e, h0, hi, _⟩ := opLindex_ok k rev onStack size n v out hk h
  rw [e]
  exact List.forall_mem_singleton.mpr ⟨one_access_in_bounds k size ind .write h0 (by split <;> omega), hi⟩

/-- the element that `c[<n] = v` writes is exactly element `size - n`: the wrap-around of the unsigned subtraction can
    never turn an out-of-range operand into an accepted index -/
theorem lindex_reverse_exact (k : Kind) (onStack : Bool) (size n v : Int) (out : Out) (hk : SizeOk k size) (hn : InI64 n)
    (h : opLindex k true onStack size n v = .ok out) : ∀ a ∈ out.acc, a.off = size - n := by
  obtain ⟨ind, e, _, _, hx⟩ := opLindex_ok k true onStack size n v out hk h
  rw [e]
  exact List.forall_mem_singleton.mpr (hx hn)

/-- non-vacuity: `a[<2] = 81` on five elements writes element 3; `a[<(-2^63)] = 81` is an LPC error, not UB -/
example : ∃ out, opLindex .arr true false 5 2 81 = .ok out ∧ out.acc.map (·.off) = [3] := ⟨_, rfl, rfl⟩
example : opLindex .arr true false 5 (-9223372036854775808) 81 = .error (.lpc msg_lindex_arr) := rfl
example : opLindex .buf true true 5 (-9223372036854775808) 81 = .error (.lpc msg_sindex_buf) := rfl
example : ∃ out, opErange {} .str true 5 (-9223372036854775808) = .ok out := ⟨_, rfl⟩
example : ∃ out, opRange {} .arr true true 5 (-9223372036854775803) (-9223372036854775808) = .ok out := ⟨_, rfl⟩

end NV.C01
