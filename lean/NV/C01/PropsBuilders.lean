/-
C01 - efun bodies that write or probe by a computed index (lib/lpc/array.c, lib/lpc/buffer.c).

* explode_string, add_array, implode_string: every store lies inside the allocated result.
* subtract_array / alist_sort / intersect_array: every data-dependent index (binary-search probe, heap parent and
  children, merge pointer) stays inside its table, for every table size an array can have and EVERY sequence of
  comparison results.
* write_buffer() / read_buffer(): the byte range handed to memcpy lies inside the buffer.  `writeBufferRange` /
  `readBufferRange` are REGENERATED from the clang AST (the `if`s that move `start` / `len` or `return 0`, in source
  order, with the C integer types: `(size_t)start + theLength` wraps like the C expression).
-/
import NV.C01.Builders
import NV.C01.Search
import NV.C01.Guards

namespace NV.C01
open NV.Gen.C01

/-- invariant of the fill loop: `num + r = d` (the delimiters processed and the ones ahead), every index stored is
    below `size` and below `limit`, the loop never reaches fatal() as long as `d <= size` or `limit <= size` -/
theorem explodeLoop_ok (limit size : Int) (d : Int) (hfit : d ≤ size ∨ limit ≤ size) (hs : 0 ≤ size) (hs2 : size ≤ 2147483647) :
    ∀ (r : Nat) (num : Int) (acc : List Int), 0 ≤ num → num + r = d → (∀ s ∈ acc, 0 ≤ s ∧ s < size ∧ s < num) →
      ∃ num' acc', explodeLoop limit size r num acc = .ok (num', acc') ∧ num ≤ num' ∧ num' ≤ d ∧
        (num' ≤ limit ∨ num' = num) ∧ (∀ s ∈ acc', 0 ≤ s ∧ s < size ∧ s < num') := by
  intro r
  induction r with
  | zero =>
    intro num acc h0 hd hacc
    exact ⟨num, acc, rfl, by omega, by omega, Or.inr rfl, hacc⟩
  | succ r ih =>
    intro num acc h0 hd hacc
    unfold explodeLoop
    cases c1 : guard_explode_loop num limit
    · exact ⟨num, acc, rfl, by omega, by omega, Or.inr rfl, hacc⟩
    · -- the loop goes on: `num < limit`, and slot `num` exists, so fatal() is not reached
      have hl : num < limit := of_decide_eq_true c1
      have c2 : guard_explode_fatal num size = false := by
        unfold guard_explode_fatal
        rw [trunc32_id size (by omega) (by omega)]
        exact decide_eq_false (by omega)
      obtain ⟨n', a', e, h1, h2, h3, h4⟩ := ih (num + 1) (explodeLoopIdx num :: acc) (by omega) (by omega)
        (List.forall_mem_cons.mpr ⟨by unfold explodeLoopIdx; omega, fun s hs' => by have := hacc s hs'; omega⟩)
      rw [c2]
      exact ⟨n', a', e, by omega, h2, .inl (by omega), h4⟩

/-- `explode_string`: for every number of delimiters, with or without trailing text and for every configured array
    limit 1..65535, every store (fill loop and last piece) is inside the allocated result and the driver never reaches
    `fatal("Index out of bounds in explode!")`. -/
theorem explode_stores_in_bounds (maxArr : Int) (d : Nat) (tail : Bool) (h1 : 1 ≤ maxArr) (h2 : maxArr ≤ 65535) :
    ∃ out, explodePieces maxArr d tail = .ok out ∧ ∀ s ∈ out.stores, 0 ≤ s ∧ s < out.alloc := by
  unfold explodePieces
  extract_lets num0 num1 alloc
  -- the piece count, its clamp and the loop bound, as arithmetic
  have e0 : num0 = d + if (explodeReversible || tail) = true then 1 else 0 := rfl
  have eA : alloc = if num0 > maxArr then maxArr else num0 := by
    simp only [alloc, num1, explodeAlloc, guard_explode_clamp, explodeClampTo, decide_eq_true_eq]
    split <;> exact truncU64_id _ (by omega) (by omega)
  have hlim : explodeLimit maxArr = maxArr - 1 := trunc32_id _ (by omega) (by omega)
  clear_value num0 alloc
  obtain ⟨num, acc, e, g1, g2, g3, g4⟩ :=
    explodeLoop_ok (explodeLimit maxArr) alloc d (by omega) (by omega) (by omega) d 0 [] (by omega) (by omega) nofun
  rw [e]
  refine ⟨_, rfl, fun s hs => ?_⟩
  show 0 ≤ s ∧ s < alloc
  rcases List.mem_append.mp hs with hs | hs
  · have := g4 s (List.mem_reverse.mp hs); omega
  · -- the last piece goes to slot `num`: below the clamp the loop stopped at `limit = alloc - 1`; otherwise
    -- `num = d` needs the extra slot, which was counted exactly when a last piece is stored with no delimiter left
    split at hs
    · rename_i hc
      cases List.mem_singleton.mp hs
      unfold explodeLastIdx
      rw [Bool.or_eq_true, decide_eq_true_eq] at hc
      rcases hc with hc | hc
      · rw [if_pos hc] at e0; omega
      · omega
    · cases hs

/-- non-vacuity / the clamped edge: 20 delimiters with MaxArraySize 8 fill 7 slots in the loop and the 8th after it -/
example : explodePieces 8 20 true = .ok ⟨8, [0, 1, 2, 3, 4, 5, 6, 7]⟩ := rfl
example : explodePieces 8 6 true = .ok ⟨7, [0, 1, 2, 3, 4, 5, 6]⟩ := rfl
example : explodePieces 8 7 false = .ok ⟨8, [0, 1, 2, 3, 4, 5, 6, 7]⟩ := rfl

/-- add_array: the two copies lie inside the `res` elements that are allocated, and `res` respects the limit, for all
    `unsigned short` sizes and every non-negative configured limit -/
theorem add_array_in_bounds (maxArr psize rsize : Int) (out : Fill) (hp : 0 ≤ psize ∧ psize ≤ 65535)
    (hr : 0 ≤ rsize ∧ rsize ≤ 65535) (h : addArray maxArr psize rsize = .ok out) :
    out.alloc ≤ maxArr ∧ ∀ w ∈ out.writes, 0 ≤ w.1 ∧ 0 ≤ w.2 ∧ w.1 + w.2 ≤ out.alloc := by
  have hres : addArrayRes psize rsize = psize + rsize := by unfold addArrayRes trunc32; omega
  obtain ⟨g, h⟩ := ok_of_guard h
  cases h
  rw [hres] at g ⊢
  have g := not_or_of_guard g
  simp only [List.forall_mem_cons, List.not_mem_nil, false_imp_iff, implies_true, and_true]
  omega

/-- implode_string: when the size check passes, the `size_t` expression that is allocated has not wrapped - it is
    exactly the number of bytes the fill loop writes (strings + delimiters), the NUL fits behind it, and the result
    respects MaxStringLength - for every count of strings >= 1 and all lengths below 2^62 -/
theorem implode_in_bounds (maxStr size num delLen : Int) (out : Fill) (hm : 0 ≤ maxStr ∧ maxStr ≤ 2147483647)
    (hs : 0 ≤ size ∧ size < 4611686018427387904) (hn : 1 ≤ num ∧ num ≤ 65535)
    (hd : 0 ≤ delLen ∧ delLen < 70368744177664)
    (h : implode maxStr size num delLen = .ok out) :
    out.alloc = size + (num - 1) * delLen + 1 ∧ out.alloc ≤ maxStr + 1 ∧
      ∀ w ∈ out.writes, 0 ≤ w.1 ∧ 0 ≤ w.2 ∧ w.1 + w.2 ≤ out.alloc := by
  -- the product is the one non-linear term: bounded here, an atom for `omega` afterwards
  have hp0 : 0 ≤ (num - 1) * delLen := Int.mul_nonneg (by omega) hd.1
  have hp1 : (num - 1) * delLen ≤ 65534 * delLen := Int.mul_le_mul_of_nonneg_right (by omega) hd.1
  have e1 : truncU64 (trunc32 (num - 1)) = num - 1 := by unfold truncU64 trunc32; omega
  have hal : implodeAlloc size num delLen = size + (num - 1) * delLen := by
    unfold implodeAlloc; rw [e1]; unfold truncU64; omega
  obtain ⟨g, h⟩ := ok_of_guard h
  cases h
  have g' : ¬ implodeAlloc size num delLen > truncU64 maxStr := of_decide_eq_false g
  rw [hal, truncU64_id maxStr hm.1 (by omega)] at g'
  simp only [hal, List.forall_mem_cons, List.not_mem_nil, false_imp_iff, implies_true, and_true, true_and]
  omega

example : addArray 8 3 5 = .ok ⟨8, [(0, 3), (3, 5)]⟩ := rfl
example : addArray 8 4 5 = .error (.lpc msg_add_array) := rfl
example : implode 64 10 3 2 = .ok ⟨15, [(0, 14), (14, 1)]⟩ := rfl

/-- `(l + h) >> 1` lies between the bounds (no `int` overflow for table sizes) -/
theorem bsMid_between (l h : Int) (h0 : 0 ≤ l) (h1 : l ≤ h) (h2 : h ≤ 65535) : l ≤ bsMid l h ∧ bsMid l h ≤ h := by
  unfold bsMid trunc32; omega

/-- loop invariant of the binary search: 0 <= l <= o <= h < size; the probe is inside the table, and with
    h - l + 1 <= fuel the loop ends by itself -/
theorem bsLoop_ok (cmp : Int → Int) (size : Int) (hs : size ≤ 65535) :
    ∀ (fuel : Nat) (l h o : Int), 0 ≤ l → l ≤ o → o ≤ h → h < size → h - l + 1 ≤ fuel →
      (∀ p ∈ (bsLoop cmp fuel l h o).1, 0 ≤ p ∧ p < size) ∧ (bsLoop cmp fuel l h o).2 = true := by
  intro fuel
  induction fuel with
  | zero => intro l h o h0 h1 h2 h3 h4; omega
  | succ f ih =>
    intro l h o h0 h1 h2 h3 h4
    have ho : ∀ p ∈ [o], 0 ≤ p ∧ p < size := fun p hp => by cases List.mem_singleton.mp hp; omega
    unfold bsLoop
    extract_lets d h' l'
    split
    · exact ⟨ho, rfl⟩
    · split
      · exact ⟨ho, rfl⟩
      · rename_i hdone
        simp only [bsDone, decide_eq_true_eq] at hdone
        -- the bound that moves goes just past the probe, so the interval shrinks
        have eh : h' = if d < 0 then o - 1 else h := by
          simp only [h', bsHNext]; rw [trunc32_id (o - 1) (by omega) (by omega)]
        have el : l' = if d < 0 then l else o + 1 := by
          simp only [l', bsLNext]; rw [trunc32_id (o + 1) (by omega) (by omega)]
        clear_value h' l'
        have hm := bsMid_between l' h' (by omega) (by omega) (by omega)
        have r := ih l' h' (bsMid l' h') (by omega) hm.1 hm.2 (by omega) (by omega)
        exact ⟨List.forall_mem_cons.mpr ⟨ho o (List.mem_singleton.mpr rfl), r.1⟩, r.2⟩

/-- `subtract_array_probes_in_bounds`: for every subtrahend size 1..65535 and every comparison oracle, each probe
    `svt + o` of the binary search lies in `svt[0 .. size)`, and the loop ends by itself within size + 1 rounds -/
theorem subtract_array_probes_in_bounds (size : Int) (h1 : 1 ≤ size) (hs : size ≤ 65535) (cmp : Int → Int) :
    (∀ p ∈ (bsearch size cmp).1, 0 ≤ p ∧ p < size) ∧ (bsearch size cmp).2 = true := by
  unfold bsearch bsLInit bsOInit bsHInit trunc32
  apply bsLoop_ok cmp size hs <;> omega

/-- sift-up: the parent of a node 1 <= curix < size is a smaller node of the table -/
theorem heap_parent_in_bounds (size curix : Int) (h1 : 1 ≤ curix) (h2 : curix < size) (hs : size ≤ 65535) :
    0 ≤ heapParent curix ∧ heapParent curix < curix := by
  unfold heapParent trunc32; omega

theorem siftUpPath_in_bounds (size : Int) (hs : size ≤ 65535) : ∀ (fuel : Nat) (curix : Int), 1 ≤ curix → curix < size →
    ∀ p ∈ siftUpPath fuel curix, 0 ≤ p ∧ p < size := by
  intro fuel
  induction fuel with
  | zero => nofun
  | succ f ih =>
    intro c h1 h2
    have hb := heap_parent_in_bounds size c h1 h2 hs
    unfold siftUpPath
    dsimp only
    split
    · exact List.forall_mem_singleton.mpr (by omega)
    · exact List.forall_mem_cons.mpr ⟨by omega, ih _ (by omega) (by omega)⟩

/-- sift-down: every index of sv_tab[] read in one step, and the node moved to, is inside the table -/
theorem heap_children_guarded (size curix : Int) (sel : Bool) (h0 : 0 ≤ curix) (h2 : curix < size) (hs : size ≤ 65535) :
    (∀ p ∈ (siftDownReads size curix sel).1, 0 ≤ p ∧ p < size) ∧
    (∀ c, (siftDownReads size curix sel).2 = some c → curix < c ∧ c < size) := by
  unfold siftDownReads
  extract_lets c1 c2 r2 c
  have e1 : c1 = 2 * curix + 1 := by simp only [c1]; unfold heapChild1 trunc32; omega
  have e2 : c2 = 2 * curix + 2 := by simp only [c2]; unfold heapChild2 trunc32; omega
  -- both children are read only behind `child2 < size`, and the node moved to is one of them
  have hr2 : ∀ p ∈ r2, 0 ≤ p ∧ p < size := by
    simp only [r2]; split
    · simp only [List.forall_mem_cons, List.not_mem_nil, false_imp_iff, implies_true, and_true]; omega
    · nofun
  have hc : c = c1 ∨ c = c2 := by simp only [c]; split <;> simp only [true_or, or_true]
  clear_value c1 c2 r2 c
  split
  · exact ⟨List.forall_mem_append.mpr ⟨hr2, fun p hp => by cases List.mem_singleton.mp hp; omega⟩,
      fun c' hc' => by cases hc'; omega⟩
  · exact ⟨hr2, nofun⟩

/-- intersect_array: the merge pointer never leaves the sorted copy of the first operand -/
theorem isect_pointer_in_bounds (i a1s : Int) (h0 : 0 ≤ i) (h1 : i < a1s) (hs : a1s ≤ 65535) :
    ∀ j, isectAdvance i a1s = some j → 0 ≤ j ∧ j < a1s := by
  intro j hj
  rcases of_ite_eq hj with ⟨_, h⟩ | ⟨c, h⟩ <;> cases h
  have c := of_decide_eq_false (eq_false_of_ne_true c)
  unfold trunc32 at c; omega

/-- non-vacuity: a table of 10 and an oracle that always answers "greater": the search probes 4, 7, 8, 9 and ends -/
example : bsearch 10 (fun _ => 1) = ([4, 7, 8, 9], true) := by decide +kernel
example : bsearch 1 (fun _ => -1) = ([0], true) := by decide +kernel
example : (siftDownReads 10 1 true).1 = [4, 3, 4] := by decide +kernel

/-- `write_buffer_range_in_bounds`: for every buffer size (unsigned int), every int64 start offset and every payload
    length a C object can have (< 2^32: SVALUE_STRLEN, buf->size, sizeof (int)): when the function reaches its memcpy,
    the destination range [start, start + theLength) is inside the buffer -/
theorem write_buffer_range_in_bounds (size start len o l : Int) (hs0 : 0 ≤ size) (hs1 : size ≤ 4294967295)
    (h1 : -9223372036854775808 ≤ start) (h2 : start ≤ 9223372036854775807) (hl0 : 0 ≤ len) (hl1 : len ≤ 4294967295)
    (h : writeBufferRange size start len = some (o, l)) : 0 ≤ o ∧ o + l ≤ size ∧ l = len := by
  rcases of_ite_eq h with ⟨c, h⟩ | ⟨c, h⟩ <;> rw [decide_eq_true_eq] at c
  · rcases of_ite_eq h with ⟨_, h⟩ | ⟨c', h⟩
    · cases h
    · rcases of_ite_eq h with ⟨_, h⟩ | ⟨c2, h⟩ <;> cases h
      rw [decide_eq_true_eq] at c' c2
      unfold trunc64 truncU64 at *; omega
  · rcases of_ite_eq h with ⟨_, h⟩ | ⟨c2, h⟩ <;> cases h
    rw [decide_eq_true_eq] at c2
    unfold trunc64 truncU64 at *; omega

/-- the end of read_buffer(), reached on four paths (start counted from the end or not, length given or not):
    nothing is read from an offset at or behind the end, and the length is cut to what is left -/
theorem read_clamp_ok (size start len o l : Int) (hs0 : 0 ≤ size) (hs1 : size ≤ 4294967295)
    (h1 : 0 ≤ start) (h2 : start ≤ 9223372036854775807) (hl0 : 0 ≤ len) (hl1 : len ≤ 9223372036854775807)
    (h : (if decide (truncU64 start ≥ size) then none
          else if decide (truncU64 (truncU64 start + len) > size) then
            some (start, truncU64 (truncU64 (size - truncU64 start)))
          else some (start, len)) = some (o, l)) :
    0 ≤ o ∧ 0 ≤ l ∧ o + l ≤ size ∧ o < size := by
  rw [truncU64_id start h1 (by omega)] at h
  rcases of_ite_eq h with ⟨_, h⟩ | ⟨c1, h⟩
  · cases h
  · rcases of_ite_eq h with ⟨c2, h⟩ | ⟨c2, h⟩ <;> cases h <;> simp only [decide_eq_true_eq] at c1 c2 <;>
      unfold truncU64 at * <;> omega

/-- read_buffer(): the scan / copy range [start, start + len) is inside the buffer, for every requested length below
    2^63 (a NEGATIVE LPC length is converted to a size_t >= 2^63: then `(size_t)start + len` wraps, the clamp does not
    fire and the scan is only stopped by the zero bytes of the buffer_t tail padding - outside this theorem, see notes) -/
theorem read_buffer_range_in_bounds (size start len o l : Int) (hs0 : 0 ≤ size) (hs1 : size ≤ 4294967295)
    (h1 : -9223372036854775808 ≤ start) (h2 : start ≤ 9223372036854775807) (hl0 : 0 ≤ len) (hl1 : len ≤ 9223372036854775807)
    (h : readBufferRange size start len = some (o, l)) : 0 ≤ o ∧ 0 ≤ l ∧ o + l ≤ size ∧ o < size := by
  have hu : truncU64 size = size := truncU64_id size hs0 (by omega)
  have hz : trunc64 0 = 0 := by decide
  -- `start < 0`: counted from the end, and given up when still negative; then `len == 0` stands for "the rest"
  rcases of_ite_eq h with ⟨c, h⟩ | ⟨c, h⟩ <;> rw [decide_eq_true_eq, hz] at c
  · have e : trunc64 (trunc64 (trunc64 size + start)) = size + start := by unfold trunc64; omega
    rcases of_ite_eq h with ⟨_, h⟩ | ⟨c', h⟩
    · cases h
    · rw [decide_eq_true_eq, hz, e] at c'
      rcases of_ite_eq h with ⟨_, h⟩ | ⟨_, h⟩
      · exact read_clamp_ok size _ _ o l hs0 hs1 (by omega) (by omega) (by omega) (by omega) h
      · exact read_clamp_ok size _ len o l hs0 hs1 (by omega) (by omega) hl0 hl1 h
  · rcases of_ite_eq h with ⟨_, h⟩ | ⟨_, h⟩
    · exact read_clamp_ok size start _ o l hs0 hs1 (by omega) h2 (by omega) (by omega) h
    · exact read_clamp_ok size start len o l hs0 hs1 (by omega) h2 hl0 hl1 h

/-- non-vacuity; 8-byte buffer, start -12, 4-byte payload: still negative after counting from the end, rejected by the
    second `start < 0` test (a wrapping `(size_t)start + theLength` comparison alone would let it through) -/
example : writeBufferRange 8 (-12) 4 = none := by decide +kernel
example : writeBufferRange 8 (-4) 4 = some (4, 4) := by decide +kernel
example : writeBufferRange 8 5 4 = none := by decide +kernel
example : readBufferRange 8 (-3) 0 = some (5, 3) := by decide +kernel
example : readBufferRange 8 2 100 = some (2, 6) := by decide +kernel

end NV.C01
