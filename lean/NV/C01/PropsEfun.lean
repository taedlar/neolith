/-
C01 — `efun_args_checked`: the dispatch-time type checks of efun calls, over the REGENERATED efun table and
dispatch-check lists, through BOTH dispatchers: the F_EFUN opcodes of eval_instruction, and call_function_pointer()
for efun pointers with bound arguments (`fp_efun_args_checked`: they get the same checks).
-/
import NV.C01.EfunCheck
import NV.C01.FunPtr

namespace NV.C01
open NV.Gen.C01

/-- `efun_args_checked`, table form: for every efun of the regenerated table and every arity the compiler lets
    through (min_arg..max_arg; a varargs efun is always dispatched by F_EFUNV, whose checks do not depend on the
    arity), every argument position below min_arg is type-checked by the dispatcher against the mask of that same
    position, no check reads outside `instrs[].type[4]`, and one-byte efun opcodes are exactly-one-argument efuns. -/
theorem efun_args_checked : efuns.all efunOk = true := by decide +kernel

/-- per-efun reading of the table theorem -/
theorem efun_args_checked_mem (e : Efun) (he : e ∈ efuns) (n : Nat) (hn : n ∈ aritiesOf e) : covered e n = true := by
  have h := List.all_eq_true.mp efun_args_checked e he
  simp only [efunOk, Bool.and_eq_true, List.all_eq_true] at h
  exact h.1.2 n hn

/-- the F_EFUNV checks do not depend on the number of arguments on the stack -/
theorem efunv_checks_indep (e : Efun) (n m : Nat) (h1 : formOf e n = .efunV) (h2 : formOf e m = .efunV) :
    checksOf e n = checksOf e m := by
  simp only [checksOf, h1, h2]

example : (efuns.filter (fun e => e.maxArg = -1)).length > 10 ∧ (efuns.filter (fun e => decide (e.minArg ≥ 3))).length > 5 := by
  decide +kernel

/-- the statement order of the FP_EFUN case as regenerated: bound arguments merged and the default pushed BEFORE the
    number of arguments to check is taken -/
theorem fp_efun_order : fpEfunOrder = ["merge", "default", "ncap", "nrule", "loop", "call"] := by decide +kernel

/-- every efun of the table: 0 <= min_arg <= number of type slots of instrs[] -/
theorem efuns_min_le_slots : efuns.all (fun e => decide (0 ≤ e.minArg) && decide (e.minArg ≤ instrTypeSlots)) = true := by decide +kernel

/-! what each statement of the FP_EFUN case does to (num_arg, n) -/

theorem fpStep_merge (e : Efun) (b : Int) (st : FpState) :
    fpStep e b st "merge" = { st with numArg := st.numArg + b } := rfl

theorem fpStep_default (e : Efun) (b : Int) (st : FpState) : fpStep e b st "default" =
    if st.numArg = e.minArg - 1 ∧ e.dflt ≠ 0 then { st with numArg := st.numArg + 1 } else st := rfl

theorem fpStep_ncap (e : Efun) (b : Int) (st : FpState) : fpStep e b st "ncap" = { st with n := st.numArg } := rfl

theorem fpStep_nrule (e : Efun) (b : Int) (st : FpState) : fpStep e b st "nrule" =
    if fpEfunUseMin st.n e.maxArg then { st with n := e.minArg } else st := rfl

theorem fpStep_loop (e : Efun) (b : Int) (st : FpState) : fpStep e b st "loop" = st := rfl

theorem fpStep_call (e : Efun) (b : Int) (st : FpState) : fpStep e b st "call" = st := rfl

/-- in the regenerated order `n` is taken from `num_arg` AFTER the merge and the default: the loop runs over all
    arguments, or over min_arg of them when there are four or more (or the efun is varargs) -/
theorem fpFinal_n (e : Efun) (bound ct : Nat) : (fpFinal e bound ct).n =
    if fpEfunUseMin (fpFinal e bound ct).numArg e.maxArg then e.minArg else (fpFinal e bound ct).numArg := by
  unfold fpFinal; rw [fp_efun_order]
  simp only [List.foldl, fpStep_merge, fpStep_default, fpStep_ncap, fpStep_nrule, fpStep_loop, fpStep_call]
  split <;> split <;> rfl

/-- `fp_efun_args_checked`: for EVERY efun with 0 <= min_arg <= 4 (all of the table: `efuns_min_le_slots`), every
    number of bound arguments and every number of call-time arguments that passes the arity tests: every argument
    position below min_arg is checked against the type mask of the SAME position and reported with its own number,
    no check touches a slot outside the arguments, no check reads outside `instrs[i].type[4]`. -/
theorem fp_efun_args_checked (e : Efun) (bound ct : Nat) (h0 : 0 ≤ e.minArg) (h4 : e.minArg ≤ instrTypeSlots)
    (hacc : fpAccepts e (fpFinal e bound ct).numArg) :
    (∀ i : Nat, (i : Int) < e.minArg → ((i : Int) + 1, (i : Int), (i : Int) + 1) ∈ fpChecks e bound ct) ∧
    (∀ c ∈ fpChecks e bound ct, 1 ≤ c.1 ∧ c.1 ≤ (fpFinal e bound ct).numArg ∧ 0 ≤ c.2.1 ∧ c.2.1 < instrTypeSlots ∧ c.2.2 = c.1) := by
  unfold fpAccepts at hacc
  have hn := fpFinal_n e bound ct
  unfold fpChecks
  generalize fpFinal e bound ct = st at hacc hn ⊢
  have hslots : (instrTypeSlots : Int) = 4 := by decide
  -- the loop bound: `n ≤ 4` is also why the candidates `range (instrTypeSlots + 4)` of `fpChecks` leave no round out
  have hnb : e.minArg ≤ st.n ∧ st.n ≤ st.numArg ∧ st.n ≤ 4 := by
    rw [hn]; simp only [fpEfunUseMin, Bool.or_eq_true, decide_eq_true_eq]
    unfold trunc32; split <;> omega
  -- membership in the list of checks is: j below the loop bound `n`, the triple computed from j
  simp only [List.mem_map, List.mem_filter, List.mem_range, Bool.and_eq_true, decide_eq_true_eq, fpEfunLoopCond, Prod.mk.injEq]
  unfold fpEfunLoopStart fpEfunChkSlot fpEfunChkTypeIdx fpEfunChkArgNo trunc32
  refine ⟨fun i hi => ⟨i, ?_, ?_⟩, ?_⟩
  · omega
  · omega
  · rintro c ⟨j, hj, rfl⟩
    dsimp only; omega

/-- table form -/
theorem fp_efun_args_checked_table (e : Efun) (he : e ∈ efuns) (bound ct : Nat)
    (hacc : fpAccepts e (fpFinal e bound ct).numArg) :
    ∀ i : Nat, (i : Int) < e.minArg → ((i : Int) + 1, (i : Int), (i : Int) + 1) ∈ fpChecks e bound ct := by
  have h := List.all_eq_true.mp efuns_min_le_slots e he
  simp only [Bool.and_eq_true, decide_eq_true_eq] at h
  exact (fp_efun_args_checked e bound ct h.1 h.2 hacc).1

/-- merge_arg_lists() tests the stack room before `sp += num_arr_arg` (repaired; the guard itself is the regenerated
    `guard_stack_merge_arg_lists`, lemma `g_stack_check_merge`) -/
theorem merge_arg_lists_checked : mergeArgListsStackCheck = true := by decide

/-- non-vacuity: `(: explode, "a b c" :)` evaluated with one more argument: both positions are checked -/
example : (fpChecks ⟨"x", 300, 2, 2, [4, 4, 0, 0], 0⟩ 1 1).map (·.1) = [1, 2] := by decide +kernel
/-- `(: capitalize, 12345 :)` evaluated without arguments: position 1 (the bound one) is checked -/
example : (fpChecks ⟨"x", 300, 1, 1, [4, 0, 0, 0], 0⟩ 1 0).map (·.1) = [1] := by decide +kernel

end NV.C01
