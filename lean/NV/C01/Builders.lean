/-
C01 model, part 6: array builders that write by index.  `explode_string` (lib/lpc/array.c):

    count the delimiters -> num (+1: the last piece);  if (num > MAX) num = MAX;  ret = allocate_empty_array (num);
    limit = MAX - 1;
    for (...; *p && num < limit; ) at every delimiter { if (num >= ret->size) fatal (..); ret->item[num] = piece; num++; }
    ret->item[num] = last piece;

Clamp, allocation argument, loop bound, loop condition, fatal guard and both store indices are the REGENERATED
`NV.Gen.C01.guard_explode_* / explode*`, so a change of the loop bound (`MAX - 1` -> `MAX`) changes the definitions the
theorems are about.  The scan itself is abstracted to what matters for the indices: `d` = delimiters found (the fill
loop finds the same ones as the counting loop), `tail` = text follows the last delimiter.
-/
import NV.C01.IndexOps

namespace NV.C01
open NV.Gen.C01

structure ExplodeOut where
  alloc : Int               -- elements of the allocated result
  stores : List Int         -- indices written, in order
  deriving Repr, DecidableEq

/-- the fill loop over the `r` delimiters still ahead: (num after the loop, indices stored so far - newest first) -/
def explodeLoop (limit size : Int) : Nat → Int → List Int → Except Err (Int × List Int)
  | 0, num, acc => .ok (num, acc)
  | r + 1, num, acc =>
    if !guard_explode_loop num limit then .ok (num, acc)          -- loop condition `num < limit` is false
    else if guard_explode_fatal num size then .error (.fatal "Index out of bounds in explode!")
    else explodeLoop limit size r (num + 1) (explodeLoopIdx num :: acc)

def explodePieces (maxArr : Int) (d : Nat) (tail : Bool) : Except Err ExplodeOut :=
  let num0 : Int := (d : Int) + (if explodeReversible || tail then 1 else 0)
  let num1 := if guard_explode_clamp num0 maxArr then explodeClampTo maxArr else num0
  let alloc := explodeAlloc num1
  match explodeLoop (explodeLimit maxArr) alloc d 0 [] with
  | .error e => .error e
  | .ok (num, acc) =>
    -- last piece: always (reversible) / when text is left: after the last delimiter, or delimiters were left unprocessed
    let last := if explodeReversible || tail || decide (num < d) then [explodeLastIdx num] else []
    .ok ⟨alloc, acc.reverse ++ last⟩

/-! ### add_array (p, r): `res = p->size + r->size`, size check, allocation of `res`, p copied to [0, psize), r to
    [psize, psize + rsize) -/

structure Fill where
  alloc : Int
  writes : List (Int × Int)      -- (first index, count)
  deriving Repr, DecidableEq

def addArray (maxArr psize rsize : Int) : Except Err Fill :=
  let res := addArrayRes psize rsize
  if guard_add_array res maxArr then .error (.lpc msg_add_array)
  else .ok ⟨res, [(0, psize), (psize, rsize)]⟩

/-! ### implode_string (arr, del): `num` strings of total length `size`, separated by `del` (del_len bytes):
    new_string (size + (num - 1) * del_len) gives that many bytes + 1 for the NUL; the fill loop writes every string,
    `del` in front of all but the first, and the NUL. -/

def implode (maxStr size num delLen : Int) : Except Err Fill :=
  if guard_implode size num delLen maxStr then .error (.lpc msg_implode)
  else .ok ⟨implodeAlloc size num delLen + 1, [(0, size + (num - 1) * delLen), (size + (num - 1) * delLen, 1)]⟩

end NV.C01
