/-
C04 — the invariants of the limits machine, each an instance of the rule of NV/C04/ExecRule.lean:

* a limit error in flight carries its bit in `error_state` (`BitsOk`) - what makes do_catch re-raise it;
* no catch completes with a limit error (`EvOk`);
* tick accounting (`Acc`): `ticks + eval_cost` is conserved until the budget expires; after the expiry nothing executes
  any more, because no catch frame can complete and a safe apply that stops the error leaves its caller one tick
  (fix d927c4d) - so every safe apply of the program adds at most one instruction to the bound, and a normal return
  without an expiry used fewer instructions than the budget (`exec_NE`, the oracle clause `completed-after-expiry`);
* the control stack never grows past MaxCallDepth (`DepthInv`);
* the value stack stays inside its allocation (`StackInv`): all pushes of the machine are checked (STACK_CHECK /
  CHECK_AND_PUSH: function locals) except the single `sp++` of do_catch, which lands in the slack reset_interpreter
  leaves below the end (`size - 5`).  Unchecked *argument* pushes (F_PUSH sequences, merge_arg_lists,
  call_efun_callback arguments) are not part of the machine: their overflow is the open finding of C01.
-/
import NV.C04.ExecRule
import NV.C04.Spec

namespace NV.C04

open NV.Gen.C04

theorem or_and_self_ne (a b : Nat) (hb : b ≠ 0) : (a ||| b) &&& b ≠ 0 := by
  rw [Nat.and_or_distrib_right, Nat.and_self]
  intro h
  exact hb (Nat.or_eq_zero_iff.mp h).2

/-- one of the two limit bits is set: what makes do_catch re-raise -/
def limitSet (s : St) : Prop := hasEs s esMaxEvalCost = true ∨ hasEs s esStackFull = true

theorem hasEs_setEs (s : St) (b : Nat) (hb : b ≠ 0) : hasEs (setEs s b) b = true := by
  simp [hasEs, setEs, or_and_self_ne s.es b hb]

theorem hasEs_self {s : St} {b : Nat} (hb : b ≠ 0) (h : s.es = b) : hasEs s b = true := by
  simp [hasEs, h, hb]

theorem limitSet_setEs_cost (s : St) : limitSet (setEs s esMaxEvalCost) :=
  Or.inl (hasEs_setEs s _ (by decide))

/-- the bit a limit error travels with: ES_MAX_EVAL_COST for "Too long evaluation", ES_STACK_FULL for the two others -/
def Kind.bit : Kind → Nat
  | .cost => esMaxEvalCost
  | _ => esStackFull

/-- a limit error in flight carries its bit -/
def BitsOk (r : Out × St) : Prop := ∀ k, r.1 = .raised k → k.isLimit = true → hasEs r.2 k.bit = true

theorem BitsOk_of_ne {o : Out} (h : ∀ k, o = .raised k → k.isLimit = false) (s : St) : BitsOk (o, s) :=
  fun k e hl => by rw [h k e] at hl; cases hl

theorem BitsOk_ok (s : St) : BitsOk (.ok, s) := fun _ e => by cases e
theorem BitsOk_fuel (s : St) : BitsOk (.fuel, s) := fun _ e => by cases e

theorem BitsOk_raise (cfg : Cfg) (ctx : Ctx) (k : Kind) {s : St} (h : hasEs s k.bit = true) :
    BitsOk (raise cfg ctx k s) :=
  fun _ e _ => by cases e; exact h

theorem BitsOk_seqM {r : Out × St} {k : St → Out × St} (h1 : BitsOk r) (h2 : ∀ s, BitsOk (k s)) :
    BitsOk (seqM r k) := by
  unfold seqM
  split
  · exact h2 _
  · exact h1

theorem bitsRule (cfg : Cfg) : Rule cfg (fun _ => True) (fun _ _ r => BitsOk r) where
  weaken h _ := h
  seq h1 h2 := BitsOk_seqM h1 h2
  idle _ _ _ _ h := BitsOk_of_ne h _
  tick ctx s := by
    unfold tick
    simp only
    split
    · exact BitsOk_raise _ _ _ (hasEs_setEs { s with ticks := s.ticks + 1, cost := s.cost - 1 } _ (by decide))
    · exact BitsOk_ok _
  full ctx k b s hk := BitsOk_raise _ _ _ (by rcases hk with rfl | rfl <;> exact hasEs_setEs s _ (by decide))
  pushedFrame _ := BitsOk_ok _
  pushedValues _ _ := BitsOk_ok _
  ret h := BitsOk_seqM h fun _ => BitsOk_ok _
  safe {_ _ o s1} _ _ := by
    cases o
    · exact BitsOk_ok _
    · exact BitsOk_ok _
    · exact BitsOk_fuel _
  caught {_ s o s1} ctx _ _ _ := by
    cases o with
    | ok => exact BitsOk_ok _
    | fuel => exact BitsOk_fuel _
    | raised k =>
      show BitsOk (catchLanding cfg ctx s.depth s.sp k s1)
      unfold catchLanding
      simp only
      split
      · exact BitsOk_raise _ _ _ (hasEs_self (by decide) rfl)
      · split
        · exact BitsOk_raise _ _ _ (hasEs_self (by decide) rfl)
        · exact BitsOk_ok _

/-- every limit error in flight carries its bit in error_state, whatever the receiving context -/
theorem exec_BitsOk (cfg : Cfg) (fuel : Nat) (ctx : Ctx) (sh : Sh) (s : St) : BitsOk (exec cfg fuel ctx sh s) :=
  exec_rule (bitsRule cfg) (fun _ _ _ _ => trivial) fuel ctx sh s

/-- whichever limit error is in flight, one of the two bits do_catch tests is set -/
theorem limitSet_of_BitsOk {r : Out × St} (h : BitsOk r) {k : Kind} (hk : r.1 = .raised k) (hl : k.isLimit = true) :
    limitSet r.2 := by
  have := h k hk hl
  cases k
  · exact Or.inl this
  · exact Or.inr this
  · exact Or.inr this
  · cases hl
  · cases hl

/-- `r` adds no violation to the events of `s` -/
def EvOk (s : St) (r : Out × St) : Prop := judgeEv s.evs = [] → judgeEv r.2.evs = []

theorem EvOk_of_evs_eq {s : St} {r : Out × St} (h : r.2.evs = s.evs) : EvOk s r := by
  intro h0; rw [h]; exact h0

theorem EvOk_seqM {s : St} {r : Out × St} {k : St → Out × St} (h1 : EvOk s r) (h2 : ∀ s1, EvOk s1 (k s1)) :
    EvOk s (seqM r k) := by
  unfold seqM
  split
  · intro h0; exact h2 _ (h1 h0)
  · exact h1

theorem judgeEv_cons_afterCatch (k : Kind) (evs : List Ev) (hk : k.isLimit = false) :
    judgeEv (.afterCatch k :: evs) = judgeEv evs := by
  simp [judgeEv, hk]

theorem judgeEv_cons_safe (k : Kind) (evs : List Ev) : judgeEv (.safeSwallowed k :: evs) = judgeEv evs := by
  simp [judgeEv]

/-- do_catch completes only when neither bit is set, and a limit error carries one -/
theorem EvOk_catchLanding (cfg : Cfg) (ctx : Ctx) (d0 p0 : Int) (k : Kind) (s0 s : St)
    (hb : BitsOk (.raised k, s)) (h : EvOk s0 (.raised k, s)) : EvOk s0 (catchLanding cfg ctx d0 p0 k s) := by
  unfold catchLanding
  simp only
  split
  · exact h
  · split
    · exact h
    · rename_i h1 h2
      have hk : k.isLimit = false := by
        cases hl : k.isLimit with
        | false => rfl
        | true => exact ((limitSet_of_BitsOk hb rfl hl).elim h1 h2).elim
      intro h0
      show judgeEv (Ev.afterCatch k :: s.evs) = []
      rw [judgeEv_cons_afterCatch _ _ hk]
      exact h h0

theorem evRule (cfg : Cfg) : Rule cfg BitsOk (fun _ s r => EvOk s r) where
  weaken h _ := h
  seq h1 h2 := EvOk_seqM h1 h2
  idle _ _ _ _ _ := EvOk_of_evs_eq rfl
  tick ctx s := EvOk_of_evs_eq (by unfold tick; simp only; split <;> rfl)
  full _ _ _ _ _ := EvOk_of_evs_eq rfl
  pushedFrame _ := EvOk_of_evs_eq rfl
  pushedValues _ _ := EvOk_of_evs_eq rfl
  ret h := EvOk_seqM h fun _ => EvOk_of_evs_eq rfl
  safe {_ _ o s1} _ h := by
    cases o with
    | ok => exact h
    | fuel => exact h
    | raised k =>
      intro h0
      show judgeEv (Ev.safeSwallowed k :: s1.evs) = []
      rw [judgeEv_cons_safe]
      exact h h0
  caught {_ _ o s1} ctx _ hb h := by
    cases o with
    | ok => exact h
    | fuel => exact h
    | raised k => exact EvOk_catchLanding cfg ctx _ _ k _ s1 hb h

/-- whatever the shape, the context and the fuel: no catch() completes normally with a limit error -/
theorem exec_EvOk (cfg : Cfg) (fuel : Nat) (ctx : Ctx) (sh : Sh) (s : St) : EvOk s (exec cfg fuel ctx sh s) :=
  exec_rule (evRule cfg) (exec_BitsOk cfg) fuel ctx sh s

/-- instructions executed plus instructions left -/
def phi (s : St) : Int := (s.ticks : Int) + s.cost

theorem phi_start (cfg : Cfg) : phi (St.start cfg) = cfg.maxCost := by simp [phi, St.start]

/-- the budget has not expired on the way to this result: completed, or an error other than the evaluation-cost one -/
def Out.live : Out → Bool
  | .ok => true
  | .raised k => k != .cost
  | .fuel => false

/-- Tick accounting of a step from `s` to `r`; `n` bounds the expiries that safe applies stopped on the way.  The
    instructions never exceed what was there plus `n`; a live result either conserved `ticks + eval_cost` (nothing
    expired) or holds the single tick a safe apply left. -/
def Acc (n : Nat) (s : St) (r : Out × St) : Prop :=
  0 < s.cost → s.ticks ≤ r.2.ticks ∧ (r.2.ticks : Int) ≤ phi s + n ∧
    (r.1.live = true → 0 < r.2.cost ∧ (phi r.2 = phi s ∨ r.2.cost = 1 ∧ phi r.2 ≤ phi s + n))

theorem Acc.ticks_le {n : Nat} {s : St} {r : Out × St} (h : Acc n s r) (hc : 0 < s.cost) :
    (r.2.ticks : Int) ≤ phi s + n :=
  (h hc).2.1

theorem Acc.of_live {n : Nat} {s : St} {r : Out × St} (h : Acc n s r) (hc : 0 < s.cost) (hl : r.1.live = true) :
    0 < r.2.cost ∧ (phi r.2 = phi s ∨ r.2.cost = 1 ∧ phi r.2 ≤ phi s + n) :=
  (h hc).2.2 hl

theorem Acc_weaken {n m : Nat} {s : St} {r : Out × St} (h : Acc n s r) (hnm : n ≤ m) : Acc m s r := by
  intro hc
  obtain ⟨h1, h2, h3⟩ := h hc
  refine ⟨h1, by omega, fun hl => ?_⟩
  obtain ⟨h4, h5⟩ := h3 hl
  exact ⟨h4, by omega⟩

theorem Acc_of_same {n : Nat} {s s1 s2 : St} {o o' : Out} (h : Acc n s (o, s1)) (ht : s2.ticks = s1.ticks)
    (hc : s2.cost = s1.cost) (hl : o'.live = true → o.live = true) : Acc n s (o', s2) := by
  intro hp
  obtain ⟨h1, h2, h3⟩ := h hp
  unfold phi at *
  simp only [ht, hc] at *
  exact ⟨h1, h2, fun l => h3 (hl l)⟩

theorem Acc_same {s s1 : St} (o : Out) (ht : s1.ticks = s.ticks) (hc : s1.cost = s.cost) : Acc 0 s (o, s1) := by
  intro hp
  refine ⟨Nat.le_of_eq ht.symm, ?_, fun _ => ⟨hc ▸ hp, Or.inl ?_⟩⟩
  · show (s1.ticks : Int) ≤ phi s + (0 : Nat)
    unfold phi; omega
  · show phi s1 = phi s
    unfold phi; rw [ht, hc]

theorem Acc_seqM {n m : Nat} {s : St} {r : Out × St} {k : St → Out × St} (h1 : Acc n s r)
    (h2 : ∀ s1, Acc m s1 (k s1)) : Acc (n + m) s (seqM r k) := by
  unfold seqM
  split
  · rename_i s1
    intro hc
    obtain ⟨a1, a2, a3⟩ := h1 hc
    obtain ⟨a4, a5⟩ := a3 rfl
    obtain ⟨b1, b2, b3⟩ := h2 s1 a4
    unfold phi at *
    simp only at a1 a2 a4 a5
    refine ⟨by omega, by omega, fun hl => ?_⟩
    obtain ⟨b4, b5⟩ := b3 hl
    exact ⟨b4, by omega⟩
  · exact Acc_weaken h1 (Nat.le_add_right _ _)

theorem Acc_tick (cfg : Cfg) (ctx : Ctx) (s : St) : Acc 0 s (tick cfg ctx s) := by
  intro hc
  unfold tick
  simp only
  split
  · rename_i hz
    have hz' : s.cost - 1 = 0 := by simpa using hz
    refine ⟨Nat.le_succ _, ?_, nofun⟩
    show ((s.ticks + 1 : Nat) : Int) ≤ phi s + (0 : Nat)
    unfold phi; omega
  · rename_i hz
    have hz' : s.cost - 1 ≠ 0 := by simpa using hz
    refine ⟨Nat.le_succ _, ?_, fun _ => ⟨?_, Or.inl ?_⟩⟩
    · show ((s.ticks + 1 : Nat) : Int) ≤ phi s + (0 : Nat)
      unfold phi; omega
    · show 0 < s.cost - 1
      omega
    · show ((s.ticks + 1 : Nat) : Int) + (s.cost - 1) = phi s
      unfold phi; omega

/-- the landing of safe_apply: the caller goes on with the one tick left where the budget ran out inside (one more
    instruction than there would have been), with the cost as it is otherwise -/
theorem Acc_landed {n : Nat} {s s1 t : St} {o : Out} (h : Acc n s (o, s1)) (ht : t.ticks = s1.ticks)
    (hc : t.cost = 1 ∨ o.live = true ∧ t.cost = s1.cost) : Acc (n + 1) s (.ok, t) := by
  intro hp
  obtain ⟨h1, h2, h3⟩ := h hp
  unfold phi at *
  simp only [ht] at *
  refine ⟨h1, by omega, fun _ => ?_⟩
  rcases hc with hc | ⟨hl, hc⟩
  · omega
  · obtain ⟨h4, h5⟩ := h3 hl
    omega

/-- a result that arrived without the evaluation-cost bit is not an evaluation-cost error -/
theorem live_of_no_bit {k : Kind} {s : St} (hb : BitsOk (.raised k, s)) (h : ¬ hasEs s esMaxEvalCost = true) :
    (Out.raised k).live = true := by
  cases k <;> first | rfl | exact absurd (hb _ rfl rfl) h

theorem accRule (cfg : Cfg) : Rule cfg BitsOk Acc where
  weaken := Acc_weaken
  seq := Acc_seqM
  idle _ o _ _ _ := Acc_same o rfl rfl
  tick := Acc_tick cfg
  full _ _ _ _ _ := Acc_same _ rfl rfl
  pushedFrame _ := Acc_same _ rfl rfl
  pushedValues _ _ := Acc_same _ rfl rfl
  ret {_ s _} h := Acc_seqM h fun s' => Acc_same (s1 := leave s' s.depth s.sp) .ok rfl rfl
  safe {n s o s1} hb h := by
    cases o with
    | ok => exact Acc_landed h rfl (Or.inr ⟨rfl, rfl⟩)
    | fuel => exact Acc_weaken h (Nat.le_succ _)
    | raised k =>
      refine Acc_landed h rfl ?_
      show (if hasEs s1 esMaxEvalCost then (safeTickLeft : Int) else s1.cost) = 1 ∨ _
      split
      · exact Or.inl rfl
      · exact Or.inr ⟨live_of_no_bit hb ‹_›, rfl⟩
  caught {n s o s1} ctx _ hb h := by
    have h : Acc n s (o, s1) := h
    cases o with
    | ok => exact Acc_of_same h rfl rfl id
    | fuel => exact h
    | raised k =>
      show Acc n s (catchLanding cfg ctx s.depth s.sp k s1)
      unfold catchLanding
      simp only
      split
      · exact Acc_of_same h rfl rfl nofun
      · rename_i hnb
        have hl := live_of_no_bit hb hnb
        split
        · exact Acc_of_same h rfl rfl fun _ => hl
        · exact Acc_of_same h rfl rfl fun _ => hl

/-- tick accounting of every shape: at most `safeWeight` instructions beyond the budget -/
theorem exec_Acc (cfg : Cfg) (fuel : Nat) (ctx : Ctx) (sh : Sh) (s : St) :
    Acc sh.safeWeight s (exec cfg fuel ctx sh s) :=
  exec_rule (accRule cfg) (exec_BitsOk cfg) fuel ctx sh s

/-- nothing expired so far (every tick was paid from the one budget B and something is left), or an expiry was stopped
    by a safe apply, which left its caller a single tick -/
def Fresh (B : Int) (s : St) : Prop := (phi s = B ∧ 0 < s.cost) ∨ s.cost = 1

/-- a step from a fresh state: a normal completion is fresh, and so is an error in flight that does not carry the
    evaluation-cost bit -/
def NE (B : Int) (s : St) (r : Out × St) : Prop :=
  Fresh B s → (r.1 = .ok → Fresh B r.2) ∧ (∀ k, r.1 = .raised k → hasEs r.2 esMaxEvalCost = false → Fresh B r.2)

theorem NE_of_Acc {B : Int} {n : Nat} {s : St} {r : Out × St} (hb : BitsOk r) (h : Acc n s r) : NE B s r := by
  intro hf
  have hp : 0 < s.cost := by rcases hf with ⟨_, h⟩ | h <;> omega
  obtain ⟨h1, _, h3⟩ := h hp
  have key : r.1.live = true → Fresh B r.2 := by
    intro hl
    obtain ⟨h4, h5⟩ := h3 hl
    unfold Fresh phi at *
    omega
  obtain ⟨o, s1⟩ := r
  refine ⟨fun e => key (by rw [e]; rfl), fun k e hnb => key ?_⟩
  cases e
  exact live_of_no_bit hb (by simp only [hnb]; nofun)

/-- no run makes a fresh state stale without an expiry (`NE`: "no expiry"), from the accounting `Acc`;
    `eval_completes_below_budget` (Top.lean) reads the same off `exec_Acc` itself -/
theorem exec_NE (B : Int) (cfg : Cfg) (fuel : Nat) (ctx : Ctx) (sh : Sh) (s : St) : NE B s (exec cfg fuel ctx sh s) :=
  NE_of_Acc (exec_BitsOk cfg fuel ctx sh s) (exec_Acc cfg fuel ctx sh s)

/-- at most MaxCallDepth frames now, and at any time so far -/
def DepthInv (cfg : Cfg) (s : St) : Prop := s.depth ≤ cfg.maxDepth ∧ s.maxDepth ≤ cfg.maxDepth

/-- push_control_stack after the depth test passed -/
theorem DepthInv_push {cfg : Cfg} {s : St} (h : DepthInv cfg s) (hne : ¬ atMaxDepth cfg s) :
    DepthInv cfg (pushCatchFrame s) := by
  have := ne_maxDepth hne
  obtain ⟨h1, h2⟩ := h
  refine ⟨?_, ?_⟩
  · show s.depth + 1 ≤ cfg.maxDepth
    omega
  · show (if s.depth + 1 > s.maxDepth then s.depth + 1 else s.maxDepth) ≤ cfg.maxDepth
    split <;> omega

theorem depthRule (cfg : Cfg) : Rule cfg (fun _ => True) (fun _ s r => DepthInv cfg s → DepthInv cfg r.2) where
  weaken h _ := h
  seq h1 h2 h := by
    have := h1 h
    unfold seqM
    split
    · exact h2 _ this
    · exact this
  idle _ _ _ _ _ h := h
  tick ctx s h := by unfold tick; simp only; split <;> exact h
  full _ _ _ _ _ h := h
  pushedFrame hd h := DepthInv_push h hd
  pushedValues _ _ h := h
  ret h1 h := by
    have := h1 h
    unfold seqM
    split
    · exact ⟨h.1, this.2⟩
    · exact this
  safe {_ _ o s1} _ h1 h := by
    have := h1 h
    cases o
    · exact this
    · exact ⟨h.1, this.2⟩
    · exact this
  caught {_ s o s1} ctx hd _ h1 h := by
    have := h1 (DepthInv_push h hd)
    cases o with
    | ok => exact ⟨h.1, this.2⟩
    | fuel => exact this
    | raised k =>
      show DepthInv cfg (catchLanding cfg ctx s.depth s.sp k s1).2
      unfold catchLanding
      simp only
      split
      · exact ⟨h.1, this.2⟩
      · split <;> exact ⟨h.1, this.2⟩

theorem exec_DepthInv (cfg : Cfg) (fuel : Nat) (ctx : Ctx) (sh : Sh) (s : St) (h : DepthInv cfg s) :
    DepthInv cfg (exec cfg fuel ctx sh s).2 :=
  exec_rule (depthRule cfg) (fun _ _ _ _ => trivial) fuel ctx sh s h

/-- height up to which checked pushes may go: `end_of_stack - start_of_stack` -/
def spEnd (cfg : Cfg) : Int := cfg.stackSize - stackSlack

/-- between steps: at most `spEnd` values; at any time so far at most one more (do_catch's unchecked push) -/
def StackInv (cfg : Cfg) (s : St) : Prop := s.sp ≤ spEnd cfg ∧ s.maxSp ≤ spEnd cfg + 1

/-- a result: the high-water mark is inside the slack, and a completed step is back below the end -/
def StackRes (cfg : Cfg) (r : Out × St) : Prop := r.2.maxSp ≤ spEnd cfg + 1 ∧ (r.1 = .ok → r.2.sp ≤ spEnd cfg)

theorem StackRes_of_inv {cfg : Cfg} {s : St} (o : Out) (h : StackInv cfg s) : StackRes cfg (o, s) := ⟨h.2, fun _ => h.1⟩

/-- back at the height `s` had -/
theorem StackRes_leave {cfg : Cfg} {s s1 : St} (o : Out) (h : StackInv cfg s) (hm : s1.maxSp ≤ spEnd cfg + 1)
    (hs : s1.sp = s.sp) : StackRes cfg (o, s1) :=
  ⟨hm, fun _ => hs ▸ h.1⟩

theorem stackRule (cfg : Cfg) : Rule cfg (fun _ => True) (fun _ s r => StackInv cfg s → StackRes cfg r) where
  weaken h _ := h
  seq h1 h2 h := by
    have := h1 h
    unfold seqM
    split
    · exact h2 _ ⟨this.2 rfl, this.1⟩
    · exact this
  idle _ o _ _ _ h := StackRes_of_inv o h
  tick ctx s h := by unfold tick; simp only; split <;> exact StackRes_of_inv _ h
  full _ _ _ _ _ h := StackRes_of_inv _ h
  pushedFrame _ h := StackRes_of_inv _ h
  pushedValues {s} n hlt h := by
    -- `sp + n >= end_of_stack` was refused, so the new height is at most the end
    have hle : s.sp + (n : Int) ≤ spEnd cfg := by unfold spEnd; omega
    refine ⟨?_, fun _ => hle⟩
    show (if s.sp + (n : Int) > s.maxSp then s.sp + (n : Int) else s.maxSp) ≤ spEnd cfg + 1
    have := h.2
    split <;> omega
  ret h1 h := by
    have := h1 h
    unfold seqM
    split
    · exact StackRes_leave _ h this.1 rfl
    · exact this
  safe {_ _ o s1} _ h1 h := by
    have := h1 h
    cases o
    · exact ⟨this.1, fun _ => this.2 rfl⟩
    · exact StackRes_leave _ h this.1 rfl
    · exact this
  caught {_ s o s1} ctx _ _ h1 h := by
    have := h1 h
    cases o with
    | ok => exact StackRes_leave _ h this.1 rfl
    | fuel => exact this
    | raised k =>
      show StackRes cfg (catchLanding cfg ctx s.depth s.sp k s1)
      unfold catchLanding
      -- the caught value is pushed without a check: one above the height of the catch
      have hmx : (pushUnchecked (leave s1 s.depth s.sp)).maxSp ≤ spEnd cfg + 1 := by
        show (if s.sp + 1 > s1.maxSp then s.sp + 1 else s1.maxSp) ≤ spEnd cfg + 1
        have hm := this.1
        have := h.1
        split <;> omega
      simp only
      split
      · exact ⟨hmx, nofun⟩
      · split
        · exact ⟨hmx, nofun⟩
        · exact StackRes_leave _ h hmx rfl

/-- every shape keeps the value stack inside the slack, in every context, for every fuel -/
theorem exec_StackRes (cfg : Cfg) (fuel : Nat) (ctx : Ctx) (sh : Sh) (s : St) (h : StackInv cfg s) :
    StackRes cfg (exec cfg fuel ctx sh s) :=
  exec_rule (stackRule cfg) (fun _ _ _ _ => trivial) fuel ctx sh s h

end NV.C04
