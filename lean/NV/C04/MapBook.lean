/-
C04 — executable model, part (c): the count bookkeeping of mappings across *partially applied* operations.

`sizeof (m)` and every size test read `m->count`; the nodes live in the hash table.  find_for_insert tests
`++m->count > MAX` before it links the node.  add_to_mapping (`m += m2`, absorb_mapping, in place) counts in a
local `count`, links node after node, and writes `m1->count` only at the end - or on the "Mapping too large" error
path, where the nodes linked so far stay in the mapping (lib/lpc/mapping.c).  If that update were skipped the mapping
would hold more nodes than `count` says and later inserts would pass the size test.
-/
import NV.Gen.C04

namespace NV.C04

/-- a mapping as the size tests see it (`count`) and as it is (`nodes` linked in the table) -/
structure MapSt where
  count : Nat
  nodes : Nat
  deriving Repr, DecidableEq

inductive MapOp
  | insert (isNew : Bool)      -- m[k] = v  (find_for_insert); `isNew`: the key is not in the mapping
  | absorb (newKeys : Nat)     -- m += m2 inside catch; `newKeys` keys of m2 are not in m
  | compose (kept : Nat)       -- m *= m2 (compose_mapping in place); `kept` nodes of m have a value that is a key of m2
  deriving Repr, DecidableEq

/-- compose_mapping: the nodes whose value is not a key of m2 are unlinked one by one and counted in the local
    `deleted` (`bits` wide: `unsigned int` after fix 5334d17, `unsigned short` before), then `m1->count -= deleted` -/
def composeStep (bits : Nat) (s : MapSt) (kept : Nat) : MapSt :=
  let deleted := s.nodes - min kept s.nodes
  { count := s.count - deleted % 2 ^ bits, nodes := s.nodes - deleted }

/-- the loop of add_to_mapping over the keys of m2 that are new: `loc` is the C variable `count` -/
def absorbLoop (limit : Int) (s : MapSt) (loc : Nat) : Nat → Bool × MapSt
  | 0 =>
    -- `if (count -= m1->count) {...}; m1->count += count;`
    (false, { s with count := s.count + (loc - s.count) })
  | k + 1 =>
    -- `if (++count > MAX) { count -= m1->count + 1; m1->count += count; mapping_too_large (); }`
    if ((loc + 1 : Nat) : Int) > limit then
      (true, { s with count := s.count + (loc + 1 - (s.count + 1)) })
    else
      -- new_map_node (), linked into the bucket
      absorbLoop limit { s with nodes := s.nodes + 1 } (loc + 1) k

/-- one operation; the Bool says whether it raised "Mapping too large" -/
def mapStep (limit : Int) (s : MapSt) : MapOp → Bool × MapSt
  | .insert false => (false, s)
  | .insert true =>
    -- `if (++m->count > MAX) { m->count--; mapping_too_large (); }` then the node is created
    if ((s.count + 1 : Nat) : Int) > limit then (true, s)
    else (false, { count := s.count + 1, nodes := s.nodes + 1 })
  | .absorb k => absorbLoop limit s s.count k
  | .compose kept => (false, composeStep NV.Gen.C04.composeDeletedBits s kept)

/-- run a sequence on the empty mapping; returns the error flags (oldest first) and the final state -/
def mapRun (limit : Int) : List MapOp → MapSt → List Bool × MapSt
  | [], s => ([], s)
  | op :: rest, s =>
    let (e, s1) := mapStep limit s op
    let (es, s2) := mapRun limit rest s1
    (e :: es, s2)

/-- the invariant: the size the tests see is the size the mapping has, within the limit -/
def MapOk (limit : Int) (s : MapSt) : Prop := s.count = s.nodes ∧ (s.nodes : Int) ≤ limit

end NV.C04
