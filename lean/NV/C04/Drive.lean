/-
C04 driver: parses the case lines that the harness executes against the real driver and runs the model
(`model` mode) or the specification oracle on an implementation trace (`judge` mode).

Case lines (shared with harness/c04/c04.c):
  load <oid> <path> | lpc <path> <hex>        objects / generated LPC source (ignored by the model)
  cfgint <index> <value>                      config_int[index] (indices regenerated: Gen.C04.cfg*)
  depth <n> | stack <n>                       MaxCallDepth / StackSize of the case
  mset set_handler_catches <0|1>              the master's error_handler completes a catch()
  reconf MaxEvaluationCost <v>                the budget as read by init_config () (clamped)
  ev sizes set_limit <n>                      the budget as set by LPC set_eval_limit (n) (clamped)
  ev sizes mapseq <op>,<op>,...               inserts and in-place `m += m2` on one mapping, each inside catch (MapBook.lean)
  shape <term>                                the abstract shape of the LPC program loaded as `p` (ignored by the harness)
  ev p main                                   one driver-started evaluation of the program
  sz <constructor> <args...>                  one size decision

(the generator emits one LPC function per node, so every node is a `call` around its construct)
shape terms:  K | W<n> | S | R<locals> | X | F<locals>(<t>) | C(<t>) | B<k>(<t>) | A(<t>) | Q(<t>,<t>) | E | T
-/
import NV.Common.Proto
import NV.C04.Model
import NV.C04.Sizes
import NV.C04.MapBook
import NV.C04.Save
import NV.C04.Spec

namespace NV.C04

open NV.Proto
open NV.Gen.C04

/-! ### shape parser -/

def takeDigits : List Char → List Char × List Char
  | c :: cs => if c.isDigit then let (d, r) := takeDigits cs; (c :: d, r) else ([], c :: cs)
  | [] => ([], [])

def natOf (ds : List Char) : Nat := ds.foldl (fun a c => a * 10 + (c.toNat - '0'.toNat)) 0

def parseSh : Nat → List Char → Option (Sh × List Char)
  | 0, _ => none
  | f + 1, cs =>
    match cs with
    | 'K' :: r => some (.call 0 .skip, r)
    | 'S' :: r => some (.call 0 .spin, r)
    | 'X' :: r => some (.crecur, r)
    | 'E' :: r => some (.call 0 .err, r)
    | 'T' :: r => some (.call 0 .throw_, r)
    | 'W' :: r => let (d, r) := takeDigits r; some (.call 0 (.work (natOf d)), r)
    -- N<k>: an efun making k callbacks to a function that does not exist (map_array (allocate (k), "nosuch", ob)):
    -- no frame, no code, one tick per callback charged by call_efun_callback - the same as k instructions
    | 'N' :: r => let (d, r) := takeDigits r; some (.call 0 (.work (natOf d)), r)
    | 'R' :: r => let (d, r) := takeDigits r; some (.recur (natOf d), r)
    | 'F' :: r =>
      let (d, r) := takeDigits r
      (match r with
       | '(' :: r => (match parseSh f r with
                      | some (b, ')' :: r) => some (.call (natOf d) b, r)
                      | _ => none)
       | _ => none)
    | 'B' :: r =>
      let (d, r) := takeDigits r
      (match r with
       | '(' :: r => (match parseSh f r with
                      | some (b, ')' :: r) => some (.call 0 (.cb (natOf d) b), r)
                      | _ => none)
       | _ => none)
    | 'C' :: '(' :: r =>
      (match parseSh f r with
       | some (b, ')' :: r) => some (.call 0 (.catch_ b), r)
       | _ => none)
    | 'A' :: '(' :: r =>
      (match parseSh f r with
       | some (b, ')' :: r) => some (.call 0 (.safe b), r)
       | _ => none)
    | 'Q' :: '(' :: r =>
      (match parseSh f r with
       | some (a, ',' :: r) =>
         (match parseSh f r with
          | some (b, ')' :: r) => some (.call 0 (.seq a b), r)
          | _ => none)
       | _ => none)
    | _ => none

/-- the largest k of an `N<k>` node in a shape term (callbacks that execute no instruction) -/
def noCodeOf (t : String) : Nat :=
  ((t.splitOn "N").drop 1).foldl (fun m part => max m (natOf (takeDigits part.toList).1)) 0

def parseShape (s : String) : Option Sh :=
  match parseSh (s.length + 1) s.toList with
  | some (sh, []) => some sh
  | _ => none

def Sh.hasSafe : Sh → Bool
  | .safe _ => true
  | .call _ b => b.hasSafe
  | .catch_ b => b.hasSafe
  | .cb _ b => b.hasSafe
  | .seq a b => a.hasSafe || b.hasSafe
  | _ => false

/-- unbounded recursion through catch somewhere in the shape: the number of error deliveries then depends on how many frames
    the nodes around it really take (nominal in the model) -/
def Sh.hasCrecur : Sh → Bool
  | .crecur => true
  | .call _ b => b.hasCrecur
  | .catch_ b => b.hasCrecur
  | .cb _ b => b.hasCrecur
  | .safe b => b.hasCrecur
  | .seq a b => a.hasCrecur || b.hasCrecur
  | _ => false

/-- number of catch frames an error can pass on its way out (for the handler allowance of the oracle) -/
def Sh.catchDepth : Sh → Nat
  | .catch_ b => b.catchDepth + 1
  | .call _ b => b.catchDepth
  | .cb _ b => b.catchDepth
  | .safe b => b.catchDepth
  | .seq a b => max a.catchDepth b.catchDepth
  | .crecur => 200
  | _ => 0

/-! ### case parser -/

structure Parsed where
  lim : Limits := {}
  shape : Sh := .skip
  out : List String := []         -- newest first
  bad : List String := []

def cfgOf (l : Limits) : Cfg :=
  { maxCost := l.cost, maxDepth := if l.depth > 0 then l.depth else 200,
    stackSize := if l.stack > 0 then l.stack else 2000, handlerCatches := l.handlerCatches }

def modelFuel : Nat := 3000000

def renderSz : SzR → String
  | .err => "sz err"
  | .ok n => s!"sz ok {n}"
  | .zero => "sz ok -1"

/-- sequencing of decisions: the operands of a constructor are built first (and may fail themselves) -/
def andThen (r : SzR) (k : Nat → SzR) : SzR :=
  match r with
  | .ok n => k n
  | .zero => .zero
  | .err => .err

def decLen (n : Int) : Nat := (toString n).length

/-- a string of n characters built by the LPC side with repeat_string ("x", n) -/
def strOf (l : Limits) (n : Int) : SzR := repeatString 1 n l.maxString

/-- argument lists of the right length (anything else is a malformed command) -/
def ar1 (f : Int → SzR) : List Int → Option SzR
  | [a] => some (f a)
  | _ => none
def ar2 (f : Int → Int → SzR) : List Int → Option SzR
  | [a, b] => some (f a b)
  | _ => none
def ar3 (f : Int → Int → Int → SzR) : List Int → Option SzR
  | [a, b, c] => some (f a b c)
  | _ => none

/-- a = ([ i : i ]) for i < c1; b has the keys c1-common .. c1-common+c2-1: the nodes of a with a value in that range stay -/
def szComposeBody (l : Limits) (c1 c2 common : Int) : SzR :=
  andThen (mapInsertMany 0 c1.toNat l.maxMapping) fun x => andThen (mapInsertMany 0 c2.toNat l.maxMapping) fun y =>
    composeMapping x ((min (x : Int) ((x : Int) - common + y)) - (max 0 ((x : Int) - common))).toNat

/-- the size decision(s) behind one `sz` command; mirrors harness/mudlib/c04/sizes.c -/
def szCmdC (l : Limits) : Ctor → List Int → Option SzR
  | .allocate => ar1 fun n => allocateArray n l.maxArray
  | .aggregate => ar1 fun n => aggregateArray n.toNat l.maxArray
  | .add_array => ar2 fun x y => andThen (allocateArray x l.maxArray) fun p => andThen (allocateArray y l.maxArray) fun r =>
      addArray p r l.maxArray
  | .add_array_self => ar1 fun x => andThen (allocateArray x l.maxArray) fun p => addArray p p l.maxArray
  | .slice => ar3 fun n lo hi => andThen (allocateArray n l.maxArray) fun p => sliceArray p lo hi
  | .explode =>
    -- the string "a,a,...,a" is built with repeat_string and +
    ar1 fun pieces => if pieces ≤ 0 then explodeArray 0 l.maxArray
          else andThen (repeatString 2 (pieces - 1) l.maxString) fun s => andThen (stringJoin s 1 l.maxString) fun _ =>
            explodeArray pieces.toNat l.maxArray
  | .explode0 => ar1 fun chars => andThen (strOf l chars) fun s => explodeArray s l.maxArray
  | .allocate_buffer => ar1 fun n => allocateBuffer n l.maxBuffer
  | .add_buffer => ar2 fun x y => andThen (allocateBuffer x l.maxBuffer) fun p => andThen (allocateBuffer y l.maxBuffer) fun r =>
      addBuffer p r l.maxBuffer
  | .map_insert => ar2 fun count isNew => andThen (mapInsertMany 0 count.toNat l.maxMapping) fun c => mapInsert c (isNew != 0) l.maxMapping
  | .map_aggregate => ar1 fun n => mapAggregate n.toNat l.maxMapping
  | .map_add => ar3 fun c1 c2 common => andThen (mapInsertMany 0 c1.toNat l.maxMapping) fun x => andThen (mapInsertMany 0 c2.toNat l.maxMapping) fun y =>
      mapAdd x y common.toNat l.maxMapping
  | .join => ar2 fun x y => andThen (strOf l x) fun p => andThen (strOf l y) fun r => stringJoin p r l.maxString
  | .join_eq => ar2 fun x y => andThen (strOf l x) fun p => andThen (strOf l y) fun r => stringJoin p r l.maxString
  | .join_self =>
    -- s += s, k times
    ar2 fun x k => andThen (strOf l x) fun p =>
      (List.range k.toNat).foldl (fun acc _ => andThen acc fun n => stringJoin n n l.maxString) (.ok p)
  | .join_num => ar2 fun x n => andThen (strOf l x) fun p => stringJoin p (decLen n) l.maxString
  | .num_join => ar2 fun n y => andThen (strOf l y) fun r => stringJoin r (decLen n) l.maxString
  | .repeat_ => ar2 fun len count => andThen (strOf l len) fun p => repeatString p count l.maxString
  | .implode =>
    -- (the LPC side fills a[0..n-1]: when the 16-bit size field wrapped, sizeof (a) < n and the fill loop errors)
    ar3 fun n m d => andThen (allocateArray n l.maxArray) fun cnt => andThen (strOf l m) fun len => andThen (strOf l d) fun dl =>
      if (cnt : Int) != n then .err else implodeString (cnt * len) cnt dl l.maxString
  | .replace => ar3 fun x y r => andThen (strOf l x) fun p => andThen (repeatString 2 y l.maxString) fun q =>
      andThen (stringJoin p q l.maxString) fun _ => andThen (strOf l r) fun rl =>
        replaceFamily p (q / 2) rl l.maxString.toNat
  | .replace1 =>
    -- one character pattern: x characters are copied one by one, then y replacements of r characters, each step guarded
    ar3 fun x y r => andThen (strOf l x) fun p => andThen (strOf l y) fun q => andThen (stringJoin p q l.maxString) fun _ =>
      andThen (strOf l r) fun rl =>
        replaceFinish l.maxString.toNat 0
          (replaceRun l.maxString.toNat (List.replicate p RStep.copy1 ++ List.replicate q (RStep.repl rl)) 0)
  -- copies and parts of operands (mirrors harness/mudlib/c04/sizes.c)
  | .copy_array => ar1 fun n => andThen (allocateArray n l.maxArray) sameSize
  | .copy_mapping => ar1 fun n => andThen (mapInsertMany 0 n.toNat l.maxMapping) sameSize
  | .sort_array => ar1 fun n => andThen (allocateArray n l.maxArray) sameSize
  | .map_array => ar1 fun n => andThen (allocateArray n l.maxArray) sameSize
  | .lower_case => ar1 fun n => andThen (strOf l n) sameSize
  | .filter_array => ar2 fun n kept => andThen (allocateArray n l.maxArray) fun a => partOf a kept.toNat
  | .unique_array => ar2 fun n groups => andThen (allocateArray n l.maxArray) fun a => partOf a (if groups ≤ 0 then a else groups.toNat)
  | .array_sub => ar2 fun n k => andThen (allocateArray n l.maxArray) fun a => andThen (allocateArray k l.maxArray) fun b => partOf a (a - b)
  | .array_and => ar2 fun n k => andThen (allocateArray n l.maxArray) fun a => andThen (allocateArray k l.maxArray) fun b => partOf a b
  | .filter_mapping => ar2 fun n kept => andThen (mapInsertMany 0 n.toNat l.maxMapping) fun c => partOf c kept.toNat
  | .map_mapping => ar1 fun n => andThen (mapInsertMany 0 n.toNat l.maxMapping) sameSize
  | .keys => ar1 fun n => andThen (mapInsertMany 0 n.toNat l.maxMapping) fun c => mapKeys c l.maxArray
  | .values => ar1 fun n => andThen (mapInsertMany 0 n.toNat l.maxMapping) fun c => mapKeys c l.maxArray
  | .allocate_mapping => ar1 fun n => allocateMapping n
  -- mapping * mapping, save / restore, regexp, sprintf, unique_mapping (mirrors harness/mudlib/c04/sizes.c)
  | .map_compose => ar3 (szComposeBody l)
  | .map_compose_eq => ar3 (szComposeBody l)
  | .save_array => ar1 fun n => andThen (allocateArray n l.maxArray) fun a => saveVariable (valZeros a) l.maxString
  | .save_string => ar2 fun n esc => andThen (strOf l n) fun p => saveVariable (valString p (if esc != 0 then p else 0)) l.maxString
  | .save_mapping => ar1 fun n => andThen (mapInsertMany 0 (min n.toNat 10) l.maxMapping) fun c => saveVariable (valSmallMap c) l.maxString
  | .save_nested => ar1 fun d => saveVariable (valNested (d.toNat - 1)) l.maxString
  | .copy_nested => ar1 fun d => if deepCopyOk 0 (valNested (d.toNat - 1)) then .ok (max d.toNat 1) else .err
  | .restore_nested =>
    -- the text "({" * (d-1) + "({})" + ",})" * (d-1) is built first; the size pre-pass of restore refuses text nested
    -- deeper than MAX_SAVE_SVALUE_DEPTH (C16's fix c9a3442)
    ar1 fun d => andThen (repeatString 2 (d - 1) l.maxString) fun a => andThen (stringJoin a 4 l.maxString) fun b =>
      andThen (repeatString 3 (d - 1) l.maxString) fun c => andThen (stringJoin b c l.maxString) fun _ =>
        if restoreWalk 0 (valNested (d.toNat - 1)) then .ok (max d.toNat 1) else .err
  | .restore_array => ar1 fun n => andThen (repeatString 2 n l.maxString) fun a => andThen (stringJoin 2 a l.maxString) fun b =>
      andThen (stringJoin b 2 l.maxString) fun _ => restoreArray n.toNat l.maxArray
  | .restore_mapping =>
    -- s = "(["; s += i + ":1," for every i; s + "])"
    ar1 fun n => andThen ((List.range n.toNat).foldl (fun acc (i : Nat) => andThen acc fun len =>
              andThen (stringJoin (decLen (i : Int)) 3 l.maxString) fun piece => stringJoin len piece l.maxString) (.ok 2)) fun len =>
            andThen (stringJoin len 2 l.maxString) fun _ => restoreMapping n.toNat l.maxMapping
  | .regexp =>
    -- `matched` of the elements are "a", the others "b"; flag & 2 selects the elements that do NOT match
    ar3 fun n matched flag => andThen (allocateArray n l.maxArray) fun a =>
      let hit := min matched.toNat a
      matchRegexp (if flag.toNat / 2 % 2 = 1 then a - hit else hit) flag l.maxArray
  | .reg_assoc => ar1 fun m => andThen (strOf l m) fun p => regAssoc p l.maxArray
  | .unique_mapping =>
    -- iota (n) grouped by v % groups (groups ≤ 0: every element its own group)
    ar2 fun n groups => andThen (allocateArray n l.maxArray) fun a =>
      uniqueMapping a (if groups ≤ 0 then a else groups.toNat) l.maxMapping
  | .save_nested_map => ar1 fun d => saveVariable (valNestedMap (d.toNat - 1)) l.maxString
  -- the nesting depth of a value save_variable accepted (the text must fit as well)
  | .save_depth => ar1 fun d => andThen (saveVariable (valNested (d.toNat - 1)) l.maxString) fun _ => .ok (max d.toNat 1)
  | .save_depth_map => ar1 fun d => andThen (saveVariable (valNestedMap (d.toNat - 1)) l.maxString) fun _ => .ok (max d.toNat 1)
  | .sprintf_pad =>
    -- sprintf ("%*s", w, s): padded to the field width; the pad goes through the same bounded buffer
    ar2 fun w n => andThen (strOf l n) fun p =>
      -- no padding when the string fills the field: the string is the first chunk (any size, see sprintfAdd)
      if w.toNat ≤ p then andThen (sprintfAdd 0 p) fun r => sprintfFinish r l.maxString
      else if w.toNat > ushrtMax then .err else sprintfFinish w.toNat l.maxString
  | .sprintf => ar2 fun x y => andThen (strOf l x) fun p => andThen (strOf l y) fun q => andThen (sprintfAdd 0 p) fun real => andThen (sprintfAdd real q) fun r => sprintfFinish r l.maxString

def szCmd (l : Limits) (ctor : String) (a : List Int) : Option SzR :=
  match Ctor.ofName ctor with
  | some c => szCmdC l c a
  | none => none

/-- `i<key><n|o>` / `a<from>:<n>:<new>` -/
def parseMapOp (t : String) : Option MapOp :=
  if t.startsWith "i" then
    if t.endsWith "n" then some (.insert true) else if t.endsWith "o" then some (.insert false) else none
  else if t.startsWith "a" then
    match (t.drop 1).toString.splitOn ":" with
    | [_, _, k] => k.toNat?.map MapOp.absorb
    | _ => none
  else if t.startsWith "c" then
    -- c<lo>:<n>:<kept>   m *= ([ lo .. lo+n-1 ])        cs:<kept>   m *= m (every value is a key)
    match (t.drop 1).toString.splitOn ":" with
    | [_, _, k] => k.toNat?.map MapOp.compose
    | ["s", k] => k.toNat?.map MapOp.compose
    | _ => none
  else none

/-- the result string of sizes.c `mapseq` -/
def mapSeqResult (limit : Int) (ops : List MapOp) : String :=
  let (es, s) := mapRun limit ops { count := 0, nodes := 0 }
  String.mk (es.map fun e => if e then 'e' else 'k') ++ s!":{s.count}/{s.nodes}"

def setCfgInt (l : Limits) (idx : Nat) (v : Int) : Limits :=
  if idx = cfgEvalCost then { l with cost := v }
  else if idx = cfgMaxArray then { l with maxArray := v }
  else if idx = cfgMaxBuffer then { l with maxBuffer := v }
  else if idx = cfgMaxMapping then { l with maxMapping := v }
  else if idx = cfgMaxString then { l with maxString := v }
  else l

def renderEv : Ev → Option String
  | .afterCatch k => some s!"after-catch {k.name}"
  | .safeSwallowed _ => none

def runEv (p : Parsed) : List String :=
  let cfg := cfgOf p.lim
  let (out, s) := evaluate cfg modelFuel p.shape
  let evs := s.evs.reverse.filterMap renderEv
  let last := match out with
    | .ok => "r ret 0"
    | .raised _ => s!"r err es={s.es}"
    | .fuel => "timeout"
  -- error deliveries (entries of mudlib_error_handler), compared with the count the harness takes through verif_error_hook
  -- (not for programs with safe applies: their real frames - master::object_name, call_other - are not the model's)
  evs ++ [last] ++ (if p.shape.hasSafe || p.shape.hasCrecur then [] else [s!"handlers {s.raises}"])

def parseLine (mode : Bool) (p : Parsed) (line : String) : Parsed :=
  match toks line with
  | [] => p
  | "load" :: _ => p
  | "lpc" :: _ => p
  | ["conf", v] =>
    -- configuration / master variant of the run: the limits machine does not depend on it (Handler.lean); the oracle's allowance
    -- for the driver's own trace does (values per frame: arguments, local variables)
    let n := (if (v.splitOn "args").length > 1 || (v.splitOn "both").length > 1 then 1 else 0) +
             (if (v.splitOn "locals").length > 1 || (v.splitOn "both").length > 1 then 1 else 0)
    { p with lim := { p.lim with traceValues := n } }
  | "conf" :: _ => p
  | ["cfgint", i, v] =>
    match i.toNat?, v.toInt? with
    | some i, some v => { p with lim := setCfgInt p.lim i v }
    | _, _ => { p with bad := line :: p.bad }
  | ["depth", n] =>
    match n.toInt? with
    | some n => { p with lim := { p.lim with depth := n } }
    | none => { p with bad := line :: p.bad }
  | ["stack", n] =>
    match n.toInt? with
    | some n => { p with lim := { p.lim with stack := n } }
    | none => { p with bad := line :: p.bad }
  | ["reconf", "MaxEvaluationCost", v] =>
    -- the value goes through init_config (): clamped to at least 1
    match v.toInt? with
    | some v => { p with lim := { p.lim with cost := clampCost v } }
    | none => { p with bad := line :: p.bad }
  | ["ev", "sizes", "mapseq", ops] =>
    let parsed := (ops.splitOn ",").map parseMapOp
    if parsed.all Option.isSome then
      { p with out := if mode then ("r ret \"" ++ mapSeqResult p.lim.maxMapping (parsed.filterMap id) ++ "\"") :: p.out else p.out }
    else { p with bad := line :: p.bad }
  | ["ev", "sizes", "set_limit", v] =>
    -- set_eval_limit (n), n other than 0 / 1 / -1: MaxEvaluationCost = (int) n, clamped to at least 1; the LPC
    -- function returns the new budget
    match v.toInt? with
    | some v =>
      let c := clampCost (toInt32 v)
      { p with lim := { p.lim with cost := c }, out := if mode then s!"r ret {c}" :: p.out else p.out }
    | none => { p with bad := line :: p.bad }
  | ["ev", "sizes", "rx", n] =>
    -- one regexp match whose backtracking is exponential in n: charged against the budget (Sizes.regexCharge); the generator
    -- only uses n far below and far above the threshold
    match n.toNat? with
    | some n =>
      (match rxExpires n p.lim.cost with
       | some true => { p with out := if mode then "r err es=2" :: p.out else p.out,
                                 lim := { p.lim with rxMustExpire := true } }
       | some false => { p with out := if mode then "r ret 0" :: p.out else p.out }
       | none => { p with bad := line :: p.bad })
    | none => { p with bad := line :: p.bad }
  | ["mset", "set_handler_catches", v] => { p with lim := { p.lim with handlerCatches := v != "0" } }
  | ["shape", t] =>
    match parseShape t with
    | some sh =>
      let lim := { p.lim with hasSafe := sh.hasSafe, catchDepth := sh.catchDepth, noCodeCallbacks := noCodeOf t,
                              safeWeight := sh.safeWeight }
      { p with shape := sh, lim := lim }
    | none => { p with bad := line :: p.bad }
  | ["ev", _, _] => if mode then { p with out := (runEv p).reverse ++ p.out } else p
  | "sz" :: ctor :: args =>
    let ints := args.map String.toInt?
    if ints.all Option.isSome then
      if mode then
        match szCmd p.lim ctor (ints.filterMap id) with
        | some r => { p with out := renderSz r :: p.out }
        | none => { p with bad := line :: p.bad }
      else p
    else { p with bad := line :: p.bad }
  | _ => if line.startsWith "#" then p else { p with bad := line :: p.bad }

def runModel (lines : List String) : List String :=
  let p := lines.foldl (parseLine true) {}
  if !p.bad.isEmpty then p.bad.reverse.map (fun l => s!"bad-line {l}") else p.out.reverse

/-- the judge: the input lines give the limits and say which results are expected; the implementation lines are
    checked one by one -/
def runJudge (body : List String) : List String :=
  let (input, impl) := splitJudge body
  let p := input.foldl (parseLine false) {}
  let nEv := (input.filter (fun l => (toks l).head? == some "ev")).length
  let ctors := input.filterMap (fun l => match toks l with | "sz" :: c :: _ => some c | _ => none)
  -- limits may change between commands; the oracle uses the final ones (cases set them before the commands)
  let s0 : JState := { lim := p.lim, pendingEv := nEv, pendingSz := ctors }
  let s := impl.foldl judgeLine s0
  match judgeEnd s with
  | [] => ["ok"]
  | vs => vs.map (fun v => s!"bad {v}")

/-- names of the machine branches recorded by `mark` (Model.lean) -/
def branchNames : List (Nat × String) :=
  [(1, "tick-expires"), (2, "frame-push-at-full-depth"), (3, "checked-push-at-full-stack"), (4, "catch-at-full-depth"),
   (5, "catch-reraises-cost"), (6, "catch-reraises-stack-or-depth"), (7, "catch-returns-error-value"),
   (8, "safe-apply-at-full-depth"), (9, "safe-apply-stops-cost-error"), (10, "safe-apply-stops-other-error"),
   (11, "throw-to-catch"), (12, "throw-without-catch"), (13, "catch-without-error"), (14, "safe-apply-without-error")]

/-- `cover` mode: the branches of the machine each case takes (generator audit; not part of the check's verdict) -/
def runCover (lines : List String) : List String :=
  let p := lines.foldl (parseLine false) {}
  if (lines.any fun l => (toks l).take 3 == ["ev", "p", "main"]) then
    let (_, s) := evaluate (cfgOf p.lim) modelFuel p.shape
    let ids := s.br.eraseDups
    ids.map fun i => "br " ++ ((branchNames.find? (·.1 == i)).map (·.2)).getD (toString i)
  else []

def main (mode : String) : IO Unit :=
  match mode with
  | "model" => serve runModel
  | "judge" => serve runJudge
  | "cover" => serve runCover
  | _ => IO.eprintln s!"C04: unknown mode {mode}"

end NV.C04
