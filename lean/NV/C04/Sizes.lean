/-
C04 — executable model, part (b): the size DECISION of every value constructor, as
`(sizes of the operands, int64 arguments, configured limit) → error | size of the result`.

C integer arithmetic is modelled where the code casts or multiplies: `toSizeT` is the conversion of an `int64_t`
(or of the `int` limit) to `size_t` (modulo 2^64), `toInt32` the `(int)` cast of an `int64_t`, `toArrSize` / `toBufSize`
the `(unsigned short)` casts that fill the 16-bit `size` fields (width regenerated from the headers:
`Gen.C04.arraySizeBits`, `Gen.C04.bufferCastBits`).

Sources (repository state after the `fix:` commits of notes/C04.md):
  allocate_array / allocate_empty_array / add_array / slice_array / explode_string / implode_string   lib/lpc/array.c
  allocate_buffer                                             lib/lpc/buffer.c   (buffer `+`: src/interpret.c F_ADD)
  find_for_insert / load_mapping_from_aggregate / add_mapping lib/lpc/mapping.c
  SVALUE_STRING_JOIN / EXTEND_SVALUE_STRING / SVALUE_STRING_ADD_LEFT   src/interpret.h
  f_repeat_string / f_replace_string                          lib/efuns/string.c
  outbuf_extend (sprintf's buffer)                            src/outbuf.c, lib/efuns/sprintf.c
-/
import NV.Gen.C04

namespace NV.C04

open NV.Gen.C04

/-- result of a constructor: an LPC error, or a value whose `sizeof` / `strlen` is `size` -/
inductive SzR
  | err
  | ok (size : Nat)
  | zero                 -- the efun gave up and returned 0 instead of a value (replace_string)
  deriving Repr, DecidableEq

def two64 : Nat := 2 ^ 64

/-- conversion of a signed C integer to `size_t` -/
def toSizeT (x : Int) : Nat := (x % (two64 : Int)).toNat

/-- the `(int)` cast of an `int64_t` -/
def toInt32 (x : Int) : Int :=
  let m := x % (2 ^ intBits : Int)                  -- width of `int` regenerated (Gen.C04.intBits)
  if m ≥ 2 ^ (intBits - 1) then m - 2 ^ intBits else m

/-- the `(unsigned short)` cast that fills `array_t.size` -/
def toArrSize (n : Nat) : Nat := n % 2 ^ arraySizeBits

/-- the `(unsigned short)` cast in allocate_buffer (the field itself is an unsigned int) -/
def toBufSize (n : Nat) : Nat := n % 2 ^ bufferCastBits

/-- allocate_array (size_t n) / allocate_empty_array, called with an `int64_t` (f_allocate: `sp->u.number`):
    `if (n > (size_t) CONFIG_INT (__MAX_ARRAY_SIZE__)) error (...)`; `p->size = (unsigned short) n` -/
def allocateArray (n : Int) (limit : Int) : SzR :=
  let u := toSizeT n
  if u > toSizeT limit then .err else .ok (toArrSize u)

/-- F_AGGREGATE: `allocate_empty_array ((int) offset)`, offset an unsigned short element count -/
def aggregateArray (n : Nat) (limit : Int) : SzR := allocateArray (n % 2 ^ aggregateCountBits : Nat) limit

/-- add_array (p, r): `res = p->size + r->size; if (res < 0 || res > MAX) error`; sizes are 16-bit fields -/
def addArray (a b : Nat) (limit : Int) : SzR :=
  if a = 0 then .ok b
  else if b = 0 then .ok a
  else
    let res : Int := a + b
    if res < 0 ∨ res > limit then .err else .ok (toArrSize (a + b))

/-- range opcodes on arrays: the int64 bounds are clamped while still 64 bits wide (`from < 0 -> 0`,
    `to >= size -> size - 1`, `to < -1 -> -1`, `from > size -> size`; fix 3799d77/b585239 in /repo), then
    slice_array (p, (int) from, (int) to) - the casts are the identity on the clamped values -/
def sliceArray (size : Nat) (lo hi : Int) : SzR :=
  let f := lo
  let t := hi
  let f := if f < 0 then 0 else f
  let t := if t ≥ size then (size : Int) - 1 else t
  let t := if t < -1 then -1 else t
  let f := if f > size then (size : Int) else f
  if f > t then .ok 0 else .ok (toArrSize (t - f + 1).toNat)

/-- explode_string: the number of pieces is clamped to MAX_ARRAY_SIZE (never an error); `pieces` is the number of
    items the string would split into -/
def explodeArray (pieces : Nat) (limit : Int) : SzR :=
  if (pieces : Int) > limit then allocateArray limit limit else allocateArray pieces limit

/-- allocate_buffer (size_t size), called with an `int64_t` (f_allocate_buffer) -/
def allocateBuffer (n : Int) (limit : Int) : SzR :=
  let u := toSizeT n
  if u > toSizeT limit then .err else .ok (toBufSize u)

/-- buffer + buffer: `allocate_buffer (a->size + b->size)` (unsigned int addition) -/
def addBuffer (a b : Nat) (limit : Int) : SzR :=
  allocateBuffer (((a + b) % 2 ^ 32 : Nat)) limit

/-- find_for_insert of a key that is not present: `if (++m->count > MAX) { m->count--; error }` -/
def mapInsert (count : Nat) (isNew : Bool) (limit : Int) : SzR :=
  if !isNew then .ok count
  else if ((count + 1 : Nat) : Int) > limit then .err else .ok (count + 1)

/-- insertion of `k` new keys one after the other (load_mapping_from_aggregate / add_to_mapping /
    unique_add_to_mapping count like this: `if (++count > MAX) mapping_too_large ()`) -/
def mapInsertMany (count : Nat) : Nat → Int → SzR
  | 0, _ => .ok count
  | k + 1, limit =>
    match mapInsert count true limit with
    | .ok c => mapInsertMany c k limit
    | _ => .err

/-- ([ k1 : v1, ... ]) with `distinct` different keys -/
def mapAggregate (distinct : Nat) (limit : Int) : SzR := mapInsertMany 0 distinct limit

/-- m1 + m2 (add_mapping): the larger one is copied, the keys of the other that are not in it are inserted -/
def mapAdd (c1 c2 common : Nat) (limit : Int) : SzR :=
  if c1 ≥ c2 then mapInsertMany c1 (c2 - common) limit else mapInsertMany c2 (c1 - common) limit

/-- string + string, string += x (the three join macros after the fix):
    `len = a + b` in size_t; `if (len > (size_t) MAX) error` -/
def stringJoin (a b : Nat) (limit : Int) : SzR :=
  let len := (a + b) % two64
  if len > toSizeT limit then .err else .ok len

/-- repeat_string (str, count) after the fix -/
def repeatString (len : Nat) (count : Int) (limit : Int) : SzR :=
  if count ≤ 0 then .ok 0
  else if count = 1 then .ok len
  else if len = 0 then .ok 0
  else
    let rep := toSizeT count
    if rep > toSizeT limit / len then .err else .ok ((len * rep) % two64)

/-- repeat_string before the fix: `repeat` read into a size_t, `if (len * repeat > MAX)` with a wrapping product;
    `.ok n` means: n + 1 bytes allocated, `len * repeat` bytes copied -/
def repeatStringOld (len : Nat) (count : Int) (limit : Int) : SzR :=
  let rep := toSizeT count
  if rep = 0 then .ok 0
  else if rep = 1 then .ok len
  else if (len * rep) % two64 > toSizeT limit then .err else .ok ((len * rep) % two64)

/-- implode_string after the fix: `total` characters in `num` strings joined with a `delLen` character delimiter -/
def implodeString (total num delLen : Nat) (limit : Int) : SzR :=
  if num = 0 then .ok 0
  else
    let size := (total + (num - 1) * delLen) % two64
    if size > toSizeT limit then .err else .ok size

/-- sprintf's output buffer (outbuf_extend + add of `len` characters): `real` characters so far (0 = no buffer yet).
    returns the new `real`, or an error ("BUFF_SIZE overflowed") -/
def sprintfAdd (real len : Nat) : SzR :=
  if real = 0 then .ok len                       -- first chunk: new_string (len)
  else if real + len ≤ ushrtMax then .ok (real + len)
  else .err                                      -- outbuf_extend returns fewer than len: sprintf_error

/-! ### constructors whose result is a copy or a part of an operand -/

/-- copy (v), sort_array, map_array / map_mapping, lower_case / upper_case / capitalize: the result has the size of
    the operand (copy_array / copyMapping / string_copy of a value that exists) -/
def sameSize (n : Nat) : SzR := .ok n

/-- filter_array / filter_mapping, unique_array (number of groups), array `-` and `&`: `kept` of the `n` elements -/
def partOf (n kept : Nat) : SzR := .ok (min kept n)

/-- keys (m) / values (m): `allocate_empty_array (m->count)` -/
def mapKeys (count : Nat) (arrayLimit : Int) : SzR := allocateArray count arrayLimit

/-- allocate_mapping (n): an empty mapping whatever n is (n only sizes the hash table, clamped to MAX_MAPPING_SIZE) -/
def allocateMapping (_n : Int) : SzR := .ok 0

/-- string_print_formatted's final test (fix 3738abb): the finished result must respect MaxStringLength too -/
def sprintfFinish (real : Nat) (limit : Int) : SzR :=
  if real > toSizeT limit then .err else .ok real

/-- replace_string, replacement longer than a pattern of two or more characters: the decision sequence of the scan
    after the fix.  `dlen` characters are in the MAX-sized destination.  Each step is guarded as in the code. -/
inductive RStep
  | skip (k : Nat)       -- k characters copied by the skip loop        guard `MAX - dlen <= k`
  | repl (rlen : Nat)    -- one replacement of rlen characters          guard `MAX - dlen <= rlen`
  | copy1                -- one character copied                        guard `MAX - dlen <= 1`
  deriving Repr, DecidableEq

/-- characters a step writes -/
def RStep.len : RStep → Nat
  | .skip k => k
  | .repl r => r
  | .copy1 => 1

/-- run the steps; `none` = the efun gave up (returns 0); `some dlen` otherwise -/
def replaceRun (limit : Nat) : List RStep → Nat → Option Nat
  | [], dlen => some dlen
  | st :: rest, dlen =>
    if limit - dlen ≤ st.len then none else replaceRun limit rest (dlen + st.len)

/-- the final tail copy: `if ((ptrdiff_t) (MAX - dlen) <= slimit - src) give up` -/
def replaceFinish (limit : Nat) (tail : Nat) : Option Nat → SzR
  | none => .zero
  | some dlen => if limit - dlen ≤ tail then .zero else .ok (dlen + tail)

/-- the steps for the family used by the harness: "c"*a + "ab"*b, pattern "ab", replacement of r > 2 characters -/
def replaceFamilySteps (a b r : Nat) : List RStep :=
  -- the scan skips two characters at a time over the c's (one when the probe sees the 'a'), then replaces
  let skips := if b = 0 then (List.replicate (a / 2) (RStep.skip 2))
               else List.replicate (a / 2) (RStep.skip 2) ++ (if a % 2 = 1 then [RStep.skip 1] else [])
  skips ++ List.replicate b (RStep.repl r)

def replaceFamily (a b r : Nat) (limit : Nat) : SzR :=
  let tail := if b = 0 then a % 2 else 0
  replaceFinish limit tail (replaceRun limit (replaceFamilySteps a b r) 0)

/-! ### mapping * mapping, regexp, reg_assoc, restore_variable -/

/-- m1 * m2 and m1 *= m2 (compose_mapping, lib/lpc/mapping.c): every node of (a copy of) m1 whose value is not a key of
    m2 is unlinked and counted in the local `deleted`, then `m1->count -= deleted`.  `kept` nodes survive.  `bits` is the
    width of `deleted` (an `unsigned short` before the fix, an `unsigned int` now: `composeDeletedBits`). -/
def composeMappingW (bits : Nat) (c1 kept : Nat) : SzR :=
  let deleted := c1 - min kept c1
  .ok (c1 - deleted % 2 ^ bits)

def composeMapping (c1 kept : Nat) : SzR := composeMappingW composeDeletedBits c1 kept

/-- regexp (string *, pattern, flag) (match_regexp, lib/lpc/array.c): `allocate_empty_array (num_match << flag)` with
    `flag &= 1` (flag 1: an index is added per match) -/
def matchRegexp (matched : Nat) (flag : Int) (limit : Int) : SzR :=
  allocateArray ((matched <<< (flag.toNat % 2) : Nat)) limit

/-- reg_assoc: both result arrays are `allocate_empty_array (2 * num_match + 1)` -/
def regAssoc (numMatch : Nat) (limit : Int) : SzR := allocateArray ((2 * numMatch + 1 : Nat)) limit

/-- restore_variable of an array text: `allocate_array (size)` with the element count restore_size found -/
def restoreArray (n : Nat) (limit : Int) : SzR := allocateArray (n : Nat) limit

/-- restore_variable of a mapping text with n distinct keys: `if (++count > MAX) mapping_too_large ()` per pair -/
def restoreMapping (n : Nat) (limit : Int) : SzR := mapInsertMany 0 n limit

/-! ### regexp matching is charged against the evaluation cost (lib/efuns/regexp.c regexec, fix 1ced780) -/

/-- regexec (): `steps` node visits are needed; the budget is `cost * REGEXP_STEPS_PER_TICK` visits (cost > 1) or one tick's
    worth; returns (eval_cost afterwards, node visits made) -/
def regexCharge (cost : Int) (steps : Nat) : Int × Nat :=
  let ticks : Int := if cost > 1 then cost else 1
  let budget : Nat := (ticks * regexpStepsPerTick).toNat
  let made := min steps budget
  let used : Int := ((made / regexpStepsPerTick : Nat) : Int)
  (if cost > 1 then (if used ≥ cost - 1 then 1 else cost - used) else cost, made)

/-- node visits of "(a|aa)*b" against "a" * n + "cb": at least the Fibonacci number (each position is reached from the one and
    from the two before it), at most 16 times the one three further on -/
def fibAux : Nat → Nat × Nat
  | 0 => (1, 1)
  | n + 1 => ((fibAux n).2, (fibAux n).1 + (fibAux n).2)

def fibN (n : Nat) : Nat := (fibAux n).1

def rxLower (n : Nat) : Nat := fibN n
def rxUpper (n : Nat) : Nat := 16 * fibN (n + 3)

/-- outcome of an evaluation that makes this one match and returns: `some true` = the budget is certainly used up (the next
    instruction raises the error), `some false` = it certainly is not, `none` = between the two bounds -/
def rxExpires (n : Nat) (cost : Int) : Option Bool :=
  if rxLower n ≥ (cost * regexpStepsPerTick).toNat then some true
  else if (rxUpper n : Int) + 100 * regexpStepsPerTick < (cost - 100) * regexpStepsPerTick then some false
  else none

/-- unique_mapping (array, f) (f_unique_mapping, lib/lpc/mapping.c; fix 115d78e): one key per distinct result of the callback,
    `if (numkeys > MAX) mapping_too_large ()` before the mapping is built (it is filled without find_for_insert) -/
def uniqueMapping (n groups : Nat) (limit : Int) : SzR :=
  let keys := min groups n
  if (keys : Int) > limit then .err else .ok keys

/-- the same before the fix: no test -/
def uniqueMappingOld (n groups : Nat) : SzR := .ok (min groups n)

end NV.C04
