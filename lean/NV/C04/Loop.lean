/-
C04 — executable model, part (e): where the evaluation cost is charged (src/interpret.c eval_instruction).

The interpreter loop is

    while (1) {
        instruction = EXTRACT_UCHAR (pc++);
        if (!--eval_cost) { set_error_state (ES_MAX_EVAL_COST); eval_cost = MAX; error (...); }
        switch (instruction) { case ...: ...; break;  ...  }
    }

Every instruction is charged at the fetch, before the dispatch: a loop iteration, a call and a return cannot avoid
the charge as long as (1) the test stands between the fetch and the `switch`, (2) no `goto` enters the loop body
behind it, and (3) no case moves `pc` backwards and runs on without going back to the head of the loop.  The
translator (props/c04.py: gen_loop) regenerates these three facts and the list of opcodes whose case moves `pc`
backwards (directly or through the static helpers do_loop_cond_*) into NV/Gen/C04.lean:

    tickBeforeDispatch, evalLoopGotos, backwardOps, backwardOpsLooping, localCallOps, callbackCharge

Efuns that call back into LPC go through call_efun_callback, which charges once per callback with the same test
(`callbackCharge`, site callbackTick) - a callback to a function that does not exist runs no instruction at all.

The machine below is a byte-code level one: a program is an array of instruction classes, the branch decisions come
from an arbitrary oracle.  `loop_iterations_charged` (Props.lean): in every run of every program, backward jumps taken +
calls + callbacks ≤ ticks charged ≤ budget.
-/
import NV.Gen.C04

namespace NV.C04

open NV.Gen.C04

/-- the backward-branch opcodes this model knows (each is an `Ins.back`): a new one in the source makes
    `bridge_backwardOps` fail until it is looked at and listed here (and given a loop form in props/c04.py) -/
def modelBackwardOps : List String :=
  ["F_BBRANCH", "F_BBRANCH_LT", "F_BBRANCH_WHEN_NON_ZERO", "F_BBRANCH_WHEN_ZERO", "F_LOOP_COND_LOCAL",
   -- (F_LOOP_INCR runs the F_LOOP_COND_* that follows it inline, without a fetch: one tick for both)
   "F_LOOP_COND_NUMBER", "F_LOOP_INCR", "F_NEXT_FOREACH", "F_WHILE_DEC"]

/-- what the fetch charges: one tick when the test stands before the dispatch, nothing jumps behind it and no case
    that moves pc backwards does so inside a loop of its own (it goes back to the head of the loop, where the next
    fetch pays) -/
def fetchCharge : Nat :=
  if tickBeforeDispatch && evalLoopGotos == 0 && backwardOpsLooping.isEmpty then 1 else 0

inductive Ins
  | plain                          -- any opcode whose case only moves pc forward (efuns without callbacks included)
  | fwd (off : Nat)                -- F_BRANCH / F_BRANCH_WHEN_*: forward when taken
  | back (op : Nat) (off : Nat)    -- backward-branch opcode number `op` of `backwardOps`: `pc -= off` when taken
  | call (addr : Nat)              -- F_CALL_FUNCTION_BY_ADDRESS / F_CALL_INHERITED: `pc = program + address`
  | ret                            -- F_RETURN
  | cbEfun (k : Nat)               -- an efun making k callbacks through call_efun_callback (map_array, sort_array ...)
  deriving Repr, DecidableEq

structure LSt where
  pc : Nat
  cost : Int                       -- eval_cost
  rets : List Nat := []            -- return addresses (csp->pc)
  ticks : Nat := 0                 -- ghost: charges made
  backs : Nat := 0                 -- ghost: backward jumps taken
  calls : Nat := 0                 -- ghost: functions entered
  cbs : Nat := 0                   -- ghost: callbacks made
  deriving Repr

inductive LOut
  | running
  | done                           -- F_RETURN of the outermost frame (or pc left the program)
  | expired                        -- "Too long evaluation": the error leaves eval_instruction
  deriving Repr, DecidableEq

/-- `if (!--eval_cost)`, n times over (n = 0: nothing charged) -/
def charge (s : LSt) : Nat → LOut × LSt
  | 0 => (.running, s)
  | n + 1 =>
    let s := { s with cost := s.cost - 1, ticks := s.ticks + 1 }
    if s.cost == 0 then (.expired, s) else charge s n

/-- k callbacks: call_efun_callback charges `callbackCharge` each, then the (code-less) function "runs" -/
def callbacks (s : LSt) : Nat → LOut × LSt
  | 0 => (.running, s)
  | k + 1 =>
    match charge s callbackCharge with
    | (.running, s) => callbacks { s with cbs := s.cbs + 1 } k
    | r => r

/-- one turn of the interpreter loop; `taken` is the branch decision of this turn -/
def lstep (prog : Array Ins) (taken : Bool) (s : LSt) : LOut × LSt :=
  if s.pc ≥ prog.size then (.done, s)
  else
    -- fetch, then the charge
    match charge s fetchCharge with
    | (.running, s) =>
      (match prog.getD s.pc .plain with
       | .plain => (.running, { s with pc := s.pc + 1 })
       | .fwd off => (.running, { s with pc := if taken then s.pc + 1 + off else s.pc + 1 })
       | .back _ off =>
         if taken then (.running, { s with pc := s.pc + 1 - off, backs := s.backs + 1 })
         else (.running, { s with pc := s.pc + 1 })
       | .call addr => (.running, { s with pc := addr, rets := (s.pc + 1) :: s.rets, calls := s.calls + 1 })
       | .ret =>
         (match s.rets with
          | [] => (.done, s)
          | r :: rest => (.running, { s with pc := r, rets := rest }))
       | .cbEfun k =>
         (match callbacks s k with
          | (.running, s) => (.running, { s with pc := s.pc + 1 })
          | r => r))
    | r => r

/-- run for at most `fuel` turns; the oracle decides every branch -/
def lrun (prog : Array Ins) (orc : Nat → Bool) : Nat → LSt → LOut × LSt
  | 0, s => (.running, s)
  | f + 1, s =>
    match lstep prog (orc f) s with
    | (.running, s) => lrun prog orc f s
    | r => r

/-- the driver starts an evaluation: `eval_cost = budget` (clamped to ≥ 1 by rc.cpp / set_eval_limit) -/
def LSt.start (budget : Int) : LSt := { pc := 0, cost := budget }

end NV.C04
