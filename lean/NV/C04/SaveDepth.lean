/-
C04 — the depth-limited walks over a value (svalue_save_size, deep_copy_svalue, the size pre-pass of restore).
-/
import NV.C04.Save

namespace NV.C04

open NV.Gen.C04

/-- the walk over an element list fails when it fails on an element -/
theorem saveSize_cons (d : Nat) (h t : Val) :
    (saveSize d (.cons h t)).isSome = ((saveSize d h).isSome && (saveSize d t).isSome) := by
  simp only [saveSize]
  cases saveSize d h <;> cases saveSize d t <;> rfl

/-- ... and on a container when the depth test refuses it or the walk fails inside -/
theorem saveSize_box (d : Nat) (i : Val) :
    (saveSize d (.box i)).isSome = if d + 1 > maxSaveDepth then false else (saveSize (d + 1) i).isSome := by
  simp only [saveSize]
  split
  · rfl
  · cases saveSize (d + 1) i <;> rfl

/-- svalue_save_size succeeds exactly on the values whose nesting fits below MAX_SAVE_SVALUE_DEPTH (a value without
    containers is never refused) -/
theorem saveSize_isSome (v : Val) :
    ∀ d, (saveSize d v).isSome = true ↔ (v.nest = 0 ∨ d + v.nest ≤ maxSaveDepth) := by
  induction v with
  | leaf n => intro d; simp [saveSize, Val.nest]
  | nil => intro d; simp [saveSize, Val.nest]
  | cons h t ih1 ih2 =>
    intro d
    rw [saveSize_cons, Bool.and_eq_true, ih1, ih2]
    simp only [Val.nest]
    omega
  | box i ih =>
    intro d
    rw [saveSize_box]
    simp only [Val.nest]
    split
    · simp only [Bool.false_eq_true, false_iff]; omega
    · rw [ih]; omega

/-- the depth counter of the walk never exceeds the limit, error path included -/
theorem saveReach_le (v : Val) : ∀ d, d ≤ maxSaveDepth → saveReach d v ≤ maxSaveDepth := by
  induction v with
  | leaf n => intro d h; exact h
  | nil => intro d h; exact h
  | cons h t ih1 ih2 =>
    intro d hd
    unfold saveReach
    split
    · exact ih1 d hd
    · exact Nat.max_le.mpr ⟨ih1 d hd, ih2 d hd⟩
  | box i ih =>
    intro d hd
    unfold saveReach
    split
    · exact hd
    · exact ih (d + 1) (by omega)

/-- the restore pre-pass accepts exactly what svalue_save_size would write: the same depth limit -/
theorem restoreWalk_eq (v : Val) : ∀ d, restoreWalk d v = (saveSize d v).isSome := by
  induction v with
  | leaf n => intro d; rfl
  | nil => intro d; rfl
  | cons h t ih1 ih2 => intro d; rw [saveSize_cons, ← ih1, ← ih2]; rfl
  | box i ih =>
    intro d
    rw [saveSize_box, ← ih]
    rfl

/-- the recursion of the pre-pass goes at most one level past the limit (the call that refuses), for every text -/
theorem restoreReach_le (v : Val) : ∀ d, d ≤ maxSaveDepth → restoreReach d v ≤ maxSaveDepth + 1 := by
  induction v with
  | leaf n => intro d h; exact Nat.le_succ_of_le h
  | nil => intro d h; exact Nat.le_succ_of_le h
  | cons h t ih1 ih2 =>
    intro d hd
    unfold restoreReach
    split
    · exact Nat.max_le.mpr ⟨ih1 d hd, ih2 d hd⟩
    · exact ih1 d hd
  | box i ih =>
    intro d hd
    unfold restoreReach
    split
    · omega
    · exact ih (d + 1) (by omega)

end NV.C04
