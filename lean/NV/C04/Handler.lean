/-
C04 — model of error_handler () (src/error_context.c): what the receiving error context sees of `error_state`,
whatever the master's error handler does.

The limits machine (Model.lean) takes `raise` to be the identity on `error_state`: "the master's handler runs first,
then the longjmp; the receiving context sees the state of the raise".  That is a property of error_handler (), and it
was false before fix d13165e for a handler that completes a catch () and then raises an error of its own.  This file
models the function with its flags, in the order of the C code:

    caught path (the innermost context is a catch frame)            uncaught path
      if (in_mudlib_error_handler)                                     if (in_error) longjmp
        { if (current_error_context == handler's context)              in_error = 1;
            { in_mudlib_error_handler = 0;                             if (in_mudlib_error_handler)
              set_error_state (handler_limit_state); } }  (fix)          { if (current_error_context == handler's context)
      else                                                                 { in_mudlib_error_handler = 0;
        { limit_state = get_error_state (FULL | COST);                       set_error_state (handler_limit_state); } }   (fix)
          handler_limit_state = limit_state;              (fix)        else
          in_mudlib_error_handler = 1;                                   { limit_state = ...; handler_limit_state = limit_state;
          mudlib_error_handler (err, 1);                                   in_mudlib_error_handler = 1; in_error = 0;
          in_mudlib_error_handler = 0;                                     mudlib_error_handler (err, 0);
          set_error_state (limit_state); }                                 in_error = 1; in_mudlib_error_handler = 0;
      longjmp                                                              set_error_state (limit_state); }
                                                                       in_error = 0; longjmp

The mudlib handler is LPC code: it may complete a catch () or a safe apply (pop_context clears error_state), return,
raise an ordinary error, or run out of budget (which sets ES_MAX_EVAL_COST) - an error raised inside it enters
error_handler () again, with the same innermost context, and never comes back to the outer invocation.
`error_state` is the pair of its two bits.
-/
namespace NV.C04

/-- the variables error_handler () reads and writes -/
structure EH where
  full : Bool            -- error_state & ES_STACK_FULL
  cost : Bool            -- error_state & ES_MAX_EVAL_COST
  inMudlib : Bool        -- in_mudlib_error_handler
  inError : Bool         -- in_error
  savedFull : Bool       -- handler_limit_state & ES_STACK_FULL
  savedCost : Bool       -- handler_limit_state & ES_MAX_EVAL_COST
  deriving Repr, DecidableEq

/-- what the mudlib error handler does in the end -/
inductive HBeh
  | returns (catches : Bool)         -- runs to its end (after completing a catch () / safe apply or not)
  | raises (catchesFirst : Bool)     -- raises an ordinary error of its own, outside any catch of its own
  | expires (catchesFirst : Bool)    -- runs out of evaluation cost, outside any catch of its own
  | noHandler (traceApplies : Bool)  -- the master has no error_handler (): the apply fails and mudlib_error_handler () prints the
                                     -- driver's own trace; with ArgumentsInTrace / LocalVariablesInTrace dump_trace turns every
                                     -- object value of a frame into text through safe_apply_master_ob ("object_name")
  deriving Repr, DecidableEq

/-- what it does on the way (integration with C05's cd4f16a: `if (current_error_context == mudlib_error_handler_context)`
    - an error inside a catch () of the handler itself is received by that catch, the handler goes on) -/
inductive HEv
  | catchOk                          -- a catch () / safe apply of the handler completes without an error
  | errInCatch (expiry : Bool)       -- an error (ordinary, or the budget running out) inside a catch () of the handler
  deriving Repr, DecidableEq

/-- a catch () or safe apply completing inside the handler: pop_context → clear_error_state -/
def EH.afterCatch (s : EH) (c : Bool) : EH := if c then { s with full := false, cost := false } else s

/-- the nested invocation for an error that leaves the handler (the innermost context is the one the handler was
    started under: `current_error_context == mudlib_error_handler_context`): `restore` is the fix -/
def nestedHandler (restore : Bool) (ctxIsCatch : Bool) (s : EH) : EH :=
  if ctxIsCatch then
    -- caught path, in_mudlib_error_handler is set
    let s := { s with inMudlib := false }
    if restore then { s with full := s.full || s.savedFull, cost := s.cost || s.savedCost } else s
  else if s.inError then s
  else
    let s := { s with inError := true, inMudlib := false }
    let s := if restore then { s with full := s.full || s.savedFull, cost := s.cost || s.savedCost } else s
    { s with inError := false }

/-- one event inside the running handler: `inl` = the handler goes on, `inr` = it was abandoned (state at the longjmp).
    An error inside the handler's own catch enters error_handler () on the caught path with a different innermost
    context: nothing is touched, the longjmp goes to the handler's do_catch, which re-raises when a limit bit is set
    (pop_context, the bit set again, error: now towards the context the handler was started under) and otherwise
    completes (pop_context clears the state). -/
def stepEv (restore : Bool) (ctxIsCatch : Bool) (s : EH) : HEv → Sum EH EH
  | .catchOk => .inl { s with full := false, cost := false }
  | .errInCatch e =>
    let s := { s with cost := s.cost || e }
    if s.cost then .inr (nestedHandler restore ctxIsCatch { s with full := false, cost := true })
    else if s.full then .inr (nestedHandler restore ctxIsCatch { s with full := true, cost := false })
    else .inl { s with full := false, cost := false }

/-- dump_trace (g_trace_flag) with object values in the traced frames: svalue_to_string applies master::object_name through
    safe_apply_master_ob (not when ES_STACK_FULL is set); the safe apply completes: pop_context → clear_error_state -/
def EH.afterTrace (s : EH) (applies : Bool) : EH :=
  if applies && !s.full then { s with full := false, cost := false } else s

/-- how the handler ends.  `lateRestore`: `set_error_state (limit_state)` is made by error_handler () after
    mudlib_error_handler () has returned, i.e. after the fallback trace (the code as it is); `false`: right after the apply of
    the master's handler, before the trace (the order of seeded change C04-5) -/
def finish (restore : Bool) (lateRestore : Bool) (ctxIsCatch : Bool) (limFull limCost : Bool) (s : EH) : HBeh → EH
  | .noHandler t =>
    if lateRestore then
      let s := s.afterTrace t
      { s with inMudlib := false, inError := false, full := s.full || limFull, cost := s.cost || limCost }
    else
      let s := ({ s with full := s.full || limFull, cost := s.cost || limCost } : EH).afterTrace t
      { s with inMudlib := false, inError := false }
  | .returns c =>
    let s := s.afterCatch c
    { s with inMudlib := false, inError := false, full := s.full || limFull, cost := s.cost || limCost }
  | .raises c => nestedHandler restore ctxIsCatch (s.afterCatch c)
  | .expires c =>
    -- eval_instruction: set_error_state (ES_MAX_EVAL_COST) before error ()
    nestedHandler restore ctxIsCatch { (s.afterCatch c) with cost := true }

def runHandler (restore : Bool) (lateRestore : Bool) (ctxIsCatch : Bool) (limFull limCost : Bool) : List HEv → HBeh → EH → EH
  | [], beh, s => finish restore lateRestore ctxIsCatch limFull limCost s beh
  | e :: es, beh, s =>
    match stepEv restore ctxIsCatch s e with
    | .inl s1 => runHandler restore lateRestore ctxIsCatch limFull limCost es beh s1
    | .inr r => r

/-- error_handler () entered from an evaluation (no handler running); the result is the state at the longjmp -/
def errorHandlerW (restore : Bool) (lateRestore : Bool) (ctxIsCatch : Bool) (evs : List HEv) (beh : HBeh) (s : EH) : EH :=
  let s1 := { s with savedFull := s.full, savedCost := s.cost, inMudlib := true }
  let s2 := if ctxIsCatch then s1 else { s1 with inError := false }
  runHandler restore lateRestore ctxIsCatch s.full s.cost evs beh s2

/-- the code as it is -/
def errorHandler : Bool → List HEv → HBeh → EH → EH := errorHandlerW true true

/-- the code before fix d13165e -/
def errorHandlerOld : Bool → List HEv → HBeh → EH → EH := errorHandlerW false true

/-- the statement order of seeded change C04-5: the bits are put back before the fallback trace -/
def errorHandlerEarlyRestore : Bool → List HEv → HBeh → EH → EH := errorHandlerW true false

/-- while the handler runs: in_error is clear and handler_limit_state holds the bits of the raise (the flag
    in_mudlib_error_handler is set as well; `nestedHandler` is the branch taken when it is, so nothing reads it) -/
def Running (limFull limCost : Bool) (s : EH) : Prop :=
  s.inError = false ∧ s.savedFull = limFull ∧ s.savedCost = limCost

/-- the state at the longjmp: the bits of the raise are set, both flags are clear -/
def Landed (limFull limCost : Bool) (r : EH) : Prop :=
  (limFull = true → r.full = true) ∧ (limCost = true → r.cost = true) ∧ r.inMudlib = false ∧ r.inError = false

theorem Running.afterCatch {lf lc : Bool} {s : EH} (h : Running lf lc s) (c : Bool) : Running lf lc (s.afterCatch c) := by
  cases c <;> exact h

/-- the fix: the nested invocation puts the saved bits back and clears the flag -/
theorem nested_landed (ctx lf lc : Bool) (s : EH) (h : Running lf lc s) : Landed lf lc (nestedHandler true ctx s) := by
  obtain ⟨h2, h3, h4⟩ := h
  cases ctx <;> simp +contextual [nestedHandler, Landed, h2, h3, h4]

/-- a handler that comes back has the bits of the raise put back after it; one that is abandoned by an error of its
    own goes through the nested invocation -/
theorem finish_landed (ctx lf lc : Bool) (s : EH) (beh : HBeh) (h : Running lf lc s) :
    Landed lf lc (finish true true ctx lf lc s beh) := by
  cases beh with
  | returns c => simp +contextual [finish, Landed]
  | noHandler t => simp +contextual [finish, Landed]
  | raises c => exact nested_landed ctx lf lc _ (h.afterCatch c)
  | expires c => exact nested_landed ctx lf lc _ (h.afterCatch c)

/-- an event inside the running handler leaves it running, or abandons it through the nested invocation -/
theorem stepEv_ok (ctx lf lc : Bool) (s : EH) (e : HEv) (h : Running lf lc s) :
    match stepEv true ctx s e with
    | .inl s1 => Running lf lc s1
    | .inr r => Landed lf lc r := by
  cases e with
  | catchOk => exact h
  | errInCatch x =>
    unfold stepEv
    simp only
    by_cases hc : (s.cost || x) = true
    · rw [if_pos hc]; exact nested_landed ctx lf lc _ h
    · rw [if_neg hc]
      by_cases hf : s.full = true
      · rw [if_pos hf]; exact nested_landed ctx lf lc _ h
      · rw [if_neg hf]; exact h

theorem run_landed (ctx lf lc : Bool) (beh : HBeh) : ∀ (evs : List HEv) (s : EH), Running lf lc s →
    Landed lf lc (runHandler true true ctx lf lc evs beh s)
  | [], s, h => finish_landed ctx lf lc s beh h
  | e :: rest, s, h => by
    have := stepEv_ok ctx lf lc s e h
    unfold runHandler
    split <;> rename_i heq <;> rw [heq] at this
    · exact run_landed ctx lf lc beh rest _ this
    · exact this

/-- **handler_keeps_limit_state**: whatever the master's error handler does - or when there is none and the driver prints
    its own trace, with or without object values in the traced frames - any sequence of catches completing and of
    errors (ordinary, or the budget running out) inside catches of its own, then a return, an error of its own or the
    budget running out, before or after a catch - and whichever kind of context receives the error: the limit bits of
    `error_state` at the raise are set when the longjmp to that context is made (what `raise` in Model.lean assumes),
    and in_error / in_mudlib_error_handler are clear again. -/
theorem handler_keeps_limit_state (ctx : Bool) (evs : List HEv) (beh : HBeh) (s : EH) (h2 : s.inError = false) :
    ((s.full = true → (errorHandler ctx evs beh s).full = true) ∧
     (s.cost = true → (errorHandler ctx evs beh s).cost = true)) ∧
    (errorHandler ctx evs beh s).inMudlib = false ∧ (errorHandler ctx evs beh s).inError = false := by
  -- the handler is entered with the bits of the raise saved and its flag set
  obtain ⟨full, cost, inMudlib, inError⟩ : Landed s.full s.cost (errorHandler ctx evs beh s) :=
    run_landed ctx s.full s.cost beh evs _ (by cases ctx <;> simp [Running, h2])
  exact ⟨⟨full, cost⟩, inMudlib, inError⟩

/-- the same for the handlers the harness runs on the real driver (modes 0..3 of /c04/master.c) -/
theorem handler_keeps_limit_state_each (ctx : Bool) (beh : HBeh) (full cost sf sc : Bool) :
    let s : EH := { full := full, cost := cost, inMudlib := false, inError := false, savedFull := sf, savedCost := sc }
    (full = true → (errorHandler ctx [] beh s).full = true) ∧ (cost = true → (errorHandler ctx [] beh s).cost = true) := by
  intro s
  exact (handler_keeps_limit_state ctx [] beh s rfl).1

/-- an evaluation-cost error has just been raised, no handler is running -/
def costRaised : EH :=
  { full := false, cost := true, inMudlib := false, inError := false, savedFull := false, savedCost := false }

/-- seeded change C04-5 (restore moved into mudlib_error_handler (), before the fallback trace): without a master
    error_handler () and with an object value in a traced frame, the evaluation-cost bit is gone when do_catch () / safe_apply ()
    look - on both paths; with the code as it is the bit is there -/
theorem handler_early_restore_loses_state :
    (errorHandlerEarlyRestore true [] (.noHandler true) costRaised).cost = false ∧
    (errorHandlerEarlyRestore false [] (.noHandler true) costRaised).cost = false ∧
    (errorHandler true [] (.noHandler true) costRaised).cost = true ∧
    (errorHandlerEarlyRestore true [] (.noHandler false) costRaised).cost = true := by
  decide

/-- before the fix: a handler that completes a catch () and then raises an error loses the evaluation-cost bit, on both
    paths (caught: catch (spin ()) completes; uncaught: safe_apply does not cut its caller down to one tick) -/
theorem handler_lost_limit_state_before_fix :
    (errorHandlerOld true [] (.raises true) costRaised).cost = false ∧
    (errorHandlerOld false [.catchOk] (.raises false) costRaised).cost = false ∧
    (errorHandler true [.catchOk, .errInCatch false] (.raises true) costRaised).cost = true := by
  decide

end NV.C04
