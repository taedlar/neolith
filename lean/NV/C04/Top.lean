/-
C04 — the model satisfies the specification oracle, clause by clause (`model_satisfies_spec`).

The oracle (Spec.lean) judges an implementation trace through `judgeEv` (events) and `judgeNums` (the numbers of the
`obs` line).  Here both are applied to a run of the model: for every configured budget, every configuration with a
positive MaxCallDepth and a StackSize the harness accepts (above the slack of reset_interpreter), every program shape and every fuel, no clause fires.
-/
import NV.C04.Props

namespace NV.C04

open NV.Gen.C04

theorem seqM_ok_inv {r : Out × St} {k : St → Out × St} {s' : St} (h : seqM r k = (.ok, s')) :
    ∃ s1, r = (.ok, s1) ∧ k s1 = (.ok, s') := by
  obtain ⟨o, s1⟩ := r
  cases o with
  | ok => exact ⟨s1, rfl, h⟩
  | raised k' => cases h
  | fuel => cases h

theorem tick_ok_inv {cfg : Cfg} {ctx : Ctx} {s s' : St} (h : tick cfg ctx s = (.ok, s')) :
    s.cost - 1 ≠ 0 ∧ s'.ticks = s.ticks + 1 ∧ s'.cost = s.cost - 1 := by
  unfold tick at h
  simp only at h
  split at h
  · cases h
  · rename_i hz
    cases h
    exact ⟨by simpa using hz, rfl, rfl⟩

/-- a call that returned: F_RETURN completed in `s5`, after the body -/
theorem exec_call_ok_inv {cfg : Cfg} {fuel : Nat} {ctx : Ctx} {l : Nat} {b : Sh} {s s' : St}
    (h : exec cfg fuel ctx (.call l b) s = (.ok, s')) :
    ∃ f s4 s5, callBody cfg f ctx l b s = (.ok, s4) ∧ tick cfg ctx s4 = (.ok, s5) ∧ s' = leave s5 s.depth s.sp := by
  cases fuel with
  | zero => cases h
  | succ f =>
    rw [exec_call] at h
    obtain ⟨s5, h, hr⟩ := seqM_ok_inv h
    obtain ⟨s4, h4, h5⟩ := seqM_ok_inv h
    exact ⟨f, s4, s5, h4, h5, (Prod.mk.inj hr).2.symm⟩

/-- a function call that returns leaves both stacks as it found them (pop_control_stack, the values above the
    frame's base popped) -/
theorem exec_call_ok_unwound (cfg : Cfg) (fuel : Nat) (ctx : Ctx) (l : Nat) (b : Sh) (s s' : St)
    (h : exec cfg fuel ctx (.call l b) s = (.ok, s')) : s'.depth = s.depth ∧ s'.sp = s.sp := by
  obtain ⟨_, _, _, -, -, rfl⟩ := exec_call_ok_inv h
  exact ⟨rfl, rfl⟩

/-- nothing completes after an expiry: a function call that returns has conserved `ticks + eval_cost`.  No catch frame
    completes with the error (`exec_EvOk`), and a safe apply that stops it leaves its caller one tick, which the
    caller's next instruction - at the latest its F_RETURN - uses up. -/
theorem exec_call_ok_conserves {cfg : Cfg} {fuel : Nat} {ctx : Ctx} {l : Nat} {b : Sh} {s s' : St}
    (h : exec cfg fuel ctx (.call l b) s = (.ok, s')) (hpos : 0 < s.cost) : 0 < s'.cost ∧ phi s' = phi s := by
  obtain ⟨f, s4, s5, h4, h5, rfl⟩ := exec_call_ok_inv h
  -- up to the F_RETURN ...
  have hA := (accRule cfg).callBody (exec_Acc cfg f ctx b) l s
  rw [h4] at hA
  obtain ⟨hpos4, h7⟩ := hA.of_live hpos rfl
  -- ... and F_RETURN completed: more than the one tick a stopped expiry leaves was there, so nothing had expired
  obtain ⟨hleft, ht, hc⟩ := tick_ok_inv h5
  have hphi : phi s4 = phi s := h7.elim id fun h => absurd (by rw [h.1]; rfl) hleft
  unfold phi at *
  simp only [leave, ht, hc] at *
  omega

/-- **eval_completes_below_budget**: an evaluation that returns to the driver normally executed fewer instructions than
    its budget - nothing can complete after an expiry: no catch frame (limit_error_not_swallowed), and a safe apply that
    stops the error leaves its caller one tick, which the caller's next instruction uses up -/
theorem eval_completes_below_budget (cfg : Cfg) (hpos : 0 < cfg.maxCost) (fuel : Nat) (sh : Sh)
    (h : (evaluate cfg fuel sh).1 = .ok) : ((evaluate cfg fuel sh).2.ticks : Int) < cfg.maxCost := by
  obtain ⟨hc, hp⟩ := exec_call_ok_conserves (s' := (evaluate cfg fuel sh).2) (Prod.ext h rfl) hpos
  rw [phi_start] at hp
  unfold phi at hp
  omega

example : (evaluate { maxCost := 50, maxDepth := 20, stackSize := 100, handlerCatches := false } 1000
    (.seq (.work 10) (.catch_ .err))).1 = .ok := by decide +kernel

/-- the numbers the harness reports for a run: indices are heights minus one; when an error reached the driver-level
    context, restore_context there unwinds both stacks -/
def obsOf (cfg : Cfg) (r : Out × St) : Obs :=
  { ticks := r.2.ticks, maxcsp := r.2.maxDepth - 1, maxsp := r.2.maxSp - 1,
    csp := (match r.1 with | .ok => r.2.depth - 1 | _ => -1),
    sp := (match r.1 with | .ok => r.2.sp - 1 | _ => -1),
    maxtouch := if r.2.maxSp - 1 ≥ cfg.stackSize then r.2.maxSp - 1 else -1,
    cost0 := cfg.maxCost,
    completed := (match r.1 with | .ok => true | _ => false),
    handlers := r.2.raises }

theorem deliveryAllowance_nonneg (lim : Limits) (maxcsp : Int) : 0 ≤ deliveryAllowance lim maxcsp := by
  unfold deliveryAllowance handlerAllowance traceAllowance
  have : (0 : Int) ≤ (16 : Nat) * (lim.traceValues : Int) * (((maxcsp + 2).toNat : Nat) : Int) :=
    Int.mul_nonneg (Int.mul_nonneg (by omega) (by omega)) (by omega)
  omega

/-- numbers no clause of `judgeNums` objects to -/
theorem judgeNums_nil {lim : Limits} {o : Obs} (budget : 0 < lim.cost) (cost0 : o.cost0 = lim.cost)
    (ticks : o.ticks ≤ lim.cost + lim.safeWeight) (handlers : 0 ≤ o.handlers) (maxcsp : o.maxcsp ≤ lim.depth - 1)
    (maxsp : o.maxsp ≤ lim.stack - 1) (maxtouch : o.maxtouch ≤ lim.stack - 1) (csp : o.csp = -1) (sp : o.sp = -1)
    (completed : o.completed = true → o.ticks < lim.cost) : judgeNums lim o = [] := by
  have := Int.mul_nonneg (deliveryAllowance_nonneg lim o.maxcsp) handlers
  unfold judgeNums
  rw [cost0, if_pos budget, if_neg (by omega), if_neg (by omega), if_neg (by omega), if_neg (by omega),
    if_neg (by omega), if_neg (fun h => by have := completed h.1; omega)]
  rfl

/-- **model_satisfies_spec** (top theorem, all clauses of the oracle that speak about one evaluation).  `lim` is what the
    judge collects from the case lines: the budget as configured (clamped), MaxCallDepth, StackSize, and the number of
    safe applies the program can make (each may add one tick, see `eval_bound_attained_through_safe_apply`).  The allowance
    for what runs outside the program is per error delivery; the number of deliveries of the model run (`raises`) is what the
    `handlers` line compares with the implementation.  There is no side condition on the program. -/
theorem model_satisfies_spec (raw : Int) (cfg : Cfg) (hcfg : cfg.maxCost = clampCost raw) (hd : 0 < cfg.maxDepth)
    (hs : stackSlack + 1 ≤ cfg.stackSize) (fuel : Nat) (sh : Sh) (lim : Limits)
    (h1 : lim.cost = cfg.maxCost) (h2 : lim.depth = cfg.maxDepth) (h3 : lim.stack = cfg.stackSize)
    (h4 : lim.safeWeight = sh.safeWeight) :
    judgeNums lim (obsOf cfg (evaluate cfg fuel sh)) = [] ∧ judgeEv (evaluate cfg fuel sh).2.evs = [] := by
  refine ⟨?_, limit_error_not_swallowed cfg fuel sh⟩
  have hpos : 0 < cfg.maxCost := hcfg ▸ clampCost_pos raw
  -- the slack holds do_catch's unchecked push with a slot to spare, so the high-water mark is below StackSize
  have hslack : (2 : Int) ≤ stackSlack := by have := bridge_stackSlack; omega
  have hS := (stack_checked_pushes_bounded cfg fuel sh (by omega)).1
  -- a run that completed is back at the depth and height of the start state, 0
  have hU : ∀ s', evaluate cfg fuel sh = (.ok, s') → s'.depth = (St.start cfg).depth ∧ s'.sp = (St.start cfg).sp :=
    exec_call_ok_unwound cfg fuel .driver 0 sh (St.start cfg)
  apply judgeNums_nil
  case budget => exact h1 ▸ hpos
  case cost0 => exact h1.symm
  case ticks =>
    show ((evaluate cfg fuel sh).2.ticks : Int) ≤ lim.cost + (lim.safeWeight : Int)
    rw [h1, h4, hcfg]; exact eval_bounded raw cfg hcfg fuel sh
  case handlers => exact Int.natCast_nonneg _
  case maxcsp =>
    have := (depth_bounded cfg fuel sh (Int.le_of_lt hd)).1
    show (evaluate cfg fuel sh).2.maxDepth - 1 ≤ lim.depth - 1
    omega
  case maxsp =>
    show (evaluate cfg fuel sh).2.maxSp - 1 ≤ lim.stack - 1
    omega
  case maxtouch =>
    show (if (evaluate cfg fuel sh).2.maxSp - 1 ≥ cfg.stackSize then (evaluate cfg fuel sh).2.maxSp - 1 else -1) ≤ lim.stack - 1
    rw [if_neg (by omega)]; omega
  case csp =>
    rcases hr : evaluate cfg fuel sh with ⟨o, s'⟩
    cases o with
    | ok => have := (hU s' hr).1; show s'.depth - 1 = -1; simp only [St.start] at this; omega
    | raised k => rfl
    | fuel => rfl
  case sp =>
    rcases hr : evaluate cfg fuel sh with ⟨o, s'⟩
    cases o with
    | ok => have := (hU s' hr).2; show s'.sp - 1 = -1; simp only [St.start] at this; omega
    | raised k => rfl
    | fuel => rfl
  case completed =>
    intro hc
    have hB := eval_completes_below_budget cfg hpos fuel sh
    rcases hr : evaluate cfg fuel sh with ⟨o, s'⟩
    rw [hr] at hc hB
    cases o with
    | ok => exact h1 ▸ hB rfl
    | raised k => cases hc
    | fuel => cases hc

end NV.C04
