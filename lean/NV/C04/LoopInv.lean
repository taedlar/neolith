/-
C04 — the interpreter loop charges every backward jump, call and callback (NV/C04/Loop.lean).
-/
import NV.C04.Loop

namespace NV.C04

open NV.Gen.C04

/-- the three structural facts regenerated from src/interpret.c make the fetch cost exactly one tick -/
theorem fetchCharge_one : fetchCharge = 1 := by decide

theorem callbackCharge_one : callbackCharge = 1 := by decide

/-- `charge` in closed form: n ticks are taken, or as many as were left -/
theorem charge_eq (n : Nat) : ∀ s : LSt, 0 < s.cost → charge s n =
    if (n : Int) < s.cost then (.running, { s with cost := s.cost - n, ticks := s.ticks + n })
    else (.expired, { s with cost := 0, ticks := s.ticks + s.cost.toNat }) := by
  induction n with
  | zero => intro s hp; simp [charge, hp]
  | succ n ih =>
    intro s hp
    unfold charge
    simp only
    by_cases hz : s.cost - 1 = 0
    · have h1 : s.cost = 1 := by omega
      simp [h1]
      omega
    · have hb : ¬ (s.cost - 1 == 0) = true := by simpa using hz
      rw [if_neg hb, ih _ (by show 0 < s.cost - 1; omega)]
      by_cases hn : (n : Int) < s.cost - 1
      · rw [if_pos hn, if_pos (by omega)]
        congr 2 <;> simp only <;> omega
      · rw [if_neg hn, if_neg (by omega)]
        congr 2
        simp only
        omega

/-- accounting invariant: every backward jump, call and callback so far has been paid for, and what was paid is what
    is missing from the budget -/
def LInv (B : Int) (s : LSt) : Prop :=
  s.backs + s.calls + s.cbs ≤ s.ticks ∧ (s.ticks : Int) + s.cost = B

/-- outcome-dependent part: the cost is positive while the run goes on, zero when it expired -/
def LPos (r : LOut × LSt) : Prop :=
  (r.1 = .expired ∧ r.2.cost = 0) ∨ (r.1 ≠ .expired ∧ 0 < r.2.cost)

/-- what a stretch of the loop that started in `s` keeps: the accounting and the sign of the cost; while the loop goes
    on, the stretch has charged at least `n` ticks -/
structure LOk (B : Int) (n : Nat) (s : LSt) (r : LOut × LSt) : Prop where
  inv : LInv B r.2
  pos : LPos r
  charged : r.1 = .running → s.ticks + n ≤ r.2.ticks

theorem LOk.mono {B : Int} {n m : Nat} {s : LSt} {r : LOut × LSt} (h : LOk B n s r) (hm : m ≤ n) : LOk B m s r :=
  ⟨h.inv, h.pos, fun hr => Nat.le_trans (Nat.add_le_add_left hm _) (h.charged hr)⟩

/-- a stretch after which the loop goes on, followed by another -/
theorem LOk.trans {B : Int} {n m : Nat} {s s1 : LSt} {r : LOut × LSt} (h1 : LOk B n s (.running, s1))
    (h2 : LInv B s1 → 0 < s1.cost → LOk B m s1 r) : LOk B (m + n) s r := by
  obtain ⟨i, p, g⟩ := h1
  obtain ⟨i', p', g'⟩ := h2 i (p.elim (fun x => nomatch x.1) (·.2))
  refine ⟨i', p', fun hr => ?_⟩
  have : s.ticks + n ≤ s1.ticks := g rfl
  have := g' hr
  omega

/-- the budget ran out at the charge -/
theorem LOk_expired {B : Int} {n : Nat} {s : LSt} (hi : LInv B s) (hp : 0 < s.cost) :
    LOk B n s (.expired, { s with cost := 0, ticks := s.ticks + s.cost.toNat }) := by
  obtain ⟨i1, i2⟩ := hi
  refine ⟨⟨?_, ?_⟩, Or.inl ⟨rfl, rfl⟩, nofun⟩
  · show s.backs + s.calls + s.cbs ≤ s.ticks + s.cost.toNat
    omega
  · show ((s.ticks + s.cost.toNat : Nat) : Int) + 0 = B
    omega

/-- one tick was charged and the turn did at most one thing that has to be paid for -/
theorem LOk_paid {B : Int} {s t : LSt} {o : LOut} (hi : LInv B s) (ho : o ≠ .expired) (hc : t.cost = s.cost - 1)
    (hp : 0 < t.cost) (ht : t.ticks = s.ticks + 1) (hb : t.backs + t.calls + t.cbs ≤ s.backs + s.calls + s.cbs + 1) :
    LOk B 1 s (o, t) := by
  obtain ⟨i1, i2⟩ := hi
  refine ⟨⟨?_, ?_⟩, Or.inr ⟨ho, hp⟩, fun _ => Nat.le_of_eq ht.symm⟩
  · show t.backs + t.calls + t.cbs ≤ t.ticks
    omega
  · show (t.ticks : Int) + t.cost = B
    omega

/-- k callbacks after which the efun goes on were charged k ticks -/
theorem callbacks_ok (B : Int) (k : Nat) : ∀ s : LSt, LInv B s → 0 < s.cost → LOk B k s (callbacks s k) := by
  induction k with
  | zero => intro s hi hp; exact ⟨hi, Or.inr ⟨nofun, hp⟩, fun _ => Nat.le_refl _⟩
  | succ k ih =>
    intro s hi hp
    unfold callbacks
    rw [callbackCharge_one, charge_eq 1 s hp]
    by_cases h1 : ((1 : Nat) : Int) < s.cost
    · rw [if_pos h1]
      -- charged, the callback is made
      refine LOk.trans ?_ (ih _)
      exact LOk_paid hi nofun rfl (by show 0 < s.cost - 1; omega) rfl (by simp only; omega)
    · rw [if_neg h1]
      exact LOk_expired hi hp

/-- one turn of the loop keeps the accounting, and a turn after which the loop goes on has charged a tick -/
theorem lstep_ok (B : Int) (prog : Array Ins) (taken : Bool) (s : LSt) (hi : LInv B s) (hp : 0 < s.cost) :
    LOk B 1 s (lstep prog taken s) := by
  unfold lstep
  split
  · exact ⟨hi, Or.inr ⟨nofun, hp⟩, nofun⟩
  · rw [fetchCharge_one, charge_eq 1 s hp]
    by_cases h1 : ((1 : Nat) : Int) < s.cost
    · rw [if_pos h1]
      -- the fetch is paid: one tick of slack for whatever the instruction does
      have hc : 0 < s.cost - 1 := by omega
      simp only
      generalize prog.getD s.pc .plain = ins
      cases ins <;> simp only
      case plain | fwd => exact LOk_paid hi nofun rfl hc rfl (Nat.le_succ _)
      case back =>
        split
        · exact LOk_paid hi nofun rfl hc rfl (by simp only; omega)
        · exact LOk_paid hi nofun rfl hc rfl (Nat.le_succ _)
      case call => exact LOk_paid hi nofun rfl hc rfl (by simp only; omega)
      case ret =>
        split
        · exact LOk_paid hi nofun rfl hc rfl (Nat.le_succ _)
        · exact LOk_paid hi nofun rfl hc rfl (Nat.le_succ _)
      case cbEfun k =>
        have h := (LOk_paid (t := { s with cost := s.cost - 1, ticks := s.ticks + 1 }) (o := .running) hi nofun rfl hc rfl
          (Nat.le_succ _)).trans (callbacks_ok B k _)
        generalize callbacks { s with cost := s.cost - 1, ticks := s.ticks + 1 } k = q at h
        obtain ⟨o2, s2⟩ := q
        have h := h.mono (Nat.le_add_left 1 k)
        -- the callbacks made are paid for too; `pc` is no part of the accounting
        cases o2 <;> exact ⟨h.inv, h.pos, h.charged⟩
    · rw [if_neg h1]
      exact LOk_expired hi hp

/-- any number of turns keeps the accounting; after n turns that all went on, at least n ticks are charged -/
theorem lrun_ok (B : Int) (prog : Array Ins) (orc : Nat → Bool) (fuel : Nat) : ∀ s : LSt, LInv B s → 0 < s.cost →
    LOk B fuel s (lrun prog orc fuel s) := by
  induction fuel with
  | zero => intro s hi hp; exact ⟨hi, Or.inr ⟨nofun, hp⟩, fun _ => Nat.le_refl _⟩
  | succ f ih =>
    intro s hi hp
    have h := lstep_ok B prog (orc f) s hi hp
    unfold lrun
    generalize lstep prog (orc f) s = r at h
    obtain ⟨o, s1⟩ := r
    cases o with
    | running => exact h.trans (ih s1)
    | done => exact ⟨h.inv, h.pos, nofun⟩
    | expired => exact ⟨h.inv, h.pos, nofun⟩

end NV.C04
