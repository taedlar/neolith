/-
C04 — Lean-checked witnesses: why the repaired pieces are needed (the decision before the `fix:` commit, kept
in the model for reference, or the machine run outside the repaired precondition), and the functional
(not size-bound) consequences of the 16-bit size fields that stay open with C03.
The findings these witnesses come from are repaired (`fixed:` records of KNOWN_FINDINGS.jsonl).
-/
import NV.C04.Model
import NV.C04.Save
import NV.C04.MapBook

namespace NV.C04

open NV.Gen.C04

/-- why the clamp (fix 7c5c9ea) is needed: run with an unclamped budget of 0, `if (!--eval_cost)` never fires and a
    100 instruction loop completes -/
theorem eval_unbounded_at_zero_budget :
    (evaluate { maxCost := 0, maxDepth := 20, stackSize := 100, handlerCatches := false } 1000 (.work 100)).1 = .ok ∧
    (evaluate { maxCost := 0, maxDepth := 20, stackSize := 100, handlerCatches := false } 1000 (.work 100)).2.ticks = 103 := by
  decide +kernel

/-- the bound of eval_bounded is attained: two nested safe applies that each stop an eval-cost error add two ticks, and
    the evaluation then ends with the error in the caller -/
theorem eval_bound_attained_through_safe_apply :
    (evaluate { maxCost := 20, maxDepth := 20, stackSize := 100, handlerCatches := false } 1000
      (.seq (.safe (.seq (.safe .spin) (.work 1))) (.work 1))).2.ticks = 22 ∧
    (evaluate { maxCost := 20, maxDepth := 20, stackSize := 100, handlerCatches := false } 1000
      (.seq (.safe (.seq (.safe .spin) (.work 1))) (.work 1))).1 = .raised .cost := by
  decide +kernel

/-- before fix 3738abb: sprintf's buffer alone allows 300 characters under MaxStringLength 200; the final test refuses it -/
theorem sprintf_exceeds_small_limit : sprintfAdd 200 100 = .ok 300 ∧ sprintfFinish 300 200 = .err := by decide

/-- MaxArraySize above 65535: allocate (65536) reports size 0 (16-bit `size` field) -/
theorem array_size_wraps : allocateArray 65536 70000 = .ok 0 := by decide

/-- allocate_buffer (70000) reports size 4464: the `(unsigned short)` cast in allocate_buffer, although the field
    is an unsigned int and the default MaxBufferSize is 4000000 -/
theorem buffer_size_wraps : allocateBuffer 70000 4000000 = .ok 4464 := by decide

/-- before fix 70f8e01: repeat_string ("ab", INT64_MIN) passed the length guard with a product that wrapped to 0
    (1 byte allocated, 2^64 bytes to copy); after the fix the result is the empty string -/
theorem repeat_string_old_wraps :
    repeatStringOld 2 (-9223372036854775808) 1000 = .ok 0 ∧ repeatString 2 (-9223372036854775808) 1000 = .ok 0 ∧
    repeatStringOld 4 4611686018427387904 1000 = .ok 0 ∧ repeatString 4 4611686018427387904 1000 = .err := by
  decide +kernel

/-- before fix 5334d17: compose_mapping counted the unlinked nodes in an `unsigned short`; a mapping of 70000 keys
    composed with an empty one kept `count` = 65536 with no node left (MaxMappingSize above 65535) -/
theorem compose_count_wraps_16 :
    composeStep 16 { count := 70000, nodes := 70000 } 0 = { count := 65536, nodes := 0 } ∧
    composeMappingW 16 70000 0 = .ok 65536 ∧ composeMapping 70000 0 = .ok 0 := by decide

/-- before fix ab97f18: save_variable (allocate (49)) is a 102 character string under MaxStringLength 100 -/
theorem save_variable_old_exceeds :
    saveVariableOld (valZeros 49) = .ok 102 ∧ saveVariable (valZeros 49) 100 = .err := by decide +kernel

/-- before fix 115d78e: unique_mapping of 200 distinct elements is a mapping of 200 keys under MaxMappingSize 100 -/
theorem unique_mapping_old_exceeds : uniqueMappingOld 200 200 = .ok 200 ∧ uniqueMapping 200 200 100 = .err ∧
    uniqueMapping 200 100 100 = .ok 100 := by decide

end NV.C04
