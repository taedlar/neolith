/-
C04 — every size decision of NV/C04/Sizes.lean and NV/C04/Save.lean returns an error or a size within the limit.
The configured limits are C `int`s: `0 ≤ limit < 2^31` is the standing hypothesis (`LimitOk`).
-/
import NV.C04.Save

namespace NV.C04

open NV.Gen.C04

def LimitOk (limit : Int) : Prop := 0 ≤ limit ∧ limit < 2147483648

/-- the size clause for one model result -/
def Bnd (b : Int) (r : SzR) : Prop := ∀ n, r = .ok n → (n : Int) ≤ b

theorem Bnd.err (b : Int) : Bnd b .err := fun _ h => by cases h
theorem Bnd.zero (b : Int) : Bnd b .zero := fun _ h => by cases h
theorem Bnd.ok {b : Int} {n : Nat} (h : (n : Int) ≤ b) : Bnd b (.ok n) := fun _ e => by cases e; exact h

theorem Bnd.ite {b : Int} {c : Prop} [Decidable c] {x y : SzR} (hx : Bnd b x) (hy : Bnd b y) :
    Bnd b (if c then x else y) := by
  split
  · exact hx
  · exact hy

theorem two64_cast : ((2 ^ 64 : Nat) : Int) = 18446744073709551616 := by decide

theorem toSizeT_of_limit {l : Int} (h : LimitOk l) : toSizeT l = l.toNat := by
  unfold toSizeT two64
  have h1 : l % ((2 ^ 64 : Nat) : Int) = l := by
    apply Int.emod_eq_of_lt h.1
    rw [two64_cast]
    have := h.2
    omega
  rw [h1]

/-- a counter at least as wide as a C int holds every count a limit allows -/
theorem LimitOk.fits {l : Int} (hl : LimitOk l) {n : Nat} (hn : (n : Int) ≤ l) : n < 2 ^ composeDeletedBits := by
  have h31 : (2 : Nat) ^ 31 ≤ 2 ^ composeDeletedBits := by decide
  have := hl.2
  omega

/-- the guard of the C code, `if (n > (size_t) MAX) error (...)`, in front of a result no larger than `n` -/
theorem Bnd.guard {l : Int} (hl : LimitOk l) {x y : Nat} (hy : y ≤ x) :
    Bnd l (if x > toSizeT l then .err else .ok y) := by
  rw [toSizeT_of_limit hl]
  split
  · exact Bnd.err l
  · exact Bnd.ok (by have := hl.1; omega)

/-- the same guard where the code compares as `int`: `if (++count > MAX) error` -/
theorem Bnd.guardInt (l : Int) (n : Nat) : Bnd l (if (n : Int) > l then .err else .ok n) := by
  split
  · exact Bnd.err l
  · exact Bnd.ok (by omega)

/-- the 16-bit `size` field never reports more than was asked for -/
theorem toArrSize_le (n : Nat) : toArrSize n ≤ n := Nat.mod_le _ _

theorem allocateArray_bounded {l : Int} (hl : LimitOk l) (n : Int) : Bnd l (allocateArray n l) :=
  Bnd.guard hl (toArrSize_le _)

theorem allocateBuffer_bounded {l : Int} (hl : LimitOk l) (n : Int) : Bnd l (allocateBuffer n l) :=
  Bnd.guard hl (Nat.mod_le _ _)

theorem stringJoin_bounded {l : Int} (hl : LimitOk l) (a b : Nat) : Bnd l (stringJoin a b l) :=
  Bnd.guard hl (Nat.le_refl _)

theorem sprintfFinish_bounded {l : Int} (hl : LimitOk l) (real : Nat) : Bnd l (sprintfFinish real l) :=
  Bnd.guard hl (Nat.le_refl _)

theorem implodeString_bounded {l : Int} (hl : LimitOk l) (total num delLen : Nat) :
    Bnd l (implodeString total num delLen l) :=
  Bnd.ite (Bnd.ok hl.1) (Bnd.guard hl (Nat.le_refl _))

theorem saveVariable_bounded {l : Int} (hl : LimitOk l) (v : Val) : Bnd l (saveVariable v l) := by
  unfold saveVariable
  split
  · exact Bnd.err l
  · exact Bnd.guard hl (Nat.le_refl _)

theorem explodeArray_bounded {l : Int} (hl : LimitOk l) (pieces : Nat) : Bnd l (explodeArray pieces l) :=
  Bnd.ite (allocateArray_bounded hl _) (allocateArray_bounded hl _)

theorem addArray_bounded {a b : Nat} {l : Int} (ha : (a : Int) ≤ l) (hb : (b : Int) ≤ l) : Bnd l (addArray a b l) := by
  unfold addArray
  split
  · exact Bnd.ok hb
  · split
    · exact Bnd.ok ha
    · simp only
      split
      · exact Bnd.err l
      · exact Bnd.ok (by have := toArrSize_le (a + b); omega)

/-- the four clamps of the range opcodes leave `0 ≤ from` and `to ≤ size - 1` -/
theorem sliceArray_bounded {size : Nat} {lo hi : Int} {sz : Nat} (h : sliceArray size lo hi = .ok sz) :
    sz ≤ size := by
  unfold sliceArray at h
  simp only at h
  generalize hF1 : (if lo < 0 then 0 else lo) = F1 at h
  generalize hT1 : (if hi ≥ (size : Int) then (size : Int) - 1 else hi) = T1 at h
  generalize hT2 : (if T1 < -1 then -1 else T1) = T at h
  generalize hF2 : (if F1 > (size : Int) then (size : Int) else F1) = F at h
  have hF0 : 0 ≤ F := by
    subst hF2 hF1
    split <;> split <;> omega
  have hT : T ≤ (size : Int) - 1 := by
    subst hT2 hT1
    split <;> split <;> omega
  split at h
  · injection h with h; omega
  · injection h with h
    have := toArrSize_le (T - F + 1).toNat
    omega

theorem sliceArray_within {size : Nat} {l : Int} (hs : (size : Int) ≤ l) (lo hi : Int) : Bnd l (sliceArray size lo hi) :=
  fun _ h => by have := sliceArray_bounded h; omega

theorem mapInsert_bounded {c : Nat} {l : Int} (hc : (c : Int) ≤ l) (isNew : Bool) : Bnd l (mapInsert c isNew l) :=
  Bnd.ite (Bnd.ok hc) (Bnd.guardInt l _)

theorem mapInsertMany_bounded {c : Nat} {l : Int} (hc : (c : Int) ≤ l) (k : Nat) : Bnd l (mapInsertMany c k l) := by
  induction k generalizing c with
  | zero => exact Bnd.ok hc
  | succ k ih =>
    unfold mapInsertMany
    split
    · rename_i c' heq
      exact ih (mapInsert_bounded hc true c' heq)
    · exact Bnd.err l

theorem mapAdd_bounded {c1 c2 : Nat} {l : Int} (h1 : (c1 : Int) ≤ l) (h2 : (c2 : Int) ≤ l) (common : Nat) :
    Bnd l (mapAdd c1 c2 common l) :=
  Bnd.ite (mapInsertMany_bounded h1 _) (mapInsertMany_bounded h2 _)

/-- repeat_string: no wrap-around for any int64 count, any operand length within the limit.  The guard divides
    (`rep > MAX / len`), so `len * rep ≤ MAX` holds before the product is formed. -/
theorem repeatString_bounded {len : Nat} {l : Int} (hl : LimitOk l) (hlen : (len : Int) ≤ l) (count : Int) :
    Bnd l (repeatString len count l) := by
  unfold repeatString
  have h0 := hl.1
  split
  · exact Bnd.ok h0
  · split
    · exact Bnd.ok hlen
    · split
      · exact Bnd.ok h0
      · simp only
        rw [toSizeT_of_limit hl]
        split
        · exact Bnd.err l
        · rename_i hle
          have hmul : len * toSizeT count ≤ l.toNat :=
            Nat.le_trans (Nat.mul_le_mul_left _ (Nat.le_of_not_lt hle)) (Nat.mul_div_le _ _)
          have := Nat.mod_le (len * toSizeT count) two64
          exact Bnd.ok (by omega)

/-- sprintf's buffer: bounded by USHRT_MAX (or by the first chunk), never by the configured limit -/
theorem sprintfAdd_bounded {real len sz : Nat} (h : sprintfAdd real len = .ok sz) :
    sz ≤ ushrtMax ∨ (real = 0 ∧ sz = len) := by
  unfold sprintfAdd at h
  split at h
  · rename_i hr; injection h with h; right; exact ⟨hr, h.symm⟩
  · split at h
    · injection h with h; left; omega
    · cases h

theorem partOf_bounded {n : Nat} {l : Int} (hn : (n : Int) ≤ l) (kept : Nat) : Bnd l (partOf n kept) :=
  Bnd.ok (by omega)

theorem sameSize_bounded {n : Nat} {l : Int} (hn : (n : Int) ≤ l) : Bnd l (sameSize n) := Bnd.ok hn

theorem uniqueMapping_bounded (n g : Nat) (l : Int) : Bnd l (uniqueMapping n g l) :=
  Bnd.guardInt l _

/-- replace_string: while the scan runs, fewer than MAX characters are in the MAX + 1 byte destination -/
theorem replaceRun_lt {limit : Nat} {steps : List RStep} {d0 d : Nat}
    (h : replaceRun limit steps d0 = some d) : d < limit ∨ d = d0 := by
  induction steps generalizing d0 with
  | nil => unfold replaceRun at h; injection h with h; right; exact h.symm
  | cons st rest ih =>
    unfold replaceRun at h
    split at h
    · cases h
    · rename_i hgt
      rcases ih h with h1 | h1
      · left; exact h1
      · left; omega

theorem replaceFinish_lt {limit tail : Nat} {o : Option Nat} {sz : Nat} (h : replaceFinish limit tail o = .ok sz) :
    sz < limit := by
  unfold replaceFinish at h
  split at h
  · cases h
  · split at h
    · cases h
    · injection h with h; omega

theorem replaceFinish_bounded (l : Int) (tail : Nat) (o : Option Nat) :
    Bnd l (replaceFinish l.toNat tail o) :=
  fun _ h => by have := replaceFinish_lt h; omega

/-- whatever the width of the counter, compose_mapping leaves no more nodes than the left operand had -/
theorem composeMappingW_bounded {c1 : Nat} {l : Int} (hc : (c1 : Int) ≤ l) (bits kept : Nat) :
    Bnd l (composeMappingW bits c1 kept) :=
  Bnd.ok (by omega)

/-- with a counter wide enough for the count the result is exactly the nodes that stay -/
theorem composeMappingW_exact {bits c1 kept : Nat} (hc : c1 < 2 ^ bits) :
    composeMappingW bits c1 kept = .ok (min kept c1) := by
  unfold composeMappingW
  have hlt : c1 - min kept c1 < 2 ^ bits := by omega
  simp only [Nat.mod_eq_of_lt hlt]
  congr 1
  omega

end NV.C04
