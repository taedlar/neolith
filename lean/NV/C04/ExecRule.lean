/-
C04 — one proof rule for the limits machine (NV/C04/Model.lean).

Every invariant of the machine is a relation `R n s r` between the state `s` a piece of program starts in and its
result `r` (`n` counts the safe applies on the way, for the one invariant that needs it).  `exec` is built from few
pieces: steps that change nothing an invariant looks at, `tick`, the two checked pushes (refused, or made), sequencing,
the return of a call, and the landings of safe_apply and do_catch.  `Rule` lists what a relation must satisfy for each of them,
`exec_rule` is the induction over the fuel and the shape, done once.
-/
import NV.C04.Model

namespace NV.C04

open NV.Gen.C04

theorem seqM_assoc (r : Out × St) (k k' : St → Out × St) :
    seqM (seqM r k) k' = seqM r fun s => seqM (k s) k' := by
  obtain ⟨o, s⟩ := r
  cases o <;> rfl

/-- the depth test of push_control_stack, save_context and setup_fake_frame -/
abbrev atMaxDepth (cfg : Cfg) (s : St) : Prop := (s.depth - 1 == cfg.maxDepth - 1) = true

theorem ne_maxDepth {cfg : Cfg} {s : St} (h : ¬ atMaxDepth cfg s) : s.depth ≠ cfg.maxDepth := by
  intro he; apply h; simp [he]

/-- `raise` hands the error on and counts the delivery; nothing else changes (error_handler, which runs in between,
    leaves `error_state` as it was: Handler.lean) -/
theorem raise_eq (cfg : Cfg) (ctx : Ctx) (k : Kind) (s : St) :
    raise cfg ctx k s = (.raised k, { s with raises := s.raises + 1 }) := rfl

/-- push_control_stack, once its depth test has passed, pushes the frame do_catch pushes -/
theorem pushFrame_eq (cfg : Cfg) (ctx : Ctx) (s : St) :
    pushFrame cfg ctx s =
      if atMaxDepth cfg s then raise cfg ctx .deep (mark 2 (setEs s esStackFull)) else (.ok, pushCatchFrame s) := rfl

/-- a function call up to its last instruction: the frame, the locals, the bookkeeping ticks, the body -/
def callBody (cfg : Cfg) (f : Nat) (ctx : Ctx) (l : Nat) (b : Sh) (s : St) : Out × St :=
  seqM (pushFrame cfg ctx s) fun s1 => seqM (pushChecked cfg ctx l s1) fun s2 =>
    seqM (ticksN cfg ctx callTicks s2) fun s3 => exec cfg f ctx b s3

/-- a function call: the body, F_RETURN (an instruction of the function), then the return to the caller's frame -/
theorem exec_call (cfg : Cfg) (f : Nat) (ctx : Ctx) (l : Nat) (b : Sh) (s : St) :
    exec cfg (f + 1) ctx (.call l b) s =
      seqM (seqM (callBody cfg f ctx l b s) (tick cfg ctx)) fun s5 => (.ok, leave s5 s.depth s.sp) := by
  simp only [exec, callBody, seqM_assoc]

/-- safe_apply, entered in state `s`, after the applied function came back with the given result -/
def safeLanding (s : St) : Out × St → Out × St
  | (.ok, s1) => (.ok, { s1 with es := 0, br := 14 :: s1.br })
  | (.raised k, s1) =>
    (.ok, { (leave s1 s.depth s.sp) with
              cost := if hasEs s1 esMaxEvalCost then (safeTickLeft : Int) else s1.cost,
              es := 0, evs := .safeSwallowed k :: s1.evs,
              br := (if hasEs s1 esMaxEvalCost then 9 else 10) :: s1.br })
  | (.fuel, s1) => (.fuel, s1)

theorem exec_safe (cfg : Cfg) (f : Nat) (ctx : Ctx) (b : Sh) (s : St) :
    exec cfg (f + 1) ctx (.safe b) s =
      seqM (tick cfg ctx s) fun s =>
        if atMaxDepth cfg s then (.ok, mark 8 s) else safeLanding s (exec cfg f .safe (.call 0 b) s) := by
  rw [exec]
  rfl

/-- do_catch, entered in state `s`, after its body came back with the given result -/
def catchLanded (cfg : Cfg) (ctx : Ctx) (s : St) : Out × St → Out × St
  | (.ok, s2) => (.ok, { (leave s2 s.depth s.sp) with es := 0, br := 13 :: s2.br })
  | (.fuel, s2) => (.fuel, s2)
  | (.raised k, s2) => catchLanding cfg ctx s.depth s.sp k s2

theorem exec_catch (cfg : Cfg) (f : Nat) (ctx : Ctx) (b : Sh) (s : St) :
    exec cfg (f + 1) ctx (.catch_ b) s =
      if atMaxDepth cfg s then raise cfg ctx .deep (mark 4 (setEs s esStackFull))
      else catchLanded cfg ctx s (exec cfg f .catch_ b (pushCatchFrame s)) := by
  rw [exec]
  rfl

/-- What a relation between a start state and a result must satisfy to hold of every run.  `P` is what the landings may
    assume of the result that came back (an invariant proved before). -/
structure Rule (cfg : Cfg) (P : Out × St → Prop) (R : Nat → St → Out × St → Prop) : Prop where
  weaken {n m : Nat} {s : St} {r : Out × St} : R n s r → n ≤ m → R m s r
  seq {n m : Nat} {s : St} {r : Out × St} {k : St → Out × St} :
    R n s r → (∀ s1, R m s1 (k s1)) → R (n + m) s (seqM r k)
  /-- a step that touches only the ghost fields `br` and `raises` and raises no limit error -/
  idle (s : St) (o : Out) (b : List Nat) (c : Nat) :
    (∀ k, o = .raised k → k.isLimit = false) → R 0 s (o, { s with br := b, raises := c })
  tick (ctx : Ctx) (s : St) : R 0 s (tick cfg ctx s)
  /-- a depth test or STACK_CHECK that fails: ES_STACK_FULL is set and the error raised -/
  full (ctx : Ctx) (k : Kind) (b : Nat) (s : St) :
    k = .deep ∨ k = .stack → R 0 s (raise cfg ctx k (mark b (setEs s esStackFull)))
  pushedFrame {s : St} : ¬ atMaxDepth cfg s → R 0 s (.ok, pushCatchFrame s)
  pushedValues {s : St} (l : Nat) : ¬ (s.sp - 1) + l ≥ cfg.stackSize - stackSlack →
    R 0 s (.ok, { s with sp := s.sp + l, maxSp := if s.sp + l > s.maxSp then s.sp + l else s.maxSp })
  ret {n : Nat} {s : St} {r : Out × St} : R n s r → R n s (seqM r fun s' => (.ok, leave s' s.depth s.sp))
  safe {n : Nat} {s : St} {o : Out} {s1 : St} : P (o, s1) → R n s (o, s1) → R (n + 1) s (safeLanding s (o, s1))
  caught {n : Nat} {s : St} {o : Out} {s1 : St} (ctx : Ctx) :
    ¬ atMaxDepth cfg s → P (o, s1) → R n (pushCatchFrame s) (o, s1) → R n s (catchLanded cfg ctx s (o, s1))

namespace Rule

variable {cfg : Cfg} {P : Out × St → Prop} {R : Nat → St → Out × St → Prop}

theorem same (h : Rule cfg P R) (s : St) (o : Out) (ho : ∀ k, o = .raised k → k.isLimit = false) : R 0 s (o, s) :=
  h.idle s o s.br s.raises ho

/-- error () of the program, `b` the branches recorded so far: idle, because `raise` only counts the delivery -/
theorem raisedPlain (h : Rule cfg P R) (ctx : Ctx) (s : St) (b : List Nat) :
    R 0 s (raise cfg ctx .plain { s with br := b }) := by
  rw [raise_eq]
  exact h.idle s (.raised .plain) b (s.raises + 1) (fun _ e => by cases e; rfl)

theorem pushFrame (h : Rule cfg P R) (ctx : Ctx) (s : St) : R 0 s (pushFrame cfg ctx s) := by
  rw [pushFrame_eq]
  split
  · exact h.full ctx .deep 2 s (Or.inl rfl)
  · exact h.pushedFrame ‹_›

theorem pushChecked (h : Rule cfg P R) (ctx : Ctx) (l : Nat) (s : St) : R 0 s (pushChecked cfg ctx l s) := by
  unfold NV.C04.pushChecked
  split
  · exact h.full ctx .stack 3 s (Or.inr rfl)
  · exact h.pushedValues l ‹_›

theorem ticksN (h : Rule cfg P R) (ctx : Ctx) : ∀ (n : Nat) (s : St), R 0 s (ticksN cfg ctx n s)
  | 0, s => h.same s .ok nofun
  | n + 1, s => h.seq (h.tick ctx s) (h.ticksN ctx n)

theorem spin (h : Rule cfg P R) (ctx : Ctx) : ∀ (n : Nat) (s : St), R 0 s (spin cfg ctx n s)
  | 0, s => h.same s .fuel nofun
  | n + 1, s => h.seq (h.tick ctx s) (h.spin ctx n)

theorem callBody (h : Rule cfg P R) {f : Nat} {ctx : Ctx} {b : Sh} {n : Nat}
    (ih : ∀ s, R n s (exec cfg f ctx b s)) (l : Nat) (s : St) : R n s (callBody cfg f ctx l b s) :=
  h.weaken (h.seq (h.pushFrame ctx s) fun s1 => h.seq (h.pushChecked ctx l s1) fun s2 =>
    h.seq (h.ticksN ctx callTicks s2) ih) (Nat.le_of_eq (by omega))

end Rule

theorem exec_rule {cfg : Cfg} {P : Out × St → Prop} {R : Nat → St → Out × St → Prop} (h : Rule cfg P R)
    (hP : ∀ f ctx sh s, P (exec cfg f ctx sh s)) (fuel : Nat) (ctx : Ctx) (sh : Sh) (s : St) :
    R sh.safeWeight s (exec cfg fuel ctx sh s) := by
  induction fuel generalizing ctx sh s with
  | zero => exact h.weaken (h.same s .fuel nofun) (Nat.zero_le _)
  | succ f ih =>
    cases sh with
    | skip => exact h.same s .ok nofun
    | work n => exact h.ticksN ctx n s
    | spin => exact h.spin ctx (f + 1) s
    | err => exact h.raisedPlain ctx s s.br
    | throw_ =>
      cases ctx with
      | catch_ => exact h.idle s (.raised .thrown) (11 :: s.br) s.raises (fun _ e => by cases e; rfl)
      | driver => exact h.raisedPlain .driver s (12 :: s.br)
      | safe => exact h.raisedPlain .safe s (12 :: s.br)
    | seq a b => exact h.seq (ih ctx a s) (ih ctx b)
    | call l b =>
      rw [exec_call]
      exact h.ret (h.seq (h.callBody (ih ctx b) l s) (h.tick ctx))
    | recur l => exact ih ctx (.call l (.recur l)) s
    | crecur => exact ih ctx (.call 0 (.catch_ .crecur)) s
    | cb k b =>
      cases k with
      | zero => exact h.weaken (h.same s .ok nofun) (Nat.zero_le _)
      | succ k =>
        refine h.weaken (h.seq (h.tick ctx s) fun s0 =>
          h.seq (ih ctx (.call 0 (.call 0 b)) s0) (ih ctx (.cb k b))) (Nat.le_of_eq ?_)
        simp only [Sh.safeWeight, Nat.succ_mul]
        omega
    | safe b =>
      rw [exec_safe]
      refine h.weaken (h.seq (h.tick ctx s) fun s1 => ?_) (Nat.le_of_eq (Nat.zero_add (b.safeWeight + 1)))
      split
      · exact h.weaken (h.idle s1 .ok (8 :: s1.br) s1.raises nofun) (Nat.zero_le _)
      · exact h.safe (hP ..) (ih .safe (.call 0 b) s1)
    | catch_ b =>
      rw [exec_catch]
      split
      · exact h.weaken (h.full ctx .deep 4 s (Or.inl rfl)) (Nat.zero_le _)
      · exact h.caught ctx ‹_› (hP ..) (ih .catch_ b (pushCatchFrame s))

end NV.C04
