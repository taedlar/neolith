/-
C04 — the model satisfies the size clause of the oracle (`szCmd_satisfies_spec`).

The line judge flags `sz ok n` when n exceeds `limitOf lim <constructor>`.  Here: for every constructor command the
harness understands, every argument list and every set of
limits (C ints; MaxStringLength at least 4 so that the literal operands of the LPC side - "x", "a,", "({})" - are
themselves legal strings), the size the model reports is within that limit.  The statement is over the structured
command (`Ctor`), the name lookup is `Ctor.ofName`.
-/
import NV.C04.Drive
import NV.C04.SizeBounds
import NV.C04.SaveDepth

namespace NV.C04

open NV.Gen.C04

/-- an operand of which the rest needs to know what it returned -/
theorem Bnd.bindEq {b : Int} {r : SzR} {k : Nat → SzR} (h : ∀ m, r = .ok m → Bnd b (k m)) : Bnd b (andThen r k) := by
  cases r with
  | ok m => exact h m rfl
  | err => exact Bnd.err b
  | zero => exact Bnd.zero b

/-- an operand within its own limit `b'` -/
theorem Bnd.bind {b b' : Int} {r : SzR} {k : Nat → SzR} (hr : Bnd b' r) (h : ∀ m : Nat, (m : Int) ≤ b' → Bnd b (k m)) :
    Bnd b (andThen r k) :=
  Bnd.bindEq fun m e => h m (hr m e)

/-- an operand whose size the bound does not depend on -/
theorem Bnd.skip {b : Int} {r : SzR} {k : Nat → SzR} (h : ∀ m, Bnd b (k m)) : Bnd b (andThen r k) :=
  Bnd.bindEq fun m _ => h m

theorem ar1_bnd {b : Int} {f : Int → SzR} {args : List Int} {r : SzR} (h : ∀ a, Bnd b (f a))
    (he : ar1 f args = some r) : Bnd b r := by
  unfold ar1 at he
  split at he
  · injection he with he; subst he; exact h _
  · cases he

theorem ar2_bnd {b : Int} {f : Int → Int → SzR} {args : List Int} {r : SzR} (h : ∀ a c, Bnd b (f a c))
    (he : ar2 f args = some r) : Bnd b r := by
  unfold ar2 at he
  split at he
  · injection he with he; subst he; exact h _ _
  · cases he

theorem ar3_bnd {b : Int} {f : Int → Int → Int → SzR} {args : List Int} {r : SzR} (h : ∀ a c d, Bnd b (f a c d))
    (he : ar3 f args = some r) : Bnd b r := by
  unfold ar3 at he
  split at he
  · injection he with he; subst he; exact h _ _ _
  · cases he

/-- the limits of a case: C ints, and a MaxStringLength that admits the literal operands -/
structure LimsOk (l : Limits) : Prop where
  arr : LimitOk l.maxArray
  buf : LimitOk l.maxBuffer
  map : LimitOk l.maxMapping
  str : LimitOk l.maxString
  str4 : 4 ≤ l.maxString

theorem strOf_bnd {l : Limits} (hl : LimsOk l) (n : Int) : Bnd l.maxString (strOf l n) :=
  repeatString_bounded hl.str (by have := hl.str4; omega) n

theorem valNested_nest (k : Nat) : (valNested k).nest = k + 1 := by
  induction k with
  | zero => simp [valNested, Val.nest]
  | succ k ih => simp [valNested, Val.nest, ih]

theorem valNestedMap_nest (k : Nat) : (valNestedMap k).nest = k + 1 := by
  induction k with
  | zero => simp [valNestedMap, Val.nest]
  | succ k ih => simp [valNestedMap, Val.nest, ih]

/-- the depth `d` reported for a value of `d.toNat - 1` further containers that svalue_save_size accepts -/
theorem depth_bnd {v : Val} {d : Int} (hv : v.nest = d.toNat - 1 + 1) (h : (saveSize 0 v).isSome = true) :
    Bnd (maxSaveDepth : Int) (.ok (max d.toNat 1)) := by
  have h1 := (saveSize_isSome v 0).mp h
  exact Bnd.ok (by omega)

/-- save_variable only succeeds on a value svalue_save_size accepts -/
theorem saveVariable_ok_depth {v : Val} {l : Int} {n : Nat} (h : saveVariable v l = .ok n) :
    (saveSize 0 v).isSome = true := by
  unfold saveVariable at h
  split at h
  · cases h
  · rename_i sz heq; rw [heq]; rfl

/-- **szCmd_satisfies_spec** (structured form) -/
theorem szCmdC_satisfies_spec (l : Limits) (hl : LimsOk l) (c : Ctor) (args : List Int) (r : SzR)
    (h : szCmdC l c args = some r) : Bnd (limitOfC l c) r := by
  have hA := hl.arr
  have hB := hl.buf
  have hM := hl.map
  have hS := hl.str
  -- the operands: arrays from allocate, mappings filled key by key, strings from repeat_string ("x", n)
  have arr := allocateArray_bounded hA
  have map : ∀ n : Nat, Bnd l.maxMapping (mapInsertMany 0 n l.maxMapping) := mapInsertMany_bounded hM.1
  have str := strOf_bnd hl
  cases c
  case allocate => exact ar1_bnd arr h
  case aggregate => exact ar1_bnd (fun _ => arr _) h
  case add_array =>
    exact ar2_bnd (fun x y => (arr x).bind fun _ hp => (arr y).bind fun _ hq => addArray_bounded hp hq) h
  case add_array_self => exact ar1_bnd (fun x => (arr x).bind fun _ hp => addArray_bounded hp hp) h
  case slice => exact ar3_bnd (fun n lo hi => (arr n).bind fun _ hp => sliceArray_within hp lo hi) h
  case explode =>
    exact ar1_bnd (fun _ => Bnd.ite (explodeArray_bounded hA _)
      (Bnd.skip fun _ => Bnd.skip fun _ => explodeArray_bounded hA _)) h
  case explode0 => exact ar1_bnd (fun _ => Bnd.skip fun _ => explodeArray_bounded hA _) h
  case allocate_buffer => exact ar1_bnd (allocateBuffer_bounded hB) h
  case add_buffer => exact ar2_bnd (fun _ _ => Bnd.skip fun _ => Bnd.skip fun _ => allocateBuffer_bounded hB _) h
  case map_insert => exact ar2_bnd (fun n _ => (map n.toNat).bind fun _ hc => mapInsert_bounded hc _) h
  case map_aggregate => exact ar1_bnd (fun n => map n.toNat) h
  case map_add =>
    exact ar3_bnd (fun x y _ => (map x.toNat).bind fun _ hx => (map y.toNat).bind fun _ hy => mapAdd_bounded hx hy _) h
  case join | join_eq => exact ar2_bnd (fun _ _ => Bnd.skip fun _ => Bnd.skip fun _ => stringJoin_bounded hS _ _) h
  case join_self =>
    -- every `s += s` keeps the bound the string started with
    exact ar2_bnd (fun x _ => (str x).bind fun _ hp =>
      List.foldlRecOn _ _ (Bnd.ok hp) fun _ _ _ _ => Bnd.skip fun _ => stringJoin_bounded hS _ _) h
  case join_num | num_join => exact ar2_bnd (fun _ _ => Bnd.skip fun _ => stringJoin_bounded hS _ _) h
  case repeat_ => exact ar2_bnd (fun x n => (str x).bind fun _ hp => repeatString_bounded hS hp n) h
  case implode =>
    exact ar3_bnd (fun _ _ _ => Bnd.skip fun _ => Bnd.skip fun _ => Bnd.skip fun _ =>
      Bnd.ite (Bnd.err _) (implodeString_bounded hS _ _ _)) h
  case replace | replace1 =>
    exact ar3_bnd (fun _ _ _ => Bnd.skip fun _ => Bnd.skip fun _ => Bnd.skip fun _ => Bnd.skip fun _ =>
      replaceFinish_bounded _ _ _) h
  case copy_array | sort_array | map_array => exact ar1_bnd (fun n => (arr n).bind fun _ => sameSize_bounded) h
  case copy_mapping | map_mapping => exact ar1_bnd (fun n => (map n.toNat).bind fun _ => sameSize_bounded) h
  case lower_case => exact ar1_bnd (fun n => (str n).bind fun _ => sameSize_bounded) h
  case filter_array | unique_array => exact ar2_bnd (fun n _ => (arr n).bind fun _ hp => partOf_bounded hp _) h
  case array_sub | array_and =>
    exact ar2_bnd (fun n _ => (arr n).bind fun _ hp => Bnd.skip fun _ => partOf_bounded hp _) h
  case filter_mapping => exact ar2_bnd (fun n _ => (map n.toNat).bind fun _ hp => partOf_bounded hp _) h
  case keys | values | reg_assoc => exact ar1_bnd (fun _ => Bnd.skip fun _ => arr _) h
  case allocate_mapping => exact ar1_bnd (fun _ => Bnd.ok hM.1) h
  case map_compose | map_compose_eq =>
    exact ar3_bnd (fun x _ _ => (map x.toNat).bind fun _ hx => Bnd.skip fun _ => composeMappingW_bounded hx _ _) h
  case save_array | save_mapping => exact ar1_bnd (fun _ => Bnd.skip fun _ => saveVariable_bounded hS _) h
  case save_string => exact ar2_bnd (fun _ _ => Bnd.skip fun _ => saveVariable_bounded hS _) h
  case save_nested | save_nested_map => exact ar1_bnd (fun _ => saveVariable_bounded hS _) h
  case copy_nested =>
    refine ar1_bnd (fun d => ?_) h
    split
    · exact depth_bnd (valNested_nest _) ‹_›
    · exact Bnd.err _
  case restore_nested =>
    refine ar1_bnd (fun d => Bnd.skip fun _ => Bnd.skip fun _ => Bnd.skip fun _ => Bnd.skip fun _ => ?_) h
    split
    · exact depth_bnd (valNested_nest _) (by rw [← restoreWalk_eq]; assumption)
    · exact Bnd.err _
  case restore_array => exact ar1_bnd (fun _ => Bnd.skip fun _ => Bnd.skip fun _ => Bnd.skip fun _ => arr _) h
  case restore_mapping => exact ar1_bnd (fun _ => Bnd.skip fun _ => Bnd.skip fun _ => map _) h
  case regexp => exact ar3_bnd (fun _ _ _ => Bnd.skip fun _ => arr _) h
  case unique_mapping => exact ar2_bnd (fun _ _ => Bnd.skip fun _ => uniqueMapping_bounded _ _ _) h
  case save_depth =>
    exact ar1_bnd (fun d => Bnd.bindEq fun _ hs =>
      depth_bnd (d := d) (valNested_nest _) (saveVariable_ok_depth hs)) h
  case save_depth_map =>
    exact ar1_bnd (fun d => Bnd.bindEq fun _ hs =>
      depth_bnd (d := d) (valNestedMap_nest _) (saveVariable_ok_depth hs)) h
  case sprintf_pad =>
    exact ar2_bnd (fun _ _ => Bnd.skip fun _ => Bnd.ite (Bnd.skip fun _ => sprintfFinish_bounded hS _)
      (Bnd.ite (Bnd.err _) (sprintfFinish_bounded hS _))) h
  case sprintf =>
    exact ar2_bnd (fun _ _ => Bnd.skip fun _ => Bnd.skip fun _ => Bnd.skip fun _ => Bnd.skip fun _ =>
      sprintfFinish_bounded hS _) h

/-- **szCmd_satisfies_spec**: by name, as the driver and the line judge use it - whatever `sz` command the model
    answers with `sz ok n`, the oracle's size clause (`n > limitOf lim ctor`) does not fire -/
theorem szCmd_satisfies_spec (l : Limits) (hl : LimsOk l) (ctor : String) (args : List Int) (n : Nat)
    (h : szCmd l ctor args = some (.ok n)) : ¬ ((n : Int) > limitOf l ctor) := by
  unfold szCmd at h
  unfold limitOf
  cases hc : Ctor.ofName ctor with
  | none => rw [hc] at h; cases h
  | some c =>
    rw [hc] at h
    have := szCmdC_satisfies_spec l hl c args _ h n rfl
    simp only
    omega

/-- non-vacuity: the default limits of the driver satisfy the hypotheses, and commands do report sizes -/
example : LimsOk ({} : Limits) :=
  { arr := by unfold LimitOk; decide, buf := by unfold LimitOk; decide, map := by unfold LimitOk; decide,
    str := by unfold LimitOk; decide, str4 := by decide }
example : szCmd {} "add_array" [60, 40] = some (.ok 100) ∧ szCmd { maxArray := 100 } "add_array" [60, 41] = some .err := by decide +kernel

end NV.C04
