/-
C04 — every place of the driver that writes `eval_cost` or the configured budget, each with the rule that justifies it.

props/c04.py (gen_refills) regenerates the inventory from the source on every run (`Gen.C04.evalCostWrites`: file,
enclosing function, statement); `bridge_refills` (Props.lean) compares it with the table below, so a new statement that
refills, raises or lowers the budget - or one that moved to another function - breaks an obligation until it has been
looked at and given a rule.  `refill_rules_sound`: of all the rules that can fire while an LPC evaluation runs and that
need no privilege, none makes `eval_cost` larger - except the refill on expiry, which stands in the same function as the
`if (!--eval_cost)` test and in front of an error no catch can stop (sites evalTick, callbackTickBlock).
-/
import NV.Gen.C04

namespace NV.C04

inductive RefillKind
  | definition        -- the definition of the variable
  | tick              -- `if (!--eval_cost)`
  | expiryRefill      -- `eval_cost = MAX` on expiry, followed by error ("Too long evaluation")
  | taskStart         -- `eval_cost = MAX` before the driver starts an evaluation (backend, preload, heart beat, console, main)
  | safeOneTick       -- `eval_cost = 1` after a safe apply stopped an expiry
  | signalAbort       -- `eval_cost = 1` in the SIGUSR2 handler
  | privilegedReset   -- set_eval_limit (0)
  | configSet         -- the configured budget is assigned
  | configClamp       -- ... and clamped to at least 1
  | efunCharge        -- an efun charges the work it did (regexec: node visits), leaving at least one tick
  deriving Repr, DecidableEq

structure RefillRule where
  site : String × String × String     -- file, function, statement (as `evalCostWrites` lists it)
  kind : RefillKind
  why : String
  deriving Repr

/-- can the statement execute while an LPC evaluation is running? -/
def RefillKind.midEval : RefillKind → Bool
  | .definition | .taskStart => false
  | _ => true

/-- does it take a privilege LPC code does not have by itself (set_eval_limit is to be wrapped by a simul_efun and
    guarded by valid_override; the config file is read by the driver) -/
def RefillKind.privileged : RefillKind → Bool
  | .privilegedReset | .configSet | .configClamp => true
  | _ => false

/-- effect on (eval_cost, configured budget); `arg` is the value a configSet assigns -/
def RefillKind.effect (k : RefillKind) (cost budget arg : Int) : Int × Int :=
  match k with
  | .definition => (0, budget)
  | .tick => (cost - 1, budget)
  | .expiryRefill => (budget, budget)
  | .taskStart => (budget, budget)
  | .safeOneTick => (1, budget)
  | .signalAbort => (1, budget)
  | .privilegedReset => (budget, budget)
  | .configSet => (cost, arg)
  | .configClamp => (cost, if budget < 1 then 1 else budget)
  | .efunCharge => (if (arg.toNat : Int) ≥ cost - 1 then 1 else cost - arg.toNat, budget)   -- arg: ticks' worth of work done

def refillRules : List RefillRule := [
  { site := ("lib/efuns/regexp.c", "regexec", "eval_cost = (used >= eval_cost - 1) ? 1 : eval_cost - used;"), kind := .efunCharge,
    why := "regexp matching is charged: 100 node visits per tick, at least one tick is left (the next instruction raises the error)" },
  { site := ("lib/efuns/unsorted.c", "f_set_eval_limit", "CONFIG_INT (__MAX_EVAL_COST__) = (int)sp->u.number;"), kind := .configSet,
    why := "set_eval_limit (n): the configured budget is replaced (privileged efun)" },
  { site := ("lib/efuns/unsorted.c", "f_set_eval_limit", "CONFIG_INT (__MAX_EVAL_COST__) = 1;"), kind := .configClamp,
    why := "set_eval_limit (n): the new budget is at least 1" },
  { site := ("lib/efuns/unsorted.c", "f_set_eval_limit", "sp->u.number = eval_cost = CONFIG_INT (__MAX_EVAL_COST__);"), kind := .privilegedReset,
    why := "set_eval_limit (0): the running budget is reset (privileged efun)" },
  { site := ("lib/lpc/functional.c", "safe_call_function_pointer", "eval_cost = 1;"), kind := .safeOneTick,
    why := "an expiry stopped by a safe apply leaves its caller one tick" },
  { site := ("lib/rc/rc.cpp", "init_config", "CONFIG_INT (__MAX_EVAL_COST__) = 1;"), kind := .configClamp,
    why := "the budget read from the config file is at least 1" },
  { site := ("lib/rc/rc.cpp", "init_config", "CONFIG_INT (__MAX_EVAL_COST__) = scan_config_i (config, \"\", 0, N);"), kind := .configSet,
    why := "the budget is read from the config file" },
  { site := ("src/apply.c", "safe_apply", "eval_cost = 1;"), kind := .safeOneTick,
    why := "an expiry stopped by a safe apply leaves its caller one tick" },
  { site := ("src/backend.c", "<file scope>", "int64_t eval_cost = 0;"), kind := .definition,
    why := "the variable itself" },
  { site := ("src/backend.c", "backend", "eval_cost = CONFIG_INT (__MAX_EVAL_COST__);"), kind := .taskStart,
    why := "a full budget before the driver starts an evaluation" },
  { site := ("src/backend.c", "call_heart_beat", "eval_cost = CONFIG_INT (__MAX_EVAL_COST__);"), kind := .taskStart,
    why := "a full budget before the driver starts an evaluation" },
  { site := ("src/backend.c", "init_console_user", "eval_cost = CONFIG_INT (__MAX_EVAL_COST__);"), kind := .taskStart,
    why := "a full budget before the driver starts an evaluation" },
  { site := ("src/backend.c", "look_for_objects_to_swap", "eval_cost = CONFIG_INT (__MAX_EVAL_COST__);"), kind := .taskStart,
    why := "a full budget before the driver starts an evaluation" },
  { site := ("src/backend.c", "preload_objects", "eval_cost = CONFIG_INT (__MAX_EVAL_COST__);"), kind := .taskStart,
    why := "a full budget before the driver starts an evaluation" },
  { site := ("src/interpret.c", "call_efun_callback", "eval_cost = CONFIG_INT (__MAX_EVAL_COST__);"), kind := .expiryRefill,
    why := "refilled on expiry, before the error no catch can stop (the master's handler runs on it)" },
  { site := ("src/interpret.c", "call_efun_callback", "if (!--eval_cost)"), kind := .tick,
    why := "one tick charged; zero is the expiry" },
  { site := ("src/interpret.c", "eval_instruction", "eval_cost = CONFIG_INT (__MAX_EVAL_COST__);"), kind := .expiryRefill,
    why := "refilled on expiry, before the error no catch can stop (the master's handler runs on it)" },
  { site := ("src/interpret.c", "eval_instruction", "if (!--eval_cost)"), kind := .tick,
    why := "one tick charged; zero is the expiry" },
  { site := ("src/main.c", "main", "eval_cost = CONFIG_INT (__MAX_EVAL_COST__);"), kind := .taskStart,
    why := "a full budget before the driver starts an evaluation" },
  { site := ("src/main.c", "sig_usr2", "eval_cost = 1;"), kind := .signalAbort,
    why := "SIGUSR2: the running evaluation is cut short" }]

/-- what the kinds that need no privilege and can run inside an evaluation do to (eval_cost, budget), the refill on
    expiry excepted: the cost does not grow, the budget stays -/
theorem RefillKind.effect_le (k : RefillKind) (h1 : k.midEval = true) (h2 : k.privileged = false) (h3 : k ≠ .expiryRefill)
    (cost budget arg : Int) (hc : 0 < cost) : (k.effect cost budget arg).1 ≤ cost ∧ (k.effect cost budget arg).2 = budget := by
  cases k with
  | definition | taskStart => cases h1
  | privilegedReset | configSet | configClamp => cases h2
  | expiryRefill => exact absurd rfl h3
  | tick => exact ⟨by show cost - 1 ≤ cost; omega, rfl⟩
  | safeOneTick | signalAbort => exact ⟨hc, rfl⟩
  | efunCharge =>
    refine ⟨?_, rfl⟩
    show (if (arg.toNat : Int) ≥ cost - 1 then 1 else cost - arg.toNat) ≤ cost
    split <;> omega

/-- no unprivileged statement that can run inside an evaluation gives the evaluation more ticks than it had, the refill
    on expiry excepted -/
theorem refill_rules_sound : ∀ r ∈ refillRules, r.kind.midEval = true → r.kind.privileged = false → r.kind ≠ .expiryRefill →
    ∀ cost budget arg : Int, 0 < cost → (r.kind.effect cost budget arg).1 ≤ cost ∧ (r.kind.effect cost budget arg).2 = budget :=
  fun r _ => r.kind.effect_le

/-- every function that refills on expiry also holds the tick test (the refill is the expiry branch of that test), and
    the configured budget is never assigned without the clamp that follows it in the same function -/
def refillTableOk : Bool :=
  (refillRules.all fun r => r.kind != .expiryRefill ||
    refillRules.any fun t => t.kind == .tick && t.site.1 == r.site.1 && t.site.2.1 == r.site.2.1) &&
  (refillRules.all fun r => r.kind != .configSet ||
    refillRules.any fun t => t.kind == .configClamp && t.site.1 == r.site.1 && t.site.2.1 == r.site.2.1)

end NV.C04
