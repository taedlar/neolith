/-
C04 — property theorems.  Every evaluation is bounded by the configured limits.

The machine theorems quantify over every shape (`Sh`: loops, spinning, unbounded direct / mutual / function
pointer / callback recursion, recursion through catch, calls, catch frames in any nesting, efun callbacks, safe
applies made by efuns, errors and throws), every configuration (`Cfg`, including what the master's error handler
does) and every fuel of the model.  The size theorems quantify over all operand sizes and all int64 arguments.
-/
import NV.C04.ExecInv
import NV.C04.SizeBounds
import NV.C04.MapBookInv
import NV.C04.SaveDepth
import NV.C04.LoopInv
import NV.C04.Refill

namespace NV.C04

open NV.Gen.C04

/-- **limit_error_not_swallowed** (oracle form: `judgeEv (events of the run) = []`).  In every evaluation the driver
    starts - whatever the program, the limits, the nesting of catch frames, callbacks and safe applies, and
    whether or not the master's error handler itself uses catch - no catch() completes normally with an
    evaluation-cost, call-depth or stack-overflow error. -/
theorem limit_error_not_swallowed (cfg : Cfg) (fuel : Nat) (sh : Sh) :
    judgeEv (evaluate cfg fuel sh).2.evs = [] :=
  exec_EvOk cfg fuel .driver (.call 0 sh) (St.start cfg) rfl

/-- the mechanism behind it: a limit error in flight towards a catch frame always carries a limit bit in
    `error_state`, so do_catch re-raises it (this is what the fix restored) -/
theorem limit_error_reaches_next_frame (cfg : Cfg) (fuel : Nat) (sh : Sh) (s : St) (k : Kind)
    (h : (exec cfg fuel .catch_ sh s).1 = .raised k) (hk : k.isLimit = true) :
    limitSet (exec cfg fuel .catch_ sh s).2 :=
  limitSet_of_BitsOk (exec_BitsOk cfg fuel .catch_ sh s) h hk

/-- a catch frame around anything that exhausts a limit never completes: the error goes on to the enclosing
    context (stated for one frame; by `limit_error_reaches_next_frame` it repeats for every enclosing frame) -/
theorem catch_reraises_limit_error (cfg : Cfg) (fuel : Nat) (ctx : Ctx) (body : Sh) (s s2 : St) (k : Kind)
    (hd : ¬ (s.depth - 1 == cfg.maxDepth - 1) = true)
    (h : exec cfg fuel .catch_ body (pushCatchFrame s) = (.raised k, s2)) (hk : k.isLimit = true) :
    ∃ k', (exec cfg (fuel + 1) ctx (.catch_ body) s).1 = .raised k' ∧ k'.isLimit = true := by
  have hb := limitSet_of_BitsOk (exec_BitsOk cfg fuel .catch_ body (pushCatchFrame s)) (by rw [h]) hk
  rw [h] at hb
  rw [exec_catch, if_neg hd, h]
  show ∃ k', (catchLanding cfg ctx s.depth s.sp k s2).1 = .raised k' ∧ k'.isLimit = true
  unfold catchLanding
  simp only
  split
  · exact ⟨.cost, rfl, rfl⟩
  · split
    · exact ⟨.deep, rfl, rfl⟩
    · rename_i h1 h2
      exact (hb.elim h1 h2).elim

example : (evaluate { maxCost := 50, maxDepth := 20, stackSize := 100, handlerCatches := true } 1000
    (.catch_ (.catch_ .spin))).1 = .raised .cost := by decide +kernel

/-- non-vacuity: the events the theorem speaks about do occur - an ordinary error is caught and reported ... -/
example : (evaluate { maxCost := 50, maxDepth := 20, stackSize := 100, handlerCatches := false } 100
    (.seq (.catch_ .err) (.catch_ (.catch_ .throw_)))).2.evs = [.afterCatch .thrown, .afterCatch .plain] := by decide +kernel

/-- ... and the hypotheses of `catch_reraises_limit_error` are met by a spinning body (k = cost) and by unbounded
    recursion (k = deep) -/
example : let cfg : Cfg := { maxCost := 50, maxDepth := 20, stackSize := 100, handlerCatches := false }
    (¬ ((St.start cfg).depth - 1 == cfg.maxDepth - 1) = true) ∧
    (exec cfg 100 .catch_ .spin (pushCatchFrame (St.start cfg))).1 = .raised .cost ∧
    (exec cfg 100 .catch_ (.recur 0) (pushCatchFrame (St.start cfg))).1 = .raised .deep := by decide +kernel

/-- rc.cpp and set_eval_limit leave no budget below 1 -/
theorem clampCost_pos (raw : Int) : 0 < clampCost raw := by
  unfold clampCost clampMin; split <;> omega

/-- any positive budget bounds the evaluation directly (the clamp makes every configured budget positive) -/
theorem eval_bounded_of_pos (cfg : Cfg) (fuel : Nat) (sh : Sh) (hpos : 0 < cfg.maxCost) :
    ((evaluate cfg fuel sh).2.ticks : Int) ≤ cfg.maxCost + sh.safeWeight :=
  phi_start cfg ▸ (exec_Acc cfg fuel .driver (.call 0 sh) (St.start cfg)).ticks_le hpos

/-- **eval_bounded** (no hypothesis on the budget, no exclusion of program shapes).  The budget the driver runs
    with is the configured value clamped to at least 1 (rc.cpp / set_eval_limit, `clampCost`).  For every
    configured value, every program shape, every configuration and fuel: the instructions executed in one
    evaluation never exceed the budget by more than one per safe apply the program makes (a safe apply that
    stops an eval-cost error leaves its caller exactly one tick). -/
theorem eval_bounded (raw : Int) (cfg : Cfg) (hcfg : cfg.maxCost = clampCost raw) (fuel : Nat) (sh : Sh) :
    ((evaluate cfg fuel sh).2.ticks : Int) ≤ clampCost raw + sh.safeWeight :=
  hcfg ▸ eval_bounded_of_pos cfg fuel sh (hcfg ▸ clampCost_pos raw)

/-- programs that make no safe apply: exactly the budget -/
theorem eval_bounded_exact (raw : Int) (cfg : Cfg) (hcfg : cfg.maxCost = clampCost raw) (fuel : Nat) (sh : Sh)
    (hns : sh.safeWeight = 0) : ((evaluate cfg fuel sh).2.ticks : Int) ≤ clampCost raw := by
  have := eval_bounded raw cfg hcfg fuel sh
  rw [hns] at this
  simpa using this

example : (evaluate { maxCost := 50, maxDepth := 20, stackSize := 100, handlerCatches := false } 1000
    (.seq (.work 10) (.catch_ (.cb 2 (.work 5))))).1 = .ok := by decide +kernel

/-- **depth_bounded** (memory safety of the control stack).  `csp` never points past
    `control_stack[MaxCallDepth - 1]`: at most MaxCallDepth frames exist at any time of any evaluation. -/
theorem depth_bounded (cfg : Cfg) (fuel : Nat) (sh : Sh) (h0 : 0 ≤ cfg.maxDepth) :
    (evaluate cfg fuel sh).2.maxDepth ≤ cfg.maxDepth ∧ (evaluate cfg fuel sh).2.depth ≤ cfg.maxDepth :=
  have h := exec_DepthInv cfg fuel .driver (.call 0 sh) (St.start cfg) ⟨h0, h0⟩
  ⟨h.2, h.1⟩

example : (evaluate { maxCost := 5000, maxDepth := 4, stackSize := 1000, handlerCatches := false } 40
    (.recur 0)).2.maxDepth = 4 := by decide +kernel

/-- **stack_checked_pushes_bounded** (memory safety of the value stack, for the pushes of the limits machine: the
    checked pushes of function locals and do_catch's single unchecked push).  With `StackSize ≥ 5` the height
    never exceeds `StackSize - 4`: `sp` stays at least 4 slots below the end of the allocation in every
    evaluation of every shape.  (Unchecked argument pushes are outside the machine: open finding of C01.) -/
theorem stack_checked_pushes_bounded (cfg : Cfg) (fuel : Nat) (sh : Sh) (h5 : stackSlack ≤ cfg.stackSize) :
    (evaluate cfg fuel sh).2.maxSp ≤ cfg.stackSize - stackSlack + 1 ∧
    (1 < stackSlack → (evaluate cfg fuel sh).2.maxSp < cfg.stackSize) := by
  -- (stated relative to the regenerated slack of reset_interpreter: with `size - 5` this is `≤ StackSize - 4`)
  have h0 : 0 ≤ spEnd cfg := by unfold spEnd; omega
  have h := (exec_StackRes cfg fuel .driver (.call 0 sh) (St.start cfg) ⟨h0, Int.le_add_one h0⟩).1
  unfold spEnd at h
  unfold evaluate
  constructor
  · omega
  · intro h1; omega

example : (evaluate { maxCost := 5000, maxDepth := 100, stackSize := 30, handlerCatches := false } 60
    (.catch_ (.recur 7))).2.maxSp = 21 := by decide +kernel

/-- **sizes_bounded**.  Every value constructor returns an error or a value whose size is within the configured
    limit of its type - for all operand sizes (themselves within the limit, as every operand was built by a
    constructor) and all int64 arguments; the limit is a C `int`, `0 ≤ limit < 2^31`. -/
theorem sizes_bounded (l : Int) (hl : LimitOk l) :
    (∀ n sz, allocateArray n l = .ok sz → (sz : Int) ≤ l) ∧
    (∀ n sz, aggregateArray n l = .ok sz → (sz : Int) ≤ l) ∧
    (∀ (a b sz : Nat), (a : Int) ≤ l → (b : Int) ≤ l → addArray a b l = .ok sz → (sz : Int) ≤ l) ∧
    (∀ (size : Nat) lo hi sz, (size : Int) ≤ l → sliceArray size lo hi = .ok sz → (sz : Int) ≤ l) ∧
    (∀ pieces sz, explodeArray pieces l = .ok sz → (sz : Int) ≤ l) ∧
    (∀ n sz, allocateBuffer n l = .ok sz → (sz : Int) ≤ l) ∧
    (∀ a b sz, addBuffer a b l = .ok sz → (sz : Int) ≤ l) ∧
    (∀ (c : Nat) isNew sz, (c : Int) ≤ l → mapInsert c isNew l = .ok sz → (sz : Int) ≤ l) ∧
    (∀ d sz, mapAggregate d l = .ok sz → (sz : Int) ≤ l) ∧
    (∀ (c1 c2 common sz : Nat), (c1 : Int) ≤ l → (c2 : Int) ≤ l → mapAdd c1 c2 common l = .ok sz → (sz : Int) ≤ l) ∧
    (∀ a b sz, stringJoin a b l = .ok sz → (sz : Int) ≤ l) ∧
    (∀ (len : Nat) count sz, (len : Int) ≤ l → repeatString len count l = .ok sz → (sz : Int) ≤ l) ∧
    (∀ total num delLen sz, implodeString total num delLen l = .ok sz → (sz : Int) ≤ l) ∧
    (∀ steps tail sz, replaceFinish l.toNat tail (replaceRun l.toNat steps 0) = .ok sz → (sz : Int) ≤ l) :=
  ⟨allocateArray_bounded hl,
   fun _ => allocateArray_bounded hl _,
   fun _ _ _ ha hb => addArray_bounded ha hb _,
   fun _ lo hi _ hs => sliceArray_within hs lo hi _,
   explodeArray_bounded hl,
   allocateBuffer_bounded hl,
   fun _ _ => allocateBuffer_bounded hl _,
   fun _ isNew _ hc => mapInsert_bounded hc isNew _,
   mapInsertMany_bounded hl.1,
   fun _ _ common _ h1 h2 => mapAdd_bounded h1 h2 common _,
   stringJoin_bounded hl,
   fun _ count _ hlen => repeatString_bounded hl hlen count _,
   implodeString_bounded hl,
   fun _ tail => replaceFinish_bounded l tail _⟩

/-- the constructors that copy or select from an operand (copy, sort_array, map, filter, unique_array, array `-` / `&`,
    case conversions, keys / values, allocate_mapping): the result is never larger than the operand, which is
    within its limit; keys / values go through allocate_empty_array and respect MaxArraySize -/
theorem sizes_bounded_derived (l : Int) (hl : LimitOk l) :
    (∀ (n sz : Nat), (n : Int) ≤ l → sameSize n = .ok sz → (sz : Int) ≤ l) ∧
    (∀ (n kept sz : Nat), (n : Int) ≤ l → partOf n kept = .ok sz → (sz : Int) ≤ l) ∧
    (∀ (c sz : Nat), mapKeys c l = .ok sz → (sz : Int) ≤ l) ∧
    (∀ n sz, allocateMapping n = .ok sz → (sz : Int) ≤ l) :=
  ⟨fun _ _ hn => sameSize_bounded hn _,
   fun _ kept _ hn => partOf_bounded hn kept _,
   fun _ => allocateArray_bounded hl _,
   fun _ => Bnd.ok hl.1⟩

example : LimitOk 200000 := by unfold LimitOk; omega
example : repeatString 2 (-9223372036854775808) 1000 = .ok 0 := by decide
example : repeatString 2 501 1000 = .err := by decide
example : stringJoin 600 401 1000 = .err := by decide

/-- replace_string never has MAX or more characters in its MAX + 1 byte destination while it scans -/
theorem replace_scan_in_bounds (limit : Nat) (steps : List RStep) (d : Nat) (hl : 0 < limit)
    (h : replaceRun limit steps 0 = some d) : d < limit := by
  rcases replaceRun_lt h with h1 | h1 <;> omega

/-- **sprintf_bounded**: the finished result of sprintf respects MaxStringLength for every limit (the buffer itself
    is bounded by USHRT_MAX while it is built: `sprintfAdd_bounded`) -/
theorem sprintf_bounded (l : Int) (hl : LimitOk l) (real sz : Nat) (h : sprintfFinish real l = .ok sz) : (sz : Int) ≤ l :=
  sprintfFinish_bounded hl real sz h

example : sprintfFinish 300 200 = .err := by decide

/-- the 16-bit `size` field: with MaxArraySize ≤ 65535 the size an array reports is the size that was asked for
    (for larger limits see `array_size_wraps` in Witness.lean) -/
theorem array_size_exact (n l : Int) (sz : Nat) (hl : LimitOk l) (h16 : l < 2 ^ arraySizeBits)
    (hn : -9223372036854775808 ≤ n ∧ n < 9223372036854775808)
    (h : allocateArray n l = .ok sz) : (sz : Int) = n := by
  unfold allocateArray at h
  simp only at h
  split at h
  · cases h
  · rename_i hle
    injection h with h
    rw [toSizeT_of_limit hl] at hle
    have hb : (2 : Int) ^ arraySizeBits = 65536 := by decide
    rw [hb] at h16
    have hlt : toSizeT n < 65536 := by have := hl.1; omega
    have hsz : sz = toSizeT n := by
      rw [← h]; unfold toArrSize
      have : 2 ^ arraySizeBits = 65536 := by decide
      rw [this]; exact Nat.mod_eq_of_lt hlt
    -- toSizeT n < 65536 means n itself is that number (a negative n converts to at least 2^63)
    unfold toSizeT two64 at hlt hsz
    rw [two64_cast] at hlt hsz
    omega

/-- **map_count_exact**: for every sequence of inserts and in-place `m += m2` on a mapping - including the ones that
    fail with "Mapping too large" after linking some of the nodes - what `sizeof (m)` and every later size test read
    (`count`) is the number of nodes the mapping holds, and that number is within the limit. -/
theorem map_count_exact (limit : Int) (hl : LimitOk limit) (ops : List MapOp) :
    MapOk limit (mapRun limit ops { count := 0, nodes := 0 }).2 := by
  -- `m *= m2` (compose_mapping) counts the unlinked nodes in `deleted`: wide enough for every limit a C int can hold
  -- (before fix 5334d17 it was 16 bits wide: `compose_count_wraps_16` in Witness.lean)
  exact mapRun_ok limit ops _ ⟨rfl, hl.1⟩ hl

example : mapRun 20 [.insert true, .absorb 15, .absorb 10, .insert true, .insert false] { count := 0, nodes := 0 } =
    ([false, false, true, true, false], { count := 20, nodes := 20 }) := by decide +kernel

example : mapRun 20 [.absorb 15, .compose 4, .insert true, .compose 0] { count := 0, nodes := 0 } =
    ([false, false, false, false], { count := 0, nodes := 0 }) := by decide +kernel

/-- **sizes_bounded_round4**.  The constructors outside the table of `sizes_bounded`: `m1 * m2` / `m1 *= m2`
    (never larger than the left operand), regexp (string *, ...) with and without the index flag, both result arrays of
    reg_assoc, the arrays and mappings restore_variable rebuilds, and the text save_variable returns - each an error or
    within the limit of its type, for all operands. -/
theorem sizes_bounded_round4 (l : Int) (hl : LimitOk l) :
    (∀ (c1 kept sz : Nat), (c1 : Int) ≤ l → composeMapping c1 kept = .ok sz → (sz : Int) ≤ l) ∧
    (∀ matched flag sz, matchRegexp matched flag l = .ok sz → (sz : Int) ≤ l) ∧
    (∀ m sz, regAssoc m l = .ok sz → (sz : Int) ≤ l) ∧
    (∀ n sz, restoreArray n l = .ok sz → (sz : Int) ≤ l) ∧
    (∀ n sz, restoreMapping n l = .ok sz → (sz : Int) ≤ l) ∧
    (∀ v sz, saveVariable v l = .ok sz → (sz : Int) ≤ l) :=
  ⟨fun _ kept _ hc => composeMappingW_bounded hc _ kept _,
   fun _ _ => allocateArray_bounded hl _,
   fun _ => allocateArray_bounded hl _,
   fun _ => allocateArray_bounded hl _,
   mapInsertMany_bounded hl.1,
   saveVariable_bounded hl⟩

/-- what `sizeof (m1 * m2)` reports is the number of nodes that stayed, for every mapping a C int limit allows -/
theorem compose_count_exact (l : Int) (hl : LimitOk l) (c1 kept : Nat) (hc : (c1 : Int) ≤ l) :
    composeMapping c1 kept = .ok (min kept c1) :=
  composeMappingW_exact (hl.fits hc)

example : composeMapping 70000 0 = .ok 0 := by decide
example : saveVariable (valZeros 48) 100 = .ok 100 ∧ saveVariable (valZeros 49) 100 = .err := by decide +kernel
example : matchRegexp 51 1 100 = .err ∧ matchRegexp 50 1 100 = .ok 100 ∧ regAssoc 50 100 = .err := by decide

/-- **save_depth_bounded** (recursion depth of the value walks).  svalue_save_size - and deep_copy_svalue, which makes
    the same test on the same constant - never works on more than MAX_SAVE_SVALUE_DEPTH containers inside each other,
    whatever the value: the walk is refused exactly when the value nests deeper, and its depth counter stays within
    the limit on the error path too. -/
theorem save_depth_bounded (v : Val) :
    saveReach 0 v ≤ maxSaveDepth ∧
    ((saveSize 0 v).isSome = true ↔ v.nest ≤ maxSaveDepth) ∧ (deepCopyOk 0 v = true ↔ v.nest ≤ maxSaveDepth) := by
  have h := saveSize_isSome v 0
  refine ⟨saveReach_le v 0 (Nat.zero_le _), ?_, ?_⟩
  · rw [h]; omega
  · unfold deepCopyOk; rw [h]; omega

/-- **restore_depth_bounded** (the bound of C16's fix c9a3442): the size pre-pass of restore_variable / restore_object
    refuses every text that nests deeper than MAX_SAVE_SVALUE_DEPTH - exactly the values save would refuse to write - and
    its recursion never goes more than one level past the limit, whatever the text. -/
theorem restore_depth_bounded (v : Val) :
    restoreReach 0 v ≤ maxSaveDepth + 1 ∧ (restoreWalk 0 v = true ↔ v.nest ≤ maxSaveDepth) ∧
    restoreWalk 0 v = (saveSize 0 v).isSome := by
  have h := saveSize_isSome v 0
  refine ⟨restoreReach_le v 0 (Nat.zero_le _), ?_, restoreWalk_eq v 0⟩
  rw [restoreWalk_eq v 0, h]; omega

example : restoreWalk 0 (valNested (maxSaveDepth - 1)) = true ∧ restoreWalk 0 (valNested maxSaveDepth) = false ∧
    restoreReach 0 (valNested (maxSaveDepth + 275)) = maxSaveDepth + 1 := by decide +kernel

example : (saveSize 0 (valNested (maxSaveDepth - 1))).isSome = true ∧ (saveSize 0 (valNested maxSaveDepth)).isSome = false ∧
    saveReach 0 (valNested (maxSaveDepth + 15)) = maxSaveDepth := by decide +kernel

/-- **loop_iterations_charged** (every backward jump, call and loop-efun callback costs at least one tick).  For every
    byte-code program, every sequence of branch decisions and every number of interpreter turns, started with a budget
    of at least 1 (what rc.cpp / set_eval_limit guarantee): backward jumps taken + functions entered + callbacks made
    never exceed the ticks charged, the ticks charged never exceed the budget, and a run that expired used exactly the
    budget.  The charge of a fetch (`fetchCharge`) is built from the facts regenerated from src/interpret.c. -/
theorem loop_iterations_charged (budget : Int) (hb : 1 ≤ budget) (prog : Array Ins) (orc : Nat → Bool) (fuel : Nat) :
    let r := lrun prog orc fuel (LSt.start budget)
    r.2.backs + r.2.calls + r.2.cbs ≤ r.2.ticks ∧ (r.2.ticks : Int) ≤ budget ∧
    (r.1 = .expired → (r.2.ticks : Int) = budget) := by
  have h := lrun_ok budget prog orc fuel (LSt.start budget) ⟨Nat.le_refl _, by simp [LSt.start]⟩ (by show 0 < budget; omega)
  obtain ⟨h1, h2⟩ := h.inv
  have h3 := h.pos
  refine ⟨h1, ?_, ?_⟩
  · rcases h3 with ⟨_, y⟩ | ⟨_, y⟩ <;> omega
  · intro he
    rcases h3 with ⟨_, y⟩ | ⟨x, _⟩
    · omega
    · exact absurd he x

/-- **loop_ends_within_budget** (the evaluation ends): no program, whatever it loops or calls, keeps the interpreter loop turning
    for as many turns as the budget has ticks - after `budget` turns it has returned or the budget has expired. -/
theorem loop_ends_within_budget (budget : Int) (hb : 1 ≤ budget) (prog : Array Ins) (orc : Nat → Bool) (fuel : Nat)
    (hf : budget ≤ fuel) : (lrun prog orc fuel (LSt.start budget)).1 ≠ .running := by
  intro hrun
  have h := lrun_ok budget prog orc fuel (LSt.start budget) ⟨Nat.le_refl _, by simp [LSt.start]⟩ (by show 0 < budget; omega)
  have hsum := h.inv.2
  have hpos := h.pos
  -- `fuel` turns that all went on charged `fuel` ticks, and something of the budget is left
  have := h.charged hrun
  have : (LSt.start budget).ticks = 0 := rfl
  rcases hpos with ⟨x, _⟩ | ⟨_, y⟩
  · rw [hrun] at x; cases x
  · omega

/-- a spinning loop `L: bbranch L` under a budget of 50 expires after exactly 50 backward jumps' worth of ticks -/
example : (lrun #[.back 0 1] (fun _ => true) 1000 (LSt.start 50)).1 = .expired ∧
    (lrun #[.back 0 1] (fun _ => true) 1000 (LSt.start 50)).2.ticks = 50 ∧
    (lrun #[.back 0 1] (fun _ => true) 1000 (LSt.start 50)).2.backs = 49 := by decide +kernel

/-- the backward-branch opcodes of the current source are the ones the model knows, none of them loops inside its own
    case, the test stands before the dispatch with no goto around it, and the two local call opcodes are the known ones -/
theorem bridge_backwardOps :
    backwardOps = modelBackwardOps ∧ backwardOpsLooping = [] ∧ tickBeforeDispatch = true ∧ evalLoopGotos = 0 ∧
    localCallOps = ["F_CALL_FUNCTION_BY_ADDRESS", "F_CALL_INHERITED"] ∧ fetchCharge = 1 ∧ callbackCharge = 1 :=
  ⟨rfl, rfl, rfl, rfl, rfl, fetchCharge_one, callbackCharge_one⟩

/-- **regex_charge_bounded** (time of one regexp match): whatever the pattern and the string need (`steps` node visits, exponential
    for backtracking patterns), regexec () makes at most `eval_cost * REGEXP_STEPS_PER_TICK` of them, never gives the evaluation
    more ticks than it had, leaves at least one, and when the visits needed reach the budget exactly one - the next
    instruction raises the error. -/
theorem regex_charge_bounded (cost : Int) (steps : Nat) (h : 0 < cost) :
    1 ≤ (regexCharge cost steps).1 ∧ (regexCharge cost steps).1 ≤ cost ∧
    ((regexCharge cost steps).2 : Int) ≤ cost * regexpStepsPerTick ∧ (regexCharge cost steps).2 ≤ steps ∧
    (1 < cost → (cost * regexpStepsPerTick).toNat ≤ steps → (regexCharge cost steps).1 = 1) := by
  unfold regexCharge regexpStepsPerTick
  simp only
  by_cases hc : cost > 1
  · simp only [hc, if_true]
    refine ⟨?_, ?_, ?_, ?_, ?_⟩
    · split <;> omega
    · split <;> omega
    · omega
    · omega
    · intro _ hs
      rw [if_pos]
      omega
  · simp only [hc, if_false]
    refine ⟨by omega, by omega, by omega, by omega, ?_⟩
    intro h1
    first | exact h1.elim | omega

example : regexCharge 20000 (rxLower 60) = (1, 2000000) ∧ rxExpires 60 20000 = some true ∧ rxExpires 12 20000 = some false ∧
    (regexCharge 20000 5000).1 = 19950 := by decide +kernel

/-- **bridge_refills**: the statements of the current source that write eval_cost or the configured budget are exactly the
    ones the rule table of Refill.lean justifies (file, function and statement), and the table is closed: a refill on expiry
    stands with its tick test, an assignment of the budget with its clamp -/
theorem bridge_refills : evalCostWrites = refillRules.map (·.site) ∧ refillTableOk = true := ⟨rfl, by decide +kernel⟩

/-- what the model needs of the constants of the value walks and of compose_mapping's counter (not their values: a different
    nesting limit or text overhead is followed by the model through NV/Gen; the restore pre-pass must start its inner calls at
    level 2, the level after the outermost container) -/
theorem bridge_saveWalk : 1 ≤ maxSaveDepth ∧ 1 ≤ saveBoxOverhead ∧ 31 ≤ composeDeletedBits ∧ restoreTopNesting = 2 := by decide

/-! ### bridging lemmas: the literals of the model are the constants found in the source (NV/Gen/C04.lean is
    regenerated from the guard sites on every run; a changed constant breaks these obligations) -/

/-- `end_of_stack = start_of_stack + size - 5` (src/stack.c): the model uses the regenerated slack; what the theorems need of it
    is room for do_catch's one unchecked push and one slot to spare (`stack_checked_pushes_bounded`), not the value 5 -/
theorem bridge_stackSlack : stackSlack = (stackSlackSrc : Int) ∧ 2 ≤ stackSlackSrc := ⟨rfl, by decide⟩

/-- the three depth tests compare with `&control_stack[MAX_CALL_DEPTH - 1]`: the offset the model's `pushFrame`,
    `catch_` and `safe` use -/
theorem bridge_depthTest : depthTestOffset = 1 ∧ depthTestOffsetFake = 1 ∧ depthTestOffsetContext = 1 := by decide

/-- rc.cpp and set_eval_limit clamp the budget to the same minimum, the one `clampCost` uses -/
theorem bridge_clamp : clampMin = clampMinEfun ∧ ∀ v : Int, clampCost v = if v < (clampMin : Int) then (clampMin : Int) else v := by
  exact ⟨by decide, fun v => rfl⟩

/-- safe_apply and safe_call_function_pointer leave the caller the same single tick the model's `safe` leaves -/
theorem bridge_safeTick : safeTickLeft = 1 ∧ safeTickLeftFunp = 1 := by decide

/-- the error_state bits are distinct single bits (what `hasEs` / `setEs` rely on) -/
theorem bridge_esBits : esStackFull = 1 ∧ esMaxEvalCost = 2 ∧ esStackFull &&& esMaxEvalCost = 0 := by decide

/-- the `size` field widths behind `toArrSize` / `toBufSize`, and sprintf's buffer bound -/
theorem bridge_widths : arraySizeBits = 16 ∧ bufferCastBits = 16 ∧ ushrtMax = 2 ^ 16 - 1 := by decide

/-- the `(int)` cast of set_eval_limit and the `unsigned short` element count of F_AGGREGATE, as the model computes them -/
theorem bridge_casts : intBits = 32 ∧ aggregateCountBits = 16 ∧
    toInt32 4294967296 = 0 ∧ toInt32 2147483648 = -2147483648 ∧ toInt32 (-5) = -5 ∧
    aggregateArray 65537 100 = .ok 1 := by decide

end NV.C04
