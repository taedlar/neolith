/-
C04 — the mapping bookkeeping of NV/C04/MapBook.lean keeps its invariant `MapOk`: after every operation, also one that
fails half way, `count` is the number of nodes linked, within the limit (`mapRun_ok`).
-/
import NV.C04.MapBook
import NV.C04.SizeBounds

namespace NV.C04

open NV.Gen.C04

/-- the loop counts in `loc` what it has linked; both exits write that count back -/
theorem absorbLoop_ok (limit : Int) (s : MapSt) (loc k : Nat) (h1 : loc = s.nodes) (h2 : s.count ≤ loc)
    (h3 : (loc : Int) ≤ limit) : MapOk limit (absorbLoop limit s loc k).2 := by
  induction k generalizing s loc with
  | zero => exact ⟨by show s.count + (loc - s.count) = s.nodes; omega, by show (s.nodes : Int) ≤ limit; omega⟩
  | succ k ih =>
    unfold absorbLoop
    split
    · exact ⟨by show s.count + (loc + 1 - (s.count + 1)) = s.nodes; omega, by show (s.nodes : Int) ≤ limit; omega⟩
    · exact ih _ _ (by show loc + 1 = s.nodes + 1; omega) (by show s.count ≤ loc + 1; omega) (by omega)

/-- a counter that holds every node count does not wrap: `count` stays the number of nodes -/
theorem composeStep_ok {limit : Int} {bits : Nat} {s : MapSt} (kept : Nat) (h : MapOk limit s)
    (hw : s.nodes < 2 ^ bits) : MapOk limit (composeStep bits s kept) := by
  obtain ⟨h1, h2⟩ := h
  have hlt : s.nodes - min kept s.nodes < 2 ^ bits := by omega
  refine ⟨?_, ?_⟩
  · show s.count - (s.nodes - min kept s.nodes) % 2 ^ bits = s.nodes - (s.nodes - min kept s.nodes)
    rw [Nat.mod_eq_of_lt hlt, h1]
  · show ((s.nodes - (s.nodes - min kept s.nodes) : Nat) : Int) ≤ limit
    omega

theorem mapStep_ok (limit : Int) (s : MapSt) (op : MapOp) (h : MapOk limit s) (hl : LimitOk limit) :
    MapOk limit (mapStep limit s op).2 := by
  cases op with
  | insert isNew =>
    cases isNew
    · exact h
    · show MapOk limit (if ((s.count + 1 : Nat) : Int) > limit then (true, s)
        else (false, ({ count := s.count + 1, nodes := s.nodes + 1 } : MapSt))).2
      split
      · exact h
      · exact ⟨by show s.count + 1 = s.nodes + 1; rw [h.1], by show ((s.nodes + 1 : Nat) : Int) ≤ limit; have := h.1; omega⟩
  | absorb k => exact absorbLoop_ok limit s s.count k h.1 (Nat.le_refl _) (by have := h.2; rw [h.1]; exact this)
  | compose kept => exact composeStep_ok kept h (hl.fits h.2)

theorem mapRun_ok (limit : Int) (ops : List MapOp) (s : MapSt) (h : MapOk limit s) (hl : LimitOk limit) :
    MapOk limit (mapRun limit ops s).2 := by
  induction ops generalizing s with
  | nil => exact h
  | cons op rest ih =>
    unfold mapRun
    exact ih _ (mapStep_ok limit s op h hl)

end NV.C04
