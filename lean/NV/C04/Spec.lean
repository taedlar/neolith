/-
C04 — specification oracle.

The property, as a predicate on what can be observed of an evaluation:

  * no catch() completes normally with an evaluation-cost / call-depth / stack-overflow error (`judgeEv`, over
    the structured events; the same function is applied to the events parsed from an implementation trace);
  * the evaluation ended (a result line exists, no crash / timeout / sanitizer report) with both stacks unwound;
  * the instructions executed stay within the configured budget (plus the allowance for the master's error
    handler, which the driver deliberately runs on a refreshed budget), the control stack index stays below
    MaxCallDepth, the value stack index inside StackSize;
  * every value built has a size within the configured limit of its type.

The oracle knows nothing about `eval_cost`, `error_state` or error contexts.
-/
import NV.Common.Proto
import NV.C04.Model
import NV.C04.Sizes

namespace NV.C04

open NV.Proto

/-- violations found in the structured events of one evaluation -/
def judgeEv (evs : List Ev) : List String :=
  evs.filterMap fun e =>
    match e with
    | .afterCatch k => if k.isLimit then some s!"limit-swallowed kind={k.name}" else none
    | .safeSwallowed _ => none

/-- kind names printed by the LPC side for a caught value (`cc-*`: the "Can't catch ..." re-raise texts) -/
def kindOfName (s : String) : Option Kind :=
  match s with
  | "cost" => some .cost | "cc-cost" => some .cost
  | "deep" => some .deep | "cc-deep" => some .deep
  | "stack" => some .stack
  | "plain" => some .plain
  | "thrown" => some .thrown
  | _ => none

/-- the limits a case runs under, collected from its command lines -/
structure Limits where
  cost : Int := 1000000
  depth : Int := 0          -- 0 = not lowered by the case
  stack : Int := 0
  maxArray : Int := 15000
  maxBuffer : Int := 4000000
  maxMapping : Int := 15000
  maxString : Int := 200000
  handlerCatches : Bool := false
  hasSafe : Bool := false
  catchDepth : Nat := 0
  noCodeCallbacks : Nat := 0   -- the program makes this many efun callbacks that execute no instruction
  safeWeight : Nat := 0        -- safe applies the program can make (each may add one tick: eval_bounded)
  traceValues : Nat := 0       -- values per frame the driver's own trace turns into text (ArgumentsInTrace / LocalVariablesInTrace)
  rxMustExpire : Bool := false -- the evaluation makes a regexp match that needs more node visits than the whole budget pays for
  deriving Repr

/-- ticks one delivery of an error may use outside the program: the master's error handler or, without one, the driver's own
    trace with its master::object_name applies.  The number of deliveries is measured (entries of mudlib_error_handler, the
    `handlers` field of the obs line) and, for program evaluations, compared with the model's (`handlers <n>` line). -/
def handlerAllowance : Nat := 250

/-- ... and per traced value of every frame when the driver prints its own trace with arguments / local variables (no master
    error_handler, or one that failed): master::object_name is applied for every object value -/
def traceAllowance : Nat := 16

/-- allowance for one delivery, given the deepest control stack index of the evaluation -/
def deliveryAllowance (lim : Limits) (maxcsp : Int) : Int :=
  (handlerAllowance : Int) + (traceAllowance : Int) * lim.traceValues * ((maxcsp + 2).toNat : Int)

def kvOf (toks : List String) (key : String) : Option Int :=
  match toks.find? (fun t => t.startsWith (key ++ "=")) with
  | some t => (t.drop (key.length + 1)).toString.toInt?
  | none => none

/-- the numbers of one observation line (indices: -1 = empty stack) -/
structure Obs where
  ticks : Int
  maxcsp : Int
  maxsp : Int
  csp : Int
  sp : Int
  maxtouch : Int := -1     -- highest value-stack slot at or above StackSize that was written (-1: none)
  cost0 : Int := 0         -- eval_cost when the evaluation started (0: not reported)
  completed : Bool := false  -- the evaluation returned to the driver normally (`r ret`)
  handlers : Int := 0        -- error deliveries: entries of mudlib_error_handler during the evaluation
  deriving Repr

/-- judge the numbers of one evaluation (the clause-level core of the oracle: `model_satisfies_spec` is about this
    function applied to the numbers of a model run, the line judge applies it to the parsed `obs` line) -/
def judgeNums (lim : Limits) (o : Obs) : List String :=
  -- (the budget the evaluation started with, when the harness reports it: set_eval_limit may change the configured one meanwhile)
  (if o.ticks > (if o.cost0 > 0 then o.cost0 else if lim.cost > 0 then lim.cost else 0) + (lim.safeWeight : Int) +
      deliveryAllowance lim o.maxcsp * o.handlers then
      (if lim.cost ≤ 0 then [s!"eval-exceeded nonpositive-budget ticks={o.ticks} budget={lim.cost}"]
       else if lim.hasSafe then [s!"eval-exceeded through-safe-apply ticks={o.ticks} budget={lim.cost}"]
       else [s!"eval-exceeded ticks={o.ticks} budget={lim.cost}"])
    else []) ++
  (if lim.depth > 0 ∧ o.maxcsp > lim.depth - 1 then
      [s!"depth-exceeded maxcsp={o.maxcsp} depth={lim.depth}"] else []) ++
  (if lim.stack > 0 ∧ o.maxsp > lim.stack - 1 then
      [s!"stack-exceeded maxsp={o.maxsp} stack={lim.stack}"] else []) ++
  -- slots at or above the lowered StackSize that were written at any time (also between two instruction fetches)
  (if lim.stack > 0 ∧ o.maxtouch > lim.stack - 1 then
      [s!"stack-exceeded maxtouch={o.maxtouch} stack={lim.stack}"] else []) ++
  (if o.csp ≠ -1 ∨ o.sp ≠ -1 then
      (if lim.hasSafe ∧ o.csp = -1 then [s!"not-unwound through-safe-apply sp={o.sp}"]
       else [s!"not-unwound csp={o.csp} sp={o.sp}"]) else []) ++
  -- nothing completes after an expiry: a normal return used fewer instructions than the budget it started with
  (if o.completed = true ∧ o.cost0 > 0 ∧ o.ticks ≥ o.cost0 then
      [s!"completed-after-expiry ticks={o.ticks} budget={o.cost0}"] else [])

/-- judge the observation line of one evaluation -/
def judgeObs (lim : Limits) (completed : Bool) (toks : List String) : List String :=
  let get (k : String) : Int := (kvOf toks k).getD 0
  judgeNums lim { ticks := get "ticks", maxcsp := get "maxcsp", maxsp := get "maxsp", csp := get "csp", sp := get "sp",
                  maxtouch := (kvOf toks "maxtouch").getD (-1), cost0 := get "cost0", completed := completed,
                  -- (an obs line without the `handlers` field gets the structural count: catch depth of the program + 2)
                  handlers := (kvOf toks "handlers").getD ((lim.catchDepth : Int) + 2) }

/-- the constructors the harness can be asked for (`sz <name> <args>`, harness/mudlib/c04/sizes.c) -/
inductive Ctor
  | allocate | aggregate | add_array | add_array_self | slice | explode | explode0 | allocate_buffer
  | add_buffer | map_insert | map_aggregate | map_add | join | join_eq | join_self | join_num
  | num_join | repeat_ | implode | replace | replace1 | copy_array | copy_mapping | sort_array
  | map_array | lower_case | filter_array | unique_array | array_sub | array_and | filter_mapping | map_mapping
  | keys | values | allocate_mapping | map_compose | map_compose_eq | save_array | save_string | save_mapping
  | save_nested | copy_nested | restore_nested | restore_array | restore_mapping | regexp | reg_assoc | sprintf_pad
  | sprintf | unique_mapping | save_nested_map | save_depth | save_depth_map
  deriving Repr, DecidableEq

def Ctor.ofName (s : String) : Option Ctor :=
  match s with
  | "allocate" => some .allocate
  | "aggregate" => some .aggregate
  | "add_array" => some .add_array
  | "add_array_self" => some .add_array_self
  | "slice" => some .slice
  | "explode" => some .explode
  | "explode0" => some .explode0
  | "allocate_buffer" => some .allocate_buffer
  | "add_buffer" => some .add_buffer
  | "map_insert" => some .map_insert
  | "map_aggregate" => some .map_aggregate
  | "map_add" => some .map_add
  | "join" => some .join
  | "join_eq" => some .join_eq
  | "join_self" => some .join_self
  | "join_num" => some .join_num
  | "num_join" => some .num_join
  | "repeat" => some .repeat_
  | "implode" => some .implode
  | "replace" => some .replace
  | "replace1" => some .replace1
  | "copy_array" => some .copy_array
  | "copy_mapping" => some .copy_mapping
  | "sort_array" => some .sort_array
  | "map_array" => some .map_array
  | "lower_case" => some .lower_case
  | "filter_array" => some .filter_array
  | "unique_array" => some .unique_array
  | "array_sub" => some .array_sub
  | "array_and" => some .array_and
  | "filter_mapping" => some .filter_mapping
  | "map_mapping" => some .map_mapping
  | "keys" => some .keys
  | "values" => some .values
  | "allocate_mapping" => some .allocate_mapping
  | "map_compose" => some .map_compose
  | "map_compose_eq" => some .map_compose_eq
  | "save_array" => some .save_array
  | "save_string" => some .save_string
  | "save_mapping" => some .save_mapping
  | "save_nested" => some .save_nested
  | "copy_nested" => some .copy_nested
  | "restore_nested" => some .restore_nested
  | "restore_array" => some .restore_array
  | "restore_mapping" => some .restore_mapping
  | "regexp" => some .regexp
  | "reg_assoc" => some .reg_assoc
  | "sprintf_pad" => some .sprintf_pad
  | "sprintf" => some .sprintf
  | "unique_mapping" => some .unique_mapping
  | "save_nested_map" => some .save_nested_map
  | "save_depth" => some .save_depth
  | "save_depth_map" => some .save_depth_map
  | _ => none

/-- which limit bounds the result of a constructor -/
def limitOfC (lim : Limits) : Ctor → Int
  | .allocate | .aggregate | .add_array | .add_array_self | .slice | .explode | .explode0 | .copy_array | .sort_array | .map_array | .filter_array | .unique_array | .array_sub | .array_and | .keys | .values | .regexp | .reg_assoc | .restore_array => lim.maxArray
  | .allocate_buffer | .add_buffer => lim.maxBuffer
  | .map_insert | .map_aggregate | .map_add | .copy_mapping | .allocate_mapping | .filter_mapping | .map_mapping | .map_compose | .map_compose_eq | .restore_mapping | .unique_mapping => lim.maxMapping
  -- nesting depths reported by the LPC side: bounded by MAX_SAVE_SVALUE_DEPTH (copy, and restore since c9a3442)
  | .copy_nested | .restore_nested | .save_depth | .save_depth_map => (NV.Gen.C04.maxSaveDepth : Int)
  | _ => lim.maxString

/-- by name, as the line judge needs it (a name that is not a constructor is judged as a string) -/
def limitOf (lim : Limits) (ctor : String) : Int :=
  match Ctor.ofName ctor with
  | some c => limitOfC lim c
  | none => lim.maxString

/-- result of a mapping operation sequence, `"<flags>:<sizeof>/<nodes>"`: what sizeof () reports is what the mapping
    holds, and that is within the limit (other returned values are not judged) -/
def judgeMapSeq (lim : Limits) (v : String) : List String :=
  match (v.replace "\"" "").splitOn ":" with
  | [_, cn] =>
    (match cn.splitOn "/" with
     | [c, n] =>
       (match c.toInt?, n.toInt? with
        | some c, some n =>
          (if c != n then [s!"map-count-mismatch sizeof={c} nodes={n}"] else []) ++
          (if n > lim.maxMapping then [s!"size-exceeded ctor=map_seq size={n} limit={lim.maxMapping}"] else [])
        | _, _ => [])
     | _ => [])
  | _ => []

/-- an evaluation that returned normally although its program makes more code-less callbacks than the budget -/
def judgeCallbacks (lim0 : Limits) (cost0 : Int) : List String :=
  -- (against the budget the evaluation started with, when the obs line reports it: an `ev sizes set_limit` returns normally
  -- under the old budget while the configured one is already the new, possibly clamped, value)
  let lim : Limits := { lim0 with cost := if cost0 > 0 then cost0 else lim0.cost }
  -- (every callback costs a tick of its own: a normal return after at least as many callbacks as the budget has ticks is
  -- impossible; no allowance belongs here - the callbacks run before any error is delivered)
  (if lim.cost > 0 ∧ (lim.noCodeCallbacks : Int) ≥ lim.cost then
    [s!"eval-exceeded uncharged-callbacks callbacks={lim.noCodeCallbacks} budget={lim.cost}"]
  else []) ++
  -- ... or although one of its regexp matches alone needs more node visits than the budget pays for
  (if lim.rxMustExpire then [s!"eval-exceeded uncharged-regexp budget={lim.cost}"] else [])

structure JState where
  lim : Limits := {}
  pendingEv : Nat := 0            -- `ev` commands whose result line has not been seen
  pendingSz : List String := []   -- constructors of `sz` commands whose result has not been seen (oldest first)
  bad : List String := []
  lastRet : Bool := false         -- the result line before the `obs` line was `r ret`

def JState.flag (s : JState) (vs : List String) : JState := { s with bad := s.bad ++ vs }

/-- one implementation output line -/
def judgeLine (s : JState) (line : String) : JState :=
  match toks line with
  | ["after-catch", k] =>
    match kindOfName k with
    | some k => s.flag (judgeEv [.afterCatch k])
    | none => s.flag [s!"malformed {line}"]
  | ["r", "ret", v] =>
    let s1 : JState := { s with pendingEv := s.pendingEv - 1, lastRet := true }
    s1.flag (judgeMapSeq s.lim v)
  | "r" :: "ret" :: _ => { s with pendingEv := s.pendingEv - 1, lastRet := true }
  | "r" :: "err" :: _ => { s with pendingEv := s.pendingEv - 1, lastRet := false }
  | "obs" :: rest =>
    { s with lastRet := false }.flag (judgeObs s.lim s.lastRet rest ++
      (if s.lastRet then judgeCallbacks s.lim ((kvOf rest "cost0").getD 0) else []))
  | ["sz", "err"] => { s with pendingSz := s.pendingSz.drop 1 }
  | ["sz", "ok", n] =>
    match s.pendingSz, n.toInt? with
    | ctor :: rest, some n =>
      let s := { s with pendingSz := rest }
      let l := limitOf s.lim ctor
      if n > l then s.flag [s!"size-exceeded ctor={ctor} size={n} limit={l}"] else s
    | _, _ => s.flag [s!"malformed {line}"]
  | ["handlers", _] => s        -- compared with the model (correspondence), judged through the obs line
  | "mismatch" :: rest => s.flag [s!"map-count-mismatch {" ".intercalate rest}"]
  | "crash" :: _ => s.flag [s!"crash {line}"]
  | "sanitizer" :: _ => s.flag [s!"sanitizer {line}"]
  | "badcmd" :: _ => s.flag [s!"harness {line}"]
  | _ => if line.startsWith "#" then s else s.flag [s!"unexpected {line}"]

def judgeEnd (s : JState) : List String :=
  s.bad ++ (if s.pendingEv > 0 then ["not-ended evaluation without a result"] else [])
        ++ (if !s.pendingSz.isEmpty then ["not-ended constructor without a result"] else [])

end NV.C04
