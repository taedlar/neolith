/-
C18 — `line_info`: the run encoder `switch_to_line` against the scan of `find_line`.

The scan only sees run lengths: it walks over a block of runs that ends in front of the offset
(`findRun_append_out`) and stops inside a block that reaches the offset (`findRun_append_in`).  Of the split of a
statement into runs (`runsOf`) nothing is needed but its lengths' sum and the line every run carries.
The result, `findRun_encodeEms`, is stated against `specLine` of NV/C18/Spec.lean, the function the oracle itself
computes the expected line with (the only thing this file takes from the specification).
-/
import NV.C18.Model
import NV.C18.Spec

namespace NV.C18

open NV.Gen.C18

/-! ## bridging lemmas for the guards transcribed from the source (NV/Gen/C18.lean) -/

/-- the scan of `find_line` goes on exactly while the offset is GREATER than the run length -/
theorem scanContinues_iff (off : Int) (n : Nat) : scanContinues off n = true ↔ off > (n : Int) := by
  simp [scanContinues]

/-- the run split of `switch_to_line` is `while (sz > 255) { *p++ = 255; …; sz -= 255; }` with 255 = the largest
    `unsigned char` -/
theorem split_agrees : splitOp = ">" ∧ splitBound = runMax ∧ splitLen = runMax ∧ splitDec = runMax := by decide

/-- `find_line` rejects exactly the offsets GREATER than the program size (offset = size, the pc behind the last
    instruction, is decoded) -/
theorem psizeRejects_iff (off : Int) (n : Nat) : psizeRejects off n = true ↔ off > (n : Int) := by
  simp [psizeRejects]

/-- the source has no end-pointer test in the walk of `find_line` (bridging lemma for `Gen.C18.scanBounded`): the scan
    depends on the runs only, never on the stored table size `file_info[0]` -/
theorem scan_unbounded : scanBounded = false := rfl

theorem findRun_cons (r : Run) (rest : List Run) (off : Int) :
    findRun (r :: rest) off = if off > (r.len : Int) then findRun rest (off - r.len) else some r := by
  simp [findRun, scanContinues]

/-- code bytes covered by a block of runs -/
def lenSum (P : List Run) : Int := (P.map (fun r => (r.len : Int))).sum

theorem lenSum_cons (r : Run) (P : List Run) : lenSum (r :: P) = r.len + lenSum P := by
  simp [lenSum]

theorem lenSum_eq (P : List Run) : lenSum P = ((P.map (·.len)).sum : Nat) := by
  induction P with
  | nil => rfl
  | cons r P ih => rw [lenSum_cons, ih]; simp

theorem lenSum_nonneg (P : List Run) : 0 ≤ lenSum P := lenSum_eq P ▸ Int.natCast_nonneg _

theorem findRun_append_out : ∀ (P R : List Run) (off : Int), 0 < off →
    findRun (P ++ R) (lenSum P + off) = findRun R off := by
  intro P R off h
  induction P with
  | nil => simp [lenSum]
  | cons r P ih =>
    have := lenSum_nonneg P
    rw [List.cons_append, findRun_cons, lenSum_cons, if_pos (by omega), ← ih]
    congr 1; omega

theorem findRun_append_in (R : List Run) : ∀ (P : List Run) (off : Int), P ≠ [] → off ≤ lenSum P →
    ∃ r ∈ P, findRun (P ++ R) off = some r := by
  intro P
  induction P with
  | nil => intro _ h; exact absurd rfl h
  | cons r P ih =>
    intro off _ h
    rw [lenSum_cons] at h
    rw [List.cons_append, findRun_cons]
    by_cases hc : off > (r.len : Int)
    · -- bytes are left behind `r`, so `P` is not empty
      have hP : P ≠ [] := by rintro rfl; simp [lenSum] at h; omega
      obtain ⟨r', hr', h'⟩ := ih (off - r.len) hP (by omega)
      exact ⟨r', List.mem_cons_of_mem _ hr', by rw [if_pos hc, h']⟩
    · exact ⟨r, List.mem_cons_self, if_neg hc⟩

theorem findLine_ok (t : Tab) (off : Int) (r : Run) (f : Nat) (l : Int) (hinfo : t.noInfo = false)
    (hps : off ≤ t.psize) (hrun : findRun t.li off = some r)
    (htr : translateAbs r.line t.fi = some (f, l)) : findLine t off = .ok f l := by
  have hng : psizeRejects off t.psize = false :=
    Bool.eq_false_iff.2 (fun h => absurd ((psizeRejects_iff _ _).1 h) (by omega))
  unfold findLine
  rw [hinfo, hng, scan_unbounded, hrun]
  -- `find_line` looks at the table before it translates: it is not empty, since `translateAbs` answered
  cases hfi : t.fi with
  | nil => rw [hfi] at htr; nomatch htr
  | cons s0 rest => rw [hfi] at htr; simp only [htr]; rfl

theorem runsOf_gt {n s : Nat} (h : n > runMax) : runsOf n s = ⟨runMax, s⟩ :: runsOf (n - runMax) s := by
  rw [runsOf]; simp [h]

theorem runsOf_le {n s : Nat} (h : ¬ n > runMax) : runsOf n s = [⟨n, s⟩] := by
  rw [runsOf]; simp [h]

theorem runsOf_ne_nil (n s : Nat) : runsOf n s ≠ [] := by
  fun_induction runsOf n s <;> simp

theorem runsOf_mem (n s : Nat) : ∀ r ∈ runsOf n s, r.len ≤ runMax ∧ r.line = s := by
  fun_induction runsOf n s with
  | case1 n h ih =>
    intro r hr
    rcases List.mem_cons.1 hr with rfl | hr
    · exact ⟨Nat.le_refl _, rfl⟩
    · exact ih r hr
  | case2 n h =>
    intro r hr
    rw [List.mem_singleton.1 hr]
    exact ⟨Nat.le_of_not_gt h, rfl⟩

theorem runsOf_sum (n s : Nat) : ((runsOf n s).map (·.len)).sum = n := by
  fun_induction runsOf n s with
  | case1 n h ih => rw [List.map_cons, List.sum_cons, ih]; show runMax + (n - runMax) = n; omega
  | case2 n h => simp

theorem lenSum_runsOf (n s : Nat) : lenSum (runsOf n s) = n := by rw [lenSum_eq, runsOf_sum]

theorem findRun_runsOf_in (n s : Nat) (rest : List Run) (off : Int) (h2 : off ≤ n) :
    ∃ k, findRun (runsOf n s ++ rest) off = some ⟨k, s⟩ := by
  obtain ⟨r, hr, h⟩ :=
    findRun_append_in rest (runsOf n s) off (runsOf_ne_nil n s) (by rw [lenSum_runsOf]; exact h2)
  exact ⟨r.len, by rw [h, ← (runsOf_mem n s r hr).2]⟩

theorem findRun_runsOf_out (n s : Nat) (rest : List Run) (off : Int) (h2 : off > n) :
    findRun (runsOf n s ++ rest) off = findRun rest (off - n) := by
  have h := findRun_append_out (runsOf n s) rest (off - n) (by omega)
  rwa [lenSum_runsOf, show (n : Int) + (off - n) = off by omega] at h

/-- runs written when `p` bytes are pending under line `line` (the `if (sz) { … }` block of `switch_to_line`) -/
def flush (p : Int) (line : Int) : List Run :=
  if p = 0 then [] else if p > 0 then runsOf p.toNat (u16 line) else [⟨u8 p, u16 line⟩]

theorem aProgram_ne_aInitializer : ¬ aProgram = aInitializer := by decide

theorem switchToLine_program (st : Enc) (l cur : Int) :
    switchToLine st l cur aProgram =
      { st with lastSize := cur, lineBeing := l,
                liRev := (flush (cur - st.lastSize) st.lineBeing).reverse ++ st.liRev } := by
  unfold switchToLine flush
  simp only [aProgram_ne_aInitializer, ↓reduceIte, ne_eq, not_true_eq_false]
  by_cases h0 : cur - st.lastSize = 0
  · have : st.lastSize = cur := by omega
    simp [this]
  · have : st.lastSize + (cur - st.lastSize) = cur := by omega
    simp only [h0, ↓reduceIte, this]

theorem switchToLine_li (st : Enc) (l cur : Int) :
    (switchToLine st l cur aProgram).li = st.li ++ flush (cur - st.lastSize) st.lineBeing := by
  simp [switchToLine_program, Enc.li]

theorem switchToLine_lastSize (st : Enc) (l cur : Int) :
    (switchToLine st l cur aProgram).lastSize = cur := by
  rw [switchToLine_program]

theorem switchToLine_lineBeing (st : Enc) (l cur : Int) :
    (switchToLine st l cur aProgram).lineBeing = l := by
  rw [switchToLine_program]

/-- drive the encoder with one emission: the code generator switches to line `e.1`, then generates `e.2` bytes -/
def emitStep (st : Enc × Int) (e : Int × Nat) : Enc × Int :=
  (switchToLine st.1 e.1 st.2 aProgram, st.2 + e.2)

/-- run a whole emission sequence from a given compiler state and close with `switch_to_line (-1)` -/
def runFrom (st : Enc) (cur : Int) (ems : List (Int × Nat)) : Enc :=
  let r := ems.foldl emitStep (st, cur)
  switchToLine r.1 (-1) r.2 aProgram

/-- a fresh compilation (`i_initialize_parser`) -/
def runEms (ems : List (Int × Nat)) : Enc := runFrom {} 0 ems

/-- what the encoder writes, as a pure function of the emission sequence -/
def encodeEms : List (Int × Nat) → List Run
  | [] => []
  | (l, n) :: rest => (if n = 0 then [] else runsOf n (u16 l)) ++ encodeEms rest

theorem flush_nat (n : Nat) (l : Int) : flush (n : Int) l = if n = 0 then [] else runsOf n (u16 l) := by
  unfold flush
  by_cases h : n = 0
  · simp [h]
  · rw [if_neg (by omega), if_pos (by omega), if_neg h, Int.toNat_natCast]

theorem runFrom_li (ems : List (Int × Nat)) : ∀ (st : Enc) (cur : Int),
    (runFrom st cur ems).li = st.li ++ flush (cur - st.lastSize) st.lineBeing ++ encodeEms ems := by
  induction ems with
  | nil =>
    intro st cur
    simp [runFrom, encodeEms, switchToLine_li]
  | cons e rest ih =>
    intro st cur
    have h := ih (switchToLine st e.1 cur aProgram) (cur + e.2)
    rw [switchToLine_li, switchToLine_lastSize, switchToLine_lineBeing,
      show cur + (e.2 : Int) - cur = (e.2 : Int) by omega, flush_nat] at h
    simpa [runFrom, emitStep, encodeEms, List.append_assoc] using h

theorem runEms_li (ems : List (Int × Nat)) : (runEms ems).li = encodeEms ems := by
  unfold runEms
  rw [runFrom_li]
  simp [Enc.li, flush]

def totalBytes (ems : List (Int × Nat)) : Nat := (ems.map (·.2)).sum

theorem specLine_mem (ems : List (Int × Nat)) : ∀ (b : Nat) (l : Int), specLine ems b = some l → ∃ n, (l, n) ∈ ems := by
  induction ems with
  | nil => intro b l h; simp [specLine] at h
  | cons e rest ih =>
    intro b l h
    obtain ⟨l', n⟩ := e
    simp only [specLine] at h
    by_cases hb : b < n
    · simp only [hb, if_true] at h
      cases h
      exact ⟨n, List.mem_cons_self⟩
    · simp only [hb, if_false] at h
      obtain ⟨m, hm⟩ := ih (b - n) l h
      exact ⟨m, List.mem_cons_of_mem _ hm⟩

theorem findRun_encodeEms_succ (ems : List (Int × Nat)) : ∀ b : Nat, b < totalBytes ems →
    ∃ l k, specLine ems b = some l ∧ findRun (encodeEms ems) (b + 1) = some ⟨k, u16 l⟩ := by
  induction ems with
  | nil => intro b h; simp [totalBytes] at h
  | cons e rest ih =>
    intro b h
    obtain ⟨l, n⟩ := e
    simp only [totalBytes, List.map_cons, List.sum_cons] at h
    simp only [encodeEms, specLine]
    by_cases hin : b < n
    · obtain ⟨k, hk⟩ := findRun_runsOf_in n (u16 l) (encodeEms rest) (b + 1) (by omega)
      exact ⟨l, k, if_pos hin, by rw [if_neg (by omega), hk]⟩
    · obtain ⟨l', k, hs, hf⟩ := ih (b - n) (by simp only [totalBytes]; omega)
      refine ⟨l', k, by rw [if_neg hin, hs], ?_⟩
      rw [← hf]
      by_cases hn : n = 0
      · simp [hn]
      · rw [if_neg hn, findRun_runsOf_out n (u16 l) _ _ (by omega)]
        congr 1
        omega

theorem findRun_encodeEms (ems : List (Int × Nat)) (off : Int) (h1 : 0 < off) (h2 : off ≤ totalBytes ems) :
    ∃ l k, specLine ems (off - 1).toNat = some l ∧ findRun (encodeEms ems) off = some ⟨k, u16 l⟩ := by
  have h := findRun_encodeEms_succ ems (off - 1).toNat (by omega)
  rwa [Int.toNat_of_nonneg (by omega), Int.sub_add_cancel] at h

end NV.C18
