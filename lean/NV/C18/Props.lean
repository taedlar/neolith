/-
C18 — the round trips of the two tables separately (`line_roundtrip*`, `long_statement_ok` for `line_info`;
`file_roundtrip*` for `file_info`) and the trace assembly (`trace_order`, `apply_frame_named`).  Statements; the work is
in NV/C18/Lemmas*.lean.  The composition (`PropsCompile`, `PropsAccept`) and `Witness` import this file; the other
NV/C18/Props*.lean files hold clauses that rest on one lemma file each.

All statements are about the executable model of NV/C18/Model.lean, which the check ties to the C code on every run
(model encoder = real tables byte for byte; model decoder = real `get_line_number` on every offset of every dumped
program; model trace assembly = what the master's `error_handler` receives).
-/
import NV.C18.Model
import NV.C18.Spec
import NV.C18.Lemmas
import NV.C18.LemmasTrace
import NV.C18.LemmasFile
import NV.C18.LemmasFileN

namespace NV.C18

open NV.Gen.C18

/-- the widths the model relies on, as the C declarations have them: the run length byte of `line_info` holds
`runMax`; the stored absolute line (`short`), the `file_info` elements, `parse_node_t.line` and `program_size` are
all `lineMod` wide.  A change of any of these declarations breaks this obligation. -/
theorem widths_agree :
    runMax + 1 = 2 ^ lineInfoLenBits ∧ 2 ^ fileInfoBits = lineMod ∧ 2 ^ nodeLineBits = lineMod ∧
    2 ^ progSizeBits = lineMod ∧ aProgram ≠ aInitializer := by decide

/-- **line_roundtrip_raw** (stored 16 bits).  For EVERY sequence of emissions `(line, nbytes)` fed to the modelled
`switch_to_line` (any number of them, any sizes, zero-byte line changes included, closed by `switch_to_line (-1)`) and
EVERY code offset `off` with `0 < off ≤ program size`, the modelled scan of `find_line` stops on a run whose stored
line is the low 16 bits of the line under which byte `off - 1` (the byte in front of the pc) was generated. -/
theorem line_roundtrip_raw (ems : List (Int × Nat)) (off : Int) (h1 : 0 < off) (h2 : off ≤ totalBytes ems) :
    (findRun (runEms ems).li off).map (·.line) = (specLine ems (off - 1).toNat).map u16 := by
  obtain ⟨l, k, hs, hf⟩ := findRun_encodeEms ems off h1 h2
  rw [runEms_li, hf, hs]
  rfl

/-- all lines of the emission sequence fit the 16 bit field -/
def LinesFit (ems : List (Int × Nat)) : Prop := ∀ e ∈ ems, 0 ≤ e.1 ∧ e.1 < (lineMod : Int)

/-- **line_roundtrip**.  With every absolute line in `[0, 2^16)` the decoder returns exactly the line under which the
byte was emitted: for every emission sequence and every offset. -/
theorem line_roundtrip (ems : List (Int × Nat)) (hfit : LinesFit ems) (off : Int) (h1 : 0 < off)
    (h2 : off ≤ totalBytes ems) :
    (findRun (runEms ems).li off).map (fun r => (r.line : Int)) = specLine ems (off - 1).toNat := by
  obtain ⟨l, k, hs, hf⟩ := findRun_encodeEms ems off h1 h2
  obtain ⟨n, hm⟩ := specLine_mem ems _ l hs
  rw [runEms_li, hf, hs]
  exact congrArg some (u16_id l (hfit _ hm).1 (hfit _ hm).2)

/-- non-vacuity: three statements (4 bytes on line 7, a line change without code, 300 bytes on line 9, 2 bytes on
line 12); offset 5 is the first byte of the long statement, 304 its last, 305 the next line -/
example : LinesFit [(7, 4), (8, 0), (9, 300), (12, 2)] ∧
    (runEms [(7, 4), (8, 0), (9, 300), (12, 2)]).li = [⟨4, 7⟩, ⟨255, 9⟩, ⟨45, 9⟩, ⟨2, 12⟩] ∧
    (findRun (runEms [(7, 4), (8, 0), (9, 300), (12, 2)]).li 4).map (·.line) = some 7 ∧
    (findRun (runEms [(7, 4), (8, 0), (9, 300), (12, 2)]).li 5).map (·.line) = some 9 ∧
    (findRun (runEms [(7, 4), (8, 0), (9, 300), (12, 2)]).li 304).map (·.line) = some 9 ∧
    (findRun (runEms [(7, 4), (8, 0), (9, 300), (12, 2)]).li 305).map (·.line) = some 12 := by
  unfold LinesFit
  decide +kernel

/-- **long_statement_ok**.  A statement whose code is `n` bytes long — in particular `n > 255` — is split by
`switch_to_line` into runs that (a) all fit the `unsigned char` length, (b) add up to `n`, (c) all carry the
statement's line, and (d) every offset `1 … n` inside the statement decodes to a run with that line, whatever
follows in the table. -/
theorem long_statement_ok (n s : Nat) (rest : List Run) :
    (∀ r ∈ runsOf n s, r.len ≤ runMax) ∧ ((runsOf n s).map (·.len)).sum = n ∧ (∀ r ∈ runsOf n s, r.line = s) ∧
    (∀ off : Int, off ≤ n → (findRun (runsOf n s ++ rest) off).map (·.line) = some s) ∧
    (∀ off : Int, off > n → findRun (runsOf n s ++ rest) off = findRun rest (off - n)) := by
  refine ⟨fun r h => (runsOf_mem n s r h).1, runsOf_sum n s, fun r h => (runsOf_mem n s r h).2, ?_, ?_⟩
  · intro off h
    obtain ⟨k, hk⟩ := findRun_runsOf_in n s rest off h
    rw [hk]; rfl
  · intro off h
    exact findRun_runsOf_out n s rest off h

/-- non-vacuity: a 600 byte statement on line 41 becomes 255 + 255 + 90 -/
example : runsOf 600 41 = [⟨255, 41⟩, ⟨255, 41⟩, ⟨90, 41⟩] ∧
    (findRun (runsOf 600 41 ++ [⟨3, 42⟩]) 600).map (·.line) = some 41 ∧
    (findRun (runsOf 600 41 ++ [⟨3, 42⟩]) 601).map (·.line) = some 42 := by
  decide +kernel

/-- **file_roundtrip_ids** — the id-level core (`file_roundtrip` below discharges `Fresh` for the ids the repaired
`add_program_file` allocates; `NV.C18.file_roundtrip_Full_false` shows that it fails when an id is reused, which is
what the code did before the fix).
Take ANY include layout, given as the lexer's event sequence `p ++ q` over the main file `main`: ordinary lines,
`#include` directives at any nesting (each opening a file not used before in this compilation unit) and ends of
included files (resumption of the parent).  Stop after ANY prefix `p`: the lexer stands at line `curLine` of file
`fileId`, and a parse node created now is tagged with the absolute line `base + curLine`.  Decoding that absolute
line with `translate_absolute_line` against the `file_info` table as it is at the END of the compilation (all
`save_file_info` calls of `handle_include`, of the include pop and of `i_generate_final_program`) returns exactly
`(fileId, curLine)` — provided the compilation unit has fewer than 2^16 absolute lines. -/
theorem file_roundtrip_ids (main : Nat) (hmain : main < lineMod) (p q : List LexEv)
    (hfresh : Fresh { fileId := main } (p ++ q))
    (hfit : (lexRun { fileId := main } (p ++ q)).abs < (lineMod : Int)) :
    translateAbs (lexRun { fileId := main } p).abs (lexFinish (lexRun { fileId := main } (p ++ q))).fi
      = some ((lexRun { fileId := main } p).fileId, (lexRun { fileId := main } p).curLine) :=
  roundtrip_split { fileId := main } (inv_init main hmain) p q ((fresh_append p _ q).1 hfresh).1 hfit

/-- `file_roundtrip_ids` under the `_partial` name DESIGN.md 2.2 gives to a statement proved under a side condition
(here `Fresh`) -/
theorem file_roundtrip_partial (main : Nat) (hmain : main < lineMod) (p q : List LexEv)
    (hfresh : Fresh { fileId := main } (p ++ q))
    (hfit : (lexRun { fileId := main } (p ++ q)).abs < (lineMod : Int)) :
    translateAbs (lexRun { fileId := main } p).abs (lexFinish (lexRun { fileId := main } (p ++ q))).fi
      = some ((lexRun { fileId := main } p).fileId, (lexRun { fileId := main } p).curLine) :=
  file_roundtrip_ids main hmain p q hfresh hfit

/-- **file_roundtrip** (full: no condition on the include layout).  Take ANY sequence of lexer events over the main
file `main`: ordinary lines, `#include` directives of ANY file at ANY nesting — the same header any number of times,
a header including itself or its includer — ends of included files, and arbitrary other insertions into the program
string table.  File ids are chosen as the repaired `add_program_file`/`program_file_id` does (the id of the string
table entry, or an entry of its own when a `file_info` segment already uses that id).  Stop after ANY prefix `p`: the
lexer reads line `curLine` of the file named `curName`.  Decoding the absolute line of that position against the
FINAL `file_info` table returns a file id and a line such that the line is `curLine` and the final string table
maps the id to `curName` — i.e. exactly the source position.  Size conditions only: fewer than 2^16 absolute lines
and fewer than 2^16 program strings. -/
theorem file_roundtrip (main : Nat) (p q : List LexEvN)
    (hfit : (lexRunN (initN main) (p ++ q)).lex.abs < (lineMod : Int))
    (htbl : (lexRunN (initN main) (p ++ q)).tbl.length < lineMod) :
    translateAbs (lexRunN (initN main) p).lex.abs (lexFinish (lexRunN (initN main) (p ++ q)).lex).fi
      = some ((lexRunN (initN main) p).lex.fileId, (lexRunN (initN main) p).lex.curLine) ∧
    1 ≤ (lexRunN (initN main) p).lex.fileId ∧
    (lexRunN (initN main) (p ++ q)).tbl[(lexRunN (initN main) p).lex.fileId - 1]? = some (lexRunN (initN main) p).curName := by
  have h1 : (1 : Nat) < lineMod := by decide
  have hfresh := fresh_idsOf (p ++ q) (initN main) (inv_init 1 h1) (tinv_init main) hfit htbl
  -- the lexer part of the run is the run of the lexer over the chosen ids
  have hlexp : (lexRunN (initN main) p).lex = lexRun { fileId := 1 } (idsOf (initN main) p) := run_lex p (initN main)
  have hlexpq : (lexRunN (initN main) (p ++ q)).lex
      = lexRun { fileId := 1 } (idsOf (initN main) p ++ idsOf (lexRunN (initN main) p) q) := by
    rw [← idsOf_append]; exact run_lex (p ++ q) (initN main)
  rw [idsOf_append] at hfresh
  rw [hlexpq] at hfit ⊢
  rw [hlexp]
  refine ⟨file_roundtrip_ids 1 h1 _ _ hfresh hfit, ?_⟩
  -- the table after `p` names the current file, and the table only grows
  rw [← hlexp, lexRunN_append]
  exact (ninv_run p (initN main) (ninv_init main)).hcur.mono (tbl_prefix_run q _)

/-- non-vacuity: header 7 included three times from the main file 5 (twice directly, once through header 8, which
is in turn included by … header 7's second copy): stop inside the third copy -/
example :
    let p : List LexEvN := [.nl, .incl 7, .nl, .eof, .store 99, .incl 7, .incl 8, .nl, .incl 7, .nl, .nl]
    let q : List LexEvN := [.eof, .nl, .eof, .eof, .nl]
    (lexRunN (initN 5) (p ++ q)).lex.abs < (lineMod : Int) ∧ (lexRunN (initN 5) (p ++ q)).tbl = [5, 7, 99, 7, 8, 7] ∧
    (lexRunN (initN 5) p).curName = 7 ∧ (lexRunN (initN 5) p).lex.curLine = 3 ∧
    translateAbs (lexRunN (initN 5) p).lex.abs (lexFinish (lexRunN (initN 5) (p ++ q)).lex).fi = some (6, 3) := by
  decide +kernel

/-- the id-level statement without the freshness condition: false, because an `#include` event may then reuse an id
(`file_roundtrip_Full_false` in NV/C18/Witness.lean) -/
def file_roundtrip_Full : Prop :=
  ∀ (main : Nat) (p q : List LexEv), main < lineMod →
    (lexRun { fileId := main } (p ++ q)).abs < (lineMod : Int) →
    translateAbs (lexRun { fileId := main } p).abs (lexFinish (lexRun { fileId := main } (p ++ q))).fi
      = some ((lexRun { fileId := main } p).fileId, (lexRun { fileId := main } p).curLine)

/-- the layout of the non-vacuity example: main file (id 1): 2 lines, `#include` a (id 2); a: 1 line, `#include` b
(id 3); b: 2 lines; back in a: 1 more line; back in main: 2 more lines -/
def exLayout : List LexEv := [.nl, .nl, .incl 2, .nl, .incl 3, .nl, .nl, .eof, .nl, .eof, .nl, .nl]

/-- non-vacuity: the hypotheses hold for a two level include tree, and e.g. after 6 events (line 2 of b) or after
10 events (main file resumed behind the include) the decoded position is the source position -/
example : Fresh { fileId := 1 } exLayout ∧ (lexRun { fileId := 1 } exLayout).abs < (lineMod : Int) ∧
    (lexFinish (lexRun { fileId := 1 } exLayout)).fi = [⟨3, 1⟩, ⟨2, 2⟩, ⟨3, 3⟩, ⟨2, 2⟩, ⟨3, 1⟩] ∧
    translateAbs (lexRun { fileId := 1 } (exLayout.take 6)).abs (lexFinish (lexRun { fileId := 1 } exLayout)).fi = some (3, 2) ∧
    translateAbs (lexRun { fileId := 1 } (exLayout.take 10)).abs (lexFinish (lexRun { fileId := 1 } exLayout)).fi = some (1, 4) := by
  refine ⟨?_, by decide +kernel, by decide +kernel, by decide +kernel, by decide +kernel⟩
  simp [exLayout, Fresh, used, lexStep, Lex.save, lineMod, NV.Gen.C18.shortBits, u16]

/-- `file_roundtrip` covers the lines that END a segment (the quantifier is over every prefix, so also the position
right in front of an end of file): the included file 7 has two lines and NO newline at its end, the lexer stands on
its last line — absolute line 4, which is exactly where the segment `(2 lines, id 2)` ends — and the decoder returns
(id 2, line 2).  (A decoder that hands the boundary line to the next segment — `<` for `<=` in the first pass —
fails here; on the real code this is what the `tra` comparison over ALL absolute lines and oracle J6 check.) -/
example :
    let p : List LexEvN := [.nl, .incl 7, .nl]
    let q : List LexEvN := [.eof, .nl]
    (lexRunN (initN 5) p).lex.abs = 4 ∧ (lexFinish (lexRunN (initN 5) (p ++ q)).lex).fi = [⟨2, 1⟩, ⟨2, 2⟩, ⟨2, 1⟩] ∧
    translateAbs 4 (lexFinish (lexRunN (initN 5) (p ++ q)).lex).fi = some (2, 2) ∧
    translateAbs 2 (lexFinish (lexRunN (initN 5) (p ++ q)).lex).fi = some (1, 2) ∧
    translateAbs 6 (lexFinish (lexRunN (initN 5) (p ++ q)).lex).fi = some (1, 4) ∧
    translateAbs 7 (lexFinish (lexRunN (initN 5) (p ++ q)).lex).fi = none := by
  decide +kernel

/-- the trace entry the specification expects for an active frame -/
def entOf (w : World) (f : AFrame) : TraceEnt :=
  let fl := fileLine w f.regs
  ⟨fnOf w ⟨f.kind, f.idx, "", "", 0⟩ f.regs, f.regs.prog, f.regs.ob, fl.1, fl.2⟩

/-- **trace_order**.  Start from any driver context `outer` with an empty control stack and perform ANY sequence of
calls (`push_control_stack` + callee set-up), returns (`pop_control_stack`) and pc movements.  Then the trace
assembled by the modelled `get_svalue_trace` has exactly one entry per active frame, in call order — outermost
first, INNERMOST LAST — and each entry shows that frame's own function, program, object and current position
(the callers' saved pcs, the live pc for the innermost frame). -/
theorem trace_order (w : World) (outer : Regs) (ops : List TOp) :
    let a := aRun ⟨outer, []⟩ ops
    let m := mRun ⟨[], outer⟩ ops
    m.cur.prog ≠ "-" →
    svalueTrace w m = a.frames.reverse.map (entOf w) ∧ (svalueTrace w m).length = a.frames.length := by
  intro a m hcur
  have hm : m = conc a := by
    have := conc_run ops ⟨outer, []⟩
    simpa [conc, csR, curOfR] using this
  have key : svalueTrace w m = a.frames.reverse.map (entOf w) := by
    unfold svalueTrace
    simp only [hcur, if_false]
    rw [hm, ← framesOf_conc a.outer a.frames, List.map_map]
    -- `fnOf` reads `kind` and `tableIndex` of an element only, which is all an `AFrame` keeps of it
    rfl
  exact ⟨key, by rw [key]; simp⟩

/-- **apply_paths_store_table_index** (bridging lemma for the expressions transcribed from `apply_low`): on the cache-hit
path and on the cache-miss path the new frame stores the FUNCTION-TABLE index of the applied function (never its
runtime index). -/
theorem apply_paths_store_table_index (ei ri : Nat) : hitIndex ei ri = ei ∧ missIndex ei ri = ei := ⟨rfl, rfl⟩

/-- **apply_frame_named**.  Whatever is on the control stack, a frame opened by `apply_low` — first apply (cache miss) or
any later apply of the same function (cache hit) — for slot `ei` of the callee program's function table is listed by
`get_svalue_trace` as the innermost entry, under the NAME of that slot, with the callee's program and object. -/
theorem apply_frame_named (w : World) (m : Machine) (hit : Bool) (tbl : List FunEnt) (ei : Nat) (callee : Regs)
    (hprog : callee.prog ≠ "-") :
    (svalueTrace w (m.applyFrame hit tbl ei callee)).getLast? =
      some ⟨w.fnName callee.prog ei, callee.prog, callee.ob, (fileLine w callee).1, (fileLine w callee).2⟩ := by
  have hidx : (if hit then hitIndex ei (tbl.getD ei default).runtimeIndex else missIndex ei (tbl.getD ei default).runtimeIndex) = ei := by
    cases hit <;> simp [(apply_paths_store_table_index ei _).1, (apply_paths_store_table_index ei _).2]
  unfold svalueTrace Machine.applyFrame Machine.push
  simp only [hprog, if_false, hidx]
  rw [framesOf_snoc, List.map_append, List.map_singleton, List.getLast?_concat,
    fnOf_function w _ callee frameFunction_masked]

/-- non-vacuity: a second apply of `go` (slot 2, runtime index 0 — the two numberings differ) is traced as `go` -/
example :
    let w : World := { fns := [("m.c", ["set_oid", "f1", "go"])] }
    let tbl : List FunEnt := [⟨"set_oid", 1⟩, ⟨"f1", 2⟩, ⟨"go", 0⟩]
    ((svalueTrace w (({} : Machine).applyFrame true tbl 2 ⟨"m.c", "m", 9⟩)).map (·.fn)) = ["go"] := by decide +kernel

/-- non-vacuity: the driver applies `go`, which calls `f1` in another program, which evaluates a function literal;
the trace has three entries, innermost last -/
example :
    let ops := [TOp.call 0 2 ⟨"m.c", "m", 0⟩, .step 22, .call 0 1 ⟨"base.c", "m", 0⟩, .step 9, .call 1 0 ⟨"base.c", "m", 40⟩,
                .step 44]
    (svalueTrace {} (mRun ⟨[], ⟨"x", "-", -1⟩⟩ ops)).map (fun t => (t.fn, t.prog)) =
      [("?", "m.c"), ("?", "base.c"), ("<function>", "base.c")] := by
  decide +kernel

end NV.C18
