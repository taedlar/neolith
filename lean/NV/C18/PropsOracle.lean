/-
C18 — two clauses of the specification oracle, proved of the model.
J6: the oracle's declarative meaning of a `file_info` table (`positions`) is what the modelled decoder answers, for ALL
tables.  J5 (no opened file gets a file id that a `file_info` segment written before already uses): the oracle's scan
of the hook events of the modelled compiler finds nothing, for every include layout.
-/
import NV.C18.Spec
import NV.C18.LemmasFileN

namespace NV.C18

open NV.Gen.C18

/-- how many lines of file `f` the oracle has seen so far -/
def seenCount (seen : List (Nat × Nat)) (f : Nat) : Nat :=
  match seen.find? (fun e => e.1 == f) with
  | some e => e.2
  | none => 0

theorem positionsGo_cons (n f : Nat) (rest seen : List (Nat × Nat)) :
    positionsGo ((n, f) :: rest) seen =
      (List.range n).map (fun i => (f, seenCount seen f + i + 1)) ++
        positionsGo rest ((f, seenCount seen f + n) :: seen) := by
  rfl

/-- inside the first segment the oracle counts on from what it has seen of the file … -/
theorem positionsGo_get_lt (n f : Nat) (rest seen : List (Nat × Nat)) (i : Nat) (h : i < n) :
    (positionsGo ((n, f) :: rest) seen)[i]? = some (f, seenCount seen f + i + 1) := by
  rw [positionsGo_cons, List.getElem?_append_left (by rw [List.length_map, List.length_range]; exact h),
    List.getElem?_map, List.getElem?_range h]
  rfl

/-- … and behind it the positions are those of the rest, the segment's lines added to what was seen of its file -/
theorem positionsGo_get_ge (n f : Nat) (rest seen : List (Nat × Nat)) (i : Nat) (h : n ≤ i) :
    (positionsGo ((n, f) :: rest) seen)[i]? = (positionsGo rest ((f, seenCount seen f + n) :: seen))[i - n]? := by
  rw [positionsGo_cons, List.getElem?_append_right (by rw [List.length_map, List.length_range]; exact h),
    List.length_map, List.length_range]

theorem seenCount_cons (f c : Nat) (seen : List (Nat × Nat)) (g : Nat) :
    seenCount ((f, c) :: seen) g = if f = g then c else seenCount seen g := by
  by_cases h : f = g
  · simp [seenCount, List.find?, h]
  · have : (f == g) = false := by simp [h]
    simp [seenCount, List.find?, this, h]

/-- the oracle's view of a table: (count, file) pairs -/
def pairsOf (F : List Seg) : List (Nat × Nat) := F.map fun s => (s.count, s.file)

/-- decoder and oracle walk the table in step: when the oracle has seen of every file the lines of the segments `P`
    the first pass has skipped, the decoder's answer for absolute line `i + 1` of the rest of the table is the oracle's
    position `i` — behind the table neither answers -/
theorem translate_positionsGo (F : List Seg) : ∀ (P : List Seg) (seen : List (Nat × Nat)) (i : Nat),
    (∀ f, (seenCount seen f : Int) = segOf P f) →
    (pass1 F (i + 1) P).map (fun r => (r.2.2, pass2 r.1 r.2.2 r.2.1)) =
      ((positionsGo (pairsOf F) seen)[i]?).map (fun p => (p.1, (p.2 : Int))) := by
  induction F with
  | nil => intro P seen i _; rfl
  | cons s F ih =>
    intro P seen i hseen
    rw [pairsOf, List.map_cons]
    by_cases hin : i < s.count
    · rw [pass1_cons_stop s F _ P (by omega), positionsGo_get_lt _ _ _ _ _ hin]
      show some (s.file, pass2 P s.file (i + 1)) = some (s.file, ((seenCount seen s.file + i + 1 : Nat) : Int))
      rw [pass2_eq, ← hseen]
      congr 2
      omega
    · -- behind the segment: `i = s.count + j`
      obtain ⟨j, rfl⟩ := Nat.exists_eq_add_of_le (Nat.le_of_not_lt hin)
      rw [positionsGo_get_ge _ _ _ _ _ (Nat.le_add_right _ _), Nat.add_sub_cancel_left]
      cases F with
      | nil => rw [pass1_cons_end s _ P (by omega)]; rfl
      | cons b F' =>
        rw [pass1_cons_go s b F' _ P (by omega), Int.natCast_add, show (s.count : Int) + j + 1 - s.count = j + 1 by omega]
        refine ih (P ++ [s]) _ j (fun f => ?_)
        rw [seenCount_cons, segOf_append, segOf_single, ← hseen]
        split
        · subst f; simp
        · simp

set_option linter.unusedVariables false in  -- `h2` is not needed: behind the table neither decoder nor oracle answers
/-- **translate_eq_positions** (oracle clause J6 against the modelled decoder, for ALL tables).  For EVERY `file_info`
table — any number of segments, any counts (zero-length segments included), any file ids, the same id any number of
times — and EVERY absolute line `1 ≤ a ≤ total`, the modelled `translate_absolute_line` (first pass with the guard
transcribed from the source, second pass) returns exactly the source position the specification oracle assigns to
that line (`positions`: a segment of `n` lines of file `f` continues `f` where it was left).  Hence `judgeTra` never
reports a mismatch on the model decoder's answers: clause J6 of the oracle (NV/C18/Spec.lean). -/
theorem translate_eq_positions (F : List Seg) (a : Nat) (h1 : 1 ≤ a) (h2 : (a : Int) ≤ segTotal F) :
    translateAbs (a : Int) F = ((positions (pairsOf F))[a - 1]?).map (fun p => (p.1, (p.2 : Int))) := by
  obtain ⟨i, rfl⟩ := Nat.exists_eq_add_of_le' h1
  rw [Nat.add_sub_cancel, Int.natCast_succ, positions, ← translate_positionsGo F [] [] i (fun f => rfl), translateAbs]
  cases pass1 F (i + 1) [] <;> rfl

/-- non-vacuity: the table of a header included twice under ONE id (what the code did before the fix): the oracle
and the decoder agree on every line — the defect was in the encoder's choice of ids, which J1/J5 see -/
example :
    let F : List Seg := [⟨2, 1⟩, ⟨3, 2⟩, ⟨0, 1⟩, ⟨3, 2⟩, ⟨2, 1⟩]
    segTotal F = 10 ∧ positions (pairsOf F) = [(1, 1), (1, 2), (2, 1), (2, 2), (2, 3), (2, 4), (2, 5), (2, 6), (1, 3), (1, 4)] ∧
    translateAbs 6 F = some (2, 4) ∧ translateAbs 9 F = some (1, 3) := by
  decide +kernel

/-- the hook events (`f:<id>:<lines>`, `a:<id>:<name>`) the bookkeeping of one lexer step produces -/
def cevOf (s : Lex) : LexEv → List CEv
  | .nl => []
  | .incl f => [.fi s.fileId (s.curLine + 1 - 1 - s.saved), .addFile f ""]
  | .eof =>
    match s.stack with
    | [] => []
    | _ :: _ => [.fi s.fileId (s.curLine - s.saved)]

def cevsOf : Lex → List LexEv → List CEv
  | _, [] => []
  | s, e :: rest => cevOf s e ++ cevsOf (lexStep s e) rest

/-- one step of the oracle's scan (`reusedIds`) -/
def ridStep (acc : List Nat × List Nat) (e : CEv) : List Nat × List Nat :=
  match e with
  | .fi f _ => (f.toNat :: acc.1, acc.2)
  | .addFile f _ => if acc.1.contains f then (acc.1, f :: acc.2) else acc
  | _ => acc

theorem reusedIds_eq (evs : List CEv) : reusedIds evs = (evs.foldl ridStep ([], [])).2.reverse := rfl

/-- the oracle's scan over the events of one lexer step: what it has seen stays the list of the files of the segments
    written (newest first), and it records no reuse -/
theorem j5_step (s : Lex) (e : LexEv) (hsm : Small s) (hf : Fresh s [e]) :
    (cevOf s e).foldl ridStep ((s.fi.map (·.file)).reverse, []) = (((lexStep s e).fi.map (·.file)).reverse, []) := by
  -- closing the open stretch: the oracle sees the current id, the table gets its segment
  have hclose : ((s.fi ++ [s.seg]).map (·.file)).reverse = s.fileId :: (s.fi.map (·.file)).reverse := by
    rw [List.map_append, List.reverse_append]
    exact congrArg (· :: _) (s.seg_file hsm.1)
  cases e with
  | nl => rfl
  | incl f =>
    have hnew : (s.fileId :: (s.fi.map (·.file)).reverse).contains f = false := by
      obtain ⟨hncur, -, hnfi⟩ := (not_mem_used s f).1 ((fresh_incl s f).1 hf).1
      simp [hncur, hnfi]
    rw [lexStep_incl, hclose]
    simp only [cevOf, List.foldl_cons, List.foldl_nil, ridStep, Int.toNat_natCast, hnew, Bool.false_eq_true, if_false]
  | eof =>
    cases hs : s.stack with
    | nil => rw [lexStep_eof_nil s hs]; simp [cevOf, hs]
    | cons top rest => rw [lexStep_eof_cons s top.1 top.2 rest hs, hclose]; simp [cevOf, hs, ridStep]

theorem j5_run (evs : List LexEv) : ∀ s : Lex, Small s → Fresh s evs →
    ((cevsOf s evs).foldl ridStep ((s.fi.map (·.file)).reverse, [])).2 = [] := by
  induction evs with
  | nil => intro s _ _; rfl
  | cons e rest ih =>
    intro s hsm hf
    obtain ⟨hf1, hf2⟩ := (fresh_cons s e rest).1 hf
    rw [cevsOf, List.foldl_append, j5_step s e hsm hf1]
    exact ih _ (small_step s e hsm hf1) hf2

/-- **model_never_reuses_ids** (clause J5 of the oracle, `reusedIds` in NV/C18/Spec.lean).  For EVERY include layout — the lexer events of a
compilation over main file `main`, with the file ids the repaired `program_file_id` allocates (`fresh_idsOf` shows that
they satisfy `Fresh`) — the oracle's scan of the compiler's hook events finds NO opened file whose id a segment written
before already uses: `reusedIds = []`. -/
theorem model_never_reuses_ids (main : Nat) (hm : main < lineMod) (evs : List LexEv)
    (hf : Fresh { fileId := main } evs) : reusedIds (cevsOf { fileId := main } evs) = [] := by
  rw [reusedIds_eq]
  exact congrArg List.reverse (j5_run evs { fileId := main } ⟨hm, fun p hp => nomatch hp⟩ hf)

/-- … in particular for the ids the model of `program_file_id` chooses, whatever is included how often -/
theorem model_never_reuses_ids_N (main : Nat) (evs : List LexEvN)
    (hfit : (lexRunN (initN main) evs).lex.abs < (lineMod : Int))
    (htbl : (lexRunN (initN main) evs).tbl.length < lineMod) :
    reusedIds (cevsOf { fileId := 1 } (idsOf (initN main) evs)) = [] :=
  model_never_reuses_ids 1 (by decide) _ (fresh_idsOf evs (initN main) (inv_init 1 (by decide)) (tinv_init main) hfit htbl)

/-- non-vacuity: header 7 included twice and once more through header 8: ids 2, 3 (a fresh one for the second copy), 4, 5 -/
example :
    let evs : List LexEvN := [.nl, .incl 7, .nl, .eof, .incl 7, .incl 8, .incl 7, .nl, .eof, .eof, .eof, .nl]
    (cevsOf { fileId := 1 } (idsOf (initN 5) evs)).filterMap (fun | .addFile f _ => some f | _ => none) = [2, 3, 4, 5] ∧
    reusedIds (cevsOf { fileId := 1 } (idsOf (initN 5) evs)) = [] ∧
    reusedIds [.fi 1 3, .addFile 2 "t.h", .fi 2 2, .fi 1 1, .addFile 2 "t.h"] = [2] := by
  decide +kernel

end NV.C18
