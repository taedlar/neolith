/-
C18 — the specification oracle rejects what it should reject: positive and NEGATIVE examples per clause (audit):
J1 file / line / program / object / function NAME / order / missing and extra frames / caller line, program, object, file /
report count / clone records; J2 run boundary, wrong file, short answer; J6 segment boundary both ways; J5 id reuse;
J3 changed tables; J4 crash; set-up failure.
-/
import NV.C18.Spec

namespace NV.C18.OracleTests

open NV.C18

def rec0 : Expect :=
  { file := "m.c", lo := 5, hi := 6, program := "m.c", object := "/m",
    trace := [⟨"go", "m.c", "/m", "m.c", 9, 9⟩, ⟨"f1", "m.c", "/m", "m.c", 5, 6⟩] }

def eh0 : EhRec :=
  { caught := 0, error := "boom", file := "m.c", line := 5, program := "m.c", object := "/m",
    trace := [⟨"go", "m.c", "/m", "m.c", 9⟩, ⟨"CATCH", "m.c", "/m", "m.c", 9⟩, ⟨"<function>", "<function>", "/m", "", 0⟩,
              ⟨"f1", "m.c", "/m", "m.c", 6⟩] }


/-! J2 / J5 / J6: events of a program whose main file (id 1) has 3 lines and includes file 2 (2 lines) after line 1;
    4 bytes under absolute line 1, 6 bytes under absolute line 3 (= line 2 of the include) -/
def evs0 : List CEv :=
  [.begin, .addFile 1 "m.c", .fi 1 1, .addFile 2 "inc.h", .sw 1 0 0, .sw 3 4 0, .fi 2 2, .fi 1 2, .sw (-1) 10 0, .fin 10]


/-- every entry must evaluate to `true`; run by `nvdrive C18 selftest` on every check (the oracle uses `String` functions
    the kernel cannot unfold, so these are executable checks, not `decide` proofs) -/
def tests : List Bool := [
  (judgeEv [rec0] [.eh eh0]) == [],
  (judgeEv [rec0] [.eh { eh0 with file := "inc.h" }]) != [],
  (judgeEv [rec0] [.eh { eh0 with line := 7 }]) != [],
  (judgeEv [rec0] [.eh { eh0 with line := 0 }]) != [],
  (judgeEv [rec0] [.eh { eh0 with program := "base.c" }]) != [],
  (judgeEv [rec0] [.eh { eh0 with object := "/other" }]) != [],
  (judgeEv [rec0] [.eh { eh0 with trace := [⟨"set_oid", "m.c", "/m", "m.c", 9⟩, ⟨"f1", "m.c", "/m", "m.c", 6⟩] }]) != [],
  (judgeEv [rec0] [.eh { eh0 with trace := [⟨"f1", "m.c", "/m", "m.c", 6⟩, ⟨"go", "m.c", "/m", "m.c", 9⟩] }]) != [],
  (judgeEv [rec0] [.eh { eh0 with trace := [⟨"f1", "m.c", "/m", "m.c", 6⟩] }]) != [],
  (judgeEv [rec0] [.eh { eh0 with trace := eh0.trace ++ [⟨"f2", "m.c", "/m", "m.c", 6⟩] }]) != [],
  (judgeEv [rec0] [.eh { eh0 with trace := [⟨"go", "m.c", "/m", "m.c", 10⟩, ⟨"f1", "m.c", "/m", "m.c", 6⟩] }]) != [],
  (judgeEv [rec0] [.eh { eh0 with trace := [⟨"go", "base.c", "/m", "m.c", 9⟩, ⟨"f1", "m.c", "/m", "m.c", 6⟩] }]) != [],
  (judgeEv [rec0] [.eh { eh0 with trace := [⟨"go", "m.c", "/m#3", "m.c", 9⟩, ⟨"f1", "m.c", "/m", "m.c", 6⟩] }]) != [],
  (judgeEv [rec0] [.eh { eh0 with trace := [⟨"go", "m.c", "/m", "", 9⟩, ⟨"f1", "m.c", "/m", "m.c", 6⟩] }]) != [],
  (judgeEv [rec0] []) != [],
  (judgeEv [rec0] [.eh eh0, .eh eh0]) != [],
  (objMatch "/m#*" "/m#12" && !objMatch "/m#*" "/m" && !objMatch "/m#*" "/mx#1" && !objMatch "/m" "/m#1"),
  (judgeEv [] [.ev "m.c" evs0, .dec "m.c" [(5, "/m.c:1"), (6, "/inc.h:2")]]) == [],
  (judgeEv [] [.ev "m.c" evs0, .dec "m.c" [(4, "/m.c:1"), (7, "/inc.h:2")]]) != [],
  (judgeEv [] [.ev "m.c" evs0, .dec "m.c" [(5, "/m.c:1"), (6, "/m.c:2")]]) != [],
  (judgeEv [] [.ev "m.c" evs0, .dec "m.c" [(5, "/m.c:1"), (2, "/inc.h:2")]]) != [],
  (judgeEv [] [.ev "m.c" evs0, .tra "m.c" [(2, some (1, 0)), (2, some (2, 1)), (2, some (1, 2)), (2, none)]]) == [],
  (judgeEv [] [.ev "m.c" evs0, .tra "m.c" [(2, some (1, 0)), (1, some (2, 1)), (3, some (1, 1)), (2, none)]]) != [],
  (judgeEv [] [.ev "m.c" evs0, .tra "m.c" [(2, some (1, 0)), (2, some (2, 1)), (1, some (1, 2)), (3, none)]]) != [],
  (judgeEv [] [.ev "m.c" [.begin, .addFile 1 "m.c", .fi 1 1, .addFile 2 "t.h", .fi 2 3, .fi 1 1, .addFile 2 "t.h", .fi 2 3, .fi 1 2, .fin 0]]) != [],
  (judgeEv [] [.tab "m.c" "tab m.c psize=10 li=4:1,6:3", .tab "m.c" "tab m.c psize=10 li=4:1,6:2"]) != [],
  (judgeEv [] [.tab "m.c" "tab m.c psize=10 li=4:1,6:3", .tab "m.c" "tab m.c psize=10 li=4:1,6:3"]) == [],
  (judgeEv [rec0] [.eh eh0, .crash "sanitizer heap-buffer-overflow"]) != [],
  (judgeEv [rec0] [.loadFail] == ["setup load-failed"])]

end NV.C18.OracleTests
