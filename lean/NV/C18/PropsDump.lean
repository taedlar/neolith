/-
C18 — the other two readers of the control stack against the mapping trace (`get_svalue_trace`): the textual trace
`dump_trace` (same frames, same order, one line per frame) and the efun `call_stack ()` (same frames, innermost first).
-/
import NV.C18.LemmasTrace

namespace NV.C18

open NV.Gen.C18

/-- **frame_kinds_exhaustive** (bridging lemma for the regenerated `FRAME_*` constants): the masked frame kind is always
one of the four kinds the `switch` statements of `dump_trace` / `get_svalue_trace` handle, and the four are distinct —
so no frame is silently skipped and no two cases collide. -/
theorem frame_kinds_exhaustive (k : Nat) :
    (k % (frameMask + 1) = frameFunction ∨ k % (frameMask + 1) = frameFunp ∨ k % (frameMask + 1) = frameFake ∨
      k % (frameMask + 1) = frameCatch) ∧
    [frameFunction, frameFunp, frameFake, frameCatch].Nodup := by
  refine ⟨?_, by decide⟩
  -- robust against a renumbering of the FRAME_* constants: decided over the residues, whatever their values
  have hall : ∀ j, j < frameMask + 1 → (j = frameFunction ∨ j = frameFunp ∨ j = frameFake ∨ j = frameCatch) := by decide
  exact hall _ (Nat.mod_lt _ (by decide))

theorem dtHead_isSome (w : World) (e : CsEntry) (r : Regs) : ∃ h, dtHead w e r = some h := by
  unfold dtHead
  rcases (frame_kinds_exhaustive e.kind).1 with h | h | h | h <;> simp only [h] <;> exact ⟨_, rfl⟩

/-- the text of a frame line (total: every frame kind prints a line) -/
def dtText (w : World) (inner : Bool) (e : CsEntry) (r : Regs) : String :=
  ((dtHead w e r).getD "") ++ dtTail w inner e r

theorem dtLine_eq (w : World) (inner : Bool) (e : CsEntry) (r : Regs) :
    dtLine w inner e r = some (dtText w inner e r) := by
  obtain ⟨h, hh⟩ := dtHead_isSome w e r
  simp [dtLine, dtText, hh]

theorem dtLines_cons (w : World) (e e' : CsEntry) (rest : List CsEntry) (cur : Regs) :
    dtLines w (e :: e' :: rest) cur = dtText w false e ⟨e'.prog, e'.ob, e'.pc⟩ :: dtLines w (e' :: rest) cur := by
  rw [dtLines, dtLine_eq]; rfl

theorem dtLines_single (w : World) (e : CsEntry) (cur : Regs) : dtLines w [e] cur = [dtText w true e cur] := by
  rw [dtLines, dtLine_eq]; rfl

/-- `dump_trace` prints one line per frame of the walk of `get_svalue_trace`; only the last one is printed as the
    innermost frame -/
theorem dtLines_get (w : World) (cs : List CsEntry) (cur : Regs) : ∀ (i : Nat) (e : CsEntry) (r : Regs),
    (framesOf cs cur)[i]? = some (e, r) →
      (dtLines w cs cur)[i]? = some (dtText w (decide (i + 1 = cs.length)) e r) := by
  fun_induction framesOf cs cur with
  | case1 cur => intro i e r h; nomatch h
  | case2 e0 cur =>
    intro i e r h
    cases i with
    | succ i => nomatch h
    | zero =>
      obtain ⟨rfl, rfl⟩ := Prod.mk.inj (Option.some.inj h)
      rw [dtLines_single]; rfl
  | case3 e0 e' rest cur ih =>
    intro i e r h
    cases i with
    | zero =>
      obtain ⟨rfl, rfl⟩ := Prod.mk.inj (Option.some.inj h)
      rw [dtLines_cons]; rfl
    | succ i =>
      rw [dtLines_cons, List.getElem?_cons_succ, ih i e r h]
      simp

theorem dtLines_length (w : World) : ∀ (cs : List CsEntry) (cur : Regs), (dtLines w cs cur).length = cs.length
  | [], _ => rfl
  | [e], cur => by rw [dtLines_single]; rfl
  | e :: e' :: rest, cur => by rw [dtLines_cons, List.length_cons, dtLines_length w (e' :: rest) cur]; rfl

/-- when the decoder answers, the location text of `dump_trace` is `/<file>:<line>` with exactly the file and line
    `get_svalue_trace` puts into the mapping for the same frame -/
theorem locText_of_ok (w : World) (r : Regs) (t : Tab) (f : Nat) (l : Int)
    (ht : w.tab? r.prog = some t) (hd : findLine t r.pc = .ok f l) :
    locText w r = s!"/{(fileLine w r).1}:{(fileLine w r).2}" := by
  simp [locText, fileLine, ht, hd]

/-- **dump_trace_matches_svalue_trace**.  For EVERY control stack and register state with a current program, the log
text written by the modelled `dump_trace (0)` and the array built by the modelled `get_svalue_trace (0)` describe the
same frames in the same order: they have the same number of entries (one per control stack element — no frame kind is
skipped), and for every index `i` line `i` is
`<head> at <loc>, in program /<prog> (object <ob>)` where `<head>` is `name()` / `(function)` / `(catch)` for the
frame whose mapping has `"function"` = `name` / `<function>` / `CATCH`, `<prog>` is the mapping's `"program"`, `<ob>` the
mapping's `"object"` (innermost frame: `<none>` when there is no current object), and `<loc>` is `get_line_number` of the
same saved pc (`locText_of_ok`: equal to the mapping's `"file"`:`"line"` whenever the decoder answers).  With
`trace_order` this gives: the log lists the active calls outermost first, innermost last. -/
theorem dump_trace_matches_svalue_trace (w : World) (m : Machine) (hcur : m.cur.prog ≠ "-") :
    (dumpTrace w m).length = (svalueTrace w m).length ∧
    ∀ (i : Nat) (e : CsEntry) (r : Regs), (framesOf m.cs m.cur)[i]? = some (e, r) →
      (svalueTrace w m)[i]? = some ⟨fnOf w e r, r.prog, r.ob, (fileLine w r).1, (fileLine w r).2⟩ ∧
      (dumpTrace w m)[i]? = some (dtText w (decide (i + 1 = (framesOf m.cs m.cur).length)) e r) := by
  unfold dumpTrace svalueTrace
  simp only [hcur, if_false, framesOf_length]
  refine ⟨by rw [dtLines_length, List.length_map, framesOf_length], ?_⟩
  intro i e r h
  exact ⟨by rw [List.getElem?_map, h]; rfl, dtLines_get w _ _ i e r h⟩

/-- the head of a line is determined by the mapping's `"function"` value of the same frame, and the rest of the line by
    its program / object / saved pc: `dtText` spelled out -/
theorem dtText_spec (w : World) (inner : Bool) (e : CsEntry) (r : Regs) :
    dtText w inner e r =
      (if e.kind % (frameMask + 1) = frameFunction then fnOf w e r ++ "()"
       else if e.kind % (frameMask + 1) = frameCatch then "(catch)" else "(function)") ++
      s!"~at~{locText w r},~in~program~/{r.prog}~(object~{dtOb inner (e.kind % (frameMask + 1)) r})" := by
  unfold dtText dtHead dtTail fnOf
  rcases (frame_kinds_exhaustive e.kind).1 with h | h | h | h <;> simp only [h] <;> rfl

/-- the lines of one frame: "arguments:" for FUNCTION / FUNP frames whose count is not the `-1` marker, "local variables:"
    when it also has locals; `hidden` = the frame shows no variables at all -/
def dtaLine (hidden : Bool) (f : Nat × Int × Int) : String :=
  let k := f.1 % (frameMask + 1)
  if (k = frameFunction ∨ k = frameFunp) ∧ hidden = false then
    "F" ++ (if f.2.1 ≠ -1 then "A" else "") ++ (if f.2.2 > 0 ∧ f.2.1 ≠ -1 then "L" else "")
  else "F"

/-- what the specification says about a whole control stack: outer frames are never hidden, the innermost one (the
    last) is hidden exactly when it is a FUNCTION / FUNP frame that is still being set up (`innerUnbuilt`) -/
def dtaSpec (d : Int) : List (Nat × Int × Int) → List String
  | [] => []
  | [f] => [dtaLine (decide (f.2.1 ≠ -1) && innerUnbuilt f.2.1 f.2.2 d) f]
  | f :: g :: rest => dtaLine false f :: dtaSpec d (g :: rest)

/-- the innermost frame is hidden when its variables reach beyond `sp` -/
def hiddenIn (d : Int) (rest : List (Nat × Int × Int)) (f : Nat × Int × Int) : Bool :=
  rest.isEmpty && decide (f.2.1 ≠ -1) && innerUnbuilt f.2.1 f.2.2 d

theorem dtaSpec_cons (d : Int) (f : Nat × Int × Int) (rest : List (Nat × Int × Int)) :
    dtaSpec d (f :: rest) = dtaLine (hiddenIn d rest f) f :: dtaSpec d rest := by
  cases rest <;> simp [dtaSpec, hiddenIn]

theorem hiddenIn_iff (d : Int) (rest : List (Nat × Int × Int)) (k : Nat) (na nl : Int) :
    (rest.isEmpty = true ∧ na ≠ -1 ∧ innerUnbuilt na nl d = true) ↔ hiddenIn d rest (k, na, nl) = true := by
  simp [hiddenIn, and_assoc]

/-- a FUNCTION / FUNP frame: the lines printed with the counter `if hidden then -1 else na` -/
theorem dtaLine_shown (hidden : Bool) (k : Nat) (na nl : Int)
    (hk : k % (frameMask + 1) = frameFunction ∨ k % (frameMask + 1) = frameFunp) :
    dtaLine hidden (k, na, nl) = "F" ++ (if (if hidden = true then -1 else na) ≠ -1 then "A" else "") ++
      (if nl > 0 ∧ (if hidden = true then -1 else na) ≠ -1 then "L" else "") := by
  cases hidden
  · simp [dtaLine, hk]
  · simp [dtaLine]

/-- a FAKE / CATCH frame prints no variables -/
theorem dtaLine_bare (hidden : Bool) (k : Nat) (na nl : Int)
    (hk : ¬ (k % (frameMask + 1) = frameFunction ∨ k % (frameMask + 1) = frameFunp)) :
    dtaLine hidden (k, na, nl) = "F" := by
  simp [dtaLine, hk]

/-- a FUNCTION / FUNP frame overwrites both counters: its lines do not depend on what an earlier frame left -/
theorem dtaGo_shown (d : Int) (k : Nat) (na nl : Int) (rest : List (Nat × Int × Int)) (pa pl : Int)
    (hk : k % (frameMask + 1) = frameFunction ∨ k % (frameMask + 1) = frameFunp) :
    dtaGo d ((k, na, nl) :: rest) (pa, pl) =
      dtaLine (hiddenIn d rest (k, na, nl)) (k, na, nl) ::
        dtaGo d rest (if hiddenIn d rest (k, na, nl) = true then -1 else na, nl) := by
  have h01 : ¬ frameFunp = frameFunction := by decide
  rw [dtaGo, dtaLine_shown _ k na nl hk]
  rcases hk with h | h <;> simp only [h, h01, if_true, if_false, hiddenIn_iff d rest k]

/-- a FAKE / CATCH frame resets `num_arg`, which switches both blocks off: the stale `num_local` is passed on unread -/
theorem dtaGo_bare (d : Int) (k : Nat) (na nl : Int) (rest : List (Nat × Int × Int)) (pa pl : Int)
    (hk : k % (frameMask + 1) = frameFake ∨ k % (frameMask + 1) = frameCatch) :
    dtaGo d ((k, na, nl) :: rest) (pa, pl) = "F" :: dtaGo d rest (-1, pl) := by
  have h02 : ¬ frameFake = frameFunction := by decide
  have h03 : ¬ frameFake = frameFunp := by decide
  have h04 : ¬ frameCatch = frameFunction := by decide
  have h05 : ¬ frameCatch = frameFunp := by decide
  have h06 : ¬ frameCatch = frameFake := by decide
  rw [dtaGo]
  rcases hk with h | h <;>
    simp only [h, h02, h03, h04, h05, h06, if_false, if_true, ne_eq, not_true_eq_false, false_and, and_false, ite_self] <;> rfl

/-- **dump_trace_args_lines**.  With `DUMP_WITH_ARGS | DUMP_WITH_LOCALVARS` every frame line is followed by an
"arguments:" line exactly for FRAME_FUNCTION and FRAME_FUNP frames whose argument count is not the `-1` marker, and
by a "local variables:" line exactly when that frame also has locals — except that the INNERMOST frame shows neither
while it is still being set up (`fp + num_arg + num_local - 1 > sp`, transcribed).  The counters left behind by an
EARLIER frame (they are variables of the whole function; FRAME_CATCH / FRAME_FAKE reset only `num_arg`) never leak into a
later frame's lines, whatever the start values. -/
theorem dump_trace_args_lines (d : Int) : ∀ (fs : List (Nat × Int × Int)) (st : Int × Int),
    dtaGo d fs st = dtaSpec d fs
  | [], _ => rfl
  | (kind, na, nl) :: rest, (pa, pl) => by
    rw [dtaSpec_cons]
    -- FUNCTION, FUNP, and FAKE or CATCH together
    rcases (frame_kinds_exhaustive kind).1 with h | h | hfc
    · rw [dtaGo_shown d kind na nl rest pa pl (.inl h), dump_trace_args_lines d rest]
    · rw [dtaGo_shown d kind na nl rest pa pl (.inr h), dump_trace_args_lines d rest]
    · rw [dtaGo_bare d kind na nl rest pa pl hfc, dump_trace_args_lines d rest,
        dtaLine_bare _ kind na nl (by rcases hfc with h | h <;> rw [h] <;> decide)]

/-- the innermost frame of a stack overflow during frame set-up: `go` (1 argument, 2 locals) has only 1 slot between
    `fp` and `sp` (d = 0): no variables are shown for it; with d = 2 they are -/
example : dtaGo 0 [(frameFunction, 1, 0), (frameFunction, 1, 2)] (-1, -1) = ["FA", "F"] ∧
    dtaGo 2 [(frameFunction, 1, 0), (frameFunction, 1, 2)] (-1, -1) = ["FA", "FAL"] := by decide +kernel

/-- **dump_trace_ret_heart_beat** — the return value of `dump_trace` (used by `fatal` for "in heart beat of").
When the driver itself calls `heart_beat` of object `ob` (outermost frame, opened from an empty control stack while no
object is current) and that function has called on (any frame `e'` whose saved registers are those of the `heart_beat`
frame), `dump_trace` returns the name of `ob`.  (Before the fix it read `p->ob`, the caller's object, and returned 0
here: `NV.C18.heart_beat_ret_before_fix`.) -/
theorem dump_trace_ret_heart_beat (w : World) (idx : Nat) (hbProg hbOb : String) (inner : Regs) (e' : CsEntry)
    (hname : w.fnName hbProg idx = "heart_beat") (hp : inner.prog ≠ "-")
    (he' : e'.prog = hbProg) (hob : e'.ob = hbOb) (hnn : hbOb ≠ "-") :
    dumpTraceRet w { cs := [⟨frameFunction, idx, "-", "-", -1⟩, e'], cur := inner } = hbOb := by
  simp [dumpTraceRet, hp, dtRetGo, frameFunction_masked, he', hob, hname, hnn]

/-- non-vacuity: `go` (slot 2 of m.c) calls `f1` through a function literal inside a catch; four lines, innermost
last; no table is known for these programs, so the location is `?` -/
example :
    let w : World := { fns := [("m.c", ["set_oid", "f1", "go"])] }
    let m : Machine := { cs := [⟨frameFunction, 2, "-", "-", -1⟩, ⟨frameCatch, 0, "m.c", "m", 7⟩, ⟨frameFunp, 0, "m.c", "m", 9⟩,
                                  ⟨frameFunction, 1, "m.c", "m", 30⟩],
                         cur := ⟨"m.c", "m", 44⟩ }
    dumpTrace w m = ["go()~at~?,~in~program~/m.c~(object~m)", "(catch)~at~?,~in~program~/m.c~(object~m)",
                     "(function)~at~?,~in~program~/m.c~(object~m)", "f1()~at~?,~in~program~/m.c~(object~m)"] ∧
    (svalueTrace w m).map (·.fn) = ["go", "CATCH", "<function>", "f1"] ∧
    dumpTraceArgs m [(1, 0), (-1, -1), (1, 0), (1, 2)] 5 = ["FA", "F", "FA", "FAL"] := by
  decide +kernel

theorem callFrames_snoc (cs : List CsEntry) (e : CsEntry) (cur : Regs) :
    callFrames { cs := cs ++ [e], cur := cur } = (e, cur) :: callFrames { cs := cs, cur := ⟨e.prog, e.ob, e.pc⟩ } := by
  simp [callFrames]

/-- the (element, registers) pairs `call_stack` walks are those of `get_svalue_trace`, in the opposite order -/
theorem callFrames_eq_rev (rcs : List CsEntry) : ∀ cur : Regs,
    callFrames { cs := rcs.reverse, cur := cur } = (framesOf rcs.reverse cur).reverse := by
  induction rcs with
  | nil => intro cur; rfl
  | cons e rest ih =>
    intro cur
    rw [List.reverse_cons, callFrames_snoc, framesOf_snoc, ih]
    simp

theorem callFrames_eq (cs : List CsEntry) (cur : Regs) : callFrames { cs := cs, cur := cur } = (framesOf cs cur).reverse := by
  have := callFrames_eq_rev cs.reverse cur
  simpa using this

/-- **call_stack_is_reversed_trace**.  For EVERY control stack and register state with a current program, what the efun
`call_stack` returns — function names (`call_stack (2)`), programs (`call_stack (0)`), objects (`call_stack (1)`) — is, entry
by entry, the `"function"` / `"program"` / `"object"` of the trace `get_svalue_trace` builds for the same state, in the
opposite order: innermost frame FIRST.  (With `trace_order` and `apply_frame_named`: the names are those of the active
calls, also for frames opened through the apply cache.) -/
theorem call_stack_is_reversed_trace (w : World) (m : Machine) (hcur : m.cur.prog ≠ "-") :
    callStackFns w m = ((svalueTrace w m).map (·.fn)).reverse ∧
    callStackProgs m = ((svalueTrace w m).map (fun t => "/" ++ t.prog)).reverse ∧
    callStackObs m = ((svalueTrace w m).map (·.ob)).reverse := by
  have h : callFrames m = (framesOf m.cs m.cur).reverse := callFrames_eq m.cs m.cur
  unfold callStackFns callStackProgs callStackObs svalueTrace
  simp only [hcur, if_false, h, List.map_reverse, List.map_map]
  refine ⟨?_, ?_, ?_⟩ <;> congr 1

/-- non-vacuity: `go` calls `f1` inside a catch; `call_stack (2)` in `f1` = f1, CATCH, go -/
example :
    let w : World := { fns := [("m.c", ["set_oid", "f1", "go"])] }
    let m : Machine := { cs := [⟨frameFunction, 2, "-", "-", -1⟩, ⟨frameCatch, 0, "m.c", "m", 7⟩, ⟨frameFunction, 1, "m.c", "m", 9⟩],
                         cur := ⟨"m.c", "m", 44⟩ }
    callStackFns w m = ["f1", "CATCH", "go"] ∧ callStackProgs m = ["/m.c", "/m.c", "/m.c"] := by
  decide +kernel

end NV.C18
