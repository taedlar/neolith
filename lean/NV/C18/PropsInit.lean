/-
C18 — which line the code generator puts the bytes of a parse node under (`i_generate_node`), in function code and in
the block of global variable initialisers; and the replay of the lines noted for that block by `i_generate___INIT`: it
is an ordinary emission sequence, so the round trip theorem covers the initialiser bytes too.
-/
import NV.C18.Lemmas

namespace NV.C18

open NV.Gen.C18

/-- **node_line_pending** (function code).  After `i_generate_node` has visited a node that carries a line (`expr->line
!= 0`) while function code is generated, `line_being_generated` IS that line — whether the visit called
`switch_to_line` or skipped it because the counter already held the line — for every compiler state.  Since
`switch_to_line` attributes the bytes that are pending to `line_being_generated` (`switchToLine_li`), every byte generated
between this visit and the next one that changes the counter is recorded under the visited node's line; a node without
line (0) leaves the counter alone, its bytes go to the line of the node in front. -/
theorem node_line_pending (st : Enc) (line cur : Int) (h : line ≠ 0) :
    (genNode st line cur aProgram).lineBeing = line ∧
    (genNode st 0 cur aProgram) = st := by
  constructor
  · unfold genNode nodeSwitches
    simp only [aProgram_ne_aInitializer, if_false, h, ne_eq, not_false_eq_true, decide_true, Bool.true_and]
    by_cases hl : line = st.lineBeing
    · simp [hl]
    · simp only [hl, not_false_eq_true, decide_true, if_true]
      exact switchToLine_lineBeing st line cur
  · simp [genNode, nodeSwitches]

/-- **node_line_noted** (initialiser code).  The same for the block of variable initialisers: after the visit
`init_line_being_generated` is the node's line, and when the visit switched, the line has been noted with the current
offset of the block (what `i_generate___INIT` replays, `init_block_roundtrip`). -/
theorem node_line_noted (st : Enc) (line cur : Int) (h : line ≠ 0) :
    (genNode st line cur aInitializer).initLine = line ∧
    (line ≠ st.initLine → (genNode st line cur aInitializer).initRev = (line, cur) :: st.initRev) ∧
    (line = st.initLine → genNode st line cur aInitializer = st) := by
  unfold genNode nodeSwitches switchToLine
  refine ⟨?_, ?_, ?_⟩
  · by_cases hl : line = st.initLine <;> simp [h, hl]
  · intro hl; simp [h, hl]
  · intro hl; simp [hl]

/-- non-vacuity: visiting line 7 twice switches once; a node without line in between does nothing -/
example :
    let r := nodeRun [.visit 7 1 aProgram 1, .visit 0 4 aProgram 1, .visit 7 4 aProgram 3, .visit 9 12 aProgram 1]
    r.2.reverse = [(7, 1, aProgram), (9, 12, aProgram)] ∧ r.1.lineBeing = 9 ∧ r.1.lastSize = 12 := by
  decide

/-- `i_generate___INIT` on an explicit list of noted lines `(line, offset in A_INITIALIZER)`, oldest first -/
def placeNotes (st : Enc) (base : Int) (notes : List (Int × Int)) : Enc :=
  notes.foldl (fun st e => switchToLine st e.1 (base + e.2) aProgram) st

theorem placeInit_eq (st : Enc) (base : Int) : placeInit st base = placeNotes st base st.initRev.reverse := rfl

/-- the noted lines as emissions: line `l` noted at offset `o` covers the bytes up to the next noted offset (the last
    one up to the end of the block, `size`) -/
def initEms : List (Int × Int) → Int → List (Int × Nat)
  | [], _ => []
  | [(l, o)], size => [(l, (size - o).toNat)]
  | (l, o) :: (l', o') :: rest, size => (l, (o' - o).toNat) :: initEms ((l', o') :: rest) size

/-- offsets are noted in generation order and lie inside the block -/
def NotesMono : List (Int × Int) → Int → Prop
  | [], _ => True
  | [(_, o)], size => o ≤ size
  | (_, o) :: (l', o') :: rest, size => o ≤ o' ∧ NotesMono ((l', o') :: rest) size

/-- the replay followed by the closing `switch_to_line (-1)` of `i_generate_final_program` is the run of the encoder
    over the emission sequence `initEms`, started where the block was appended -/
theorem placeNotes_runFrom (base size : Int) : ∀ (notes : List (Int × Int)) (st : Enc) (l0 o0 : Int),
    NotesMono ((l0, o0) :: notes) size →
    switchToLine (placeNotes st base ((l0, o0) :: notes)) (-1) (base + size) aProgram =
      runFrom st (base + o0) (initEms ((l0, o0) :: notes) size) := by
  intro notes
  induction notes with
  | nil =>
    intro st l0 o0 h
    simp only [NotesMono] at h
    simp only [placeNotes, List.foldl_cons, List.foldl_nil, initEms, runFrom, emitStep]
    have : base + o0 + ((size - o0).toNat : Int) = base + size := by omega
    rw [this]
  | cons n rest ih =>
    intro st l0 o0 h
    obtain ⟨l1, o1⟩ := n
    simp only [NotesMono] at h
    have ih' := ih (switchToLine st l0 (base + o0) aProgram) l1 o1 h.2
    simp only [placeNotes, List.foldl_cons, initEms, runFrom, emitStep] at ih' ⊢
    have : base + o0 + ((o1 - o0).toNat : Int) = base + o1 := by omega
    rw [this]
    exact ih'

/-- **init_block_roundtrip**.  Let the compiler be in ANY state `st` when `i_generate___INIT` appends the initialiser
block (`size` bytes) at address `base`, with ANY list of noted lines (first note at offset 0 — the first node of the
block notes its line —, offsets in generation order).  After the replay and the closing `switch_to_line (-1)`:
(1) `line_info` is what was there, the flush of the function code pending in front of the block, and then EXACTLY the
runs the ordinary encoder writes for the emissions "line noted at `o` covers the bytes up to the next noted offset";
(2) for EVERY offset `0 < off ≤ size` into the block, the scan of `find_line` — started behind any such prefix — stops
on a run whose stored line is the low 16 bits of the line noted for byte `off - 1`.  So an error in `mixed g = <expr>;`
is decoded to the initialiser's own line, wherever the block ends up in the program. -/
theorem init_block_roundtrip (st : Enc) (base size : Int) (l0 : Int) (notes : List (Int × Int))
    (hmono : NotesMono ((l0, 0) :: notes) size) :
    let fin := switchToLine (placeNotes st base ((l0, 0) :: notes)) (-1) (base + size) aProgram
    let pre := st.li ++ flush (base - st.lastSize) st.lineBeing
    fin.li = pre ++ encodeEms (initEms ((l0, 0) :: notes) size) ∧
    ∀ off : Int, 0 < off → off ≤ totalBytes (initEms ((l0, 0) :: notes) size) →
      (findRun fin.li (lenSum pre + off)).map (·.line) =
        (specLine (initEms ((l0, 0) :: notes) size) (off - 1).toNat).map u16 := by
  intro fin pre
  have hli : fin.li = pre ++ encodeEms (initEms ((l0, 0) :: notes) size) := by
    show (switchToLine (placeNotes st base ((l0, 0) :: notes)) (-1) (base + size) aProgram).li = _
    rw [placeNotes_runFrom base size notes st l0 0 hmono, runFrom_li]
    simp [pre]
  refine ⟨hli, ?_⟩
  intro off h1 h2
  obtain ⟨l, k, hs, hf⟩ := findRun_encodeEms _ off h1 h2
  rw [hli, findRun_append_out pre _ off h1, hf, hs]
  rfl

/-- non-vacuity: two initialisers, on lines 17 (bytes 0..5 of the block) and 19 (bytes 6..8), appended at address 34
behind function code whose last 4 bytes (line 10) are still pending: offset 34+3 decodes to line 17, 34+7 to 19 -/
example :
    let st : Enc := { lastSize := 30, lineBeing := 10, liRev := [⟨30, 9⟩] }
    let fin := switchToLine (placeNotes st 34 [(17, 0), (19, 6)]) (-1) (34 + 9) aProgram
    NotesMono [(17, 0), (19, 6)] 9 ∧ initEms [(17, 0), (19, 6)] 9 = [(17, 6), (19, 3)] ∧
    fin.li = [⟨30, 9⟩, ⟨4, 10⟩, ⟨6, 17⟩, ⟨3, 19⟩] ∧
    (findRun fin.li 37).map (·.line) = some 17 ∧ (findRun fin.li 41).map (·.line) = some 19 := by
  refine ⟨by simp [NotesMono], ?_⟩
  decide +kernel

end NV.C18
