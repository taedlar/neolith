/-
C18 — (1) which compilation units `epilog()` accepts, and the round trip for EVERY accepted unit (the full statement
behind finding C18-F3: since `epilog()` refuses units of more than 65535 lines, no side condition on the number of
lines or of code bytes is needed); (2) the scan of `A_FILE_INFO` in `program_file_id`, with its start index,
step, entry count (`sizeof` arithmetic) and cast transcribed from the source, equals the abstract test the file-id
model and `file_roundtrip` use.
-/
import NV.C18.PropsCompile

namespace NV.C18

open NV.Gen.C18

/-- the largest `unsigned short` is the last value of the 16 bit line fields -/
theorem ushrtMax_lineMod : ushrtMax + 1 = lineMod := by decide

/-- a unit the line test of `epilog` lets pass has all its absolute lines below 2^16 -/
theorem lines_accepted_fit (base cur : Int) (h : linesRefused base cur = false) : base + cur < (lineMod : Int) := by
  have hm := ushrtMax_lineMod
  unfold linesRefused at h
  have h' := of_decide_eq_false h
  omega

/-- a unit the code test of `epilog` lets pass has less than 2^16 bytes of code (function code + initialisers) -/
theorem code_accepted_fit (p i : Nat) (h : codeRefused p i = false) : p + i < lineMod := by
  have hm := ushrtMax_lineMod
  -- whatever slack the source adds to the two sizes (it is part of the transcribed test), acceptance bounds their sum
  unfold codeRefused at h
  have h' := of_decide_eq_false h
  omega

/-- **compile_roundtrip_accepted** (full statement; closes finding C18-F3).  For EVERY compilation unit that `epilog()`
ACCEPTS — the final lexer counters pass `current_line_base + current_line > USHRT_MAX` and the code size passes the
`Program too large` test, both transcribed from the source — and every code offset of the finished program, `find_line`
returns the file and the line the lexer was reading when the parse node of that byte was created.  No bound on lines,
code bytes, statement sizes, include layout or nesting is assumed; the only hypothesis besides acceptance is that the
program string table has fewer than 2^16 entries (it is indexed by 16 bit file ids; every entry that is a file name costs
at least one line, every other entry at least three bytes of code). -/
theorem compile_roundtrip_accepted (main : Nat) (evs : List LexEvN) (ems : List (Nat × Nat)) (initBytes : Nat)
    (hlines : linesRefused (lexRunN (initN main) evs).lex.base (lexRunN (initN main) evs).lex.curLine = false)
    (hcode : codeRefused ((ems.map (·.2)).sum - initBytes) initBytes = false) (hinit : initBytes ≤ (ems.map (·.2)).sum)
    (htbl : (lexRunN (initN main) evs).tbl.length < lineMod)
    (off : Int) (h1 : 0 < off) (h2 : off ≤ ((ems.map (·.2)).sum : Nat)) :
    ∃ k, coverK ems (off - 1).toNat = some k ∧
      findLine (finalTab main evs ems) off = .ok (posAt main evs k).lex.fileId (posAt main evs k).lex.curLine ∧
      1 ≤ (posAt main evs k).lex.fileId ∧
      (lexRunN (initN main) evs).tbl[(posAt main evs k).lex.fileId - 1]? = some (posAt main evs k).curName := by
  have hfit : (lexRunN (initN main) evs).lex.abs < (lineMod : Int) := lines_accepted_fit _ _ hlines
  have hsize : (ems.map (·.2)).sum < lineMod := by
    have := code_accepted_fit _ _ hcode
    omega
  exact compile_roundtrip main evs ems hfit htbl hsize off h1 h2

/-- non-vacuity of the acceptance tests, relative to the regenerated limit: `USHRT_MAX` lines pass, one more does not
    (wherever the lines are: main file or includes); an empty program passes, `USHRT_MAX` bytes of code do not -/
example : linesRefused 0 ushrtMax = false ∧ linesRefused 40000 ((ushrtMax : Int) - 39999) = true ∧
    codeRefused 0 0 = false ∧ codeRefused ushrtMax 0 = true := by decide

theorem flatFi_cons (s : Seg) (fi : List Seg) : flatFi (s :: fi) = s.count :: s.file :: flatFi fi := by
  simp [flatFi]

theorem flatFi_length (fi : List Seg) : (flatFi fi).length = 2 * fi.length := by
  induction fi with
  | nil => rfl
  | cons s r ih => rw [flatFi_cons, List.length_cons, List.length_cons, List.length_cons, ih]; omega

/-- the scan of `program_file_id` as transcribed: `for (i = 1; i < n; i += 2)` over `unsigned short`s of two bytes,
    each compared with `(unsigned short) file_id` -/
theorem fidScan_agrees : fidScanStart = 1 ∧ fidScanStep = 2 ∧ fidScanIncl = false ∧ fidCastMod = lineMod :=
  ⟨rfl, rfl, rfl, rfl⟩

/-- `current_size / sizeof (unsigned short)` counts the elements of an array of `unsigned short`s -/
theorem fidEntries_elems (len : Nat) : fidEntries (fidElemBytes * len) = len :=
  Nat.mul_div_cancel_left len (by decide : 0 < szUShort)

/-- one entry of the flat array as the transcribed loop looks at it: the entries below `n` at the odd indices are
    compared, as `unsigned short`s -/
theorem scanFlat_cons (n id x : Nat) (xs : List Nat) (i : Nat) :
    scanFlat n id (x :: xs) i =
      ((decide (i < n) && decide (i % 2 = 1) && decide (x = id % lineMod)) || scanFlat n id xs (i + 1)) := by
  obtain ⟨hstart, hstep, hincl, hcast⟩ := fidScan_agrees
  -- the loop starts at index 1 and advances by 2; its test is `i < n`, not `i <= n`
  have hpar : (fidScanStart ≤ i ∧ (i - fidScanStart) % fidScanStep = 0) ↔ i % 2 = 1 := by
    rw [hstart, hstep]; omega
  have hlt : (i < n ∨ fidScanIncl = true ∧ i = n) ↔ i < n := by simp [hincl]
  rw [scanFlat, Bool.and_assoc (decide _) (decide (fidScanStart ≤ i)), ← Bool.decide_and, decide_eq_decide.2 hpar,
    decide_eq_decide.2 hlt, hcast]

/-- the two entries of a segment: the count (even index) is skipped, the file id (odd index) is compared -/
theorem scanFlat_seg (n id : Nat) (hid : id < lineMod) (s : Seg) (xs : List Nat) (k : Nat) (h : 2 * k + 1 < n) :
    scanFlat n id (s.count :: s.file :: xs) (2 * k) = (s.file == id || scanFlat n id xs (2 * (k + 1))) := by
  rw [scanFlat_cons, scanFlat_cons, Nat.mod_eq_of_lt hid, decide_eq_false (by omega : ¬ 2 * k % 2 = 1),
    decide_eq_true (by omega : (2 * k + 1) % 2 = 1), decide_eq_true h, Bool.and_false, Bool.false_and, Bool.false_or,
    Bool.true_and, Bool.true_and]
  rfl

/-- walking the flat array from an even index: only the odd positions (the file ids) are compared -/
theorem scanFlat_even (id : Nat) (hid : id < lineMod) : ∀ (fi : List Seg) (k n : Nat), 2 * k + 2 * fi.length ≤ n →
    scanFlat n id (flatFi fi) (2 * k) = fi.any (fun s => s.file == id) := by
  intro fi
  induction fi with
  | nil => intro k n _; rfl
  | cons s r ih =>
    intro k n h
    rw [List.length_cons] at h
    rw [flatFi_cons, scanFlat_seg n id hid s _ k (by omega), ih (k + 1) n (by omega), List.any_cons]

/-- **file_id_scan_agrees** (bridging lemma for the transcribed scan).  With the start index, step, entry count
(`current_size / sizeof (unsigned short)`, the element size regenerated from the declaration) and cast found in the
source, the scan `program_file_id` performs over `A_FILE_INFO` answers exactly "some segment written so far has this
file id" — for every table and every id below 2^16 — which is the test the file-id model (`fileIdFor`) and the proofs
of `fresh_idsOf` / `file_roundtrip` use.  A scan that looks at fewer entries (`sizeof` of the pointer), starts at the
counts or uses another step does not satisfy this equation. -/
theorem file_id_scan_agrees (fi : List Seg) (id : Nat) (hid : id < lineMod) :
    fileIdInUse fi id = fi.any (fun s => s.file == id) := by
  unfold fileIdInUse
  have hn : fidEntries (fidElemBytes * (flatFi fi).length) = 2 * fi.length := by
    rw [fidEntries_elems, flatFi_length]
  rw [hn]
  have := scanFlat_even id hid fi 0 (2 * fi.length) (by omega)
  simpa using this

/-- the model's choice of a file id in terms of the transcribed scan -/
theorem fileIdFor_uses_scan (fi : List Seg) (tbl : List Nat) (name : Nat) :
    fileIdFor fi tbl name =
      (if fileIdInUse fi (u16 (storeStr tbl name).1) then ((storeStr tbl name).2.length + 1, (storeStr tbl name).2 ++ [name])
       else storeStr tbl name) := by
  rw [file_id_scan_agrees fi _ (u16_lt _)]
  rfl

/-- non-vacuity: segments (3 lines, id 1), (2, id 2), (3, id 1): id 2 is in use, id 3 (a COUNT) is not -/
example : fileIdInUse [⟨3, 1⟩, ⟨2, 2⟩, ⟨3, 1⟩] 2 = true ∧ fileIdInUse [⟨3, 1⟩, ⟨2, 2⟩, ⟨3, 1⟩] 3 = false := by decide

end NV.C18
