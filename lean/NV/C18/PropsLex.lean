/-
C18 — tie of the lexer model to the source: the line arithmetic of `#include` (directive + `handle_include`), of the
include pop in `yylex`, of the final `save_file_info` and of `new_node` is TRANSCRIBED statement by statement from the
C source on every run (`NV.Gen.C18.lexPushGen`, `lexPopGen`, `lexFinalGen`, `nodeLineGen`: assignments applied in source
order).  The obligations below say that the hand-written model `lexStep` / `lexFinish` / `Lex.abs` — about which
`file_roundtrip` and `compile_roundtrip` are proved — computes exactly what the transcribed statements compute, for
every state.  An edited constant, operator, operand or statement order in those C lines changes the generated functions
and breaks these obligations (the check then searches for a failing input through J1/J6/J7).
-/
import NV.C18.LemmasFile

namespace NV.C18

open NV.Gen.C18

/-- `#include`: yylex's `current_line++`, then `handle_include` -/
theorem lex_push_agrees (s : Lex) (f : Nat) :
    let g := lexPushGen s.curLine s.saved s.base s.fileId f
    let t := lexStep s (.incl f)
    t.curLine = g.2.2.2.2.1 ∧ t.saved = g.2.2.2.2.2.1 ∧ t.base = g.2.2.2.2.2.2.1 ∧ (t.fileId : Int) = g.2.2.2.2.2.2.2 ∧
    t.stack = (g.2.2.1, s.fileId) :: s.stack ∧ (s.fileId : Int) = g.2.2.2.1 ∧
    t.fi = s.fi ++ [⟨u16 g.2.1, u16 g.1⟩] :=
  ⟨rfl, rfl, rfl, rfl, rfl, rfl, rfl⟩

/-- end of an included file -/
theorem lex_pop_agrees (s : Lex) (l : Int) (fid : Nat) (rest : List (Int × Nat)) (hs : s.stack = (l, fid) :: rest) :
    let g := lexPopGen s.curLine s.saved s.base s.fileId l fid
    let t := lexStep s .eof
    t.curLine = g.2.2.1 ∧ t.saved = g.2.2.2.1 ∧ t.base = g.2.2.2.2.1 ∧ (t.fileId : Int) = g.2.2.2.2.2 ∧
    t.stack = rest ∧ t.fi = s.fi ++ [⟨u16 g.2.1, u16 g.1⟩] := by
  intro g t
  have ht : t = _ := lexStep_eof_cons s l fid rest hs
  rw [ht]
  exact ⟨rfl, rfl, rfl, rfl, rfl, rfl⟩

/-- `i_generate_final_program` -/
theorem lex_final_agrees (s : Lex) :
    let g := lexFinalGen s.curLine s.saved s.fileId
    (lexFinish s).fi = s.fi ++ [⟨u16 g.2, u16 g.1⟩] := rfl

/-- `new_node`: the absolute line a parse node carries (before the `(short)` cast) -/
theorem node_line_agrees (s : Lex) : s.abs = nodeLineGen s.curLine s.base := rfl

end NV.C18
