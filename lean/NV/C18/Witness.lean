/-
C18 — Lean-checked witnesses: concrete inputs on which the statements WITHOUT their side conditions fail
(`file_roundtrip_Full`, `line_roundtrip_Full`), and what the repaired defects of the driver looked like next to the
repaired behaviour (tables and control stacks dumped from the real driver; the findings are the `fixed:` records of
KNOWN_FINDINGS.jsonl, their inputs are in corpus/C18).  The witness of the bounded scan is in NV/C18/PropsBound.lean.
-/
import NV.C18.Model
import NV.C18.Spec
import NV.C18.Lemmas
import NV.C18.Props

namespace NV.C18

open NV.Gen.C18

/-! ## the repaired defect F4: the same header included twice used to reuse the file id -/

/-- main file (id 1): line 1, `#include` t (id 2, two lines), `#include` t again; stop at line 2 of the second copy -/
def reincP : List LexEv := [.nl, .incl 2, .nl, .eof, .incl 2, .nl]

/-- with the same id for both copies the decoder adds the length of the first copy: line 2 is reported as line 4 -/
theorem reinclude_wrong :
    (lexRun { fileId := 1 } reincP).fileId = 2 ∧ (lexRun { fileId := 1 } reincP).curLine = 2 ∧
    translateAbs (lexRun { fileId := 1 } reincP).abs (lexFinish (lexRun { fileId := 1 } (reincP ++ [.eof, .nl]))).fi
      = some (2, 4) := by decide +kernel

/-- **¬ file_roundtrip_Full**: with a reused file id (what `add_program_file` did before the fix) the id-level
    statement is false; `NV.C18.file_roundtrip` proves that the repaired allocation never reuses an id -/
theorem file_roundtrip_Full_false : ¬ file_roundtrip_Full := by
  intro h
  have := h 1 reincP [.eof, .nl] (by decide) (by decide)
  revert this
  decide +kernel

/-- F4 after the repair: the layout of `reincP` over file names (main file 5, header 7 included twice) with the ids
    `fileIdFor` allocates: the second copy gets id 3 and decodes to its own line 2 -/
theorem reinclude_repaired :
    let p : List LexEvN := [.nl, .incl 7, .nl, .eof, .incl 7, .nl]
    let q : List LexEvN := [.eof, .nl]
    (lexRunN (initN 5) p).curName = 7 ∧
    translateAbs (lexRunN (initN 5) p).lex.abs (lexFinish (lexRunN (initN 5) (p ++ q)).lex).fi = some (3, 2) ∧
    (lexRunN (initN 5) (p ++ q)).tbl = [5, 7, 7] := by decide +kernel

/-! ## F3: the 16 bit width of the absolute line -/

/-- the full statement of `line_roundtrip` (no bound on the lines) -/
def line_roundtrip_Full : Prop :=
  ∀ (ems : List (Int × Nat)) (off : Int), 0 < off → off ≤ totalBytes ems →
    (findRun (runEms ems).li off).map (fun r => (r.line : Int)) = specLine ems (off - 1).toNat

/-- **¬ line_roundtrip_Full**: 3 bytes generated under absolute line 65541 = 2^16 + 5 decode to line 5
(known finding C18-F3; on the real driver: 70 000 blank lines in front of the statement, reported line 4469) -/
theorem line_roundtrip_Full_false : ¬ line_roundtrip_Full := by
  intro h
  have h1 := h [(65541, 3)] 2 (by decide) (by decide)
  revert h1
  decide +kernel

/-- the tables the real driver produced for a statement on line 70 005 (dump of case `b-wide70000`): the segment
count 70 007 is stored as 4471, the line as 4469 -/
def wideTab : Tab := { psize := 11, fi := [⟨4471, 1⟩], li := [⟨1, 0⟩, ⟨4, 4468⟩, ⟨6, 4469⟩], names := [(1, "m.c")] }

theorem wide_wrong : findLine wideTab 10 = .ok 1 4469 := by decide +kernel

/-! ## the repaired defect: `short abs_line` in find_line -/

/-- tables of a statement on line 40 005 (dump of case `b-lines40000`) -/
def signedTab : Tab := { psize := 11, fi := [⟨40007, 1⟩], li := [⟨1, 0⟩, ⟨4, 40004⟩, ⟨6, 40005⟩], names := [(1, "m.c")] }

/-- before the fix the line was read as a signed short: −25 531; the repaired decoder returns 40 005 -/
theorem signed_short_wrong : findLineSigned signedTab 10 = .ok 1 (-25531) ∧ findLine signedTab 10 = .ok 1 40005 := by
  decide +kernel

/-! ## the repaired defect F1: code of variable initialisers had no runs -/

/-- while the initialiser block is generated `switch_to_line` only notes where a new line starts: the tables and the
    bookkeeping of the program block are untouched -/
theorem init_block_only_noted (st : Enc) (l a : Int) :
    (switchToLine st l a aInitializer).liRev = st.liRev ∧ (switchToLine st l a aInitializer).lastSize = st.lastSize ∧
    (switchToLine st l a aInitializer).lineBeing = st.lineBeing := by
  unfold switchToLine
  by_cases h : l = st.initLine <;> simp [h]

/-- replay of the real hook events of `… ⏎ ⏎ ⏎ mixed g_ = 10 / z_; int go() { return 1; }` (case `b-init`, initialiser
    on line 7): the 9 bytes of `__INIT` placed at address 3 get their own run under line 7.  Before the fix the
    table was the single run `12:0` and the error was reported at line 0. -/
theorem init_replay :
    (encRun [.begin, .addFile 1 "m.c", .sw 7 0 20, .init 3 9, .replay 7 3, .fi 1 9, .sw (-1) 12 0, .fin 12]).li
      = [⟨3, 0⟩, ⟨9, 7⟩] := by
  decide +kernel

/-! ## the repaired defect F7: the object name `dump_trace` returns for a heart beat -/

/-- F7, `dump_trace`'s return value BEFORE the fix: the name was taken from `p->ob` (the object register saved in the
    element that opens the `heart_beat` frame = the caller's object), so a heart beat called by the driver gave 0 -/
def dtRetOld (fnOf : String → Nat → String) : List CsEntry → String → String
  | e :: e' :: rest, acc =>
    let acc' := if e.kind % (NV.Gen.C18.frameMask + 1) = NV.Gen.C18.frameFunction ∧ fnOf e'.prog e.tableIndex = "heart_beat"
                then (if e.ob = "-" then "0" else e.ob) else acc
    dtRetOld fnOf (e' :: rest) acc'
  | _, acc => acc

/-- the control stack dumped from the real driver in case `again-hb-2` (first two frames): the driver calls
    `heart_beat` (slot 9 of m.c) of object m, which calls `go`; old code: 0, repaired code: the object's name -/
theorem heart_beat_ret_before_fix :
    let w : World := { fns := [("m.c", ["a", "b", "c", "d", "e", "go", "g", "h", "i", "heart_beat"])] }
    let cs : List CsEntry := [⟨0, 9, "-", "-", -1⟩, ⟨0, 5, "m.c", "m", 83⟩]
    dtRetOld w.fnName cs "0" = "0" ∧ dumpTraceRet w { cs := cs, cur := ⟨"m.c", "m", 141⟩ } = "m" := by
  decide +kernel

end NV.C18
