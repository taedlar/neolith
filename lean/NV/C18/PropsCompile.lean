/-
C18 — the two encoders and the two decoders composed: `find_line` is inverse to the compilation.

A compilation unit is seen by the line-number machinery as
  * the lexer's event sequence `evs` (ordinary lines, `#include`s of any file at any nesting, ends of included files,
    other program-string insertions) — it drives `save_file_info` / `add_program_file`, i.e. the `file_info` table;
  * the code generator's emission sequence `ems`: `(k, n)` = "`n` bytes of code were generated for a parse node that was
    created when the lexer had consumed the first `k` events" — the node carries the absolute line of that moment
    (`new_node`: `current_line_base + current_line`), `switch_to_line` is called with it, the bytes follow.  The
    emissions are in CODE order (functions in the order they were finished, the replayed initialiser block last), so
    `k` is NOT monotone: any interleaving of `save_file_info` calls and `switch_to_line` calls is covered.

`compile_roundtrip`: for every such unit and every code offset, the whole (modelled) decoder chain
`find_line` = scan of `line_info` ∘ `translate_absolute_line` (both passes) ∘ `strings[file_idx - 1]` on the FINISHED
tables returns the file name and the line the lexer was reading when the node was created.
-/
import NV.C18.Props

namespace NV.C18

open NV.Gen.C18

/-- lexer state after the first `k` events -/
def posAt (main : Nat) (evs : List LexEvN) (k : Nat) : LexN := lexRunN (initN main) (evs.take k)

/-- the emission sequence as `switch_to_line` sees it: (absolute line of the node, bytes) -/
def emsOf (main : Nat) (evs : List LexEvN) (ems : List (Nat × Nat)) : List (Int × Nat) :=
  ems.map fun e => ((posAt main evs e.1).lex.abs, e.2)

/-- which emission covers code byte `b` (its lexer position index) -/
def coverK : List (Nat × Nat) → Nat → Option Nat
  | [], _ => none
  | (k, n) :: rest, b => if b < n then some k else coverK rest (b - n)

/-- the tables of the finished program (`epilog`): `program_size` through its `unsigned short`, the `file_info`
    segments incl. the last one written by `i_generate_final_program`, the runs of `line_info` -/
def finalTab (main : Nat) (evs : List LexEvN) (ems : List (Nat × Nat)) : Tab :=
  { psize := u16 (totalBytes (emsOf main evs ems)),
    fi := (lexFinish (lexRunN (initN main) evs).lex).fi,
    li := (runEms (emsOf main evs ems)).li }

theorem totalBytes_emsOf (main : Nat) (evs : List LexEvN) (ems : List (Nat × Nat)) :
    totalBytes (emsOf main evs ems) = (ems.map (·.2)).sum := by
  simp [totalBytes, emsOf, List.map_map, Function.comp_def]

theorem specLine_emsOf (main : Nat) (evs : List LexEvN) (ems : List (Nat × Nat)) : ∀ b : Nat,
    specLine (emsOf main evs ems) b = (coverK ems b).map (fun k => (posAt main evs k).lex.abs) := by
  induction ems with
  | nil => intro b; simp [emsOf, specLine, coverK]
  | cons e rest ih =>
    intro b
    obtain ⟨k, n⟩ := e
    have ih' := ih (b - n)
    simp only [emsOf, List.map_cons, specLine, coverK] at ih' ⊢
    by_cases h : b < n
    · simp [h]
    · simp only [h, if_false]
      exact ih'

/-- **compile_roundtrip** (the decoders are inverse to the encoders, end to end).  Take ANY compilation unit: any
lexer event sequence `evs` over the main file (lines, `#include` of any file at any nesting and any number of times,
ends of included files, other string-table insertions) and ANY emission sequence `ems` in code order, each emission
tagged with the lexer position `k` at which its parse node was created (`k ≥ evs.length`: the end of the unit), so
the `save_file_info` calls and the `switch_to_line` calls interleave arbitrarily.  Let the finished program have the
tables both encoders wrote.  Then for EVERY code offset `0 < off ≤ program size`, `find_line` on those tables — scan of the runs, first and second
pass of `translate_absolute_line` — answers `ok file line` where `line` is the line the lexer was reading at position
`k` of the emission that covers the byte in front of `off`, and the final program string table maps `file` to the
name of the file the lexer was reading then.  Size conditions only: fewer than 2^16 absolute lines, program strings
and code bytes (all three 16 bit in the C declarations, `widths_agree`). -/
theorem compile_roundtrip (main : Nat) (evs : List LexEvN) (ems : List (Nat × Nat))
    (hfit : (lexRunN (initN main) evs).lex.abs < (lineMod : Int))
    (htbl : (lexRunN (initN main) evs).tbl.length < lineMod)
    (hsize : (ems.map (·.2)).sum < lineMod)
    (off : Int) (h1 : 0 < off) (h2 : off ≤ ((ems.map (·.2)).sum : Nat)) :
    ∃ k, coverK ems (off - 1).toNat = some k ∧
      findLine (finalTab main evs ems) off = .ok (posAt main evs k).lex.fileId (posAt main evs k).lex.curLine ∧
      1 ≤ (posAt main evs k).lex.fileId ∧
      (lexRunN (initN main) evs).tbl[(posAt main evs k).lex.fileId - 1]? = some (posAt main evs k).curName := by
  have htot := totalBytes_emsOf main evs ems
  -- the scan of line_info stops on a run that carries the low 16 bits of the absolute line of the covering node …
  obtain ⟨l, n, hs, hf⟩ := findRun_encodeEms (emsOf main evs ems) off h1 (by rw [htot]; exact h2)
  rw [specLine_emsOf] at hs
  rw [← runEms_li] at hf
  obtain ⟨k, hk, rfl⟩ := Option.map_eq_some_iff.1 hs
  have hevs : evs.take k ++ evs.drop k = evs := List.take_append_drop k evs
  -- translate_absolute_line on the position of the node
  have hfr := file_roundtrip main (evs.take k) (evs.drop k) (by rw [hevs]; exact hfit) (by rw [hevs]; exact htbl)
  rw [hevs] at hfr
  obtain ⟨htr, hid, hname⟩ := hfr
  refine ⟨k, hk, ?_, hid, hname⟩
  -- … which fits 16 bits
  have hpos : 1 ≤ (posAt main evs k).lex.abs := abs_pos main (evs.take k)
  have hle : (posAt main evs k).lex.abs ≤ (lexRunN (initN main) evs).lex.abs := by
    have h := abs_mono main (evs.take k) (evs.drop k)
    rwa [hevs] at h
  have hu : ((u16 (posAt main evs k).lex.abs : Nat) : Int) = (posAt main evs k).lex.abs :=
    u16_id _ (by omega) (by omega)
  refine findLine_ok (finalTab main evs ems) off _ _ _ rfl ?_ hf ?_
  · show off ≤ (u16 (totalBytes (emsOf main evs ems)) : Nat)
    rw [htot, u16_nat _ hsize]; exact h2
  · show translateAbs (u16 _ : Nat) (lexFinish (lexRunN (initN main) evs).lex).fi = _
    rw [hu]; exact htr

/-- non-vacuity: main file 5 = 2 lines, `#include` 7 (2 lines, the function `f` is defined there), 1 more line with the
function `g`; code order is `f` (node created at position 3 = line 1 of the header) then `g` (position 6 = line 4 of the
main file); 300 and 4 bytes.  Offset 256 (second run of `f`) decodes to
(header, line 1), offset 301 to (main file, line 4) -/
example :
    let evs : List LexEvN := [.nl, .nl, .incl 7, .nl, .nl, .eof, .nl]
    let ems : List (Nat × Nat) := [(3, 300), (6, 4)]
    (finalTab 5 evs ems).fi = [⟨3, 1⟩, ⟨3, 2⟩, ⟨2, 1⟩] ∧
    coverK ems 255 = some 3 ∧ (posAt 5 evs 3).curName = 7 ∧ (posAt 5 evs 3).lex.curLine = 1 ∧
    coverK ems 300 = some 6 ∧ (posAt 5 evs 6).curName = 5 ∧ (posAt 5 evs 6).lex.curLine = 4 := by
  decide +kernel

/-! ## the global include file (`CONFIG_STR (__GLOBAL_INCLUDE_FILE__)` in `start_new_file`, option `GlobalInclude`) -/

/-- the lexer state after `start_new_file` has pushed the configured global include file `g` in front of the main
file: `handle_include (gi_file, 1)` runs with `current_line = 1` and WITHOUT the `current_line++` of an `#include`
directive (no newline has been consumed), so the include stack holds line 1 and the main file's first segment has
ZERO lines -/
def globalStart (main g : Nat) : Lex :=
  { curLine := 1, base := 0, saved := 0, fileId := g, stack := [(1, main)], fi := [⟨0, u16 main⟩] }

theorem inv_globalStart (main g : Nat) (hm : main < lineMod) (hg : g < lineMod) (hne : g ≠ main) :
    Inv (globalStart main g) where
  hT := by simp [globalStart, segTotal]
  -- the one segment written so far is the main file's, not `g`'s
  hC := by simp [globalStart, segOf, u16_nat main hm, Ne.symm hne]
  hpos := Int.zero_lt_one
  hsv := Int.le_refl 0
  -- the main file waits on the stack at line 1 with a segment of 0 lines
  hstk := by simp [globalStart, segOf, u16_nat main hm]
  hnot := by simp [globalStart, hne]
  hnd := by simp [globalStart]
  hid := hg
  hids := by simp [globalStart, hm]

/-- **file_roundtrip_global_include**.  With a global include file `g` pushed in front of the main file (the
`GlobalInclude` option: every compilation unit then starts INSIDE `g`, the main file resumes at its line 1 when `g`
ends), for ANY further event sequence `p ++ q` (lines, `#include`s of files not used before at any nesting, ends of
files — the first unmatched one ends `g`) and ANY prefix `p`: the absolute line of the lexer position decodes against
the final `file_info` to (current file, current line) — in particular lines of the main file are not shifted by the
global include and the zero-length first segment is skipped correctly.  Fewer than 2^16 absolute lines. -/
theorem file_roundtrip_global_include (main g : Nat) (hm : main < lineMod) (hg : g < lineMod) (hne : g ≠ main)
    (p q : List LexEv) (hfresh : Fresh (globalStart main g) (p ++ q))
    (hfit : (lexRun (globalStart main g) (p ++ q)).abs < (lineMod : Int)) :
    translateAbs (lexRun (globalStart main g) p).abs (lexFinish (lexRun (globalStart main g) (p ++ q))).fi
      = some ((lexRun (globalStart main g) p).fileId, (lexRun (globalStart main g) p).curLine) :=
  roundtrip_split _ (inv_globalStart main g hm hg hne) p q ((fresh_append p _ q).1 hfresh).1 hfit

/-- non-vacuity: global include 2 (3 lines), main file 1: line 1, `#include` 3 on line 2 (2 lines), 2 more lines.
Main line 1 is absolute line 4 and decodes to (1, 1); the header's line 2 to (3, 2); main line 4 to (1, 4) -/
example :
    let evs : List LexEv := [.nl, .nl, .eof, .nl, .incl 3, .nl, .eof, .nl, .nl]
    (lexFinish (lexRun (globalStart 1 2) evs)).fi = [⟨0, 1⟩, ⟨3, 2⟩, ⟨2, 1⟩, ⟨2, 3⟩, ⟨3, 1⟩] ∧
    (lexRun (globalStart 1 2) (evs.take 3)).abs = 4 ∧
    translateAbs 4 (lexFinish (lexRun (globalStart 1 2) evs)).fi = some (1, 1) ∧
    translateAbs (lexRun (globalStart 1 2) (evs.take 6)).abs (lexFinish (lexRun (globalStart 1 2) evs)).fi = some (3, 2) ∧
    translateAbs (lexRun (globalStart 1 2) (evs.take 8)).abs (lexFinish (lexRun (globalStart 1 2) evs)).fi = some (1, 4) := by
  decide +kernel

end NV.C18
