/-
C18 — `file_info`: the lexer bookkeeping across `#include` against `translate_absolute_line`.

The decoder finds the segment an absolute line falls into and continues the earlier segments of the same file
(`translateAbs_at`).  On the encoder side the lexer always has one stretch of the current file open; `Lex.seg` is
the segment that closes it, written by an `#include`, by the end of an included file and by the final
`save_file_info`; every other step stays inside the stretch (`Stays`, `lexStep_seg`).  `Inv` relates the counters to
the table written so far; it is kept by every step (`inv_step`) and makes the position of the lexer decode to
(current file, current line) against the FINAL table (`roundtrip_from`, `roundtrip_split`).
-/
import NV.C18.Model

namespace NV.C18

/-- total number of absolute lines covered by a table -/
def segTotal (F : List Seg) : Int := (F.map (fun s => (s.count : Int))).sum
/-- lines of file `f` covered by a table -/
def segOf (F : List Seg) (f : Nat) : Int := ((F.filter (fun s => s.file = f)).map (fun s => (s.count : Int))).sum

theorem segTotal_cons (s : Seg) (F : List Seg) : segTotal (s :: F) = s.count + segTotal F := by
  simp [segTotal]

theorem segOf_cons (s : Seg) (F : List Seg) (f : Nat) :
    segOf (s :: F) f = (if s.file = f then (s.count : Int) else 0) + segOf F f := by
  by_cases h : s.file = f <;> simp [segOf, h]

theorem segTotal_append (F G : List Seg) : segTotal (F ++ G) = segTotal F + segTotal G := by
  simp [segTotal, List.sum_append]

theorem segOf_append (F G : List Seg) (f : Nat) : segOf (F ++ G) f = segOf F f + segOf G f := by
  simp [segOf, List.sum_append]

theorem segTotal_single (s : Seg) : segTotal [s] = s.count := by simp [segTotal]

theorem segOf_single (s : Seg) (f : Nat) : segOf [s] f = if s.file = f then (s.count : Int) else 0 := by
  rw [segOf_cons]; simp [segOf]

theorem segTotal_nonneg (F : List Seg) : 0 ≤ segTotal F := by
  induction F with
  | nil => simp [segTotal]
  | cons a r ih => rw [segTotal_cons]; omega

theorem segOf_nonneg (F : List Seg) (f : Nat) : 0 ≤ segOf F f := segTotal_nonneg (F.filter fun s => s.file = f)

theorem segOf_not_mem (F : List Seg) (f : Nat) (h : f ∉ F.map (·.file)) : segOf F f = 0 := by
  rw [segOf, List.filter_eq_nil_iff.2 fun s hs e => h (List.mem_map.2 ⟨s, hs, of_decide_eq_true e⟩)]
  rfl

/-- the first pass of `translate_absolute_line` goes on exactly while MORE lines are left than the segment has
    (guard transcribed from the source: `NV.Gen.C18.pass1Continues`) -/
theorem pass1Continues_iff (t : Int) (c : Nat) : NV.Gen.C18.pass1Continues t c = true ↔ t > (c : Int) := by
  simp [NV.Gen.C18.pass1Continues]

theorem pass1_cons_stop (s : Seg) (rest : List Seg) (t : Int) (P : List Seg) (h : ¬ t > (s.count : Int)) :
    pass1 (s :: rest) t P = some (P, t, s.file) := by
  simp only [pass1, pass1Continues_iff, h, if_false]

theorem pass1_cons_go (s b : Seg) (rest : List Seg) (t : Int) (P : List Seg) (h : t > (s.count : Int)) :
    pass1 (s :: b :: rest) t P = pass1 (b :: rest) (t - s.count) (P ++ [s]) := by
  simp only [pass1, pass1Continues_iff, h, if_true]

/-- more lines are left than the LAST segment has: `if (p1 >= end) return -1;` -/
theorem pass1_cons_end (s : Seg) (t : Int) (P : List Seg) (h : t > (s.count : Int)) : pass1 [s] t P = none := by
  simp only [pass1, pass1Continues_iff, h, if_true]

theorem pass1_skip (F : List Seg) : ∀ (s : Seg) (rest : List Seg) (t : Int) (P : List Seg), t > segTotal F →
    pass1 (F ++ s :: rest) t P = pass1 (s :: rest) (t - segTotal F) (P ++ F) := by
  induction F with
  | nil => intro s rest t P _; simp [segTotal]
  | cons a F ih =>
    intro s rest t P h
    have hnn := segTotal_nonneg F
    rw [segTotal_cons] at h ⊢
    obtain ⟨b, l, hl⟩ : ∃ b l, F ++ s :: rest = b :: l := by cases F <;> exact ⟨_, _, rfl⟩
    rw [List.cons_append, hl, pass1_cons_go a b l t P (by omega), ← hl, ih s rest _ _ (by omega),
      List.append_assoc, List.singleton_append, Int.sub_sub]

/-- bridging lemma for the second pass as transcribed from the source: a segment in front of the one found counts
    exactly when it belongs to the same file, it is ADDED, and the loop visits the segments in front (`p2 < p1`) -/
theorem pass2_agrees (a b : Nat) :
    (NV.Gen.C18.pass2Adds a b = true ↔ a = b) ∧ NV.Gen.C18.pass2Sign = 1 ∧ NV.Gen.C18.pass2LoopOp = "<" := by
  refine ⟨by simp [NV.Gen.C18.pass2Adds], rfl, by decide⟩

theorem pass2_eq (P : List Seg) (f : Nat) : ∀ t : Int, pass2 P f t = t + segOf P f := by
  induction P with
  | nil => intro t; simp [pass2, segOf]
  | cons a r ih =>
    intro t
    have h := ih (if a.file = f then t + a.count else t)
    simp only [pass2, List.foldl_cons, (pass2_agrees a.file f).1, (pass2_agrees 0 0).2.1, Int.one_mul] at h ⊢
    rw [h, segOf_cons]
    split <;> omega

/-- an absolute line that falls into segment `s` decodes to file `s.file`, continuing the earlier segments of
    that file -/
theorem translateAbs_at (F : List Seg) (s : Seg) (rest : List Seg) (abs : Int)
    (h1 : segTotal F < abs) (h2 : abs ≤ segTotal F + s.count) :
    translateAbs abs (F ++ s :: rest) = some (s.file, abs - segTotal F + segOf F s.file) := by
  unfold translateAbs
  rw [pass1_skip F s rest abs [] h1, pass1_cons_stop s rest _ _ (by omega)]
  simp only [List.nil_append]
  rw [pass2_eq]

theorem u16_id (n : Int) (h0 : 0 ≤ n) (h1 : n < (lineMod : Int)) : ((u16 n : Nat) : Int) = n := by
  unfold u16
  rw [Int.emod_eq_of_lt h0 h1]
  omega

theorem u16_lt (n : Int) : u16 n < lineMod := by
  have h := Int.emod_lt_of_pos n (show (0 : Int) < (lineMod : Int) by decide)
  have := Int.emod_nonneg n (show (lineMod : Int) ≠ 0 by decide)
  unfold u16
  omega

theorem u16_nat (n : Nat) (h1 : n < lineMod) : u16 (n : Int) = n := by
  have := u16_id (n : Int) (by omega) (by omega)
  omega

/-- the segment `save_file_info (current_file_id, current_line - current_line_saved)` writes in state `s`: the open
    stretch of the current file -/
def Lex.seg (s : Lex) : Seg := ⟨u16 (s.curLine - s.saved), u16 s.fileId⟩

theorem Lex.seg_file (s : Lex) (h : s.fileId < lineMod) : s.seg.file = s.fileId := u16_nat _ h

/-- file ids the compilation has used so far -/
def used (s : Lex) : List Nat := s.fileId :: (s.stack.map (·.2) ++ s.fi.map (·.file))

theorem not_mem_used (s : Lex) (f : Nat) :
    f ∉ used s ↔ f ≠ s.fileId ∧ f ∉ s.stack.map (·.2) ∧ f ∉ s.fi.map (·.file) := by
  simp only [used, List.mem_cons, List.mem_append, not_or, ne_eq]

/-- every `#include` opens a file that was not used before in this compilation (and whose id fits 16 bits) -/
def Fresh : Lex → List LexEv → Prop
  | _, [] => True
  | s, .incl f :: rest => f ∉ used s ∧ f < lineMod ∧ Fresh (lexStep s (.incl f)) rest
  | s, .nl :: rest => Fresh (lexStep s .nl) rest
  | s, .eof :: rest => Fresh (lexStep s .eof) rest

/-- of a single event `Fresh` constrains an `#include` only -/
theorem fresh_incl (s : Lex) (f : Nat) : Fresh s [.incl f] ↔ f ∉ used s ∧ f < lineMod :=
  ⟨fun ⟨hu, hl, _⟩ => ⟨hu, hl⟩, fun ⟨hu, hl⟩ => ⟨hu, hl, trivial⟩⟩

theorem fresh_nl (s : Lex) : Fresh s [.nl] := trivial

theorem fresh_eof (s : Lex) : Fresh s [.eof] := trivial

theorem lexStep_incl (s : Lex) (f : Nat) :
    lexStep s (.incl f) =
      { curLine := 1, base := s.base + s.curLine, saved := 0, fileId := f,
        stack := (s.curLine + 1, s.fileId) :: s.stack, fi := s.fi ++ [s.seg] } := by
  simp [lexStep, Lex.save, Lex.seg]

theorem lexStep_eof_nil (s : Lex) (h : s.stack = []) : lexStep s .eof = s := by
  simp [lexStep, h]

theorem lexStep_eof_cons (s : Lex) (l : Int) (fid : Nat) (rest : List (Int × Nat)) (h : s.stack = (l, fid) :: rest) :
    lexStep s .eof =
      { curLine := l, base := s.base + (s.curLine - (l - 1)), saved := l - 1, fileId := fid,
        stack := rest, fi := s.fi ++ [s.seg] } := by
  simp [lexStep, h, Lex.save, Lex.seg]

theorem lexFinish_fi (s : Lex) : (lexFinish s).fi = s.fi ++ [s.seg] := rfl

/-- step `e` goes on inside the open stretch of `s`: nothing is written, file and start of the stretch stay, the line
    does not go back, and no file is opened -/
structure Stays (s : Lex) (e : LexEv) : Prop where
  fi : (lexStep s e).fi = s.fi
  fileId : (lexStep s e).fileId = s.fileId
  saved : (lexStep s e).saved = s.saved
  curLine : s.curLine ≤ (lexStep s e).curLine
  fresh : Fresh s [e]

/-- a step either goes on inside the open stretch or closes it with its segment -/
theorem lexStep_seg (s : Lex) (e : LexEv) : Stays s e ∨ (lexStep s e).fi = s.fi ++ [s.seg] := by
  cases e with
  | nl => exact .inl ⟨rfl, rfl, rfl, Int.le_add_one (Int.le_refl _), fresh_nl s⟩
  | incl f => exact .inr (by rw [lexStep_incl])
  | eof =>
    cases hs : s.stack with
    | nil =>
      have h := lexStep_eof_nil s hs
      exact .inl ⟨congrArg Lex.fi h, congrArg Lex.fileId h, congrArg Lex.saved h,
        Int.le_of_eq (congrArg Lex.curLine h).symm, fresh_eof s⟩
    | cons top rest => rw [lexStep_eof_cons s top.1 top.2 rest hs]; exact .inr rfl

theorem abs_step (s : Lex) (e : LexEv) : s.abs ≤ (lexStep s e).abs := by
  cases e with
  | nl => simp only [lexStep, Lex.abs]; omega
  | incl f => simp only [lexStep_incl, Lex.abs]; omega
  | eof =>
    cases hs : s.stack with
    | nil => rw [lexStep_eof_nil s hs]; exact Int.le_refl _
    | cons top rest => simp only [lexStep_eof_cons s top.1 top.2 rest hs, Lex.abs]; omega

theorem abs_run (evs : List LexEv) (s : Lex) : s.abs ≤ (lexRun s evs).abs :=
  List.foldlRecOn evs lexStep (Int.le_refl _) fun t h e _ => Int.le_trans h (abs_step t e)

theorem fi_run (evs : List LexEv) : ∀ s : Lex, ∃ X, (lexFinish (lexRun s evs)).fi = s.fi ++ X := by
  induction evs with
  | nil => intro s; exact ⟨_, lexFinish_fi s⟩
  | cons e rest ih =>
    intro s
    obtain ⟨Y, hY⟩ := ih (lexStep s e)
    rcases lexStep_seg s e with h | h
    · exact ⟨Y, by rw [← h.fi]; exact hY⟩
    · exact ⟨s.seg :: Y, by rw [List.append_cons, ← h]; exact hY⟩

/-- all ids in play fit 16 bits -/
def Small (s : Lex) : Prop := s.fileId < lineMod ∧ ∀ p ∈ s.stack, p.2 < lineMod

theorem small_step (s : Lex) (e : LexEv) (hsm : Small s) (hf : Fresh s [e]) : Small (lexStep s e) := by
  cases e with
  | nl => exact hsm
  | incl f =>
    rw [lexStep_incl]
    refine ⟨((fresh_incl s f).1 hf).2, fun p hp => ?_⟩
    rcases List.mem_cons.1 hp with rfl | hp
    · exact hsm.1
    · exact hsm.2 p hp
  | eof =>
    cases hs : s.stack with
    | nil => rw [lexStep_eof_nil s hs]; exact hsm
    | cons top rest =>
      rw [lexStep_eof_cons s top.1 top.2 rest hs]
      exact ⟨hsm.2 top (hs ▸ List.mem_cons_self), fun p hp => hsm.2 p (hs ▸ List.mem_cons_of_mem _ hp)⟩

/-- invariant of the lexer counters with respect to the table written so far: the table covers the absolute lines in
    front of the open stretch (`hT`) and, of the current file, the `saved` lines in front of it (`hC`); the open stretch
    has at least one line (`hpos`); of a file waiting on the include stack with resumption line `l` the table covers the
    `l - 1` lines up to and including its `#include` (`hstk`); no file is open twice (`hnot`, `hnd`); the ids in play
    fit 16 bits (`hid`, `hids`, i.e. `Small`) -/
structure Inv (s : Lex) : Prop where
  hT : s.base + s.saved = segTotal s.fi
  hC : s.saved = segOf s.fi s.fileId
  hpos : s.saved < s.curLine
  hsv : 0 ≤ s.saved
  hstk : ∀ p ∈ s.stack, segOf s.fi p.2 = p.1 - 1
  hnot : s.fileId ∉ s.stack.map (·.2)
  hnd : (s.stack.map (·.2)).Nodup
  hid : s.fileId < lineMod
  hids : ∀ p ∈ s.stack, p.2 < lineMod

theorem Inv.small {s : Lex} (hi : Inv s) : Small s := ⟨hi.hid, hi.hids⟩

theorem inv_init (f : Nat) (hf : f < lineMod) : Inv { fileId := f } where
  hT := rfl
  hC := rfl
  hpos := Int.zero_lt_one
  hsv := Int.le_refl 0
  hstk := by simp
  hnot := by simp
  hnd := by simp
  hid := hf
  hids := by simp

/-- while the absolute line fits 16 bits the segment of the open stretch is stored exactly -/
theorem seg_exact (s : Lex) (hi : Inv s) (hb : s.abs < (lineMod : Int)) :
    s.seg.file = s.fileId ∧ (s.seg.count : Int) = s.curLine - s.saved := by
  have := segTotal_nonneg s.fi
  have := hi.hT
  have := hi.hpos
  rw [Lex.abs] at hb
  exact ⟨s.seg_file hi.hid, u16_id _ (by omega) (by omega)⟩

/-- closing the open stretch makes the table cover the absolute lines up to the current one … -/
theorem segTotal_close (s : Lex) (hi : Inv s) (hb : s.abs < (lineMod : Int)) :
    segTotal (s.fi ++ [s.seg]) = s.abs := by
  have := hi.hT
  rw [segTotal_append, segTotal_single, (seg_exact s hi hb).2, Lex.abs]
  omega

/-- … and the lines of the current file up to the current one; the other files keep what they had -/
theorem segOf_close (s : Lex) (hi : Inv s) (hb : s.abs < (lineMod : Int)) (g : Nat) :
    segOf (s.fi ++ [s.seg]) g = if s.fileId = g then s.curLine else segOf s.fi g := by
  have := hi.hC
  rw [segOf_append, segOf_single, (seg_exact s hi hb).1, (seg_exact s hi hb).2]
  split
  · subst g; omega
  · exact Int.add_zero _

/-- a file on the include stack is not the current one: closing the open stretch does not touch its count -/
theorem segOf_close_stack (s : Lex) (hi : Inv s) (hb : s.abs < (lineMod : Int)) (p : Int × Nat) (hp : p ∈ s.stack) :
    segOf (s.fi ++ [s.seg]) p.2 = p.1 - 1 := by
  rw [segOf_close s hi hb, if_neg (fun e : s.fileId = p.2 => hi.hnot (e ▸ List.mem_map_of_mem hp)), hi.hstk p hp]

theorem inv_incl (s : Lex) (f : Nat) (hi : Inv s) (hb : s.abs < (lineMod : Int)) (hf : Fresh s [.incl f]) :
    Inv (lexStep s (.incl f)) := by
  have hsm := small_step s (.incl f) hi.small hf
  obtain ⟨hncur, hnstk, hnfi⟩ := (not_mem_used s f).1 ((fresh_incl s f).1 hf).1
  rw [lexStep_incl] at hsm ⊢
  exact {
    hT := by
      show s.base + s.curLine + 0 = segTotal (s.fi ++ [s.seg])
      rw [segTotal_close s hi hb]; exact Int.add_zero _
    hC := by
      show 0 = segOf (s.fi ++ [s.seg]) f
      rw [segOf_close s hi hb, if_neg (fun e => hncur e.symm), segOf_not_mem s.fi f hnfi]
    hpos := by show (0 : Int) < 1; decide
    hsv := Int.le_refl _
    hstk := by
      intro p hp
      rcases List.mem_cons.1 hp with rfl | hp
      · show segOf (s.fi ++ [s.seg]) s.fileId = s.curLine + 1 - 1
        rw [segOf_close s hi hb, if_pos rfl, Int.add_sub_cancel]
      · exact segOf_close_stack s hi hb p hp
    hnot := by simpa only [List.map_cons, List.mem_cons, not_or] using ⟨hncur, hnstk⟩
    hnd := by simpa only [List.map_cons, List.nodup_cons] using ⟨hi.hnot, hi.hnd⟩
    hid := hsm.1
    hids := hsm.2 }

theorem inv_eof (s : Lex) (l : Int) (fid : Nat) (rest : List (Int × Nat)) (hs : s.stack = (l, fid) :: rest)
    (hi : Inv s) (hb : s.abs < (lineMod : Int)) : Inv (lexStep s .eof) := by
  have hmem : ∀ p ∈ rest, p ∈ s.stack := fun p hp => hs ▸ List.mem_cons_of_mem _ hp
  have hl : segOf s.fi fid = l - 1 := hi.hstk (l, fid) (hs ▸ List.mem_cons_self)
  have hnot := hi.hnot
  have hnd := hi.hnd
  have hsm := small_step s .eof hi.small (fresh_eof s)
  rw [hs, List.map_cons] at hnot hnd
  rw [lexStep_eof_cons s l fid rest hs] at hsm ⊢
  exact {
    hT := by
      show s.base + (s.curLine - (l - 1)) + (l - 1) = segTotal (s.fi ++ [s.seg])
      rw [segTotal_close s hi hb, Int.add_assoc, Int.sub_add_cancel]; rfl
    hC := by
      show l - 1 = segOf (s.fi ++ [s.seg]) fid
      rw [segOf_close s hi hb, if_neg (fun e : s.fileId = fid => hnot (e ▸ List.mem_cons_self)), hl]
    hpos := Int.sub_lt_self l (by decide)
    hsv := hl ▸ segOf_nonneg s.fi fid
    hstk := fun p hp => segOf_close_stack s hi hb p (hmem p hp)
    hnot := (List.nodup_cons.1 hnd).1
    hnd := (List.nodup_cons.1 hnd).2
    hid := hsm.1
    hids := hsm.2 }

theorem inv_step (s : Lex) (e : LexEv) (hi : Inv s) (hb : s.abs < (lineMod : Int))
    (hf : Fresh s [e]) : Inv (lexStep s e) := by
  cases e with
  | nl => exact { hi with hpos := Int.lt_trans hi.hpos (Int.lt_succ s.curLine) }
  | incl f => exact inv_incl s f hi hb hf
  | eof =>
    cases hs : s.stack with
    | nil => rw [lexStep_eof_nil s hs]; exact hi
    | cons top rest => exact inv_eof s top.1 top.2 rest hs hi hb

theorem lexRun_append (s : Lex) (a b : List LexEv) : lexRun s (a ++ b) = lexRun (lexRun s a) b := by
  simp [lexRun, List.foldl_append]

theorem fresh_append (p : List LexEv) : ∀ (s : Lex) (q : List LexEv),
    Fresh s (p ++ q) ↔ Fresh s p ∧ Fresh (lexRun s p) q := by
  induction p with
  | nil => intro s q; exact ⟨fun h => ⟨trivial, h⟩, fun h => h.2⟩
  | cons e rest ih =>
    intro s q
    cases e with
    | nl => exact ih (lexStep s .nl) q
    | eof => exact ih (lexStep s .eof) q
    | incl f =>
      show (f ∉ used s ∧ f < lineMod ∧ Fresh _ (rest ++ q)) ↔ (f ∉ used s ∧ f < lineMod ∧ Fresh _ rest) ∧ _
      rw [ih, and_assoc, and_assoc]
      rfl

theorem fresh_cons (s : Lex) (e : LexEv) (rest : List LexEv) :
    Fresh s (e :: rest) ↔ Fresh s [e] ∧ Fresh (lexStep s e) rest := fresh_append [e] s rest

theorem inv_run (evs : List LexEv) : ∀ s : Lex, Inv s → Fresh s evs → (lexRun s evs).abs < (lineMod : Int) →
    Inv (lexRun s evs) := by
  induction evs with
  | nil => intro s hi _ _; exact hi
  | cons e rest ih =>
    intro s hi hf hb
    obtain ⟨hf1, hf2⟩ := (fresh_cons s e rest).1 hf
    exact ih _ (inv_step s e hi (Int.lt_of_le_of_lt (abs_run (e :: rest) s) hb) hf1) hf2 hb

/-- the next segment that will be written is the one of the current file and it covers the current line, whatever is
    read afterwards -/
theorem next_seg (evs : List LexEv) : ∀ s : Lex, Inv s → (lexRun s evs).abs < (lineMod : Int) →
    ∃ n rest, (lexFinish (lexRun s evs)).fi = s.fi ++ (⟨n, s.fileId⟩ : Seg) :: rest ∧ s.curLine - s.saved ≤ (n : Int) := by
  induction evs with
  | nil =>
    intro s hi hb
    obtain ⟨hf, hc⟩ := seg_exact s hi hb
    exact ⟨s.seg.count, [], by rw [← hf]; rfl, Int.le_of_eq hc.symm⟩
  | cons e rest ih =>
    intro s hi hb
    have hbs : s.abs < (lineMod : Int) := Int.lt_of_le_of_lt (abs_run (e :: rest) s) hb
    rcases lexStep_seg s e with h | h
    · obtain ⟨n, r, h1, h2⟩ := ih (lexStep s e) (inv_step s e hi hbs h.fresh) hb
      rw [h.fi, h.fileId] at h1
      rw [h.saved] at h2
      exact ⟨n, r, h1, Int.le_trans (Int.sub_le_sub_right h.curLine _) h2⟩
    · obtain ⟨X, hX⟩ := fi_run rest (lexStep s e)
      obtain ⟨hf, hc⟩ := seg_exact s hi hbs
      exact ⟨s.seg.count, X, by rw [← hf, List.append_cons, ← h]; exact hX, Int.le_of_eq hc.symm⟩

/-- the position of the lexer in state `s` decodes, against the table as it will be at the end of the compilation
    (whatever is read after `s`), to the current file and the current line -/
theorem roundtrip_from (evs : List LexEv) (s : Lex) (hi : Inv s) (hb : (lexRun s evs).abs < (lineMod : Int)) :
    translateAbs s.abs (lexFinish (lexRun s evs)).fi = some (s.fileId, s.curLine) := by
  obtain ⟨n, rest, hfi, hn⟩ := next_seg evs s hi hb
  have hT := hi.hT
  have hC := hi.hC
  have hpos := hi.hpos
  obtain ⟨hlo, hhi, hline⟩ : segTotal s.fi < s.abs ∧ s.abs ≤ segTotal s.fi + n ∧
      s.abs - segTotal s.fi + segOf s.fi s.fileId = s.curLine := by
    rw [Lex.abs]; omega
  rw [hfi, translateAbs_at s.fi ⟨n, s.fileId⟩ rest s.abs hlo hhi, hline]

/-- **the round trip from any start state**: run `p`, stop, and decode the position against the table as it is after
    `q` and the final segment; only the files opened up to the position have to be fresh -/
theorem roundtrip_split (s0 : Lex) (hi : Inv s0) (p q : List LexEv) (hfresh : Fresh s0 p)
    (hfit : (lexRun s0 (p ++ q)).abs < (lineMod : Int)) :
    translateAbs (lexRun s0 p).abs (lexFinish (lexRun s0 (p ++ q))).fi
      = some ((lexRun s0 p).fileId, (lexRun s0 p).curLine) := by
  rw [lexRun_append] at hfit ⊢
  exact roundtrip_from q _ (inv_run p s0 hi hfresh (Int.lt_of_le_of_lt (abs_run q _) hfit)) hfit

end NV.C18
