/-
C18 — the control stack as a representation of the list of active frames (`conc`, `conc_run`), and the walk of
`get_svalue_trace` over it (`framesOf_snoc`, `framesOf_conc`); used by `trace_order`.
-/
import NV.C18.Model

namespace NV.C18

/-- an active call as the specification sees it: which function (kind, index) and where it currently stands -/
structure AFrame where
  kind : Nat
  idx : Nat
  regs : Regs
deriving Repr, DecidableEq

/-- abstract machine: the registers of the caller of the outermost frame (the driver) and the active frames,
    INNERMOST FIRST -/
structure AState where
  outer : Regs
  frames : List AFrame

inductive TOp where
  | call (kind idx : Nat) (callee : Regs)   -- the innermost frame calls a function that starts at `callee`
  | ret                                     -- the innermost frame returns
  | step (pc : Int)                         -- the innermost frame advances to `pc`
deriving Repr

def aStep (a : AState) : TOp → AState
  | .call k i c => { a with frames := ⟨k, i, c⟩ :: a.frames }
  | .ret => { a with frames := a.frames.tail }
  | .step pc =>
    match a.frames with
    | [] => { a with outer := { a.outer with pc := pc } }
    | f :: rest => { a with frames := { f with regs := { f.regs with pc := pc } } :: rest }

def mStep (m : Machine) : TOp → Machine
  | .call k i c => m.push k i c
  | .ret => m.pop
  | .step pc => { m with cur := { m.cur with pc := pc } }

def aRun (a : AState) (ops : List TOp) : AState := ops.foldl aStep a
def mRun (m : Machine) (ops : List TOp) : Machine := ops.foldl mStep m

/-- position of the innermost frame (or of the driver) -/
def curOfR (outer : Regs) : List AFrame → Regs
  | [] => outer
  | f :: _ => f.regs

/-- control stack elements, innermost first: kind/function of the frame, registers of the frame below -/
def csR (outer : Regs) : List AFrame → List CsEntry
  | [] => []
  | f :: rest =>
    let below := curOfR outer rest
    ⟨f.kind, f.idx, below.prog, below.ob, below.pc⟩ :: csR outer rest

/-- the concrete machine that represents an abstract state -/
def conc (a : AState) : Machine := { cs := (csR a.outer a.frames).reverse, cur := curOfR a.outer a.frames }

theorem regs_eta (r : Regs) : (⟨r.prog, r.ob, r.pc⟩ : Regs) = r := by cases r; rfl

theorem conc_step (a : AState) (op : TOp) : mStep (conc a) op = conc (aStep a op) := by
  cases op with
  | call k i c =>
    simp [mStep, aStep, conc, Machine.push, csR, curOfR]
  | ret =>
    cases hf : a.frames with
    | nil => simp [mStep, aStep, conc, Machine.pop, csR, curOfR, hf]
    | cons f rest =>
      simp [mStep, aStep, conc, Machine.pop, csR, curOfR, hf, regs_eta]
  | step pc =>
    cases hf : a.frames with
    | nil => simp [mStep, aStep, conc, csR, curOfR, hf]
    | cons f rest => simp [mStep, aStep, conc, csR, curOfR, hf]

theorem conc_run (ops : List TOp) (a : AState) : mRun (conc a) ops = conc (aRun a ops) :=
  List.foldl_hom conc (H := conc_step)

theorem framesOf_length : ∀ (cs : List CsEntry) (cur : Regs), (framesOf cs cur).length = cs.length
  | [], _ => rfl
  | [_], _ => rfl
  | _ :: e' :: rest, cur => congrArg (· + 1) (framesOf_length (e' :: rest) cur)

open NV.Gen.C18 in
theorem frameFunction_masked : frameFunction % (frameMask + 1) = frameFunction := by decide

open NV.Gen.C18 in
theorem fnOf_function (w : World) (e : CsEntry) (r : Regs) (h : e.kind % (frameMask + 1) = frameFunction) :
    fnOf w e r = w.fnName r.prog e.tableIndex := if_pos h

theorem framesOf_snoc (cs : List CsEntry) (e : CsEntry) (cur : Regs) :
    framesOf (cs ++ [e]) cur = framesOf cs ⟨e.prog, e.ob, e.pc⟩ ++ [(e, cur)] := by
  induction cs with
  | nil => simp [framesOf]
  | cons a rest ih =>
    cases rest with
    | nil => simp [framesOf]
    | cons b rest' =>
      simp only [List.cons_append, framesOf] at ih ⊢
      rw [ih]

/-- walking the represented control stack yields exactly the active frames, outermost first, each with its own
    current position (read back from an element's kind and function index and the registers paired with it) -/
theorem framesOf_conc (outer : Regs) (fs : List AFrame) :
    (framesOf (csR outer fs).reverse (curOfR outer fs)).map (fun p => (⟨p.1.kind, p.1.tableIndex, p.2⟩ : AFrame))
      = fs.reverse := by
  induction fs with
  | nil => simp [csR, framesOf]
  | cons f rest ih =>
    have hcur : curOfR outer (f :: rest) = f.regs := rfl
    rw [hcur]
    simp only [csR, List.reverse_cons]
    rw [framesOf_snoc]
    simp only [List.map_append, List.map_cons, List.map_nil, regs_eta]
    rw [ih]

end NV.C18
