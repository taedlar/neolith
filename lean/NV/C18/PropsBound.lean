/-
C18 — the stored size of the line tables (`file_info[0]`, an `unsigned short`) and a walk of `find_line` that trusts it.

The current `find_line` never looks at `file_info[0]` (`scan_unbounded`), so `compile_roundtrip` needs no bound on the
size of the tables.  A "hardened" walk that stops at the end pointer `(unsigned char *) file_info + file_info[0]` is
harmless exactly while the tables are smaller than 2^16 bytes (`scan_bound_harmless`); above that the stored size has
wrapped and the walk gives up in front of runs that exist (`bounded_scan_fails_above_64k`: Lean-checked witness with
21 846 runs and 22 KB of code).  The model mirrors such a test when the source has one (`Gen.C18.scanBounded`,
transcribed on every run), so the changed code is compared, judged (J1/J2/J7 on the large-program family) and breaks
the obligation `scan_unbounded`.
-/
import NV.C18.Lemmas

namespace NV.C18

open NV.Gen.C18

/-- the stored size is the real size exactly while the tables are smaller than 2^16 bytes -/
theorem size_field_exact (segs runs : Nat) (h : lnszOf segs runs < hdrMod) : sizeFieldOf segs runs = lnszOf segs runs := by
  unfold sizeFieldOf
  exact Nat.mod_eq_of_lt h

theorem hdrMod_eq : hdrMod = 65536 := rfl

theorem givesUp_cons (allowed : Int) (r : Run) (rest : List Run) (off k : Int) :
    givesUp allowed (r :: rest) off k =
      if off > (r.len : Int) then (if 3 * (k + 1) ≥ allowed then true else givesUp allowed rest (off - r.len) (k + 1))
      else false := by
  simp only [givesUp, scanContinues_iff]

/-- with room for all runs that are left the bounded walk never gives up in front of a run the unbounded walk stops
    on -/
theorem givesUp_false_of_found (allowed : Int) : ∀ (li : List Run) (off k : Int) (r : Run),
    findRun li off = some r → 3 * (k + li.length) ≤ allowed → givesUp allowed li off k = false := by
  intro li
  induction li with
  | nil => intro off k r h; nomatch h
  | cons a rest ih =>
    intro off k r h hall
    rw [findRun_cons] at h
    rw [givesUp_cons]
    rw [List.length_cons] at hall
    by_cases hc : off > (a.len : Int)
    · rw [if_pos hc] at h ⊢
      -- the walk goes on, so a run is left
      have hlen : 1 ≤ rest.length := by cases rest with
        | nil => nomatch h
        | cons _ _ => exact Nat.le_add_left _ _
      rw [if_neg (by omega)]
      exact ih _ _ r h (by omega)
    · rw [if_neg hc]

/-- **scan_bound_harmless** (the decode theorem with the explicit bound).  For EVERY table whose size in bytes fits the
16 bit size field (`lnsz = 4 + 4·segments + 3·runs < 2^16`, so `file_info[0]` holds the real size) and EVERY offset on
which the walk of `find_line` stops on a run, a walk that additionally stops at the end pointer computed from
`file_info[0]` does NOT give up: bounded and unbounded decoder agree.  (`compile_roundtrip` then holds for the bounded
decoder as well, under this additional size condition.) -/
theorem scan_bound_harmless (t : Tab) (off : Int) (r : Run)
    (hsz : lnszOf t.fi.length t.li.length < hdrMod) (hfield : t.sizeField = sizeFieldOf t.fi.length t.li.length)
    (hfound : findRun t.li off = some r) :
    givesUp t.allowed t.li off 0 = false := by
  refine givesUp_false_of_found _ t.li off 0 r hfound ?_
  rw [Tab.allowed, hfield, size_field_exact _ _ hsz, lnszOf]
  omega

theorem lenSum_replicate (n len line : Nat) : lenSum (List.replicate n ⟨len, line⟩) = (n : Int) * len := by
  rw [lenSum, List.map_replicate, List.sum_replicate_int]

/-- walking over `n ≥ 1` one-byte runs towards an offset behind them, with at most `3 * (k + n)` bytes allowed, gives up -/
theorem givesUp_replicate (allowed : Int) (line : Nat) (rest : List Run) : ∀ (n : Nat) (off k : Int),
    1 ≤ n → off > (n : Int) → allowed ≤ 3 * (k + n) →
    givesUp allowed (List.replicate n ⟨1, line⟩ ++ rest) off k = true := by
  intro n
  induction n with
  | zero => intro off k h; omega
  | succ m ih =>
    intro off k _ hoff hall
    rw [List.replicate_succ, List.cons_append, givesUp_cons, if_pos (by show off > ((1 : Nat) : Int); omega)]
    by_cases hk : 3 * (k + 1) ≥ allowed
    · rw [if_pos hk]
    · rw [if_neg hk]
      exact ih (off - 1) (k + 1) (by omega) (by omega) (by omega)

/-- the witness table: 21 845 one-byte runs (line 5) and a final run of 10 bytes (line 6) — 21 855 bytes of code, one
    `file_info` segment; the tables are 4 + 4 + 3 · 21 846 = 65 546 bytes, so `file_info[0]` holds 10 -/
def bigTab : Tab :=
  { psize := 21855, fi := [⟨10, 1⟩], li := List.replicate 21845 ⟨1, 5⟩ ++ [⟨10, 6⟩], names := [(1, "m.c")],
    sizeField := sizeFieldOf 1 21846 }

theorem bigTab_li : bigTab.li = List.replicate 21845 ⟨1, 5⟩ ++ [⟨10, 6⟩] := rfl

/-- **bounded_scan_fails_above_64k** (witness above the bound).  For the table `bigTab` — 65 546 bytes of line tables
with only 21 855 bytes of code — the stored size has wrapped (`file_info[0] = 10`); the walk of `find_line` as it is
finds the run of the last statement (line 6) for the offset 21 850, while a walk that stops at the end pointer
computed from `file_info[0]` gives up: "(no line numbers)", file "" line 0 in the error mapping. -/
theorem bounded_scan_fails_above_64k :
    bigTab.sizeField = 10 ∧ lnszOf 1 21846 = 65546 ∧
    findRun bigTab.li 21850 = some ⟨10, 6⟩ ∧ findLine bigTab 21850 = .ok 1 6 ∧
    givesUp bigTab.allowed bigTab.li 21850 0 = true := by
  have hsz : bigTab.sizeField = 10 := by decide
  have hfr : findRun bigTab.li 21850 = some ⟨10, 6⟩ := by
    have h := findRun_append_out (List.replicate 21845 ⟨1, 5⟩) [⟨10, 6⟩] 5 (by decide)
    rw [lenSum_replicate] at h
    have e : ((21845 : Nat) : Int) * ((1 : Nat) : Int) + 5 = 21850 := by decide
    rw [e] at h
    rw [bigTab_li, h]
    decide
  refine ⟨hsz, by decide, hfr, ?_, ?_⟩
  · exact findLine_ok bigTab 21850 _ 1 6 rfl (by decide) hfr (by decide)
  · have hall : bigTab.allowed = 2 := by
      unfold Tab.allowed
      rw [hsz]
      decide
    rw [hall, bigTab_li]
    exact givesUp_replicate 2 5 [⟨10, 6⟩] 21845 21850 0 (by decide) (by decide) (by decide)

end NV.C18
