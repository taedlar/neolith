/-
C18 — file ids as `program_file_id` allocates them: the id chosen for an opened file is never in use (`incl_fresh`),
so the events of ANY include layout — repeated and recursive inclusion included — satisfy the freshness condition
of the round trip of NV/C18/LemmasFile.lean (`fresh_idsOf`); and the string table maps the id of the file being
read to its name (`NInv`).
-/
import NV.C18.Model
import NV.C18.LemmasFile

namespace NV.C18

/-- the id-level events the lexer bookkeeping sees -/
def evOf (s : LexN) : LexEvN → List LexEv
  | .nl => [.nl]
  | .eof => [.eof]
  | .store _ => []
  | .incl name => [.incl (lexStepN s (.incl name)).lex.fileId]

def idsOf : LexN → List LexEvN → List LexEv
  | _, [] => []
  | s, e :: rest => evOf s e ++ idsOf (lexStepN s e) rest

/-- `#include`: the id is chosen against the table with the parent's open stretch closed -/
theorem lexStepN_incl (s : LexN) (n : Nat) :
    lexStepN s (.incl n) =
      { lex := lexStep s.lex (.incl (fileIdFor (s.lex.fi ++ [s.lex.seg]) s.tbl n).1),
        tbl := (fileIdFor (s.lex.fi ++ [s.lex.seg]) s.tbl n).2, curName := n, nameStack := s.curName :: s.nameStack } := by
  simp [lexStepN, lexStep, Lex.save, Lex.seg]

theorem lexStepN_eof_lex (s : LexN) : (lexStepN s .eof).lex = lexStep s.lex .eof := by
  cases h : s.nameStack <;> simp [lexStepN, h]

theorem lexStepN_eof_tbl (s : LexN) : (lexStepN s .eof).tbl = s.tbl := by
  cases h : s.nameStack <;> simp [lexStepN, h]

theorem step_lex (s : LexN) (e : LexEvN) : (lexStepN s e).lex = lexRun s.lex (evOf s e) := by
  cases e with
  | nl => rfl
  | store n => rfl
  | incl n => simp only [evOf, lexRun, List.foldl_cons, List.foldl_nil, lexStepN_incl]; rfl
  | eof => exact lexStepN_eof_lex s

theorem run_lex (evs : List LexEvN) : ∀ s : LexN, (lexRunN s evs).lex = lexRun s.lex (idsOf s evs) := by
  induction evs with
  | nil => intro s; rfl
  | cons e rest ih =>
    intro s
    have h := ih (lexStepN s e)
    simp only [lexRunN, List.foldl_cons, idsOf] at h ⊢
    rw [h, step_lex, lexRun_append]

theorem absN_run (evs : List LexEvN) (s : LexN) : s.lex.abs ≤ (lexRunN s evs).lex.abs := by
  rw [run_lex]; exact abs_run _ _

theorem lexRunN_append (s : LexN) (p q : List LexEvN) : lexRunN s (p ++ q) = lexRunN (lexRunN s p) q := by
  simp [lexRunN, List.foldl_append]

theorem abs_pos (main : Nat) (p : List LexEvN) : 1 ≤ (lexRunN (initN main) p).lex.abs := by
  have h := absN_run p (initN main)
  have h0 : (initN main).lex.abs = 1 := by simp [initN, Lex.abs]
  omega

theorem abs_mono (main : Nat) (p q : List LexEvN) :
    (lexRunN (initN main) p).lex.abs ≤ (lexRunN (initN main) (p ++ q)).lex.abs := by
  rw [lexRunN_append]
  exact absN_run q _

theorem idsOf_append (p : List LexEvN) : ∀ (s : LexN) (q : List LexEvN),
    idsOf s (p ++ q) = idsOf s p ++ idsOf (lexRunN s p) q := by
  induction p with
  | nil => intro s q; rfl
  | cons e rest ih =>
    intro s q
    simp only [List.cons_append, idsOf, lexRunN, List.foldl_cons, List.append_assoc]
    rw [ih]
    rfl

/-! ## the string table: it only grows, and the id handed out names the string -/

/-- slot `id - 1` of the table holds `name` -/
def Named (tbl : List Nat) (id name : Nat) : Prop := 1 ≤ id ∧ tbl[id - 1]? = some name

theorem Named.le {tbl : List Nat} {id name : Nat} (h : Named tbl id name) : id ≤ tbl.length := by
  have := (List.getElem?_eq_some_iff.1 h.2).1
  have := h.1
  omega

theorem Named.mono {tbl tbl' : List Nat} {id name : Nat} (h : Named tbl id name) (hp : tbl <+: tbl') :
    Named tbl' id name := by
  obtain ⟨X, rfl⟩ := hp
  exact ⟨h.1, by rw [List.getElem?_append_left (by have := h.le; have := h.1; omega)]; exact h.2⟩

theorem storeStr_prefix (tbl : List Nat) (n : Nat) : tbl <+: (storeStr tbl n).2 := by
  unfold storeStr
  cases lastIdx tbl n with
  | none => exact List.prefix_append _ _
  | some i => exact List.prefix_rfl

theorem storeStr_name (tbl : List Nat) (n : Nat) : Named (storeStr tbl n).2 (storeStr tbl n).1 n := by
  unfold storeStr
  cases h : lastIdx tbl n with
  | none => exact ⟨Nat.le_add_left _ _, by simp⟩
  | some i =>
    have hm := List.mem_of_find?_eq_some h
    have hp := List.find?_some h
    rw [List.mem_reverse, List.mem_range] at hm
    rw [beq_iff_eq, List.getD_eq_getElem?_getD, List.getElem?_eq_getElem hm] at hp
    exact ⟨Nat.le_add_left _ _, by rw [Nat.add_sub_cancel, List.getElem?_eq_getElem hm]; exact congrArg some hp⟩

theorem fileIdFor_eq (fi : List Seg) (tbl : List Nat) (n : Nat) :
    fileIdFor fi tbl n =
      if fi.any (fun s => s.file == u16 (storeStr tbl n).1) then ((storeStr tbl n).2.length + 1, (storeStr tbl n).2 ++ [n])
      else storeStr tbl n := rfl

theorem fileIdFor_prefix (fi : List Seg) (tbl : List Nat) (n : Nat) : tbl <+: (fileIdFor fi tbl n).2 := by
  rw [fileIdFor_eq]
  split
  · exact (storeStr_prefix tbl n).trans (List.prefix_append _ _)
  · exact storeStr_prefix tbl n

theorem fileIdFor_name (fi : List Seg) (tbl : List Nat) (n : Nat) :
    Named (fileIdFor fi tbl n).2 (fileIdFor fi tbl n).1 n := by
  rw [fileIdFor_eq]
  split
  · exact ⟨Nat.le_add_left _ _, by simp⟩
  · exact storeStr_name tbl n

/-- the id chosen for an opened file differs from the file id of every segment that names a slot of the old table:
    it is either the id `store_prog_string` gives, which the scan found unused, or a new slot -/
theorem fileIdFor_fresh (fi : List Seg) (tbl : List Nat) (n : Nat) (hb : (fileIdFor fi tbl n).2.length < lineMod)
    (sg : Seg) (hsg : sg ∈ fi) (hle : sg.file ≤ tbl.length) : sg.file ≠ (fileIdFor fi tbl n).1 := by
  have hlen := (storeStr_prefix tbl n).length_le
  have hid := (storeStr_name tbl n).le
  rw [fileIdFor_eq] at hb ⊢
  by_cases hany : (fi.any fun s => s.file == u16 (storeStr tbl n).1) = true
  · rw [if_pos hany]
    show sg.file ≠ (storeStr tbl n).2.length + 1
    omega
  · rw [if_neg hany] at hb ⊢
    rw [u16_nat _ (by omega)] at hany
    exact fun e => hany (List.any_eq_true.2 ⟨sg, hsg, beq_iff_eq.2 e⟩)

theorem tbl_prefix_step (s : LexN) (e : LexEvN) : s.tbl <+: (lexStepN s e).tbl := by
  cases e with
  | nl => exact List.prefix_rfl
  | store n => exact storeStr_prefix s.tbl n
  | incl n => rw [lexStepN_incl]; exact fileIdFor_prefix _ s.tbl n
  | eof => rw [lexStepN_eof_tbl]; exact List.prefix_rfl

theorem tbl_prefix_run (evs : List LexEvN) (s : LexN) : s.tbl <+: (lexRunN s evs).tbl :=
  List.foldlRecOn (motive := fun t => s.tbl <+: t.tbl) evs lexStepN List.prefix_rfl
    fun t h e _ => h.trans (tbl_prefix_step t e)

/-- every id in use names a slot of the table, and every file on the include stack already has a segment -/
structure TInv (s : LexN) : Prop where
  hused : ∀ id ∈ used s.lex, id ≤ s.tbl.length
  hstk : ∀ p ∈ s.lex.stack, p.2 ∈ s.lex.fi.map (·.file)

theorem tinv_init (main : Nat) : TInv (initN main) := by
  constructor <;> simp [initN, used]

/-- what holds of the current id and of the files of all segments holds of every id in use, when every file on the
    include stack has a segment -/
theorem forall_used_of_stack_in_fi (s : Lex) (P : Nat → Prop) (hcur : P s.fileId)
    (hstk : ∀ p ∈ s.stack, p.2 ∈ s.fi.map (·.file)) (hfi : ∀ sg ∈ s.fi, P sg.file) : ∀ id ∈ used s, P id := by
  have hfiles : ∀ id ∈ s.fi.map (·.file), P id := fun id h => by
    obtain ⟨sg, hsg, rfl⟩ := List.mem_map.1 h; exact hfi sg hsg
  intro id hid
  rcases List.mem_cons.1 hid with rfl | hid
  · exact hcur
  · rcases List.mem_append.1 hid with hid | hid
    · obtain ⟨p, hp, rfl⟩ := List.mem_map.1 hid; exact hfiles _ (hstk p hp)
    · exact hfiles id hid

theorem used_closed (s : LexN) (hi : Inv s.lex) (ht : TInv s) : ∀ x ∈ used s.lex,
    ∃ sg ∈ s.lex.fi ++ [s.lex.seg], sg.file = x :=
  forall_used_of_stack_in_fi s.lex _
    ⟨s.lex.seg, List.mem_append_right _ (List.mem_singleton.2 rfl), s.lex.seg_file hi.hid⟩ ht.hstk
    (fun sg h => ⟨sg, List.mem_append_left _ h, rfl⟩)

theorem incl_fresh (s : LexN) (n : Nat) (hi : Inv s.lex) (ht : TInv s)
    (hb : (lexStepN s (.incl n)).tbl.length < lineMod) :
    (lexStepN s (.incl n)).lex.fileId ∉ used s.lex ∧ (lexStepN s (.incl n)).lex.fileId < lineMod := by
  rw [lexStepN_incl] at hb ⊢
  refine ⟨fun hmem => ?_, Nat.lt_of_le_of_lt (fileIdFor_name _ s.tbl n).le hb⟩
  obtain ⟨sg, hsg, h⟩ := used_closed s hi ht _ hmem
  exact fileIdFor_fresh _ s.tbl n hb sg hsg (h ▸ ht.hused _ hmem) h

/-- `TInv` is kept by a step whose lexer part is one lexer event, provided the file it opens names a slot.  `TInv` reads
    `lex` and `tbl` only, so this is stated of any `s'` with that lexer part and a table no shorter: `.incl` (the id is
    chosen by `fileIdFor`, the table may grow) and `.eof` (which also pops the name stack) are both instances -/
theorem tinv_lex (s s' : LexN) (e : LexEv) (hi : Inv s.lex) (ht : TInv s) (hlex : s'.lex = lexStep s.lex e)
    (hlen : s.tbl.length ≤ s'.tbl.length) (hnew : ∀ f, e = .incl f → f ≤ s'.tbl.length) : TInv s' := by
  have hold : ∀ id ∈ used s.lex, id ≤ s'.tbl.length := fun id h => Nat.le_trans (ht.hused id h) hlen
  have hfiles : ∀ id ∈ s.lex.fi.map (·.file), id ≤ s'.tbl.length := fun id h =>
    hold id (List.mem_cons_of_mem _ (List.mem_append_right _ h))
  -- the table with the open stretch closed: its files are bounded, and it has a segment for the current file
  have hseg := s.lex.seg_file hi.hid
  have hfi' : ∀ sg ∈ s.lex.fi ++ [s.lex.seg], sg.file ≤ s'.tbl.length := by
    intro sg h
    rcases List.mem_append.1 h with h | h
    · exact hfiles _ (List.mem_map_of_mem h)
    · rw [List.mem_singleton.1 h, hseg]; exact hold _ List.mem_cons_self
  have hstk' : ∀ p ∈ s.lex.stack, p.2 ∈ (s.lex.fi ++ [s.lex.seg]).map (·.file) := fun p hp => by
    rw [List.map_append]; exact List.mem_append_left _ (ht.hstk p hp)
  have hcur' : s.lex.fileId ∈ (s.lex.fi ++ [s.lex.seg]).map (·.file) :=
    List.mem_map.2 ⟨s.lex.seg, List.mem_append_right _ (List.mem_singleton.2 rfl), hseg⟩
  suffices h : (∀ p ∈ s'.lex.stack, p.2 ∈ s'.lex.fi.map (·.file)) ∧ s'.lex.fileId ≤ s'.tbl.length ∧
      ∀ sg ∈ s'.lex.fi, sg.file ≤ s'.tbl.length from by
    obtain ⟨hstk, hcur, hfi⟩ := h
    exact ⟨forall_used_of_stack_in_fi _ _ hcur hstk hfi, hstk⟩
  rw [hlex]
  cases e with
  | nl => exact ⟨ht.hstk, hold _ List.mem_cons_self, fun sg h => hfiles _ (List.mem_map_of_mem h)⟩
  | incl f =>
    rw [lexStep_incl]
    refine ⟨fun p hp => ?_, hnew f rfl, hfi'⟩
    rcases List.mem_cons.1 hp with rfl | hp
    · exact hcur'
    · exact hstk' p hp
  | eof =>
    cases hs : s.lex.stack with
    | nil =>
      rw [lexStep_eof_nil _ hs]
      exact ⟨ht.hstk, hold _ List.mem_cons_self, fun sg h => hfiles _ (List.mem_map_of_mem h)⟩
    | cons top rest =>
      rw [lexStep_eof_cons _ top.1 top.2 rest hs]
      exact ⟨fun p hp => hstk' p (hs ▸ List.mem_cons_of_mem _ hp),
        hfiles _ (ht.hstk top (hs ▸ List.mem_cons_self)), hfi'⟩

theorem tinv_step (s : LexN) (e : LexEvN) (hi : Inv s.lex) (ht : TInv s) : TInv (lexStepN s e) := by
  have hlen := (tbl_prefix_step s e).length_le
  cases e with
  | nl => exact tinv_lex s _ .nl hi ht rfl hlen (fun f h => nomatch h)
  | store n => exact ⟨fun id h => Nat.le_trans (ht.hused id h) hlen, ht.hstk⟩
  | incl n =>
    rw [lexStepN_incl] at hlen ⊢
    exact tinv_lex s _ _ hi ht rfl hlen (fun f h => LexEv.incl.inj h ▸ (fileIdFor_name _ s.tbl n).le)
  | eof => exact tinv_lex s _ .eof hi ht (lexStepN_eof_lex s) hlen (fun f h => nomatch h)

/-- the ids chosen along any run satisfy the freshness condition `Fresh` of `roundtrip_split` -/
theorem fresh_idsOf (evs : List LexEvN) : ∀ s : LexN, Inv s.lex → TInv s →
    (lexRunN s evs).lex.abs < (lineMod : Int) → (lexRunN s evs).tbl.length < lineMod → Fresh s.lex (idsOf s evs) := by
  induction evs with
  | nil => intro s _ _ _ _; trivial
  | cons e rest ih =>
    intro s hi ht hb htb
    have htb1 : (lexStepN s e).tbl.length < lineMod := Nat.lt_of_le_of_lt (tbl_prefix_run rest _).length_le htb
    have hb1 : (lexRun s.lex (evOf s e)).abs < (lineMod : Int) :=
      step_lex s e ▸ Int.lt_of_le_of_lt (absN_run rest (lexStepN s e)) hb
    -- the events of this step are fresh, so the invariant holds behind it
    have hfe : Fresh s.lex (evOf s e) := by
      cases e with
      | store n => trivial
      | nl => exact fresh_nl _
      | eof => exact fresh_eof _
      | incl n => exact (fresh_incl _ _).2 (incl_fresh s n hi ht htb1)
    have hi' : Inv (lexStepN s e).lex := step_lex s e ▸ inv_run _ _ hi hfe hb1
    exact (fresh_append _ _ _).2 ⟨hfe, step_lex s e ▸ ih _ hi' (tinv_step s e hi ht) hb htb⟩

/-- the include stack and the stack of file names run in parallel and the table maps each id to its name -/
def NamesOk (tbl : List Nat) : List (Int × Nat) → List Nat → Prop
  | [], [] => True
  | p :: ps, n :: ns => Named tbl p.2 n ∧ NamesOk tbl ps ns
  | _, _ => False

/-- the table names the current file and every file on the include stack -/
structure NInv (s : LexN) : Prop where
  hcur : Named s.tbl s.lex.fileId s.curName
  hstk : NamesOk s.tbl s.lex.stack s.nameStack

theorem ninv_init (main : Nat) : NInv (initN main) := ⟨⟨Nat.le_refl 1, rfl⟩, trivial⟩

theorem NamesOk.mono {tbl tbl' : List Nat} (hp : tbl <+: tbl') : ∀ {a : List (Int × Nat)} {b : List Nat},
    NamesOk tbl a b → NamesOk tbl' a b
  | [], [], _ => trivial
  | _ :: _, _ :: _, h => ⟨h.1.mono hp, h.2.mono hp⟩

theorem ninv_step (s : LexN) (e : LexEvN) (hn : NInv s) : NInv (lexStepN s e) := by
  cases e with
  | nl => exact ⟨hn.hcur, hn.hstk⟩
  | store n => exact ⟨hn.hcur.mono (storeStr_prefix s.tbl n), hn.hstk.mono (storeStr_prefix s.tbl n)⟩
  | incl n =>
    have hp := fileIdFor_prefix (s.lex.fi ++ [s.lex.seg]) s.tbl n
    rw [lexStepN_incl, lexStep_incl]
    exact ⟨fileIdFor_name _ s.tbl n, hn.hcur.mono hp, hn.hstk.mono hp⟩
  | eof =>
    -- the two stacks have the same shape
    match hs : s.lex.stack, hns : s.nameStack, hn.hstk with
    | [], [], _ =>
      simp only [lexStepN, hns, lexStep_eof_nil _ hs]
      exact ⟨hn.hcur, hs ▸ trivial⟩
    | top :: rest, nm :: nrest, h2 =>
      simp only [lexStepN, hns, lexStep_eof_cons _ top.1 top.2 rest hs]
      exact ⟨h2.1, h2.2⟩
    | [], _ :: _, h2 => exact h2.elim
    | _ :: _, [], h2 => exact h2.elim

theorem ninv_run (evs : List LexEvN) (s : LexN) (h : NInv s) : NInv (lexRunN s evs) :=
  List.foldlRecOn evs lexStepN h fun t h e _ => ninv_step t e h

end NV.C18
