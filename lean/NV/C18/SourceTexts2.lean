/-
C18 — frozen copies of a second group of source regions (dump_trace, get_trace_details, get_line_number,
pop_control_stack, the frame set-up, the line of an inherited initialiser call); compared with the regenerated texts of
NV/Gen/C18.lean by the obligation `source_statements_agree2`.
-/
import NV.Gen.C18

namespace NV.C18

open NV.Gen.C18

def expDumpTrace : List String := [
  "char *ret = 0",
  "int num_arg = -1, num_local = -1",
  "if (current_prog == 0)",
  "return 0",
  "if (csp < &control_stack[0])",
  "return 0",
  "for (p = &control_stack[0]; p < csp; p++)",
  "switch (p[0].framekind & FRAME_MASK)",
  "case FRAME_FUNCTION:",
  "get_trace_details (p[1].prog, p[0].fr.table_index, &ftd)",
  "num_arg = ftd.num_arg",
  "num_local = ftd.num_local",
  "log_message (NULL, \"\\t%s() at %s, in program /%s (object %s)\\n\", ftd.name,",
  "get_line_number (p[1].pc, p[1].prog), p[1].prog->name, p[1].ob->name)",
  "if (strcmp (ftd.name, \"heart_beat\") == 0)",
  "ret = p[1].ob ? p[1].ob->name : 0",
  "case FRAME_FUNP:",
  "log_message (NULL, \"\\t(function) at %s, in program /%s (object %s)\\n\",",
  "get_line_number (p[1].pc, p[1].prog), p[1].prog->name, p[1].ob->name)",
  "num_arg = p[0].fr.funp->f.functional.num_arg",
  "num_local = p[0].fr.funp->f.functional.num_local",
  "case FRAME_FAKE:",
  "log_message (NULL, \"\\t(function) at %s, in program /%s (object %s)\\n\",",
  "get_line_number (p[1].pc, p[1].prog), p[1].prog->name, p[1].ob->name)",
  "num_arg = -1",
  "case FRAME_CATCH:",
  "log_message (NULL, \"\\t(catch) at %s, in program /%s (object %s)\\n\",",
  "get_line_number (p[1].pc, p[1].prog), p[1].prog->name, p[1].ob->name)",
  "num_arg = -1",
  "if ((how & DUMP_WITH_ARGS) && (num_arg != -1))",
  "if ((how & DUMP_WITH_LOCALVARS) && num_local > 0 && num_arg != -1)",
  "switch (p[0].framekind & FRAME_MASK)",
  "case FRAME_FUNCTION:",
  "get_trace_details (current_prog, p[0].fr.table_index, &ftd)",
  "num_arg = ftd.num_arg",
  "num_local = ftd.num_local",
  "log_message (NULL, \"\\t%s() at %s, in program /%s (object %s)\\n\", ftd.name,",
  "get_line_number (pc, current_prog), current_prog->name, current_object ? current_object->name : \"<none>\")",
  "case FRAME_FUNP:",
  "log_message (NULL, \"\\t(function) at %s, in program /%s (object %s)\\n\",",
  "get_line_number (pc, current_prog), current_prog->name, current_object->name)",
  "num_arg = p[0].fr.funp->f.functional.num_arg",
  "num_local = p[0].fr.funp->f.functional.num_local",
  "case FRAME_FAKE:",
  "log_message (NULL, \"\\t(function) at %s, in program /%s (object %s)\\n\",",
  "get_line_number (pc, current_prog), current_prog->name, current_object->name)",
  "num_arg = -1",
  "case FRAME_CATCH:",
  "log_message (NULL, \"\\t(catch) at %s, in program /%s (object %s)\\n\",",
  "get_line_number (pc, current_prog), current_prog->name, current_object->name)",
  "num_arg = -1",
  "if (num_arg != -1 && fp + num_arg + num_local - 1 > sp)",
  "num_arg = -1",
  "if ((how & DUMP_WITH_ARGS) && (num_arg != -1))",
  "if ((how & DUMP_WITH_LOCALVARS) && num_local > 0 && num_arg != -1)"]

def expTraceDetails : List String := [
  "static void get_trace_details (const program_t* prog, int index, function_trace_details_t* ftd) {",
  "compiler_function_t *cfp = &prog->function_table[index]",
  "runtime_function_u *func_entry = FIND_FUNC_ENTRY (prog, cfp->runtime_index)",
  "if (ftd)",
  "ftd->name = cfp->name",
  "ftd->program_offset = cfp->address",
  "ftd->num_arg = func_entry->def.num_arg",
  "ftd->num_local = func_entry->def.num_local"]

def expGetLineNumber : List String := [
  "char* get_line_number (const char *p, const program_t * progp) {",
  "static char buf[PATH_MAX + 32]",
  "int i",
  "char *file = \"???\"",
  "int line = -1",
  "i = find_line (p, progp, &file, &line)",
  "switch (i)",
  "case 1:",
  "strcpy (buf, \"(no program)\")",
  "return buf",
  "case 2:",
  "*buf = 0",
  "return buf",
  "case 3:",
  "strcpy (buf, \"(compiled program)\")",
  "return buf",
  "case 4:",
  "strcpy (buf, \"(no line numbers)\")",
  "return buf",
  "case 5:",
  "strcpy (buf, \"(includes too deep)\")",
  "return buf",
  "if (!file)",
  "file = progp->name",
  "snprintf (buf, sizeof buf, \"/%s:%d\", file, line)",
  "return buf"]

def expPopControl : List String := [
  "current_object = csp->ob",
  "current_prog = csp->prog",
  "pc = csp->pc"]

def expSetupFrame : List String := [
  "csp->fr.table_index = findex"]

def expInheritedInit : List String := [
  "switch_to_line ((short)(current_line_base + current_line))"]

/-- **source_statements_agree2**: these regions read in the source as they did when the model was written -/
theorem source_statements_agree2 :
    srcDumpTrace = expDumpTrace ∧
    srcTraceDetails = expTraceDetails ∧
    srcGetLineNumber = expGetLineNumber ∧
    srcPopControl = expPopControl ∧
    srcSetupFrame = expSetupFrame ∧
    srcInheritedInit = expInheritedInit := by
  refine ⟨?_, ?_, ?_, ?_, ?_, ?_⟩ <;> rfl

end NV.C18
