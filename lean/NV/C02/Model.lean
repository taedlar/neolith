/-
C02 — executable model `CompilerTables` of the LPC compiler's bookkeeping (lib/lpc/compiler.c, grammar.y, lex.c,
preprocess.c, identifier.c) as counters and cursors.  It mirrors the REPAIRED code (see notes/C02.md for the fix
commits); every table access carries an explicit bounds check whose failure is the outcome `crash`.

Five machines driven by one event alphabet `Ev` (`Ids` reads the locals machine before and after the event; the
others do not look at each other):
  * `Loc`  locals tables: sizes, `*_ptr` offsets, current_number_of_locals / max_num_locals, the (num_local,
           max_num_locals) pairs that the grammar keeps on bison's stack for every open function literal
  * `Ids`  identifier side of the same operations: which identifier sits in which live entry of locals[],
           sem_value references taken by locals, dn.local_num, runtime_locals[]
  * `Mem`  mem_block[] (current_size, max_size) with the doubling realloc_mem_block
  * `Lex`  include stack (incnum + real depth), #if stack depth, function_context_stack, function_flag
  * `Pad`  the scratchpad of lib/misc/scratchpad.c: strings stacked in scratchblock[], malloc'ed blocks beside it
plus the pure `scanWrites` model of the SAVEC-guarded writes into yytext[].
-/
import NV.Gen.C02

namespace NV.C02

open NV.Gen.C02

abbrev Id := String

/-- the per-compile name spaces of one identifier besides the local one: dn.function_num, dn.global_num, dn.class_num -/
inductive Kind
  | fn | glob | cls
  deriving Repr, DecidableEq

def Kind.name : Kind → String
  | .fn => "fn" | .glob => "global" | .cls => "class"

/-- events of the nesting grammar (one per bookkeeping operation of the compiler) -/
inductive Ev
  | addLocal (id : Id) (perm : Bool) (sem0 : Int)   -- add_local_name(id): permanent identifier?, sem_value before
  | popN (n : Nat)                                  -- pop_n_locals(n) at the end of a nested block / switch
  | freeAll                                         -- free_all_local_names()
  | enterLit                                        -- `function (` ... : reallocate_locals? + deactivate + pointer move
  | leaveLit (d : Nat)                              -- end of a literal whose saved block lies under d abandoned ones
  | argTypes (k : Nat)                              -- define_new_function's copy of k argument types
  | bind (k : Kind) (id : Id) (perm : Bool) (n : Nat) (sem0 : Int)
      -- find_or_add_ident(id, FOA_GLOBAL_SCOPE) + `if (dn.<k> == -1) sem_value++; dn.<k> = n` (define_new_function,
      -- copy_function, define_variable, class definitions); sem0 = sem_value before
  | fnReset                                         -- end of a function definition with the table pointers still inside
                                                    -- the tables (abandoned literal): release everything, back to the start
  | cleanup                                         -- clean_up_locals() + free_unused_identifiers() (epilog, clean_parser)
  | memReq (blk size : Nat) (sync : Option (Nat × Nat))
      -- allocate_in_mem_block / add_to_mem_block / insert_in_mem_block; `sync` = (current_size, max_size) found in
      -- the block: other code moves current_size too (icode.c grows the code blocks through prog_code,
      -- free_prog_string shrinks the string tables), which is not modelled
  | incAttempt (ok : Bool)                          -- handle_include reaching the depth test; ok = file could be opened
  | incPop                                          -- end of an include file
  | lexStart | lexEnd                               -- start_new_file / end_new_file
  | ifPush | ifPop | ifUnwind                       -- #if stack
  | fnPush | fnPop                                  -- push_function_context / pop_function_context
  | fnFlagSet                                       -- lexer saw `(:` followed by an identifier: function_flag = 1
  | scrAlloc (len : Nat)      -- a string of len bytes (with its zero) asked from the scratchpad: scratch_copy /
                              -- scratch_alloc / scratch_copy_string / the string scanner of yylex; pad or malloc
  | scrLarge                  -- scratch_large_alloc called directly
  | scrFreeLast (k : Nat)     -- scratch_free_last(); k strings below the top one are marked freed (first byte 0)
  | scrResize (size : Nat)    -- scratch_realloc of the last string, staying on the pad
  | scrJoin                   -- scratch_join of the two last strings on the pad
  | scrMark                   -- interior free: `*ptr = 0`
  | scrFreeBlock              -- scratch_free of a malloc'ed block
  | scrDestroy                -- scratch_destroy()
  deriving Repr, DecidableEq

/-- observable outputs: the trace points (event, cursor after, allocation size) and the end-of-compile reports -/
inductive Out
  | ev (name : String) (cursor : Int) (size : Int)
  | ident (lnumNew : Int) (semAfter : Int) (name : Id) (perm : Bool) (lnumBefore : Int) (semBefore : Int)
  | identBind (kind : String) (after : Int) (semAfter : Int) (name : Id) (perm : Bool) (before : Int) (semBefore : Int)
  | identClean (name : Id) (delta : Int)
  | identEnd (name : Id) (delta : Int) (fn glob cls : Int) (lnum : Int)
  | localsEnd (cur max lOff tOff : Nat)
  | scr (name : String) (tail : Nat) (size : Nat) (last : Nat) (large : Nat) (k : Option Nat)
  | scrEnd (last tail large : Nat)
  | crash (what : String)
  deriving Repr, DecidableEq

/-! ## locals tables -/

/-- what the grammar saves in `$<func_block>` when a function literal starts -/
structure Frame where
  c : Nat     -- num_local       = current_number_of_locals
  m : Nat     -- max_num_locals
  lo : Nat    -- locals_off      = locals_ptr - locals when the literal started
  to : Nat    -- type_off        = type_of_locals_ptr - type_of_locals when the literal started
  deriving Repr, DecidableEq

structure Loc where
  N : Nat                -- num_local_variables_allowed
  tsize : Nat            -- type_of_locals_size
  lsize : Nat            -- locals_size (also the size of runtime_locals)
  tOff : Nat             -- type_of_locals_ptr - type_of_locals
  lOff : Nat             -- locals_ptr - locals  (= runtime_locals_ptr - runtime_locals)
  cur : Nat              -- current_number_of_locals
  max : Nat              -- max_num_locals
  frames : List Frame    -- innermost first
  bad : Bool             -- an access outside a table happened
  deriving Repr

def Loc.init (N : Nat) : Loc := ⟨N, N, N, 0, 0, 0, 0, [], false⟩

def Loc.crash (l : Loc) (o : List Out) (what : String) : Loc × List Out :=
  ({ l with bad := true }, o ++ [.crash what])

def stepLoc (l : Loc) (e : Ev) : Loc × List Out :=
  if l.bad then (l, []) else
  match e with
  | .addLocal _ _ _ =>
    if l.N ≤ l.max then (l, [.ev "local.full" l.max l.N]) else
    let ti := l.tOff + l.max
    let ni := l.lOff + l.cur
    let o := [Out.ev "local.type" (ti + 1 : Nat) l.tsize, .ev "local.name" (ni + 1 : Nat) l.lsize]
    if ti < l.tsize ∧ ni < l.lsize then ({ l with cur := l.cur + 1, max := l.max + 1 }, o)
    else l.crash o "table-write-out-of-bounds add_local_name"
  | .popN n =>
    let k := min n l.cur
    let o := Out.ev "local.pop_n" k l.cur ::
      (List.range k).map (fun i => Out.ev "local.pop" ((l.lOff + l.cur - 1 - i : Nat)) l.lsize)
    if k = 0 ∨ l.lOff + l.cur ≤ l.lsize then ({ l with cur := l.cur - k }, o)
    else l.crash o "table-read-out-of-bounds pop_n_locals"
  | .freeAll =>
    let o := [Out.ev "local.free_all" (l.lOff + l.cur : Nat) l.lsize]
    if l.lOff + l.cur ≤ l.lsize then ({ l with cur := 0, max := 0 }, o)
    else l.crash o "table-read-out-of-bounds free_all_local_names"
  | .enterLit =>
    let grow := l.tsize ≤ l.tOff + l.max + l.N
    let l1 := if grow then { l with tsize := l.tsize + l.N, lsize := l.lsize + l.N } else l
    let o1 := if grow then [Out.ev "locals.realloc.type" l.tOff l1.tsize, .ev "locals.realloc.name" l.lOff l1.lsize] else []
    let o2 := o1 ++ [Out.ev "local.deactivate" (l.lOff + l.cur : Nat) l1.lsize]
    if l.lOff + l.cur ≤ l1.lsize then
      let l2 := { l1 with frames := ⟨l.cur, l.max, l.lOff, l.tOff⟩ :: l.frames, lOff := l.lOff + l.cur, tOff := l.tOff + l.max,
                          cur := 0, max := 0 }
      (l2, o2 ++ [Out.ev "literal.enter.type" l2.tOff l2.tsize, .ev "literal.enter.name" l2.lOff l2.lsize])
    else l1.crash o2 "table-write-out-of-bounds deactivate_current_locals"
  | .leaveLit d =>
    match l.frames.drop d with
    | [] => (l, [])
    | f :: rest =>
      -- repaired code: what literals abandoned by error recovery left above this literal's start is released
      -- (reads locals[f.lo + f.c .. lOff)), then the pointers return to where the literal started
      let o := [Out.ev "literal.leave.saved" f.c f.m]
      if f.lo + f.c ≤ l.lOff ∧ l.lOff ≤ l.lsize then
        let l' := { l with frames := rest, cur := f.c, max := f.m, lOff := f.lo, tOff := f.to }
        let o' := o ++ [Out.ev "literal.leave.type" l'.tOff l'.tsize, .ev "literal.leave.name" l'.lOff l'.lsize,
                        .ev "local.reactivate" (l'.lOff + l'.cur : Nat) l'.lsize]
        if l'.lOff + l'.cur ≤ l'.lsize then (l', o')
        else l'.crash o' "table-read-out-of-bounds reactivate_current_locals"
      else l.crash o "table-read-out-of-bounds leave literal"
  | .argTypes k =>
    let n := min k l.N
    let o := [Out.ev "local.argtypes" (l.tOff + n : Nat) l.tsize]
    if l.tOff + n ≤ l.tsize then (l, o) else l.crash o "table-read-out-of-bounds define_new_function"
  | .fnReset =>
    -- reads locals[0 .. lOff) while releasing; afterwards all cursors are at the start of the tables
    if l.lOff + l.cur ≤ l.lsize then
      ({ l with cur := 0, max := 0, lOff := 0, tOff := 0, frames := [] }, [Out.ev "local.fn_reset" (0 : Nat) l.lsize])
    else l.crash [] "table-read-out-of-bounds function end"
  | .cleanup =>
    let o := [Out.ev "local.cleanup" (l.lOff + l.cur : Nat) l.lsize]
    if l.lOff + l.cur ≤ l.lsize then ({ l with cur := 0, max := 0, lOff := 0, tOff := 0, frames := [] }, o)
    else l.crash o "table-read-out-of-bounds clean_up_locals"
  | _ => (l, [])

/-! ## identifiers bound by locals -/

structure Ids where
  perm : Id → Bool        -- which names are permanent identifiers (efuns, simul efuns, reserved words): never freed
  live : List Id          -- identifiers in locals[0 .. lOff+cur), newest first
  refs : Id → Int         -- sem_value, relative to its value before the first compile
  lnum : Id → Int         -- dn.local_num (-1 = none)
  bnd : Kind → Id → Int   -- dn.function_num / dn.global_num / dn.class_num (-1 = none)
  dirty : List Id         -- ident_dirty_list, newest first
  rt : List Int           -- runtime_locals[]
  perms : List Id         -- permanent identifiers seen so far (reported at end_new_file)
  bad : Bool

def Ids.init (P : Id → Bool) : Ids := ⟨P, [], fun _ => 0, fun _ => -1, fun _ _ => -1, [], [], [], false⟩

/-- 1 when a name-space binding is set -/
def b (x : Int) : Int := if x = -1 then 0 else 1

def Ids.bsum (s : Ids) (j : Id) : Int := b (s.bnd .fn j) + b (s.bnd .glob j) + b (s.bnd .cls j)

def updB (f : Kind → Id → Int) (k : Kind) (id : Id) (v : Int) : Kind → Id → Int :=
  fun k' j => if k' = k ∧ j = id then v else f k' j

/-- free_unused_identifiers, one dirty identifier: every set binding is cleared and gives back its reference -/
def clearOne (s : Ids) (id : Id) : Ids :=
  { s with refs := fun j => if j = id then s.refs j - s.bsum j else s.refs j,
           bnd := fun k j => if j = id then -1 else s.bnd k j }

def clearAll : List Id → Ids → Ids
  | [], s => s
  | id :: rest, s => clearAll rest (clearOne s id)

/-- the identifier structures that are not permanent are freed: the next compile finds fresh ones -/
def freeNonPerm (s : Ids) : Ids :=
  { s with refs := fun j => if s.perm j then s.refs j else 0,
           lnum := fun j => if s.perm j then s.lnum j else -1,
           bnd := fun k j => if s.perm j then s.bnd k j else -1 }

def upd (f : Id → Int) (k : Id) (v : Int) : Id → Int := fun j => if j = k then v else f j

/-- release the newest entry of locals[]: `sem_value--; dn.local_num = -1` -/
def popOne (s : Ids) : Ids :=
  match s.live with
  | [] => { s with bad := true }
  | id :: rest => { s with live := rest, refs := upd s.refs id (s.refs id - 1), lnum := upd s.lnum id (-1) }

def popMany : Nat → Ids → Ids
  | 0, s => s
  | n + 1, s => popMany n (popOne s)

def setAt (l : List Int) (i : Nat) (v : Int) : List Int :=
  if i < l.length then l.set i v else l ++ List.replicate (i - l.length) 0 ++ [v]

/-- identifier at index `i` (counted from the bottom) of a window of `c` entries on top of the live list -/
def windowId (s : Ids) (c i : Nat) : Option Id := s.live[c - 1 - i]?

def deactStep (lOff c : Nat) (s : Ids) (i : Nat) : Ids :=
  match windowId s c i with
  | none => { s with bad := true }
  | some id => { s with rt := setAt s.rt (lOff + i) (s.lnum id), lnum := upd s.lnum id (-1) }

/-- deactivate_current_locals: `runtime_locals_ptr[i] = local_num; local_num = -1` for the current window -/
def deactivate (s : Ids) (lOff c : Nat) : Ids := (List.range c).foldl (deactStep lOff c) s

def reactStep (lOff c : Nat) (s : Ids) (i : Nat) : Ids :=
  match windowId s c i with
  | none => { s with bad := true }
  | some id => { s with lnum := upd s.lnum id (s.rt.getD (lOff + i) 0) }

/-- reactivate_current_locals (repaired: no extra sem_value reference) -/
def reactivate (s : Ids) (lOff c : Nat) : Ids := (List.range c).foldl (reactStep lOff c) s

/-- identifier side of one event; `l` is the locals machine BEFORE the event, `l'` after it -/
def stepIds (l l' : Loc) (s : Ids) (e : Ev) : Ids × List Out :=
  if s.bad ∨ l.bad ∨ l'.bad then (s, []) else
  match e with
  | .addLocal id perm sem0 =>
    if l.N ≤ l.max then (s, []) else
    ({ s with live := id :: s.live, refs := upd s.refs id (s.refs id + 1), lnum := upd s.lnum id l.max,
              perms := if perm ∧ ¬ s.perms.contains id then s.perms ++ [id] else s.perms },
     [.ident l.max (sem0 + 1) id perm (s.lnum id) sem0])
  | .popN n => (popMany (min n l.cur) s, [])
  | .freeAll => (popMany l.cur s, [])
  | .enterLit => (deactivate s l.lOff l.cur, [])
  | .leaveLit d =>
    match l.frames.drop d with
    | [] => (s, [])
    | f :: _ => (reactivate (popMany (l.lOff + l.cur - (f.lo + f.c)) s) l'.lOff l'.cur, [])
  | .fnReset => (popMany (l.lOff + l.cur) s, [])
  | .bind k id perm n sem0 =>
    let before := s.bnd k id
    let inc : Int := if before = -1 then 1 else 0
    -- find_or_add_ident: a permanent identifier without per-compile bindings goes on the dirty list
    let dirty := if s.perm id ∧ s.bnd .fn id = -1 ∧ s.bnd .glob id = -1 ∧ s.bnd .cls id = -1 then id :: s.dirty else s.dirty
    ({ s with bnd := updB s.bnd k id n, refs := upd s.refs id (s.refs id + inc), dirty := dirty,
              perms := if perm ∧ ¬ s.perms.contains id then s.perms ++ [id] else s.perms },
     [.identBind k.name n (sem0 + inc) id perm before sem0])
  | .cleanup =>
    let s1 := popMany (l.lOff + l.cur) s
    let s2 := clearAll s1.dirty s1
    let o := (Out.ev "ident.free_unused" 0 0) :: s1.dirty.map (fun id => Out.identClean id (s2.refs id))
    (freeNonPerm { s2 with dirty := [] }, o)
  | .lexEnd =>
    (s, s.perms.map (fun id => Out.identEnd id (s.refs id) (s.bnd .fn id) (s.bnd .glob id) (s.bnd .cls id) (s.lnum id))
        ++ [.localsEnd l.cur l.max l.lOff l.tOff])
  | _ => (s, [])

/-! ## mem_block -/

structure Blk where
  cur : Nat     -- current_size
  max : Nat     -- max_size
  deriving Repr, DecidableEq

/-- realloc_mem_block: `while (size > max_size) max_size <<= 1` (fuel = need suffices because max ≥ 1) -/
def growTo (m need : Nat) : Nat → Nat
  | 0 => m
  | f + 1 => if m < need then growTo (2 * m) need f else m

structure Mem where
  blocks : List Blk
  bad : Bool
  deriving Repr

def Mem.fresh : List Blk := List.replicate numAreas ⟨0, startBlockSize⟩
def Mem.init : Mem := ⟨Mem.fresh, false⟩

def stepMem (s : Mem) (e : Ev) : Mem × List Out :=
  if s.bad then (s, []) else
  match e with
  | .memReq n size sync =>
    match s.blocks[n]? with
    | none => ({ s with bad := true }, [.ev "mem.req" n size, .crash "no-such-mem-block"])
    | some b0 =>
      let b : Blk := match sync with | some (c, m) => ⟨c, m⟩ | none => b0
      let need := b.cur + size
      let m := growTo b.max need need
      let o := [Out.ev "mem.req" n size, .ev "mem.before" b.cur b.max, .ev "mem.alloc" need m]
      if need ≤ m then ({ s with blocks := s.blocks.set n ⟨need, m⟩ }, o)
      else ({ s with bad := true }, o ++ [.crash "mem-block-overflow"])
  | .lexEnd => ({ s with blocks := Mem.fresh }, [])       -- blocks are freed; prolog allocates fresh ones
  | _ => (s, [])

/-! ## lexer stacks -/

structure Lex where
  incnum : Nat
  incDepth : Nat
  ifDepth : Nat
  fnCount : Nat        -- last_function_context + 1
  fnRefused : Nat      -- refused_function_contexts
  fnFlag : Bool        -- function_flag: the next identifier opens a functional
  bad : Bool
  deriving Repr

def Lex.init : Lex := ⟨0, 0, 0, 0, 0, false, false⟩

def incLimit : Nat := maxIncludeDepth - 1

def stepLex (s : Lex) (e : Ev) : Lex × List Out :=
  if s.bad then (s, []) else
  match e with
  | .incAttempt ok =>
    if maxIncludeDepth ≤ s.incnum + 1 then (s, [.ev "inc.refused" s.incnum maxIncludeDepth])
    else if ok then
      let s' := { s with incnum := s.incnum + 1, incDepth := s.incDepth + 1 }
      let o := [Out.ev "inc.push" s'.incDepth incLimit, .ev "inc.num" s'.incnum incLimit]
      if s'.incDepth ≤ incLimit then (s', o) else ({ s' with bad := true }, o ++ [.crash "include-depth-exceeded"])
    else (s, [.ev "inc.fail" s.incnum incLimit])
  | .incPop =>
    if s.incDepth = 0 then ({ s with bad := true }, [.crash "include-pop-empty"])
    else
      let s' := { s with incnum := s.incnum - 1, incDepth := s.incDepth - 1 }
      (s', [.ev "inc.pop" s'.incDepth incLimit, .ev "inc.num" s'.incnum incLimit])
  | .lexStart =>
    -- repaired code: start_new_file() also clears function_flag
    ({ s with incnum := 0, fnCount := 0, fnRefused := 0, fnFlag := false },
     [.ev "lex.start" s.incDepth incLimit, .ev "lex.start.if" s.ifDepth s.ifDepth, .ev "lex.start.fnflag" 0 0])
  | .fnFlagSet => ({ s with fnFlag := true }, [.ev "fnflag.set" 1 1])
  | .lexEnd =>
    ({ s with incDepth := 0, ifDepth := 0 }, [.ev "lex.end" s.incDepth incLimit, .ev "lex.end.if" s.ifDepth s.ifDepth])
  | .ifPush => let d := s.ifDepth + 1; ({ s with ifDepth := d }, [.ev "if.push" d d])
  | .ifPop =>
    if s.ifDepth = 0 then ({ s with bad := true }, [.crash "if-pop-empty"])
    else let d := s.ifDepth - 1; ({ s with ifDepth := d }, [.ev "if.pop" d d])
  | .ifUnwind => ({ s with ifDepth := 0 }, [.ev "if.unwind" 0 0])
  | .fnPush =>
    if s.fnCount = maxFunctionDepth then
      ({ s with fnRefused := s.fnRefused + 1 }, [.ev "fnctx.full" s.fnCount maxFunctionDepth])
    else
      -- writes function_context_stack[fnCount]
      let o := [Out.ev "fnctx.push" (s.fnCount + 1 : Nat) maxFunctionDepth]
      if s.fnCount < maxFunctionDepth then ({ s with fnCount := s.fnCount + 1 }, o)
      else ({ s with bad := true }, o ++ [.crash "function-context-stack-overflow"])
  | .fnPop =>
    let o := [Out.ev "fnctx.pop" ((s.fnCount : Int) - 1) maxFunctionDepth]
    if 0 < s.fnRefused then ({ s with fnRefused := s.fnRefused - 1 }, o)
    else if s.fnCount = 0 then ({ s with bad := true }, o ++ [.crash "function-context-stack-underflow"])
    else ({ s with fnCount := s.fnCount - 1 }, o)
  | _ => (s, [])

/-! ## scratchpad (lib/misc/scratchpad.c) -/

/-- one string on the pad: bytes [start, start+len) hold it (with its zero), byte start+len holds len -/
structure SEntry where
  start : Nat
  len : Nat
  deriving Repr, DecidableEq

structure Pad where
  entries : List SEntry     -- newest first
  large : Nat               -- malloc'ed blocks on scratch_head's list
  oob : Bool                -- an access outside scratchblock[] happened
  ill : Bool                -- an event the C callers cannot produce was seen (free of nothing ...): state frozen
  deriving Repr

def Pad.init : Pad := ⟨[], 0, false, false⟩

/-- offset of scr_last / scr_tail: &scratchblock[2] when the pad is empty -/
def Pad.last (p : Pad) : Nat := match p.entries with | [] => 2 | e :: _ => e.start
def Pad.tail (p : Pad) : Nat := match p.entries with | [] => 2 | e :: _ => e.start + e.len

def padLimit : Nat := scratchpadSize - 1

def Pad.out (p : Pad) (name : String) (k : Option Nat := none) : Out := .scr name p.tail padLimit p.last p.large k

def popK : Nat → List SEntry → List SEntry
  | 0, es => es
  | _ + 1, [] => []
  | k + 1, _ :: es => popK k es

def stepPad (p : Pad) (e : Ev) : Pad × List Out :=
  match e with
  | .scrDestroy => let q : Pad := ⟨[], 0, false, false⟩; (q, [q.out "scr.destroy"])
  | _ =>
  if p.oob ∨ p.ill then (p, []) else
  match e with
  | .scrAlloc len =>
    -- the guard all pad allocators share: the length fits its byte and string + length byte fit the pad
    if len ≤ 255 ∧ p.tail + 1 + len ≤ padLimit then
      let q := { p with entries := ⟨p.tail + 1, len⟩ :: p.entries }
      -- writes: the string at [start, start+len), its length byte at start+len
      if q.tail ≤ padLimit then (q, [q.out "scr.push"]) else ({ q with oob := true }, [q.out "scr.push", .crash "scratchpad-overflow"])
    else let q := { p with large := p.large + 1 }; (q, [q.out "scr.large"])
  | .scrLarge => let q := { p with large := p.large + 1 }; (q, [q.out "scr.large"])
  | .scrFreeLast k =>
    match p.entries with
    | [] => ({ p with ill := true }, [.crash "scratch_free_last on an empty pad"])
    | e :: rest =>
      -- reads scratchblock[e.start - 1] (length byte of the string below) and the first bytes of the strings passed
      let q := { p with entries := popK k rest }
      if 2 ≤ e.start - 1 ∧ 2 ≤ q.last then (q, [p.out "scr.free_last" (some k), q.out "scr.after"])
      else ({ q with oob := true }, [p.out "scr.free_last" (some k), .crash "scratchpad-underflow"])
  | .scrResize size =>
    match p.entries with
    | [] => ({ p with ill := true }, [.crash "scratch_realloc of nothing"])
    | e :: rest =>
      if size ≤ 255 ∧ e.start + size ≤ padLimit then
        let q := { p with entries := ⟨e.start, size⟩ :: rest }; (q, [q.out "scr.resize"])
      else ({ p with ill := true }, [.crash "scratch_realloc leaves the pad (not modelled)"])
  | .scrJoin =>
    match p.entries with
    | e2 :: e1 :: rest =>
      if e1.len + e2.len - 1 ≤ 255 ∧ 1 ≤ e1.len then
        let q := { p with entries := ⟨e1.start, e1.len + e2.len - 1⟩ :: rest }; (q, [q.out "scr.join"])
      else ({ p with ill := true }, [.crash "scratch_join leaves the pad (not modelled)"])
    | _ => ({ p with ill := true }, [.crash "scratch_join of less than two strings"])
  | .scrMark => (p, [p.out "scr.mark"])
  | .scrFreeBlock =>
    if p.large = 0 then ({ p with ill := true }, [.crash "scratch_free of a block that was not allocated"])
    else let q := { p with large := p.large - 1 }; (q, [q.out "scr.free_block"])
  | _ => (p, [])

def runPad (p : Pad) (es : List Ev) : Pad × List Out :=
  es.foldl (fun (acc : Pad × List Out) e => let r := stepPad acc.1 e; (r.1, acc.2 ++ r.2)) (p, [])

/-! ## the machines together -/

structure St where
  loc : Loc
  ids : Ids
  mem : Mem
  lex : Lex
  pad : Pad

def St.init (N : Nat) (P : Id → Bool := fun _ => false) : St := ⟨Loc.init N, Ids.init P, Mem.init, Lex.init, Pad.init⟩

def step (s : St) (e : Ev) : St × List Out :=
  let (loc', o1) := stepLoc s.loc e
  let (ids', o2) := stepIds s.loc loc' s.ids e
  let (mem', o3) := stepMem s.mem e
  let (lex', o4) := stepLex s.lex e
  let (pad', o5) := stepPad s.pad e
  -- end_new_file: the harness also reports the scratchpad, which scratch_destroy() must have emptied by then
  let o6 := match e with | .lexEnd => [Out.scrEnd pad'.last pad'.tail pad'.large] | _ => []
  (⟨loc', ids', mem', lex', pad'⟩, o1 ++ o3 ++ o4 ++ o2 ++ o5 ++ o6)

def run (s : St) : List Ev → St × List Out
  | [] => (s, [])
  | e :: es =>
    let (s1, o1) := step s e
    let (s2, o2) := run s1 es
    (s2, o1 ++ o2)

def runLoc (l : Loc) : List Ev → Loc × List Out
  | [] => (l, [])
  | e :: es =>
    let (l1, o1) := stepLoc l e
    let (l2, o2) := runLoc l1 es
    (l2, o1 ++ o2)

def runMem (s : Mem) (es : List Ev) : Mem := es.foldl (fun s e => (stepMem s e).1) s
def runLex (s : Lex) (es : List Ev) : Lex := es.foldl (fun s e => (stepLex s e).1) s

/-- locals + identifier machines only (used by `idents_restored`) -/
def stepLI (p : Loc × Ids) (e : Ev) : Loc × Ids :=
  let l' := (stepLoc p.1 e).1
  (l', (stepIds p.1 l' p.2 e).1)

def runLI (p : Loc × Ids) (es : List Ev) : Loc × Ids := es.foldl stepLI p

/-! ## yytext -/

/-- indices of yytext[] written while scanning one token: `pre` unguarded leading characters (identifier / number: 1,
    `$n`, hex, directive: 0), then `n` characters through SAVEC, which stops the scan with "Line too long" once
    `yyp < yytext + MAXLINE - 5` fails; the terminating `*yyp = 0` follows in either case -/
def scanFrom (yyp : Nat) : Nat → List Nat
  | 0 => [yyp]
  | n + 1 => if (yyp : Int) < savecBound then yyp :: scanFrom (yyp + 1) n else [yyp]

def scanWrites (pre n : Nat) : List Nat := List.range pre ++ scanFrom pre n

end NV.C02
