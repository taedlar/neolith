/-
C02 — the combined "compiler is reusable" statement over ALL machines of the model at once.

After ANY event stream (any source text, any error at any point, open / abandoned function literals, identifiers bound
in every name space, strings on the scratchpad, open includes and #ifs, open function contexts) the end-of-compile
sequence that both `epilog()` and `clean_parser()` run - clean_up_locals + free_unused_identifiers, scratch_destroy,
end_new_file - followed by the `start_new_file` of the next compilation leaves the compiler in its initial
configuration.  Only the allocation sizes of the locals tables may have grown (reallocate_locals never shrinks them),
`runtime_locals[]` keeps stale bytes that are never read before being written, and the list of permanent identifiers
the harness reports on keeps growing (bookkeeping of the observer, not of the compiler).
-/
import NV.C02.Props

namespace NV.C02

open NV.Gen.C02

/-- what `epilog()` / `clean_parser()` + `end_new_file()` do, and the start of the next compilation -/
def endOfCompile : List Ev := [.cleanup, .scrDestroy, .lexEnd, .lexStart]

/-- apart from `Ids` reading `Loc` (the two go together as `stepLI`) the machines do not look at each other: a step of
    the whole state is a step of each -/
theorem step_eq_machines (s : St) (e : Ev) : (step s e).1 =
    ⟨(stepLI (s.loc, s.ids) e).1, (stepLI (s.loc, s.ids) e).2, (stepMem s.mem e).1, (stepLex s.lex e).1,
     (stepPad s.pad e).1⟩ := by
  unfold step stepLI; rfl

theorem run_eq_machines : ∀ (es : List Ev) (s : St), (run s es).1 =
    ⟨(runLI (s.loc, s.ids) es).1, (runLI (s.loc, s.ids) es).2, runMem s.mem es, runLex s.lex es,
     es.foldl (fun q e => (stepPad q e).1) s.pad⟩
  | [], _ => rfl
  | e :: es, s => by
    simp only [run]
    rw [run_eq_machines es, step_eq_machines]
    rfl

/-- the three events behind `.cleanup` do not touch the locals / identifier machines -/
theorem stepLI_inert (p : Loc × Ids) (e : Ev) (h : e = .scrDestroy ∨ e = .lexEnd ∨ e = .lexStart) : stepLI p e = p := by
  obtain ⟨⟨N, ts, ls, tOff, lOff, cur, max, frames, lbad⟩, ⟨perm, live, refs, lnum, bnd, dirty, rt, perms, sbad⟩⟩ := p
  rcases h with rfl | rfl | rfl <;> cases lbad <;> cases sbad <;> rfl

theorem runLI_endOfCompile (p : Loc × Ids) (evs : List Ev) :
    runLI p (evs ++ endOfCompile) = runLI p (evs ++ [.cleanup]) := by
  simp only [endOfCompile, runLI, List.foldl_append, List.foldl_cons, List.foldl_nil]
  rw [stepLI_inert _ .scrDestroy (Or.inl rfl), stepLI_inert _ .lexEnd (Or.inr (Or.inl rfl)),
      stepLI_inert _ .lexStart (Or.inr (Or.inr rfl))]

/-- the end-of-compile sequence after any event stream from ANY state whose locals tables and identifiers are
    consistent: everything is as at the start of a compile, except the sizes of the locals tables -/
theorem endOfCompile_resets {s : St} (h : LIInv (s.loc, s.ids)) (evs : List Ev) :
    let t := (run s (evs ++ endOfCompile)).1
    t.loc.AtStart ∧ t.loc.N = s.loc.N ∧ t.ids.Blank ∧
    t.pad = Pad.init ∧
    (t.mem.bad = false → t.mem = Mem.init) ∧
    (t.lex.bad = false → t.lex = Lex.init) := by
  intro t
  have ht : t = _ := run_eq_machines (evs ++ endOfCompile) s
  have hLI := runLI_cleanup h evs
  rw [← runLI_endOfCompile] at hLI
  rw [ht]
  refine ⟨hLI.1, hLI.2.1, hLI.2.2, ?_, ?_, ?_⟩
  · -- scratch_destroy leaves a fresh pad whatever was on it, and the two lexer events pass it by
    show List.foldl _ _ (evs ++ endOfCompile) = Pad.init
    rw [List.foldl_append]
    rfl
  · show (runMem _ (evs ++ endOfCompile)).bad = false → runMem _ (evs ++ endOfCompile) = Mem.init
    simp only [runMem, List.foldl_append]
    generalize List.foldl (fun s e => (stepMem s e).1) s.mem evs = m
    obtain ⟨blocks, bad⟩ := m
    cases bad
    · exact fun _ => rfl
    · exact fun h => nomatch h
  · show (runLex _ (evs ++ endOfCompile)).bad = false → runLex _ (evs ++ endOfCompile) = Lex.init
    simp only [runLex, List.foldl_append]
    generalize List.foldl (fun s e => (stepLex s e).1) s.lex evs = x
    obtain ⟨incnum, incDepth, ifDepth, fnCount, fnRefused, fnFlag, bad⟩ := x
    cases bad
    · exact fun _ => rfl
    · exact fun h => nomatch h

/-- **compiler_state_reset** — reusability as a theorem.  For every MaxLocalVariables `N`, every set `P` of permanent
    identifiers and EVERY event stream `evs`, the state after `evs ++ endOfCompile` is the initial state:
    * locals tables: counts, cursors, open literals as in `Loc.init N` (sizes at least `N`), nothing crashed;
    * identifiers: every `sem_value`, `local_num`, function / global / class binding as in `Ids.init P`, dirty list and
      live entries empty;
    * scratchpad: equal to `Pad.init`;
    * mem blocks: equal to `Mem.init` (unless a request named a block that does not exist or carried a pair with `max_size` 0: `bad`);
    * lexer: equal to `Lex.init` (unless `bad`, e.g. the stream popped a stack that was empty). -/
theorem compiler_state_reset (N : Nat) (P : Id → Bool) (evs : List Ev) :
    let s := (run (St.init N P) (evs ++ endOfCompile)).1
    (s.loc.cur = 0 ∧ s.loc.max = 0 ∧ s.loc.lOff = 0 ∧ s.loc.tOff = 0 ∧ s.loc.frames = [] ∧ s.loc.N = N ∧ s.loc.bad = false) ∧
    (s.ids.bad = false ∧ s.ids.dirty = [] ∧ ∀ j, s.ids.refs j = 0 ∧ s.ids.lnum j = -1 ∧ ∀ k, s.ids.bnd k j = -1) ∧
    s.pad = Pad.init ∧
    (s.mem.bad = false → s.mem = Mem.init) ∧
    (s.lex.bad = false → s.lex = Lex.init) :=
  have ⟨l, hN, i, hothers⟩ := endOfCompile_resets (liInv_init N P) evs
  ⟨⟨l.cur, l.max, l.lOff, l.tOff, l.frames, hN, l.notBad⟩, ⟨i.notBad, i.dirty, i.all⟩, hothers⟩

-- non-vacuity: a compile that stops in the middle of everything
example :
    ((run (St.init 25 (fun j => j == "write"))
      ([.lexStart, .incAttempt true, .ifPush, .fnPush, .bind .glob "write" true 0 1, .addLocal "write" true 1, .enterLit,
        .addLocal "x" false 0, .scrAlloc 10, .memReq 0 5000 none])).1.loc.frames.length,
     (run (St.init 25 (fun j => j == "write"))
      ([.lexStart, .incAttempt true, .ifPush, .fnPush, .bind .glob "write" true 0 1, .addLocal "write" true 1, .enterLit,
        .addLocal "x" false 0, .scrAlloc 10, .memReq 0 5000 none])).1.pad.entries.length) = (1, 1) := by
  decide +kernel

end NV.C02
