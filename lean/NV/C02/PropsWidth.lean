/-
C02 — the 16-bit reference counter `sem_value` (ident_hash_elem_t, a `short`): how large can it get?

`sem_value_bounded_by_table`: for every source text, the number of references the compiler holds on ONE identifier is at
most the current size of the locals table plus the three name-space bindings.  `table_size_bounded_by_nesting`: the
table only grows when a function literal starts, and never beyond MaxLocalVariables * (deepest nesting of open literals
+ 2).  Every open literal keeps symbols on bison's stack (YYMAXDEPTH, regenerated as `yyMaxDepth`), so the nesting is
bounded by the parser; `sem_value_fits_short` puts the two together for the default configuration.
-/
import NV.C02.Idents

namespace NV.C02

open NV.Gen.C02

/-- in any consistent state: references = entries of locals[] naming `j` (at most all live entries, which fit the
    table) + at most 3 bindings -/
theorem refs_bounded {p : Loc × Ids} (h : LIInv p) (j : Id) : 0 ≤ p.2.refs j ∧ p.2.refs j ≤ (p.1.lsize : Int) + 3 := by
  obtain ⟨hL, hI, hlen⟩ := h
  have hr := hI.refs j
  have hc : p.2.live.count j ≤ p.2.live.length := List.count_le_length
  have hfit := hL.fit
  have hb := bsum_bounds p.2 j
  omega

/-- **sem_value_bounded_by_table** — after ANY event stream, for every identifier: `0 ≤ sem_value - initial value ≤
    locals_size + 3`. -/
theorem sem_value_bounded_by_table (N : Nat) (P : Id → Bool) (evs : List Ev) (j : Id) :
    0 ≤ (runLI (Loc.init N, Ids.init P) evs).2.refs j ∧
    (runLI (Loc.init N, Ids.init P) evs).2.refs j ≤ ((runLI (Loc.init N, Ids.init P) evs).1.lsize : Int) + 3 :=
  refs_bounded (runLI_inv evs (liInv_init N P)).1 j

/-- start offsets of the open literals are bounded by MaxLocalVariables per level below them -/
def Depth (N : Nat) : List Frame → Prop
  | [] => True
  | f :: rest => f.to ≤ N * rest.length ∧ Depth N rest

theorem depth_drop {N : Nat} {f : Frame} {below : List Frame} : ∀ {d : Nat} {fs : List Frame},
    Depth N fs → fs.drop d = f :: below → Depth N (f :: below)
  | 0, _, h, hd => hd ▸ h
  | d + 1, _ :: _, h, hd => depth_drop (d := d) h.2 hd

structure SizeInv (D : Nat) (l : Loc) : Prop where
  ts : l.tsize ≤ l.N * (D + 2)
  off : l.tOff ≤ l.N * l.frames.length
  dep : Depth l.N l.frames

/-- every state of the run has at most `D` open function literals -/
def depthOk (D : Nat) : Loc → List Ev → Prop
  | l, [] => l.frames.length ≤ D
  | l, e :: es => l.frames.length ≤ D ∧ depthOk D (stepLoc l e).1 es

/-- a table that has to grow was full up to the current window: its new size is within the bound one level deeper -/
theorem grow_bound {N D len ts tOff max : Nat} (hoff : tOff ≤ N * len) (hmax : max ≤ N) (hlen : len + 1 ≤ D)
    (hg : ts ≤ tOff + max + N) : ts + N ≤ N * (D + 2) :=
  calc ts + N ≤ N * len + N + N + N := by omega
    _ = N * (len + 3) := by rw [Nat.mul_add, Nat.mul_comm N 3]; omega
    _ ≤ N * (D + 2) := Nat.mul_le_mul_left _ (by omega)

theorem sizeInv_next (D : Nat) (l : Loc) (e : Ev) (hL : LocInv l) (hS : SizeInv D l)
    (hD' : (l.next e).frames.length ≤ D) : SizeInv D (l.next e) := by
  obtain ⟨N, ts, ls, tOff, lOff, cur, max, frames, bad⟩ := l
  have ⟨hts, hoff, hdep⟩ := hS
  simp only at hts hoff hdep
  have hmax : max ≤ N := hL.maxN
  unfold Loc.next at hD' ⊢
  cases e with
  | addLocal _ _ _ => dsimp only; split <;> exact ⟨hts, hoff, hdep⟩
  | popN _ | freeAll => exact ⟨hts, hoff, hdep⟩
  | enterLit =>
    -- one level deeper; the window that is left becomes the innermost block
    refine ⟨?_, ?_, hoff, hdep⟩
    · show (if ts ≤ tOff + max + N then ts + N else ts) ≤ N * (D + 2)
      split
      · exact grow_bound hoff hmax hD' ‹_›
      · exact hts
    · show tOff + max ≤ N * (frames.length + 1)
      rw [Nat.mul_succ]; exact Nat.add_le_add hoff hmax
  | leaveLit d =>
    -- back to the start offset of a block that was within the bound of its level
    dsimp only
    split
    · exact hS
    · rename_i f rest hdrop
      have hdd := depth_drop hdep hdrop
      exact ⟨hts, hdd.1, hdd.2⟩
  | fnReset | cleanup => exact ⟨hts, Nat.zero_le _, trivial⟩
  | _ => exact hS

/-- **table_size_bounded_by_nesting** — for every event stream in which at most `D` function literals are open at any
    time, the locals tables never grow beyond `MaxLocalVariables * (D + 2)` entries. -/
theorem table_size_bounded_by_nesting (N D : Nat) : ∀ (evs : List Ev) (l : Loc), LocInv l → SizeInv D l → l.N = N →
    depthOk D l evs → (runLoc l evs).1.tsize ≤ N * (D + 2) ∧ (runLoc l evs).1.lsize ≤ N * (D + 2)
  | [], l, hL, hS, hN, _ => hN ▸ ⟨hS.ts, hL.sizes ▸ hS.ts⟩
  | e :: es, l, hL, hS, hN, hd => by
    have hd2 : depthOk D (stepLoc l e).1 es := hd.2
    have hlen : (stepLoc l e).1.frames.length ≤ D := by
      cases es with
      | nil => exact hd2
      | cons _ _ => exact hd2.1
    rw [(stepLoc_ok hL e).1] at hd2 hlen
    have := table_size_bounded_by_nesting N D es _ (locInv_next hL e) (sizeInv_next D l e hL hS hlen)
      ((l.next_N e).trans hN) hd2
    simp only [runLoc]
    rw [(stepLoc_ok hL e).1]
    exact this

theorem sizeInv_init (N D : Nat) : SizeInv D (Loc.init N) :=
  ⟨by simp only [Loc.init]; exact Nat.le_mul_of_pos_right _ (by omega), by simp [Loc.init], by simp [Loc.init, Depth]⟩

/-- **sem_value_fits_short** — the default configuration: with at most `yyMaxDepth` (YYMAXDEPTH) function literals open,
    `locals_size + 3` stays below 32767, so by `sem_value_bounded_by_table` no identifier's 16-bit `sem_value` can wrap. -/
theorem sem_value_fits_short (evs : List Ev) (hd : depthOk yyMaxDepth (Loc.init defaultMaxLocals) evs) :
    (runLoc (Loc.init defaultMaxLocals) evs).1.lsize + 3 ≤ 32767 := by
  have h := (table_size_bounded_by_nesting defaultMaxLocals yyMaxDepth evs (Loc.init defaultMaxLocals)
    (locInv_init _) (sizeInv_init _ _) rfl hd).2
  have c : defaultMaxLocals * (yyMaxDepth + 2) + 3 ≤ 32767 := by decide
  omega

example : depthOk 1 (Loc.init 25) [.addLocal "a" false 0, .enterLit, .leaveLit 0] := by
  simp only [depthOk]; decide

end NV.C02
