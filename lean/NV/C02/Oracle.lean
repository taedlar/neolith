/-
C02 — the trace oracle `okOut` on lists of trace lines and on an ordinary trace point; used by every proof that the
trace of a machine passes.
-/
import NV.C02.Spec

namespace NV.C02

theorem ok_nil : ∀ o ∈ ([] : List Out), okOut o = true := List.forall_mem_nil _

theorem ok_cons {a : Out} {os : List Out} (ha : okOut a = true) (h : ∀ o ∈ os, okOut o = true) :
    ∀ o ∈ a :: os, okOut o = true := List.forall_mem_cons.mpr ⟨ha, h⟩

theorem ok_append {os os' : List Out} (h : ∀ o ∈ os, okOut o = true) (h' : ∀ o ∈ os', okOut o = true) :
    ∀ o ∈ os ++ os', okOut o = true := List.forall_mem_append.mpr ⟨h, h'⟩

/-- an ordinary trace point (neither the `mem.req` line nor an `add_input` request, whose pairs are not cursor / size
    pairs) passes when its cursor lies inside the allocation.  The name hypothesis is closed by `simp`, which finds a
    differing character; evaluating the string comparison of `okOut` itself is many times dearer. -/
theorem okOut_ev {name : String} {c s : Nat}
    (hn : name ≠ "mem.req" ∧ name ≠ "lbuf.add.req" ∧ name ≠ "lbuf.add.req.a") (h : c ≤ s) :
    okOut (.ev name c s) = true := by
  have h1 : exemptName name = false := beq_false_of_ne hn.1
  have h2 : addReqName name = false := by
    unfold addReqName; rw [beq_false_of_ne hn.2.1, beq_false_of_ne hn.2.2]; rfl
  unfold okOut
  dsimp only
  rw [h1, h2]
  exact decide_eq_true ⟨Int.natCast_nonneg c, Int.ofNat_le.mpr h⟩

end NV.C02
