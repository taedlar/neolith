/-
C02 — `mem_block[]`: the doubling loop of realloc_mem_block reaches every requested size.
-/
import NV.C02.Model
import NV.C02.Spec

namespace NV.C02

open NV.Gen.C02

/-- doubling a positive size `f` times from `m` reaches `need` whenever `need ≤ m + f` -/
theorem growTo_ge : ∀ (f m need : Nat), 0 < m → need ≤ m + f → need ≤ growTo m need f
  | 0, _, _, _, h => h
  | f + 1, m, need, hm, h => by
    unfold growTo
    split
    · exact growTo_ge f (2 * m) need (by omega) (by omega)
    · omega

theorem le_growTo : ∀ (f m need : Nat), m ≤ growTo m need f
  | 0, _, _ => Nat.le_refl _
  | f + 1, m, need => by
    unfold growTo
    split
    · exact Nat.le_trans (by omega) (le_growTo f (2 * m) need)
    · exact Nat.le_refl _

/-- the fuel the model gives the doubling loop (`need`) suffices: from a positive size it ends at or above both the
    need and the old size -/
theorem growTo_fuel {m : Nat} (hm : 0 < m) (need : Nat) : need ≤ growTo m need need ∧ m ≤ growTo m need need :=
  ⟨growTo_ge need m need hm (Nat.le_add_left ..), le_growTo ..⟩

/-- a mem_block whose `current_size` lies within a non-zero `max_size` (zero would never double up to a need) -/
def BlkOk (b : Blk) : Prop := b.cur ≤ b.max ∧ 0 < b.max

/-- well-formedness of a request as the judge checks it on the real values: an existing block, and a consistent
    (current_size, max_size) pair found in it -/
def reqOk : Ev → Prop
  | .memReq n _ (some (c, m)) => n < numAreas ∧ c ≤ m ∧ 0 < m
  | .memReq n _ none => n < numAreas
  | _ => True

/-- all `numAreas` mem_blocks of the compiler exist and each is consistent -/
structure MemInv (s : Mem) : Prop where
  notBad : s.bad = false
  len : s.blocks.length = numAreas
  ok : ∀ b ∈ s.blocks, BlkOk b

theorem fresh_ok : ∀ b ∈ Mem.fresh, BlkOk b := fun b hb => by
  rw [(List.mem_replicate.mp hb).2]
  exact ⟨Nat.zero_le _, by decide⟩

theorem memInv_init : MemInv Mem.init := ⟨rfl, List.length_replicate .., fresh_ok⟩

/-- a request served from a consistent pair `b` leaves a consistent block: the doubling loop reaches the need -/
theorem alloc_ok {b : Blk} (hb : BlkOk b) (size : Nat) :
    BlkOk ⟨b.cur + size, growTo b.max (b.cur + size) (b.cur + size)⟩ :=
  have ⟨h1, h2⟩ := growTo_fuel hb.2 (b.cur + size)
  ⟨h1, Nat.lt_of_lt_of_le hb.2 h2⟩

theorem stepMem_inv (s : Mem) (e : Ev) (h : MemInv s) (hr : reqOk e) : MemInv (stepMem s e).1 := by
  obtain ⟨blocks, bad⟩ := s
  obtain ⟨hb, hlen, hok⟩ := h
  simp only at hb hlen hok
  subst hb
  cases e with
  | memReq n size sync =>
    have fin : ∀ {b : Blk}, BlkOk b → MemInv ⟨blocks.set n ⟨b.cur + size, growTo b.max (b.cur + size) (b.cur + size)⟩, false⟩ :=
      fun hb => ⟨rfl, (List.length_set ..).trans hlen, fun x hx =>
        (List.mem_or_eq_of_mem_set hx).elim (hok x) (fun hx => hx ▸ alloc_ok hb size)⟩
    cases sync with
    | none =>
      have hn : n < blocks.length := hlen ▸ hr
      have hbn := hok _ (List.getElem_mem hn)
      simp only [stepMem, Bool.false_eq_true, if_false, List.getElem?_eq_getElem hn, (alloc_ok hbn size).1, if_true]
      exact fin hbn
    | some p =>
      have hn : n < blocks.length := hlen ▸ hr.1
      have hbp : BlkOk ⟨p.1, p.2⟩ := hr.2
      simp only [stepMem, Bool.false_eq_true, if_false, List.getElem?_eq_getElem hn, (alloc_ok hbp size).1, if_true]
      exact fin hbp
  | lexEnd => exact memInv_init
  | _ => exact ⟨rfl, hlen, hok⟩

theorem runMem_inv (evs : List Ev) (s : Mem) (h : MemInv s) (hr : ∀ e ∈ evs, reqOk e) : MemInv (runMem s evs) :=
  List.foldlRecOn evs _ h fun s hs e he => stepMem_inv s e hs (hr e he)

end NV.C02
