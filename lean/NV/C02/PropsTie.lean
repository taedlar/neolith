/-
C02 — bridging lemmas between the hand-written steps of `stepLoc` (Model.lean) and the definitions REGENERATED from the
action text of grammar.y (function literal start / end) and from compiler.c (add_local_name, reallocate_locals):
which cursor guards `reallocate_locals()`, which counter moves which pointer, the statement order, the index of each
table store, the growth of each table, the width of the counters kept on bison's stack.  A changed guard / operand /
order in the source changes the generated definition and these lemmas stop being provable (obligation broken).
-/
import NV.C02.Locals

namespace NV.C02

open NV.Gen.C02

/-- **literal_enter_matches_source** — the model's `enterLit` step is the grammar's action: the regenerated test decides
    whether the tables grow (by the regenerated amounts, all three tables together), the pointers move by the
    regenerated counters, the saved block is (num_local, max_num_locals, locals_off, type_off) and the statements
    stand in the modelled order. -/
theorem literal_enter_matches_source (l : Loc) (hb : l.bad = false) :
    enterOrderOk = true ∧ rtFollowsNames = true ∧
    (stepLoc l .enterLit).1.tsize =
      (if reallocTest l.tOff l.lOff l.cur l.max l.N l.tsize l.lsize then l.tsize + reallocGrowType l.N else l.tsize) ∧
    (stepLoc l .enterLit).1.lsize =
      (if reallocTest l.tOff l.lOff l.cur l.max l.N l.tsize l.lsize then l.lsize + reallocGrowName l.N else l.lsize) ∧
    ((stepLoc l .enterLit).1.bad = false →
      (stepLoc l .enterLit).1.lOff = l.lOff + enterNameAdv l.cur l.max ∧
      (stepLoc l .enterLit).1.lOff = l.lOff + enterRtAdv l.cur l.max ∧
      (stepLoc l .enterLit).1.tOff = l.tOff + enterTypeAdv l.cur l.max ∧
      (stepLoc l .enterLit).1.cur = 0 ∧ (stepLoc l .enterLit).1.max = 0 ∧
      (stepLoc l .enterLit).1.frames = ⟨l.cur, l.max, l.lOff, l.tOff⟩ :: l.frames) := by
  obtain ⟨N, ts, ls, tOff, lOff, cur, max, frames, bad⟩ := l
  simp only at hb
  subst hb
  have hg : (reallocTest tOff lOff cur max N ts ls = true) = (ts ≤ tOff + max + N) := by
    simp only [reallocTest, Nat.zero_add, ge_iff_le, decide_eq_true_eq]
  simp only [hg, reallocGrowType, reallocGrowName, enterNameAdv, enterRtAdv, enterTypeAdv]
  refine ⟨rfl, rfl, ?_⟩
  unfold stepLoc
  rw [if_neg Bool.false_ne_true]
  dsimp only
  by_cases h1 : ts ≤ tOff + max + N <;> simp only [h1, if_true, if_false] <;> split <;>
    simp only [Loc.crash, Bool.true_eq_false, false_imp_iff, imp_self, and_self]

/-- **add_local_matches_source** — add_local_name: the regenerated limit test is the model's `N ≤ max`, the type store
    goes to index max_num_locals and the name store to index current_number_of_locals of the current windows. -/
theorem add_local_matches_source (l : Loc) (id : Id) (p : Bool) (s0 : Int) (hb : l.bad = false) :
    (localFullTest l.cur l.max l.N = true → (stepLoc l (.addLocal id p s0)).1 = l) ∧
    (localFullTest l.cur l.max l.N = false →
      (stepLoc l (.addLocal id p s0)).2.take 2 =
        [Out.ev "local.type" ((l.tOff + addTypeIdx l.cur l.max + 1 : Nat) : Int) l.tsize,
         Out.ev "local.name" ((l.lOff + addNameIdx l.cur l.max + 1 : Nat) : Int) l.lsize]) := by
  obtain ⟨N, ts, ls, tOff, lOff, cur, max, frames, bad⟩ := l
  simp only at hb
  subst hb
  unfold stepLoc
  rw [if_neg Bool.false_ne_true]
  simp only [localFullTest, ge_iff_le, decide_eq_true_eq, decide_eq_false_iff_not, addTypeIdx, addNameIdx]
  refine ⟨fun h => by rw [if_pos h], fun h => ?_⟩
  rw [if_neg h]
  split <;> rfl

/-- **literal_leave_matches_source** — the end-of-literal action restores every cursor from the field of the saved block
    the model uses, releases abandoned entries down to `locals_off + num_local`, in the modelled order. -/
theorem literal_leave_matches_source :
    leaveOrderOk = true ∧ ∀ c m lo to : Nat,
      leaveCur c m lo to = c ∧ leaveMax c m lo to = m ∧ leaveNameOff c m lo to = lo ∧ leaveTypeOff c m lo to = to ∧
      leaveRtOff c m lo to = lo ∧ leaveReleaseTo c m lo to = lo + c :=
  ⟨by decide, fun _ _ _ _ => ⟨rfl, rfl, rfl, rfl, rfl, rfl⟩⟩

/-- **counters_fit_their_fields** — widths.  Whatever the source text does, the two counts the grammar saves in
    `$<func_block>` for every open function literal and the local numbers parked in `runtime_locals[]` never exceed
    MaxLocalVariables; so they fit their C types (regenerated: `fbNumLocalMax`, `fbMaxNumLocalsMax`, `rtLocalNumMax`)
    for every configuration `N` up to those limits - in particular for the default and for values above 127. -/
theorem counters_fit_their_fields (N : Nat) (evs : List Ev)
    (h1 : N ≤ fbNumLocalMax) (h2 : N ≤ fbMaxNumLocalsMax) (h3 : N ≤ rtLocalNumMax + 1) :
    let l := (runLoc (Loc.init N) evs).1
    (∀ f ∈ l.frames, f.c ≤ fbNumLocalMax ∧ f.m ≤ fbMaxNumLocalsMax) ∧ l.cur ≤ l.max ∧ l.max ≤ rtLocalNumMax + 1 := by
  intro l
  have hl : l = evs.foldl Loc.next (Loc.init N) := (runLoc_ok evs (locInv_init N)).1
  have h : LocInv l := hl ▸ locInv_foldl evs (locInv_init N)
  have hN : l.N = N := hl ▸ foldl_next_N evs _
  refine ⟨fun f hf => ?_, h.curMax, Nat.le_trans (hN ▸ h.maxN) h3⟩
  obtain ⟨hc, hm⟩ := chain_mem_counts h.chain f hf
  rw [hN] at hm
  exact ⟨Nat.le_trans hc (Nat.le_trans hm h1), Nat.le_trans hm h2⟩

/-- the default configuration and a configuration of 200 locals are inside the limits of `counters_fit_their_fields` -/
theorem default_locals_fit : defaultMaxLocals ≤ fbNumLocalMax ∧ defaultMaxLocals ≤ fbMaxNumLocalsMax ∧
    defaultMaxLocals ≤ rtLocalNumMax + 1 ∧ 200 ≤ fbNumLocalMax ∧ 200 ≤ rtLocalNumMax + 1 := by decide

example : ((runLoc (Loc.init 200) ((List.replicate 130 (Ev.addLocal "x" false 0)) ++ [.enterLit])).1.frames.map (·.c)) = [130] := by
  decide +kernel

end NV.C02
