/-
C02 — property theorems (PARTIAL property: they cover the compiler's bookkeeping, see notes/C02.md).
All statements quantify over ALL event sequences of the model (no bound on length, nesting depth, number of locals,
number of error-abandoned function literals) and over every value of MaxLocalVariables.
-/
import NV.C02.Idents
import NV.C02.Blocks
import NV.C02.Lexer
import NV.C02.Scratchpad

namespace NV.C02

open NV.Gen.C02

/-- **table_writes_in_bounds** — whatever sequence of declarations, block ends, function-literal starts / ends
    (including ends that skip literals abandoned by bison's error recovery), argument-type copies and cleanups the
    parser performs, no access to `locals[]`, `type_of_locals[]` or `runtime_locals[]` leaves its current allocation:
    the model's explicit bounds checks never fire (`bad` stays false, no `crash` output). -/
theorem table_writes_in_bounds (N : Nat) (evs : List Ev) :
    (runLoc (Loc.init N) evs).1.bad = false ∧ ∀ w, Out.crash w ∉ (runLoc (Loc.init N) evs).2 := by
  obtain ⟨h1, h2⟩ := runLoc_ok evs (locInv_init N)
  exact ⟨h1 ▸ (locInv_foldl evs (locInv_init N)).notBad, fun w hw => Bool.false_ne_true (h2 _ hw)⟩

example : (runLoc (Loc.init 25) [.addLocal "a" false 0, .enterLit, .addLocal "b" false 0, .freeAll, .leaveLit 0]).1.cur = 1 := by
  decide

/-- **table_cursors_in_allocation** — the same fact in the vocabulary of the oracle: on every trace the model can emit
    for the locals tables, the specification oracle `judgeEv` (the function that also judges the real driver's
    traces) finds nothing: every (cursor, size) pair has 0 ≤ cursor ≤ size. -/
theorem table_cursors_in_allocation (N : Nat) (evs : List Ev) :
    judgeEv (runLoc (Loc.init N) evs).2 = [] := by
  simp only [judgeEv, List.map_eq_nil_iff, List.filter_eq_nil_iff, Bool.not_eq_true', Bool.not_eq_false]
  exact (runLoc_ok evs (locInv_init N)).2

example : judgeEv [Out.ev "local.name" 26 25] ≠ [] := by decide +kernel

/-- **mem_block_fits** — for every sequence of allocation requests against existing blocks (each carrying a consistent
    `(current_size, max_size)` pair where other code moved `current_size`), after the doubling loop of
    `realloc_mem_block` every block satisfies `current_size ≤ max_size` and `max_size > 0`, and the model's overflow
    check never fires. -/
theorem mem_block_fits (evs : List Ev) (h : ∀ e ∈ evs, reqOk e) :
    (runMem Mem.init evs).bad = false ∧ ∀ b ∈ (runMem Mem.init evs).blocks, b.cur ≤ b.max ∧ 0 < b.max := by
  have := runMem_inv evs Mem.init memInv_init h
  exact ⟨this.notBad, this.ok⟩

example : (runMem Mem.init [.memReq 0 (startBlockSize + 1) none, .memReq 0 startBlockSize none]).blocks[0]? =
    some ⟨2 * startBlockSize + 1, 4 * startBlockSize⟩ := by decide

/-- **include_depth_bounded** — within one compilation (no `start_new_file` in between) the include stack never gets
    deeper than `MAX_INCLUDE_DEPTH - 1`, whatever mix of successful, failing and refused `#include`s and ends of
    include files occurs.  (`IncInv`: real depth ≤ incnum ≤ MAX_INCLUDE_DEPTH - 1; it holds right after
    `start_new_file`, see `include_stack_empty_after_end`.) -/
theorem include_depth_bounded (s : Lex) (evs : List Ev) (h : IncInv s) (hns : ∀ e ∈ evs, e ≠ .lexStart) :
    (runLex s evs).incDepth ≤ maxIncludeDepth - 1 := by
  have := runLex_inc evs s h hns
  unfold IncInv incLimit at this
  omega

set_option maxRecDepth 20000 in
example : (runLex Lex.init ((List.replicate (maxIncludeDepth + 8) (Ev.incAttempt false)) ++
    List.replicate (maxIncludeDepth + 8) (Ev.incAttempt true))).incDepth = maxIncludeDepth - 1 := by
  decide +kernel

/-- **include_stack_empty_after_end** — `end_new_file` empties the include and #if stacks and the following
    `start_new_file` re-establishes the hypothesis of `include_depth_bounded`. -/
theorem include_stack_empty_after_end (s : Lex) (hb : s.bad = false) :
    (stepLex s .lexEnd).1.incDepth = 0 ∧ (stepLex s .lexEnd).1.ifDepth = 0 ∧
    IncInv (stepLex (stepLex s .lexEnd).1 .lexStart).1 := by
  obtain ⟨incnum, incDepth, ifDepth, fnCount, fnRefused, fnFlag, bad⟩ := s
  cases hb
  exact ⟨rfl, rfl, Nat.le_refl _, Nat.zero_le _⟩

/-- **lexer_flag_clear_after_start** — whatever the lexer's `function_flag` was left at by the previous compilation
    (e.g. a file ending right after `(: name`), the first token of the next file is lexed with the flag clear. -/
theorem lexer_flag_clear_after_start (s : Lex) (evs : List Ev) (hb : (runLex s evs).bad = false) :
    (stepLex (runLex s evs) .lexStart).1.fnFlag = false := by
  unfold stepLex
  rw [if_neg (hb ▸ Bool.false_ne_true)]

example : (runLex Lex.init [.lexStart, .fnFlagSet, .lexEnd]).fnFlag = true := by decide

/-- **yytext_in_bounds** — every write into `yytext[MAXLINE]` made while scanning a token of any length (the at most
    one unguarded leading character, the characters stored through SAVEC, and the terminating NUL written after the
    loop or after "Line too long") has an index below MAXLINE.  The bound used is the weakest SAVEC-style guard found in
    lex.c (regenerated `savecBound`). -/
theorem yytext_in_bounds (pre n : Nat) (hpre : pre ≤ 1) : ∀ i ∈ scanWrites pre n, i < maxline := by
  intro i hi
  have hb := savecBound_lt_maxline
  rcases List.mem_append.mp hi with hi | hi
  · have := List.mem_range.mp hi
    omega
  · have := scanFrom_le n pre i hi
    omega

example : scanWrites 1 3 = [0, 1, 2, 3, 4] := by decide
example : scanFrom savecBound.toNat 7 = [savecBound.toNat] ∧ scanFrom (savecBound.toNat - 1) 7 = [savecBound.toNat - 1, savecBound.toNat] := by
  decide

/-- **scratch_writes_in_bounds** — whatever sequence of scratchpad operations the lexer and the grammar perform
    (strings pushed by scratch_copy / scratch_alloc / scratch_copy_string / the string scanner, frees of the last
    string with any number of already freed strings below it, reallocs, joins, interior frees, malloc'ed blocks,
    destroys), the pad cursors stay inside `scratchblock[SCRATCHPAD_SIZE]`: `2 ≤ scr_last ≤ scr_tail ≤ SIZE - 1` (the
    length byte is written at `scr_tail`), the strings stay stacked without gaps, and the model's bounds checks
    never fire.  As the statement holds for every event list, it holds after every prefix, i.e. at every step. -/
theorem scratch_writes_in_bounds (evs : List Ev) :
    let p := (runPad Pad.init evs).1
    p.oob = false ∧ 2 ≤ p.last ∧ p.last ≤ p.tail ∧ p.tail ≤ scratchpadSize - 1 := by
  intro p
  have h : PadInv (runPad Pad.init evs).1 := by rw [runPad_fst]; exact runPad_inv evs Pad.init padInv_init
  exact ⟨h.noOob, h.cursors⟩

example : (runPad Pad.init [.scrAlloc 5, .scrAlloc 200, .scrAlloc 300, .scrFreeLast 0, .scrAlloc 3]).1.tail = 12
    ∧ (runPad Pad.init [.scrAlloc 5, .scrAlloc 200, .scrAlloc 300]).1.large = 1 := by decide

/-- **scratch_empty_after_destroy** — `scratch_destroy()` (run by epilog and clean_parser) leaves the scratchpad in
    its initial state, whatever was on it: no strings, no malloc'ed blocks, cursors at `&scratchblock[2]`. -/
theorem scratch_empty_after_destroy (evs : List Ev) :
    (runPad Pad.init (evs ++ [.scrDestroy])).1 = Pad.init := by
  rw [runPad_fst, List.foldl_append]
  rfl

/-- **idents_restored** — the "compiler stays reusable" clause at model level, for every name space of every
    identifier.  After the end-of-compile cleanup (`clean_up_locals()` + `free_unused_identifiers()`, which both `epilog`
    and `clean_parser` run), whatever events preceded it — any mix of local declarations, function / global variable /
    class definitions under the same name (also names of efuns and simul efuns, `P` = the permanent identifiers), any
    prefix of a function parsed before an error, any number of open or abandoned function literals — every identifier
    has `sem_value` back at its initial value and no local, function, global-variable or class binding left, the
    dirty list is empty, and no access went outside the tables on the way. -/
theorem idents_restored (N : Nat) (P : Id → Bool) (evs : List Ev) :
    let p := runLI (Loc.init N, Ids.init P) (evs ++ [.cleanup])
    p.1.bad = false ∧ p.2.bad = false ∧ p.2.dirty = [] ∧
    ∀ j, p.2.refs j = 0 ∧ p.2.lnum j = -1 ∧ ∀ k, p.2.bnd k j = -1 := by
  intro p
  obtain ⟨hl, -, hi⟩ := runLI_cleanup (liInv_init N P) evs
  exact ⟨hl.notBad, hi.notBad, hi.dirty, hi.all⟩

example :
    let p := runLI (Loc.init 25, Ids.init (fun j => j == "write"))
      [.bind .glob "write" true 0 1, .bind .fn "write" true 0 2, .addLocal "write" true 3]
    p.2.refs "write" = 3 ∧ p.2.bnd .glob "write" = 0 ∧ p.2.bnd .fn "write" = 0 ∧ p.2.dirty = ["write"] := by decide +kernel

/-- **locals_reset_after_cleanup** — after `clean_up_locals()` the cursors of the locals tables are back at the
    start of the tables and no function literal is open, for every preceding event sequence. -/
theorem locals_reset_after_cleanup (N : Nat) (evs : List Ev) :
    let l := (runLoc (Loc.init N) (evs ++ [.cleanup])).1
    l.cur = 0 ∧ l.max = 0 ∧ l.lOff = 0 ∧ l.tOff = 0 ∧ l.frames = [] ∧ l.N = N := by
  intro l
  have hl : l = (evs.foldl Loc.next (Loc.init N)).next .cleanup := by
    exact (runLoc_ok _ (locInv_init N)).1.trans (List.foldl_append ..)
  rw [hl]
  exact ⟨rfl, rfl, rfl, rfl, rfl, (Loc.next_N ..).trans (foldl_next_N ..)⟩

/-! ## the oracle rejects what it should (negative examples, one group per clause of `judge` / `judgeEv`) -/

-- cursor / allocation clause
example : judgeEv [Out.ev "local.type" 51 50] ≠ [] := by decide +kernel
example : judgeEv [Out.ev "local.pop" (-1) 25] ≠ [] := by decide +kernel
example : judgeEv [Out.ev "inc.push" 32 31] ≠ [] := by decide +kernel
example : judgeEv [Out.ev "mem.alloc" 4097 4096] ≠ [] := by decide +kernel
example : judgeEv [Out.ev "mem.req" numAreas 8] ≠ [] := by decide +kernel      -- block number outside NUMAREAS
example : judgeEv [Out.ev "lex.start.fnflag" 1 0] ≠ [] := by decide +kernel    -- function_flag leaked into the next file
example : judgeEv [Out.ev "fnctx.pop" (-1) 10] ≠ [] := by decide +kernel
-- identifier clauses
example : judgeEv [Out.identEnd "write" 1 (-1) (-1) (-1) (-1)] ≠ [] := by decide
example : judgeEv [Out.identEnd "write" 0 (-1) 0 (-1) (-1)] ≠ [] := by decide      -- stale global_num
example : judgeEv [Out.identEnd "time" 0 (-1) (-1) 2 (-1)] ≠ [] := by decide       -- stale class_num
example : judgeEv [Out.identEnd "time" 0 (-1) (-1) (-1) 3] ≠ [] := by decide       -- stale local_num
example : judgeEv [Out.identEnd "time" (-1) (-1) (-1) (-1) (-1)] ≠ [] := by decide -- sem_value dropped
example : judgeEv [Out.identClean "write" 1] ≠ [] := by decide
example : judgeEv [Out.identBind "fn" (-1) 1 "f" false (-1) 0] ≠ [] := by decide
example : judgeEv [Out.ident (-1) 1 "x" false (-1) 0] ≠ [] := by decide
-- locals reset clause
example : judgeEv [Out.localsEnd 1 1 0 0] ≠ [] := by decide
example : judgeEv [Out.localsEnd 0 0 3 0] ≠ [] := by decide
example : judgeEv [Out.localsEnd 0 0 0 7] ≠ [] := by decide
-- scratchpad clause
example : judgeEv [Out.scr "scr.push" 4096 4095 4000 0 none] ≠ [] := by decide    -- length byte outside the pad
example : judgeEv [Out.scr "scr.after" 1 4095 1 0 none] ≠ [] := by decide         -- walked below &scratchblock[2]
example : judgeEv [Out.scr "scr.after" 5 4095 9 0 none] ≠ [] := by decide         -- last above tail
example : judgeEv [Out.scrEnd 3 9 0] ≠ [] := by decide                           -- strings left on the pad after the compile
example : judgeEv [Out.scrEnd 2 2 1] ≠ [] := by decide                           -- malloc'ed block leaked
-- crash clause
example : judgeEv [Out.crash "anything"] ≠ [] := by decide
-- whole-trace clauses
example : judge [.result ["none"]] ≠ [] := by decide +kernel
example : judge [.crashLine "crash timeout"] ≠ [] := by decide
example : judge [.crashLine "sanitizer ERROR: AddressSanitizer: heap-buffer-overflow"] ≠ [] := by decide
-- (the probe clauses compare strings; they are checked by evaluation, `decide` does not reduce String.startsWith)
#guard judge [.probe "aaaa size=1", .probe "bbbb size=1"] != []
#guard judge [.probe "aaaa size=1", .probe "FAIL errors=1 thrown=0"] != []
#guard judge [.probe "FAIL errors=1 thrown=0", .probe "FAIL errors=1 thrown=0"] != []
example : judge [.aprobeDiff "aprobe-differs write r fresh=[errors 1] after=[prog x]"] ≠ [] := by decide
example : judge [.baseOdd "ident.base-odd write fn=-1 glob=0 cls=-1 local=-1"] ≠ [] := by decide
-- and accepts a clean trace
#guard judge [.cfg 25, .out (.ev "local.type" 1 25), .out (.localsEnd 0 0 0 0), .result ["prog"],
              .probe "aaaa", .probe "aaaa"] == []

end NV.C02
