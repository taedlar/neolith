/-
C02 — the scratchpad (lib/misc/scratchpad.c): strings stay stacked without gaps inside `scratchblock[]`.
-/
import NV.C02.Oracle

namespace NV.C02

open NV.Gen.C02

/-- tail / last of a list of pad strings (as the pad cursors compute them) -/
def tailOf : List SEntry → Nat
  | [] => 2
  | e :: _ => e.start + e.len

def lastOf : List SEntry → Nat
  | [] => 2
  | e :: _ => e.start

theorem pad_tail_eq (p : Pad) : p.tail = tailOf p.entries := rfl
theorem pad_last_eq (p : Pad) : p.last = lastOf p.entries := rfl

/-- strings on the pad are stacked without gaps: each starts one byte (the length byte of the one below, or
    scratchblock[2]) after the end of the one below; lengths fit a byte -/
def Stacked : List SEntry → Prop
  | [] => True
  | e :: rest => e.start = tailOf rest + 1 ∧ e.len ≤ 255 ∧ Stacked rest

theorem Stacked.start {e : SEntry} {rest : List SEntry} (h : Stacked (e :: rest)) : e.start = tailOf rest + 1 := h.1
theorem Stacked.below {e : SEntry} {rest : List SEntry} (h : Stacked (e :: rest)) : Stacked rest := h.2.2

structure PadInv (p : Pad) : Prop where
  noOob : p.oob = false
  stacked : Stacked p.entries
  fits : tailOf p.entries ≤ padLimit

theorem padLimit_ge : 2 ≤ padLimit := by decide

theorem padInv_init : PadInv Pad.init := ⟨rfl, trivial, padLimit_ge⟩

theorem stacked_popK : ∀ (k : Nat) (es : List SEntry), Stacked es → Stacked (popK k es)
  | 0, _, h => h
  | _ + 1, [], _ => trivial
  | k + 1, _ :: es, h => stacked_popK k es h.below

theorem tailOf_le_start {e : SEntry} {rest : List SEntry} (h : Stacked (e :: rest)) : tailOf rest ≤ e.start :=
  h.start ▸ Nat.le_succ _

theorem tailOf_popK_le : ∀ (k : Nat) (es : List SEntry), Stacked es → tailOf (popK k es) ≤ tailOf es
  | 0, _, _ => Nat.le_refl _
  | _ + 1, [], _ => Nat.le_refl _
  | k + 1, e :: es, h =>
    calc tailOf (popK k es) ≤ tailOf es := tailOf_popK_le k es h.below
      _ ≤ e.start := tailOf_le_start h
      _ ≤ e.start + e.len := Nat.le_add_right ..

theorem tailOf_ge_two : ∀ (es : List SEntry), Stacked es → 2 ≤ tailOf es
  | [], _ => Nat.le_refl _
  | e :: rest, h =>
    calc 2 ≤ tailOf rest := tailOf_ge_two rest h.below
      _ ≤ e.start := tailOf_le_start h
      _ ≤ e.start + e.len := Nat.le_add_right ..

theorem lastOf_ge_two : ∀ (es : List SEntry), Stacked es → 2 ≤ lastOf es
  | [], _ => Nat.le_refl _
  | _ :: rest, h => Nat.le_trans (tailOf_ge_two rest h.below) (tailOf_le_start h)

theorem lastOf_le_tailOf : ∀ (es : List SEntry), lastOf es ≤ tailOf es
  | [] => Nat.le_refl _
  | _ :: _ => Nat.le_add_right ..

/-- the pad cursors of a consistent pad: `&scratchblock[2] ≤ scr_last ≤ scr_tail ≤ &scratchblock[SIZE - 1]` -/
theorem PadInv.cursors {p : Pad} (h : PadInv p) : 2 ≤ p.last ∧ p.last ≤ p.tail ∧ p.tail ≤ padLimit :=
  ⟨lastOf_ge_two _ h.stacked, lastOf_le_tailOf _, h.fits⟩

theorem pad_out_ok {p : Pad} (h : PadInv p) (n : String) (k : Option Nat) : okOut (p.out n k) = true :=
  decide_eq_true h.cursors

/-- one scratchpad operation keeps the invariant, touches nothing outside scratchblock[], and every line it emits
    passes the oracle — unless the event is one the C callers cannot produce (`ill`), which freezes the model -/
theorem stepPad_inv (p : Pad) (e : Ev) (h : PadInv p) :
    PadInv (stepPad p e).1 ∧ ((stepPad p e).1.ill = false → ∀ o ∈ (stepPad p e).2, okOut o = true) := by
  have one : ∀ {X : Prop} {q : Pad} (n : String) (k : Option Nat), PadInv q →
      PadInv q ∧ (X → ∀ o ∈ [q.out n k], okOut o = true) :=
    fun n k hq => ⟨hq, fun _ => ok_cons (pad_out_ok hq n k) ok_nil⟩
  have stop : ∀ {q : Pad} {os : List Out}, PadInv q → q.ill = true →
      PadInv q ∧ (q.ill = false → ∀ o ∈ os, okOut o = true) :=
    fun hq hi => ⟨hq, fun hf => absurd (hi.symm.trans hf) Bool.noConfusion⟩
  obtain ⟨es, lg, oob, ill⟩ := p
  have ⟨hb, hst, hfit⟩ := h
  simp only at hb hst hfit
  subst hb
  unfold stepPad
  split
  · exact one _ _ padInv_init   -- scrDestroy
  cases ill with
  | true => exact stop ⟨rfl, hst, hfit⟩ rfl
  | false =>
    rw [if_neg (by simp only [Bool.false_eq_true, or_self, not_false_eq_true])]
    cases e with
    | scrDestroy => exact absurd rfl ‹_›
    | scrAlloc len =>
      simp only [pad_tail_eq]
      by_cases hg : len ≤ 255 ∧ tailOf es + 1 + len ≤ padLimit
      · have hf2 : tailOf (⟨tailOf es + 1, len⟩ :: es) ≤ padLimit := hg.2
        simp only [hg, and_self, if_true, hf2]
        exact one _ _ ⟨rfl, ⟨rfl, hg.1, hst⟩, hg.2⟩
      · simp only [hg, if_false]
        exact one _ _ ⟨rfl, hst, hfit⟩
    | scrLarge => exact one _ _ ⟨rfl, hst, hfit⟩
    | scrFreeLast k =>
      cases es with
      | nil => exact stop ⟨rfl, hst, hfit⟩ rfl
      | cons e rest =>
        have hrest := stacked_popK k rest hst.below
        have hq : PadInv ⟨popK k rest, lg, false, false⟩ :=
          ⟨rfl, hrest, Nat.le_trans (tailOf_popK_le k rest hst.below) (Nat.le_trans (tailOf_le_start hst) (Nat.le_trans (Nat.le_add_right ..) hfit))⟩
        have hc : 2 ≤ e.start - 1 ∧ 2 ≤ lastOf (popK k rest) :=
          ⟨hst.start ▸ tailOf_ge_two rest hst.below, lastOf_ge_two _ hrest⟩
        simp only [pad_last_eq, hc, and_self, if_true]
        exact ⟨hq, fun _ => ok_cons (pad_out_ok h _ _) (ok_cons (pad_out_ok hq _ _) ok_nil)⟩
    | scrResize size =>
      cases es with
      | nil => exact stop ⟨rfl, hst, hfit⟩ rfl
      | cons e rest =>
        by_cases hg : size ≤ 255 ∧ e.start + size ≤ padLimit
        · simp only [hg, and_self, if_true]
          exact one _ _ ⟨rfl, ⟨hst.start, hg.1, hst.below⟩, hg.2⟩
        · simp only [hg, if_false]
          exact stop ⟨rfl, hst, hfit⟩ rfl
    | scrJoin =>
      cases es with
      | nil => exact stop ⟨rfl, hst, hfit⟩ rfl
      | cons e2 r1 =>
        cases r1 with
        | nil => exact stop ⟨rfl, hst, hfit⟩ rfl
        | cons e1 rest =>
          by_cases hg : e1.len + e2.len - 1 ≤ 255 ∧ 1 ≤ e1.len
          · simp only [hg, and_self, if_true]
            -- the joined string ends where the upper one ended, less the dropped zero byte and length byte
            have h2 : e2.start = e1.start + e1.len + 1 := hst.start
            have hf : e1.start + (e1.len + e2.len - 1) ≤ padLimit :=
              calc e1.start + (e1.len + e2.len - 1) ≤ e1.start + (e1.len + e2.len) := Nat.add_le_add_left (Nat.sub_le ..) _
                _ ≤ e2.start + e2.len := by rw [h2]; omega
                _ ≤ padLimit := hfit
            exact one _ _ ⟨rfl, ⟨hst.below.start, hg.1, hst.below.below⟩, hf⟩
          · simp only [hg, if_false]
            exact stop ⟨rfl, hst, hfit⟩ rfl
    | scrMark => exact one _ _ h
    | scrFreeBlock =>
      by_cases hz : lg = 0
      · simp only [hz, if_true]; exact stop ⟨rfl, hst, hfit⟩ rfl
      · simp only [hz, if_false]
        exact one _ _ ⟨rfl, hst, hfit⟩
    | _ => exact ⟨h, fun _ => ok_nil⟩   -- every other event passes the scratchpad by

theorem runPad_fst (p : Pad) (es : List Ev) : (runPad p es).1 = es.foldl (fun q e => (stepPad q e).1) p :=
  (List.foldl_hom Prod.fst fun _ _ => rfl).symm

theorem runPad_inv (es : List Ev) (p : Pad) (h : PadInv p) : PadInv (es.foldl (fun q e => (stepPad q e).1) p) :=
  List.foldlRecOn es _ h fun p hp e _ => (stepPad_inv p e hp).1

end NV.C02
