/-
C02 — the code emitter's cursor (lib/lpc/program/icode.c): `prog_code` / `prog_code_max` inside the current code block
(A_PROGRAM or A_INITIALIZER) under `ins_byte`, `ins_short`, `ins_int`, `ins_long`, `ins_real`, `ins_intptr`.

Each `ins_*` first tests whether the item fits (`prog_code + RESERVED > prog_code_max`, `ins_byte`:
`prog_code == prog_code_max`), doubles the block if not, and then stores the item with a `STORE_*` macro that advances
`prog_code` by WRITTEN bytes.  RESERVED is read from the test in the source of every `ins_*` and WRITTEN is MEASURED by
running the `STORE_*` macro of lib/port/byte_code.h in the constant probe (props/c02.py) - both on every run
(`NV.Gen.C02.res*` / `wr*`).  Core Lean only.
-/
import NV.C02.Blocks

namespace NV.C02

open NV.Gen.C02

inductive Width
  | byte | short | int | long | real | ptr
  deriving Repr, DecidableEq

/-- bytes the `ins_*` function makes room for -/
def reserved : Width → Nat
  | .byte => 1 | .short => resShort | .int => resInt | .long => resLong | .real => resReal | .ptr => resPtr

/-- bytes its `STORE_*` macro writes (= how far `prog_code` advances) -/
def written : Width → Nat
  | .byte => 1 | .short => wrShort | .int => wrInt | .long => wrLong | .real => wrReal | .ptr => wrPtr

structure Code where
  cur : Nat      -- prog_code     - block
  max : Nat      -- prog_code_max - block  (= max_size of the block)
  deriving Repr, DecidableEq

def Code.init : Code := ⟨0, startBlockSize⟩

/-- does the `ins_*` function grow the block first? -/
def needsGrow (c : Code) (w : Width) : Bool :=
  match w with
  | .byte => c.cur == c.max                       -- `if (prog_code == prog_code_max)`
  | w => decide (c.max < c.cur + reserved w)      -- `if (prog_code + N > prog_code_max)`

/-- one `ins_*`: `UPDATE_PROGRAM_SIZE; realloc_mem_block (mbp, mbp->current_size * 2)` when needed, then the store.
    Result: the new cursors and the byte range `[lo, hi)` the store wrote. -/
def emit (c : Code) (w : Width) : Code × (Nat × Nat) :=
  let m := if needsGrow c w then growTo c.max (2 * c.cur) (2 * c.cur) else c.max
  (⟨c.cur + written w, m⟩, (c.cur, c.cur + written w))

def emitAll : Code → List Width → Code × List (Nat × Nat × Nat)
  | c, [] => (c, [])
  | c, w :: ws =>
    let r := emit c w
    let rest := emitAll r.1 ws
    (rest.1, (r.2.1, r.2.2, r.1.max) :: rest.2)

/-- the obligation on the source: every `ins_*` makes room for at least what its store writes -/
def ReservedCoversWritten : Prop := ∀ w : Width, written w ≤ reserved w ∧ written w ≤ 8 ∧ 0 < written w

instance : Decidable ReservedCoversWritten := by
  unfold ReservedCoversWritten
  exact decidable_of_iff
    (∀ w ∈ [Width.byte, .short, .int, .long, .real, .ptr], written w ≤ reserved w ∧ written w ≤ 8 ∧ 0 < written w)
    ⟨fun h w => h w (by cases w <;> simp), fun h w _ => h w⟩

/-- **reserved_covers_written** — checked against the constants regenerated from icode.c / byte_code.h on every run. -/
theorem reserved_covers_written : ReservedCoversWritten := by decide

structure CodeInv (c : Code) : Prop where
  le : c.cur ≤ c.max
  big : 16 ≤ c.max

theorem codeInv_init : CodeInv Code.init := ⟨Nat.zero_le _, by decide⟩

/-- while `prog_code ≤ prog_code_max`, the test of `ins_byte` says the same as that of the others: the item does not fit -/
theorem needsGrow_iff {c : Code} (w : Width) (h : c.cur ≤ c.max) :
    needsGrow c w = true ↔ c.max < c.cur + reserved w := by
  cases w <;> simp only [needsGrow, decide_eq_true_eq, beq_iff_eq]
  show c.cur = c.max ↔ c.max < c.cur + 1
  omega

/-- one store keeps the cursor inside the (possibly grown) block; the store ends where the cursor then stands -/
theorem emit_inv (c : Code) (w : Width) (h : CodeInv c) : CodeInv (emit c w).1 := by
  obtain ⟨hwr, hw8, -⟩ := reserved_covers_written w
  obtain ⟨hle, hbig⟩ := h
  simp only [emit]
  cases hg : needsGrow c w with
  | true =>
    -- the grown block holds at least the old 16 bytes and twice the cursor, hence the cursor and any item behind it,
    -- wherever the cursor stands
    have ⟨hge, hle⟩ := growTo_fuel (m := c.max) (by omega) (2 * c.cur)
    simp only [if_true]
    exact ⟨by dsimp only; omega, by dsimp only; omega⟩
  | false =>
    have : ¬ c.max < c.cur + reserved w := fun hlt => Bool.false_ne_true (hg ▸ (needsGrow_iff w hle).mpr hlt)
    simp only [Bool.false_eq_true, if_false]
    exact ⟨by dsimp only; omega, hbig⟩

/-- from any consistent cursor pair: every store of a sequence of items ends inside the block as it is then -/
theorem emitAll_inv : ∀ (ws : List Width) (c : Code), CodeInv c →
    (∀ r ∈ (emitAll c ws).2, r.1 ≤ r.2.1 ∧ r.2.1 ≤ r.2.2) ∧ CodeInv (emitAll c ws).1
  | [], _, h => ⟨fun _ hr => absurd hr List.not_mem_nil, h⟩
  | w :: ws, c, h =>
    have h1 := emit_inv c w h
    have ⟨h2, h3⟩ := emitAll_inv ws _ h1
    ⟨List.forall_mem_cons.mpr ⟨⟨Nat.le_add_right _ _, h1.le⟩, h2⟩, h3⟩

/-- **code_writes_in_block** — for EVERY sequence of emitted items (any program text), every store of every `ins_*`
    lies inside the code block as it is at that moment: `hi ≤ max_size`, and afterwards `prog_code ≤ prog_code_max`. -/
theorem code_writes_in_block (ws : List Width) :
    (∀ r ∈ (emitAll Code.init ws).2, r.1 ≤ r.2.1 ∧ r.2.1 ≤ r.2.2) ∧ (emitAll Code.init ws).1.cur ≤ (emitAll Code.init ws).1.max :=
  have ⟨h1, h2⟩ := emitAll_inv ws Code.init codeInv_init
  ⟨h1, h2.le⟩

-- non-vacuity: a real literal emitted with 6 bytes left makes the block grow; the store ends inside the new block
example : (emitAll ⟨startBlockSize - 6, startBlockSize⟩ [.real, .byte]).1 = ⟨startBlockSize + 3, 2 * startBlockSize⟩ := by decide
example : (emitAll Code.init [.byte, .short, .int]).2 = [(0, 1, startBlockSize), (1, 3, startBlockSize), (3, 7, startBlockSize)] := by decide

end NV.C02
