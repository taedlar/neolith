/-
C02 — concrete runs of the model (checked by evaluation).  All defects found for C02 were repaired in the source
(see notes/C02.md), so there is no open finding whose full statement needs a refutation here; the examples below
replay, in the model, the event sequences of the inputs that crashed the unrepaired driver.
-/
import NV.C02.Model
import NV.C02.Spec

namespace NV.C02

/-- `void f() { int o1..o10; g = function(int a) { int l0..l19; ... }; }` : with the repaired reallocate_locals the
    name table has grown to 50 entries and the 21 entries of the literal fit -/
example :
    let evs := List.replicate 10 (Ev.addLocal "o" false 0) ++ [.enterLit] ++ List.replicate 21 (Ev.addLocal "l" false 0)
    let r := runLoc (Loc.init 25) evs
    r.1.bad = false ∧ r.1.lsize = 50 ∧ r.1.lOff + r.1.cur = 31 := by decide +kernel

/-- 60 declared arguments: 25 are stored, the copy of argument types is clamped to the table -/
example :
    let r := runLoc (Loc.init 25) (List.replicate 60 (Ev.addLocal "a" false 0) ++ [.argTypes 60])
    r.1.bad = false ∧ r.1.max = 25 := by decide +kernel

/-- a literal abandoned by error recovery inside another literal: the outer literal's end skips the abandoned block,
    releases what it left in the table and returns the pointers to where the outer literal started (repaired code) -/
example :
    let evs := [Ev.addLocal "a" false 0, .addLocal "b" false 0, .enterLit, .addLocal "c" false 0, .addLocal "d" false 0,
                .addLocal "e" false 0, .enterLit, .addLocal "i" false 0, .freeAll, .leaveLit 1, .freeAll, .cleanup]
    let p := runLI (Loc.init 25, Ids.init (fun _ => false)) evs
    p.1.bad = false ∧ p.2.bad = false ∧ p.2.live = [] ∧ p.2.refs "a" = 0 ∧ p.2.refs "c" = 0 := by decide +kernel

example :
    let evs := [Ev.addLocal "a" false 0, .addLocal "b" false 0, .enterLit, .addLocal "c" false 0, .addLocal "d" false 0,
                .addLocal "e" false 0, .enterLit, .addLocal "i" false 0, .freeAll, .leaveLit 1]
    let p := runLI (Loc.init 25, Ids.init (fun _ => false)) evs
    p.1.lOff = 0 ∧ p.1.cur = 2 ∧ p.2.live = ["b", "a"] ∧ p.2.lnum "a" = 0 ∧ p.2.lnum "b" = 1 ∧ p.2.lnum "c" = -1 := by decide +kernel

end NV.C02
