/-
C02 — the identifier machine (`Ids`) next to the locals tables: every `sem_value` reference is owned by an entry of
locals[] or by a name-space binding, so the end-of-compile cleanup gives every reference back.
-/
import NV.C02.Locals

namespace NV.C02

/-- invariant of the identifier machine: every sem_value reference is accounted for by an entry of locals[] or by a
    set name-space binding; active locals are in the table; a permanent identifier with a binding is on the dirty list -/
structure IdsInv (s : Ids) : Prop where
  notBad : s.bad = false
  refs : ∀ j, s.refs j = (s.live.count j : Int) + s.bsum j
  act : ∀ j, s.lnum j ≠ -1 → j ∈ s.live
  dirtyOk : ∀ j, s.perm j = true → s.bsum j ≠ 0 → j ∈ s.dirty

theorem b_nonneg (x : Int) : 0 ≤ b x := by unfold b; split <;> omega
theorem b_le_one (x : Int) : b x ≤ 1 := by unfold b; split <;> omega
theorem b_eq_zero {x : Int} : b x = 0 ↔ x = -1 := by unfold b; split <;> simp_all
theorem b_natCast (n : Nat) : b (n : Int) = 1 := by unfold b; split <;> omega

theorem bsum_eq_zero {s : Ids} {j : Id} : s.bsum j = 0 ↔ (∀ k, s.bnd k j = -1) := by
  have h1 := b_nonneg (s.bnd .fn j); have h2 := b_nonneg (s.bnd .glob j); have h3 := b_nonneg (s.bnd .cls j)
  constructor
  · intro h k
    simp only [Ids.bsum] at h
    cases k <;> exact b_eq_zero.mp (by omega)
  · intro h
    simp only [Ids.bsum, b_eq_zero.mpr (h .fn), b_eq_zero.mpr (h .glob), b_eq_zero.mpr (h .cls)]
    rfl

theorem bsum_bounds (s : Ids) (j : Id) : 0 ≤ s.bsum j ∧ s.bsum j ≤ 3 := by
  have := b_nonneg (s.bnd .fn j); have := b_nonneg (s.bnd .glob j); have := b_nonneg (s.bnd .cls j)
  have := b_le_one (s.bnd .fn j); have := b_le_one (s.bnd .glob j); have := b_le_one (s.bnd .cls j)
  unfold Ids.bsum
  omega

theorem upd_shift (f : Id → Int) (id j : Id) (d : Int) : upd f id (f id + d) j = f j + if j = id then d else 0 := by
  unfold upd
  split
  · subst j; rfl
  · exact (Int.add_zero _).symm

theorem count_cons_cast (id j : Id) (l : List Id) : ((id :: l).count j : Int) = l.count j + if j = id then 1 else 0 := by
  rw [List.count_cons]
  by_cases h : j = id
  · subst h; simp
  · have : (id == j) = false := beq_false_of_ne (Ne.symm h)
    simp [h, this]

/-- `lnum := upd lnum id v` keeps "an active local is in the table" when the table keeps every other identifier and
    holds `id` if `v` makes it active -/
theorem IdsInv.act_upd {s : Ids} (h : IdsInv s) {live' : List Id} {id : Id} {v : Int}
    (hsub : ∀ j ∈ s.live, j ≠ id → j ∈ live') (hv : v ≠ -1 → id ∈ live') :
    ∀ j, upd s.lnum id v j ≠ -1 → j ∈ live' := fun j hj => by
  unfold upd at hj
  split at hj
  · subst j; exact hv hj
  · exact hsub j (h.act j hj) ‹_›

theorem popOne_inv {s : Ids} (h : IdsInv s) (hl : 0 < s.live.length) :
    IdsInv (popOne s) ∧ (popOne s).live.length = s.live.length - 1 := by
  cases hlive : s.live with
  | nil => rw [hlive] at hl; exact absurd hl (Nat.lt_irrefl 0)
  | cons id rest =>
    have hr := h.refs
    rw [hlive] at hr
    simp only [popOne, hlive]
    refine ⟨⟨h.notBad, fun j => ?_,
      h.act_upd (fun j hj hji => (List.mem_cons.mp (hlive ▸ hj)).resolve_left hji) (fun hv => absurd rfl hv), h.dirtyOk⟩, rfl⟩
    have := hr j
    rw [count_cons_cast] at this
    show upd s.refs id (s.refs id - 1) j = (rest.count j : Int) + s.bsum j
    rw [Int.sub_eq_add_neg, upd_shift]
    by_cases hji : j = id <;> simp only [hji, if_true, if_false] at this ⊢ <;> omega

theorem popMany_inv : ∀ (k : Nat) {s : Ids} {a : Nat}, IdsInv s → s.live.length = a → k ≤ a →
    IdsInv (popMany k s) ∧ (popMany k s).live.length = a - k
  | 0, _, _, h, hl, _ => ⟨h, hl⟩
  | k + 1, s, a, h, hl, hk => by
    obtain ⟨h1, l1⟩ := popOne_inv h (hl ▸ Nat.lt_of_lt_of_le (Nat.succ_pos k) hk)
    obtain ⟨h2, l2⟩ := popMany_inv k h1 (l1.trans (congrArg (· - 1) hl)) (Nat.le_sub_of_add_le hk)
    exact ⟨h2, l2.trans (by rw [Nat.sub_sub, Nat.add_comm])⟩

/-! ## deactivate / reactivate: only `local_num` and `runtime_locals[]` move -/

theorem windowId_some (s : Ids) {c i : Nat} (hi : i < c) (hc : c ≤ s.live.length) : ∃ id, windowId s c i = some id :=
  have : c - 1 - i < s.live.length := by omega
  ⟨s.live[c - 1 - i], List.getElem?_eq_getElem this⟩

theorem IdsInv.setLnum {s : Ids} (h : IdsInv s) {id : Id} {v : Int} (hv : v ≠ -1 → id ∈ s.live) (rt : List Int) :
    IdsInv { s with rt := rt, lnum := upd s.lnum id v } :=
  ⟨h.notBad, h.refs, h.act_upd (fun _ hj _ => hj) hv, h.dirtyOk⟩

theorem idsInv_windowFold (f : Ids → Nat → Ids) {c : Nat} {s : Ids} (h : IdsInv s) (hc : c ≤ s.live.length)
    (hf : ∀ s i, i < c → c ≤ s.live.length → IdsInv s → IdsInv (f s i) ∧ (f s i).live = s.live) :
    IdsInv ((List.range c).foldl f s) ∧ ((List.range c).foldl f s).live = s.live :=
  List.foldlRecOn (motive := fun t => IdsInv t ∧ t.live = s.live) (List.range c) f ⟨h, rfl⟩ fun t ⟨ht, lt⟩ i hi =>
    have ⟨h1, l1⟩ := hf t i (List.mem_range.mp hi) (lt ▸ hc) ht
    ⟨h1, l1.trans lt⟩

theorem deactivate_inv (s : Ids) (lOff c : Nat) (h : IdsInv s) (hc : c ≤ s.live.length) :
    IdsInv (deactivate s lOff c) ∧ (deactivate s lOff c).live = s.live := by
  refine idsInv_windowFold (deactStep lOff c) h hc fun s i hi hc h => ?_
  obtain ⟨id, hid⟩ := windowId_some s hi hc
  simp only [deactStep, hid]
  exact ⟨h.setLnum (fun hv => absurd rfl hv) _, trivial⟩

theorem reactivate_inv (s : Ids) (lOff c : Nat) (h : IdsInv s) (hc : c ≤ s.live.length) :
    IdsInv (reactivate s lOff c) ∧ (reactivate s lOff c).live = s.live := by
  refine idsInv_windowFold (reactStep lOff c) h hc fun s i hi hc h => ?_
  obtain ⟨id, hid⟩ := windowId_some s hi hc
  simp only [reactStep, hid]
  -- the identifier that gets its number back is an entry of the window, so it is in the table
  exact ⟨h.setLnum (fun _ => List.mem_of_getElem? hid) s.rt, trivial⟩

theorem bsum_updB_other (s : Ids) (k : Kind) {id j : Id} (v : Int) (hj : j ≠ id) :
    b (updB s.bnd k id v .fn j) + b (updB s.bnd k id v .glob j) + b (updB s.bnd k id v .cls j) = s.bsum j := by
  simp only [updB, hj, and_false, if_false, Ids.bsum]

theorem bsum_updB_self (s : Ids) (k : Kind) (id : Id) (n : Nat) :
    b (updB s.bnd k id n .fn id) + b (updB s.bnd k id n .glob id) + b (updB s.bnd k id n .cls id)
      = s.bsum id - b (s.bnd k id) + 1 := by
  cases k <;> simp [updB, Ids.bsum, b_natCast] <;> omega

theorem bind_inv (s : Ids) (k : Kind) (id : Id) (n : Nat) (pl : List Id) (h : IdsInv s) :
    IdsInv { s with bnd := updB s.bnd k id n,
                    refs := upd s.refs id (s.refs id + (if s.bnd k id = -1 then 1 else 0)),
                    dirty := if s.perm id ∧ s.bnd .fn id = -1 ∧ s.bnd .glob id = -1 ∧ s.bnd .cls id = -1 then id :: s.dirty else s.dirty,
                    perms := pl } := by
  refine ⟨h.notBad, fun j => ?_, h.act, fun j hp hbs => ?_⟩
  · have := h.refs j
    simp only [Ids.bsum, upd_shift]
    by_cases hj : j = id
    · subst hj
      rw [bsum_updB_self, if_pos rfl]
      unfold b
      split <;> omega
    · rw [bsum_updB_other s k _ hj, if_neg hj]
      omega
  · simp only [Ids.bsum] at hbs
    by_cases hj : j = id
    · subst hj
      -- a first binding of a permanent identifier puts it on the list; otherwise it is there already
      show j ∈ (if _ then j :: s.dirty else s.dirty)
      split
      · exact List.mem_cons_self ..
      · rename_i hall
        refine h.dirtyOk j hp fun hz => hall ⟨hp, ?_⟩
        have := bsum_eq_zero.mp hz
        exact ⟨this .fn, this .glob, this .cls⟩
    · rw [bsum_updB_other s k _ hj] at hbs
      have := h.dirtyOk j hp hbs
      show j ∈ (if _ then id :: s.dirty else s.dirty)
      split
      · exact List.mem_cons_of_mem _ this
      · exact this

/-! ## free_unused_identifiers: what `clearAll` computes -/

theorem clearOne_bsum (s : Ids) (id j : Id) : (clearOne s id).bsum j = if j = id then 0 else s.bsum j := by
  by_cases hj : j = id <;> simp [clearOne, Ids.bsum, hj, b]

theorem clearAll_bnd : ∀ (L : List Id) (s : Ids) (k : Kind) (j : Id),
    (clearAll L s).bnd k j = if j ∈ L then -1 else s.bnd k j
  | [], _, _, _ => rfl
  | id :: rest, s, k, j => by
    rw [clearAll, clearAll_bnd rest]
    by_cases hj : j = id <;> simp [clearOne, hj]

theorem clearAll_refs : ∀ (L : List Id) (s : Ids) (j : Id),
    (clearAll L s).refs j = if j ∈ L then s.refs j - s.bsum j else s.refs j
  | [], _, _ => rfl
  | id :: rest, s, j => by
    rw [clearAll, clearAll_refs rest, clearOne_bsum]
    by_cases hj : j = id <;> simp [clearOne, hj]

/-- `clearAll` touches nothing but `sem_value` and the three bindings -/
theorem clearAll_frame : ∀ (L : List Id) (s : Ids),
    (clearAll L s).live = s.live ∧ (clearAll L s).lnum = s.lnum ∧ (clearAll L s).perm = s.perm ∧ (clearAll L s).bad = s.bad
  | [], _ => ⟨rfl, rfl, rfl, rfl⟩
  | id :: rest, s => clearAll_frame rest (clearOne s id)

/-- the identifier machine as a compile finds it: no entry of locals[], nothing on the dirty list, and every identifier
    with its `sem_value` at the initial value and no local, function, global-variable or class binding -/
structure Ids.Blank (s : Ids) : Prop where
  notBad : s.bad = false
  live : s.live = []
  dirty : s.dirty = []
  all : ∀ j, s.refs j = 0 ∧ s.lnum j = -1 ∧ ∀ k, s.bnd k j = -1

/-- clean_up_locals + free_unused_identifiers (the `.cleanup` step) give back every reference and binding: from any
    state with the invariant the identifier machine returns to a blank one.  All entries of locals[] are released, so
    what is left of each `sem_value` is its bindings; a permanent identifier with bindings is on the dirty list, where
    `clearAll` takes them away, and the others are freed. -/
theorem cleanup_resets_idents {s : Ids} (h : IdsInv s) :
    let s1 := popMany s.live.length s
    (freeNonPerm { clearAll s1.dirty s1 with dirty := [] }).Blank := by
  intro s1
  obtain ⟨h1, hlen⟩ := popMany_inv s.live.length h rfl (Nat.le_refl _)
  have hnil : s1.live = [] := List.eq_nil_of_length_eq_zero (hlen.trans (Nat.sub_self _))
  obtain ⟨fl, fn, fp, fb⟩ := clearAll_frame s1.dirty s1
  have hrefs : ∀ j, s1.refs j = s1.bsum j := fun j => by
    have := h1.refs j; rw [hnil] at this; simpa using this
  have hlnum : ∀ j, s1.lnum j = -1 := fun j => Classical.byContradiction fun hj => by
    have := h1.act j hj; rw [hnil] at this; exact absurd this List.not_mem_nil
  have hclean : ∀ j, s1.perm j = true → j ∉ s1.dirty → s1.bsum j = 0 := fun j hp hd =>
    Classical.byContradiction fun hz => hd (h1.dirtyOk j hp hz)
  refine ⟨fb.trans h1.notBad, fl.trans hnil, rfl, fun j => ?_⟩
  show (if (clearAll s1.dirty s1).perm j then (clearAll s1.dirty s1).refs j else 0) = 0 ∧
    (if (clearAll s1.dirty s1).perm j then (clearAll s1.dirty s1).lnum j else -1) = -1 ∧
    ∀ k, (if (clearAll s1.dirty s1).perm j then (clearAll s1.dirty s1).bnd k j else -1) = -1
  rw [fp, fn, clearAll_refs]
  cases hp : s1.perm j with
  | false => exact ⟨rfl, rfl, fun _ => rfl⟩
  | true =>
    simp only [if_true, clearAll_bnd]
    refine ⟨?_, hlnum j, fun k => ?_⟩
    · split
      · rw [hrefs]; exact Int.sub_self _
      · rename_i hd; rw [hrefs, hclean j hp hd]
    · split
      · rfl
      · rename_i hd; exact bsum_eq_zero.mp (hclean j hp hd) k

theorem idsInv_of_blank {s : Ids} (h : s.Blank) : IdsInv s := by
  have hz : ∀ j, s.bsum j = 0 := fun j => bsum_eq_zero.mpr (h.all j).2.2
  refine ⟨h.notBad, fun j => ?_, fun j hj => absurd (h.all j).2.1 hj, fun j _ hj => absurd (hz j) hj⟩
  rw [(h.all j).1, hz, h.live]
  rfl

theorem blank_init (P : Id → Bool) : (Ids.init P).Blank := ⟨rfl, rfl, rfl, fun _ => ⟨rfl, rfl, fun _ => rfl⟩⟩

theorem idsInv_init (P : Id → Bool) : IdsInv (Ids.init P) := idsInv_of_blank (blank_init P)

/-- both machines consistent, and `live` holds exactly the entries of `locals[]` below the current cursor
    (`locals_ptr - locals + current_number_of_locals` in compiler.c) -/
structure LIInv (p : Loc × Ids) : Prop where
  loc : LocInv p.1
  ids : IdsInv p.2
  len : p.2.live.length = p.1.lOff + p.1.cur

theorem liInv_init (N : Nat) (P : Id → Bool) : LIInv (Loc.init N, Ids.init P) :=
  ⟨locInv_init N, idsInv_init P, rfl⟩

theorem stepLI_eq {p : Loc × Ids} (h : LocInv p.1) (e : Ev) :
    stepLI p e = (p.1.next e, (stepIds p.1 (p.1.next e) p.2 e).1) := by
  simp only [stepLI, (stepLoc_ok h e).1]

/-- the identifier side of the `.cleanup` step, as `stepIds` computes it when nothing has crashed -/
theorem stepIds_cleanup {l l' : Loc} {s : Ids} (hs : s.bad = false) (hl : l.bad = false) (hl' : l'.bad = false) :
    (stepIds l l' s .cleanup).1 =
      freeNonPerm { clearAll (popMany (l.lOff + l.cur) s).dirty (popMany (l.lOff + l.cur) s) with dirty := [] } := by
  unfold stepIds
  rw [hs, hl, hl', if_neg (by simp only [Bool.false_eq_true, or_self, not_false_eq_true])]

theorem stepIds_inv {l : Loc} {s : Ids} (hL : LocInv l) (hI : IdsInv s) (hlen : s.live.length = l.lOff + l.cur)
    (e : Ev) :
    IdsInv (stepIds l (l.next e) s e).1 ∧
      (stepIds l (l.next e) s e).1.live.length = (l.next e).lOff + (l.next e).cur := by
  have hgo : ¬ (s.bad = true ∨ l.bad = true ∨ (l.next e).bad = true) := by
    simp only [hI.notBad, hL.notBad, (locInv_next hL e).notBad, Bool.false_eq_true, or_self, not_false_eq_true]
  unfold stepIds
  rw [if_neg hgo]
  clear hgo
  cases e with
  | addLocal id p s0 =>
    dsimp only [Loc.next]
    by_cases hf : l.N ≤ l.max
    · simp only [hf, if_true]
      exact ⟨hI, hlen⟩
    · simp only [hf, if_false]
      refine ⟨⟨hI.notBad, fun j => ?_,
        hI.act_upd (fun _ hj _ => List.mem_cons_of_mem _ hj) (fun _ => List.mem_cons_self ..), hI.dirtyOk⟩,
        by simp only [List.length_cons, hlen]; omega⟩
      have := hI.refs j
      show upd s.refs id (s.refs id + 1) j = ((id :: s.live).count j : Int) + s.bsum j
      rw [upd_shift, count_cons_cast]
      omega
  | popN n =>
    obtain ⟨h1, l1⟩ := popMany_inv (min n l.cur) hI hlen (Nat.le_trans (Nat.min_le_right ..) (Nat.le_add_left ..))
    exact ⟨h1, l1.trans (Nat.add_sub_assoc (Nat.min_le_right ..) _)⟩
  | freeAll =>
    obtain ⟨h1, l1⟩ := popMany_inv l.cur hI hlen (Nat.le_add_left ..)
    exact ⟨h1, l1.trans (Nat.add_sub_cancel ..)⟩
  | enterLit =>
    dsimp only [Loc.next]
    obtain ⟨h1, l1⟩ := deactivate_inv s l.lOff l.cur hI (by omega)
    exact ⟨h1, (congrArg List.length l1).trans (hlen.trans (by omega))⟩
  | leaveLit d =>
    dsimp only [Loc.next]
    cases hdrop : l.frames.drop d with
    | nil => exact ⟨hI, hlen⟩
    | cons f rest =>
      have hd := chain_drop hL.chain hdrop
      -- what is released lies above the saved block, whose `f.c` entries are then the window again
      have hlo : f.lo + f.c ≤ l.lOff + l.cur := Nat.le_trans hd.1 (Nat.le_add_right ..)
      obtain ⟨h1, l1⟩ := popMany_inv (l.lOff + l.cur - (f.lo + f.c)) hI hlen (Nat.sub_le ..)
      rw [Nat.sub_sub_self hlo] at l1
      obtain ⟨h2, l2⟩ := reactivate_inv _ f.lo f.c h1 (by rw [l1]; exact Nat.le_add_left ..)
      exact ⟨h2, (congrArg List.length l2).trans l1⟩
  | fnReset =>
    obtain ⟨h1, l1⟩ := popMany_inv (l.lOff + l.cur) hI hlen (Nat.le_refl _)
    exact ⟨h1, l1.trans (Nat.sub_self _)⟩
  | bind _ _ _ _ _ => exact ⟨bind_inv s _ _ _ _ hI, hlen⟩
  | cleanup =>
    have hB := cleanup_resets_idents hI
    rw [hlen] at hB
    exact ⟨idsInv_of_blank hB, congrArg List.length hB.live⟩
  | _ => exact ⟨hI, hlen⟩   -- no other event touches the identifiers or the cursors of the locals tables

theorem stepLI_inv {p : Loc × Ids} (h : LIInv p) (e : Ev) : LIInv (stepLI p e) := by
  rw [stepLI_eq h.loc]
  obtain ⟨h1, h2⟩ := stepIds_inv h.loc h.ids h.len e
  exact ⟨locInv_next h.loc e, h1, h2⟩

/-- a run of the two machines keeps the invariant, and its locals component is the check-free fold of `runLoc_ok` -/
theorem runLI_inv (evs : List Ev) {p : Loc × Ids} (h : LIInv p) :
    LIInv (runLI p evs) ∧ (runLI p evs).1 = evs.foldl Loc.next p.1 :=
  List.foldl_rel (r := fun q l => LIInv q ∧ q.1 = l) ⟨h, rfl⟩ fun e _ q _ ⟨hq, hl⟩ =>
    ⟨stepLI_inv hq e, by rw [stepLI_eq hq.loc, hl]⟩

/-- clean_up_locals + free_unused_identifiers after any run from any state with the invariant: the cursors of the locals
    tables are back at the start of the tables and the identifier machine is blank -/
theorem runLI_cleanup {p : Loc × Ids} (h : LIInv p) (evs : List Ev) :
    let q := runLI p (evs ++ [.cleanup])
    q.1.AtStart ∧ q.1.N = p.1.N ∧ q.2.Blank := by
  intro q
  obtain ⟨h0, hfst⟩ := runLI_inv evs h
  have hq : q = stepLI (runLI p evs) .cleanup := List.foldl_append ..
  have hbad := (locInv_next h0.loc .cleanup).notBad
  rw [hq, stepLI_eq h0.loc, stepIds_cleanup h0.ids.notBad h0.loc.notBad hbad, ← h0.len]
  exact ⟨⟨rfl, rfl, rfl, rfl, rfl, hbad⟩, (congrArg Loc.N hfst).trans (foldl_next_N ..), cleanup_resets_idents h0.ids⟩

end NV.C02
