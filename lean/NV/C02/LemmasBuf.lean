/-
C02 — theorems about the lexer's text buffers (model: NV/C02/LexBuf.lean).  Every statement is for ALL inputs (any
character stream, any macro body, any argument lengths, any cursor position) and is proved over the slack constants and
guard flags REGENERATED from lex.c: a guard that disappears or a constant that changes makes the proof fail.
-/
import NV.C02.LexBuf

namespace NV.C02

open NV.Gen.C02

/-- what each outcome of `add_input` guarantees.  In place: the text ends where the cursor was and the front slack
    stays free.  Fresh buffer (only when there is no room in front and the rest of the line, ending in its newline,
    fits): text, rest of the line and newline end exactly at `DEFMAX - addEndSlack`. -/
theorem addInput_spec (outp len : Nat) (scan : Option (Bool × Nat)) :
    match addInput outp len scan with
    | .inplace o => o + len = outp ∧ addFrontSlack ≤ o
    | .fresh o e => ∃ r, scan = some (true, r) ∧ e = defmax - addEndSlack ∧ o + (r + len + 1) = e ∧
        outp < len + addFrontSlack ∧ r + len < defmax - addLineSlack
    | _ => True := by
  unfold addInput
  by_cases h1 : defmax - addMaxSlack ≤ len
  · rw [if_pos h1]; trivial
  rw [if_neg h1]
  by_cases h2 : outp < len + addFrontSlack
  · rw [if_pos h2]
    match scan with
    | none => trivial
    | some (false, r) => trivial
    | some (true, r) =>
      simp only [Bool.not_true, Bool.false_or, decide_eq_true_eq]
      by_cases h3 : defmax - addLineSlack ≤ r + len
      · rw [if_pos h3]; trivial
      -- the line fits with `addLineSlack` to spare, which is more than the `addEndSlack` kept behind the buffer
      · have c1 : addEndSlack + 1 ≤ addLineSlack := by decide
        rw [if_neg h3]
        exact ⟨r, rfl, rfl, Nat.sub_add_cancel (by omega), h2, Nat.lt_of_not_le h3⟩
  · rw [if_neg h2]
    exact ⟨Nat.sub_add_cancel (by omega), by omega⟩

/-- **add_input_writes_in_bounds** — whatever the cursor position (`outp ≤ DEFMAX`), the length of the text and the
    result of the scan for the end of the line, `add_input` either reports an error and writes nothing, or copies in
    place without leaving the front of the buffer (`outp - len` is an exact subtraction, at least `addFrontSlack` bytes
    stay free), or fills a fresh linked buffer whose three stores (text, rest of the line, terminating zero) are inside
    `buf[DEFMAX]`. -/
theorem add_input_writes_in_bounds (outp len : Nat) (scan : Option (Bool × Nat)) (h : outp ≤ defmax) :
    (∀ r ∈ addWrites outp len scan, r.1 ≤ r.2 ∧ r.2 ≤ defmax) ∧
    (∀ o, addInput outp len scan = .inplace o → o + len = outp ∧ addFrontSlack ≤ o) ∧
    (∀ o e, addInput outp len scan = .fresh o e → ∃ r, scan = some (true, r) ∧ o + (r + len + 1) = e ∧ e < defmax) := by
  have he : defmax - addEndSlack < defmax := by decide
  have hs := addInput_spec outp len scan
  refine ⟨fun x hx => ?_, fun o ho => by rw [ho] at hs; exact hs, fun o e ho => ?_⟩
  · unfold addWrites at hx
    split at hx
    · rename_i hin
      rw [hin] at hs
      rw [List.mem_singleton.mp hx]
      exact ⟨Nat.le_add_right .., hs.1 ▸ h⟩
    · rename_i hfr
      rw [hfr] at hs
      obtain ⟨r, hr, rfl, ho, -⟩ := hs
      cases hr
      simp only [List.mem_cons, List.not_mem_nil, or_false] at hx
      rcases hx with rfl | rfl | rfl <;> dsimp only <;> omega
    · exact absurd hx List.not_mem_nil
  · rw [ho] at hs
    obtain ⟨r, hr, rfl, ho', -⟩ := hs
    exact ⟨r, hr, ho', he⟩

/-- **add_input_never_nests** — inside a buffer that `add_input` itself allocated (its text is one line whose newline
    sits at `DEFMAX - addEndSlack - 1`), a further `add_input` never allocates another linked buffer: when the text no
    longer fits in front of the cursor, the rest-of-line test always reports "Macro expansion buffer overflow".  Hence
    the chain of linked buffers holds at most one TERM_ADD_INPUT buffer on top of the head / include buffers, whatever
    the macros do. -/
theorem add_input_never_nests (outp len : Nat) (h : outp + addEndSlack + 1 ≤ defmax) :
    ∀ o e, addInput outp len (some (true, defmax - addEndSlack - 1 - outp)) ≠ .fresh o e := by
  have c1 : addFrontSlack + addEndSlack + 1 ≤ addLineSlack := by decide
  intro o e ho
  -- the rest of the line reaches the end of the allocated buffer: with the text it cannot leave `addLineSlack` free
  have hs := addInput_spec outp len (some (true, defmax - addEndSlack - 1 - outp))
  rw [ho] at hs
  obtain ⟨r, hr, -, -, h2, h3⟩ := hs
  cases hr
  omega

-- (stated relative to the regenerated constants: a harmless change of DEFMAX or of a slack keeps them true)
example : addInput (defmax / 2) 100 none = .inplace (defmax / 2 - 100) := by decide
example : addInput 50 100 (some (true, 30)) = .fresh (defmax - addEndSlack - 131) (defmax - addEndSlack) := by decide
example : addInput 50 100 (some (false, 30)) = .overflow true := by decide
example : addInput 50 100 (some (true, defmax - addLineSlack - 100)) = .overflow true := by decide
example : addInput 0 (defmax - addMaxSlack) none = .tooLong := by decide

theorem argWrites_lt : ∀ (ks : List CK) (q n : Nat), ∀ i ∈ argWrites ks q n, i < defmax
  | [], _, _ => fun _ hi => nomatch hi
  | k :: ks, q, n => by
    have hT : argGuardAtTop = true := rfl
    have hI : argInnerGuard = true := rfl
    unfold argWrites
    by_cases hn : nargs ≤ n
    · rw [if_pos hn]; exact fun _ hi => nomatch hi
    rw [if_neg hn, hT, hI, Bool.true_and]
    -- the test at the top of the round puts its first store inside; the second store of a doubled character is
    -- behind the inner test
    by_cases hq : defmax - argSlack ≤ q
    · rw [if_pos (decide_eq_true hq)]; exact fun _ hi => nomatch hi
    rw [if_neg (fun h => hq (of_decide_eq_true h))]
    have h0 : q < defmax := by omega
    cases k with
    | sep => exact List.forall_mem_cons.mpr ⟨h0, argWrites_lt ks _ _⟩
    | close => exact List.forall_mem_cons.mpr ⟨h0, fun _ hi => nomatch hi⟩
    | plain =>
      rw [if_neg (fun h => hq (of_decide_eq_true h))]
      exact List.forall_mem_cons.mpr ⟨h0, argWrites_lt ks _ _⟩
    | twice =>
      by_cases hq1 : defmax - argSlack ≤ q + 1
      · rw [Bool.true_and, if_pos (decide_eq_true hq1)]; exact List.forall_mem_cons.mpr ⟨h0, fun _ hi => nomatch hi⟩
      · rw [Bool.true_and, if_neg (fun h => hq1 (of_decide_eq_true h))]
        exact List.forall_mem_cons.mpr ⟨h0, List.forall_mem_cons.mpr ⟨by omega, argWrites_lt ks _ _⟩⟩
    | skip => exact argWrites_lt ks _ _

/-- **macro_args_in_bounds** — collecting the arguments of a macro call: for EVERY stream of characters (ordinary,
    doubled `#` / `\`, separators, closing parenthesis) every store into `expbuf[DEFMAX]` has an index below DEFMAX.
    Needs the test at the start of every round (`argGuardAtTop`, regenerated): separators are stored without any other
    test. -/
theorem macro_args_in_bounds (ks : List CK) : ∀ i ∈ argWrites ks 0 0, i < defmax := argWrites_lt ks 0 0

example : argWrites [.plain, .sep, .twice, .close] 0 0 = [0, 1, 2, 3, 4] := by decide

/-- a guarded store of the expansion loop leaves the cursor inside the buffer -/
theorem bodyStore_lt {g : Bool} (hg : g = true) {b b' : Nat} (h : bodyStore g b = some b') : b' < defmax := by
  subst hg
  unfold bodyStore at h
  by_cases hc : defmax ≤ b + 1
  · rw [Bool.true_and, if_pos (decide_eq_true hc)] at h; exact nomatch h
  · rw [Bool.true_and, if_neg (fun hd => hc (of_decide_eq_true hd))] at h
    cases h; exact Nat.lt_of_not_le hc

theorem argCopy_lt : ∀ (k b : Nat), b < defmax →
    (∀ i ∈ (argCopy k b).1, i < defmax) ∧ (∀ b', (argCopy k b).2 = some b' → b' < defmax)
  | 0, b, hb => by
    refine ⟨fun _ hi => absurd hi List.not_mem_nil, fun b' h => ?_⟩
    cases h; exact hb
  | k + 1, b, hb => by
    unfold argCopy
    cases hs : bodyStore bodyGuardArg b with
    | none => exact ⟨List.forall_mem_cons.mpr ⟨hb, fun _ hi => nomatch hi⟩, fun _ h => nomatch h⟩
    | some b' =>
      obtain ⟨h1, h2⟩ := argCopy_lt k b' (bodyStore_lt rfl hs)
      exact ⟨List.forall_mem_cons.mpr ⟨hb, h1⟩, h2⟩

theorem bodyWrites_lt : ∀ (ts : List BTok) (b : Nat), b < defmax → ∀ i ∈ bodyWrites ts b, i < defmax
  | [], b, hb => List.forall_mem_cons.mpr ⟨hb, fun _ hi => nomatch hi⟩
  | .lit :: ts, b, hb => by
    unfold bodyWrites
    cases hs : bodyStore bodyGuardLit b with
    | none => exact List.forall_mem_cons.mpr ⟨hb, fun _ hi => nomatch hi⟩
    | some b' => exact List.forall_mem_cons.mpr ⟨hb, bodyWrites_lt ts b' (bodyStore_lt rfl hs)⟩
  | .marks :: ts, b, hb => by
    unfold bodyWrites
    cases hs : bodyStore bodyGuardMarks b with
    | none => exact List.forall_mem_cons.mpr ⟨hb, fun _ hi => nomatch hi⟩
    | some b' => exact List.forall_mem_cons.mpr ⟨hb, bodyWrites_lt ts b' (bodyStore_lt rfl hs)⟩
  | .arg len :: ts, b, hb => by
    unfold bodyWrites
    obtain ⟨h1, h2⟩ := argCopy_lt len b hb
    generalize argCopy len b = r at h1 h2
    obtain ⟨ws, ob⟩ := r
    cases ob with
    | none => exact h1
    | some b' => exact List.forall_mem_append.mpr ⟨h1, bodyWrites_lt ts b' (h2 b' rfl)⟩

/-- **macro_body_in_bounds** — expanding a macro body: for EVERY body (ordinary bytes, doubled `@`, parameters) and
    every argument length, each store into `buf[DEFMAX]`, the terminating zero included, has an index below DEFMAX.
    Needs the overflow test behind all three stores (`bodyGuard*`, regenerated). -/
theorem macro_body_in_bounds (ts : List BTok) : ∀ i ∈ bodyWrites ts 0, i < defmax :=
  bodyWrites_lt ts 0 (by decide)

example : bodyWrites [.lit, .arg 3, .marks] 0 = [0, 1, 2, 3, 4, 5] := by decide

/-- consecutive stores `[a, a + n)` (the model writes them out as `[a, a + 1, ..]`) are inside a buffer of `m` bytes -/
theorem range'_lt (a n : Nat) {m : Nat} (h : a + n ≤ m) : ∀ i ∈ List.range' a n, i < m :=
  fun _ hi => Nat.lt_of_lt_of_le (List.mem_range'_1.mp hi).2 h

/-- every round of the function-like loop stores a few consecutive bytes `[a, a + n)` and then moves on from cursor
    `q` only if the test allows it: the bytes just stored have to be inside, and the next round starts with the test
    passed -/
theorem defRound_lt {ks : List DK} (ih : ∀ q, 1 ≤ q → q + defFnSlack ≤ mlen → ∀ i ∈ defWritesFn ks q, i < mlen)
    (q a n : Nat) (h : a + n ≤ mlen) :
    ∀ i ∈ (if q + defFnSlack < mlen then List.range' a n ++ defWritesFn ks (q + 1) else List.range' a n), i < mlen := by
  by_cases hq : q + defFnSlack < mlen
  · rw [if_pos hq]; exact List.forall_mem_append.mpr ⟨range'_lt a n h, ih (q + 1) (Nat.succ_pos q) hq⟩
  · rw [if_neg hq]; exact range'_lt a n h

theorem defWritesFn_lt : ∀ (ks : List DK) (q : Nat), 1 ≤ q → q + defFnSlack ≤ mlen → ∀ i ∈ defWritesFn ks q, i < mlen
  | [], q, h1, h2 => range'_lt (q - 1) 1 (by omega)
  | k :: ks, q, h1, h2 => by
    -- `q + 3 ≤ MLEN` on entry: a parameter marker (cursor back by at least one, then up to four bytes) ends below MLEN
    have c : 3 ≤ defFnSlack := by decide
    have ih := defWritesFn_lt ks
    unfold defWritesFn
    cases k with
    | ch => exact defRound_lt ih q q 1 (by omega)
    | atSign => exact defRound_lt ih (q + 1) q 2 (by omega)
    | param idlen =>
      dsimp only
      by_cases hc : idlen = 0 ∨ q < idlen + 1
      · rw [if_pos hc]; exact fun _ hi => nomatch hi
      · rw [if_neg hc]; exact defRound_lt ih (q - idlen + 2) (q - idlen) 3 (by omega)
    | paramAt idlen =>
      dsimp only
      by_cases hc : idlen = 0 ∨ q < idlen + 1
      · rw [if_pos hc]; exact fun _ hi => nomatch hi
      · rw [if_neg hc]; exact defRound_lt ih (q - idlen + 3) (q - idlen) 4 (by omega)
    | cont =>
      dsimp only
      by_cases ha : q + defFnSlack < mlen
      · rw [if_pos ha]
        by_cases hb : q + 1 + defFnSlack < mlen
        · rw [if_pos hb]
          exact List.forall_mem_cons.mpr ⟨by omega, List.forall_mem_cons.mpr ⟨by omega, ih q h1 h2⟩⟩
        · rw [if_neg hb]; exact range'_lt q 2 (by omega)
      · rw [if_neg ha]; exact range'_lt q 1 (by omega)

theorem defWritesObj_lt : ∀ (n q : Nat), q + defObjSlack ≤ mlen → ∀ i ∈ defWritesObj n q, i < mlen
  | 0, q, h => by
    have c : 2 ≤ defObjSlack := by decide
    exact range'_lt (q - 1) 1 (by omega)
  | n + 1, q, h => by
    have c : 2 ≤ defObjSlack := by decide
    have hq : q < mlen := by omega
    unfold defWritesObj
    by_cases ha : q + defObjSlack < mlen
    · rw [if_pos ha]; exact List.forall_mem_cons.mpr ⟨hq, defWritesObj_lt n (q + 1) ha⟩
    · rw [if_neg ha]; exact List.forall_mem_cons.mpr ⟨hq, fun _ hi => nomatch hi⟩

/-- **define_text_in_bounds** — storing the text of a `#define`: for EVERY body (ordinary characters, `@`, parameters
    of any length replaced by their two-byte marker - a one-letter parameter makes the cursor move forward without a
    test -, continuation lines) every store into `mtext[MLEN]` has an index below MLEN, in the function-like loop
    (cursor starts behind the leading blank) and in the object-like loop. -/
theorem define_text_in_bounds :
    (∀ ks : List DK, ∀ i ∈ defWritesFn ks 1, i < mlen) ∧ (∀ n : Nat, ∀ i ∈ defWritesObj n 0, i < mlen) :=
  ⟨fun ks => defWritesFn_lt ks 1 (Nat.le_refl 1) (by decide), fun n => defWritesObj_lt n 0 (by decide)⟩

example : defWritesFn [.ch, .param 1, .atSign] 1 = [1, 1, 2, 3, 4, 5, 5] := by decide

/-- **terminator_in_bounds** — a text-block terminator of ANY length (it is read from the input buffer, which can hold
    a macro expansion far longer than a line): every store into `terminator[MAXLINE + termBufSize]` is inside. -/
theorem terminator_in_bounds (n : Nat) : ∀ i ∈ termWrites n, i < maxline + termBufSize := by
  have c : termLimit < maxline + termBufSize := by decide
  intro i hi
  unfold termWrites at hi
  rw [show termGuard = true from rfl, if_pos rfl] at hi
  by_cases hn : n ≤ termLimit
  · rw [if_pos hn] at hi
    rcases List.mem_append.mp hi with hi | hi
    · have := List.mem_range.mp hi; omega
    · rw [List.mem_singleton.mp hi]; omega
  · rw [if_neg hn] at hi
    have := List.mem_range.mp hi; omega

example : termWrites 3 = [0, 1, 2, 3] := by decide

/-- **include_macro_hops_bounded** — `#include MACRO`: whatever the macros expand to (also a macro naming itself or a
    cycle), handle_include follows at most MAX_INCLUDE_DEPTH of them and then reports an error: no unbounded recursion. -/
theorem include_macro_hops_bounded (cyclic : Bool) (k : Nat) :
    ∃ h, includeHops cyclic k = some h ∧ h ≤ maxIncludeDepth := by
  have hG : includeHopGuard = true := by decide
  refine ⟨min k includeHopLimit, ?_, ?_⟩
  · simp [includeHops, hG]
  · exact Nat.min_le_right _ _

end NV.C02
