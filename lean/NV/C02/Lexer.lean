/-
C02 — lexer state: the include counter against the include stack, and the SAVEC-guarded writes into yytext[].
-/
import NV.C02.Model
import NV.C02.Spec

namespace NV.C02

open NV.Gen.C02

/-- the include stack is no deeper than the counter the include guard tests (`incnum`), which stays below its limit.
    `.lexStart` zeroes the counter and not the stack, so it keeps this only after `.lexEnd` (hence `e ≠ .lexStart` below). -/
def IncInv (s : Lex) : Prop := s.incDepth ≤ s.incnum ∧ s.incnum ≤ incLimit

theorem stepLex_inc (s : Lex) (e : Ev) (h : IncInv s) (hne : e ≠ .lexStart) : IncInv (stepLex s e).1 := by
  obtain ⟨incnum, incDepth, ifDepth, fnCount, fnRefused, fnFlag, bad⟩ := s
  obtain ⟨h1, h2⟩ := h
  simp only at h1 h2
  cases bad with
  | true => exact ⟨h1, h2⟩
  | false =>
    unfold stepLex
    rw [if_neg Bool.false_ne_true]
    cases e with
    | incAttempt ok =>
      -- a push happens only while `incnum` is below the limit, and the real depth is not above `incnum`
      dsimp only
      split
      · exact ⟨h1, h2⟩
      · rename_i hfull
        have hlt : incnum < incLimit := Nat.lt_of_succ_lt_succ (Nat.lt_of_not_le hfull)
        cases ok with
        | false => exact ⟨h1, h2⟩
        | true =>
          rw [if_pos rfl, if_pos (show incDepth + 1 ≤ incLimit from Nat.lt_of_le_of_lt h1 hlt)]
          exact ⟨Nat.succ_le_succ h1, hlt⟩
    | incPop =>
      dsimp only
      split
      · exact ⟨h1, h2⟩
      · exact ⟨Nat.sub_le_sub_right h1 1, Nat.le_trans (Nat.sub_le ..) h2⟩
    | lexStart => exact absurd rfl hne
    | lexEnd => exact ⟨Nat.zero_le _, h2⟩
    -- no other event touches the two counters
    | ifPop | fnPush | fnPop => dsimp only; split <;> (try split) <;> exact ⟨h1, h2⟩
    | _ => exact ⟨h1, h2⟩

theorem runLex_inc (evs : List Ev) (s : Lex) (h : IncInv s) (hn : ∀ e ∈ evs, e ≠ .lexStart) : IncInv (runLex s evs) :=
  List.foldlRecOn evs _ h fun s hs e he => stepLex_inc s e hs (hn e he)

/-- the obligation on lex.c: the weakest SAVEC guard (regenerated `savecBound`) stops inside `yytext[MAXLINE]` -/
theorem savecBound_lt_maxline : (1 : Int) ≤ savecBound ∧ savecBound < (maxline : Int) := by decide

/-- the scan stops at the SAVEC bound: no index written lies beyond both the start and the bound -/
theorem scanFrom_le : ∀ (n yyp i : Nat), i ∈ scanFrom yyp n → (i : Int) ≤ max (yyp : Int) savecBound
  | 0, yyp, i, h => by
    rw [List.mem_singleton.mp h]; exact Int.le_max_left ..
  | n + 1, yyp, i, h => by
    unfold scanFrom at h
    split at h
    · rename_i hlt
      rcases List.mem_cons.mp h with rfl | h
      · exact Int.le_max_left ..
      · have := scanFrom_le n (yyp + 1) i h
        omega
    · rw [List.mem_singleton.mp h]; exact Int.le_max_left ..

end NV.C02
