/-
C02 — the locals tables (`Loc`): the invariant, and the fact every later proof about this machine starts from: while
the invariant holds no bounds check of `stepLoc` fires, so the machine is the check-free `Loc.next`.
-/
import NV.C02.Oracle

namespace NV.C02

open NV.Gen.C02

/-- the saved blocks of the open literals (innermost first) lie below the current pointers and below each other -/
def Chain (N tsize : Nat) : Nat → Nat → List Frame → Prop
  | _, _, [] => True
  | lo, to, f :: rest =>
    f.lo + f.c ≤ lo ∧ f.to + f.m ≤ to ∧ f.lo ≤ f.to ∧ f.c ≤ f.m ∧ f.m ≤ N ∧ f.to + N ≤ tsize ∧ Chain N tsize f.lo f.to rest

theorem chain_mono {N ts ts' : Nat} (hts : ts ≤ ts') : ∀ (fs : List Frame) {lo to lo' to' : Nat}, lo ≤ lo' → to ≤ to' →
    Chain N ts lo to fs → Chain N ts' lo' to' fs
  | [], _, _, _, _, _, _, _ => trivial
  | _ :: rest, _, _, _, _, h1, h2, ⟨a, b, c, d, e, g, r⟩ =>
    ⟨Nat.le_trans a h1, Nat.le_trans b h2, c, d, e, Nat.le_trans g hts,
      chain_mono hts rest (Nat.le_refl _) (Nat.le_refl _) r⟩

/-- the saved block found `d` levels down, with what lies below it, is a chain under the current pointers -/
theorem chain_drop {N ts : Nat} {f : Frame} {below : List Frame} : ∀ {d : Nat} {fs : List Frame} {lo to : Nat},
    Chain N ts lo to fs → fs.drop d = f :: below → Chain N ts lo to (f :: below)
  | 0, _, _, _, h, hd => hd ▸ h
  | d + 1, _ :: rest, _, _, ⟨a, b, _, _, _, _, r⟩, hd =>
    chain_drop (d := d) (chain_mono (Nat.le_refl _) rest (Nat.le_trans (Nat.le_add_right ..) a)
      (Nat.le_trans (Nat.le_add_right ..) b) r) hd

/-- every saved block is the head of a chain `chain_drop` gives -/
theorem chain_mem_counts {N ts : Nat} {fs : List Frame} {lo to : Nat} (h : Chain N ts lo to fs) (f : Frame) (hf : f ∈ fs) :
    f.c ≤ f.m ∧ f.m ≤ N :=
  have ⟨_, hd, he⟩ := List.getElem_of_mem hf
  have ⟨_, _, _, c, e, _⟩ := chain_drop h (he ▸ List.drop_eq_getElem_cons hd)
  ⟨c, e⟩

/-- invariant of the locals tables (repaired code) -/
structure LocInv (l : Loc) : Prop where
  notBad : l.bad = false
  curMax : l.cur ≤ l.max
  maxN : l.max ≤ l.N
  tFit : l.tOff + l.N ≤ l.tsize
  sizes : l.lsize = l.tsize
  lt : l.lOff ≤ l.tOff
  chain : Chain l.N l.tsize l.lOff l.tOff l.frames

/-- the locals tables as a compile finds them: cursors at the start of the tables, no literal open, nothing crashed
    (the sizes may have grown: reallocate_locals never shrinks the tables) -/
structure Loc.AtStart (l : Loc) : Prop where
  cur : l.cur = 0
  max : l.max = 0
  lOff : l.lOff = 0
  tOff : l.tOff = 0
  frames : l.frames = []
  notBad : l.bad = false

/-- the entries of locals[] in use lie inside the table: the bound every read and release of `stepLoc` checks -/
theorem LocInv.fit {l : Loc} (h : LocInv l) : l.lOff + l.cur ≤ l.lsize := by
  have h1 := h.curMax; have h2 := h.maxN; have h3 := h.tFit; have h4 := h.sizes; have h5 := h.lt
  omega

theorem locInv_init (N : Nat) : LocInv (Loc.init N) :=
  ⟨rfl, Nat.le_refl _, Nat.zero_le _, Nat.le_of_eq (Nat.zero_add _), rfl, Nat.le_refl _, trivial⟩

/-- the locals machine after `e` when no bounds check fires: `stepLoc` without its checks and its trace -/
def Loc.next (l : Loc) : Ev → Loc
  | .addLocal _ _ _ => if l.N ≤ l.max then l else { l with cur := l.cur + 1, max := l.max + 1 }
  | .popN n => { l with cur := l.cur - min n l.cur }
  | .freeAll => { l with cur := 0, max := 0 }
  | .enterLit =>
    let grow := l.tsize ≤ l.tOff + l.max + l.N
    { l with tsize := if grow then l.tsize + l.N else l.tsize, lsize := if grow then l.lsize + l.N else l.lsize,
             frames := ⟨l.cur, l.max, l.lOff, l.tOff⟩ :: l.frames, lOff := l.lOff + l.cur, tOff := l.tOff + l.max,
             cur := 0, max := 0 }
  | .leaveLit d =>
    match l.frames.drop d with
    | [] => l
    | f :: rest => { l with frames := rest, cur := f.c, max := f.m, lOff := f.lo, tOff := f.to }
  | .fnReset | .cleanup => { l with cur := 0, max := 0, lOff := 0, tOff := 0, frames := [] }
  | _ => l

theorem Loc.next_N (l : Loc) (e : Ev) : (l.next e).N = l.N := by
  unfold Loc.next
  split <;> try rfl
  all_goals split <;> rfl

/-- under the invariant every bounds check of `stepLoc` passes, and every line it emits passes the oracle -/
theorem stepLoc_ok {l : Loc} (h : LocInv l) (e : Ev) :
    (stepLoc l e).1 = l.next e ∧ ∀ o ∈ (stepLoc l e).2, okOut o = true := by
  have hfit := h.fit
  obtain ⟨N, ts, ls, tOff, lOff, cur, max, frames, bad⟩ := l
  obtain ⟨hb, h1, h2, h3, h4, h5, hch⟩ := h
  simp only at hb h1 h2 h3 h4 h5 hch hfit
  subst hb
  unfold stepLoc
  rw [if_neg Bool.false_ne_true]
  cases e with
  | addLocal _ _ _ =>
    dsimp only [Loc.next]
    by_cases hf : N ≤ max
    · rw [if_pos hf, if_pos hf]
      exact ⟨rfl, ok_cons (okOut_ev (by simp) h2) ok_nil⟩
    · have hc : tOff + max < ts ∧ lOff + cur < ls := by omega
      rw [if_neg hf, if_neg hf, if_pos hc]
      exact ⟨rfl, ok_cons (okOut_ev (by simp) hc.1) (ok_cons (okOut_ev (by simp) hc.2) ok_nil)⟩
  | popN n =>
    dsimp only [Loc.next]
    rw [if_pos (Or.inr hfit)]
    refine ⟨rfl, ok_cons (okOut_ev (by simp) (Nat.min_le_right ..)) fun o ho => ?_⟩
    obtain ⟨i, -, rfl⟩ := List.mem_map.mp ho
    exact okOut_ev (by simp) (Nat.le_trans (Nat.sub_le ..) (Nat.le_trans (Nat.sub_le ..) hfit))
  | freeAll =>
    dsimp only [Loc.next]
    rw [if_pos hfit]
    exact ⟨rfl, ok_cons (okOut_ev (by simp) hfit) ok_nil⟩
  | enterLit =>
    have hto : tOff ≤ ts := Nat.le_trans (Nat.le_add_right ..) h3
    have hlo : lOff ≤ ls := Nat.le_trans (Nat.le_add_right ..) hfit
    have htm : tOff + max ≤ ts := Nat.le_trans (Nat.add_le_add_left h2 tOff) h3
    dsimp only [Loc.next]
    by_cases hg : ts ≤ tOff + max + N
    · have hc : lOff + cur ≤ ls + N := Nat.le_add_right_of_le hfit
      simp only [hg, if_true, hc, true_and, List.cons_append, List.nil_append]
      exact ok_cons (okOut_ev (by simp) (Nat.le_add_right_of_le hto)) <|
        ok_cons (okOut_ev (by simp) (Nat.le_add_right_of_le hlo)) <| ok_cons (okOut_ev (by simp) hc) <|
        ok_cons (okOut_ev (by simp) (Nat.le_add_right_of_le htm)) <| ok_cons (okOut_ev (by simp) hc) ok_nil
    · simp only [hg, if_false, hfit, if_true, true_and, List.nil_append, List.cons_append]
      exact ok_cons (okOut_ev (by simp) hfit) <| ok_cons (okOut_ev (by simp) htm) <|
        ok_cons (okOut_ev (by simp) hfit) ok_nil
  | leaveLit d =>
    dsimp only [Loc.next]
    cases hdrop : frames.drop d with
    | nil => exact ⟨rfl, ok_nil⟩
    | cons f rest =>
      obtain ⟨c1, -, -, c4, -, c6, -⟩ := chain_drop hch hdrop
      have hc1 : f.lo + f.c ≤ lOff ∧ lOff ≤ ls := ⟨c1, Nat.le_trans (Nat.le_add_right ..) hfit⟩
      have hc2 : f.lo + f.c ≤ ls := Nat.le_trans c1 hc1.2
      dsimp only
      rw [if_pos hc1, if_pos hc2]
      exact ⟨rfl, ok_cons (okOut_ev (by simp) c4) <|
        ok_cons (okOut_ev (by simp) (Nat.le_trans (Nat.le_add_right ..) c6)) <|
        ok_cons (okOut_ev (by simp) (Nat.le_trans (Nat.le_add_right ..) hc2)) <| ok_cons (okOut_ev (by simp) hc2) ok_nil⟩
  | argTypes k =>
    have hc : tOff + min k N ≤ ts := Nat.le_trans (Nat.add_le_add_left (Nat.min_le_right ..) tOff) h3
    dsimp only [Loc.next]
    rw [if_pos hc]
    exact ⟨rfl, ok_cons (okOut_ev (by simp) hc) ok_nil⟩
  | fnReset =>
    dsimp only [Loc.next]
    rw [if_pos hfit]
    exact ⟨rfl, ok_cons (okOut_ev (by simp) (Nat.zero_le _)) ok_nil⟩
  | cleanup =>
    dsimp only [Loc.next]
    rw [if_pos hfit]
    exact ⟨rfl, ok_cons (okOut_ev (by simp) hfit) ok_nil⟩
  | _ => exact ⟨rfl, ok_nil⟩   -- every other event passes the locals tables by

theorem locInv_next {l : Loc} (h : LocInv l) (e : Ev) : LocInv (l.next e) := by
  obtain ⟨N, ts, ls, tOff, lOff, cur, max, frames, bad⟩ := l
  have ⟨hb, h1, h2, h3, h4, h5, hch⟩ := h
  simp only at hb h1 h2 h3 h4 h5 hch
  have reset : LocInv ⟨N, ts, ls, 0, 0, 0, 0, [], bad⟩ :=
    ⟨hb, Nat.le_refl _, Nat.zero_le _, by dsimp only; omega, h4, Nat.le_refl _, trivial⟩
  unfold Loc.next
  cases e with
  | addLocal _ _ _ =>
    dsimp only
    split
    · exact h
    · exact ⟨hb, Nat.succ_le_succ h1, Nat.lt_of_not_le ‹_›, h3, h4, h5, hch⟩
  | popN n => exact ⟨hb, Nat.le_trans (Nat.sub_le ..) h1, h2, h3, h4, h5, hch⟩
  | freeAll => exact ⟨hb, Nat.le_refl _, Nat.zero_le _, h3, h4, h5, hch⟩
  | enterLit =>
    -- the new innermost block is the old window; a grown table keeps the blocks below it in place
    have hlt : lOff + cur ≤ tOff + max := Nat.add_le_add h5 h1
    by_cases hg : ts ≤ tOff + max + N
    · simp only [hg, if_true]
      exact { notBad := hb, curMax := Nat.le_refl _, maxN := Nat.zero_le _, sizes := congrArg (· + N) h4, lt := hlt
              tFit := Nat.add_le_add_right (Nat.le_trans (Nat.add_le_add_left h2 tOff) h3) N
              chain := ⟨Nat.le_refl _, Nat.le_refl _, h5, h1, h2, Nat.le_add_right_of_le h3,
                chain_mono (Nat.le_add_right ..) frames (Nat.le_refl _) (Nat.le_refl _) hch⟩ }
    · simp only [hg, if_false]
      exact { notBad := hb, curMax := Nat.le_refl _, maxN := Nat.zero_le _, sizes := h4, lt := hlt
              tFit := Nat.le_of_lt (Nat.lt_of_not_le hg)
              chain := ⟨Nat.le_refl _, Nat.le_refl _, h5, h1, h2, h3, hch⟩ }
  | leaveLit d =>
    -- the saved block that is returned to carries the invariant of the state it was saved in
    dsimp only
    split
    · exact h
    · rename_i f rest hdrop
      obtain ⟨-, -, c3, c4, c5, c6, crest⟩ := chain_drop hch hdrop
      exact ⟨hb, c4, c5, c6, h4, c3, crest⟩
  | fnReset => exact reset
  | cleanup => exact reset
  | _ => exact h

theorem runLoc_ok : ∀ (evs : List Ev) {l : Loc}, LocInv l →
    (runLoc l evs).1 = evs.foldl Loc.next l ∧ ∀ o ∈ (runLoc l evs).2, okOut o = true
  | [], _, _ => ⟨rfl, ok_nil⟩
  | e :: es, l, h => by
    obtain ⟨h1, ho⟩ := stepLoc_ok h e
    obtain ⟨h2, ho2⟩ := runLoc_ok es (locInv_next h e)
    simp only [runLoc, List.foldl_cons]
    rw [h1]
    exact ⟨h2, ok_append ho ho2⟩

theorem locInv_foldl (evs : List Ev) {l : Loc} (h : LocInv l) : LocInv (evs.foldl Loc.next l) :=
  List.foldlRecOn evs _ h fun _ hl e _ => locInv_next hl e

theorem foldl_next_N (evs : List Ev) (l : Loc) : (evs.foldl Loc.next l).N = l.N :=
  List.foldlRecOn (motive := fun l' : Loc => l'.N = l.N) evs _ rfl fun l' hl e _ => (l'.next_N e).trans hl

end NV.C02
