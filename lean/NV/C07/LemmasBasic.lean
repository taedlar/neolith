/-
C07 — facts several of the proof modules use: `filterMap` where nothing is dropped, a
single flag bit as `Nat.testBit`, and the two sortedness tests (`sortedKeys`, `fioSorted`) as `List.Pairwise`.
-/
import NV.C07.WF
import NV.C07.Compress

namespace NV.C07

open NV.Gen.C07

theorem hasBit_or (x a b : Nat) : hasBit x (a ||| b) = (hasBit x a || hasBit x b) := by
  simp only [hasBit, Nat.and_or_distrib_left]
  rw [Bool.eq_iff_iff]
  simp only [bne_iff_ne, ne_eq, Bool.or_eq_true, Nat.or_eq_zero_iff]
  exact Decidable.not_and_iff_not_or_not

theorem hasBit_two_pow (x k : Nat) : hasBit x (2^k) = x.testBit k := by
  unfold hasBit
  cases h : x.testBit k
  · have : x &&& 2^k = 0 := by
      apply Nat.eq_of_testBit_eq
      intro i
      simp only [Nat.testBit_and, Nat.testBit_two_pow, Nat.zero_testBit]
      by_cases hk : k = i
      · subst hk; simp [h]
      · simp [hk]
    simp [this]
  · have : (x &&& 2^k).testBit k = true := by simp [Nat.testBit_and, h]
    have hne : x &&& 2^k ≠ 0 := by
      intro h0; rw [h0] at this; simp at this
    simp [hne]

theorem filterMap_all_some {α β : Type} (f : α → Option β) : ∀ (l : List α), (∀ x ∈ l, (f x).isSome = true) →
    (l.filterMap f).length = l.length ∧ ∀ v : Nat, (l.filterMap f)[v]? = (l[v]?).bind f := by
  intro l
  induction l with
  | nil => intro _; simp
  | cons a rest ih =>
    intro h
    have ha := h a (by simp)
    obtain ⟨b, hb⟩ := Option.isSome_iff_exists.mp ha
    obtain ⟨i1, i2⟩ := ih (fun x hx => h x (by simp [hx]))
    refine ⟨by simp [hb, i1], ?_⟩
    intro v
    cases v with
    | zero => simp [hb]
    | succ v' => simpa [hb] using i2 v'

/-- for a transitive relation only the first two elements have to be compared -/
theorem pairwise_cons_cons {α : Type} {R : α → α → Prop} (tr : ∀ a b c, R a b → R b c → R a c) (a b : α)
    (r : List α) : (a :: b :: r).Pairwise R ↔ R a b ∧ (b :: r).Pairwise R := by
  rw [List.pairwise_cons]
  refine and_congr_left fun hb => ⟨fun h => h b List.mem_cons_self, fun hab x hx => ?_⟩
  rcases List.mem_cons.mp hx with rfl | hx
  · exact hab
  · exact tr _ _ _ hab ((List.pairwise_cons.mp hb).1 x hx)

theorem sortedKeys_iff (l : List Nat) : sortedKeys l = true ↔ l.Pairwise (· < ·) := by
  fun_induction sortedKeys l with
  | case1 => simp
  | case2 => simp
  | case3 a b rest ih => rw [pairwise_cons_cons (R := (· < ·)) (fun _ _ _ => Nat.lt_trans), ← ih]; simp

theorem fioSorted_iff (l : List Inherit) : fioSorted l = true ↔ l.Pairwise (fun a b => a.fio ≤ b.fio) := by
  fun_induction fioSorted l with
  | case1 => simp
  | case2 => simp
  | case3 a b rest ih =>
    rw [pairwise_cons_cons (R := fun a b : Inherit => a.fio ≤ b.fio) (fun _ _ _ => Nat.le_trans), ← ih]; simp

end NV.C07
