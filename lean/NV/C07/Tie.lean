/-
C07 — bridging lemmas between hand-written model definitions and definitions REGENERATED from the source on every run
(NV/Gen/C07.lean: clang AST of apply_low / find_function / compress_function_tables / find_func_entry, macro values and
sizes from a probe).  If a C line changes, the regenerated side changes and the lemma below stops checking (stage B:
obligation broken; the check then searches for a failing input through the correspondence).
-/
import NV.C07.Model
import NV.C07.Build
import NV.C07.Compress

namespace NV.C07

open NV.Gen.C07

/-- `static int cache_mask = APPLY_CACHE_SIZE - 1` as regenerated -/
theorem cacheMask_is_size_minus_one : cacheMaskGen = cacheSize - 1 := by decide

/-- the model's cache slot IS the regenerated right-hand side of `ix = ...` in apply_low; this is what it computes.
    The proof accepts any re-association / re-ordering of the xor and the mask (a harmless refactoring of the C
    expression); a change of WHAT is hashed fails here. -/
theorem slotOf_formula (id ptr : Nat) :
    slotOf id ptr = (id ^^^ ptr ^^^ (ptr >>> applyCacheBits)) &&& (cacheSize - 1) := by
  calc slotOf id ptr
      = (id ^^^ ptr ^^^ (ptr >>> applyCacheBits)) &&& cacheMaskGen := by
        -- the regenerated expression has APPLY_CACHE_BITS expanded: compare with the regenerated value, whatever it is
        unfold slotOf slotOfGen applyCacheBits
        ac_rfl  -- up to bracketing and order of ^^^ and &&&
    _ = _ := by rw [cacheMask_is_size_minus_one]

/-- the slot computed from the source's formula always lies inside `cache[APPLY_CACHE_SIZE]` (so the `set` of the
    model's miss path is never a silent no-op and the C access is in range) -/
theorem slotOf_lt (id ptr : Nat) : slotOf id ptr < cacheSize := by
  rw [slotOf_formula]
  have h : (id ^^^ ptr ^^^ (ptr >>> applyCacheBits)) &&& (cacheSize - 1) ≤ cacheSize - 1 := Nat.and_le_right
  have : 0 < cacheSize := by decide
  omega

/-- the two flag tests of find_function (regenerated from its AST) are the ones `tableSearch` / `isReal` / `isBlocker`
    are written with -/
theorem find_masks_are_source :
    findSkipMaskGen = (nameUndefined ||| namePrototype ||| nameInherited) ∧ findBreakMaskGen = nameInherited := by
  decide

/-- NAME_MASK and NAME_NO_CODE (macro values from the probe) are the model's compositions of single bits -/
theorem name_masks_are_source : nameMask = nameMaskC ∧ nameNoCode = nameNoCodeC := by decide

/-- the index of the compressed table is a byte table: the marker is the largest value an index element can hold and
    the loop of compress_function_tables overflows right after it (stated relative to the probed element size, so a
    wider index type changes both sides together with the regenerated literals) -/
theorem cmp_marker_is_byte_max : cmpMarker + 1 = 2 ^ (8 * cmpIndexBytes) := by decide

/-- the literals of compress_function_tables / find_func_entry (regenerated from their ASTs) are the ones the model of
    the index-byte loop (`fillGo`: marker, `j + 1 == 256`, `j := 255`) is written with -/
theorem cmp_literals_are_source :
    cmpMarkerGen = cmpMarker ∧ cmpOverflowAtGen = 256 ∧ cmpJAfterOverflowGen = 255 ∧ cmpOverflowAtGen = cmpMarker + 1 := by
  decide

/-- **The search loop of find_func_entry is the source's.**  One iteration of the model's `inhSearch` (the subject of
    `inhSearch_spec` and, through it, of `find_func_entry_compress`) is exactly one iteration of the loop REGENERATED from
    the clang AST of find_func_entry: same loop condition, same `mid`, same comparison, same assignments to first / last,
    and NO early exit.  A changed comparison, a swapped assignment or a new `break` makes this lemma fail. -/
theorem inhSearch_is_source (inh : List Inherit) (index fuel first last : Nat) :
    inhSearch inh index (fuel + 1) first last =
      (if ffeCondGen first last then
        match inh[ffeMidGen first last]? with
        | none => none
        | some ih =>
          if (ffeStepGen first last (ffeMidGen first last) ih.fio index).2.2 then
            some (ffeStepGen first last (ffeMidGen first last) ih.fio index).1
          else inhSearch inh index fuel (ffeStepGen first last (ffeMidGen first last) ih.fio index).1
                 (ffeStepGen first last (ffeMidGen first last) ih.fio index).2.1
       else some first) := by
  rw [inhSearch]
  simp only [ffeCondGen, ffeMidGen, ffeStepGen, decide_eq_true_eq]
  split
  · cases inh[(last + first + 1) / 2]? with
    | none => rfl
    | some ih =>
      simp only
      split <;> simp
  · rfl

end NV.C07
