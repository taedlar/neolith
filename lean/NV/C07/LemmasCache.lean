/-
C07 — the apply cache.  `Inv`: every entry is truthful (it says what find_function says); apply_low on such a cache
answers as on the empty cache and keeps it truthful.  `InvId`: the same across program deallocation and REUSE of a
program_t address.  A cache entry holds `oprogp` (the address of the object's program) without a reference: the program
can be freed and another program allocated at the same address while the entry is still there.  What keeps such an
entry from being used is the `id` test of the hit path (`entry->id == progp->id_number`; ids are never handed out
twice), so there an entry has to be truthful only *if the program now at its address still has the entry's id*.

Both follow from one statement about apply_low (`applyLow_spec`): if the entry the hit test accepts is truthful, the
answer is the empty cache's, and the cache is left alone or gets one truthful entry.
-/
import NV.C07.Model

namespace NV.C07

open NV.Gen.C07

/-- what a cache entry claims about its (program, name) is what find_function says -/
def EntryOk (w : World) (e : CacheEntry) : Prop :=
  match e.progp with
  | some (q, k, f, v) => find w e.oprogp e.name = .found q k f v
  | none => find w e.oprogp e.name = .none

/-- every entry of the cache is truthful -/
def Inv (w : World) (c : Cache) : Prop := ∀ (i : Nat) (e : CacheEntry), c[i]? = some (some e) → EntryOk w e

/-- every entry is truthful if the program now at its address has its id -/
def InvId (w : World) (c : Cache) : Prop :=
  ∀ (i : Nat) (e : CacheEntry), c[i]? = some (some e) →
    ∀ P, w.progs[e.oprogp]? = some P → P.id = e.id → EntryOk w e

theorem cache_all_empty (G : CacheEntry → Prop) : ∀ (i : Nat) (e : CacheEntry), Cache.empty[i]? = some (some e) → G e := by
  intro i e h
  unfold Cache.empty at h
  rw [List.getElem?_replicate] at h
  split at h <;> simp at h

theorem cache_all_set (G : CacheEntry → Prop) (c : Cache) (ix : Nat) (e0 : CacheEntry)
    (hc : ∀ (i : Nat) (e : CacheEntry), c[i]? = some (some e) → G e) (h0 : G e0) :
    ∀ (i : Nat) (e : CacheEntry), (c.set ix (some e0))[i]? = some (some e) → G e := by
  intro i e h
  rw [List.getElem?_set] at h
  split at h
  · split at h
    · simp at h; exact h ▸ h0
    · simp at h
  · exact hc i e h

theorem inv_empty (w : World) : Inv w Cache.empty := cache_all_empty _

theorem invId_empty (w : World) : InvId w Cache.empty := cache_all_empty _

theorem cacheLookup_empty (ix id p : Nat) (name : NameKey) : cacheLookup Cache.empty ix id p name = none := by
  unfold cacheLookup Cache.empty
  rw [List.getElem?_replicate]
  split <;> rename_i h
  · split at h <;> simp at h
  · rfl

theorem cacheLookup_some (c : Cache) (ix id p : Nat) (name : NameKey) (e : CacheEntry)
    (h : cacheLookup c ix id p name = some e) : c[ix]? = some (some e) ∧ e.id = id ∧ e.oprogp = p ∧ e.name = name := by
  unfold cacheLookup at h
  split at h
  · rename_i e' hs
    split at h
    · rename_i hm
      simp only [Option.some.injEq] at h
      subst h
      simp only [Bool.and_eq_true, beq_iff_eq] at hm
      exact ⟨hs, hm.1.1, hm.1.2, hm.2⟩
    · simp at h
  · simp at h

/-- find_function reads the program first -/
theorem find_crash (w : World) (p : Nat) (name : NameKey) (h : w.progs[p]? = none) : find w p name = .crash := by
  simp [find, World.fuel, findFunction, h]

/-- apply_low on the empty cache: the miss path -/
theorem applyLow_empty (w : World) (origin p ptr : Nat) (name : NameKey) :
    (applyLow w Cache.empty origin p ptr name).1 =
      match find w p name with
      | .crash => .crash
      | .none => .fail
      | .found q k f v => enter w origin p q k f v := by
  unfold applyLow
  cases hP : w.progs[p]? with
  | none => rw [find_crash w p name hP]
  | some P =>
    simp only [cacheLookup_empty, applyMiss]
    cases find w p name <;> rfl

/-- if the entry the hit test accepts (if any: it sits in the slot and has the program's id and address) is truthful,
    apply_low answers as on the empty cache, and leaves the cache as it is or stores one truthful entry (hit path,
    miss path, positive and negative entries, eviction of whatever was in the slot) -/
theorem applyLow_spec (w : World) (c : Cache) (origin p ptr : Nat) (name : NameKey)
    (hhit : ∀ P e, w.progs[p]? = some P → c[slotOf P.id ptr]? = some (some e) → e.id = P.id → e.oprogp = p → EntryOk w e) :
    (applyLow w c origin p ptr name).1 = (applyLow w Cache.empty origin p ptr name).1 ∧
    ((applyLow w c origin p ptr name).2 = c ∨
      ∃ ix e, EntryOk w e ∧ (applyLow w c origin p ptr name).2 = c.set ix (some e)) := by
  rw [applyLow_empty]
  unfold applyLow
  cases hP : w.progs[p]? with
  | none => rw [find_crash w p name hP]; exact ⟨rfl, Or.inl rfl⟩
  | some P =>
    simp only
    cases hl : cacheLookup c (slotOf P.id ptr) P.id p name with
    | none =>
      simp only [applyMiss]
      cases hf : find w p name with
      | crash => exact ⟨rfl, Or.inl rfl⟩
      | none => exact ⟨rfl, Or.inr ⟨_, _, by simp [EntryOk, hf], rfl⟩⟩
      | found q k f v => exact ⟨rfl, Or.inr ⟨_, _, by simp [EntryOk, hf], rfl⟩⟩
    | some e =>
      obtain ⟨hs, hid, hop, hnm⟩ := cacheLookup_some _ _ _ _ _ _ hl
      have hok := hhit P e hP hs hid hop
      unfold EntryOk at hok
      rw [hop, hnm] at hok
      simp only
      cases hpp : e.progp with
      | none => simp only [hpp] at hok; simp only [hok]; exact ⟨trivial, Or.inl trivial⟩
      | some t =>
        obtain ⟨q, k, f, v⟩ := t
        simp only [hpp] at hok; simp only [hok]; exact ⟨trivial, Or.inl trivial⟩

/-- the invariant: from a cache in which every entry is truthful, apply_low answers
    exactly as from the empty cache and leaves a truthful cache (hit path, miss path, positive and negative
    entries, eviction of whatever was in the slot). -/
theorem cache_transparent_step (w : World) (c : Cache) (hc : Inv w c) (origin p ptr : Nat) (name : NameKey) :
    (applyLow w c origin p ptr name).1 = (applyLow w Cache.empty origin p ptr name).1 ∧
    Inv w (applyLow w c origin p ptr name).2 := by
  obtain ⟨h1, h2⟩ := applyLow_spec w c origin p ptr name (fun P e _ hs _ _ => hc _ e hs)
  refine ⟨h1, ?_⟩
  rcases h2 with h2 | ⟨ix, e, he, h2⟩ <;> rw [h2]
  · exact hc
  · exact cache_all_set _ c ix e hc he

/-- apply_low on a cache that is truthful up to ids answers as on the empty cache and keeps it so: the id test is
    what makes the hit path sound -/
theorem applyLow_invId (w : World) (c : Cache) (hc : InvId w c) (origin p ptr : Nat) (name : NameKey) :
    (applyLow w c origin p ptr name).1 = (applyLow w Cache.empty origin p ptr name).1 ∧
    InvId w (applyLow w c origin p ptr name).2 := by
  obtain ⟨h1, h2⟩ := applyLow_spec w c origin p ptr name
    (fun P e hP hs hid hop => hc _ e hs P (hop ▸ hP) hid.symm)
  refine ⟨h1, ?_⟩
  rcases h2 with h2 | ⟨ix, e, he, h2⟩ <;> rw [h2]
  · exact hc
  · exact cache_all_set _ c ix e hc (fun _ _ _ => he)

/-- `enter` answers `.call` only with the tuple it was given, and only if the flags word it reads passes
    `function_visible` -/
theorem enter_call (w : World) (origin p q' k' f' v' q k f v : Nat) (h : enter w origin p q' k' f' v' = .call q k f v) :
    (q' = q ∧ k' = k ∧ f' = f ∧ v' = v) ∧ ∃ fl, applyFlags w p q k f = some fl ∧ functionVisible origin fl = true := by
  unfold enter at h
  cases hfl : applyFlags w p q' k' f' with
  | none => simp [hfl] at h
  | some fl =>
    simp only [hfl] at h
    split at h
    · rename_i hv
      simp only [ApplyRes.call.injEq] at h
      obtain ⟨rfl, rfl, rfl, rfl⟩ := h
      exact ⟨⟨rfl, rfl, rfl, rfl⟩, fl, hfl, hv⟩
    · simp at h

/-- a call that runs: the flags word apply_low tested passes `function_visible` — whatever the cache holds -/
theorem applyLow_call (w : World) (c : Cache) (origin p ptr : Nat) (name : NameKey) (q k fio vio : Nat)
    (h : (applyLow w c origin p ptr name).1 = .call q k fio vio) :
    ∃ fl, applyFlags w p q k fio = some fl ∧ functionVisible origin fl = true := by
  unfold applyLow at h
  cases hP : w.progs[p]? with
  | none => simp [hP] at h
  | some P =>
    simp only [hP] at h
    cases hl : cacheLookup c (slotOf P.id ptr) P.id p name with
    | some e =>
      simp only [hl] at h
      cases hpp : e.progp with
      | none => simp [hpp] at h
      | some t => simp only [hpp] at h; exact (enter_call _ _ _ _ _ _ _ _ _ _ _ h).2
    | none =>
      simp only [hl, applyMiss] at h
      cases hf : find w p name with
      | crash => simp [hf] at h
      | none => simp [hf] at h
      | found q' k' f' v' => simp only [hf] at h; exact (enter_call _ _ _ _ _ _ _ _ _ _ _ h).2

/-- a call by name that runs enters the frame find_function computes (hit or miss, on any truthful cache) -/
theorem applyLow_call_is_find (w : World) (c : Cache) (hc : Inv w c) (origin p ptr : Nat) (name : NameKey)
    (q k f v : Nat) (c' : Cache) (h : applyLow w c origin p ptr name = (.call q k f v, c')) :
    find w p name = .found q k f v := by
  have h1 := (cache_transparent_step w c hc origin p ptr name).1
  rw [h, applyLow_empty] at h1
  cases hf : find w p name with
  | crash => simp [hf] at h1
  | none => simp [hf] at h1
  | found q' k' f' v' =>
    simp only [hf] at h1
    obtain ⟨⟨rfl, rfl, rfl, rfl⟩, _⟩ := enter_call _ _ _ _ _ _ _ _ _ _ _ h1.symm
    rfl

/-- one apply call: origin, program of the object, pointer of the name string, the name -/
structure ApplyCall where
  origin : Nat
  prog : Nat
  ptr : Nat
  name : NameKey
  deriving Repr

def cacheAfter (w : World) (c : Cache) : List ApplyCall → Cache
  | [] => c
  | a :: rest => cacheAfter w (applyLow w c a.origin a.prog a.ptr a.name).2 rest

theorem inv_cacheAfter (w : World) (c : Cache) (hc : Inv w c) (h : List ApplyCall) : Inv w (cacheAfter w c h) := by
  induction h generalizing c with
  | nil => exact hc
  | cons a rest ih => exact ih _ (cache_transparent_step w c hc a.origin a.prog a.ptr a.name).2

/-- the program at address `a` is replaced (deallocate_program, then another program allocated at the same address) -/
def reuse (w : World) (a : Nat) (P' : Program) : World := { progs := w.progs.set a P' }

/-- nobody inherits the program at address `a` (its reference count allows freeing it) -/
def NotInherited (w : World) (a : Nat) : Prop := ∀ P ∈ w.progs, ∀ ih ∈ P.inherit, ih.prog ≠ a

theorem reuse_get_ne (w : World) (a q : Nat) (P' : Program) (h : q ≠ a) : (reuse w a P').progs[q]? = w.progs[q]? := by
  simp only [reuse, List.getElem?_set]
  split
  · rename_i h'; exact absurd h'.symm h
  · rfl

theorem searchInh_congr (r1 r2 : Nat → FindRes) (l : List Inherit) (h : ∀ x ∈ l, r1 x.prog = r2 x.prog) :
    searchInh r1 l = searchInh r2 l := by
  induction l with
  | nil => rfl
  | cons x rest ih =>
    simp only [searchInh, h x List.mem_cons_self, ih (fun y hy => h y (List.mem_cons_of_mem _ hy))]

/-- find_function started at another address never looks at address `a` -/
theorem findFunction_reuse (w : World) (a : Nat) (P' : Program) (hn : NotInherited w a) (name : NameKey) :
    ∀ fuel q, q ≠ a → findFunction (reuse w a P') fuel q name = findFunction w fuel q name := by
  intro fuel
  induction fuel with
  | zero => intro q _; rfl
  | succ n ih =>
    intro q hq
    unfold findFunction
    rw [reuse_get_ne w a q P' hq]
    cases hP : w.progs[q]? with
    | none => rfl
    | some P =>
      simp only
      cases tableSearch P name with
      | crash => rfl
      | here k => rfl
      | notHere => rfl
      | inherits =>
        -- every inherit of P is at another address
        exact searchInh_congr _ _ _ (fun x hx =>
          ih x.prog (hn P (List.mem_of_getElem? hP) x (List.mem_reverse.mp hx)))

/-- **The cache survives the reuse of a program address.**  If the program at address `a` is freed (nobody inherits
    it) and a program whose id occurs in no cache entry is allocated there, every entry is still truthful up to ids:
    the stale entries of the old program are exactly the ones the id test rejects. -/
theorem invId_reuse (w : World) (c : Cache) (a : Nat) (P' : Program) (hc : InvId w c) (hn : NotInherited w a)
    (hfresh : ∀ (i : Nat) (e : CacheEntry), c[i]? = some (some e) → e.id ≠ P'.id) : InvId (reuse w a P') c := by
  intro i e he P hP hid
  by_cases hq : e.oprogp = a
  · -- an entry of the freed program: the program now there has another id
    exfalso
    rw [hq] at hP
    simp only [reuse, List.getElem?_set_self'] at hP
    cases hw : w.progs[a]? with
    | none => simp [hw] at hP
    | some P0 =>
      have : P' = P := by simpa [hw] using hP
      exact hfresh i e he (this ▸ hid.symm)
  · -- an entry of another program: nothing it depends on has changed
    rw [reuse_get_ne w a _ P' hq] at hP
    have hok := hc i e he P hP hid
    unfold EntryOk at hok ⊢
    have hfind : find (reuse w a P') e.oprogp e.name = find w e.oprogp e.name := by
      unfold find World.fuel
      rw [show (reuse w a P').progs.length = w.progs.length by simp [reuse]]
      exact findFunction_reuse w a P' hn e.name _ _ hq
    rw [hfind]
    exact hok

/-- a history of the driver: calls by name, and programs freed with their address reused -/
inductive Step where
  | call (a : ApplyCall)
  | free (addr : Nat) (P' : Program)

/-- the side conditions of a `free` step at the moment it happens -/
def StepOk (w : World) (c : Cache) : Step → Prop
  | .call _ => True
  | .free addr P' => NotInherited w addr ∧ ∀ (i : Nat) (e : CacheEntry), c[i]? = some (some e) → e.id ≠ P'.id

def runSteps : World × Cache → List Step → World × Cache
  | wc, [] => wc
  | (w, c), .call a :: rest => runSteps (w, (applyLow w c a.origin a.prog a.ptr a.name).2) rest
  | (w, c), .free addr P' :: rest => runSteps (reuse w addr P', c) rest

def StepsOk : World × Cache → List Step → Prop
  | _, [] => True
  | (w, c), .call a :: rest => StepsOk (w, (applyLow w c a.origin a.prog a.ptr a.name).2) rest
  | (w, c), .free addr P' :: rest => StepOk w c (.free addr P') ∧ StepsOk (reuse w addr P', c) rest

/-- after ANY history of calls (any origins, names, pointers, collisions) and of
    programs freed and their addresses reused by programs with new ids, a further call answers exactly as it would
    with an empty cache on the world as it is then. -/
theorem cache_transparent_across_reuse (hist : List Step) :
    ∀ (w : World) (c : Cache), InvId w c → StepsOk (w, c) hist →
      ∀ (a : ApplyCall),
        (applyLow (runSteps (w, c) hist).1 (runSteps (w, c) hist).2 a.origin a.prog a.ptr a.name).1 =
        (applyLow (runSteps (w, c) hist).1 Cache.empty a.origin a.prog a.ptr a.name).1 := by
  induction hist with
  | nil =>
    intro w c hc _ a
    exact (applyLow_invId w c hc a.origin a.prog a.ptr a.name).1
  | cons st rest ih =>
    intro w c hc hok a
    cases st with
    | call b =>
      simp only [runSteps]
      exact ih w _ (applyLow_invId w c hc b.origin b.prog b.ptr b.name).2 hok a
    | free addr P' =>
      simp only [runSteps]
      obtain ⟨⟨h1, h2⟩, h3⟩ := hok
      exact ih _ c (invId_reuse w c addr P' hc h1 h2) h3 a

end NV.C07
