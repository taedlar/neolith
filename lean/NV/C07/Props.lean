/-
C07 — property theorems about visibility, find_function, the apply cache, the call_origin protocol, frames and the
table construction, with their non-vacuity examples.  The lemmas they rest on: LemmasCache / LemmasChain / LemmasFind /
LemmasBuild / LemmasBuildInv.  (The property theorems about the compressed table, reloaded binaries, arguments, the
offset register through every call kind, address reuse, the clauses of well-formedness every built program has
(`built_inherits_in_world`, `built_fio_sorted`, `built_indices_in_range`) and the ties to the source are stated in
LemmasCompress / LemmasBinary / LemmasArgs / LemmasChain / LemmasCache / LemmasBuildInv / Tie.)
All statements are about the executable model in NV/C07/Model.lean (which the correspondence run compares with the
real driver: the tables the construction model builds must equal the real, dumped ones, and the calls run on them)
and the specification resolver in NV/C07/Spec.lean.
-/
import NV.C07.Model
import NV.C07.Spec
import NV.C07.WF
import NV.C07.LemmasCache
import NV.C07.LemmasChain
import NV.C07.LemmasFind
import NV.C07.LemmasBuild
import NV.C07.LemmasBuildInv

namespace NV.C07

open NV.Gen.C07

/-- every origin value the driver defines -/
def allOrigins : List Nat :=
  [originDriver, originLocal, originCallOther, originSimulEfun, originCallOut, originEfun, originFunctionPointer,
   originFunctional]

/-- a flags word with the given modifier / bookkeeping bits -/
def mkFlags (st pr pt hid pub nomask inh alias : Bool) : Nat :=
  (if st then nameStatic else 0) ||| (if pr then namePrivate else 0) ||| (if pt then nameProtected else 0) |||
  (if hid then nameHidden else 0) ||| (if pub then namePublic else 0) ||| (if nomask then nameNoMask else 0) |||
  (if inh then nameInherited else 0) ||| (if alias then nameAlias else 0)

/-- `function_visible` for every origin and every flags word: only a call_other is ever refused, and exactly when
    one of static / private / protected is set -/
theorem functionVisible_eq (o fl : Nat) :
    functionVisible o fl =
      if o = originCallOther then !(hasBit fl nameStatic || hasBit fl namePrivate || hasBit fl nameProtected)
      else true := by
  simp only [functionVisible, functionVisibleGen, ← hasBit_or]
  by_cases h : o = originCallOther
  · subst h
    show _ = !(fl &&& (512 ||| 2048 ||| 4096) != 0)
    cases fl &&& (512 ||| 2048 ||| 4096) != 0 <;> rfl
  · have h4 : (o == 4) = false := by simpa [originCallOther] using h
    simp [h, h4]

/-- the complete table of `function_visible` over every origin the driver defines and
    every combination of the modifier bits (and of the bookkeeping bits that must NOT matter): a call_other runs
    the function iff it is neither static nor private nor protected; every other origin (driver applies,
    call_out, local calls, ...) always may. -/
theorem visibility_table :
    ∀ st pr pt hid pub nomask inh alias : Bool, ∀ o ∈ allOrigins,
      functionVisible o (mkFlags st pr pt hid pub nomask inh alias) =
        (if o = originCallOther then !(st || pr || pt) else true) := by
  have hbits : ∀ st pr pt hid pub nomask inh alias : Bool,
      hasBit (mkFlags st pr pt hid pub nomask inh alias) nameStatic = st ∧
      hasBit (mkFlags st pr pt hid pub nomask inh alias) namePrivate = pr ∧
      hasBit (mkFlags st pr pt hid pub nomask inh alias) nameProtected = pt := by decide
  intro st pr pt hid pub nomask inh alias o _
  simp only [functionVisible_eq, hbits]

/-- the same for an arbitrary flags word: call_other is allowed iff none of the three bits is set -/
theorem visibility_any_flags (fl : Nat) :
    functionVisible originCallOther fl = !(hasBit fl nameStatic || hasBit fl namePrivate || hasBit fl nameProtected) ∧
    functionVisible originDriver fl = true ∧ functionVisible originCallOut fl = true ∧
    functionVisible originLocal fl = true := by
  refine ⟨?_, ?_, ?_, ?_⟩ <;> rw [functionVisible_eq] <;> rfl

/-- lifted to the model's apply_low, for every world, every cache (hit and miss paths)
    and every call: if apply_low runs a function, the flags word it tested (the slot of the object's program the
    function was reached by) passes `function_visible` for this origin; for call_other that word has none of
    static / private / protected. -/
theorem visibility_lifted (w : World) (c : Cache) (origin p ptr : Nat) (name : NameKey) (q k fio vio : Nat)
    (h : (applyLow w c origin p ptr name).1 = .call q k fio vio) :
    ∃ fl, applyFlags w p q k fio = some fl ∧ functionVisible origin fl = true ∧
      (origin = originCallOther →
        hasBit fl nameStatic = false ∧ hasBit fl namePrivate = false ∧ hasBit fl nameProtected = false) := by
  obtain ⟨fl, h1, h2⟩ := applyLow_call w c origin p ptr name q k fio vio h
  refine ⟨fl, h1, h2, ?_⟩
  intro ho
  rw [ho, functionVisible_eq, if_pos rfl] at h2
  simpa [and_assoc] using h2

/-- the converse of `visibility_lifted`: only a call_other is ever refused.  For every other origin, on every truthful
    cache, apply_low returns 0 only when find_function finds nothing -/
theorem only_call_other_refused (w : World) (c : Cache) (hc : Inv w c) (origin p ptr : Nat) (name : NameKey)
    (ho : origin ≠ originCallOther) (h : (applyLow w c origin p ptr name).1 = .fail) : find w p name = .none := by
  rw [(cache_transparent_step w c hc origin p ptr name).1, applyLow_empty] at h
  cases hf : find w p name with
  | crash => simp [hf] at h
  | none => rfl
  | found q k f v =>
    simp only [hf, enter] at h
    cases hfl : applyFlags w p q k f with
    | none => simp [hfl] at h
    | some fl => simp [hfl, functionVisible_eq, ho] at h

/-- the driver-side origins are never refused: whenever the function exists (and the tables are in range) a driver
    apply / call_out / local call runs it, static or not.  Instance of `only_call_other_refused` (three origins, the
    empty cache). -/
theorem driver_origins_never_refused (w : World) (origin p ptr : Nat) (name : NameKey)
    (ho : origin = originDriver ∨ origin = originCallOut ∨ origin = originLocal) :
    (applyLow w Cache.empty origin p ptr name).1 = .fail → find w p name = .none :=
  only_call_other_refused w _ (inv_empty w) origin p ptr name (by rcases ho with rfl | rfl | rfl <;> decide)

/-- for every world of programs (well-formed or not), every history of apply calls from
    the empty cache — any origins (refused call_others included), any programs, any names (existing or not), any
    name-string pointers (so any pattern of slot collisions and evictions) — and every further call, the result
    with the reached cache equals the result with an empty cache: the outcome of a call depends on the programs
    and the kind of caller only, never on which calls were made before. -/
theorem cache_transparent (w : World) (hist : List ApplyCall) (a : ApplyCall) :
    (applyLow w (cacheAfter w Cache.empty hist) a.origin a.prog a.ptr a.name).1 =
    (applyLow w Cache.empty a.origin a.prog a.ptr a.name).1 :=
  (cache_transparent_step w _ (inv_cacheAfter w _ (inv_empty w) hist) a.origin a.prog a.ptr a.name).1

theorem psteps_inv (w : World) : ∀ (hist : List PStep) (g : Cache × Nat), Inv w g.1 → Inv w (psteps w g hist).1 := by
  intro hist
  induction hist with
  | nil => intro g h; exact h
  | cons st rest ih =>
    intro g h
    apply ih
    cases st with
    | apply origin p ptr name => exact (cache_transparent_step w g.1 h (localOrigin origin) p ptr name).2
    | target p ptr name => exact (cache_transparent_step w g.1 h (localOrigin originCallOther) p ptr name).2

/-- in the model of f_call_other / call_all_other (`doCall`, `callAllOther`,
    `doCallTargets` all enter a target through `applyFn _ _ originCallOther`, i.e. a `.target` protocol step: the origin
    is stored immediately before apply_low), every target is entered with origin CALL_OTHER and answers exactly as a
    single call_other on an empty cache would: for every target kind, every position in an array, whatever value the
    global `call_origin` was left with, and whatever applies (loading an object: valid_object, create; earlier targets;
    any other apply) ran before.  In particular a static / private / protected function is refused at every position
    (`visibility_lifted`). -/
theorem call_other_origin_is_call_other (w : World) (hist : List PStep) (leftover : Nat) (p ptr : Nat) (name : NameKey) :
    (pstep w (psteps w (Cache.empty, leftover) hist) (.target p ptr name)).1 =
      (applyLow w Cache.empty originCallOther p ptr name).1 := by
  have hinv := psteps_inv w hist (Cache.empty, leftover) (inv_empty w)
  have hlo : localOrigin originCallOther = originCallOther := by decide
  show (applyLow w _ (localOrigin originCallOther) p ptr name).1 = _
  rw [hlo]
  exact (cache_transparent_step w _ hinv originCallOther p ptr name).1

/-- apply_low always leaves the global zero, and an origin of 0 is the driver's -/
theorem call_origin_consumed (w : World) (c : Cache) (co p ptr : Nat) (name : NameKey) :
    (applyLowG w c co p ptr name).2.2 = 0 ∧ localOrigin 0 = originDriver := ⟨rfl, by decide⟩

/-- the NAME_INHERITED chasing of setup_new_frame / setup_inherited_frame: the frame
    it ends in is reached through a chain of inherit entries starting at the program it started in, and
    (function_index_offset, variable_index_offset) are the start offsets plus the sums of the chain's offsets.
    `setup_new_frame` starts from (0, 0); `setup_inherited_frame` (F_CALL_INHERITED) from the caller's offsets
    plus those of the named inherit. -/
theorem frame_offsets_correct (w : World) :
    (∀ obProg index fr, setupNewFrame w obProg index = some fr →
      ∃ path, ValidChain w obProg path fr.prog ∧ fr.fio = sumFio path ∧ fr.vio = sumVio path) ∧
    (∀ cur inh index fr, setupInheritedFrame w cur inh index = some fr →
      ∃ P ih path, w.progs[cur.prog]? = some P ∧ P.inherit[inh]? = some ih ∧ ValidChain w ih.prog path fr.prog ∧
        fr.fio = cur.fio + ih.fio + sumFio path ∧ fr.vio = cur.vio + ih.vio + sumVio path) :=
  ⟨setupNewFrame_sums w, setupInheritedFrame_sums w⟩

/-- on a table sorted by name pointer the binary search of find_function finds exactly
    the entry with that name (and nothing when there is none). -/
theorem bsearch_correct (ft : List FnEntry) (name : NameKey) (hs : sortedKeys (ft.map (·.name)) = true) :
    (∀ k, bsearch ft name 0 ft.length = some k → ∃ e, ft[k]? = some e ∧ e.name = name) ∧
    (bsearch ft name 0 ft.length = none → ∀ e ∈ ft, e.name ≠ name) := by
  rw [bsearch_eq_indexOfName ft name hs]
  exact ⟨indexOfName_some ft name, indexOfName_none ft name⟩

/-- on well-formed tables (`wfFind`: tables sorted by name pointer, runtime indices in
    range, inherited programs earlier in the world, undefined/prototype entries hide nothing — a decidable
    predicate that the judge evaluates on every real table dumped by the harness) the model's find_function
    agrees with the specification's resolver on the abstraction of the tables: it finds nothing exactly when the
    resolver finds nothing, and otherwise it returns the program at the end of the resolver's path (own
    definition, else the inherits from the last to the first), the table index of the name in that program, and
    the sums of the offsets along that path. -/
theorem find_function_correct (w : World) (hw : wfFind w = true) (p : Nat) (hp : p < w.progs.length)
    (name : NameKey) :
    find w p name = specFind w p name (Spec.resolve (abstr w) p name) := by
  unfold find World.fuel Spec.resolve
  rw [show (abstr w).length = w.progs.length by simp [abstr]]
  exact findFunction_eq_resolveFrom w hw name _ p (by omega) hp

/-! ### the construction of the tables (model of the compiler, NV/C07/Build.lean) -/

/-- the loop of epilog() (as repaired): after it, every runtime slot that
    overload_function created as an alias carries exactly the flags of the slot it aliases, plus NAME_ALIAS.  So all
    runtime slots of one function name agree on static / private / protected / public, on NAME_UNDEFINED,
    NAME_PROTOTYPE and NAME_TRUE_VARARGS — whichever slot find_function, a local call or a function pointer reaches
    the function by.  (The three defects repaired in epilog() were violations of exactly this statement.)
    Hypothesis `aliasOrdered`: an alias names an earlier slot; decidable, and evaluated by the driver on the
    pre-epilog state of every program it builds (a violation is printed into the compared `tbl` line). -/
theorem built_alias_flags_agree (slots : List BSlot) (hord : aliasOrdered slots = true) (j : Nat) (a : BSlot)
    (ha : slots[j]? = some a) (hal : hasBit a.flags nameAlias = true) :
    ∃ b wh, (epilogSlots slots)[j]? = some b ∧ (epilogSlots slots)[a.aliasFor]? = some wh ∧
      b.flags = wh.flags ||| nameAlias :=
  (epilogLoop_invariant slots hord slots.length (Nat.le_refl _)).2 j a (List.getElem?_eq_some_iff.mp ha).1 ha hal

/-- (with `built_aliasOrdered`) for EVERY source file (any items whose modifiers do not contain the
    internal NAME_ALIAS bit) and every world of inherited programs, the table produced by the construction model has
    this property: each runtime slot created as an alias carries exactly the flags of the slot it aliases (the
    identifier's slot), plus NAME_ALIAS.  No evaluated hypothesis is left: the invariant "identifiers point to existing
    non-alias slots; an alias names an earlier slot" is carried through copy_function, overload_function (alias entry /
    latest wins / count), define_new_function, copy_functions and the items of the file (`binv_*` in LemmasBuildInv),
    then the epilog theorem applies. -/
theorem built_flags_agree (w : World) (name : String) (id : Nat) (items : List Item)
    (hm : ∀ it ∈ items, it.modsOK) (j : Nat) (a : BSlot)
    (ha : (items.foldl (doItem w) {}).slots[j]? = some a) (hal : hasBit a.flags nameAlias = true) :
    ∃ fj fw, (buildProgram w name id items).flags[j]? = some fj ∧
      (buildProgram w name id items).flags[a.aliasFor]? = some fw ∧ fj = fw ||| nameAlias := by
  obtain ⟨b, wh, hb, hw, hf⟩ := built_alias_flags_agree _ (built_aliasOrdered w items hm) j a ha hal
  rw [buildProgram_flags]
  exact ⟨b.flags, wh.flags, by rw [List.getElem?_map, hb]; rfl, by rw [List.getElem?_map, hw]; rfl, hf⟩

/-- **built_inherits_in_world** (stated in LemmasBuildInv; clause `inherit.prog < p` of `wfFind` / `wfSlots`, for all
    inputs): every inherit entry of a built program names a program of the world it was compiled against. -/
example (w : World) (name : String) (id : Nat) (items : List Item) :
    ∀ ih ∈ (buildProgram w name id items).inherit, ih.prog < w.progs.length :=
  built_inherits_in_world w name id items

/-- the modifier bits of a flags word, as the specification's `Mods` -/
def modsOf (fl : Nat) : Spec.Mods :=
  { static := hasBit fl nameStatic, priv := hasBit fl namePrivate, prot := hasBit fl nameProtected,
    pub := hasBit fl namePublic }

/-- a flags word from modifier bits and bookkeeping bits -/
def mkSrc (st pr pt pub undef proto strict : Bool) : Nat :=
  (if st then nameStatic else 0) ||| (if pr then namePrivate else 0) ||| (if pt then nameProtected else 0) |||
  (if pub then namePublic else 0) ||| (if undef then nameUndefined else 0) ||| (if proto then namePrototype else 0) |||
  (if strict then nameStrictTypes else 0)

/-- the flag inheritance of copy_function / overload_function is the specification's rule `Mods.through` for ALL
    flags words: modifiers are OR-ed, `public` cancels `private` -/
theorem modsOf_inheritedFlags (src m : Nat) :
    modsOf (inheritedFlags src m) = (modsOf src).through (modsOf m) := by
  have hm : ∀ fl, modsOf fl =
      { static := fl.testBit 9, priv := fl.testBit 11, prot := fl.testBit 12, pub := fl.testBit 13 } := by
    intro fl
    simp only [modsOf, show nameStatic = 2^9 from rfl, show namePrivate = 2^11 from rfl,
      show nameProtected = 2^12 from rfl, show namePublic = 2^13 from rfl, hasBit_two_pow]
  have hc : ∀ k ∈ [9, 11, 12, 13], nameMask.testBit k = true ∧ nameDefByInherit.testBit k = false ∧
      nameUndefined.testBit k = false ∧ nameHidden.testBit k = false ∧ namePrivate.testBit k = (k == 11) := by decide
  simp only [hm, Spec.Mods.through, inheritedFlags_testBit, hc 9 (by decide), hc 11 (by decide), hc 12 (by decide),
    hc 13 (by decide)]
  cases src.testBit 13 <;> cases m.testBit 13 <;> simp

/-- the flag inheritance of copy_function / overload_function (`inheritedFlags`)
    is the specification's rule `Mods.through`, for every combination of the function's modifier bits, the inherit
    statement's modifier bits and the bookkeeping bits: modifiers are OR-ed, `public`
    cancels `private`; a private function becomes hidden one level up; NAME_PROTOTYPE is kept, so "has no code"
    survives inheritance.  Instances of `modsOf_inheritedFlags` and the `inheritedFlags_*` lemmas, which hold for
    arbitrary flags words. -/
theorem inherit_flags_rule_is_spec :
    ∀ st pr pt pub undef proto strict mst mpr mpt mpub : Bool,
      let src := mkSrc st pr pt pub undef proto strict
      let m := mkSrc mst mpr mpt mpub false false false
      modsOf (inheritedFlags src m) = (modsOf src).through (modsOf m) ∧
      hasBit (inheritedFlags src m) namePrototype = proto ∧
      (pr = true → hasBit (inheritedFlags src m) nameHidden = true) ∧
      hasBit (inheritedFlags src m) nameAlias = false := by
  have hbits : ∀ st pr pt pub undef proto strict : Bool,
      hasBit (mkSrc st pr pt pub undef proto strict) namePrototype = proto ∧
      hasBit (mkSrc st pr pt pub undef proto strict) namePrivate = pr ∧
      hasBit (mkSrc st pr pt pub undef proto strict) nameAlias = false := by decide
  intro st pr pt pub undef proto strict mst mpr mpt mpub
  refine ⟨modsOf_inheritedFlags _ _, ?_, fun hp => inheritedFlags_hidden _ _ ((hbits ..).2.1.trans hp),
    inheritedFlags_noAlias _ _ (hbits ..).2.2⟩
  rw [inheritedFlags_proto, (hbits ..).1, (hbits ..).1, Bool.or_false]

/-- non-vacuity: a program inheriting a static function through two parents — the pre-epilog state is
    alias-ordered, it has an alias slot, and after epilog() that slot carries NAME_STATIC -/
example :
    let p0 : Program := buildProgram { progs := [] } "p0" 3 [.defn nameStatic 1 "f0" [], .var 0]
    let w1 : World := { progs := [p0] }
    let p1 := buildProgram w1 "p1" 4 [.inh 0 0, .var 0]
    let p2 := buildProgram w1 "p2" 5 [.inh 0 0, .var 0]
    let w3 : World := { progs := [p0, p1, p2] }
    let s3 := [Item.inh 0 1, .inh 0 2, .var 0].foldl (doItem w3) {}
    let p3 := finish "p3" 6 s3
    let w4 : World := { progs := [p0, p1, p2, p3] }
    let p4 := buildProgram w4 "p4" 7 [.inh 0 3, .var 0]
    aliasOrdered s3.slots = true ∧ (s3.slots.map (fun sl => hasBit sl.flags nameAlias)) = [false, true] ∧
    (p4.flags.map (fun f => hasBit f nameStatic)) = [true, true] ∧ WF { progs := [p0, p1, p2, p3, p4] } = true := by
  decide

/-- a two-level world: p0 defines a static `1` (slot 0) and a public `2` (slot 1); p1 inherits p0 and
    overrides `2` -/
def exWorld : World :=
  { progs := [
      { name := "p0", id := 3, nvt := 1, nvd := 1,
        ft := [{ name := 1, rindex := 0 }, { name := 2, rindex := 1 }],
        flags := [nameStatic, 0], rt := [.defn 0 0, .defn 1 0], inherit := [] },
      { name := "p1", id := 4, nvt := 2, nvd := 1,
        ft := [{ name := 2, rindex := 1 }],
        flags := [nameStatic ||| nameInherited, 0], rt := [.inh 0 0, .defn 0 0],
        inherit := [{ prog := 0, fio := 0, vio := 0 }] } ] }

example : WF exWorld = true := by decide

/-- the hypotheses of find_function_correct hold on a non-trivial world, and both sides find the inherited
    static function through the inherit -/
example : find exWorld 1 1 = .found 0 0 0 0 ∧ Spec.resolve (abstr exWorld) 1 1 = some [0] := by decide

/-- the history "refused call_other, then driver apply" of the confirmed defect: the driver apply succeeds,
    exactly as on a cold cache, and the refused call had been a cache miss that stored an entry -/
example :
    let refused : ApplyCall := { origin := originCallOther, prog := 1, ptr := 1, name := 1 }
    (applyLow exWorld Cache.empty originCallOther 1 1 1).1 = .fail ∧
    (applyLow exWorld (cacheAfter exWorld Cache.empty [refused]) originDriver 1 1 1).1 = .call 0 0 0 0 ∧
    (cacheAfter exWorld Cache.empty [refused])[slotOf 4 1]? ≠ some none := by
  decide

/-- a frame reached by chasing: slot 0 of p1 is inherited from p0 -/
example : setupNewFrame exWorld 1 0 = some { prog := 0, fidx := 0, fio := 0, vio := 0 } := by decide

/-- non-vacuity: an array target whose SECOND element has the static function, after an interleaved driver apply
    (what loading an object does): refused, although the global was consumed in between -/
example :
    (pstep exWorld (psteps exWorld (Cache.empty, 0) [.target 0 2 2, .apply originDriver 1 7 7]) (.target 1 1 1)).1 = .fail ∧
    (pstep exWorld (psteps exWorld (Cache.empty, 0) [.target 0 2 2, .apply originDriver 1 7 7]) (.apply originDriver 1 1 1)).1
      = .call 0 0 0 0 := by
  decide

end NV.C07
