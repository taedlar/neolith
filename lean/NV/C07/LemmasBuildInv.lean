/-
C07 — invariants of the table construction (NV/C07/Build.lean), for all worlds and all source files:

  `Shape`  what does not depend on modifier bits: identifiers, compiler functions and inherit offsets point at existing
           runtime slots, the inherit offsets are in order, inherited programs are programs of the world
           (clauses of `wfFind` / `wfSlots` / `cmpWF` that therefore hold for every built program);
  `AInv`   identifiers point at non-alias slots and an alias slot names an earlier slot: the hypothesis of the epilog
           theorem.  It needs modifiers without the internal NAME_ALIAS bit.

Each has its lemmas for what an operation can do to the state: append a slot, modify one, add an identifier, touch
the compiler functions only.  `BInv` is the pair, the second half under the guard "the modifiers are clean"; it goes
through copy_function / overload_function / define_new_function / copy_functions / the items of a file once
(`binv_*`), so the theorems without a hypothesis on modifiers and those with one come from the same pass.
-/
import NV.C07.Build
import NV.C07.LemmasBuild

namespace NV.C07

open NV.Gen.C07

/-- an element of a modified list sits over an element of the old one: that one, or its image at the modified place -/
theorem getElem?_modify_some {α : Type} (l : List α) (i j : Nat) (f : α → α) (y : α)
    (h : (l.modify i f)[j]? = some y) : ∃ x, l[j]? = some x ∧ (if i = j then f x else x) = y := by
  rw [List.getElem?_modify] at h
  exact Option.map_eq_some_iff.mp h

theorem mem_modify {α : Type} (l : List α) (i : Nat) (f : α → α) (c : α) (h : c ∈ l.modify i f) :
    ∃ c0 ∈ l, c = c0 ∨ c = f c0 := by
  obtain ⟨j, hj⟩ := List.mem_iff_getElem?.mp h
  obtain ⟨c0, hl, rfl⟩ := getElem?_modify_some l i j f c hj
  refine ⟨c0, List.mem_of_getElem? hl, ?_⟩
  split
  · exact Or.inr rfl
  · exact Or.inl rfl

theorem len_modifySlot (s : BState) (i : Nat) (f : BSlot → BSlot) : (modifySlot s i f).slots.length = s.slots.length := by
  simp [modifySlot]

theorem inherits_modifySlot (s : BState) (i : Nat) (f : BSlot → BSlot) : (modifySlot s i f).inherits = s.inherits := rfl

theorem inherits_copyFunction (s : BState) (a b c : Nat) (n : NameKey) : (copyFunction s a b c n).inherits = s.inherits := rfl

theorem cfuncs_copyFunction (s : BState) (a b c : Nat) (n : NameKey) : (copyFunction s a b c n).cfuncs = s.cfuncs := rfl

/-- identifiers, compiler functions and inherit offsets point at existing slots; the offsets are in order; inherited
    programs are in the world -/
structure Shape (w : World) (s : BState) : Prop where
  identLt : ∀ x ∈ s.idents, x.2 < s.slots.length
  ridx : ∀ c ∈ s.cfuncs, c.rindex < s.slots.length
  fioSorted : List.Pairwise (fun a b : Inherit => a.fio ≤ b.fio) s.inherits
  inh : ∀ ih ∈ s.inherits, ih.fio ≤ s.slots.length ∧ ih.prog < w.progs.length

/-- a step that keeps the inherit list, never removes a slot, and whose new identifiers and compiler functions point
    at existing slots (or carry the runtime index of an old compiler function) keeps `Shape` -/
theorem Shape.mono {w : World} {s s' : BState} (h : Shape w s) (hi : s'.inherits = s.inherits)
    (hl : s.slots.length ≤ s'.slots.length)
    (hid : ∀ x ∈ s'.idents, x ∈ s.idents ∨ x.2 < s'.slots.length)
    (hc : ∀ c ∈ s'.cfuncs, (∃ c0 ∈ s.cfuncs, c.rindex = c0.rindex) ∨ c.rindex < s'.slots.length) : Shape w s' := by
  refine ⟨?_, ?_, hi ▸ h.fioSorted, ?_⟩
  · intro x hx
    rcases hid x hx with hx | hx
    · exact Nat.lt_of_lt_of_le (h.identLt x hx) hl
    · exact hx
  · intro c hcm
    rcases hc c hcm with ⟨c0, h0, he⟩ | hlt
    · exact he ▸ Nat.lt_of_lt_of_le (h.ridx c0 h0) hl
    · exact hlt
  · intro ih hm
    rw [hi] at hm
    exact ⟨Nat.le_trans (h.inh ih hm).1 hl, (h.inh ih hm).2⟩

theorem Shape.modifySlot {w : World} {s : BState} (h : Shape w s) (i : Nat) (f : BSlot → BSlot) :
    Shape w (modifySlot s i f) :=
  h.mono rfl (by rw [len_modifySlot]; exact Nat.le_refl _) (fun x hx => Or.inl hx) (fun c hc => Or.inl ⟨c, hc, rfl⟩)

/-- a compiler function is rewritten: it keeps its runtime index (marked removed, call operands stored) or gets that
    of an existing slot (a prototype's compiler function reused by the definition) -/
theorem Shape.modifyCfunc {w : World} {s : BState} (h : Shape w s) (i : Nat) (f : CFunc → CFunc)
    (hf : ∀ c, (f c).rindex = c.rindex ∨ (f c).rindex < s.slots.length) :
    Shape w { s with cfuncs := s.cfuncs.modify i f } := by
  refine h.mono rfl (Nat.le_refl _) (fun x hx => Or.inl hx) ?_
  intro c hc
  obtain ⟨c0, h0, rfl | rfl⟩ := mem_modify _ _ _ _ hc
  · exact Or.inl ⟨c, h0, rfl⟩
  · exact (hf c0).imp (fun e => ⟨c0, h0, e⟩) id

/-- a new slot and an identifier for it: copy_function, and define_new_function for a new name -/
theorem Shape.newSlot {w : World} {s : BState} (h : Shape w s) (x : BSlot) (n : NameKey) :
    Shape w { s with slots := s.slots ++ [x], idents := s.idents ++ [(n, s.slots.length)] } := by
  refine h.mono rfl (by simp) ?_ (fun c hc => Or.inl ⟨c, hc, rfl⟩)
  intro y hy
  rcases List.mem_append.mp hy with hy | hy
  · exact Or.inl hy
  · rw [List.mem_singleton.mp hy]; simp

theorem Shape.addCfunc {w : World} {s : BState} (h : Shape w s) (c : CFunc) (hc : c.rindex < s.slots.length) :
    Shape w { s with cfuncs := s.cfuncs ++ [c] } := by
  refine h.mono rfl (Nat.le_refl _) (fun x hx => Or.inl hx) ?_
  intro c' hc'
  rcases List.mem_append.mp hc' with hc' | hc'
  · exact Or.inl ⟨c', hc', rfl⟩
  · exact Or.inr (List.mem_singleton.mp hc' ▸ hc)

/-- identifiers point to existing, non-alias slots; an alias slot names an earlier slot -/
structure AInvP (slots : List BSlot) (idents : List (NameKey × Nat)) : Prop where
  identLt : ∀ (n : NameKey) (r : Nat), (n, r) ∈ idents → r < slots.length
  identNA : ∀ (n : NameKey) (r : Nat) (sl : BSlot), (n, r) ∈ idents → slots[r]? = some sl → hasBit sl.flags nameAlias = false
  ordered : ∀ (i : Nat) (sl : BSlot), slots[i]? = some sl → hasBit sl.flags nameAlias = true → sl.aliasFor < i

def AInv (s : BState) : Prop := AInvP s.slots s.idents

theorem ainv_empty : AInv {} := ⟨by intro n r h; simp at h, by intro n r sl h; simp at h, by intro i sl h; simp at h⟩

theorem ainv_cfuncs (s : BState) (c : List CFunc) (h : AInv s) : AInv { s with cfuncs := c } := h

theorem getElem?_append_last {α : Type} (l : List α) (x y : α) (h : (l ++ [x])[l.length]? = some y) : y = x := by
  simpa using h.symm

theorem ainv_append (slots : List BSlot) (idents : List (NameKey × Nat)) (x : BSlot) (h : AInvP slots idents)
    (hx : hasBit x.flags nameAlias = false ∨ x.aliasFor < slots.length) : AInvP (slots ++ [x]) idents := by
  refine ⟨?_, ?_, ?_⟩
  · intro n r hm
    have := h.identLt n r hm
    simp only [List.length_append, List.length_cons, List.length_nil]; omega
  · intro n r sl hm hs
    rw [List.getElem?_append_left (h.identLt n r hm)] at hs
    exact h.identNA n r sl hm hs
  · intro i sl hs hal
    by_cases hi : i < slots.length
    · rw [List.getElem?_append_left hi] at hs
      exact h.ordered i sl hs hal
    · have hlen : i = slots.length := by
        have := (List.getElem?_eq_some_iff.mp hs).1
        simp only [List.length_append, List.length_cons, List.length_nil] at this
        omega
      subst hlen
      have := getElem?_append_last _ _ _ hs
      subst this
      rcases hx with hx | hx
      · rw [hx] at hal; cases hal
      · exact hx

theorem ainv_addIdent (slots : List BSlot) (idents : List (NameKey × Nat)) (n : NameKey) (r : Nat)
    (h : AInvP slots idents) (hr : r < slots.length)
    (hna : ∀ sl, slots[r]? = some sl → hasBit sl.flags nameAlias = false) : AInvP slots (idents ++ [(n, r)]) := by
  refine ⟨?_, ?_, h.ordered⟩
  · intro n' r' hm
    rcases List.mem_append.mp hm with hm | hm
    · exact h.identLt n' r' hm
    · simp only [List.mem_singleton, Prod.mk.injEq] at hm
      omega
  · intro n' r' sl hm hs
    rcases List.mem_append.mp hm with hm | hm
    · exact h.identNA n' r' sl hm hs
    · simp only [List.mem_singleton, Prod.mk.injEq] at hm
      obtain ⟨_, rfl⟩ := hm
      exact hna sl hs

/-- a new non-alias slot and an identifier for it: copy_function, and define_new_function for a new name -/
theorem ainv_newSlot (slots : List BSlot) (idents : List (NameKey × Nat)) (x : BSlot) (n : NameKey)
    (h : AInvP slots idents) (hx : hasBit x.flags nameAlias = false) :
    AInvP (slots ++ [x]) (idents ++ [(n, slots.length)]) :=
  ainv_addIdent _ _ _ _ (ainv_append _ _ _ h (Or.inl hx)) (by simp)
    (fun sl hs => getElem?_append_last _ _ _ hs ▸ hx)

theorem ainv_modifySlot (s : BState) (i : Nat) (f : BSlot → BSlot) (h : AInv s)
    (hf : ∀ sl, s.slots[i]? = some sl → hasBit (f sl).flags nameAlias = false) : AInv (modifySlot s i f) := by
  -- a slot of the new table is the modified one (no alias) or an old one
  have key : ∀ (j : Nat) (sl : BSlot), (s.slots.modify i f)[j]? = some sl →
      hasBit sl.flags nameAlias = false ∨ s.slots[j]? = some sl := by
    intro j sl hs
    obtain ⟨sl0, hsl, rfl⟩ := getElem?_modify_some _ _ _ _ _ hs
    split
    · rename_i hij
      subst hij
      exact Or.inl (hf sl0 hsl)
    · exact Or.inr hsl
  refine ⟨?_, ?_, ?_⟩
  · intro n r hm
    simpa [modifySlot] using h.identLt n r hm
  · intro n r sl hm hs
    rcases key r sl hs with hna | hs'
    · exact hna
    · exact h.identNA n r sl hm hs'
  · intro j sl hs hal
    rcases key j sl hs with hna | hs'
    · rw [hna] at hal; cases hal
    · exact h.ordered j sl hs' hal

theorem modifySlot_get (s : BState) (i : Nat) (f : BSlot → BSlot) (sl : BSlot)
    (h : (modifySlot s i f).slots[i]? = some sl) : ∃ sl0, s.slots[i]? = some sl0 ∧ sl = f sl0 := by
  obtain ⟨sl0, h0, rfl⟩ := getElem?_modify_some _ _ _ _ _ h
  exact ⟨sl0, h0, by rw [if_pos rfl]⟩

theorem ident_mem (s : BState) (name : NameKey) (num : Nat) (h : s.ident name = some num) :
    ∃ n, (n, num) ∈ s.idents := by
  unfold BState.ident at h
  cases hf : s.idents.find? (·.1 == name) with
  | none => rw [hf] at h; simp at h
  | some pr =>
    rw [hf] at h
    simp only [Option.map_some, Option.some.injEq] at h
    subst h
    exact ⟨pr.1, List.mem_of_find?_eq_some hf⟩

/-- the modifiers of an item never contain NAME_ALIAS -/
def Item.modsOK : Item → Prop
  | .inh m _ => bitsOK m
  | .proto m _ _ => bitsOK m
  | .defn m _ _ _ => bitsOK m
  | .var _ => True

/-- the invariant of the construction: `Shape` whatever the modifiers are, `AInv` when they are clean -/
structure BInv (ok : Prop) (w : World) (s : BState) : Prop where
  shape : Shape w s
  alias : ok → AInv s

theorem binv_copyFunction {ok : Prop} {w : World} {s : BState} (h : BInv ok w s) (src idx m : Nat) (name : NameKey)
    (hm : ok → bitsOK m) : BInv ok w (copyFunction s src idx m name) :=
  ⟨h.shape.newSlot _ name, fun o => ainv_newSlot _ _ _ _ (h.alias o) (inheritedFlags_noAlias src m (hm o))⟩

theorem binv_modifySlot {ok : Prop} {w : World} {s : BState} (h : BInv ok w s) (i : Nat) (f : BSlot → BSlot)
    (hf : ok → ∀ sl, s.slots[i]? = some sl → hasBit (f sl).flags nameAlias = false) : BInv ok w (modifySlot s i f) :=
  ⟨h.shape.modifySlot i f, fun o => ainv_modifySlot s i f (h.alias o) (hf o)⟩

/-- overload_function for an identifier's slot `old` (it exists and is not an alias): the new alias names it; if
    "the latest wins" it takes flags without NAME_ALIAS; its reference count changes nothing here -/
theorem binv_overloadFunction {ok : Prop} {w : World} {s : BState} (h : BInv ok w s) (src idx old m : Nat)
    (hm : ok → bitsOK m) (hold : old < s.slots.length)
    (hna : ok → ∀ sl, s.slots[old]? = some sl → hasBit sl.flags nameAlias = false) :
    BInv ok w (overloadFunction s src idx old m) := by
  have hfl : ok → hasBit (inheritedFlags src m) nameAlias = false := fun o => inheritedFlags_noAlias src m (hm o)
  unfold overloadFunction
  cases s.slots[old]? with
  | none => exact h
  | some oldsl =>
    have h1 : BInv ok w (addAlias s idx old) :=
      ⟨h.shape.mono rfl (by simp [addAlias]) (fun x hx => Or.inl hx) (fun c hc => Or.inl ⟨c, hc, rfl⟩),
       fun o => ainv_append _ _ _ (h.alias o) (Or.inr hold)⟩
    have n1 : ok → ∀ sl, (addAlias s idx old).slots[old]? = some sl → hasBit sl.flags nameAlias = false := by
      intro o sl hs
      simp only [addAlias, List.getElem?_append_left hold] at hs
      exact hna o sl hs
    have h2 : BInv ok w (latestWins (addAlias s idx old) oldsl src idx old m) ∧
        (ok → ∀ sl, (latestWins (addAlias s idx old) oldsl src idx old m).slots[old]? = some sl →
          hasBit sl.flags nameAlias = false) := by
      unfold latestWins
      split
      · refine ⟨binv_modifySlot (by
            split
            · exact ⟨h1.shape.modifyCfunc _ _ (fun _ => Or.inl rfl), h1.alias⟩
            · exact h1) _ _ (fun o _ _ => hfl o), ?_⟩
        intro o sl hs
        obtain ⟨sl0, _, rfl⟩ := modifySlot_get _ _ _ _ hs
        exact hfl o
      · exact ⟨h1, n1⟩
    show BInv ok w (bumpCount (latestWins (addAlias s idx old) oldsl src idx old m) src old)
    unfold bumpCount
    split
    · exact binv_modifySlot h2.1 old _ h2.2
    · exact h2.1

theorem ident_lt {w : World} {s : BState} (h : Shape w s) (n : NameKey) (rn : Nat) (hi : s.ident n = some rn) :
    rn < s.slots.length := by
  obtain ⟨n', hm⟩ := ident_mem s n rn hi
  exact h.identLt _ hm

theorem binv_defineNewFunction {ok : Prop} {w : World} {s : BState} (h : BInv ok w s) (n : NameKey) (ns : String)
    (fl m : Nat) (hm : ok → bitsOK m) (hfl : fl = (nameUndefined ||| namePrototype) ∨ fl = 0) :
    BInv ok w (defineNewFunction s n ns fl m).1 := by
  -- the one flags word written, to a new slot or to the identifier's, has no NAME_ALIAS; the rest is `Shape`'s bookkeeping
  have hna : ok → hasBit (m ||| fl ||| nameStrictTypes) nameAlias = false := fun o => defFlags_noAlias m fl (hm o) hfl
  unfold defineNewFunction
  simp only
  cases hi : s.ident n with
  | none =>
    exact ⟨(h.shape.newSlot _ n).addCfunc _ (by simp),
      fun o => ainv_newSlot _ _ _ _ (h.alias o) (hna o)⟩
  | some rn =>
    -- the identifier's slot exists: a redefinition reuses it
    have hrn := ident_lt h.shape n rn hi
    simp only
    cases s.slots[rn]? with
    | none => exact h
    | some sl =>
      simp only
      by_cases h1 : (!hasBit sl.flags nameUndefined && !hasBit fl namePrototype) = true
      · rw [if_pos h1]; exact h
      · rw [if_neg h1]
        by_cases h2 : hasBit fl namePrototype = true
        · rw [if_pos h2]; exact h
        · rw [if_neg h2]
          by_cases h3 : sl.isLocal = true
          · rw [if_pos h3]
            exact ⟨(h.shape.modifySlot rn _).modifyCfunc _ _ (fun _ => Or.inr (by rw [len_modifySlot]; exact hrn)),
              fun o => ainv_modifySlot _ _ _ (h.alias o) (fun _ _ => hna o)⟩
          · rw [if_neg h3]
            exact ⟨((h.shape.addCfunc _ hrn).modifySlot rn _).modifyCfunc _ _ (fun _ => Or.inr (by rw [len_modifySlot]; exact hrn)),
              fun o => ainv_modifySlot _ _ _ (h.alias o) (fun _ _ => hna o)⟩

theorem binv_copyStep {ok : Prop} (w : World) (Q : Program) (m q : Nat) (hm : ok → bitsOK m) (s : BState) (i : Nat)
    (h : BInv ok w s) : BInv ok w (copyStep w q Q m s i) := by
  unfold copyStep
  split
  · exact h
  · split
    · exact h
    · rename_i fe _
      cases hid : s.ident fe.name with
      | none => exact binv_copyFunction h _ _ _ _ hm
      | some num =>
        obtain ⟨n, hmem⟩ := ident_mem s fe.name num hid
        exact binv_overloadFunction h _ _ _ _ hm (h.shape.identLt _ hmem)
          (fun o sl hs => (h.alias o).identNA n num sl hmem hs)

theorem binv_doItem {ok : Prop} (w : World) (s : BState) (it : Item) (h : BInv ok w s) (hm : ok → it.modsOK) :
    BInv ok w (doItem w s it) := by
  cases it with
  | var m => exact ⟨h.shape.mono rfl (Nat.le_refl _) (fun x hx => Or.inl hx) (fun c hc => Or.inl ⟨c, hc, rfl⟩), h.alias⟩
  | proto m name nameStr => exact binv_defineNewFunction h _ _ _ _ hm (Or.inl rfl)
  | defn m name nameStr calls =>
    have h2 := binv_defineNewFunction (binv_defineNewFunction h name nameStr _ m hm (Or.inl rfl)) name nameStr 0 m hm
      (Or.inr rfl)
    unfold doItem
    simp only
    split
    · exact ⟨h2.shape.modifyCfunc _ _ (fun _ => Or.inl rfl), h2.alias⟩
    · exact h2
  | inh m q =>
    show BInv ok w (doInherit w s m q)
    unfold doInherit
    cases hq : w.progs[q]? with
    | none => exact h
    | some Q =>
      -- the new inherit entry records the number of slots so far
      refine List.foldlRecOn _ _ (motive := BInv ok w) ⟨⟨h.shape.identLt, h.shape.ridx, ?_, ?_⟩, h.alias⟩
        (fun s0 h0 i _ => binv_copyStep w Q m q hm s0 i h0)
      · rw [List.pairwise_append]
        refine ⟨h.shape.fioSorted, List.pairwise_singleton _ _, ?_⟩
        intro a ha b hb
        rw [List.mem_singleton.mp hb]
        exact (h.shape.inh a ha).1
      · intro ih hmm
        rcases List.mem_append.mp hmm with hmm | hmm
        · exact h.shape.inh ih hmm
        · rw [List.mem_singleton.mp hmm]
          exact ⟨Nat.le_refl _, (List.getElem?_eq_some_iff.mp hq).1⟩

/-- the build state when the items of the file are done and epilog() has not run: `buildProgram` is `finish` of it -/
abbrev builtState (w : World) (items : List Item) : BState := items.foldl (doItem w) {}

theorem binv_built (w : World) (items : List Item) :
    BInv (∀ it ∈ items, it.modsOK) w (builtState w items) :=
  List.foldlRecOn _ _ ⟨⟨by simp, by simp, by simp, by simp⟩, fun _ => ainv_empty⟩
    (fun s h it hit => binv_doItem w s it h (fun o => o it hit))

theorem buildProgram_flags (w : World) (name : String) (id : Nat) (items : List Item) :
    (buildProgram w name id items).flags = (epilogSlots (builtState w items).slots).map (·.flags) := rfl

theorem buildProgram_inherit (w : World) (name : String) (id : Nat) (items : List Item) :
    (buildProgram w name id items).inherit = (builtState w items).inherits := rfl

theorem built_flags_length (w : World) (name : String) (id : Nat) (items : List Item) :
    (buildProgram w name id items).flags.length = (builtState w items).slots.length := by
  rw [buildProgram_flags, List.length_map, epilogSlots_length]

/-- every inherit entry of every built program names a program of the world it was compiled against -/
theorem built_inherits_in_world (w : World) (name : String) (id : Nat) (items : List Item) :
    ∀ ih ∈ (buildProgram w name id items).inherit, ih.prog < w.progs.length := by
  rw [buildProgram_inherit]
  exact fun ih hm => ((binv_built w items).shape.inh ih hm).2

/-- in every program the construction model builds, for every world and every list of source
    items, the function_index_offsets of the inherit list never decrease (each inherit statement records the number of
    runtime slots so far, and no operation removes a slot) and none lies beyond the runtime table — the `fioSorted`
    clause of `cmpWF`, the hypothesis under which find_func_entry's binary search is correct, holds by construction -/
theorem built_fio_sorted (w : World) (name : String) (id : Nat) (items : List Item) :
    fioSorted (buildProgram w name id items).inherit = true ∧
    ∀ ih ∈ (buildProgram w name id items).inherit, ih.fio ≤ (buildProgram w name id items).flags.length := by
  rw [buildProgram_inherit, built_flags_length]
  exact ⟨(fioSorted_iff _).mpr (binv_built w items).shape.fioSorted, fun ih hm => ((binv_built w items).shape.inh ih hm).1⟩

/-- the hypothesis of the epilog theorem holds for every program the construction produces -/
theorem built_aliasOrdered (w : World) (items : List Item) (hm : ∀ it ∈ items, it.modsOK) :
    aliasOrdered (builtState w items).slots = true :=
  (aliasOrdered_iff _).mpr ((binv_built w items).alias hm).ordered

set_option linter.unusedVariables false in
/-- clause "runtime indices in range" of `wfFind`, for ALL programs: in every program the
    construction model builds (any world, any source items with well-formed modifiers) every function table entry
    points at an existing runtime slot.  (`Shape` does not depend on modifier bits: `hm` is not used.) -/
theorem built_indices_in_range (w : World) (name : String) (id : Nat) (items : List Item)
    (hm : ∀ it ∈ items, it.modsOK) :
    ∀ e ∈ (buildProgram w name id items).ft, e.rindex < (buildProgram w name id items).flags.length := by
  intro e he
  rw [built_flags_length]
  simp only [buildProgram, finish, List.mem_filterMap] at he
  obtain ⟨i, _, hi⟩ := he
  cases hc : (builtState w items).cfuncs[i]? with
  | none => simp [hc] at hi
  | some c =>
    simp only [hc, Option.map_some, Option.some.injEq] at hi
    subst hi
    exact (binv_built w items).shape.ridx c (List.mem_of_getElem? hc)

end NV.C07
