/-
C07 — single steps of the table construction (NV/C07/Build.lean): flag bits, the flags an inherited function gets
(`inheritedFlags`, bit by bit), and the loop of epilog() over the alias slots.
-/
import NV.C07.Build
import NV.C07.LemmasBasic

namespace NV.C07

open NV.Gen.C07

/-- the flags of an inherited function, bit by bit: the source's bits inside NAME_MASK, DEF_BY_INHERIT and UNDEFINED,
    HIDDEN if the source is private (bit 11), the modifiers of the inherit statement; `public` (bit 13) on either
    side clears PRIVATE -/
theorem inheritedFlags_testBit (src m k : Nat) :
    (inheritedFlags src m).testBit k =
      ((src.testBit k && nameMask.testBit k || nameDefByInherit.testBit k || nameUndefined.testBit k ||
          src.testBit 11 && nameHidden.testBit k || m.testBit k) &&
        !((src.testBit 13 || m.testBit 13) && namePrivate.testBit k)) := by
  have hpriv : ∀ x, hasBit x namePrivate = x.testBit 11 := fun x => hasBit_two_pow x 11
  have hpub : ∀ x, hasBit x namePublic = x.testBit 13 := fun x => hasBit_two_pow x 13
  have hc : nameMask.testBit 11 = true ∧ nameDefByInherit.testBit 11 = false ∧ nameUndefined.testBit 11 = false ∧
      nameMask.testBit 13 = true ∧ nameDefByInherit.testBit 13 = false ∧ nameUndefined.testBit 13 = false ∧
      nameHidden.testBit 13 = false := by decide
  have hx : ∀ x p : Bool, (x && (x ^^ p)) = (x && !p) := by decide
  unfold inheritedFlags
  simp only [hpriv, hpub, apply_ite (Nat.testBit · k), apply_ite (Nat.testBit · 13), Nat.testBit_or, Nat.testBit_and,
    Nat.testBit_xor, hx, hc, Bool.and_true, Bool.or_false, ite_self]
  cases src.testBit 11 <;> cases src.testBit 13 || m.testBit 13 <;> simp

/-- modifiers written in the source (on functions and on inherit statements) never contain NAME_ALIAS -/
def bitsOK (m : Nat) : Prop := hasBit m nameAlias = false

theorem inheritedFlags_noAlias (a m : Nat) (hm : bitsOK m) : hasBit (inheritedFlags a m) nameAlias = false := by
  unfold bitsOK at hm
  rw [show nameAlias = 2^5 from rfl, hasBit_two_pow] at *
  have hc : nameMask.testBit 5 = false ∧ nameDefByInherit.testBit 5 = false ∧ nameUndefined.testBit 5 = false ∧
      nameHidden.testBit 5 = false := by decide
  simp [inheritedFlags_testBit, hm, hc]

/-- NAME_PROTOTYPE is kept: "has no code" survives inheritance -/
theorem inheritedFlags_proto (src m : Nat) :
    hasBit (inheritedFlags src m) namePrototype = (hasBit src namePrototype || hasBit m namePrototype) := by
  have hc : nameMask.testBit 3 = true ∧ nameDefByInherit.testBit 3 = false ∧ nameUndefined.testBit 3 = false ∧
      nameHidden.testBit 3 = false ∧ namePrivate.testBit 3 = false := by decide
  rw [show namePrototype = 2^3 from rfl, hasBit_two_pow, hasBit_two_pow, hasBit_two_pow, inheritedFlags_testBit]
  simp [hc]

/-- a private function becomes hidden one level up -/
theorem inheritedFlags_hidden (src m : Nat) (h : hasBit src namePrivate = true) :
    hasBit (inheritedFlags src m) nameHidden = true := by
  rw [show namePrivate = 2^11 from rfl, hasBit_two_pow] at h
  have hc : nameHidden.testBit 8 = true ∧ namePrivate.testBit 8 = false := by decide
  rw [show nameHidden = 2^8 from rfl, hasBit_two_pow, inheritedFlags_testBit]
  simp [h, hc]

/-- the flags define_new_function writes (header / prototype, or the definition proper) -/
theorem defFlags_noAlias (m fl : Nat) (hm : bitsOK m) (hfl : fl = (nameUndefined ||| namePrototype) ∨ fl = 0) :
    hasBit (m ||| fl ||| nameStrictTypes) nameAlias = false := by
  unfold bitsOK at hm
  rw [show nameAlias = 2^5 from rfl, hasBit_two_pow] at *
  rcases hfl with rfl | rfl <;>
    simp +decide [Nat.testBit_or, hm, nameUndefined, namePrototype, nameStrictTypes]

/-- every runtime slot flagged NAME_ALIAS names an EARLIER slot as the one it aliases (overload_function creates
    the alias after the identifier's slot); decidable, evaluated by the driver on every program it builds -/
def aliasOrdered (slots : List BSlot) : Bool :=
  slots.zipIdx.all fun (sl, i) => !(hasBit sl.flags nameAlias) || decide (sl.aliasFor < i)

theorem aliasOrdered_iff (slots : List BSlot) :
    aliasOrdered slots = true ↔
      ∀ (i : Nat) (sl : BSlot), slots[i]? = some sl → hasBit sl.flags nameAlias = true → sl.aliasFor < i := by
  simp only [aliasOrdered, List.all_eq_true, Prod.forall, List.mem_zipIdx_iff_getElem?, Bool.or_eq_true,
    Bool.not_eq_true', decide_eq_true_eq]
  exact ⟨fun h i sl hs hal => (h sl i hs).resolve_left (by simp [hal]),
    fun h sl i hs => (Bool.eq_false_or_eq_true _).symm.imp_right (h i sl hs)⟩

theorem epilogSlot_aliasFor (slots : List BSlot) (i : Nat) (sl : BSlot) :
    (epilogSlot slots i sl).aliasFor = sl.aliasFor := rfl

theorem epilogStep_length (slots : List BSlot) (i : Nat) : (epilogStep slots i).length = slots.length := by
  unfold epilogStep
  cases slots[i]? <;> simp

theorem foldl_epilogStep_length (slots : List BSlot) (l : List Nat) : (l.foldl epilogStep slots).length = slots.length :=
  List.foldlRecOn l epilogStep (motive := fun S => S.length = slots.length) rfl
    (fun S h i _ => (epilogStep_length S i).trans h)

theorem epilogSlots_length (slots : List BSlot) : (epilogSlots slots).length = slots.length :=
  foldl_epilogStep_length slots _

theorem epilogStep_other (slots : List BSlot) (i j : Nat) (h : i ≠ j) : (epilogStep slots i)[j]? = slots[j]? := by
  unfold epilogStep
  cases slots[i]? with
  | none => rfl
  | some sl => simp [h]

theorem epilogStep_self (slots : List BSlot) (i : Nat) (sl : BSlot) (hi : slots[i]? = some sl) :
    (epilogStep slots i)[i]? = some (epilogSlot slots i sl) := by
  have hlt : i < slots.length := (List.getElem?_eq_some_iff.mp hi).1
  unfold epilogStep
  rw [hi]
  simp [hlt]

/-- the iteration for an alias slot whose aliased slot is another slot gives it that slot's flags | NAME_ALIAS -/
theorem epilogSlot_alias (slots : List BSlot) (i : Nat) (sl wh : BSlot)
    (hal : hasBit sl.flags nameAlias = true) (hne : sl.aliasFor ≠ i) (hw : slots[sl.aliasFor]? = some wh) :
    (epilogSlot slots i sl).flags = wh.flags ||| nameAlias := by
  have hpa : hasBit sl.flags (namePrototype ||| nameAlias) = true := by rw [hasBit_or, hal]; simp
  unfold epilogSlot
  simp only [hpa, Bool.not_true, Bool.and_false, Bool.false_eq_true, if_false, hal, if_true, hne, hw]
  split <;> rfl

/-- the loop of epilog() after n iterations: the slots from n on are untouched; an alias slot below n and the slot
    it aliases (an earlier one) are final, and agree -/
theorem epilogLoop_invariant (slots : List BSlot) (hord : aliasOrdered slots = true) : ∀ n, n ≤ slots.length →
    (∀ (j : Nat), n ≤ j → ((List.range n).foldl epilogStep slots)[j]? = slots[j]?) ∧
    (∀ (j : Nat) (a : BSlot), j < n → slots[j]? = some a → hasBit a.flags nameAlias = true →
      ∃ b wh, ((List.range n).foldl epilogStep slots)[j]? = some b ∧
        ((List.range n).foldl epilogStep slots)[a.aliasFor]? = some wh ∧ b.flags = wh.flags ||| nameAlias) := by
  intro n
  induction n with
  | zero => intro _; exact ⟨fun _ _ => rfl, fun j a hj => by omega⟩
  | succ n ih =>
    intro hn
    obtain ⟨h2, h4⟩ := ih (by omega)
    have h1 := foldl_epilogStep_length slots (List.range n)
    rw [List.range_succ, List.foldl_append]
    simp only [List.foldl_cons, List.foldl_nil]
    generalize (List.range n).foldl epilogStep slots = S at h1 h2 h4
    refine ⟨?_, ?_⟩
    · intro j hj
      rw [epilogStep_other S n j (by omega)]
      exact h2 j (by omega)
    · intro j a hj ha hal
      have hlt := (aliasOrdered_iff slots).mp hord j a ha hal
      by_cases hjn : j = n
      · subst hjn
        have hS : S[j]? = some a := (h2 j (Nat.le_refl _)).trans ha
        -- the bound is stated first: left to the default tactic for `S[a.aliasFor]`, it fails six alternatives before `omega`
        have hlt' : a.aliasFor < S.length := by omega
        have hw : S[a.aliasFor]? = some (S[a.aliasFor]'hlt') := List.getElem?_eq_getElem hlt'
        refine ⟨_, _, epilogStep_self S j a hS, ?_, epilogSlot_alias S j a _ hal (by omega) hw⟩
        rw [epilogStep_other S j a.aliasFor (by omega)]; exact hw
      · obtain ⟨b, wh, hb, hw, hf⟩ := h4 j a (by omega) ha hal
        refine ⟨b, wh, ?_, ?_, hf⟩
        · rw [epilogStep_other S n j (Ne.symm hjn)]; exact hb
        · rw [epilogStep_other S n a.aliasFor (by omega)]; exact hw

end NV.C07
