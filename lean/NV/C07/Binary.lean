/-
C07 — a program loaded from its saved binary (lib/lpc/program/binaries.c): load_binary re-interns the function names
(their shared strings live at other addresses than when the program was compiled) and sort_function_table () re-sorts
`function_table` by the new name pointers:

  temp[i]     = old index of the entry that belongs at position i          (quickSort by name pointer)
  inverse[o]  = new position of old entry o
  function_table is permuted in place (temp applied), and every runtime entry of a function DEFINED here
  (`!(function_flags[ri] & NAME_INHERITED)`) gets `def.f_index = inverse[oldix]`; inherited entries, flags, the
  inherit list and the compressed layout are untouched.
-/
import NV.C07.Model

namespace NV.C07

open NV.Gen.C07

/-- insertion of index x into a list of indices sorted by `key` -/
def insertIdx (key : Nat → Nat) (x : Nat) : List Nat → List Nat
  | [] => [x]
  | y :: rest => if key x < key y then x :: y :: rest else y :: insertIdx key x rest

/-- `temp[]`: the indices 0 .. n-1 sorted by key -/
def sortIdx (key : Nat → Nat) (n : Nat) : List Nat := (List.range n).foldl (fun acc i => insertIdx key i acc) []

/-- `inverse[old]` -/
def inversePerm (order : List Nat) (old : Nat) : Nat := (order.findIdx? (· == old)).getD order.length

/-- `if (!(function_flags[ri] & NAME_INHERITED)) function_offsets[..].def.f_index = inverse[oldix]` -/
def fixEntry (order : List Nat) (fl : Nat) (e : REntry) : REntry :=
  if hasBit fl nameInherited then e
  else match e with
    | .defn fi na => .defn (inversePerm order fi) na
    | .inh a b => .inh a b

/-- the table permutation and the f_index fix-up of sort_function_table for an arbitrary `temp[]` -/
def permuteProgram (P : Program) (order : List Nat) : Program :=
  { P with
    ft := order.filterMap (fun i => P.ft[i]?),
    rt := (P.flags.zip P.rt).map fun x => fixEntry order x.1 x.2 }

/-- load_binary + sort_function_table: the names get the pointers `rekey` gives them, the table is sorted by them -/
def resortProgram (P : Program) (rekey : String → NameKey) : Program :=
  let P1 : Program := { P with ft := P.ft.map (fun e => { e with name := rekey e.nameStr }) }
  permuteProgram P1 (sortIdx (fun i => ((P1.ft[i]?).map (·.name)).getD 0) P1.ft.length)

/-- what the theorems need of a permutation `order` of 0 .. n-1: every element is below n and every index below n
    occurs (repetitions are not excluded) -/
def IsPerm (order : List Nat) (n : Nat) : Prop :=
  (∀ x, x ∈ order → x < n) ∧ (∀ i, i < n → i ∈ order)

/-- the function a runtime slot of a program denotes when it is defined here: its table entry -/
def slotEntry (P : Program) (i : Nat) : Option FnEntry :=
  match P.flags[i]?, P.rt[i]? with
  | some fl, some (.defn fi _) => if hasBit fl nameInherited then none else P.ft[fi]?
  | _, _ => none

end NV.C07
