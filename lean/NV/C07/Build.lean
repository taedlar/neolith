/-
C07 — executable model of the CONSTRUCTION of a program's function tables by the LPC compiler
(lib/lpc/compiler.c, lib/lpc/grammar.y), written from the code as it exists after the `fix:` commits:

  inheritance rule (grammar.y)    inherit_t { prog, function_index_offset = #runtime entries so far,
                                  variable_index_offset = #variables so far, type_mod }, then copy_functions
  copy_functions                  for every runtime slot of the inherited program: walk to the real definition to
                                  get the name; known identifier -> overload_function, else copy_function
  copy_function                   new slot: flags = (flags & NAME_MASK) | DEF_BY_INHERIT | UNDEFINED,
                                  private => hidden, |= type_mod, public cancels private; identifier -> this slot
  overload_function               new ALIAS slot (alias_for = the identifier's slot); "the latest wins": if the old slot
                                  is not defined at this level and the new function has code, the old slot takes the
                                  new flags / entry (a prototype of this level is marked for removal)
  define_new_function             prototypes and definitions (called twice per definition: header, then after the body)
  epilog                          DEF_BY_INHERIT & UNDEFINED slots become INHERITED (and lose UNDEFINED when real);
                                  alias slots take the flags of the aliased slot (and its entry when that one is
                                  defined here or overloaded at least twice)
  copy_and_sort_function_table    compiler functions sorted by name pointer, removed ones dropped, f_index remapped
  arrange_call_inherited /        operands of `::f()`, `A::f()`; local calls and `(: f :)` use the identifier's slot
  find_matching_function

compress_function_tables + FIND_FUNC_ENTRY are modelled in NV/C07/Compress.lean: this file builds the UNCOMPRESSED
runtime entries, which is what the harness dumps (it reads the real ones through FIND_FUNC_ENTRY).

The driver renders the MODEL-built tables in the format of the harness' `tbl` lines; the trace comparison then
demands that they are identical to the REAL dumped tables for every generated program.
-/
import NV.C07.Model

namespace NV.C07

open NV.Gen.C07

/-- a call written in a function body -/
inductive SrcCall where
  | loc (name : NameKey)
  | fp (name : NameKey)
  | sup (parent : Option Nat) (name : NameKey)     -- `A::f()` (A = index of the program) / `::f()`
  | stashSup (parent : Option Nat) (name : NameKey)  -- `(: A::f() :)` made and stored
  | stashLoc (name : NameKey)                       -- `(: f() :)` made and stored
  | runStash                                        -- the stored functional is fetched and evaluated (no operand of its own)
  deriving Repr, BEq, DecidableEq

/-- one top-level item of a source file, in source order -/
inductive Item where
  | inh (mods : Nat) (prog : Nat)                                   -- `mods inherit "prog";`
  | proto (mods : Nat) (name : NameKey) (nameStr : String)          -- `mods string f();`
  | defn (mods : Nat) (name : NameKey) (nameStr : String) (calls : List SrcCall)
  | var (mods : Nat)                                                -- a global variable declaration
  deriving Repr

/-- one runtime function entry while compiling: A_FUNCTION_FLAGS + A_RUNTIME_FUNCTIONS + A_FUNCTION_DEFS -/
structure BSlot where
  flags : Nat
  rt : REntry                  -- `defn cidx numArg` holds the COMPILER function index until the table is sorted
  isLocal : Bool               -- FUNCTION_PROG (n) == 0
  cidx : Nat                   -- FUNCTION_TEMP (n)->u.index when local
  aliasFor : Nat               -- FUNCTION_ALIAS (n)
  deriving Repr

/-- one A_COMPILER_FUNCTIONS entry -/
structure CFunc where
  name : NameKey
  nameStr : String
  rindex : Nat
  removed : Bool := false      -- address == USHRT_MAX
  ops : List CallOp := []
  deriving Repr

structure BState where
  slots : List BSlot := []
  cfuncs : List CFunc := []
  idents : List (NameKey × Nat) := []       -- ihe->dn.function_num
  inherits : List Inherit := []
  nvars : Nat := 0                          -- entries of A_VAR_TEMP
  nvd : Nat := 0                            -- entries of A_VAR_NAME
  deriving Repr

def nameMask : Nat :=
  nameUndefined ||| nameStrictTypes ||| namePrototype ||| nameTrueVarargs |||
  (nameHidden ||| nameStatic ||| nameNoMask ||| namePrivate ||| nameProtected ||| namePublic ||| nameVarargs)

def nameNoCode : Nat := nameUndefined ||| nameAlias ||| namePrototype

def BState.ident (s : BState) (name : NameKey) : Option Nat := (s.idents.find? (·.1 == name)).map (·.2)

/-- flags of an inherited function at this level (shared by copy_function and overload_function) -/
def inheritedFlags (srcFlags typemod : Nat) : Nat :=
  let f := (srcFlags &&& nameMask) ||| nameDefByInherit ||| nameUndefined
  let f := if hasBit f namePrivate then f ||| nameHidden else f
  let f := f ||| typemod
  if hasBit f namePublic then f &&& (f ^^^ namePrivate) else f

def modifySlot (s : BState) (i : Nat) (f : BSlot → BSlot) : BState :=
  { s with slots := s.slots.modify i f }

/-- copy_function (prog, index, defprog, defindex, typemod) -/
def copyFunction (s : BState) (srcFlags index typemod : Nat) (name : NameKey) : BState :=
  let wh := s.slots.length
  { s with
    slots := s.slots ++ [{ flags := inheritedFlags srcFlags typemod, rt := .inh (s.inherits.length - 1) index,
                           isLocal := false, cidx := 0, aliasFor := 1 }],
    idents := s.idents ++ [(name, wh)] }

/-- overload_function, part 1: the new alias entry (FUNCTION_ALIAS (alias) = oldindex) -/
def addAlias (s : BState) (index oldindex : Nat) : BState :=
  { s with slots := s.slots ++ [{ flags := nameInherited ||| nameAlias, rt := .inh (s.inherits.length - 1) index,
                                  isLocal := false, cidx := 0, aliasFor := oldindex }] }

/-- overload_function, part 2: "the latest function wins" — if the old slot is not defined at this level and the new
    function has code, the old slot takes the new flags and entry; a prototype of this level is marked for removal -/
def latestWins (s : BState) (old : BSlot) (srcFlags index oldindex typemod : Nat) : BState :=
  if hasBit old.flags nameUndefined && !(hasBit srcFlags nameNoCode) then
    modifySlot
      (if old.isLocal then { s with cfuncs := s.cfuncs.modify old.cidx (fun c => { c with removed := true }) } else s)
      oldindex (fun sl => { sl with flags := inheritedFlags srcFlags typemod, isLocal := false,
                                    rt := .inh (s.inherits.length - 1) index })
  else s

/-- overload_function, part 3: `if (!(newflags & NAME_ALIAS)) FUNCTION_ALIAS (oldindex)++` -/
def bumpCount (s : BState) (srcFlags oldindex : Nat) : BState :=
  if !(hasBit srcFlags nameAlias) then modifySlot s oldindex (fun sl => { sl with aliasFor := sl.aliasFor + 1 }) else s

/-- overload_function (prog, index, defprog, defindex, oldindex, typemod) -/
def overloadFunction (s : BState) (srcFlags index oldindex typemod : Nat) : BState :=
  match s.slots[oldindex]? with
  | none => s
  | some old => bumpCount (latestWins (addAlias s index oldindex) old srcFlags index oldindex typemod) srcFlags oldindex

/-- one iteration of copy_functions: runtime slot i of the inherited program Q (= world program q) -/
def copyStep (w : World) (q : Nat) (Q : Program) (mods : Nat) (s : BState) (i : Nat) : BState :=
  match chase w w.fuel q i 0 0 with
  | none => s
  | some fr =>
    match (w.progs[fr.prog]?.bind (·.ft[fr.fidx]?)) with
    | none => s
    | some fe =>
      let srcFlags := Q.flags.getD i 0
      match s.ident fe.name with
      | some num => overloadFunction s srcFlags i num mods
      | none => copyFunction s srcFlags i mods fe.name

/-- the inheritance rule of grammar.y + copy_variables (count only) + copy_functions -/
def doInherit (w : World) (s : BState) (mods q : Nat) : BState :=
  match w.progs[q]? with
  | none => s
  | some Q =>
    let s := { s with inherits := s.inherits ++ [{ prog := q, fio := s.slots.length, vio := s.nvars, typeMod := mods }],
                      nvars := s.nvars + Q.nvt }
    (List.range Q.flags.length).foldl (copyStep w q Q mods) s

/-- the number of parameters of a generated function is a function of its name (fK has K mod 3 parameters): the
    `num_arg` the grammar passes to define_new_function -/
def arityOf (fn : String) : Nat := if fn.startsWith "f" then digitsOf fn % 3 else 0

/-- define_new_function (name, num_arg, num_local, flags, type): `flags` = NAME_UNDEFINED|NAME_PROTOTYPE for the
    header / a prototype, 0 for the definition proper; all generated functions are typed, so exact_types is on -/
def defineNewFunction (s : BState) (name : NameKey) (nameStr : String) (flags mods : Nat) : BState × Option Nat :=
  let isProto := hasBit flags namePrototype
  match s.ident name with
  | some rn =>
    match s.slots[rn]? with
    | none => (s, none)
    | some sl =>
      if !(hasBit sl.flags nameUndefined) && !isProto then (s, none)          -- "Redeclaration of function"
      else if isProto then (s, none)                                           -- yet another prototype
      else
        -- reuse the compiler function of a prototype of this level, else a new one
        let (s, num) :=
          if sl.isLocal then (s, sl.cidx)
          else ({ s with cfuncs := s.cfuncs ++ [{ name, nameStr, rindex := rn }] }, s.cfuncs.length)
        let s := modifySlot s rn (fun sl => { sl with isLocal := true, cidx := num, flags := mods ||| flags ||| nameStrictTypes,
                                                      rt := .defn num (arityOf nameStr), aliasFor := sl.aliasFor + 1 })
        let s := { s with cfuncs := s.cfuncs.modify num (fun c => { c with rindex := rn }) }
        (s, some num)
  | none =>
    let num := s.cfuncs.length
    let rn := s.slots.length
    ({ s with cfuncs := s.cfuncs ++ [{ name, nameStr, rindex := rn }],
              slots := s.slots ++ [{ flags := mods ||| flags ||| nameStrictTypes, rt := .defn num (arityOf nameStr), isLocal := true,
                                     cidx := num, aliasFor := 1 }],
              idents := s.idents ++ [(name, rn)] },
     if isProto then none else some num)

/-- arrange_call_inherited: inherits first to last (restricted by name), find_matching_function in each -/
def arrangeCallInherited (w : World) (s : BState) (parent : Option Nat) (name : NameKey) : Option CallOp :=
  (s.inherits.zipIdx.filter (fun (ih, _) => match parent with | none => true | some a => ih.prog == a)).findSome?
    fun (ih, k) =>
      match find w ih.prog name with
      | .found q i fio _ => ((w.progs[q]?.bind (·.ft[i]?)).map (fun e => CallOp.sup k (e.rindex + fio)))
      | _ => none

def compileCalls (w : World) (s : BState) (calls : List SrcCall) : List CallOp :=
  calls.filterMap fun c =>
    match c with
    | .loc n => (s.ident n).map CallOp.loc
    | .fp n => (s.ident n).map CallOp.fp
    | .sup par n => arrangeCallInherited w s par n
    | .stashSup par n => (arrangeCallInherited w s par n).map fun
        | .sup k i => CallOp.stashSup k i
        | o => o
    | .stashLoc n => (s.ident n).map CallOp.stashLoc
    | .runStash => some CallOp.runStash

def doItem (w : World) (s : BState) : Item → BState
  | .inh mods q => doInherit w s mods q
  | .var _ => { s with nvars := s.nvars + 1, nvd := s.nvd + 1 }
  | .proto mods name nameStr => (defineNewFunction s name nameStr (nameUndefined ||| namePrototype) mods).1
  | .defn mods name nameStr calls =>
    -- header: a prototype; then the body is compiled; then the definition proper
    let s := (defineNewFunction s name nameStr (nameUndefined ||| namePrototype) mods).1
    let ops := compileCalls w s calls
    let (s, fn) := defineNewFunction s name nameStr 0 mods
    match fn with
    | some num => { s with cfuncs := s.cfuncs.modify num (fun c => { c with ops := ops }) }
    | none => s

/-- the new value of runtime entry i in one iteration of the loop of epilog(); `slots` is the table before the
    iteration (the aliased entry is read after entry i itself has been updated, which only matters if an entry
    aliased itself) -/
def epilogSlot (slots : List BSlot) (i : Nat) (sl : BSlot) : BSlot :=
  -- functions not defined at this level but defined below: inherited (and real, unless prototype / alias)
  let byInh := hasBit sl.flags nameUndefined && hasBit sl.flags nameDefByInherit
  let ff := if byInh && !(hasBit sl.flags (namePrototype ||| nameAlias)) then sl.flags &&& (sl.flags ^^^ nameUndefined)
            else sl.flags
  let f1 := if byInh then ff ||| nameInherited else sl.flags
  let fr : Nat × REntry :=
    if hasBit ff nameAlias then
      match (if sl.aliasFor = i then some { sl with flags := f1 } else slots[sl.aliasFor]?) with
      | none => (f1, sl.rt)
      | some wh =>
        if !(hasBit wh.flags nameInherited) || wh.aliasFor ≥ 2 then (wh.flags ||| nameAlias, wh.rt)
        else (wh.flags ||| nameAlias, sl.rt)
    else (f1, sl.rt)
  { sl with flags := fr.1, rt := fr.2 }

/-- one iteration of the loop of epilog() over the runtime entries -/
def epilogStep (slots : List BSlot) (i : Nat) : List BSlot :=
  match slots[i]? with
  | none => slots
  | some sl => slots.set i (epilogSlot slots i sl)

def epilogSlots (slots : List BSlot) : List BSlot := (List.range slots.length).foldl epilogStep slots

/-- insertion of a compiler function index into a list sorted by name pointer -/
def insertByKey (cf : List CFunc) (x : Nat) : List Nat → List Nat
  | [] => [x]
  | y :: rest =>
    if ((cf[x]?.map (·.name)).getD 0) < ((cf[y]?.map (·.name)).getD 0) then x :: y :: rest
    else y :: insertByKey cf x rest

/-- copy_and_sort_function_table: order of the surviving compiler functions -/
def sortedOrder (cf : List CFunc) : List Nat :=
  ((List.range cf.length).filter (fun i => !((cf[i]?.map (·.removed)).getD true))).foldl (fun acc i => insertByKey cf i acc) []

/-- the finished program -/
def finish (name : String) (id : Nat) (s : BState) (heartBeatKey : Option NameKey := none) : Program :=
  let slots := epilogSlots s.slots
  let order := sortedOrder s.cfuncs
  let inverse (old : Nat) : Nat := (order.findIdx? (· == old)).getD order.length
  { name, id, nvt := s.nvars, nvd := s.nvd,
    ft := order.filterMap (fun i => s.cfuncs[i]?.map (fun c => { name := c.name, rindex := c.rindex, nameStr := c.nameStr, ops := c.ops })),
    flags := slots.map (·.flags),
    rt := slots.map (fun sl =>
      if hasBit sl.flags nameInherited then sl.rt
      else match sl.rt with
        | .defn ci na => .defn (inverse ci) na
        | e => e),
    inherit := s.inherits,
    -- epilog(): `ihe = lookup_ident ("heart_beat"); prog->heart_beat = ihe ? ihe->dn.function_num : -1`
    heartBeat := heartBeatKey.bind s.ident }

/-- compile one source file against the world of already compiled programs -/
def buildProgram (w : World) (name : String) (id : Nat) (items : List Item) (heartBeatKey : Option NameKey := none) :
    Program :=
  finish name id (items.foldl (doItem w) {}) heartBeatKey

/-! ### rendering in the format of the harness' `tbl` line -/

def renderOps (ops : List CallOp) : String :=
  -- what the bytecode shows: the call inside a stored functional looks like any other; fetching the stored functional
  -- back has no operand
  let shown := ops.filterMap fun
    | .loc i => some s!"L{i}"
    | .fp i => some s!"F{i}"
    | .sup a b => some s!"S{a}.{b}"
    | .stashSup a b => some s!"S{a}.{b}"
    | .stashLoc i => some s!"L{i}"
    | .runStash => none
  if shown.isEmpty then "-" else "+".intercalate shown

def renderTbl (w : World) (P : Program) : String :=
  let ft := if P.ft.isEmpty then "-" else
    ",".intercalate (P.ft.map fun e =>
      let real := match P.flags[e.rindex]? with
        | some fl => !(hasBit fl (nameInherited ||| nameNoCode))
        | none => false
      s!"{e.nameStr}:{e.name}:{e.rindex}:{if real then renderOps e.ops else "-"}")
  let fl := if P.flags.isEmpty then "-" else
    ",".intercalate ((P.flags.zip P.rt).map fun (f, e) =>
      match e with
      | .defn a b => s!"{f}:D:{a}:{b}"
      | .inh a b => s!"{f}:I:{a}:{b}")
  let inh := if P.inherit.isEmpty then "-" else
    ",".intercalate (P.inherit.map fun ih =>
      s!"{((w.progs[ih.prog]?).map (·.name)).getD "?"}:{ih.fio}:{ih.vio}:{ih.typeMod}")
  let hb := match P.heartBeat with | some i => toString i | none => "-1"
  s!"tbl {P.name} id={P.id} nvt={P.nvt} nvd={P.nvd} ft={ft} fl={fl} hb={hb} inh={inh}"

end NV.C07
