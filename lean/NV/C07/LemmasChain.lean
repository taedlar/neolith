/-
C07 — function_index_offset / variable_index_offset as sums along chains of inherit entries.  Whatever
find_function returns and whatever frame the NAME_INHERITED chasing ends in, the offsets are the sums of the offsets
of the inherit entries passed (`findFunction_sums`, `chase_sums`).  From these: whichever way a function body is
entered (a call by name through apply_low with any truthful cache, a call by runtime slot — local call, function pointer, the
call inside a functional, heart_beat — or F_CALL_INHERITED from a frame that was entered correctly, including a STORED
functional evaluated later by other code, which runs from its creator's frame), the frame has the offsets of a chain
from the OBJECT's program to the program that defines the running function: it sees the slots and the variable block
of its own copy.
-/
import NV.C07.Model
import NV.C07.LemmasCache

namespace NV.C07

open NV.Gen.C07

/-- `path` is a chain of inherit entries leading from program p to program q -/
def ValidChain (w : World) : Nat → List Inherit → Nat → Prop
  | p, [], q => p = q
  | p, ih :: rest, q => (∃ P, w.progs[p]? = some P ∧ ih ∈ P.inherit) ∧ ValidChain w ih.prog rest q

def sumFio (path : List Inherit) : Nat := (path.map (·.fio)).sum
def sumVio (path : List Inherit) : Nat := (path.map (·.vio)).sum

theorem sumFio_cons (ih : Inherit) (path : List Inherit) : sumFio (ih :: path) = ih.fio + sumFio path := by
  simp [sumFio]

theorem sumVio_cons (ih : Inherit) (path : List Inherit) : sumVio (ih :: path) = ih.vio + sumVio path := by
  simp [sumVio]

theorem sumFio_append (a b : List Inherit) : sumFio (a ++ b) = sumFio a + sumFio b := by simp [sumFio]
theorem sumVio_append (a b : List Inherit) : sumVio (a ++ b) = sumVio a + sumVio b := by simp [sumVio]

theorem validChain_append (w : World) : ∀ (p : Nat) (l1 : List Inherit) (q : Nat) (l2 : List Inherit) (r : Nat),
    ValidChain w p l1 q → ValidChain w q l2 r → ValidChain w p (l1 ++ l2) r := by
  intro p l1
  induction l1 generalizing p with
  | nil =>
    intro q l2 r h1 h2
    simp only [ValidChain] at h1
    subst h1
    simpa using h2
  | cons ih rest hind =>
    intro q l2 r h1 h2
    simp only [ValidChain, List.cons_append] at h1 ⊢
    exact ⟨h1.1, hind ih.prog q l2 r h1.2 h2⟩

theorem chase_sums (w : World) : ∀ (fuel p index fio vio : Nat) (fr : Frame),
    chase w fuel p index fio vio = some fr →
    ∃ path, ValidChain w p path fr.prog ∧ fr.fio = fio + sumFio path ∧ fr.vio = vio + sumVio path := by
  intro fuel
  induction fuel with
  | zero => intro p index fio vio fr h; simp [chase] at h
  | succ n ih =>
    intro p index fio vio fr h
    simp only [chase, Option.bind_eq_bind, Option.bind_eq_some_iff] at h
    obtain ⟨P, hP, fl, _, e, _, h⟩ := h
    split at h
    · cases e with
      | defn a b => simp at h
      | inh off idx =>
        simp only [Option.bind_eq_some_iff] at h
        obtain ⟨ihd, hih, h⟩ := h
        obtain ⟨path, hv, hf, hvv⟩ := ih _ _ _ _ _ h
        exact ⟨ihd :: path, ⟨⟨P, hP, List.mem_of_getElem? hih⟩, hv⟩,
          by rw [sumFio_cons]; omega, by rw [sumVio_cons]; omega⟩
    · cases e with
      | inh a b => simp at h
      | defn fi na =>
        simp only [Option.some.injEq] at h
        subst h
        exact ⟨[], rfl, rfl, rfl⟩

/-! ### find_function: offsets are sums along the chain it descended -/

theorem searchInh_found (rec : Nat → FindRes) (l : List Inherit) (q k f v : Nat)
    (h : searchInh rec l = .found q k f v) :
    ∃ ih f' v', ih ∈ l ∧ rec ih.prog = .found q k f' v' ∧ f = f' + ih.fio ∧ v = v' + ih.vio := by
  induction l with
  | nil => simp [searchInh] at h
  | cons a rest ihl =>
    unfold searchInh at h
    cases hr : rec a.prog with
    | crash => simp [hr] at h
    | none =>
      simp only [hr] at h
      obtain ⟨ih, f', v', hm, h1, h2, h3⟩ := ihl h
      exact ⟨ih, f', v', List.mem_cons_of_mem _ hm, h1, h2, h3⟩
    | found q' k' f' v' =>
      simp only [hr, FindRes.found.injEq] at h
      obtain ⟨rfl, rfl, rfl, rfl⟩ := h
      exact ⟨a, f', v', List.mem_cons_self, hr, rfl, rfl⟩

theorem findFunction_sums (w : World) (name : NameKey) : ∀ (fuel p q k f v : Nat),
    findFunction w fuel p name = .found q k f v →
    ∃ path, ValidChain w p path q ∧ f = sumFio path ∧ v = sumVio path := by
  intro fuel
  induction fuel with
  | zero => intro p q k f v h; simp [findFunction] at h
  | succ n ih =>
    intro p q k f v h
    unfold findFunction at h
    cases hP : w.progs[p]? with
    | none => simp [hP] at h
    | some P =>
      simp only [hP] at h
      cases hts : tableSearch P name with
      | crash => simp [hts] at h
      | notHere => simp [hts] at h
      | here k' =>
        simp only [hts, FindRes.found.injEq] at h
        obtain ⟨rfl, rfl, rfl, rfl⟩ := h
        exact ⟨[], rfl, rfl, rfl⟩
      | inherits =>
        simp only [hts] at h
        obtain ⟨ihd, f', v', hm, hrec, hf, hv⟩ := searchInh_found _ _ _ _ _ _ h
        obtain ⟨path, hvc, hf', hv'⟩ := ih _ _ _ _ _ hrec
        exact ⟨ihd :: path, ⟨⟨P, hP, by simpa using hm⟩, hvc⟩, by rw [sumFio_cons]; omega, by rw [sumVio_cons]; omega⟩

/-- whatever find_function returns, its (fio, vio) are the sums of the offsets of
    the inherit entries it descended through (no well-formedness needed). -/
theorem find_offsets_are_path_sums (w : World) (p : Nat) (name : NameKey) (q k f v : Nat)
    (h : find w p name = .found q k f v) :
    ∃ path, ValidChain w p path q ∧ f = sumFio path ∧ v = sumVio path :=
  findFunction_sums w name _ _ _ _ _ _ h

/-- the frame's offsets are the sums along a chain of inherit entries from the object's program to the frame's -/
def OwnBlock (w : World) (obProg : Nat) (fr : Frame) : Prop :=
  ∃ path, ValidChain w obProg path fr.prog ∧ fr.fio = sumFio path ∧ fr.vio = sumVio path

/-- every way the model enters a function body of an object of program `obProg` -/
inductive Entered (w : World) (obProg : Nat) : Frame → Prop
  /-- apply_low (call_other, driver applies, call_out, ...) with any truthful cache, hit or miss -/
  | byName (c : Cache) (hc : Inv w c) (origin ptr : Nat) (name : NameKey) (q k f v : Nat) (c' : Cache) :
      applyLow w c origin obProg ptr name = (.call q k f v, c') → Entered w obProg { prog := q, fidx := k, fio := f, vio := v }
  /-- setup_new_frame on a runtime slot of the object's program: F_CALL_FUNCTION_BY_ADDRESS, call_function_pointer
      FP_LOCAL, call_function (heart_beat) -/
  | bySlot (slot : Nat) (fr : Frame) : setupNewFrame w obProg slot = some fr → Entered w obProg fr
  /-- F_CALL_INHERITED executed by code running in a frame that was itself entered in one of these ways (the frame of
      the running body, or — for a functional — the frame its creator ran in, restored by call_function_pointer) -/
  | inherited (cur : Frame) (inh idx : Nat) (fr : Frame) :
      Entered w obProg cur → setupInheritedFrame w cur inh idx = some fr → Entered w obProg fr

/-- setup_new_frame: the chasing from offsets (0, 0) -/
theorem setupNewFrame_sums (w : World) (obProg slot : Nat) (fr : Frame)
    (h : setupNewFrame w obProg slot = some fr) :
    ∃ path, ValidChain w obProg path fr.prog ∧ fr.fio = sumFio path ∧ fr.vio = sumVio path := by
  obtain ⟨path, hv, h1, h2⟩ := chase_sums w _ _ _ _ _ _ h
  exact ⟨path, hv, by omega, by omega⟩

/-- setup_inherited_frame: one inherit entry of the current program, then the chasing -/
theorem setupInheritedFrame_sums (w : World) (cur : Frame) (inh index : Nat) (fr : Frame)
    (h : setupInheritedFrame w cur inh index = some fr) :
    ∃ P ih path, w.progs[cur.prog]? = some P ∧ P.inherit[inh]? = some ih ∧ ValidChain w ih.prog path fr.prog ∧
      fr.fio = cur.fio + ih.fio + sumFio path ∧ fr.vio = cur.vio + ih.vio + sumVio path := by
  simp only [setupInheritedFrame, Option.bind_eq_bind, Option.bind_eq_some_iff] at h
  obtain ⟨P, hP, ih, hih, h⟩ := h
  obtain ⟨path, hv, hf, hvv⟩ := chase_sums w _ _ _ _ _ _ h
  exact ⟨P, ih, path, hP, hih, hv, hf, hvv⟩

/-- for every world, every object program, every cache history and every sequence
    of nested calls of any kind: the frame a body runs in has function_index_offset / variable_index_offset equal to
    the sums of the offsets along a chain of inherit entries from the object's program to the program that defines
    the running function. -/
theorem every_frame_sees_its_own_block (w : World) (obProg : Nat) (fr : Frame) (h : Entered w obProg fr) :
    OwnBlock w obProg fr := by
  induction h with
  | byName c hc origin ptr name q k f v c' hcall =>
    exact find_offsets_are_path_sums w obProg name q k f v
      (applyLow_call_is_find w c hc origin obProg ptr name q k f v c' hcall)
  | bySlot slot fr hs => exact setupNewFrame_sums w obProg slot fr hs
  | inherited cur inh idx fr _ hs ih =>
    obtain ⟨p1, hv1, hf1, hvio1⟩ := ih
    obtain ⟨P, ihh, p2, hP, hih, hv2, hf2, hvio2⟩ := setupInheritedFrame_sums w cur inh idx fr hs
    refine ⟨p1 ++ ihh :: p2, validChain_append w _ _ _ _ _ hv1 ⟨⟨P, hP, List.mem_of_getElem? hih⟩, hv2⟩, ?_, ?_⟩
    · rw [sumFio_append, sumFio_cons]; omega
    · rw [sumVio_append, sumVio_cons]; omega

/-- the executable model makes nested calls only through `calleeOf` (Model.execOps: ordinary calls from the running
    frame, stored functionals from their creator's frame): whatever it answers from a correctly entered frame is a
    correctly entered frame -/
theorem calleeOf_entered (w : World) (obProg : Nat) (cur : Frame) (hcur : Entered w obProg cur) (op : CallOp)
    (vars : List Int) (evs : List Ev) (stash : Stash) (f : Frame)
    (h : calleeOf w obProg cur op vars evs stash = .ok f) : Entered w obProg f := by
  unfold calleeOf at h
  cases op with
  | sup inh idx =>
    simp only at h
    cases hs : setupInheritedFrame w cur inh idx with
    | none => simp [hs] at h
    | some f' =>
      simp only [hs] at h
      injection h with h; subst h
      exact .inherited cur inh idx f' hcur hs
  | loc idx | fp idx =>
    -- a runtime slot of the object's program
    simp only at h
    cases hT : w.progs[obProg]? with
    | none => simp [hT] at h
    | some T =>
      simp only [hT] at h
      cases hfl : T.flags[idx + cur.fio]? with
      | none => simp [hfl] at h
      | some fl =>
        simp only [hfl] at h
        split at h
        · simp at h
        · cases hs : setupNewFrame w obProg (idx + cur.fio) with
          | none => simp [hs] at h
          | some f' =>
            simp only [hs] at h
            injection h with h; subst h
            exact .bySlot _ f' hs
  | _ => simp at h

/-- non-vacuity on a two-level world: the inherited function entered by slot and through `::` -/
example :
    let w : World := { progs := [
      { name := "p0", id := 3, nvt := 1, nvd := 1, ft := [{ name := 1, rindex := 0 }], flags := [0], rt := [.defn 0 0], inherit := [] },
      { name := "p1", id := 4, nvt := 3, nvd := 1, ft := [{ name := 2, rindex := 1 }],
        flags := [nameInherited, 0], rt := [.inh 0 0, .defn 0 0], inherit := [{ prog := 0, fio := 0, vio := 1 }] } ] }
    setupNewFrame w 1 0 = some { prog := 0, fidx := 0, fio := 0, vio := 1 } ∧
    setupInheritedFrame w { prog := 1, fidx := 0, fio := 0, vio := 0 } 0 0 = some { prog := 0, fidx := 0, fio := 0, vio := 1 } := by
  decide

end NV.C07
