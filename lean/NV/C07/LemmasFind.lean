/-
C07 — find_function against the specification resolver: binary search on a sorted table, then the recursion
over the inherits.
-/
import NV.C07.Model
import NV.C07.Spec
import NV.C07.WF
import NV.C07.LemmasBasic

namespace NV.C07

open NV.Gen.C07

/-! ### the specification's answer, expressed as a find_function result -/

/-- index of the entry called `name` in a table -/
def indexOfName : List FnEntry → NameKey → Option Nat
  | [], _ => none
  | e :: rest, name => if e.name = name then some 0 else (indexOfName rest name).map (· + 1)

/-- walk a resolver path (inherit indices, outermost first) from program p: the program it ends in, the table
    index of the name there, and the sums of the offsets of the inherit entries passed -/
def follow (w : World) (name : NameKey) : Nat → List Nat → FindRes
  | p, [] =>
    match w.progs[p]? with
    | none => .crash
    | some P =>
      match indexOfName P.ft name with
      | some k => .found p k 0 0
      | none => .crash
  | p, k :: rest =>
    match w.progs[p]? with
    | none => .crash
    | some P =>
      match P.inherit[k]? with
      | none => .crash
      | some ih =>
        match follow w name ih.prog rest with
        | .found q i f v => .found q i (f + ih.fio) (v + ih.vio)
        | r => r

def specFind (w : World) (p : Nat) (name : NameKey) : Option (List Nat) → FindRes
  | none => .none
  | some path => follow w name p path

/-- in a table sorted by name pointer, entries further right have larger names -/
theorem sorted_lt (ft : List FnEntry) (hs : sortedKeys (ft.map (·.name)) = true) (i j : Nat) (a b : FnEntry)
    (hij : i < j) (hi : ft[i]? = some a) (hj : ft[j]? = some b) : a.name < b.name := by
  rw [sortedKeys_iff, List.pairwise_map, List.pairwise_iff_getElem] at hs
  obtain ⟨hi', rfl⟩ := List.getElem?_eq_some_iff.mp hi
  obtain ⟨hj', rfl⟩ := List.getElem?_eq_some_iff.mp hj
  exact hs i j hi' hj' hij

/-- entries with the same name in a sorted table are the same entry -/
theorem sorted_unique (ft : List FnEntry) (hs : sortedKeys (ft.map (·.name)) = true) (i j : Nat) (a b : FnEntry)
    (hi : ft[i]? = some a) (hj : ft[j]? = some b) (hab : a.name = b.name) : i = j := by
  rcases Nat.lt_trichotomy i j with h | h | h
  · have := sorted_lt ft hs i j a b h hi hj; rw [hab] at this; exact absurd this (Nat.lt_irrefl _)
  · exact h
  · have := sorted_lt ft hs j i b a h hj hi; rw [hab] at this; exact absurd this (Nat.lt_irrefl _)

/-- the binary search on `[lo, hi)` of a sorted table: what it returns carries the name, and an entry with the name
    inside the interval is found -/
theorem bsearchF_interval (ft : List FnEntry) (name : NameKey) (hs : sortedKeys (ft.map (·.name)) = true)
    (fuel lo hi : Nat) (hf : hi - lo ≤ fuel) (hle : hi ≤ ft.length) :
    (∀ k, bsearchF ft name fuel lo hi = some k → ∃ e, ft[k]? = some e ∧ e.name = name) ∧
    (∀ j e, ft[j]? = some e → e.name = name → lo ≤ j → j < hi → bsearchF ft name fuel lo hi = some j) := by
  fun_induction bsearchF ft name fuel lo hi with
  | case1 lo hi => exact ⟨by simp, fun j e _ _ h1 h2 => by omega⟩
  | case2 fuel lo hi hlt mid hnone =>
    have := List.getElem?_eq_none_iff.mp hnone
    omega
  | case3 fuel lo hi hlt mid e he h1 ih =>
    -- name < ft[mid].name: the name sits left of mid
    have hm : lo ≤ mid ∧ mid < hi := by omega
    clear_value mid
    obtain ⟨r1, r2⟩ := ih (by omega) (by omega)
    refine ⟨r1, fun j e' hj hn hj1 hj2 => r2 j e' hj hn hj1 ?_⟩
    apply Nat.lt_of_not_le
    intro hmj
    have : e.name ≤ e'.name := by
      by_cases hkeq : j = mid
      · subst hkeq; rw [he] at hj; cases hj; exact Nat.le_refl _
      · exact Nat.le_of_lt (sorted_lt ft hs mid j e e' (by omega) he hj)
    exact Nat.not_le_of_lt h1 (hn ▸ this)
  | case4 fuel lo hi hlt mid e he h1 h2 ih =>
    have hm : lo ≤ mid ∧ mid < hi := by omega
    clear_value mid
    obtain ⟨r1, r2⟩ := ih (by omega) hle
    refine ⟨r1, fun j e' hj hn hj1 hj2 => r2 j e' hj hn ?_ hj2⟩
    apply Nat.lt_of_not_le
    intro hmj
    have : e'.name ≤ e.name := by
      by_cases hkeq : j = mid
      · subst hkeq; rw [he] at hj; cases hj; exact Nat.le_refl _
      · exact Nat.le_of_lt (sorted_lt ft hs j mid e' e (by omega) hj he)
    exact Nat.not_le_of_lt h2 (hn ▸ this)
  | case5 fuel lo hi hlt mid e he h1 h2 =>
    clear_value mid
    have hn : e.name = name := Nat.le_antisymm (Nat.le_of_not_lt h1) (Nat.le_of_not_lt h2)
    refine ⟨fun k hk => ?_, fun j e' hj hn' _ _ => ?_⟩
    · cases hk; exact ⟨e, he, hn⟩
    · rw [sorted_unique ft hs j mid e' e hj he (hn'.trans hn.symm)]
  | case6 fuel lo hi hnlt => exact ⟨by simp, fun j e _ _ h1 h2 => by omega⟩

theorem indexOfName_eq_findIdx? (ft : List FnEntry) (name : NameKey) :
    indexOfName ft name = ft.findIdx? (·.name == name) := by
  induction ft with
  | nil => rfl
  | cons a rest ih => simp [indexOfName, List.findIdx?_cons, ih]

theorem indexOfName_some (ft : List FnEntry) (name : NameKey) (j : Nat)
    (h : indexOfName ft name = some j) : ∃ e, ft[j]? = some e ∧ e.name = name := by
  rw [indexOfName_eq_findIdx?] at h
  obtain ⟨hj, hp, _⟩ := List.findIdx?_eq_some_iff_getElem.mp h
  exact ⟨ft[j], List.getElem?_eq_getElem hj, by simpa using hp⟩

theorem indexOfName_none (ft : List FnEntry) (name : NameKey)
    (h : indexOfName ft name = none) : ∀ e ∈ ft, e.name ≠ name := by
  rw [indexOfName_eq_findIdx?] at h
  simpa using List.findIdx?_eq_none_iff.mp h

/-- on a sorted table the binary search finds what a linear search finds -/
theorem bsearch_eq_indexOfName (ft : List FnEntry) (name : NameKey) (hs : sortedKeys (ft.map (·.name)) = true) :
    bsearch ft name 0 ft.length = indexOfName ft name := by
  obtain ⟨b1, b2⟩ := bsearchF_interval ft name hs (ft.length - 0) 0 ft.length (Nat.le_refl _) (Nat.le_refl _)
  cases hi : indexOfName ft name with
  | some j =>
    obtain ⟨e, he, hn⟩ := indexOfName_some ft name j hi
    exact b2 j e he hn (Nat.zero_le _) (List.getElem?_eq_some_iff.mp he).1
  | none =>
    cases hb : bsearch ft name 0 ft.length with
    | none => rfl
    | some k =>
      obtain ⟨e, he, hn⟩ := b1 k hb
      exact absurd hn (indexOfName_none ft name hi e (List.mem_of_getElem? he))

theorem tableSearch_absent (P : Program) (name : NameKey) (hs : sortedKeys (P.ft.map (·.name)) = true)
    (hi : indexOfName P.ft name = none) : tableSearch P name = .inherits := by
  rw [tableSearch, bsearch_eq_indexOfName P.ft name hs, hi]

/-- the entry called `name` decides: a real definition is found; a prototype / undefined entry that is not inherited
    answers "not here"; an inherited one sends the search to the inherits -/
theorem tableSearch_entry (P : Program) (name : NameKey) (hs : sortedKeys (P.ft.map (·.name)) = true)
    (hr : ∀ e ∈ P.ft, e.rindex < P.flags.length) (k : Nat) (e : FnEntry)
    (hi : indexOfName P.ft name = some k) (he : P.ft[k]? = some e) :
    tableSearch P name = if isReal P e then .here k else if isBlocker P e then .notHere else .inherits := by
  have hri := hr e (List.mem_of_getElem? he)
  rw [tableSearch, bsearch_eq_indexOfName P.ft name hs, hi]
  simp only [he, isReal, isBlocker, List.getElem?_eq_getElem hri]
  cases hasBit P.flags[e.rindex] (nameUndefined ||| namePrototype ||| nameInherited) with
  | false => rfl  -- a real definition: neither side looks at the INHERITED bit alone
  | true => cases hasBit P.flags[e.rindex] nameInherited <;> rfl

/-- in a sorted table the one entry called `name` decides whether `name` is among the real definitions -/
theorem mem_defs_iff (P : Program) (hs : sortedKeys (P.ft.map (·.name)) = true) (k : Nat) (e : FnEntry)
    (he : P.ft[k]? = some e) : e.name ∈ (P.ft.filter (isReal P)).map (·.name) ↔ isReal P e = true := by
  simp only [List.mem_map, List.mem_filter]
  constructor
  · rintro ⟨e', ⟨hm', hreal'⟩, hn'⟩
    obtain ⟨i, hi'⟩ := List.getElem?_of_mem hm'
    have := sorted_unique P.ft hs i k e' e hi' he hn'
    subst this
    rw [hi'] at he
    cases he
    exact hreal'
  · exact fun h => ⟨e, ⟨List.mem_of_getElem? he, h⟩, rfl⟩

theorem searchInh_append (rec : Nat → FindRes) (xs ys : List Inherit) :
    searchInh rec (xs ++ ys) = (match searchInh rec xs with | .none => searchInh rec ys | r => r) := by
  induction xs with
  | nil => simp [searchInh]
  | cons a rest ih =>
    simp only [List.cons_append, searchInh]
    cases rec a.prog with
    | crash => rfl
    | found q k f v => rfl
    | none => simpa using ih

theorem follow_ne_none (w : World) (name : NameKey) : ∀ (path : List Nat) (p : Nat), follow w name p path ≠ .none := by
  intro path
  induction path with
  | nil =>
    intro p
    unfold follow
    cases w.progs[p]? with
    | none => simp
    | some P => simp only; cases indexOfName P.ft name <;> simp
  | cons k rest ih =>
    intro p
    unfold follow
    cases w.progs[p]? with
    | none => simp
    | some P =>
      simp only
      cases P.inherit[k]? with
      | none => simp
      | some ihd =>
        simp only
        have := ih ihd.prog
        cases hf : follow w name ihd.prog rest with
        | none => exact absurd hf this
        | crash => simp
        | found a b c d => simp

theorem searchLF_congr (r1 r2 : Nat → Option (List Nat)) : ∀ (l : List Nat) (k : Nat),
    (∀ q ∈ l, r1 q = r2 q) → Spec.searchLF r1 k l = Spec.searchLF r2 k l := by
  intro l
  induction l with
  | nil => intro k _; rfl
  | cons a rest ih =>
    intro k h
    unfold Spec.searchLF
    rw [ih (k + 1) (fun q hq => h q (List.mem_cons_of_mem _ hq)), h a List.mem_cons_self]

theorem searchLF_none (r : Nat → Option (List Nat)) : ∀ (l : List Nat) (k : Nat),
    (∀ q ∈ l, r q = none) → Spec.searchLF r k l = none := by
  intro l
  induction l with
  | nil => intro k _; rfl
  | cons a rest ih =>
    intro k h
    unfold Spec.searchLF
    rw [ih (k + 1) (fun q hq => h q (List.mem_cons_of_mem _ hq)), h a List.mem_cons_self]
    rfl

/-- with inherited programs at smaller indices the resolver does not depend on the fuel -/
theorem resolveFrom_fuel {ν : Type} [DecidableEq ν] (g : List (Spec.SProg ν))
    (hord : ∀ (p : Nat) (P : Spec.SProg ν), g[p]? = some P → ∀ q ∈ P.inherits, q < p) (name : ν) :
    ∀ (f1 f2 p : Nat), p < f1 → p < f2 → Spec.resolveFrom g f1 p name = Spec.resolveFrom g f2 p name := by
  intro f1
  induction f1 with
  | zero => intro f2 p h; omega
  | succ n ih =>
    intro f2 p h1 h2
    cases f2 with
    | zero => omega
    | succ m =>
      unfold Spec.resolveFrom
      cases hP : g[p]? with
      | none => rfl
      | some P =>
        simp only
        split
        · rfl
        · apply searchLF_congr
          intro q hq
          have := hord p P hP q hq
          exact ih m q (by omega) (by omega)

/-- the model's loop over the inherits (last to first) against the specification's, given that the recursive
    calls already agree -/
theorem searchInh_eq_searchLF (w : World) (name : NameKey) (p : Nat) (P : Program) (hP : w.progs[p]? = some P)
    (rec : Nat → FindRes) (rec' : Nat → Option (List Nat)) :
    ∀ (l : List Inherit) (k : Nat),
      (∀ j ih, l[j]? = some ih → P.inherit[k + j]? = some ih ∧ rec ih.prog = specFind w ih.prog name (rec' ih.prog)) →
      searchInh rec l.reverse = specFind w p name (Spec.searchLF rec' k (l.map (·.prog))) := by
  intro l
  induction l with
  | nil => intro k _; rfl
  | cons a rest ih =>
    intro k h
    have hrest := ih (k + 1) (by
      intro j ihd hj
      have := h (j + 1) ihd (by simpa using hj)
      rw [show k + 1 + j = k + (j + 1) by omega]
      exact this)
    rw [List.reverse_cons, searchInh_append, hrest]
    simp only [List.map_cons, Spec.searchLF]
    cases hs : Spec.searchLF rec' (k + 1) (rest.map (·.prog)) with
    | some path =>
      simp only [specFind]
      have := follow_ne_none w name path p
      cases hf : follow w name p path with
      | none => exact absurd hf this
      | crash => rfl
      | found a b c d => rfl
    | none =>
      simp only [specFind]
      obtain ⟨ha, hrec⟩ := h 0 a (by simp)
      simp only [Nat.add_zero] at ha
      simp only [searchInh, hrec]
      cases hr : rec' a.prog with
      | none => simp [specFind]
      | some path =>
        simp only [specFind, Option.map_some]
        have hne := follow_ne_none w name path a.prog
        conv => rhs; unfold follow
        simp only [hP, ha]
        cases hf : follow w name a.prog path with
        | none => exact absurd hf hne
        | crash => rfl
        | found q i f v => rfl

/-- the clauses of `wfFind` for program `P`, number `p`, as propositions -/
structure WfFindAt (w : World) (p : Nat) (P : Program) : Prop where
  sorted : sortedKeys (P.ft.map (·.name)) = true
  rindexLt : ∀ e ∈ P.ft, e.rindex < P.flags.length
  inheritsEarlier : ∀ ih ∈ P.inherit, ih.prog < p
  blockersHideNothing : ∀ e ∈ P.ft, isBlocker P e = true → ∀ ih ∈ P.inherit,
    Spec.resolveFrom (abstr w) (w.progs.length + 1) ih.prog e.name = none

theorem wfFind_prog (w : World) (hw : wfFind w = true) (p : Nat) (P : Program) (hP : w.progs[p]? = some P) :
    WfFindAt w p P := by
  have := List.all_eq_true.mp hw (P, p) (List.mem_zipIdx_iff_getElem?.mpr hP)
  simp only [wfFindProg, Bool.and_eq_true, List.all_eq_true, decide_eq_true_eq, Bool.or_eq_true, Bool.not_eq_true',
    Option.isNone_iff_eq_none] at this
  exact { sorted := this.1.1.1, rindexLt := this.1.1.2, inheritsEarlier := this.1.2,
          blockersHideNothing := fun e he hb => (this.2 e he).resolve_left (by simp [hb]) }

theorem abstr_get (w : World) (p : Nat) (P : Program) (hP : w.progs[p]? = some P) :
    (abstr w)[p]? = some { defs := (P.ft.filter (isReal P)).map (·.name), inherits := P.inherit.map (·.prog) } := by
  simp [abstr, hP]

theorem abstr_ord (w : World) (hw : wfFind w = true) :
    ∀ (p : Nat) (SP : Spec.SProg NameKey), (abstr w)[p]? = some SP → ∀ q ∈ SP.inherits, q < p := by
  intro p SP h q hq
  simp only [abstr, List.getElem?_map, Option.map_eq_some_iff] at h
  obtain ⟨P, hP, rfl⟩ := h
  obtain ⟨ih, hm, rfl⟩ := List.mem_map.mp hq
  exact (wfFind_prog w hw p P hP).inheritsEarlier ih hm

/-- find_function is the specification's resolver on the abstracted world, for every fuel above the program number -/
theorem findFunction_eq_resolveFrom (w : World) (hw : wfFind w = true) (name : NameKey) :
    ∀ (n p : Nat), p < n → p < w.progs.length →
      findFunction w n p name = specFind w p name (Spec.resolveFrom (abstr w) n p name) := by
  intro n
  induction n with
  | zero => intro p h; omega
  | succ n ih =>
    intro p hpn hpl
    obtain ⟨P, hP⟩ : ∃ P, w.progs[p]? = some P := ⟨w.progs[p], List.getElem?_eq_getElem hpl⟩
    have wf := wfFind_prog w hw p P hP
    -- the search of the inherits, where it is reached
    have key := searchInh_eq_searchLF w name p P hP (fun q => findFunction w n q name)
      (fun q => Spec.resolveFrom (abstr w) n q name) P.inherit 0 (by
        intro j ihd hj
        have hlt := wf.inheritsEarlier ihd (List.mem_of_getElem? hj)
        exact ⟨by simpa using hj, ih ihd.prog (by omega) (by omega)⟩)
    unfold findFunction Spec.resolveFrom
    simp only [hP, abstr_get w p P hP]
    cases hidx : indexOfName P.ft name with
    | none =>
      have hd : ¬ name ∈ (P.ft.filter (isReal P)).map (·.name) := by
        intro hm
        obtain ⟨e', hf, hn'⟩ := List.mem_map.mp hm
        exact indexOfName_none P.ft name hidx e' (List.mem_filter.mp hf).1 hn'
      rw [tableSearch_absent P name wf.sorted hidx, if_neg hd]
      exact key
    | some k =>
      obtain ⟨e, he, rfl⟩ := indexOfName_some P.ft name k hidx
      rw [tableSearch_entry P e.name wf.sorted wf.rindexLt k e hidx he]
      simp only [mem_defs_iff P wf.sorted k e he]
      cases hreal : isReal P e with
      | true => simp only [if_true, specFind, follow, hP, hidx]
      | false =>
        simp only [Bool.false_eq_true, if_false]
        cases hblk : isBlocker P e with
        | false => exact key
        | true =>
          -- a prototype / undefined entry hides nothing: no inherit provides the name
          simp only [if_true]
          rw [searchLF_none]
          · rfl
          · intro q hq
            obtain ⟨ihd, hm, rfl⟩ := List.mem_map.mp hq
            have hlt := wf.inheritsEarlier ihd hm
            rw [resolveFrom_fuel (abstr w) (abstr_ord w hw) e.name n (w.progs.length + 1) ihd.prog (by omega) (by omega)]
            exact wf.blockersHideNothing e (List.mem_of_getElem? he) hblk ihd hm

end NV.C07
