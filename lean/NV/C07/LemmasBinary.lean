/-
C07 — sort_function_table (a program loaded from its saved binary is re-sorted by the new name pointers): for EVERY
permutation `temp[]` the function a runtime slot denotes, the flags, the inherit list and the set of table entries are
unchanged (NV/C07/Binary.lean); the order the model's sort produces is a permutation; and with pairwise different new
name pointers the reloaded table is SORTED by them (the hypothesis of `bsearch_correct` / `find_function_correct`).
-/
import NV.C07.Binary
import NV.C07.LemmasBasic

namespace NV.C07

open NV.Gen.C07

/-- `temp[inverse[x]] = x` for every x that occurs in `temp` -/
theorem inversePerm_getElem : ∀ (order : List Nat) (x : Nat), x ∈ order → order[inversePerm order x]? = some x := by
  intro order x h
  unfold inversePerm
  cases hf : order.findIdx? (· == x) with
  | none => simpa using List.findIdx?_eq_none_iff.mp hf x h
  | some k =>
    obtain ⟨hk, hp, _⟩ := List.findIdx?_eq_some_iff_getElem.mp hf
    simpa [List.getElem?_eq_getElem hk] using hp

/-- an index that does not occur in `temp` is mapped beyond the table -/
theorem inversePerm_not_mem (order : List Nat) (x : Nat) (h : x ∉ order) : inversePerm order x = order.length := by
  unfold inversePerm
  rw [List.findIdx?_eq_none_iff.mpr (fun y hy => by simpa using fun (hyx : y = x) => h (hyx ▸ hy))]
  rfl

theorem permuted_ft (P : Program) (order : List Nat) (hp : IsPerm order P.ft.length) :
    (permuteProgram P order).ft.length = order.length ∧
    ∀ k : Nat, (permuteProgram P order).ft[k]? = (order[k]?).bind (fun i => P.ft[i]?) :=
  filterMap_all_some (fun i => P.ft[i]?) order (fun x hx => by simp [hp.1 x hx])

theorem permuteProgram_rt_get (P : Program) (order : List Nat) (i : Nat) :
    (permuteProgram P order).rt[i]? =
      match P.flags[i]?, P.rt[i]? with
      | some fl, some e => some (fixEntry order fl e)
      | _, _ => none := by
  simp only [permuteProgram, List.map_zip_eq_zipWith, List.getElem?_zipWith]
  cases P.flags[i]? <;> cases P.rt[i]? <;> rfl

/-- **Dispatch by runtime index survives every permutation.**  For every program, every permutation `temp[]` of its
    function table and every runtime slot: the function the slot denotes after sort_function_table (table permuted,
    `def.f_index = inverse[oldix]`) is the function it denoted before. -/
theorem permute_slot_entry (P : Program) (order : List Nat) (hp : IsPerm order P.ft.length) (i : Nat) :
    slotEntry (permuteProgram P order) i = slotEntry P i := by
  unfold slotEntry
  rw [show (permuteProgram P order).flags = P.flags from rfl, permuteProgram_rt_get]
  cases P.flags[i]? with
  | none => rfl
  | some fl =>
    cases P.rt[i]? with
    | none => rfl
    | some e =>
      by_cases hinh : hasBit fl nameInherited = true
      · cases e <;> simp [fixEntry, hinh]
      · have hinh' : hasBit fl nameInherited = false := by simpa using hinh
        cases e with
        | inh a b => simp [fixEntry, hinh']
        | defn fi na =>
          simp only [fixEntry, hinh', Bool.false_eq_true, if_false]
          by_cases hfi : fi < P.ft.length
          · have hm := hp.2 fi hfi
            rw [(permuted_ft P order hp).2, inversePerm_getElem order fi hm]
            simp
          · have hnm : fi ∉ order := fun h => hfi (hp.1 fi h)
            rw [inversePerm_not_mem order fi hnm]
            have h1 : (permuteProgram P order).ft[order.length]? = none := by
              rw [List.getElem?_eq_none_iff, (permuted_ft P order hp).1]; omega
            have h2 : P.ft[fi]? = none := by
              rw [List.getElem?_eq_none_iff]; omega
            rw [h1, h2]

/-- the table holds the same entries after the permutation (with a sorted table, `bsearch_correct` /
    `find_function_correct` then give the same function for every NAME) -/
theorem permute_ft_mem (P : Program) (order : List Nat) (hp : IsPerm order P.ft.length) (e : FnEntry) :
    e ∈ (permuteProgram P order).ft ↔ e ∈ P.ft := by
  constructor
  · intro h
    simp only [permuteProgram, List.mem_filterMap] at h
    obtain ⟨i, _, hi⟩ := h
    exact List.mem_of_getElem? hi
  · intro h
    obtain ⟨i, hi, he⟩ := List.getElem_of_mem h
    simp only [permuteProgram, List.mem_filterMap]
    exact ⟨i, hp.2 i hi, by simp [List.getElem?_eq_getElem hi, he]⟩

/-- flags, inherit list, variables and the heart_beat slot are not touched -/
theorem permute_keeps_rest (P : Program) (order : List Nat) :
    (permuteProgram P order).flags = P.flags ∧ (permuteProgram P order).inherit = P.inherit ∧
    (permuteProgram P order).heartBeat = P.heartBeat ∧ (permuteProgram P order).nvt = P.nvt ∧
    (permuteProgram P order).rt.length = min P.flags.length P.rt.length := by
  simp [permuteProgram]

theorem mem_insertIdx (key : Nat → Nat) (x y : Nat) : ∀ l, y ∈ insertIdx key x l ↔ y = x ∨ y ∈ l := by
  intro l
  induction l with
  | nil => simp [insertIdx]
  | cons a rest ih =>
    unfold insertIdx
    split
    · simp
    · simp [ih, or_left_comm]

theorem mem_foldl_insertIdx (key : Nat → Nat) : ∀ (xs acc : List Nat) (y : Nat),
    y ∈ xs.foldl (fun acc i => insertIdx key i acc) acc ↔ y ∈ xs ∨ y ∈ acc := by
  intro xs
  induction xs with
  | nil => intro acc y; simp
  | cons a rest ih =>
    intro acc y
    simp only [List.foldl_cons, ih, mem_insertIdx, List.mem_cons]
    simp [or_assoc, or_left_comm]

theorem sortIdx_isPerm (key : Nat → Nat) (n : Nat) : IsPerm (sortIdx key n) n := by
  unfold IsPerm sortIdx
  constructor
  · intro x hx
    rw [mem_foldl_insertIdx] at hx
    simpa using hx
  · intro i hi
    rw [mem_foldl_insertIdx]
    left; simpa using hi

/-- **A program loaded from its saved binary dispatches like the compiled one.**  Whatever pointers the re-interned
    function names get (`rekey`), after load_binary + sort_function_table every runtime slot denotes the function it
    denoted in the compiled program (the entry with its new name pointer), for all programs. -/
theorem resort_slot_entry (P : Program) (rekey : String → NameKey) (i : Nat) :
    slotEntry (resortProgram P rekey) i = (slotEntry P i).map (fun e => { e with name := rekey e.nameStr }) := by
  unfold resortProgram
  simp only
  rw [permute_slot_entry _ _ (by simpa using sortIdx_isPerm _ _)]
  unfold slotEntry
  simp only
  cases P.flags[i]? with
  | none => rfl
  | some fl =>
    cases P.rt[i]? with
    | none => rfl
    | some e =>
      cases e with
      | inh a b => rfl
      | defn fi na =>
        simp only
        split
        · rfl
        · simp [List.getElem?_map]

theorem pairwise_insertIdx (key : Nat → Nat) (x : Nat) : ∀ (l : List Nat),
    List.Pairwise (fun a b => key a < key b) l → (∀ y ∈ l, key y ≠ key x) →
    List.Pairwise (fun a b => key a < key b) (insertIdx key x l) := by
  intro l
  induction l with
  | nil => intro _ _; simp [insertIdx]
  | cons y rest ih =>
    intro hp hne
    rw [List.pairwise_cons] at hp
    unfold insertIdx
    split
    · rename_i hlt
      rw [List.pairwise_cons]
      refine ⟨?_, List.pairwise_cons.mpr hp⟩
      intro z hz
      rcases List.mem_cons.mp hz with hz | hz
      · subst hz; exact hlt
      · exact Nat.lt_trans hlt (hp.1 z hz)
    · rename_i hnlt
      rw [List.pairwise_cons]
      refine ⟨?_, ih hp.2 (fun z hz => hne z (by simp [hz]))⟩
      intro z hz
      rw [mem_insertIdx] at hz
      rcases hz with hz | hz
      · subst hz
        have := hne y (by simp)
        omega
      · exact hp.1 z hz

theorem sortIdx_pairwise (key : Nat → Nat) (n : Nat) (hinj : ∀ i j, i < n → j < n → key i = key j → i = j) :
    List.Pairwise (fun a b => key a < key b) (sortIdx key n) := by
  unfold sortIdx
  have gen : ∀ m, m ≤ n →
      List.Pairwise (fun a b => key a < key b) ((List.range m).foldl (fun acc i => insertIdx key i acc) []) := by
    intro m
    induction m with
    | zero => intro _; simp
    | succ k ih =>
      intro hk
      rw [List.range_succ, List.foldl_append]
      refine pairwise_insertIdx key k _ (ih (by omega)) ?_
      -- what has been inserted so far is below k, so its key differs from k's
      intro y hy heq
      have hyk : y < k := by simpa [mem_foldl_insertIdx] using hy
      have := hinj y k (by omega) (by omega) heq
      omega
  exact gen n (Nat.le_refl _)

/-- **The reloaded table is sorted.**  If the re-interned function names of a program get pairwise different pointers
    (shared strings: different names, different addresses), the function table after load_binary +
    sort_function_table is strictly sorted by them — whatever the order of those pointers is. -/
theorem resort_sorted (P : Program) (rekey : String → NameKey)
    (hinj : ∀ i j (hi : i < P.ft.length) (hj : j < P.ft.length), rekey P.ft[i].nameStr = rekey P.ft[j].nameStr → i = j) :
    sortedKeys ((resortProgram P rekey).ft.map (·.name)) = true := by
  rw [sortedKeys_iff]
  unfold resortProgram
  simp only
  -- the table after the permutation is `order.map entry`
  let P1 : Program := { P with ft := P.ft.map (fun e => { e with name := rekey e.nameStr }) }
  let key : Nat → Nat := fun i => ((P1.ft[i]?).map (·.name)).getD 0
  have hlen : P1.ft.length = P.ft.length := by simp [P1]
  have hperm := sortIdx_isPerm key P1.ft.length
  have hkey : ∀ i (hi : i < P.ft.length), key i = rekey P.ft[i].nameStr := by
    intro i hi
    simp [key, P1, List.getElem?_map, List.getElem?_eq_getElem hi]
  have hpw := sortIdx_pairwise key P1.ft.length (by
    intro i j hi hj h
    rw [hlen] at hi hj
    rw [hkey i hi, hkey j hj] at h
    exact hinj i j hi hj h)
  -- names of the permuted table = keys along the order
  have hnames : ((permuteProgram P1 (sortIdx key P1.ft.length)).ft.map (·.name)) = (sortIdx key P1.ft.length).map key := by
    apply List.ext_getElem?
    intro k
    rw [List.getElem?_map, (permuted_ft P1 _ hperm).2 k, List.getElem?_map]
    cases ho : (sortIdx key P1.ft.length)[k]? with
    | none => rfl
    | some i =>
      have hi : i < P1.ft.length := hperm.1 i (List.mem_of_getElem? ho)
      simp [key, List.getElem?_eq_getElem hi]
  show List.Pairwise (fun a b => a < b) ((permuteProgram P1 (sortIdx key P1.ft.length)).ft.map (·.name))
  rw [hnames, List.pairwise_map]
  exact hpw

/-- non-vacuity: a 3-cycle (the kind of permutation that is not its own inverse) on a program with three functions -/
example :
    let P : Program := { id := 1, ft := [{ name := 10, rindex := 0, nameStr := "a" }, { name := 20, rindex := 1, nameStr := "b" },
                                          { name := 30, rindex := 2, nameStr := "c" }],
                         flags := [0, 0, 0], rt := [.defn 0 0, .defn 1 0, .defn 2 0], inherit := [] }
    let rekey : String → NameKey := fun s => if s == "a" then 25 else if s == "b" then 35 else 15
    (resortProgram P rekey).ft.map (·.nameStr) = ["c", "a", "b"] ∧
    (resortProgram P rekey).rt = [.defn 1 0, .defn 2 0, .defn 0 0] ∧
    ((List.range 3).map (fun i => (slotEntry (resortProgram P rekey) i).map (·.nameStr))) = [some "a", some "b", some "c"] := by
  decide

end NV.C07
