/-
C07 — decidable well-formedness of dumped program tables, and the abstraction of tables to the
specification's graph.  `wfFind` is the hypothesis of `find_function_correct` (the frame theorems need none; the
other clauses are taken by no theorem); the judge EVALUATES all of `WF` on every real table dumped by the harness
(`wfReport`), so the hypothesis is checked on exactly the data the theorem is applied to.
-/
import NV.C07.Model
import NV.C07.Spec

namespace NV.C07

open NV.Gen.C07

/-- is table entry `e` of program P a real definition (has code at this level)? -/
def isReal (P : Program) (e : FnEntry) : Bool :=
  match P.flags[e.rindex]? with
  | some fl => !(hasBit fl (nameUndefined ||| namePrototype ||| nameInherited))
  | none => false

/-- prototype / undefined entry that is NOT marked inherited: find_function answers "not here" -/
def isBlocker (P : Program) (e : FnEntry) : Bool :=
  match P.flags[e.rindex]? with
  | some fl => hasBit fl (nameUndefined ||| namePrototype ||| nameInherited) && !(hasBit fl nameInherited)
  | none => false

/-- the specification's view of the tables: which names have a body where, who inherits whom -/
def abstr (w : World) : List (Spec.SProg NameKey) :=
  w.progs.map fun P => { defs := (P.ft.filter (isReal P)).map (·.name), inherits := P.inherit.map (·.prog) }

/-- strictly increasing name pointers -/
def sortedKeys : List Nat → Bool
  | [] => true
  | [_] => true
  | a :: b :: rest => a < b && sortedKeys (b :: rest)

/-- the clauses used by `find_function_correct` -/
def wfFindProg (w : World) (p : Nat) (P : Program) : Bool :=
  sortedKeys (P.ft.map (·.name)) &&
  P.ft.all (fun e => e.rindex < P.flags.length) &&
  P.inherit.all (fun ih => ih.prog < p) &&
  -- an undefined / prototype-only entry hides nothing: no inherit provides that name
  P.ft.all (fun e => !(isBlocker P e) ||
    P.inherit.all (fun ih => (Spec.resolveFrom (abstr w) (w.progs.length + 1) ih.prog e.name).isNone))

def wfFind (w : World) : Bool := w.progs.zipIdx.all (fun (P, p) => wfFindProg w p P)

/-- the clauses about runtime slots (evaluated by the judge; no theorem takes them): every slot has an entry of the kind its flags
    announce, inherited entries point into an inherit and into that program's slots, defined entries into the
    function table -/
def wfSlotsProg (w : World) (p : Nat) (P : Program) : Bool :=
  P.rt.length == P.flags.length &&
  P.inherit.all (fun ih => ih.prog < p) &&
  (P.flags.zip P.rt).all (fun (fl, e) =>
    match e with
    | .inh off idx =>
      hasBit fl nameInherited &&
      (match P.inherit[off]? with
       | some ih =>
         (match w.progs[ih.prog]? with
          | some Q =>
            -- in range, and "undefined" is inherited with the slot: the NAME_UNDEFINED test of local calls and
            -- function pointers looks at THIS slot only
            (match Q.flags[idx]? with
             | some fq => hasBit fl nameUndefined == hasBit fq nameUndefined
             | none => false)
          | none => false)
       | none => false)
    | .defn fi _ => !(hasBit fl nameInherited) && fi < P.ft.length)

def wfSlots (w : World) : Bool := w.progs.zipIdx.all (fun (P, p) => wfSlotsProg w p P)

/-- inherit offsets are laid out as the compiler lays them out: consecutive blocks of slots / variables -/
def wfOffsetsProg (w : World) (P : Program) : Bool :=
  let rec go (fnext vnext : Nat) : List Inherit → Bool
    | [] => fnext ≤ P.flags.length && vnext + P.nvd == P.nvt
    | ih :: rest =>
      match w.progs[ih.prog]? with
      | none => false
      | some Q => fnext ≤ ih.fio && ih.vio == vnext && go (ih.fio + Q.flags.length) (vnext + Q.nvt) rest
  go 0 0 P.inherit

/-- table entries and runtime slots point at each other: the slot `function_table[k].runtime_index` is defined here (or
    is a prototype / undefined entry of this level) and its `def.f_index` is k again; conversely a slot defined here that
    is not an alias points to an entry whose runtime_index is that slot.  (sort_function_table, which re-sorts the table
    of a program loaded from a saved binary, must keep exactly this.) -/
def wfBackrefsProg (P : Program) : Bool :=
  P.ft.zipIdx.all (fun (e, k) =>
    match P.flags[e.rindex]?, P.rt[e.rindex]? with
    | some fl, some (.defn fi _) => hasBit fl nameInherited || fi == k
    | some fl, some (.inh ..) => hasBit fl nameInherited
    | _, _ => false) &&
  (P.flags.zip P.rt).zipIdx.all (fun ((fl, e), i) =>
    match e with
    | .defn fi _ =>
      hasBit fl nameInherited || hasBit fl nameAlias ||
        (match P.ft[fi]? with
         | some fe => fe.rindex == i
         | none => false)
    | .inh .. => true)

def WF (w : World) : Bool := wfFind w && wfSlots w && w.progs.all (wfOffsetsProg w) && w.progs.all wfBackrefsProg

/-- which clause fails where (for the judge) -/
def wfReport (w : World) : List String :=
  w.progs.zipIdx.foldl (fun acc (P, p) =>
    acc ++ (if wfFindProg w p P then [] else [s!"prog={P.name} clause=find (sorted table / indices / prototype entries)"])
        ++ (if wfSlotsProg w p P then [] else [s!"prog={P.name} clause=slots"])
        ++ (if wfOffsetsProg w P then [] else [s!"prog={P.name} clause=offsets"])
        ++ (if wfBackrefsProg P then [] else [s!"prog={P.name} clause=backrefs (function_table <-> runtime slots)"])) []

end NV.C07
