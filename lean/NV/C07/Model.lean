/-
C07 — executable model of function dispatch in taedlar/neolith, written from the C code as it exists
(after the `fix:` commits recorded in notes/C07.md):

  src/apply.c      find_function (binary search by name pointer + recursive search of the inherits,
                   last to first), function_visible, the apply cache (2^APPLY_CACHE_BITS slots, hashed by
                   program id and function-name pointer, positive and negative entries), apply_low
  src/frame.c      setup_new_frame / setup_inherited_frame (NAME_INHERITED chasing with offset accumulation)
  src/interpret.c  F_CALL_FUNCTION_BY_ADDRESS, F_CALL_INHERITED
  lib/lpc/functional.c  FP_LOCAL function pointers (make_lfun_funp / call_function_pointer)

A program is what the C structures hold: the sorted function table (name, runtime index), the flags array
and the (decompressed) runtime entries indexed by runtime index, the inherit list with function / variable
index offsets.  Pointers to programs are indices into a `World`; the pointer of a shared function-name string
is a `Nat` key (only its order and its hash matter).  A C access out of range is the explicit outcome
`crash`.  All flag bits, origins and the cache size come from the regenerated `NV.Gen.C07`.
-/
import NV.Gen.C07

namespace NV.C07

open NV.Gen.C07

/-- the pointer of a shared string (function name) -/
abbrev NameKey := Nat

/-- call operands the compiler put into a function body (dumped by the harness from the bytecode) -/
inductive CallOp where
  | loc (idx : Nat)                 -- F_CALL_FUNCTION_BY_ADDRESS idx
  | sup (inh : Nat) (idx : Nat)     -- F_CALL_INHERITED inh idx
  | fp (idx : Nat)                  -- F_FUNCTION_CONSTRUCTOR FP_LOCAL idx, then evaluate()
  | stashSup (inh : Nat) (idx : Nat) -- a functional `(: ::f() :)` is made and STORED (in /c07/caller), not evaluated
  | stashLoc (idx : Nat)            -- the same for `(: f() :)`
  | runStash                        -- the stored functional of this object, if any, is evaluated by THIS frame
  deriving Repr, BEq, DecidableEq

/-- compiler_function_t: one entry of `function_table` -/
structure FnEntry where
  name : NameKey
  rindex : Nat
  nameStr : String := ""
  ops : List CallOp := []
  deriving Repr

/-- runtime_function_u as returned by FIND_FUNC_ENTRY -/
inductive REntry where
  | defn (fIndex : Nat) (numArg : Nat)
  | inh (offset : Nat) (index : Nat)
  deriving Repr, BEq, DecidableEq

/-- inherit_t; `prog` is the index of the inherited program in the world -/
structure Inherit where
  prog : Nat
  fio : Nat
  vio : Nat
  typeMod : Nat := 0
  deriving Repr, BEq, DecidableEq

structure Program where
  name : String := ""
  id : Nat
  nvt : Nat := 0                    -- num_variables_total
  nvd : Nat := 0                    -- num_variables_defined
  ft : List FnEntry                 -- function_table[0 .. num_functions_defined)
  flags : List Nat                  -- function_flags[0 .. num_functions_total)
  rt : List REntry                  -- FIND_FUNC_ENTRY (prog, i) for every runtime index
  inherit : List Inherit
  heartBeat : Option Nat := none     -- prog->heart_beat (runtime index of `heart_beat`, -1 = none)
  deriving Repr

structure World where
  progs : List Program
  deriving Repr

/-- `x & mask` is non-zero -/
@[inline] def hasBit (x mask : Nat) : Bool := x &&& mask != 0

/-! ### find_function -/

/-- The `while (high >= low)` loop of find_function on the half-open interval [lo, hi)
    (`high = hi - 1`, so `mid = (high + low) / 2 = (lo + hi - 1) / 2`).  `fuel` bounds the iterations; the
    interval shrinks in every iteration, so `hi - lo` is enough. -/
def bsearchF (ft : List FnEntry) (name : NameKey) : Nat → Nat → Nat → Option Nat
  | 0, _, _ => none
  | fuel + 1, lo, hi =>
    if lo < hi then
      let mid := (lo + hi - 1) / 2
      match ft[mid]? with
      | none => none
      | some e =>
        if name < e.name then bsearchF ft name fuel lo mid
        else if name > e.name then bsearchF ft name fuel (mid + 1) hi
        else some mid
    else none

def bsearch (ft : List FnEntry) (name : NameKey) (lo hi : Nat) : Option Nat := bsearchF ft name (hi - lo) lo hi

/-- what the search of a program's own table says -/
inductive TableRes where
  | here (k : Nat)        -- a real definition at table index k
  | notHere               -- `return 0`: undefined / prototype only
  | inherits              -- not in the table, or the entry is NAME_INHERITED: search the inherits
  | crash
  deriving Repr, BEq, DecidableEq

def tableSearch (p : Program) (name : NameKey) : TableRes :=
  match bsearch p.ft name 0 p.ft.length with
  | none => .inherits
  | some mid =>
    match p.ft[mid]? with
    | none => .crash
    | some e =>
      match p.flags[e.rindex]? with
      | none => .crash
      | some fl =>
        if hasBit fl (nameUndefined ||| namePrototype ||| nameInherited) then
          if hasBit fl nameInherited then .inherits else .notHere
        else .here mid

/-- result of find_function: the program, the index into ITS function table, and the offsets -/
inductive FindRes where
  | crash
  | none
  | found (prog : Nat) (index : Nat) (fio : Nat) (vio : Nat)
  deriving Repr, BEq, DecidableEq

/-- `i = prog->num_inherited; while (i--) ...` over the inherits given last-first -/
def searchInh (rec : Nat → FindRes) : List Inherit → FindRes
  | [] => .none
  | ih :: rest =>
    match rec ih.prog with
    | .crash => .crash
    | .found q k f v => .found q k (f + ih.fio) (v + ih.vio)
    | .none => searchInh rec rest

/-- find_function (prog, name, &index, &fio, &vio); `fuel` bounds the inherit depth -/
def findFunction (w : World) : Nat → Nat → NameKey → FindRes
  | 0, _, _ => .crash
  | fuel + 1, p, name =>
    match w.progs[p]? with
    | none => .crash
    | some P =>
      match tableSearch P name with
      | .crash => .crash
      | .here k => .found p k 0 0
      | .notHere => .none
      | .inherits => searchInh (fun q => findFunction w fuel q name) P.inherit.reverse

/-- enough fuel for every well-formed world (inherited programs have smaller indices) -/
def World.fuel (w : World) : Nat := w.progs.length + 1

def find (w : World) (p : Nat) (name : NameKey) : FindRes := findFunction w w.fuel p name

/-! ### visibility -/

/-- function_visible (origin, func_flags): the decision itself is REGENERATED from the clang AST of the C function
    on every run (`NV.Gen.C07.functionVisibleGen`); the visibility theorems (`functionVisible_eq`, `visibility_*`
    in NV/C07/Props.lean) are stated over it -/
def functionVisible (origin flags : Nat) : Bool := functionVisibleGen origin flags

/-! ### the apply cache and apply_low -/

/-- cache_entry_t; `progp = none` is the negative entry ("the function isn't here") -/
structure CacheEntry where
  id : Nat
  oprogp : Nat
  name : NameKey
  progp : Option (Nat × Nat × Nat × Nat)     -- (progp, index, function_index_offset, variable_index_offset)
  deriving Repr, BEq, DecidableEq

abbrev Cache := List (Option CacheEntry)

def cacheSize : Nat := 2 ^ applyCacheBits

def Cache.empty : Cache := List.replicate cacheSize none

/-- `(progp->id_number ^ (intptr_t) fun ^ ((intptr_t) fun >> APPLY_CACHE_BITS)) & cache_mask`: the right-hand side of
    `ix = ...` in apply_low, REGENERATED from the clang AST on every run (`NV.Gen.C07.slotOfGen`); its shape and range
    are the bridging lemmas `slotOf_formula` / `slotOf_lt` (NV/C07/Tie.lean) -/
def slotOf (id ptr : Nat) : Nat := slotOfGen id ptr

/-- what apply_low does, seen from its caller -/
inductive ApplyRes where
  | crash
  | fail                                            -- returns 0: not there, or not visible to this caller
  | call (prog : Nat) (index : Nat) (fio : Nat) (vio : Nat)   -- frame set up, body runs
  deriving Repr, BEq, DecidableEq

/-- flags tested by apply_low: `ob->prog->function_flags[funp->runtime_index + fio]` -/
def applyFlags (w : World) (obProg : Nat) (q k fio : Nat) : Option Nat := do
  let Q ← w.progs[q]?
  let e ← Q.ft[k]?
  let P ← w.progs[obProg]?
  P.flags[e.rindex + fio]?

/-- the part of apply_low after the function is known -/
def enter (w : World) (origin obProg : Nat) (q k fio vio : Nat) : ApplyRes :=
  match applyFlags w obProg q k fio with
  | none => .crash
  | some fl => if functionVisible origin fl then .call q k fio vio else .fail

/-- the hit test of apply_low: `entry->id == progp->id_number && entry->oprogp == progp && !strcmp (entry->name, fun)` -/
def cacheLookup (c : Cache) (ix id obProg : Nat) (name : NameKey) : Option CacheEntry :=
  match c[ix]? with
  | some (some e) => if e.id == id && e.oprogp == obProg && e.name == name then some e else none
  | _ => none

/-- the miss path of apply_low: search, store a positive entry when the function exists (whether or not this
    caller may run it), a negative entry only when it does not exist -/
def applyMiss (w : World) (c : Cache) (origin obProg id ix : Nat) (name : NameKey) : ApplyRes × Cache :=
  match find w obProg name with
  | .crash => (.crash, c)
  | .found q k fio vio =>
    (enter w origin obProg q k fio vio,
     c.set ix (some { id := id, oprogp := obProg, name := name, progp := some (q, k, fio, vio) }))
  | .none =>
    (.fail, c.set ix (some { id := id, oprogp := obProg, name := name, progp := none }))

/-- apply_low (fun, ob, num_arg) with `call_origin = origin`; `ptr` is the pointer value of `fun` (used for the
    hash only), `name` the shared string it denotes (used by strcmp and by find_function). -/
def applyLow (w : World) (c : Cache) (origin obProg : Nat) (ptr : Nat) (name : NameKey) : ApplyRes × Cache :=
  match w.progs[obProg]? with
  | none => (.crash, c)
  | some P =>
    let ix := slotOf P.id ptr
    match cacheLookup c ix P.id obProg name with
    | some e =>
      match e.progp with
      | some (q, k, fio, vio) => (enter w origin obProg q k fio vio, c)
      | none => (.fail, c)
    | none => applyMiss w c origin obProg P.id ix name

/-! ### frames -/

structure Frame where
  prog : Nat        -- current_prog
  fidx : Nat        -- csp->fr.table_index
  fio : Nat         -- function_index_offset
  vio : Nat         -- variable_index_offset
  deriving Repr, BEq, DecidableEq

/-- the `while (current_prog->function_flags[index] & NAME_INHERITED)` loop shared by setup_new_frame
    (started with offsets 0) and setup_inherited_frame (started with the caller's offsets plus the
    inherit's); `none` = access out of range -/
def chase (w : World) : Nat → Nat → Nat → Nat → Nat → Option Frame
  | 0, _, _, _, _ => none
  | fuel + 1, p, index, fio, vio => do
    let P ← w.progs[p]?
    let fl ← P.flags[index]?
    let e ← P.rt[index]?
    if hasBit fl nameInherited then
      match e with
      | .inh off idx =>
        let ih ← P.inherit[off]?
        chase w fuel ih.prog idx (fio + ih.fio) (vio + ih.vio)
      | .defn .. => none
    else
      match e with
      | .defn fi _ => some { prog := p, fidx := fi, fio := fio, vio := vio }
      | .inh .. => none

def setupNewFrame (w : World) (obProg index : Nat) : Option Frame := chase w w.fuel obProg index 0 0

def setupInheritedFrame (w : World) (cur : Frame) (inh index : Nat) : Option Frame := do
  let P ← w.progs[cur.prog]?
  let ih ← P.inherit[inh]?
  chase w w.fuel ih.prog index (cur.fio + ih.fio) (cur.vio + ih.vio)

/-! ### running the generated LPC bodies

Every generated function `pK:fJ` logs `run pK:fJ <old value of its own variable>`, stores its code
`(K+1)*100 + J` into the variable of its own level, performs its calls in order and returns "pK:fJ". -/

inductive Ev where
  | line (s : String)                                 -- echoed harness line
  | call (origin oid fn : String)
  | run (file fn : String) (old : Int)
  | args (vs : List Int)                              -- the parameters as the callee finds them
  | err (msg : String)
  | ret (v : String)
  | vars (oid : String) (vs : List Int)
  deriving Repr, BEq, DecidableEq

def Ev.render : Ev → String
  | .line s => s
  | .call o oid fn => s!"call {o} {oid} {fn}"
  | .run f n old => s!"run {f}:{n} {old}"
  | .args vs => vs.foldl (fun s v => s ++ " " ++ toString v) "args"
  | .err m => s!"err {m}"
  | .ret v => s!"ret {v}"
  | .vars oid vs => vs.foldl (fun s v => s ++ " " ++ toString v) s!"vars {oid}"

def digitsOf (s : String) : Nat := ((String.ofList (s.toList.filter Char.isDigit)).toNat?).getD 0

/-- the value a generated body stores into its own variable -/
def codeOf (file fn : String) : Int := Int.ofNat ((digitsOf file + 1) * 100 + digitsOf fn)

inductive Outcome where
  | ok
  | error          -- LPC runtime error (caught by the harness)
  | crash          -- C access out of range
  deriving Repr, BEq, DecidableEq

/-- a stored functional: the program of the object that made it (its owner), the frame it was made in — a functional
    carries the creator's function_index_offset / variable_index_offset (funp->f.functional.fio / vio) and program —
    and the call its code makes -/
abbrev Stash := Option (Nat × Frame × CallOp)

structure Run where
  vars : List Int
  evs : List Ev            -- newest first
  out : Outcome
  stash : Stash := none

/-- name of runtime slot `index` of program p (function_name()) -/
def functionName (w : World) (p index : Nat) : String :=
  match chase w w.fuel p index 0 0 with
  | some fr => ((w.progs[fr.prog]?.bind (·.ft[fr.fidx]?)).map (·.nameStr)).getD "?"
  | none => "?"

/-! ### arguments: setup_variables (src/frame.c)

`setup_variables (actual, local, num_arg)`: with more arguments than parameters the surplus is popped
(`pop_n_elems (actual - num_arg)`), then the locals are pushed; with fewer, `push_undefineds` fills the missing
parameters and the locals.  The frame the callee sees therefore has exactly `num_arg` parameter cells: the first
`min actual num_arg` arguments in order, then undefined (the number 0). -/

/-- the parameter cells after setup_variables -/
def setupVariables (actual : List Int) (numArg : Nat) : List Int :=
  if actual.length ≥ numArg then actual.take numArg                      -- pop the surplus
  else actual ++ List.replicate (numArg - actual.length) 0               -- push_undefineds

/-- `def.num_arg` of the function a frame runs: the runtime entry that names table index `fidx` -/
def numArgOf (P : Program) (fidx : Nat) : Nat :=
  (P.rt.findSome? (fun e => match e with
    | .defn fi na => if fi == fidx then some na else none
    | .inh .. => none)).getD 0

/-- the arguments the generated bodies pass: local / `::` calls and the calls inside functionals, function pointers -/
def localArgs : List Int := [11, 12]
def fpArgs : List Int := [21, 22, 23]

/-- the frame a call made by code running in frame `fr` enters: F_CALL_FUNCTION_BY_ADDRESS / a function pointer
    (slot `idx + fr.fio` of the OBJECT's program, range and NAME_UNDEFINED tests, setup_new_frame) or F_CALL_INHERITED
    (setup_inherited_frame from `fr`'s offsets) -/
def calleeOf (w : World) (obProg : Nat) (fr : Frame) (op : CallOp) (vars : List Int) (evs : List Ev) (stash : Stash) :
    Except Run Frame :=
  match op with
  | .loc idx | .fp idx =>
    let off := idx + fr.fio
    match w.progs[obProg]? with
    | none => .error { vars, evs, out := .crash, stash }
    | some T =>
      match T.flags[off]? with
      | none =>
        -- F_CALL_FUNCTION_BY_ADDRESS checks the range; the function pointer path does not
        (match op with
         | .loc _ => .error { vars, evs := Ev.err "illegal function index" :: evs, out := .error, stash }
         | _ => .error { vars, evs, out := .crash, stash })
      | some fl =>
        if hasBit fl nameUndefined then
          let nm := functionName w obProg off
          (match op with
           | .loc _ => .error { vars, evs := Ev.err s!"undefined function: {nm}" :: evs, out := .error, stash }
           | _ => .error { vars, evs := Ev.err s!"*Undefined function: {nm}" :: evs, out := .error, stash })
        else
          match setupNewFrame w obProg off with
          | some f => .ok f
          | none => .error { vars, evs, out := .crash, stash }
  | .sup inh idx =>
    match setupInheritedFrame w fr inh idx with
    | some f => .ok f
    | none => .error { vars, evs, out := .crash, stash }
  | _ => .error { vars, evs, out := .crash, stash }

mutual
/-- run the body in frame `fr` of an object whose program is `obProg`, called with the arguments `actual` -/
def execBody (w : World) (obProg : Nat) : Nat → Frame → List Int → List Int → List Ev → Stash → Run
  | 0, _, _, vars, evs, stash => { vars, evs, out := .crash, stash }
  | fuel + 1, fr, actual, vars, evs, stash =>
    match w.progs[fr.prog]? with
    | none => { vars, evs, out := .crash, stash }
    | some P =>
      match P.ft[fr.fidx]? with
      | none => { vars, evs, out := .crash, stash }
      | some fe =>
        let vi := fr.vio + (P.nvt - P.nvd)
        match vars[vi]? with
        | none => { vars, evs, out := .crash, stash }
        | some old =>
          let evs := Ev.run P.name fe.nameStr old :: evs
          -- functions with parameters log them
          let na := numArgOf P fr.fidx
          let evs := if na > 0 then Ev.args (setupVariables actual na) :: evs else evs
          let vars := vars.set vi (codeOf P.name fe.nameStr)
          -- programs with a second own variable (`private int w;`, the same name at several levels) store there too
          let vars := if P.nvd ≥ 2 then vars.set (vi + 1) (codeOf P.name fe.nameStr + 5000) else vars
          execOps w obProg fuel fr fe.ops vars evs stash

def execOps (w : World) (obProg : Nat) : Nat → Frame → List CallOp → List Int → List Ev → Stash → Run
  | _, _, [], vars, evs, stash => { vars, evs, out := .ok, stash }
  | fuel, fr, op :: rest, vars, evs, stash =>
    -- which call is made, from which frame's offsets, with which arguments (none = no call: the functional is stored)
    let what : Option (Frame × CallOp) × Stash :=
      match op with
      | .stashSup inh idx => (none, some (obProg, fr, .sup inh idx))
      | .stashLoc idx => (none, some (obProg, fr, .loc idx))
      | .runStash =>
        -- /c07/caller hands the stored functional back to its owner only; call_function_pointer FP_FUNCTIONAL restores the
        -- CREATOR's offsets and program, whatever the offsets of the frame that evaluates it
        (match stash with
         | some (owner, cfr, cop) => if owner == obProg then (some (cfr, cop), none) else (none, stash)   -- fetched once
         | none => (none, stash))
      | op => (some (fr, op), stash)
    match what with
    | (none, stash) => execOps w obProg fuel fr rest vars evs stash
    | (some (cfr, cop), stash) =>
      match calleeOf w obProg cfr cop vars evs stash with
      | .error r => r
      | .ok f =>
        match fuel with
        | 0 => { vars, evs, out := .crash, stash }
        | fuel' + 1 =>
          let a := match cop with | .fp _ => fpArgs | _ => localArgs
          let r := execBody w obProg fuel' f a vars evs stash
          match r.out with
          | .ok => execOps w obProg fuel' fr rest r.vars r.evs r.stash
          | _ => r
end

/-- fuel for bodies: the generated call graphs are acyclic and small -/
def bodyFuel : Nat := 4000

/-! ### the global `call_origin` and the efun layer above apply_low

`call_origin` (src/apply.c) is a GLOBAL: `apply (fun, ob, n, where)` stores `where` into it and calls apply_low;
apply_low copies it (`0` means ORIGIN_DRIVER) and ZEROES it.  f_call_other / call_all_other store ORIGIN_CALL_OTHER
immediately before each of their apply_low calls — after the target has been resolved, because resolving a target may
load an object, and loading applies `valid_object` on the master and `create` on the new object. -/

/-- the origin apply_low works with: `local_call_origin = call_origin; if (!local_call_origin) ... = ORIGIN_DRIVER` -/
def localOrigin (callOrigin : Nat) : Nat := if callOrigin == 0 then originDriver else callOrigin

/-- apply_low as it is called: consumes and zeroes the global -/
def applyLowG (w : World) (c : Cache) (callOrigin obProg ptr : Nat) (name : NameKey) : ApplyRes × Cache × Nat :=
  let (r, c') := applyLow w c (localOrigin callOrigin) obProg ptr name
  (r, c', 0)

/-- the protocol seen from the global: an interleaved `apply (.., where)` (loading an object applies valid_object
    and create; bodies may apply more), or one target of f_call_other / call_all_other -/
inductive PStep where
  | apply (origin p ptr : Nat) (name : NameKey)
  | target (p ptr : Nat) (name : NameKey)
  deriving Repr

/-- one protocol step on (cache, call_origin): both kinds store their origin immediately before apply_low -/
def pstep (w : World) (g : Cache × Nat) : PStep → ApplyRes × (Cache × Nat)
  | .apply origin p ptr name => let (r, c, co) := applyLowG w g.1 origin p ptr name; (r, (c, co))
  | .target p ptr name => let (r, c, co) := applyLowG w g.1 originCallOther p ptr name; (r, (c, co))

def psteps (w : World) (g : Cache × Nat) : List PStep → Cache × Nat
  | [] => g
  | st :: rest => psteps w (pstep w g st).2 rest

/-- one loaded object per program file (named objects); the harness' labels (`o1`, `=p3`) name them -/
structure Obj where
  prog : Nat
  vars : List Int

structure St where
  cache : Cache := Cache.empty
  callOrigin : Nat := 0
  objs : List Obj := []
  labels : List (String × Nat) := []     -- label -> program of the object
  out : List Ev := []                    -- newest first
  stash : Stash := none                  -- the functional stored in /c07/caller

def St.obj? (s : St) (p : Nat) : Option Obj := s.objs.find? (·.prog == p)

def St.setVars (s : St) (p : Nat) (vs : List Int) : St :=
  { s with objs := s.objs.map (fun o => if o.prog == p then { o with vars := vs } else o) }

inductive Origin where
  | co | com | drv | cot | rco | hb
  deriving Repr, BEq, DecidableEq

def Origin.code : Origin → Nat
  | .co | .com => originCallOther
  | .drv => originDriver
  | .cot | .rco => originCallOut
  | .hb => originDriver

def Origin.str : Origin → String
  | .co => "co" | .com => "com" | .drv => "drv" | .cot => "cot" | .rco => "rco" | .hb => "hb"

/-- what one call by name did -/
inductive CallRes where
  | crash
  | fail                  -- apply_low returned 0
  | ok (tag : String)     -- the body ran and returned its tag
  | error                 -- the body raised an LPC error
  | noobj
  deriving Repr, BEq, DecidableEq

/-- apply_low (with the global as it stands) on the object of program p, then the body -/
def callFn (w : World) (s : St) (p ptr : Nat) (key : NameKey) (args : List Int := []) : CallRes × St :=
  match s.obj? p with
  | none => (.noobj, s)
  | some ob =>
    let (r, c, co) := applyLowG w s.cache s.callOrigin p ptr key
    let s := { s with cache := c, callOrigin := co }
    match r with
    | .crash => (.crash, s)
    | .fail => (.fail, s)
    | .call q k fio vio =>
      let run := execBody w p bodyFuel { prog := q, fidx := k, fio := fio, vio := vio } args ob.vars s.out s.stash
      let tag := ((w.progs[q]?.bind (fun Q => (Q.ft[k]?).map (fun e => s!"\"{Q.name}:{e.nameStr}\""))).getD "?")
      let s : St := { (s.setVars p run.vars) with out := run.evs, stash := run.stash }
      match run.out with
      | .crash => (.crash, s)
      | .error => (.error, s)
      | .ok => (.ok tag, s)

/-- `apply (fun, ob, n, where)` -/
def applyFn (w : World) (s : St) (origin p ptr : Nat) (key : NameKey) (args : List Int := []) : CallRes × St :=
  callFn w { s with callOrigin := origin } p ptr key args

/-- load_object of program p's file unless its object exists: the inherited files first (in the order of the inherit
    statements, each loaded when the compiler first misses it), then the object; for every new object the master's
    `valid_object` is applied (an apply_low that finds nothing here, but consumes the global) and then `create` -/
def loadObj (w : World) (createKey : NameKey) : Nat → St → Nat → St
  | 0, s, _ => s
  | fuel + 1, s, p =>
    match s.obj? p with
    | some _ => s
    | none =>
      match w.progs[p]? with
      | none => s
      | some P =>
        let s : St := P.inherit.foldl (fun s ih => loadObj w createKey fuel s ih.prog) s
        let s : St := { s with objs := s.objs ++ [{ prog := p, vars := List.replicate P.nvt 0 }] }
        -- apply_master_ob (valid_object): call_origin = ORIGIN_DRIVER; apply_low (zeroes it)
        let s : St := { s with callOrigin := 0 }
        -- call_create: apply (create, ob, 0, ORIGIN_DRIVER)
        (applyFn w s originDriver p createKey createKey).2

def St.vars (s : St) (label : String) (p : Nat) : St :=
  match s.obj? p with
  | some ob => { s with out := Ev.vars label ob.vars :: s.out }
  | none => s

/-- one `call <origin> <oid> <fn>` command -/
def doCall (w : World) (s : St) (o : Origin) (oid : String) (fn : String) (key : NameKey) (args : List Int := []) : St :=
  let s := { s with out := Ev.call o.str oid fn :: s.out }
  match (s.labels.find? (·.1 == oid)).map (·.2) with
  | none => { s with out := Ev.ret "!noobj" :: s.out }
  | some p =>
    -- `com` passes a malloc'ed copy of the name: another pointer, the same text
    let ptr := if o == .com then key + 1000003 else key
    -- co / com go through the LPC caller: apply (do_call, caller, .., ORIGIN_DRIVER) consumes the global, then
    -- f_call_other stores ORIGIN_CALL_OTHER right before its apply_low
    let (r, s) := applyFn w { s with callOrigin := 0 } o.code p ptr key args
    let swept := o == .rco
    match r with
    | .crash => { s with out := Ev.line "crash model-out-of-range" :: s.out }
    | .noobj => { s with out := Ev.ret "!noobj" :: s.out }
    | .fail => (({ s with out := Ev.ret (if swept then "swept" else "!no") :: s.out }).vars oid p)
    | .error => (({ s with out := Ev.ret (if swept then "swept" else "!err") :: s.out }).vars oid p)
    | .ok tag => (({ s with out := Ev.ret (if swept then "swept" else tag) :: s.out }).vars oid p)

/-- an element of an array target / a string target -/
inductive Target where
  | obj (label : String)          -- an object the harness holds
  | path (name : String)          -- a file name; `none` program = no such file
  | other                         -- neither object nor string: skipped
  deriving Repr, BEq

/-- call_all_other: for every element resolve it (a string is find_or_load_object'ed: may load), then
    `call_origin = ORIGIN_CALL_OTHER; apply_low`; destructed / unloadable / other elements leave 0 -/
def callAllOther (w : World) (createKey : NameKey) (progOf : String → Option Nat) (ptr : Nat) (key : NameKey) :
    List Target → St → List String → (List String × St × Bool)
  | [], s, acc => (acc.reverse, s, true)
  | t :: rest, s, acc =>
    let resolved : Option Nat × St :=
      match t with
      | .obj l => ((s.labels.find? (·.1 == l)).map (·.2), s)
      | .path n =>
        match progOf n with
        | none => (none, s)
        | some p => (some p, loadObj w createKey (w.progs.length + 1) s p)
      | .other => (none, s)
    match resolved with
    | (none, s) => callAllOther w createKey progOf ptr key rest s ("0" :: acc)
    | (some p, s) =>
      let (r, s) := applyFn w s originCallOther p ptr key
      match r with
      | .ok tag => callAllOther w createKey progOf ptr key rest s (tag :: acc)
      | .fail | .noobj => callAllOther w createKey progOf ptr key rest s ("0" :: acc)
      | .error => (acc.reverse, s, false)
      | .crash => (acc.reverse, { s with out := Ev.line "crash model-out-of-range" :: s.out }, false)

def Target.label : Target → String
  | .obj l => l
  | .path n => "=" ++ n
  | .other => "0"

def targetProg (s : St) (progOf : String → Option Nat) : Target → Option Nat
  | .obj l => (s.labels.find? (·.1 == l)).map (·.2)
  | .path n => progOf n
  | .other => none

/-- `call coa <elems> <fn>` / `call cos =<path> <fn>` -/
def doCallTargets (w : World) (createKey : NameKey) (progOf : String → Option Nat) (s : St) (isArray : Bool)
    (ts : List Target) (fn : String) (key : NameKey) : St :=
  let shown := ",".intercalate (ts.map Target.label)
  let s := { s with out := Ev.call (if isArray then "coa" else "cos") shown fn :: s.out, callOrigin := 0 }
  let showVars (s : St) : St :=
    ts.foldl (fun s t => match targetProg s progOf t with | some p => s.vars t.label p | none => s) s
  if isArray then
    let (res, s, ok) := callAllOther w createKey progOf key key ts s []
    if ok then showVars { s with out := Ev.ret ("({" ++ ",".intercalate res ++ "})") :: s.out }
    else showVars { s with out := Ev.ret "!err" :: s.out }
  else
    match ts with
    | [.path n] =>
      match progOf n with
      | none => { s with out := Ev.ret "!err" :: Ev.err "call_other() couldn't find object" :: s.out }
      | some p =>
        let s := loadObj w createKey (w.progs.length + 1) s p
        let (r, s) := applyFn w s originCallOther p key key
        match r with
        | .ok tag => showVars { s with out := Ev.ret tag :: s.out }
        | .fail | .noobj => showVars { s with out := Ev.ret "0" :: s.out }
        | .error => showVars { s with out := Ev.ret "!err" :: s.out }
        | .crash => { s with out := Ev.line "crash model-out-of-range" :: s.out }
    | _ => { s with out := Ev.line "bad-target" :: s.out }

/-- `call hb <oid> ..`: one backend tick for an object with its heart beat on — call_function (prog, prog->heart_beat):
    nothing when there is no `heart_beat`, or its slot is NAME_UNDEFINED; else setup_new_frame on that slot.  No apply,
    no cache, no visibility test. -/
def doHeartBeat (w : World) (s : St) (oid fn : String) : St :=
  let evs := Ev.call "hb" oid fn :: s.out
  match (s.labels.find? (·.1 == oid)).bind (fun l => s.obj? l.2) with
  | none => { s with out := Ev.ret "!noobj" :: evs }
  | some ob =>
    let quiet : St := { s with out := Ev.vars oid ob.vars :: Ev.ret "ticked" :: evs }
    match w.progs[ob.prog]? with
    | none => { s with out := Ev.line "crash model-out-of-range" :: evs }
    | some T =>
      match T.heartBeat with
      | none => quiet
      | some idx =>
        if idx > T.flags.length then quiet
        else match T.flags[idx]? with
          | none => { s with out := Ev.line "crash model-out-of-range" :: evs }
          | some fl =>
            if hasBit fl nameUndefined then quiet
            else match setupNewFrame w ob.prog idx with
              | none => { s with out := Ev.line "crash model-out-of-range" :: evs }
              | some fr =>
                let run := execBody w ob.prog bodyFuel fr [] ob.vars evs s.stash
                let s := { s.setVars ob.prog run.vars with stash := run.stash }
                match run.out with
                | .crash => { s with out := Ev.line "crash model-out-of-range" :: run.evs }
                | _ => { s with out := Ev.vars oid run.vars :: Ev.ret "ticked" :: run.evs }

/-- `evict <oid> <fn>`: a driver apply of a name that does not exist anywhere and whose pointer hashes to
    the slot of (<oid>'s program, <fn>): same `ptr`, fresh name -/
def doEvict (w : World) (s : St) (oid fn : String) (key : NameKey) (fresh : NameKey) : St :=
  match (s.labels.find? (·.1 == oid)).map (·.2) with
  | none => s
  | some p =>
    let (_, c) := applyLow w s.cache originDriver p key fresh
    { s with cache := c, callOrigin := 0, out := Ev.line s!"evict {oid} {fn} done" :: s.out }

end NV.C07
