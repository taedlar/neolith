/-
C07 — Lean-checked witnesses: the code as it was before a `fix:` commit, or as a seeded change made it, written beside
the model, and a concrete input on which the property fails for it (and holds for the code as it is).
-/
import NV.C07.Model
import NV.C07.Compress
import NV.C07.Binary
import NV.C07.LemmasCache
import NV.C07.LemmasCompress

namespace NV.C07.Witness

open NV.C07 NV.Gen.C07

/-! ### apply_low before the `fix:` commit in src/apply.c

When find_function found the function but the caller was not allowed to run it, the miss path stored a NEGATIVE entry
("the function isn't here").  With that code the cache was not transparent: after a refused call_other, a driver apply
of the same static function fails although it succeeds on the empty cache.  (The same history on the repaired model is
the non-vacuity example of `cache_transparent` in Props.lean; on the real driver it is the corpus case
corpus/C07/refused-then-driver.case.) -/

/-- the miss path before the fix -/
def applyMissOld (w : World) (c : Cache) (origin obProg id ix : Nat) (name : NameKey) : ApplyRes × Cache :=
  let negative := c.set ix (some { id := id, oprogp := obProg, name := name, progp := none })
  match find w obProg name with
  | .crash => (.crash, c)
  | .found q k fio vio =>
    match enter w origin obProg q k fio vio with
    | .call a b f v =>
      (.call a b f v, c.set ix (some { id := id, oprogp := obProg, name := name, progp := some (q, k, fio, vio) }))
    | r => (r, negative)          -- found but not visible: recorded as "not here"
  | .none => (.fail, negative)

def applyLowOld (w : World) (c : Cache) (origin obProg : Nat) (ptr : Nat) (name : NameKey) : ApplyRes × Cache :=
  match w.progs[obProg]? with
  | none => (.crash, c)
  | some P =>
    let ix := slotOf P.id ptr
    match cacheLookup c ix P.id obProg name with
    | some e =>
      match e.progp with
      | some (q, k, fio, vio) => (enter w origin obProg q k fio vio, c)
      | none => (.fail, c)
    | none => applyMissOld w c origin obProg P.id ix name

/-- one program with a static function `1` -/
def w0 : World :=
  { progs := [{ name := "p0", id := 3, nvt := 1, nvd := 1, ft := [{ name := 1, rindex := 0 }],
                flags := [nameStatic], rt := [.defn 0 0], inherit := [] }] }

/-- with the old code: call_other refused (correct), then the driver apply of the same function fails, although
    on the empty cache it runs -/
theorem old_cache_not_transparent :
    (applyLowOld w0 Cache.empty originDriver 0 1 1).1 = .call 0 0 0 0 ∧
    (applyLowOld w0 (applyLowOld w0 Cache.empty originCallOther 0 1 1).2 originDriver 0 1 1).1 = .fail := by
  decide

/-- f_call_other with the origin stored ONCE, before the targets are resolved (a seeded change): the second element
    of an array target — or the only target, if resolving it loaded an object — is entered
    with whatever the global holds, i.e. 0 = the driver's origin, and a static function runs. -/
def targetStoredOnce (w : World) (g : Cache × Nat) (p ptr : Nat) (name : NameKey) : ApplyRes × (Cache × Nat) :=
  let (r, c, co) := applyLowG w g.1 g.2 p ptr name
  (r, (c, co))

theorem origin_stored_once_runs_static :
    -- array ({ob, ob}), static function `1` of program 0: first element refused, second one runs
    let g0 : Cache × Nat := (Cache.empty, originCallOther)
    (targetStoredOnce w0 g0 0 1 1).1 = .fail ∧
    (targetStoredOnce w0 (targetStoredOnce w0 g0 0 1 1).2 0 1 1).1 = .call 0 0 0 0 := by
  decide

/-! ### compress_function_tables before the `fix:` commit for its overflow branch

`compressG false` is the code as it was: in the "Woops" branch `num_compressed = i` (readers then take
`first_defined - num_compressed = f_ov` for the number of index bytes) and `n_def` keeps its old value (the entries from
the new first_defined on are not all copied).  The table is the one the compiler builds for
`inherit A; inherit B;` where B inherits A and A defines 260 functions (corpus/C07/compress-overflow-260.case):
slots 0..259 were taken over by B's definitions (entry `inh 1 i`, not at the expected place), slots 260..520 are B's. -/

def wideTab : RTab :=
  { flags := List.replicate 521 nameInherited,
    rt := (List.range 260).map (fun i => REntry.inh 1 i) ++ (List.range 261).map (fun i => REntry.inh 1 i),
    inherit := [{ prog := 0, fio := 0, vio := 0 }, { prog := 1, fio := 260, vio := 1 }] }

theorem wideTab_rt_get (i : Nat) : wideTab.rt[i]? =
    if i < 260 then some (.inh 1 i) else if i < 521 then some (.inh 1 (i - 260)) else none := by
  simp only [wideTab, List.getElem?_append, List.length_map, List.length_range, List.getElem?_map]
  split
  · rename_i h; simp [List.getElem?_range h]
  · split
    · rename_i h1 h2; simp [List.getElem?_range (show i - 260 < 261 by omega)]
    · rename_i h1 h2
      simp [List.getElem?_eq_none_iff.mpr (show (List.range 261).length ≤ i - 260 by simp; omega)]

theorem expectedAt_wideTab (i : Nat) : expectedAt wideTab i = (decide (260 ≤ i) && decide (i < 521)) := by
  have hfl : wideTab.flags[i]? = if i < 521 then some nameInherited else none := List.getElem?_replicate
  have hinh : wideTab.inherit[1]? = some { prog := 1, fio := 260, vio := 1 } := rfl
  unfold expectedAt
  rw [hfl, wideTab_rt_get]
  by_cases h1 : i < 260
  · have h2 : i < 521 := by omega
    simp only [h1, h2, if_true, hinh]
    rw [Bool.eq_iff_iff]; simp; omega
  · by_cases h2 : i < 521
    · simp only [h1, h2, if_true, if_false, hinh]
      rw [Bool.eq_iff_iff]; simp [hasBit, nameInherited]; omega
    · simp [h1, h2]

theorem wideTab_length : wideTab.rt.length = 521 := by
  simp only [wideTab, List.length_append, List.length_map, List.length_range]

theorem wideTab_cmpWF : wideTab.cmpWF = true := by
  refine cmpWF_of_names_last _ (by rw [wideTab_length]; exact List.length_replicate) rfl ?_ (by decide)
  intro e he
  simp only [wideTab, List.mem_append, List.mem_map] at he
  obtain ⟨k, _, rfl⟩ | ⟨k, _, rfl⟩ := he <;> exact ⟨k, rfl⟩

/-- the old code on `wideTab`: the scans see slots 260..520 as expected (first_defined 521, f_ov 0, n_ov 260) -/
theorem compressG_old_wideTab : compressG false wideTab = some (compressWith false wideTab 521 0 260) := by
  have hE := expectedAt_wideTab
  have hFDef : scanFDef wideTab 521 = 521 := by rw [scanFDef, hE]; rfl
  have hFOv : scanFOv wideTab 521 521 0 = 0 := by rw [scanFOv, hE]; rfl
  have hLOv : scanLOv wideTab 0 521 = 260 :=
    scanLOv_eq wideTab 0 260 (by intro k hk; rw [hE]; simp; omega) 521 (by omega)
      (by intro i h1 h2; rw [hE]; simp; omega)
  simp only [compressG, cmpWF_readable _ wideTab_cmpWF, wideTab_length, hFDef, hFOv, hLOv]; rfl

/-- the index loop runs over slots 0..259, none of them expected, and overflows at slot 255 -/
theorem fillGo_wideTab_woops : (fillGo (expectedAt wideTab) 0 260 0).woops = some 255 :=
  fillGo_overflow _ 260 0 0 255 rfl (by omega) (by intro i _ h; rw [expectedAt_wideTab]; simp; omega)

/-- with the old code: slot 0 is read back as `inh 0 0` (the FIRST copy of A: other variables) instead of `inh 1 0`,
    and slot 300 lies beyond the stored table (the heap-buffer-overflow ASan reports on the real driver); with the
    repaired code both are right (instance of `find_func_entry_compress`) -/
theorem old_compress_overflow_branch_loses_entries :
    wideTab.cmpWF = true ∧
    (compressG false wideTab).bind (fun c => findFuncEntry wideTab.inherit c 0) = some (.inh 0 0) ∧
    (compressG false wideTab).map (fun c => findFuncEntry wideTab.inherit c 300) = some none ∧
    (compressG true wideTab).bind (fun c => findFuncEntry wideTab.inherit c 0) = some (.inh 1 0) ∧
    (compressG true wideTab).bind (fun c => findFuncEntry wideTab.inherit c 300) = some (.inh 1 40) := by
  have hlen := wideTab_length
  -- the repaired code: instances of the round trip
  obtain ⟨c, hc, hall⟩ := find_func_entry_compress wideTab wideTab_cmpWF
  have h0 := hall 0 (by omega)
  have h300 := hall 300 (by omega)
  rw [wideTab_rt_get] at h0 h300
  -- the old code: the kept entries are slots 0..254
  have hw := fillGo_wideTab_woops
  have ok := fillGo_ok (expectedAt wideTab) 260 0 0 (by omega)
  have hk := ok.counter
  obtain ⟨-, -, hj⟩ := ok.overflow 255 hw
  refine ⟨wideTab_cmpWF, ?_, ?_, by rw [← compress, hc]; exact h0, by rw [← compress, hc]; exact h300⟩ <;>
    rw [compressG_old_wideTab]
  · -- readers take first_defined - num_compressed = 255 - 255 index bytes: every slot below 255 is remade
    simp [findFuncEntry, findFuncEntryLow, compressWith, hw]
    rfl
  · -- n_def = 521 - 521: only the 255 kept entries are stored
    simp [findFuncEntry, findFuncEntryLow, compressWith, hw, hj, hlen]
    exact Nat.le_trans (List.length_filterMap_le _ _) (by omega)

/-! ### sort_function_table with `temp[oldix]` instead of `inverse[oldix]` (a seeded change) -/

/-- the fix-up written with the sort permutation itself instead of its inverse -/
def permuteBad (P : Program) (order : List Nat) : Program :=
  { P with
    ft := order.filterMap (fun i => P.ft[i]?),
    rt := (P.flags.zip P.rt).map fun x =>
      if hasBit x.1 nameInherited then x.2
      else match x.2 with
        | .defn fi na => .defn (order.getD fi 0) na
        | e => e }

def P3 : Program :=
  { id := 1, ft := [{ name := 10, rindex := 0, nameStr := "a" }, { name := 20, rindex := 1, nameStr := "b" },
                    { name := 30, rindex := 2, nameStr := "c" }],
    flags := [0, 0, 0], rt := [.defn 0 0, .defn 1 0, .defn 2 0], inherit := [] }

/-- a 3-cycle is not its own inverse: slot 0 (function "a") then denotes another function; a reversal (its own
    inverse) or the identity hide the mistake — which is why the generator re-creates the names in RANDOM orders -/
theorem temp_instead_of_inverse_misdispatches :
    (slotEntry (permuteBad P3 [2, 0, 1]) 0).map (·.nameStr) = some "b" ∧
    (slotEntry (permuteProgram P3 [2, 0, 1]) 0).map (·.nameStr) = some "a" ∧
    (slotEntry (permuteBad P3 [2, 1, 0]) 0).map (·.nameStr) = some "a" := by
  decide

/-! ### the hit test of apply_low without `entry->id == progp->id_number` -/

def cacheLookupNoId (c : Cache) (ix obProg : Nat) (name : NameKey) : Option CacheEntry :=
  match c[ix]? with
  | some (some e) => if e.oprogp == obProg && e.name == name then some e else none
  | _ => none

def applyLowNoId (w : World) (c : Cache) (origin obProg : Nat) (ptr : Nat) (name : NameKey) : ApplyRes × Cache :=
  match w.progs[obProg]? with
  | none => (.crash, c)
  | some P =>
    let ix := slotOf P.id ptr
    match cacheLookupNoId c ix obProg name with
    | some e =>
      match e.progp with
      | some (q, k, fio, vio) => (enter w origin obProg q k fio vio, c)
      | none => (.fail, c)
    | none => applyMiss w c origin obProg P.id ix name

/-- the program that is allocated at address 0 after `w0`'s program has been freed: another id, and the name `1` is
    not a function of it (its only function is `2`) -/
def pNew : Program := { name := "q0", id := 9, nvt := 1, nvd := 1, ft := [{ name := 2, rindex := 0 }], flags := [0],
                        rt := [.defn 0 0], inherit := [] }

/-- a driver apply of `1` caches (id 3, address 0, `1`); the program is freed and `pNew` gets its address.  A call of
    `1` through a string whose pointer happens to hash to the old slot: without the id test the stale entry answers
    (function `1` of a program that no longer exists "runs"), with it the call fails as on an empty cache — the
    instance of `cache_transparent_across_reuse`. -/
theorem no_id_test_answers_from_a_freed_program :
    let c := (applyLow w0 Cache.empty originDriver 0 1 1).2
    let w' := reuse w0 0 pNew
    slotOf 9 11 = slotOf 3 1 ∧
    (applyLowNoId w' c originDriver 0 11 1).1 = .call 0 0 0 0 ∧
    (applyLow w' c originDriver 0 11 1).1 = .fail ∧
    (applyLow w' Cache.empty originDriver 0 11 1).1 = .fail := by
  decide

end NV.C07.Witness
