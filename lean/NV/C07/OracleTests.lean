/-
C07 — NEGATIVE examples for the oracle clauses: traces / tables the judge must reject.
Every `example` is checked by the kernel (`decide`); none of them is about the implementation.
-/
import NV.C07.Drive

namespace NV.C07.OracleTests

open NV.C07 NV.Gen.C07 Spec

/-! ### event comparison (`compareEvs`): expected (specification) vs observed (driver) -/

/-- a refused call_other that ran a body -/
example : compareEvs [.call "co" "o1" "f0", .ret "!no", .vars "o1" [0]]
                     [.call "co" "o1" "f0", .run "p0" "f0" 0, .ret "\"p0:f0\"", .vars "o1" [100]] ≠ [] := by decide

/-- an allowed driver apply that did not run (the negative-cache defect) -/
example : compareEvs [.call "drv" "o1" "f0", .run "p0" "f0" 0, .ret "\"p0:f0\"", .vars "o1" [100]]
                     [.call "drv" "o1" "f0", .ret "!no", .vars "o1" [0]] ≠ [] := by decide

/-- the right function with the wrong copy of the variables -/
example : compareEvs [.call "drv" "o1" "f0", .run "p0" "f0" 0, .ret "\"p0:f0\"", .vars "o1" [0, 100]]
                     [.call "drv" "o1" "f0", .run "p0" "f0" 0, .ret "\"p0:f0\"", .vars "o1" [100, 0]] ≠ [] := by decide

/-- the most-derived definition was not the one that ran -/
example : compareEvs [.call "drv" "o1" "f0", .run "p2" "f0" 0] [.call "drv" "o1" "f0", .run "p1" "f0" 0] ≠ [] := by decide

/-- a trace that stops early, and one that goes on after the expected end -/
example : compareEvs [.call "drv" "o1" "f0", .ret "!no"] [.call "drv" "o1" "f0"] ≠ [] := by decide
example : compareEvs [.call "drv" "o1" "f0"] [.call "drv" "o1" "f0", .run "p0" "f0" 0] ≠ [] := by decide

/-- an expected runtime error that did not happen (undefined function executed code at address 0) -/
example : compareEvs [.call "cot" "o1" "f5", .err, .ret "!err"] [.call "cot" "o1" "f5", .run "p3" "f2" 0] ≠ [] := by decide

/-- second element of an array target ran the static function -/
example : compareEvs [.call "coa" "o0,o0" "f1", .ret "({0,0})"]
                     [.call "coa" "o0,o0" "f1", .run "p0" "f1" 0, .ret "({0,\"p0:f1\"})"] ≠ [] := by decide

/-! ### the specification itself: what it expects -/

def g1 : AGraph :=
  [{ name := "p0", inherits := [], fns := [{ name := "f0", mods := { static := true }, isDef := true, calls := [] }] },
   { name := "p1", inherits := [{ mods := {}, parent := "p0" }], fns := [] }]

def s1 : SSt := { objs := [{ prog := 1, vars := [0, 0] }], labels := [("o1", 1)] }

/-- call_other to the inherited static function: refused, nothing runs; the driver runs it -/
example : (specCall g1 s1 "co" "o1" "f0").evs.reverse = [.call "co" "o1" "f0", .ret "!no", .vars "o1" [0, 0]] := by decide
example : (specCall g1 s1 "drv" "o1" "f0").evs.reverse.take 2 = [.call "drv" "o1" "f0", .run "p0" "f0" 0] := by decide
/-- every element of an array target is refused, at every position -/
example : (specCallTargets g1 s1 true [.obj "o1", .obj "o1", .other] "f0").evs.reverse =
    [.call "coa" "o1,o1,0" "f0", .ret "({0,0,0})", .vars "o1" [0, 0], .vars "o1" [0, 0]] := by decide

/-! ### well-formedness of dumped tables (`WF`): tables that must be rejected -/

def okP0 : Program :=
  { name := "p0", id := 3, nvt := 1, nvd := 1, ft := [{ name := 1, rindex := 0 }, { name := 2, rindex := 1 }],
    flags := [nameStatic, 0], rt := [.defn 0 0, .defn 1 0], inherit := [] }

/-- function table not sorted by name pointer -/
example : WF { progs := [{ okP0 with ft := [{ name := 2, rindex := 1 }, { name := 1, rindex := 0 }] }] } = false := by decide
/-- runtime index out of range -/
example : WF { progs := [{ okP0 with ft := [{ name := 1, rindex := 0 }, { name := 2, rindex := 5 }] }] } = false := by decide
/-- an inherited slot that is not NAME_UNDEFINED although the slot it points to is (the third epilog defect) -/
example : WF { progs := [{ okP0 with flags := [nameUndefined ||| namePrototype, 0] },
                         { name := "p1", id := 4, nvt := 2, nvd := 1, ft := [],
                           flags := [nameInherited, nameInherited], rt := [.inh 0 0, .inh 0 1],
                           inherit := [{ prog := 0, fio := 0, vio := 0 }] }] } = false := by decide
/-- slot kind and NAME_INHERITED disagree -/
example : WF { progs := [{ okP0 with flags := [nameStatic ||| nameInherited, 0] }] } = false := by decide
/-- an inherit entry that names a later program -/
example : WF { progs := [{ okP0 with inherit := [{ prog := 1, fio := 0, vio := 0 }] }, okP0] } = false := by decide
/-- inherit offsets that overlap -/
example : WF { progs := [okP0, { name := "p1", id := 4, nvt := 3, nvd := 1, ft := [],
                                 flags := [nameStatic ||| nameInherited, nameInherited, nameStatic ||| nameInherited, nameInherited],
                                 rt := [.inh 0 0, .inh 0 1, .inh 1 0, .inh 1 1],
                                 inherit := [{ prog := 0, fio := 0, vio := 0 }, { prog := 0, fio := 1, vio := 1 }] }] } = false := by
  decide

end NV.C07.OracleTests
