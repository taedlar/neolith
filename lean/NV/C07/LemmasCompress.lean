/-
C07 — lemmas about the compressed runtime function table (NV/C07/Compress.lean): the three scans, the index-byte loop
(including the 256-entry overflow branch), the binary search of find_func_entry, and the round trip
FIND_FUNC_ENTRY (compress t) i = t.rt[i] for ALL tables satisfying the decidable `cmpWF`.
-/
import NV.C07.Compress
import NV.C07.LemmasBasic

namespace NV.C07

open NV.Gen.C07

theorem scanFDef_le (t : RTab) : ∀ n, scanFDef t n ≤ n := by
  intro n
  induction n with
  | zero => simp [scanFDef]
  | succ k ih =>
    unfold scanFDef
    split <;> omega

theorem scanFOv_spec (t : RTab) (fDef : Nat) : ∀ fuel fOv, fOv ≤ fDef → (∀ i, i < fOv → expectedAt t i = true) →
    fOv ≤ scanFOv t fDef fuel fOv ∧ scanFOv t fDef fuel fOv ≤ fDef ∧
    (∀ i, i < scanFOv t fDef fuel fOv → expectedAt t i = true) := by
  intro fuel
  induction fuel with
  | zero => intro fOv h1 h2; simp [scanFOv]; exact ⟨h1, h2⟩
  | succ k ih =>
    intro fOv h1 h2
    unfold scanFOv
    split
    · rename_i hc
      simp only [Bool.and_eq_true, decide_eq_true_eq] at hc
      have h3 : ∀ i, i < fOv + 1 → expectedAt t i = true := by
        intro i hi
        rcases Nat.lt_succ_iff_lt_or_eq.mp hi with h | rfl
        · exact h2 i h
        · exact hc.2
      obtain ⟨a, b, c⟩ := ih (fOv + 1) (by omega) h3
      exact ⟨by omega, b, c⟩
    · exact ⟨Nat.le_refl _, h1, h2⟩

theorem scanLOv_spec (t : RTab) (fOv : Nat) : ∀ l,
    scanLOv t fOv l ≤ l ∧ (fOv ≤ l → fOv ≤ scanLOv t fOv l) ∧
    (∀ i, scanLOv t fOv l ≤ i → i < l → expectedAt t i = true) := by
  intro l
  induction l with
  | zero => simp [scanLOv]
  | succ k ih =>
    unfold scanLOv
    split
    · rename_i hc
      simp only [Bool.and_eq_true, decide_eq_true_eq] at hc
      obtain ⟨a, b, c⟩ := ih
      refine ⟨by omega, fun _ => b (by omega), ?_⟩
      intro i hi1 hi2
      rcases Nat.lt_succ_iff_lt_or_eq.mp hi2 with h | rfl
      · exact c i hi1 h
      · exact hc.2
    · refine ⟨Nat.le_refl _, fun h => h, ?_⟩
      intro i hi1 hi2; omega

/-- the third scan stops at `m`: every slot from `m` up is expected and beyond `fOv`, slot `m - 1` is not -/
theorem scanLOv_eq (t : RTab) (fOv m : Nat) (hstop : ∀ k, m = k + 1 → (decide (k > fOv) && expectedAt t k) = false) :
    ∀ l, m ≤ l → (∀ i, m ≤ i → i < l → (decide (i > fOv) && expectedAt t i) = true) → scanLOv t fOv l = m := by
  intro l
  induction l with
  | zero => intro h _; unfold scanLOv; omega
  | succ k ih =>
    intro hm h
    unfold scanLOv
    by_cases hk : m = k + 1
    · rw [hstop k hk]; simp [hk]
    · rw [h k (by omega) (by omega), if_pos rfl]
      exact ih (by omega) (fun i h1 h2 => h i h1 (by omega))

/-- what the index-byte loop from slot `s` over `cnt` positions with counter `j` ≤ 255 leaves in `r`: one index byte
    per position; `kept.length + j` is the final counter, which stays ≤ 255; the overflow slot, if there is one, lies
    inside the region, after the kept slots, and the counter is then 255; below the overflow slot an expected slot has
    the marker and any other slot a byte `v` ≠ 255 with `kept[v - j]` = that slot -/
structure FillOk (E : Nat → Bool) (s cnt j : Nat) (r : FillRes) : Prop where
  ixLength : r.ix.length = cnt
  counter : r.kept.length + j = r.j
  counterLe : r.j ≤ 255
  overflow : ∀ s0, r.woops = some s0 → s + r.kept.length ≤ s0 ∧ s0 < s + cnt ∧ r.j = 255
  keptLe : r.woops = none → r.kept.length ≤ cnt
  bytes : ∀ d, d < cnt → (∀ s0, r.woops = some s0 → s + d < s0) →
    (E (s + d) = true → r.ix[d]? = some cmpMarker) ∧
    (E (s + d) = false → ∃ v, r.ix[d]? = some v ∧ v ≠ cmpMarker ∧ j ≤ v ∧ r.kept[v - j]? = some (s + d))

theorem fillGo_ok (E : Nat → Bool) : ∀ cnt s j, j ≤ 255 → FillOk E s cnt j (fillGo E s cnt j) := by
  intro cnt s j
  fun_induction fillGo E s cnt j with
  | case1 s j => intro hj; constructor <;> simp; exact hj
  | case2 s cnt j hE r ih =>
    -- expected slot: marker, counter unchanged
    intro hj
    have ih := ih hj
    dsimp only [r]
    refine { ixLength := by simp [ih.ixLength], counter := ih.counter, counterLe := ih.counterLe,
             overflow := ?_, keptLe := ?_, bytes := ?_ }
    · intro s0 h0
      obtain ⟨x, y, z⟩ := ih.overflow s0 h0
      dsimp only
      exact ⟨by omega, by omega, z⟩
    · intro h0; exact Nat.le_succ_of_le (ih.keptLe h0)
    · intro dd hdd hw
      cases dd with
      | zero => simp [hE]
      | succ d' =>
        have := ih.bytes d' (by omega) (fun s0 h0 => by have := hw s0 h0; omega)
        simpa [show s + (d' + 1) = s + 1 + d' by omega] using this
  | case3 s cnt j hE hw =>
    -- the overflow branch
    intro hj
    have hw : j = 255 := by simpa using hw
    refine { ixLength := by simp, counter := by simp [hw], counterLe := by simp, overflow := ?_, keptLe := by simp,
             bytes := ?_ }
    · intro s0 h0
      simp at h0; subst h0; simp
    · intro dd hdd hw0
      have := hw0 s rfl
      omega
  | case4 s cnt j hE hw r ih =>
    intro hj
    have hw : j ≠ 255 := by simpa using hw
    have hE' : E s = false := by simpa using hE
    have hmod : j % 256 = j := Nat.mod_eq_of_lt (by omega)
    have ih := ih (by omega)
    have hc := ih.counter
    dsimp only [r]
    refine { ixLength := by simp [ih.ixLength], counter := by simp; omega, counterLe := ih.counterLe,
             overflow := ?_, keptLe := ?_, bytes := ?_ }
    · intro s0 h0
      obtain ⟨x, y, z⟩ := ih.overflow s0 h0
      exact ⟨by simp; omega, by omega, z⟩
    · intro h0; have := ih.keptLe h0; simp; omega
    · intro dd hdd hw0
      cases dd with
      | zero => simp [hE', hmod, cmpMarker]; omega
      | succ d' =>
        have h := ih.bytes d' (by omega) (fun s0 h0 => by have := hw0 s0 h0; omega)
        rw [show s + (d' + 1) = s + 1 + d' by omega]
        refine ⟨by simpa using h.1, fun hEd => ?_⟩
        obtain ⟨v, hv1, hv2, hv3, hv4⟩ := h.2 hEd
        refine ⟨v, by simpa using hv1, hv2, by omega, ?_⟩
        rw [show v - j = (v - (j + 1)) + 1 by omega]; simpa using hv4

/-- `FillOk` of the loop's result, written out as one conjunction -/
theorem fillGo_spec (E : Nat → Bool) : ∀ cnt s j, j ≤ 255 →
    (fillGo E s cnt j).ix.length = cnt ∧
    (fillGo E s cnt j).kept.length + j = (fillGo E s cnt j).j ∧
    (fillGo E s cnt j).j ≤ 255 ∧
    (∀ s0, (fillGo E s cnt j).woops = some s0 → s + (fillGo E s cnt j).kept.length ≤ s0 ∧ s0 < s + cnt ∧
        (fillGo E s cnt j).j = 255) ∧
    ((fillGo E s cnt j).woops = none → (fillGo E s cnt j).kept.length ≤ cnt) ∧
    (∀ d, d < cnt → (∀ s0, (fillGo E s cnt j).woops = some s0 → s + d < s0) →
      (E (s + d) = true → (fillGo E s cnt j).ix[d]? = some cmpMarker) ∧
      (E (s + d) = false → ∃ v, (fillGo E s cnt j).ix[d]? = some v ∧ v ≠ cmpMarker ∧ j ≤ v ∧
          (fillGo E s cnt j).kept[v - j]? = some (s + d))) :=
  fun cnt s j hj =>
    have h := fillGo_ok E cnt s j hj
    ⟨h.ixLength, h.counter, h.counterLe, h.overflow, h.keptLe, h.bytes⟩

/-- a run of slots none of which is expected, long enough for the counter to reach 256: the overflow branch is taken
    at the slot where it does -/
theorem fillGo_overflow (E : Nat → Bool) : ∀ cnt s j d, j + d = 255 → d < cnt →
    (∀ i, s ≤ i → i ≤ s + d → E i = false) → (fillGo E s cnt j).woops = some (s + d) := by
  intro cnt
  induction cnt with
  | zero => intro s j d _ h; omega
  | succ k ih =>
    intro s j d hj hc hE
    rw [fillGo, hE s (by omega) (by omega)]
    cases d with
    | zero => simp [show j + 1 = 256 by omega]
    | succ d =>
      have := ih (s + 1) (j + 1) d (by omega) (by omega) (fun i h1 h2 => hE i (by omega) (by omega))
      simp [show j ≠ 255 by omega, this]; omega

/-- `off` is the last inherit whose function_index_offset is not beyond `index` -/
def IsLastLE (inh : List Inherit) (index off : Nat) : Prop :=
  off < inh.length ∧ (∀ k (h : k < inh.length), k ≤ off → inh[k].fio ≤ index) ∧
  (∀ k (h : k < inh.length), off < k → inh[k].fio > index)

theorem inhSearch_spec (inh : List Inherit) (index off : Nat) (h : IsLastLE inh index off) :
    ∀ fuel first last, first ≤ off → off ≤ last → last < inh.length → last - first ≤ fuel →
      inhSearch inh index fuel first last = some off := by
  obtain ⟨-, upToOff, beyondOff⟩ := h
  intro fuel first last
  fun_induction inhSearch inh index fuel first last with
  | case1 first last => intro h1 h2 _ h4; congr 1; omega
  | case2 fuel first last hlt mid hnone =>
    intro _ _ h3 _
    have := List.getElem?_eq_none_iff.mp hnone
    omega
  | case3 fuel first last hlt mid ih hmid hgt ihr =>
    -- fio[mid] > index: mid is beyond off
    intro h1 h2 h3 h4
    have hm : first < mid ∧ mid ≤ last := by omega
    clear_value mid
    obtain ⟨hml, hme⟩ := List.getElem?_eq_some_iff.mp hmid
    have : off < mid := by
      apply Nat.lt_of_not_le
      intro hc
      have := upToOff _ hml hc
      rw [hme] at this
      omega
    exact ihr h1 (by omega) (by omega) (by omega)
  | case4 fuel first last hlt mid ih hmid hle ihr =>
    intro h1 h2 h3 h4
    have hm : first < mid ∧ mid ≤ last := by omega
    clear_value mid
    obtain ⟨hml, hme⟩ := List.getElem?_eq_some_iff.mp hmid
    have : mid ≤ off := by
      apply Nat.le_of_not_lt
      intro hc
      have := beyondOff _ hml hc
      rw [hme] at this
      omega
    exact ihr this h2 h3 (by omega)
  | case5 fuel first last hn => intro h1 h2 _ _; congr 1; omega

theorem fioSorted_le (inh : List Inherit) (hs : fioSorted inh = true) (a b : Nat) (ha : a < inh.length)
    (hb : b < inh.length) (hab : a ≤ b) : inh[a].fio ≤ inh[b].fio := by
  rcases Nat.lt_or_eq_of_le hab with h | rfl
  · exact List.pairwise_iff_getElem.mp ((fioSorted_iff inh).mp hs) a b ha hb h
  · exact Nat.le_refl _

theorem cmpWF_readable (t : RTab) (h : t.cmpWF = true) : t.readable = true := by
  simp only [RTab.cmpWF, Bool.and_eq_true] at h
  exact h.1.1

theorem expectedAt_elim (t : RTab) (i : Nat) (h : expectedAt t i = true) :
    ∃ off idx ih, t.rt[i]? = some (.inh off idx) ∧ t.inherit[off]? = some ih ∧ ih.fio + idx = i := by
  unfold expectedAt at h
  split at h
  · rename_i fl off idx h1 h2
    simp only [Bool.and_eq_true] at h
    obtain ⟨_, hb⟩ := h
    split at hb
    · rename_i ih h3
      exact ⟨off, idx, ih, h2, h3, by simpa using hb⟩
    · simp at hb
  · simp at h

theorem remake_expected (t : RTab) (hwf : t.cmpWF = true) (i : Nat) (hi : i < t.rt.length)
    (hE : expectedAt t i = true) : remake t.inherit i = t.rt[i]? := by
  obtain ⟨off, idx, ih, h1, h2, h3⟩ := expectedAt_elim t i hE
  obtain ⟨hoff, rfl⟩ := List.getElem?_eq_some_iff.mp h2
  simp only [RTab.cmpWF, Bool.and_eq_true] at hwf
  obtain ⟨⟨_, hsorted⟩, hlast⟩ := hwf
  have hlastle : IsLastLE t.inherit i off := by
    refine ⟨hoff, fun k hk hko => ?_, fun k hk hok => ?_⟩
    · have := fioSorted_le t.inherit hsorted k off hk hoff hko
      omega
    · -- `expectedNamesLast`: the inherits after `off` start beyond i
      have := List.all_eq_true.mp hlast i (List.mem_range.mpr hi)
      simp only [hE, Bool.not_true, Bool.false_or, h1, List.all_eq_true] at this
      simpa using this _ (List.mem_drop_iff_getElem.mpr ⟨k - (off + 1), by omega, by congr 1; omega⟩)
  rw [remake, if_neg (by rw [List.isEmpty_iff_length_eq_zero]; omega),
    inhSearch_spec t.inherit i off hlastle t.inherit.length 0 (t.inherit.length - 1) (by omega) (by omega) (by omega)
      (by omega)]
  simp only [h2, h1, if_pos (show t.inherit[off].fio ≤ i by omega)]
  congr 2; omega

/-- the three-way `if` that builds the new A_RUNTIME_FUNCTIONS block is, in all three branches, "kept entries, then
    the entries from first_defined on" -/
theorem offsets_eq_kept_append (rt KE : List REntry) (kl fDef nDef : Nat) (h1 : KE.length = kl) (h2 : kl ≤ fDef)
    (h3 : nDef = rt.length - fDef) :
    (if kl + nDef == 0 then [] else if fDef != 0 then KE ++ (rt.drop fDef).take nDef else rt) =
      KE ++ (rt.drop fDef).take nDef := by
  split
  · rename_i ha
    have ha : kl + nDef = 0 := by simpa using ha
    rw [List.eq_nil_of_length_eq_zero (show KE.length = 0 by omega), show nDef = 0 by omega]; simp
  · split
    · rfl
    · rename_i hb
      have hb : fDef = 0 := by simpa using hb
      rw [List.eq_nil_of_length_eq_zero (show KE.length = 0 by omega), h3, hb]; simp

theorem fillGo_kept_range (E : Nat → Bool) (cnt s j x : Nat) (h : x ∈ (fillGo E s cnt j).kept) :
    s ≤ x ∧ x < s + cnt := by
  fun_induction fillGo E s cnt j with
  | case1 s j => simp at h
  | case2 s cnt j hE r ih => have := ih h; omega
  | case3 s cnt j hE hw => simp at h
  | case4 s cnt j hE hw r ih =>
    simp only [List.mem_cons] at h
    rcases h with rfl | h
    · omega
    · have := ih h; omega

/-- lookups in a compressed table given by its parts: the kept slots, then the slots from first_defined on; readers
    take `fD - nC` index bytes, and `hmid` is what the index-byte loop guarantees for them -/
theorem findFuncEntry_of_parts (t : RTab) (hwf : t.cmpWF = true) (kept ix : List Nat) (fD fOv nC : Nat)
    (hk : ∀ x ∈ kept, x < t.rt.length) (hfd : fD ≤ t.rt.length) (hjle : kept.length ≤ fD)
    (hlow : ∀ i, i < fD → (i < fOv ∨ fOv + (fD - nC) ≤ i) → expectedAt t i = true)
    (hmid : ∀ d, d < fD - nC → fOv + d < fD →
      (expectedAt t (fOv + d) = true → ix[d]? = some cmpMarker) ∧
      (expectedAt t (fOv + d) = false → ∃ v, ix[d]? = some v ∧ v ≠ cmpMarker ∧ kept[v]? = some (fOv + d)))
    (i : Nat) (hi : i < t.rt.length) :
    findFuncEntry t.inherit
      { firstDefined := fD, firstOverload := fOv, numCompressed := nC, numDeleted := fD - kept.length, index := ix,
        offsets :=
          if kept.length + (t.rt.length - fD) == 0 then []
          else if fD != 0 then kept.filterMap (fun s => t.rt[s]?) ++ (t.rt.drop fD).take (t.rt.length - fD)
          else t.rt } i = t.rt[i]? := by
  obtain ⟨hlen, hget⟩ := filterMap_all_some (fun s => t.rt[s]?) kept (fun x hx => by simp [hk x hx])
  rw [offsets_eq_kept_append t.rt _ _ fD _ hlen hjle rfl]
  unfold findFuncEntry
  by_cases hlt : i < fD
  · simp only [hlt, if_true, findFuncEntryLow]
    by_cases hcond : i < fOv ∨ i - fOv ≥ fD - nC
    · rw [if_pos (by simpa using hcond)]
      exact remake_expected t hwf i hi (hlow i hlt (by omega))
    · rw [if_neg (by simpa using hcond)]
      obtain ⟨m1, m2⟩ := hmid (i - fOv) (by omega) (by omega)
      rw [show fOv + (i - fOv) = i by omega] at m1 m2
      cases hE : expectedAt t i with
      | true =>
        simp only [m1 hE, beq_self_eq_true, if_true]
        exact remake_expected t hwf i hi hE
      | false =>
        obtain ⟨v, hv1, hv2, hv3⟩ := m2 hE
        have hvlt : v < kept.length := (List.getElem?_eq_some_iff.mp hv3).1
        simp only [hv1, show (v == cmpMarker) = false by simpa using hv2]
        rw [List.getElem?_append_left (by omega), hget v, hv3]
        rfl
  · simp only [hlt, if_false, show fD - kept.length ≤ i by omega, if_true]
    rw [List.getElem?_append_right (by omega), hlen,
      show i - (fD - kept.length) - kept.length = i - fD by omega, List.getElem?_take]
    simp only [show i - fD < t.rt.length - fD by omega, if_true]
    rw [List.getElem?_drop]
    congr 1; omega

/-- compress_function_tables after the scans, read back through FIND_FUNC_ENTRY; `h1` .. `h4` are what the three scans
    establish (`scanFDef_le`, `scanFOv_spec`, `scanLOv_spec`) -/
theorem compressWith_lookup (t : RTab) (hwf : t.cmpWF = true) (fDef0 fOv nOv : Nat)
    (h1 : fDef0 ≤ t.rt.length) (h2 : fOv + nOv ≤ fDef0)
    (h3 : ∀ i, i < fOv → expectedAt t i = true)
    (h4 : ∀ i, fOv + nOv ≤ i → i < fDef0 → expectedAt t i = true)
    (i : Nat) (hi : i < t.rt.length) :
    findFuncEntry t.inherit (compressWith true t fDef0 fOv nOv) i = t.rt[i]? := by
  have ok := fillGo_ok (expectedAt t) nOv fOv 0 (by omega)
  have hk : ∀ x ∈ (fillGo (expectedAt t) fOv nOv 0).kept, x < t.rt.length := by
    intro x hx; have := fillGo_kept_range _ _ _ _ x hx; omega
  have hj : (fillGo (expectedAt t) fOv nOv 0).j = (fillGo (expectedAt t) fOv nOv 0).kept.length := ok.counter.symm
  have f := ok.bytes
  simp only [Nat.zero_le, true_and, Nat.sub_zero] at f
  cases hw : (fillGo (expectedAt t) fOv nOv 0).woops with
  | none =>
    have hkl := ok.keptLe hw
    simp only [compressWith, hw, hj]
    refine findFuncEntry_of_parts t hwf _ _ fDef0 fOv (fDef0 - nOv) hk h1 (by omega) ?_ ?_ i hi
    · intro k hk1 hk2
      by_cases hk3 : k < fOv
      · exact h3 k hk3
      · exact h4 k (by omega) hk1
    · intro dd hd _
      exact f dd (by omega) (by rw [hw]; intro s0 h0; cases h0)
  | some s0 =>
    -- first_defined is the slot where the counter reached 256; the index bytes below it are as without overflow
    obtain ⟨d1, d2, _⟩ := ok.overflow s0 hw
    simp only [compressWith, hw, hj, if_true]
    refine findFuncEntry_of_parts t hwf _ _ s0 fOv fOv hk (by omega) (by omega) (fun k hk1 hk2 => h3 k (by omega)) ?_ i hi
    intro dd _ hlt
    exact f dd (by omega) (by rw [hw]; intro s1 h0; cases h0; exact hlt)

/-- **Round trip.**  For every table that satisfies the decidable `cmpWF` (accesses in range; inherit offsets never
    decrease; an expected slot names the last inherit not beyond it): compress_function_tables succeeds, and every
    slot read through FIND_FUNC_ENTRY from the compressed table is the slot's uncompressed entry — including tables
    that take the 256-entry overflow branch. -/
theorem find_func_entry_compress (t : RTab) (hwf : t.cmpWF = true) :
    ∃ c, compress t = some c ∧ ∀ i, i < t.rt.length → findFuncEntry t.inherit c i = t.rt[i]? := by
  rw [compress, compressG, if_neg (by simp [cmpWF_readable t hwf])]
  refine ⟨_, rfl, fun i hi => ?_⟩
  have a := scanFDef_le t t.rt.length
  obtain ⟨_, b2, b3⟩ := scanFOv_spec t (scanFDef t t.rt.length) (scanFDef t t.rt.length) 0 (by omega)
    (by intro i hi; omega)
  obtain ⟨c1, c2, c3⟩ := scanLOv_spec t (scanFOv t (scanFDef t t.rt.length) (scanFDef t t.rt.length) 0)
    (scanFDef t t.rt.length)
  have c2' := c2 b2
  exact compressWith_lookup t hwf _ _ _ a (by omega) b3 (by intro k hk1 hk2; exact c3 k (by omega) hk2) i hi

/-- **Frames through the compressed tables.**  In a world whose programs all satisfy `cmpWF`, chasing a runtime slot
    with every entry read through FIND_FUNC_ENTRY on the compressed table gives exactly the frame the uncompressed
    model (`chase`, the subject of `frame_offsets_correct`) gives — for every start slot, offsets and fuel. -/
theorem chaseC_eq_chase (w : World) (hw : ∀ P ∈ w.progs, (RTab.ofProgram P).cmpWF = true) :
    ∀ fuel p index fio vio, chaseC w fuel p index fio vio = chase w fuel p index fio vio := by
  intro fuel
  induction fuel with
  | zero => intro p index fio vio; rfl
  | succ n ih =>
    intro p index fio vio
    unfold chaseC chase
    cases hP : w.progs[p]? with
    | none => rfl
    | some P =>
      simp only [Option.bind_eq_bind, Option.bind_some]
      cases hfl : P.flags[index]? with
      | none => simp
      | some fl =>
        have hwf := hw P (List.mem_of_getElem? hP)
        obtain ⟨c, hc, hall⟩ := find_func_entry_compress (RTab.ofProgram P) hwf
        have hlen : P.flags.length = P.rt.length := by
          have hr := cmpWF_readable _ hwf
          simp only [RTab.readable, RTab.ofProgram, Bool.and_eq_true, beq_iff_eq] at hr
          exact hr.1
        have hi : index < P.rt.length := by
          have := (List.getElem?_eq_some_iff.mp hfl).1
          omega
        have he := hall index hi
        simp only [RTab.ofProgram] at he hc
        -- the entry read through the compressed table is the uncompressed one; the rest of the step is the same
        simp only [Option.bind_some, RTab.ofProgram, hc, he, ih]
        rfl

/-- a table all of whose entries name the last inherit is well-formed for compression: "an expected slot names the
    last inherit not beyond it" has nothing left to ask -/
theorem cmpWF_of_names_last (t : RTab) (hlen : t.flags.length = t.rt.length) (hs : fioSorted t.inherit = true)
    (hlast : ∀ e ∈ t.rt, ∃ idx, e = .inh (t.inherit.length - 1) idx) (hne : 0 < t.inherit.length) :
    t.cmpWF = true := by
  simp only [RTab.cmpWF, RTab.readable, expectedNamesLast, Bool.and_eq_true, hs, beq_iff_eq, hlen, List.all_eq_true]
  refine ⟨⟨⟨trivial, ?_⟩, trivial⟩, ?_⟩
  · intro ⟨fl, e⟩ hm
    obtain ⟨idx, rfl⟩ := hlast e (List.of_mem_zip hm).2
    simp; omega
  · intro i _
    cases hr : t.rt[i]? with
    | none => simp
    | some e =>
      obtain ⟨idx, rfl⟩ := hlast e (List.mem_of_getElem? hr)
      simp [show t.inherit.length - 1 + 1 = t.inherit.length by omega]

/-- a program that inherits two programs (3 + 2 slots), overrides slot 1 (`defn`), has a taken-over slot 0 (`inh 1 0`,
    not at its expected place) and two own functions: `cmpWF` holds, the table really is compressed (3 entries
    omitted), and every slot read back through FIND_FUNC_ENTRY is the uncompressed entry -/
def exTab : RTab :=
  { flags := [nameInherited, 0, nameInherited, nameInherited, nameInherited, 0, 0],
    rt := [.inh 1 0, .defn 0 0, .inh 0 2, .inh 1 0, .inh 1 1, .defn 1 0, .defn 2 0],
    inherit := [{ prog := 0, fio := 0, vio := 0 }, { prog := 1, fio := 3, vio := 1 }] }

example : exTab.cmpWF = true ∧
    (compress exTab).map (fun c => (c.firstDefined, c.firstOverload, c.index, c.offsets.length)) = some (5, 0, [0, 1], 4) ∧
    (compress exTab).map (fun c => decompress exTab.inherit c 7) = some (exTab.rt.map some) := by
  decide

end NV.C07
