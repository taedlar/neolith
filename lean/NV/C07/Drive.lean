/-
C07 driver.

Case lines (shared with harness/c07 and props/c07.py):
  prog <pK> <item>...          abstract source of one program, items in source order:
                                 i:<mods>:<pJ>            inherit statement
                                 p:<mods>:<fn>            prototype
                                 d:<mods>:<fn>:<calls>    definition; calls = `-` or `+`-separated
                                                          L<fn> | S<pJ>.<fn> | S*.<fn> | F<fn>
                               <mods> = `-` or `_`-separated static/private/protected/public
  names <n>... | ld <oid> <pK> | dump <oid>... | call <origin> <oid> <fn> | cold | evict <oid> <fn>

`model` mode: the case body is  <case lines> / -- / <nm, tbl, obj and `ld .. !fail` lines of the implementation trace>;
the MODEL's find_function / apply_low / frame setup run on the tables the model BUILDS from the case lines
(`buildWorld`); of the dump only the name-pointer ranks, the program ids and the list of dumped programs / objects are
used, and the model-built `tbl` lines stand against the dumped ones in the trace comparison.
`judge` mode: <case lines> / -- / <implementation trace>; the SPEC resolver runs on the abstract graph of the
case; in addition WF is evaluated on every dumped table and the abstraction of the real tables is compared
with the abstract graph.
-/
import NV.Common.Proto
import NV.C07.Model
import NV.C07.Spec
import NV.C07.WF
import NV.C07.Build
import NV.C07.LemmasBuild
import NV.C07.Compress
import NV.C07.Binary

namespace NV.C07

open NV.Proto

/-! ### parsing the dumped tables -/

def splitOnC (s : String) (c : String) : List String := if s == "-" || s == "" then [] else s.splitOn c

def parseOps (s : String) : List CallOp :=
  (splitOnC s "+").filterMap fun t =>
    let body := (t.drop 1).toString
    if t.startsWith "L" then body.toNat?.map CallOp.loc
    else if t.startsWith "F" then body.toNat?.map CallOp.fp
    else if t.startsWith "S" then
      match body.splitOn "." with
      | [a, b] => do some (CallOp.sup (← a.toNat?) (← b.toNat?))
      | _ => none
    else none

def kv (t : String) (k : String) : Option String :=
  if t.startsWith (k ++ "=") then some (t.drop (k.length + 1)).toString else none

structure RawProg where
  name : String
  id : Nat
  nvt : Nat
  nvd : Nat
  ft : List FnEntry
  flags : List Nat
  rt : List REntry
  inh : List (String × Nat × Nat × Nat)
  hb : Int := -1

def parseTbl (line : String) : Option RawProg :=
  match toks line with
  | ["tbl", name, id, nvt, nvd, ft, fl, hb, inh] => do
    let hb ← (← kv hb "hb").toInt?
    let id ← (← kv id "id").toNat?
    let nvt ← (← kv nvt "nvt").toNat?
    let nvd ← (← kv nvd "nvd").toNat?
    let ft ← (splitOnC (← kv ft "ft") ",").mapM fun e =>
      match e.splitOn ":" with
      | [n, key, ri, ops] => do
        some ({ name := ← key.toNat?, rindex := ← ri.toNat?, nameStr := n, ops := parseOps ops } : FnEntry)
      | _ => none
    let sl ← (splitOnC (← kv fl "fl") ",").mapM fun e =>
      match e.splitOn ":" with
      | [f, "D", a, b] => do some (← f.toNat?, REntry.defn (← a.toNat?) (← b.toNat?))
      | [f, "I", a, b] => do some (← f.toNat?, REntry.inh (← a.toNat?) (← b.toNat?))
      | _ => none
    let inh ← (splitOnC (← kv inh "inh") ",").mapM fun e =>
      match e.splitOn ":" with
      | [n, a, b, c] => do some (n, ← a.toNat?, ← b.toNat?, ← c.toNat?)
      | _ => none
    some { name, id, nvt, nvd, ft, flags := sl.map (·.1), rt := sl.map (·.2), inh, hb }
  | _ => none

structure Dump where
  names : List (String × Nat) := []
  raws : List RawProg := []
  objs : List (String × String) := []       -- oid, program name
  failed : List String := []                -- oids whose load failed
  lines : List String := []                 -- nm/tbl/obj lines in order
  bad : List String := []
  binloads : Option Nat := none             -- the observed `binloads` line of this epoch's dump

def parseDump (lines : List String) : Dump :=
  let d := lines.foldl (fun (d : Dump) line =>
    match toks line with
    | ["nm", n, k] =>
      match k.toNat? with
      | some k => { d with names := (n, k) :: d.names, lines := line :: d.lines }
      | none => { d with bad := line :: d.bad }
    | "tbl" :: _ =>
      match parseTbl line with
      | some r => { d with raws := r :: d.raws, lines := line :: d.lines }
      | none => { d with bad := line :: d.bad }
    | "cmp" :: _ => { d with lines := line :: d.lines }
    | ["obj", oid, p] => { d with objs := (oid, p) :: d.objs, lines := line :: d.lines }
    | ["ld", oid, "!fail"] => { d with failed := oid :: d.failed }
    | ["binloads", n] => { d with binloads := n.toNat? }
    | _ => d) {}
  { d with names := d.names.reverse, raws := d.raws.reverse, objs := d.objs.reverse, lines := d.lines.reverse }

def Dump.world (d : Dump) : World :=
  let idx (n : String) : Nat := (d.raws.findIdx? (·.name == n)).getD d.raws.length
  { progs := d.raws.map fun r =>
      { name := r.name, id := r.id, nvt := r.nvt, nvd := r.nvd, ft := r.ft, flags := r.flags, rt := r.rt,
        heartBeat := if r.hb < (0 : Int) then none else some (Int.toNat r.hb),
        inherit := r.inh.map fun (n, a, b, c) => { prog := idx n, fio := a, vio := b, typeMod := c } } }

def Dump.key (d : Dump) (n : String) : Option Nat := (d.names.find? (·.1 == n)).map (·.2)

/-- the dumped lines of a trace, split at the `reload ...` lines: after a reload every program is loaded anew (other
    name pointers, other program ids), so each epoch has its own tables -/
def splitEpochs (lines : List String) : List (List String) :=
  let (cur, done) := lines.foldl (fun (acc : List String × List (List String)) l =>
    if l.startsWith "reload " then ([], acc.1.reverse :: acc.2) else (l :: acc.1, acc.2)) ([], [])
  (cur.reverse :: done).reverse

/-! ### parsing the case -/

def parseMods (s : String) : Spec.Mods :=
  let ms := splitOnC s "_"
  { static := ms.contains "static", priv := ms.contains "private", prot := ms.contains "protected",
    pub := ms.contains "public" }

def parseACalls (s : String) : List Spec.ACall :=
  (splitOnC s "+").filterMap fun t =>
    let body := (t.drop 1).toString
    -- L local call; F `evaluate((: f :))`; G the same pointer handed to ANOTHER object that evaluates it
    -- (call_function_pointer switches back to the owner); H / I `(: f() :)`: a functional whose body makes the
    -- local call, evaluated here / by the other object (the functional carries the creator's index offsets)
    if t.startsWith "L" || t.startsWith "H" || t.startsWith "I" then some (.loc body)
    else if t.startsWith "F" || t.startsWith "G" then some (.fp body)
    -- S `::f()` / `A::f()`; J the same call inside a functional `(: ::f() :)` evaluated here; K that functional evaluated
    -- by ANOTHER object (it refers to no global and no local function: only the offsets saved in the pointer tell
    -- the inherited function which copy of the variables and which slots are its own)
    else if t.startsWith "S" || t.startsWith "J" || t.startsWith "K" then
      match body.splitOn "." with
      | ["*", f] => some (.sup none f)
      | [a, f] => some (.sup (some a) f)
      | _ => none
    -- M `(: A::f() :)` and O `(: f() :)` are made and STORED in /c07/caller; N fetches the stored functional of this
    -- object back and evaluates it in whatever function (of whatever inherit level) executes the N
    else if t.startsWith "M" then
      match body.splitOn "." with
      | ["*", f] => some (.stashSup none f)
      | [a, f] => some (.stashSup (some a) f)
      | _ => none
    else if t.startsWith "O" then some (.stashLoc body)
    else if t == "N" then some .runStash
    else none

def parseProg (ts : List String) : Option Spec.AProg :=
  match ts with
  | "prog" :: name :: items =>
    let P : Spec.AProg := { name, inherits := [], fns := [] }
    some (items.foldl (fun (P : Spec.AProg) it =>
      match it.splitOn ":" with
      | ["i", m, par] => { P with inherits := P.inherits ++ [{ mods := parseMods m, parent := par }] }
      | ["p", m, f] =>
        if P.fns.any (·.name == f) then P
        else { P with fns := P.fns ++ [{ name := f, mods := parseMods m, isDef := false, calls := [], nargs := Spec.arityOf f }] }
      | ["d", m, f, cs] =>
        { P with fns := P.fns.filter (·.name != f) ++ [{ name := f, mods := parseMods m, isDef := true, calls := parseACalls cs, nargs := Spec.arityOf f }] }
      | ["v", _] => { P with hasW := true }
      | _ => P) P)
  | _ => none

inductive Cmd where
  | ld (oid prog : String)
  | dump
  | call (o : Origin) (oid fn : String) (args : List Int := [])
  | callT (isArray : Bool) (ts : List Target) (fn : String)
  | cold
  | evict (oid fn : String)
  | reload

structure Parsed where
  savebin : Bool := false
  graph : Spec.AGraph := []
  srcs : List (String × List String) := []      -- program name, its items in source order
  cmds : List Cmd := []
  bad : List String := []

def parseOrigin : String → Option Origin
  | "co" => some .co | "com" => some .com | "drv" => some .drv | "cot" => some .cot | "rco" => some .rco
  | "hb" => some .hb
  | _ => none

def parseTarget (e : String) : Target :=
  if e.startsWith "=" then .path (((e.drop 1).toString.splitOn "/").getLastD "")
  else if e == "0" then .other
  else .obj e

def parseCase (lines : List String) : Parsed :=
  let p := lines.foldl (fun (p : Parsed) line =>
    match toks line with
    | [] => p
    | "prog" :: rest =>
      match parseProg ("prog" :: rest) with
      | some P => { p with graph := p.graph ++ [P], srcs := p.srcs ++ [(P.name, rest.drop 1)] }
      | none => { p with bad := line :: p.bad }
    | "names" :: _ => p
    | ["ld", oid, prog] => { p with cmds := .ld oid ((prog.splitOn "/").getLastD prog) :: p.cmds }
    | "dump" :: _ => { p with cmds := .dump :: p.cmds }
    | ["call", "coa", elems, fn] => { p with cmds := .callT true ((elems.splitOn ",").map parseTarget) fn :: p.cmds }
    | ["call", "cos", elem, fn] => { p with cmds := .callT false [parseTarget elem] fn :: p.cmds }
    | ["call", o, oid, fn] =>
      match parseOrigin o with
      | some o => { p with cmds := .call o oid fn :: p.cmds }
      | none => { p with bad := line :: p.bad }
    | ["call", o, oid, fn, args] =>
      match parseOrigin o, (args.splitOn ",").mapM String.toInt? with
      | some o, some as => { p with cmds := .call o oid fn as :: p.cmds }
      | _, _ => { p with bad := line :: p.bad }
    | ["cold"] => { p with cmds := .cold :: p.cmds }
    | ["savebin"] => { p with savebin := true }
    | "reload" :: _ => { p with cmds := .reload :: p.cmds }
    | ["evict", oid, fn] => { p with cmds := .evict oid fn :: p.cmds }
    | _ => if line.startsWith "#" then p else { p with bad := line :: p.bad }) {}
  { p with cmds := p.cmds.reverse }

/-! ### model mode -/

def modBits (s : String) : Nat :=
  (splitOnC s "_").foldl (fun acc m =>
    acc ||| (if m == "static" then Gen.C07.nameStatic else if m == "private" then Gen.C07.namePrivate
             else if m == "protected" then Gen.C07.nameProtected else if m == "public" then Gen.C07.namePublic else 0)) 0

/-- the source items of one program for the construction model -/
def toItems (progIdx : String → Nat) (key : String → Nat) (items : List String) : List Item :=
  let its := items.filterMap fun it =>
    match it.splitOn ":" with
    | ["i", m, par] => some (Item.inh (modBits m) (progIdx par))
    | ["p", m, f] => some (Item.proto (modBits m) (key f) f)
    | ["d", m, f, cs] =>
      let calls := (parseACalls cs).map fun c =>
        match c with
        | .loc n => SrcCall.loc (key n)
        | .fp n => SrcCall.fp (key n)
        | .sup par n => SrcCall.sup (par.map progIdx) (key n)
        | .stashSup par n => SrcCall.stashSup (par.map progIdx) (key n)
        | .stashLoc n => SrcCall.stashLoc (key n)
        | .runStash => SrcCall.runStash
      some (Item.defn (modBits m) (key f) f calls)
    | _ => none
  let extra := items.filterMap fun it =>
    match it.splitOn ":" with
    | ["v", m] => some (Item.var (modBits m))
    | _ => none
  -- the variable of the program's own level is declared after the last inherit statement
  its ++ [Item.var 0] ++ extra

/-- compile every program of the case with the construction model, parents first (case order) -/
def buildWorld (p : Parsed) (d : Dump) : World :=
  let progIdx (n : String) : Nat := (p.srcs.findIdx? (·.1 == n)).getD p.srcs.length
  let key (n : String) : Nat := (d.key n).getD (900000 + n.length * 131 + NV.C07.digitsOf n)
  p.srcs.foldl (fun (w : World) (name, items) =>
    let id := ((d.raws.find? (·.name == name)).map (·.id)).getD 0
    let st := (toItems progIdx key items).foldl (doItem w) {}
    -- the hypothesis of `built_alias_flags_agree`, evaluated on every program built; a violation is made visible
    -- in the program name, i.e. in the compared `tbl` line
    let name' := if aliasOrdered st.slots then name else name ++ "!alias-not-ordered"
    { progs := w.progs ++ [{ finish name id st (d.key "heart_beat") with name := name' }] }) { progs := [] }

/-- the per-epoch environment of the model run -/
structure MEnv where
  d : Dump
  w : World
  rest : List Dump          -- the dumps of the epochs to come
  epoch : Nat := 0

def runModel (body : List String) : List String :=
  let (input, dumped) := splitJudge body
  let p := parseCase input
  let ds := (splitEpochs dumped).map parseDump
  let bad := ds.foldl (fun acc d => acc ++ d.bad) []
  if !p.bad.isEmpty then p.bad.map (fun l => s!"bad-line {l}")
  else if !bad.isEmpty then bad.map (fun l => s!"bad-dump {l}")
  else
    -- the tables are BUILT by the model of the compiler; from the implementation's dump only the name-pointer
    -- ranks, the program ids and the list of dumped programs / objects are taken
    let d0 := ds.headD {}
    let env0 : MEnv := { d := d0, w := buildWorld p d0, rest := ds.drop 1 }
    let (_, s) := p.cmds.foldl (fun (es : MEnv × St) c =>
      let (env, s) := es
      let d := env.d
      let w := env.w
      let fresh := (d.names.foldl (fun m x => max m x.2) 0) + 1000
      let createKey := (d.key "create").getD (fresh + 7)
      let progOf (n : String) : Option Nat := w.progs.findIdx? (·.name == n)
      match c with
      | .ld oid pn =>
        (env,
         if d.failed.contains oid then { s with out := Ev.line s!"ld {oid} !fail" :: s.out }
         else match progOf pn with
          | some pi => { loadObj w createKey (w.progs.length + 1) { s with callOrigin := 0 } pi with labels := (oid, pi) :: s.labels.filter (·.1 != oid) }
          | none => { s with out := Ev.line s!"bad-prog {pn}" :: s.out })
      | .dump =>
        let lines := d.lines.map fun l =>
          match toks l with
          | "tbl" :: name :: _ =>
            match w.progs.find? (·.name == name) with
            | some P =>
              -- a program compiled again has a new id and the same table: the id is the environment's, taken from
              -- the dumped line
              renderTbl w { P with id := ((parseTbl l).map (·.id)).getD P.id }
            | none => s!"tbl {name} not-in-case"
          | "cmp" :: name :: _ =>
            -- the COMPRESSED table is computed by the model of compress_function_tables from the model-built table;
            -- the decidable hypothesis of `find_func_entry_compress` is evaluated on it (a violation is made visible in
            -- the compared line), and so is the round trip itself
            match w.progs.find? (·.name == name) with
            | some P =>
              let t := RTab.ofProgram P
              let c := compress t
              let wf := if t.cmpWF then "" else "!cmpwf"
              let rtOk := match c with
                | some c => decompress P.inherit c P.rt.length == P.rt.map some
                | none => false
              renderCmp (name ++ wf ++ (if rtOk then "" else "!roundtrip")) c
            | none => s!"cmp {name} not-in-case"
          | _ => l
        -- programs that came from saved binaries since the start of the case / the last reload.  Before a reload nothing
        -- can have been loaded from a binary (exact: 0).  After it the line has to show that binaries WERE used when the
        -- dispatch comparison is made: at least one and at most one per program file loaded so far.  Which programs the
        -- driver agrees to save / accepts as up to date is decided by save_binary / load_binary's staleness and size rules
        -- (the subject of C17 / C18), so the count inside these bounds is observed, not predicted; outside them the model
        -- prints its own expectation (every file loaded so far) and the traces differ.
        let full := s.objs.length
        let nbin :=
          if !(p.savebin && env.epoch > 0) || full == 0 then 0
          else match d.binloads with
            | some k => if 1 ≤ k && k ≤ full then k else full
            | none => full
        (env, { s with out := Ev.line s!"binloads {nbin}" :: ((lines.map Ev.line).reverse ++ s.out) })
      | .call o oid fn args =>
        (env,
         if o == .hb then doHeartBeat w s oid fn else
         match d.key fn with
         | some k => doCall w s o oid fn k args
         | none => { s with out := Ev.line s!"bad-name {fn}" :: s.out })
      | .callT isArray ts fn =>
        (env,
         match d.key fn with
         | some k => doCallTargets w createKey progOf s isArray ts fn k
         | none => { s with out := Ev.line s!"bad-name {fn}" :: s.out })
      | .cold => (env, { s with cache := Cache.empty })
      | .evict oid fn =>
        (env,
         match d.key fn with
         | some k => doEvict w s oid fn k (fresh + k)
         | none => { s with out := Ev.line s!"bad-name {fn}" :: s.out })
      | .reload =>
        -- everything is freed and loaded anew: the name strings live at other addresses (the ranks of the next dump);
        -- a freshly compiled program and a program re-sorted by sort_function_table must be the same table
        let d' := env.rest.headD {}
        let w' := buildWorld p d'
        let key' (n : String) : Nat := (d'.key n).getD (900000 + n.length * 131 + NV.C07.digitsOf n)
        let mism := (w.progs.zip w'.progs).filterMap fun (P, P') =>
          let R := resortProgram P key'
          if R.ft.map (fun e => (e.name, e.rindex, e.nameStr, e.ops)) == P'.ft.map (fun e => (e.name, e.rindex, e.nameStr, e.ops))
             && R.rt == P'.rt && R.flags == P'.flags then none
          else some (Ev.line s!"resort-mismatch {P.name}")
        ({ d := d', w := w', rest := env.rest.drop 1, epoch := env.epoch + 1 },
         { cache := Cache.empty, callOrigin := 0, objs := [], labels := [], out := mism ++ (Ev.line "reload done" :: s.out) }))
      (env0, ({} : St))
    s.out.reverse.map Ev.render

/-! ### judge mode -/

def parseEv (line : String) : Option Spec.Ev :=
  match toks line with
  | ["call", o, oid, fn] => some (.call o oid fn)
  | ["run", tag, old] =>
    match tag.splitOn ":", old.toInt? with
    | [f, n], some v => some (.run f n v)
    | _, _ => none
  | "args" :: vs => (vs.mapM String.toInt?).map .args
  | "err" :: _ => some .err
  | ["ret", v] => some (.ret v)
  | "vars" :: oid :: vs => (vs.mapM String.toInt?).map (.vars oid)
  | _ => none

/-- compare expected and observed events; verdict lines -/
def compareEvs (exp obs : List Spec.Ev) : List String :=
  let rec go (i : Nat) : List Spec.Ev → List Spec.Ev → List String
    | [], [] => []
    | e :: _, [] => [s!"dispatch at={i} expected=({e.show}) got=(end-of-trace)"]
    | [], o :: _ => [s!"dispatch at={i} expected=(end) got=({o.show})"]
    | e :: es, o :: os =>
      if e == o then go (i + 1) es os
      else
        let kind :=
          match e, o with
          | .ret "!no", .run .. => "visibility"       -- a refused call ran
          | .ret "0", .run .. => "visibility"
          | .run .., .ret "!no" => "call-lost"        -- an allowed call did not run
          | .run .., .ret "swept" => "call-lost"
          | .vars .., .vars .. => "variables"
          | .args .., .args .. => "arguments"         -- the callee found other values in its parameters
          | _, _ => "dispatch"
        [s!"{kind} at={i} expected=({e.show}) got=({o.show})"]
  go 0 exp obs

/-- the real tables must describe the same graph as the case: same programs, same defined names, same
    inherit lists -/
def abstractionCheck (g : Spec.AGraph) (d : Dump) : List String :=
  let w := d.world
  g.foldl (fun acc P =>
    match d.raws.find? (·.name == P.name) with
    | none => acc     -- not loaded in this case
    | some r =>
      let realDefs := (r.ft.filter (fun e => !(hasBit (r.flags.getD e.rindex 0) (Gen.C07.nameUndefined ||| Gen.C07.namePrototype ||| Gen.C07.nameInherited)))).map (·.nameStr)
      let specDefs := (P.fns.filter (·.isDef)).map (·.name)
      let realInh := r.inh.map (·.1)
      let specInh := P.inherits.map (·.parent)
      let acc := if realDefs.all specDefs.contains && specDefs.all realDefs.contains then acc
                 else acc ++ [s!"abstraction prog={P.name} defs real={realDefs} spec={specDefs}"]
      if realInh == specInh then acc else acc ++ [s!"abstraction prog={P.name} inherits real={realInh} spec={specInh}"]) []
  ++ (if w.progs.isEmpty && !d.objs.isEmpty then ["abstraction no-tables"] else [])

/-- every runtime slot of every dumped program against the specification: the slot's function name resolves in the
    abstract graph iff the slot is not NAME_UNDEFINED; if it resolves, the slot chases to the program the resolver
    names and its modifier bits are the specification's effective modifiers along that path -/
def slotsAgainstSpec (g : Spec.AGraph) (d : Dump) : List String :=
  let w := d.world
  let U := Gen.C07.nameUndefined
  w.progs.zipIdx.foldl (fun acc (P, pi) =>
    if (w.progs.take pi).any (·.name == P.name) then acc else     -- a re-compiled copy of the same file
    let gp := g.indexOf P.name
    if gp ≥ g.length then acc else
    (List.range P.flags.length).foldl (fun acc i =>
      let fl := P.flags.getD i 0
      match chase w w.fuel pi i 0 0 with
      | none => acc ++ [s!"build-slot prog={P.name} slot={i} does-not-chase"]
      | some fr =>
        let defProg := ((w.progs[fr.prog]?).map (·.name)).getD "?"
        let fn := ((w.progs[fr.prog]?.bind (·.ft[fr.fidx]?)).map (·.nameStr)).getD "?"
        match Spec.resolve g.toS gp fn with
        | none =>
          if hasBit fl U then acc else acc ++ [s!"build-slot prog={P.name} slot={i} fn={fn} unresolvable-but-not-undefined flags={fl}"]
        | some path =>
          let m := Spec.effMods g fn gp path
          let want := ((g[Spec.endOf g gp path]?).map (·.name)).getD "?"
          let ok := !(hasBit fl U) && defProg == want &&
            hasBit fl Gen.C07.nameStatic == m.static && hasBit fl Gen.C07.namePrivate == m.priv &&
            hasBit fl Gen.C07.nameProtected == m.prot && hasBit fl Gen.C07.namePublic == m.pub
          if ok then acc
          else acc ++ [s!"build-slot prog={P.name} slot={i} fn={fn} flags={fl} target={defProg} spec-target={want} spec-mods=static:{m.static},private:{m.priv},protected:{m.prot},public:{m.pub}"]) acc) []

def runJudge (body : List String) : List String :=
  let (input, impl) := splitJudge body
  let p := parseCase input
  let d := parseDump impl
  let crashes := impl.filter (fun l => l.startsWith "crash" || l.startsWith "sanitizer" || l.startsWith "badcmd")
  -- a case whose graph names a program it does not define is not a case (the shrinker must not produce one)
  let dangling := p.graph.foldl (fun acc P =>
    acc ++ (P.inherits.filter (fun i => p.graph.all (·.name != i.parent))).map (fun i => s!"{P.name} inherits undefined {i.parent}")) []
  if !p.bad.isEmpty then p.bad.map (fun l => s!"bad malformed-case {l}")
  else if !dangling.isEmpty then dangling.map (fun l => s!"bad malformed-case {l}")
  else if !crashes.isEmpty then crashes.map (fun l => s!"bad crash {l}")
  else if !d.failed.isEmpty then d.failed.map (fun o => s!"bad load-failed {o}")
  else
    let g := p.graph
    -- expected events from the specification
    let toST (t : Target) : Spec.STarget := match t with | .obj l => .obj l | .path n => .path n | .other => .other
    let st := p.cmds.foldl (fun (st : Spec.SSt) c =>
      match c with
      | .ld oid pn =>
        let pi := g.indexOf pn
        { Spec.specLoad g (g.length + 1) st pi with labels := (oid, pi) :: st.labels }
      | .call o oid fn args => Spec.specCall g st o.str oid fn args
      | .callT isArray ts fn => Spec.specCallTargets g st isArray (ts.map toST) fn
      | .reload => { st with objs := [], labels := [], stash := none }   -- every object is gone; variables start from 0
      | _ => st) {}
    let expRev := st.evs
    let obs := impl.filterMap parseEv
    let v1 := compareEvs expRev.reverse obs
    -- the table checks are made on the tables of every epoch (before / after each reload)
    let v23 := ((splitEpochs impl).map parseDump).foldl (fun acc d =>
      let w := d.world
      let v2 := if d.raws.isEmpty then [] else (wfReport w).map (fun s => s!"wf {s}")
      acc ++ v2 ++ abstractionCheck g d ++ slotsAgainstSpec g d) []
    -- a case that saves binaries must really load them after a reload (otherwise the comparison would say nothing
    -- about load_binary): `binloads 0` after a reload with objects loaded is a harness failure
    match v1 ++ v23 with
    | [] => ["ok"]
    | vs => vs.map (fun v => s!"bad {v}")

def main (mode : String) : IO Unit :=
  match mode with
  | "model" => serve runModel
  | "judge" => serve runJudge
  | _ => IO.eprintln s!"C07: unknown mode {mode}"

end NV.C07
