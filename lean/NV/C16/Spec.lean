/-
C16 — specification oracle.  It sees a case (the command lines) and the canonical trace of an implementation
(real driver or model) and decides whether property C16 held:

  * `rt v`   : the value restored from what save_variable wrote equals `v` (same types; floats equal in their
               "%g" text; object references come back as 0)
  * `rv text`: restoring arbitrary text ends in a value or an LPC error
  * `so`/`ro`: static variables and object references are not in the file; after restore_object the
               non-static variables hold the saved values, the static ones their live values
  * `cp`/`cf`: at every crash point / injected failure the save file holds the complete old or the complete
               new contents (new only when the save reported success)
  * nowhere a sanitizer report or a crashed process

It knows values, not save texts: nothing of escapes, size tables or cursors.

`FloatIO` is the concrete float instance of the driver (Lean `Float` = IEEE double, exact "%g").
-/
import NV.Common.Proto
import NV.C16.Model

namespace NV.C16

open NV.Proto

/-! ## IEEE doubles: exact `%g` -/

def pow10N (n : Nat) : Nat := 10 ^ n

/-- digits of n, at least `w` wide -/
def natDigits (n : Nat) (w : Nat := 1) : String :=
  let s := toString n
  String.ofList (List.replicate (w - s.length) '0') ++ s

def stripZeros (s : List Char) : List Char := (s.reverse.dropWhile (· == '0')).reverse

/-- glibc `printf("%g", x)` (precision 6), computed exactly from the bits -/
def fmtG (x : Float) : String :=
  let bits := x.toBits.toNat
  let sign := bits / 2 ^ 63
  let ex : Nat := (bits / 2 ^ 52) % 2048
  let frac : Nat := bits % 2 ^ 52
  let sg := if sign = 1 then "-" else ""
  if ex = 2047 then (if frac = 0 then sg ++ "inf" else sg ++ "nan")
  else if ex = 0 ∧ frac = 0 then sg ++ "0"
  else
    let m := if ex = 0 then frac else frac + 2 ^ 52
    let e : Int := if ex = 0 then -1074 else Int.ofNat ex - 1075
    let num := if e ≥ 0 then m * 2 ^ e.toNat else m
    let den := if e ≥ 0 then 1 else 2 ^ (-e).toNat
    -- X = floor(log10 v): largest X with 10^X <= num/den
    let ge10 (X : Int) : Bool := if X ≥ 0 then num ≥ den * pow10N X.toNat else num * pow10N (-X).toNat ≥ den
    -- start from the binary exponent: log10 v ≈ (e + bits m - 1) · 0.30103, then settle exactly
    let X0 : Int := Id.run do
      let mut X : Int := ((e + (Int.ofNat (Nat.log2 m))) * 30103) / 100000
      for _ in [0:700] do
        if ge10 (X + 1) then X := X + 1
        else if !ge10 X then X := X - 1
        else break
      return X
    let round (X : Int) : Nat :=
      let s : Int := 5 - X
      let a := if s ≥ 0 then num * pow10N s.toNat else num
      let b := if s ≥ 0 then den else den * pow10N (-s).toNat
      let q := a / b
      let r := a % b
      if 2 * r > b ∨ (2 * r = b ∧ q % 2 = 1) then q + 1 else q
    let N0 := round X0
    let X := if N0 ≥ 1000000 then X0 + 1 else X0
    let N := if N0 ≥ 1000000 then N0 / 10 else N0
    let ds := (natDigits N 6).toList
    if X < -4 ∨ X ≥ 6 then
      let fr := stripZeros (ds.drop 1)
      let mant := String.ofList (ds.take 1) ++ (if fr.isEmpty then "" else "." ++ String.ofList fr)
      sg ++ mant ++ "e" ++ (if X < 0 then "-" else "+") ++ natDigits X.natAbs 2
    else if X ≥ 0 then
      let ip := ds.take (X.toNat + 1)
      let fr := stripZeros (ds.drop (X.toNat + 1))
      sg ++ String.ofList ip ++ (if fr.isEmpty then "" else "." ++ String.ofList fr)
    else
      let fr := stripZeros (List.replicate ((-X).toNat - 1) '0' ++ ds)
      sg ++ "0." ++ String.ofList fr

def strBytes (s : String) : List Byte := s.toUTF8.toList.map (·.toNat)

/-- the float instance used by `nvdrive`: the very operations parse_numeric performs on doubles -/
def FloatIO : FloatOps Float where
  print x := strBytes (fmtG x)
  ofNat n := (UInt64.ofNat n).toFloat
  add := (· + ·)
  mul := (· * ·)
  div := (· / ·)
  neg x := -x
  pow10 e := Float.pow 10.0 (Float.ofInt e)
  eq a b := a == b
  isNan x := x.isNaN
  isInf x := x.isInf
  ltZero x := x < 0

def isFinite (x : Float) : Bool := (x.toBits.toNat / 2 ^ 52) % 2048 != 2047

/-- mblen of glibc's UTF-8 locale on a non-empty rest (strict UTF-8; lead bytes f5.. and stray continuation
    bytes are invalid) -/
def utf8LenF (s : List Byte) : Option Nat :=
  let cont (b : Byte) : Bool := 128 ≤ b && b ≤ 191
  match s with
  | [] => some 0
  | c :: r =>
    if c < 128 then some 1
    else if 194 ≤ c ∧ c ≤ 223 then
      match r with
      | a :: _ => if cont a then some 2 else none
      | _ => none
    else if 224 ≤ c ∧ c ≤ 239 then
      match r with
      | a :: b :: _ =>
        if cont a && cont b && (c != 224 || a ≥ 160) && (c != 237 || a ≤ 159) then some 3 else none
      | _ => none
    else if 240 ≤ c ∧ c ≤ 244 then
      match r with
      | a :: b :: d :: _ =>
        if cont a && cont b && cont d && (c != 240 || a ≥ 144) && (c != 244 || a ≤ 143) then some 4 else none
      | _ => none
    else none

/-- a character is one to four bytes long, and every byte after the first is a continuation byte -/
theorem utf8LenF_cons (c : Byte) (r : List Byte) (n : Nat) (h : utf8LenF (c :: r) = some n) :
    n = 1 ∨ (n = 2 ∧ ∃ a t, r = a :: t ∧ 128 ≤ a) ∨
    (n = 3 ∧ ∃ a b t, r = a :: b :: t ∧ 128 ≤ a ∧ 128 ≤ b) ∨
    (n = 4 ∧ ∃ a b d t, r = a :: b :: d :: t ∧ 128 ≤ a ∧ 128 ≤ b ∧ 128 ≤ d) := by
  simp only [utf8LenF] at h
  by_cases h1 : c < 128
  · rw [if_pos h1] at h; exact .inl (Option.some.inj h).symm
  rw [if_neg h1] at h
  by_cases h2 : 194 ≤ c ∧ c ≤ 223
  · rw [if_pos h2] at h
    match r, h with
    | a :: t, h =>
      simp only [] at h
      by_cases hc : (decide (128 ≤ a) && decide (a ≤ 191)) = true
      · rw [if_pos hc] at h
        simp only [Bool.and_eq_true, decide_eq_true_eq] at hc
        exact .inr (.inl ⟨(Option.some.inj h).symm, a, t, rfl, hc.1⟩)
      · rw [if_neg hc] at h; cases h
  rw [if_neg h2] at h
  by_cases h3 : 224 ≤ c ∧ c ≤ 239
  · rw [if_pos h3] at h
    match r, h with
    | a :: b :: t, h =>
      simp only [] at h
      split at h
      · rename_i hc
        simp only [Bool.and_eq_true, decide_eq_true_eq] at hc
        exact .inr (.inr (.inl ⟨(Option.some.inj h).symm, a, b, t, rfl, hc.1.1.1.1, hc.1.1.2.1⟩))
      · cases h
  rw [if_neg h3] at h
  by_cases h4 : 240 ≤ c ∧ c ≤ 244
  · rw [if_pos h4] at h
    match r, h with
    | a :: b :: d :: t, h =>
      simp only [] at h
      split at h
      · rename_i hc
        simp only [Bool.and_eq_true, decide_eq_true_eq] at hc
        exact .inr (.inr (.inr ⟨(Option.some.inj h).symm, a, b, d, t, rfl, hc.1.1.1.1.1, hc.1.1.1.2.1, hc.1.1.2.1⟩))
      · cases h
  rw [if_neg h4] at h; cases h

theorem utf8LenF_le (s : List Byte) (n : Nat) (h : utf8LenF s = some n) : n ≤ s.length := by
  cases s with
  | nil => cases h; exact Nat.le_refl 0
  | cons c r =>
    rcases utf8LenF_cons c r n h with rfl | ⟨rfl, a, t, rfl, _⟩ | ⟨rfl, a, b, t, rfl, _⟩ | ⟨rfl, a, b, d, t, rfl, _⟩ <;>
      simp only [List.length_cons] <;> omega

theorem utf8LenF_pos (s : List Byte) (n : Nat) (h : utf8LenF s = some n) (hs : s ≠ []) : 1 ≤ n := by
  cases s with
  | nil => exact absurd rfl hs
  | cons c r =>
    rcases utf8LenF_cons c r n h with rfl | ⟨rfl, _⟩ | ⟨rfl, _⟩ | ⟨rfl, _⟩ <;> omega

theorem utf8LenF_ascii (c : Byte) (r : List Byte) (h : c < 128) : utf8LenF (c :: r) = some 1 := by
  simp [utf8LenF, h]

theorem utf8LenF_cont (s : List Byte) (n : Nat) (h : utf8LenF s = some n) : ∀ b ∈ (s.take n).drop 1, 128 ≤ b := by
  cases s with
  | nil => intro b hb; simp at hb
  | cons c r =>
    rcases utf8LenF_cons c r n h with rfl | ⟨rfl, a, t, rfl, ha⟩ | ⟨rfl, a, b, t, rfl, ha, hb⟩ |
        ⟨rfl, a, b, d, t, rfl, ha, hb, hd⟩ <;>
      intro x hx <;> simp at hx <;> omega

def utf8Len : MbLen := ⟨utf8LenF, utf8LenF_pos, utf8LenF_le, utf8LenF_ascii, utf8LenF_cont⟩

abbrev V := Value Float

/-! ## case syntax of values (shared with harness/c16/c16.c) -/

def hexDigit (c : Char) : Option Nat :=
  if c.isDigit then some (c.toNat - 48)
  else if 'a' ≤ c ∧ c ≤ 'f' then some (c.toNat - 87)
  else if 'A' ≤ c ∧ c ≤ 'F' then some (c.toNat - 55)
  else none

def hexBytes : List Char → List Byte
  | a :: b :: r =>
    match hexDigit a, hexDigit b with
    | some x, some y => (x * 16 + y) :: hexBytes r
    | _, _ => []
  | _ => []

def hexOf (bs : List Byte) : String :=
  let hd (n : Nat) : Char := if n < 10 then Char.ofNat (48 + n) else Char.ofNat (87 + n)
  String.ofList (bs.flatMap (fun b => [hd (b / 16 % 16), hd (b % 16)]))

mutual
partial def parseVal : List Char → Option (V × List Char)
  | 'i' :: r =>
    let (neg, r1) := match r with | '-' :: t => (true, t) | t => (false, t)
    let ds := r1.takeWhile Char.isDigit
    if ds.isEmpty then none
    else
      let n : Nat := ds.foldl (fun (a : Nat) c => a * 10 + (c.toNat - 48)) 0
      some (.int (if neg then -(Int.ofNat n) else Int.ofNat n), r1.drop ds.length)
  | 'f' :: r =>
    let hs := r.take 16
    if hs.length = 16 ∧ hs.all (fun c => (hexDigit c).isSome) then
      let n := hs.foldl (fun a c => a * 16 + (hexDigit c).getD 0) 0
      some (.real (Float.ofBits (UInt64.ofNat n)), r.drop 16)
    else none
  | 's' :: r =>
    let hs := r.takeWhile (fun c => (hexDigit c).isSome)
    let k := hs.length / 2 * 2
    some (.str (hexBytes (hs.take k)), r.drop k)
  | 'o' :: r => some (.obj, r)
  | 'a' :: '[' :: r => (parseSeq ']' r []).map (fun p => (.arr (Vals.ofList p.1), p.2))
  | 'c' :: '(' :: r => (parseSeq ')' r []).map (fun p => (.cls (Vals.ofList p.1), p.2))
  | 'm' :: '{' :: r => (parsePairs r []).map (fun p => (.map (Pairs.ofList p.1), p.2))
  | _ => none
partial def parseSeq (close : Char) : List Char → List V → Option (List V × List Char)
  | c :: r, acc =>
    if c = close then some (acc.reverse, r)
    else
      match parseVal (c :: r) with
      | some (v, ',' :: r') => parseSeq close r' (v :: acc)
      | some (v, c' :: r') => if c' = close then some ((v :: acc).reverse, r') else none
      | _ => none
  | [], _ => none
partial def parsePairs : List Char → List (V × V) → Option (List (V × V) × List Char)
  | '}' :: r, acc => some (acc.reverse, r)
  | s, acc =>
    match parseVal s with
    | some (k, ':' :: r1) =>
      match parseVal r1 with
      | some (v, ',' :: r2) => parsePairs r2 ((k, v) :: acc)
      | some (v, '}' :: r2) => some (((k, v) :: acc).reverse, r2)
      | _ => none
    | _ => none
end

def parseValue (s : String) : Option V :=
  match parseVal s.toList with
  | some (v, []) => some v
  | _ => none

/-- bytewise lexicographic order (memcmp, shorter prefix first) -/
def bytesLt : List Byte → List Byte → Bool
  | [], [] => false
  | [], _ => true
  | _, [] => false
  | a :: r, b :: s => if a < b then true else if a > b then false else bytesLt r s

def sortBy {β} (key : β → List Byte) (l : List β) : List β :=
  (l.toArray.qsort (fun a b => bytesLt (key a) (key b))).toList

/-- canonical text of a value, the syntax of the case lines: mapping entries sorted bytewise.
    `approx`: floats by their "%g" text instead of their bits. -/
partial def pv (approx : Bool) : V → String
  | .int n => s!"i{n}"
  | .real x => if approx then "g" ++ String.ofList ((saveReal FloatIO x).map Char.ofNat) else "f" ++ natDigitsHex (if x.isNaN then 0x7ff8000000000000 else x.toBits.toNat)
  | .str s => "s" ++ hexOf s
  | .obj => "o"
  | .arr xs => "a[" ++ ",".intercalate (xs.toList.map (pv approx)) ++ "]"
  | .cls xs => "c(" ++ ",".intercalate (xs.toList.map (pv approx)) ++ ")"
  | .map ps =>
    let items := ps.toList.map (fun kv => pv approx kv.1 ++ ":" ++ pv approx kv.2)
    "m{" ++ ",".intercalate (sortBy strBytes items) ++ "}"
where
  natDigitsHex (n : Nat) : String :=
    let hd (k : Nat) : Char := if k < 10 then Char.ofNat (48 + k) else Char.ofNat (87 + k)
    String.ofList ((List.range 16).reverse.map (fun i => hd (n / 16 ^ i % 16)))

/-! ## what the property expects -/

/-- the value a restore must yield for a saved `v`: object references are not persisted -/
partial def expectOf : V → V
  | .obj => .int 0
  | .arr xs => .arr (Vals.ofList (xs.toList.map expectOf))
  | .cls xs => .cls (Vals.ofList (xs.toList.map expectOf))
  | .map ps => .map (Pairs.ofList (ps.toList.map (fun kv => (expectOf kv.1, expectOf kv.2))))
  | v => v

/-- CR replaced by LF in every string (the shape of known finding K1) -/
partial def crToLf : V → V
  | .str s => .str (s.map (fun c => if c = 13 then 10 else c))
  | .arr xs => .arr (Vals.ofList (xs.toList.map crToLf))
  | .cls xs => .cls (Vals.ofList (xs.toList.map crToLf))
  | .map ps => .map (Pairs.ofList (ps.toList.map (fun kv => (crToLf kv.1, crToLf kv.2))))
  | v => v

partial def anyVal (p : V → Bool) : V → Bool
  | .arr xs => p (.arr xs) || xs.toList.any (anyVal p)
  | .cls xs => p (.cls xs) || xs.toList.any (anyVal p)
  | .map ps => p (.map ps) || ps.toList.any (fun kv => anyVal p kv.1 || anyVal p kv.2)
  | v => p v

def isContainer : V → Bool
  | .arr _ | .cls _ | .map _ => true
  | _ => false

partial def depthOf : V → Nat
  | .arr xs => 1 + (xs.toList.map depthOf).foldl max 0
  | .cls xs => 1 + (xs.toList.map depthOf).foldl max 0
  | .map ps => 1 + (ps.toList.map (fun kv => max (depthOf kv.1) (depthOf kv.2))).foldl max 0
  | _ => 0

/-- subnormal double (exponent field 0, not zero) -/
def isSubnormal (x : Float) : Bool :=
  let b := x.toBits.toNat
  (b / 2 ^ 52) % 2048 == 0 && b % 2 ^ 52 != 0

def hasSubnormal (v : V) : Bool := anyVal (fun | .real x => isSubnormal x | _ => false) v

/-- a mapping with two float keys that print alike -/
def hasCollidingFloatKeys (v : V) : Bool :=
  anyVal (fun
    | .map ps =>
      let ks := ps.toList.filterMap (fun kv => match kv.1 with | .real x => some (fmtG x) | _ => none)
      ks.eraseDups.length != ks.length
    | _ => false) v

def hasNonFinite (v : V) : Bool := anyVal (fun | .real x => !isFinite x | _ => false) v

/-- a string whose bytes are not a sequence of valid multibyte characters of the UTF-8 locale -/
partial def badMb (s : List Byte) : Bool :=
  match s with
  | [] => false
  | _ => match utf8LenF s with
    | none => true
    | some 0 => true
    | some n => badMb (s.drop n)

def hasBadMbString (v : V) : Bool := anyVal (fun | .str s => badMb s | _ => false) v

/-- an upper bound of the length of the saved text of a value that needs no knowledge of the format beyond: a byte of a
    string takes at most two, a number at most 32 characters, a container 5 and one delimiter per element -/
partial def textUpper : V → Nat
  | .str s => 2 * s.length + 3
  | .arr xs => 5 + (xs.toList.map (fun v => textUpper v + 1)).foldl (· + ·) 0
  | .cls xs => 5 + (xs.toList.map (fun v => textUpper v + 1)).foldl (· + ·) 0
  | .map ps => 5 + (ps.toList.map (fun kv => textUpper kv.1 + textUpper kv.2 + 2)).foldl (· + ·) 0
  | _ => 32

/-- verdict on one restored value -/
def cmpRestored (what : String) (orig got : V) : List String :=
  let e := expectOf orig
  if pv true e == pv true got then []
  else if pv true (crToLf e) == pv true got then [s!"roundtrip-cr-became-lf {what}"]
  else if (match orig, got with | .real x, .int 0 => !isFinite x | _, _ => false) then
    [s!"roundtrip-nonfinite-float-became-0 {what}"]
  -- a class whose restore fails comes back as 0 without an error (restore_variable has no ROB_CLASS_ERROR branch)
  else if (match orig, got with | .cls _, .int 0 => hasNonFinite orig | _, _ => false) then
    [s!"roundtrip-nonfinite-float-restore-error {what}"]
  else if (match orig, got with | .cls _, .int 0 => hasBadMbString orig | _, _ => false) then
    [s!"roundtrip-invalid-multibyte-restore-error {what}"]
  else if hasSubnormal orig then [s!"roundtrip-subnormal-float-differs {what}"]
  else if hasCollidingFloatKeys orig then [s!"roundtrip-float-keys-print-alike {what}"]
  else [s!"roundtrip-value-differs {what} expected {pv true e} got {pv true got}"]

def cmpRestoreError (what : String) (orig : V) : List String :=
  if hasNonFinite orig then [s!"roundtrip-nonfinite-float-restore-error {what}"]
  else if isContainer orig ∧ hasBadMbString orig then [s!"roundtrip-invalid-multibyte-restore-error {what}"]
  else [s!"roundtrip-restore-error {what}"]

/-! ## the judge -/

structure JVar where
  name : String
  isStatic : Bool
  val : V

def layout0 : List JVar :=
  [⟨"vi", false, .int 0⟩, ⟨"vis", true, .int 0⟩, ⟨"va", false, .int 0⟩, ⟨"vb", false, .int 0⟩,
   ⟨"vs", true, .int 0⟩, ⟨"vo", false, .int 0⟩, ⟨"vc", false, .int 0⟩]

structure JState where
  live : List JVar := layout0
  /-- values of the variables at the last successful `so`, with its save_zeros flag; `none` when the file is not
      the product of a save (`wf`, `rm`, nothing yet) -/
  snap : Option (List JVar × Bool) := none
  hasFile : Bool := false
  /-- declared program graph of the case (`prog` lines): name ↦ (inherits (modifier, program), variables (modifier, name)) -/
  progs : List (String × List (String × String) × List (String × String)) := []
  bad : List String := []

def JState.flag (s : JState) (vs : List String) : JState := { s with bad := vs.reverse ++ s.bad }

def isZeroVal : V → Bool
  | .int 0 => true
  | _ => false

/-- split the implementation trace into the lines of one command: leading `err ...` lines are skipped -/
def nextLine : List String → Option (String × List String)
  | [] => none
  | l :: r => if l.startsWith "err " ∨ l.startsWith "caught " then nextLine r else some (l, r)

def memLines (impl : List String) : List String :=
  (impl.filter (fun l => l.startsWith "sanitizer" ∨ l.startsWith "crash" ∨ l.startsWith "badcmd" ∨
    l.startsWith "noobj")).map (fun l => s!"memory {l}")

def judgeRestored (s : JState) (what : String) (orig : V) (impl : List String) : JState × List String :=
  match nextLine impl with
  | some (l, r) =>
    match toks l with
    | ["rest", t] =>
      match parseValue t with
      | some got => (s.flag (cmpRestored what orig got), r)
      | none => (s.flag [s!"trace unparsable {l}"], r)
    | ["resterr"] => (s.flag (cmpRestoreError what orig), r)
    | _ => (s.flag [s!"trace unexpected {l}"], r)
  | none => (s.flag [s!"trace missing-rest {what}"], [])

def isSubseq : List String → List String → Bool
  | [], _ => true
  | _ :: _, [] => false
  | a :: r, b :: t => if a == b then isSubseq r t else isSubseq (a :: r) t

/-- the variable names in a save file, in order -/
def fileNames (hex : String) : List String :=
  let bytes := hexBytes hex.toList
  let lines := (splitLines bytes).map (fun l => String.ofList (l.map Char.ofNat))
  (lines.filter (fun l => l != "" ∧ !l.startsWith "#")).map (fun l => (l.splitOn " ").headD "")

/-- what the file may contain: exactly (save_zeros) / a subsequence of (otherwise) the names of the non-static
    variables in layout order — nothing static, nothing twice, nothing out of order; an object reference has no text -/
def fileChecks (live : List JVar) (zeros : Bool) (hex : String) : List String :=
  let want := (live.filter (fun v => !v.isStatic)).map (·.name)
  let got := fileNames hex
  let bytes := hexBytes hex.toList
  let lines := (splitLines bytes).map (fun l => String.ofList (l.map Char.ofNat))
  (if (zeros ∧ got == want) ∨ (!zeros ∧ isSubseq got want) then []
   else [s!"persisted-wrong-variables file has {got} expected {want}"]) ++
  -- (only while `vo` HOLDS an object reference: after a restore_object(file, 0) it is 0 and "vo 0" is right)
  (if live.any (fun v => v.name == "vo" && (match v.val with | .obj => true | _ => false)) ∧
      lines.any (fun l => l.startsWith "vo " ∧ l != "vo ") then
    ["persisted-object-reference vo"] else [])

/-- layout of a declared program: inherits in order (each with its subtree), then the own variables; static when
    declared static or reached through a static inherit -/
partial def declLayout (progs : List (String × List (String × String) × List (String × String))) (name : String)
    (st : Bool) : List JVar :=
  match progs.find? (fun p => p.1 == name) with
  | none => []
  | some (_, inhs, vars) =>
    let isSt (m : String) : Bool := m == "s" || m == "sp"
    (inhs.flatMap (fun i => declLayout progs i.2 (st || isSt i.1))) ++
      vars.map (fun v => (⟨v.2, st || isSt v.1, .int 0⟩ : JVar))

def hasDupNames (live : List JVar) : Bool :=
  let ns := live.map (·.name)
  ns.eraseDups.length != ns.length

def hasDupNamesL (ns : List String) : Bool := ns.eraseDups.length != ns.length

def expectedAfterRestore (s : JState) (noclear : Bool) : Option (List JVar) :=
  match s.snap with
  | none => none
  | some (snap, zeros) =>
    if snap.map (fun v => (v.name, v.isStatic)) != s.live.map (fun v => (v.name, v.isStatic)) then
      -- the file was written by ANOTHER program (version): matching is by name — a non-static variable takes the value
      -- of the non-static variable of that name that got a line (text "0" only with save_zeros); everything else keeps
      -- its live value (no-clear) or is 0 (cleared) / untouched (static)
      if hasDupNamesL (snap.map (·.name)) ∨ hasDupNamesL (s.live.map (·.name)) then none else
      some (s.live.map (fun lv =>
        if lv.isStatic then lv
        else match snap.find? (fun sv => sv.name == lv.name ∧ !sv.isStatic ∧ (zeros || !(isZeroVal (expectOf sv.val)))) with
          | some sv => { lv with val := sv.val }
          | none => if noclear then lv else { lv with val := .int 0 }))
    else
    some ((s.live.zip snap).map (fun (p : JVar × JVar) =>
      let lv := p.1
      let sv := p.2
      if lv.isStatic then lv
      else if zeros || !(isZeroVal (expectOf sv.val)) then { lv with val := sv.val }
      else if noclear then lv else { lv with val := .int 0 }))

def judgeCmd (s : JState) (cmd : String) (impl : List String) : JState × List String :=
  match toks cmd with
  | ["rt", vtxt] =>
    match parseValue vtxt with
    | none => (s, impl)
    | some v =>
      match nextLine impl with
      | some (l, r) =>
        if l.startsWith "save " ∨ l == "save" then judgeRestored s vtxt v r
        else if l == "saveerr" then
          -- a refusal is right for a value nested too deep, or — with the message of the length test — when the text can
          -- be longer than MaxStringLength at all (`textUpper`: no value whose text certainly fits may be refused)
          let tooLong := (impl.takeWhile (· != "saveerr")).any (fun e => e.startsWith "err save_variable: the saved text is longer") ∧
            textUpper v > maxStringLength
          (if depthOf v > maxDepth ∨ tooLong then s else s.flag [s!"save-refused {vtxt}"], r)
        else (s.flag [s!"trace unexpected {l}"], r)
      | none => (s.flag [s!"trace missing-save {vtxt}"], [])
  | "rtl" :: fn :: args =>
    let orig : Option V := match fn, args.map parseValue with
      | "mk", [some a, some b] => some (.cls (Vals.ofList [a, b]))
      | "big", [] => some (.real (Float.ofBits 0x7ff0000000000000))
      | _, _ => none
    match orig, nextLine impl with
    | some v, some (l, r) =>
      if l.startsWith "save " ∨ l == "save" then judgeRestored s cmd v r else (s.flag [s!"trace unexpected {l}"], r)
    | _, _ => (s, impl)
  | ["rx", vtxt, _] =>
    -- `rx <value> <hex>`: the text is a valid save text of <value> (made by the generator): it must restore to it
    match parseValue vtxt with
    | some v => judgeRestored s cmd v impl
    | none => (s, impl)
  | "rv" :: _ =>
    match nextLine impl with
    | some (l, r) =>
      if l.startsWith "rest " ∨ l == "resterr" then (s, r) else (s.flag [s!"trace unexpected {l}"], r)
    | none => (s.flag [s!"trace missing-rest {cmd}"], [])
  | ["set", i, a, b, st, c] =>
    match parseValue i, parseValue a, parseValue b, parseValue st, parseValue c with
    | some i, some a, some b, some st, some c =>
      ({ s with live := [⟨"vi", false, i⟩, ⟨"vis", true, st⟩, ⟨"va", false, a⟩, ⟨"vb", false, b⟩,
                          ⟨"vs", true, st⟩, ⟨"vo", false, .obj⟩, ⟨"vc", false, c⟩] }, impl)
    | _, _, _, _, _ => (s, impl)
  | "prog" :: name :: items =>
    let parts := items.map (fun x => x.splitOn ":")
    let inhs := parts.filterMap (fun t => match t with | ["i", m, n] => some (m, n) | _ => none)
    let vars := parts.filterMap (fun t => match t with | ["v", m, n] => some (m, n) | _ => none)
    ({ s with progs := (name, inhs, vars) :: s.progs }, impl)
  | ["useg", name] =>
    -- (the snapshot of the last save stays: a later restore into this other program is judged by name)
    ({ s with live := declLayout s.progs name false }, impl)
  | ["use", o] =>
    let lay := if o == "many" then (List.range 24).map (fun i => (⟨s!"w{i}", i % 4 == 3, .int 0⟩ : JVar)) else layout0
    ({ s with live := lay, snap := none }, impl)
  | ["setm", vt] =>
    match parseValue vt with
    | some (.arr xs) =>
      if xs.length == s.live.length then
        ({ s with live := (s.live.zip xs.toList).map (fun (p : JVar × V) => { p.1 with val := p.2 }) }, impl)
      else (s, impl)
    | _ => (s, impl)
  | "son" :: _ =>
    -- save_object under another name: the file the naming rule promises must have been made
    match nextLine impl with
    | some (l, r) =>
      -- `so 1 made=1 tmp=<hex> left=0`: the promised file was made, through a temporary of ANOTHER name that is gone
      match toks l, toks cmd with
      | ["so", "1", "made=1", tmp, "left=0"], [_, _, _, path] =>
        (if tmp == "tmp=" ++ path then s.flag [s!"atomic-temporary-is-the-save-file {cmd}"] else s, r)
      | _, _ => (s.flag [s!"save-object-name {cmd} : {l}"], r)
    | none => (s.flag ["trace missing-so"], [])
  | ["so", z] =>
    match nextLine impl with
    | some (l, r) =>
      let s1 := if l == "so 1" then { s with snap := some (s.live, z != "0"), hasFile := true }
                else if s.live.any (fun v => !v.isStatic && depthOf v.val > maxDepth) then s   -- refused: too deep
                else s.flag [s!"save-object-failed {l}"]
      match nextLine r with
      | some (fl, r2) =>
        let s2 := match toks fl with
          | ["file", "changed"] => s1.flag [s!"save-file-changed-by-failed-save after {l}"]
          | ["file", "unchanged"] => s1
          | ["file", hex] => if l == "so 1" then s1.flag (fileChecks s.live (z != "0") hex) else s1
          | _ => s1
        match r2 with
        | "tmp-left-behind" :: r3 => (s2.flag [s!"tmp-left-behind after {l}"], r3)
        | _ => (s2, r2)
      | none => (s1, [])
    | none => (s.flag ["trace missing-so"], [])
  | "sond" :: _ =>
    -- the save path is a directory: rename() fails for real: the save must report failure and leave no temporary
    match nextLine impl with
    | some (l, r) =>
      match toks l with
      | ["so", "0", _, _, "left=0"] => (s, r)
      | ["so", "0", _, _, _] => (s.flag [s!"tmp-left-behind after-rename-failure {l}"], r)
      | _ => (s.flag [s!"save-reported-success-although-rename-failed {l}"], r)
    | none => (s.flag ["trace missing-so"], [])
  | ["cl", _] =>
    -- a file-size limit of L bytes hits the save in the middle of a block stdio flushes: `cl` the write fails,
    -- `ck` the process is killed there.  A save that cannot write everything reports failure and leaves the old file and
    -- no temporary; a killed one leaves the old file; with room for everything the save succeeds.
    -- the lines of THIS command: its header `cl n=..` and what follows up to the next header
    let body := (impl.drop 1).takeWhile (fun l => (l.startsWith "cl " ∨ l.startsWith "ck ") ∧ !l.startsWith "cl n=")
    let mine := impl.take 1 ++ body
    let rest := impl.drop mine.length
    let n : Nat := (mine.findSome? (fun l => match toks l with
      | ["cl", x] => if x.startsWith "n=" then (x.drop 2).toString.toNat? else none
      | _ => none)).getD 0
    let oldOk (st : String) : Bool := st == "old" ∨ st == "both" ∨ (st == "none" ∧ !s.hasFile)
    let vs := mine.foldl (fun acc l =>
      match toks l with
      | [_, x] => if x.startsWith "n=" then acc else acc ++ [s!"trace unexpected {l}"]
      | [c, L, "killed", st, _] =>
        if c != "ck" then acc ++ [s!"trace unexpected {l}"]
        else if oldOk st then acc else acc ++ [s!"atomic-save-file-{st} killed-at-size-limit {L}"]
      | [_, L, ret, st, tmpf] =>
        if tmpf != "tmp=0" then acc ++ [s!"tmp-left-behind at-size-limit {L} {ret}"]
        else if ret == "ret=1" then
          (if L.toNat?.getD 0 < n then acc ++ [s!"save-reported-success-beyond-size-limit {L} of {n}"]
           else if st == "new" ∨ st == "both" then acc else acc ++ [s!"atomic-save-file-{st} at-size-limit {L} {ret}"])
        else if oldOk st then
          (if L.toNat?.getD 0 ≥ n then acc ++ [s!"save-failed-within-size-limit {L} of {n}"] else acc)
        else acc ++ [s!"atomic-save-file-{st} at-size-limit {L} {ret}"]
      | [_, L, "childcrash"] => acc ++ [s!"memory childcrash at-size-limit {L}"]
      | _ => acc ++ [s!"trace unexpected {l}"]) []
    (s.flag vs, rest)
  | "wf" :: _ => ({ s with snap := none, hasFile := true }, impl)
  | ["rm"] => ({ s with snap := none, hasFile := false }, impl)
  | ["rox", _, ext] =>
    -- restore of a file the generator made from known values: `ext` = the variables afterwards
    match nextLine impl with
    | some (l, r) =>
      match nextLine r with
      | some (vl, r2) =>
        match toks vl, parseValue ext with
        | ["vars", vt], some (.arr ex) =>
          match parseValue vt with
          | some (.arr got) =>
            let s' := { s with live := (s.live.zip got.toList).map (fun (p : JVar × V) => { p.1 with val := p.2 }) }
            if l != "ro 1" then (s'.flag [s!"roundtrip-restore-object-failed {l}"], r2)
            else if ex.length != got.length then (s'.flag [s!"trace vars-shape {vl}"], r2)
            else
              let names := s.live.map (·.name)
              (s'.flag ((names.zip (ex.toList.zip got.toList)).foldl
                (fun (acc : List String) (p : String × V × V) =>
                  -- a variable the file does not mention keeps its live value (an object reference stays one)
                  if pv true p.2.1 == pv true p.2.2 then acc else acc ++ cmpRestored p.1 p.2.1 p.2.2) []), r2)
          | _ => (s.flag [s!"trace vars-unparsable {vl}"], r2)
        | _, _ => (s.flag [s!"trace unexpected {vl}"], r2)
      | none => (s.flag ["trace missing-vars"], [])
    | none => (s.flag ["trace missing-ro"], [])
  | ["ro", nc] =>
    match nextLine impl with
    | some (l, r) =>
      match nextLine r with
      | some (vl, r2) =>
        match toks vl with
        | ["vars", vt] =>
          match parseValue vt with
          | some (.arr got) =>
            let gotL := got.toList
            if gotL.length != s.live.length then (s.flag [s!"trace vars-shape {vl}"], r2)
            else
              -- live values after the restore, as far as the trace tells
              let s' := { s with live := (s.live.zip gotL).map (fun (p : JVar × V) => { p.1 with val := p.2 }) }
              -- statics are never touched by a restore
              let stat0 := (s.live.zip gotL).foldl (fun (acc : List String) (p : JVar × V) =>
                if p.1.isStatic ∧ pv false (expectOf p.1.val) != pv false p.2 then
                  acc ++ [s!"static-variable-changed-by-restore {p.1.name}"] else acc) []
              -- restore_object(file, 1) goes through safe_restore_svalue: the variable whose line could not be restored
              -- (named in the error message) keeps the value it had
              let failed : Option String := (impl.takeWhile (· != "roerr")).findSome? (fun e =>
                if e.startsWith "err restore_object(): Illegal" then
                  match e.splitOn " while restoring " with
                  | [_, tail] => some (String.ofList (tail.toList.reverse.dropWhile (· == '.')).reverse)
                  | _ => none
                else none)
              let kept : List String :=
                if nc != "0" ∧ l == "roerr" then
                  match failed with
                  | some x =>
                    match (s.live.zip gotL).find? (fun (p : JVar × V) => p.1.name == x) with
                    | some p =>
                      if !p.1.isStatic ∧ pv false p.1.val != pv false p.2 ∧ pv false (expectOf p.1.val) != pv false p.2 then
                        [s!"variable-changed-by-failed-restore {x}"] else []
                    | none => []
                  | none => []
                else []
              let stat := stat0 ++ kept
              match expectedAfterRestore s (nc != "0"), l with
              | some ex, "ro 1" =>
                let vs0 := (ex.zip gotL).foldl (fun (acc : List String) (p : JVar × V) => acc ++ cmpRestored p.1.name p.1.val p.2) []
                -- two variables of one name at different inheritance levels: open finding K6
                let vs := if hasDupNames s.live ∧ !vs0.isEmpty then
                    vs0.map (fun v => if v.startsWith "roundtrip-" then "roundtrip-same-name-variables " ++ v else v)
                  else vs0
                ((s'.flag stat).flag vs, r2)
              | some _, _ =>
                let snapVars := match s.snap with | some (sv, _) => sv | none => []
                let known := snapVars.foldl (fun acc lv =>
                  if !lv.isStatic ∧ isContainer lv.val ∧ (hasNonFinite lv.val ∨ hasBadMbString lv.val) then
                    acc ++ cmpRestoreError lv.name lv.val
                  else acc) []
                ((s'.flag stat).flag (if known.isEmpty then [s!"roundtrip-restore-object-failed {l}"] else known), r2)
              | none, _ => (s'.flag stat, r2)
          | _ => (s.flag [s!"trace vars-unparsable {vl}"], r2)
        | _ => (s.flag [s!"trace unexpected {vl}"], r2)
      | none => (s.flag ["trace missing-vars"], [])
    | none => (s.flag ["trace missing-ro"], [])
  | [c, _] =>
    if c == "cp" ∨ c == "cf" then
      -- consume the `cp`/`cf` lines
      let mine := impl.takeWhile (fun l => l.startsWith (c ++ " "))
      let rest := impl.drop mine.length
      let vs := mine.foldl (fun acc l =>
        match toks l with
        | [_, k, st, _] =>      -- cp k state tmp=
          if k.startsWith "n=" then acc
          else if st == "old" ∨ st == "new" ∨ st == "both" ∨ (st == "none" ∧ !s.hasFile) then acc
          else acc ++ [s!"atomic-save-file-{st} at-crash-point {k}"]
        | [_, k, ret, st, tmpf] => -- cf k ret= state tmp=
          if tmpf != "tmp=0" then acc ++ [s!"tmp-left-behind after-failure {k} {ret}"]
          else if st == "both" ∨ (ret == "ret=1" ∧ st == "new") ∨ (ret != "ret=1" ∧ (st == "old" ∨ (st == "none" ∧ !s.hasFile))) then acc
          else acc ++ [s!"atomic-save-file-{st} after-failure {k} {ret}"]
        | [_, k, "childcrash"] => acc ++ [s!"memory childcrash {k}"]
        | [_, _] => acc
        | _ => acc ++ [s!"trace unexpected {l}"]) []
      (s.flag vs, rest)
    else (s, impl)
  | _ => (s, impl)

/-- "equal value" includes being FOUND: every entry of every mapping the harness prints (restored values, the
    variables after restore_object) is looked up through its key (`m[key]`); an entry that keys() / values() / a
    re-save list but no lookup reaches is reported by the harness as a line `lookup-miss <key> ..` -/
def lookupLines (impl : List String) : List String :=
  (impl.filter (fun l => l.startsWith "lookup-miss")).map
    (fun l => s!"mapping-entry-not-found-by-its-key {(l.drop 12).toString}")

def judge (cmds impl : List String) : List String :=
  let mem := memLines impl
  -- (`tbl ..`: the bucket layout of an integer-key mapping, compared with the model by the correspondence, not judged)
  let impl' := impl.filter (fun l => !(l.startsWith "sanitizer" ∨ l.startsWith "crash" ∨ l.startsWith "tree " ∨
    l.startsWith "lookup-miss" ∨ l.startsWith "tbl "))
  let (s, _) := cmds.foldl (fun (acc : JState × List String) c => judgeCmd acc.1 c acc.2) ({}, impl')
  mem ++ lookupLines impl ++ s.bad.reverse

end NV.C16
