/-
C16 — the entry points of save and restore do not see the file-scope state they are entered with, and the capacity loops
of the size table end (`TabInv`: an allocated table has a capacity > 0).  The state and the code are in Globals.lean.
-/
import NV.C16.Globals

namespace NV.C16

theorem restoreTextFrom_zero (F : FloatOps α) (mb : MbLen) (tb : Option (List Nat)) (t : List Byte) :
    restoreTextFrom F mb ⟨0, tb⟩ t = restoreSvalue F mb t := by
  unfold restoreTextFrom
  split
  · rename_i k s'
    split
    · rename_i hk
      simp [restoreContainerFrom, restoreSvalue, hk]
    · rfl
  · rfl

/-- **No entry point of the restore sees the state it is entered with**: whatever an earlier save or restore that ended
    in an LPC error left in the counter and the table, restore_svalue / safe_restore_svalue (hence restore_variable,
    restore_object with either flag, the socket read) behave as on a fresh driver -/
theorem restore_ignores_stale_state (F : FloatOps α) (mb : MbLen) (g : G) (t : List Byte) :
    restoreSvalueG F mb g t = restoreSvalue F mb t :=
  restoreTextFrom_zero F mb g.table t

/-- ... nor does any entry point of the save -/
theorem save_ignores_stale_state (F : FloatOps α) (g : G) (v : Value α) : saveSizeG F g v = saveSize F 0 v := rfl

/-! ## the size table and its capacity -/

theorem initCap_ok (depth : Nat) : ∀ (fuel cap : Nat), 0 < cap → depth < cap * 2 ^ fuel →
    ∃ c, initCap depth fuel cap = some c ∧ depth < c := by
  intro fuel
  induction fuel with
  | zero =>
    intro cap _ h
    rw [initCap]
    have : ¬ cap ≤ depth := by simp at h; omega
    simp [this]; omega
  | succ f ih =>
    intro cap hc h
    rw [initCap]
    by_cases hle : cap ≤ depth
    · simp only [hle, if_true]
      exact ih (cap * 2) (by omega) (by rw [Nat.pow_succ] at h; rw [Nat.mul_assoc, Nat.mul_comm 2]; exact h)
    · simp [hle]; omega

/-- the do-while loop shifts once, then is the while loop -/
theorem growCap_succ (depth : Nat) : ∀ (fuel cap : Nat), growCap depth (fuel + 1) cap = initCap depth fuel (cap * 2)
  | 0, cap => by rw [growCap, initCap, growCap]
  | f + 1, cap => by rw [growCap, initCap, growCap_succ depth f]

/-- **The capacity loops end and make room**, from every state an earlier restore — finished, failed or interrupted by an
    LPC error — can have left (`TabInv`), for every index -/
theorem ensure_ok (t : Tab) (depth : Nat) (hi : TabInv t) :
    ∃ t', ensure t depth (depth + 1) = some t' ∧ t'.alloc = true ∧ depth < t'.cap ∧ TabInv t' := by
  have hpow : depth < 2 ^ (depth + 1) := Nat.lt_of_lt_of_le Nat.lt_two_pow_self (Nat.pow_le_pow_right (by omega) (by omega))
  unfold ensure
  by_cases ha : t.alloc = false
  · simp only [ha, if_true]
    have h0 : 0 < NV.Gen.C16.sizeTableInitial := by decide
    obtain ⟨c, hc, hlt⟩ := initCap_ok depth (depth + 1) _ h0
      (Nat.lt_of_lt_of_le hpow (Nat.le_mul_of_pos_left _ h0))
    exact ⟨⟨true, c⟩, by simp [hc], rfl, hlt, fun _ => by show 0 < c; omega⟩
  · have ha' : t.alloc = true := by simpa using ha
    simp only [ha]
    by_cases hge : depth ≥ t.cap
    · simp only [hge, if_true]
      rw [growCap_succ]
      obtain ⟨c, hc, hlt⟩ := initCap_ok depth depth (t.cap * 2) (by have := hi ha'; omega)
        (by rw [Nat.mul_assoc, ← Nat.pow_succ']; exact Nat.lt_of_lt_of_le hpow (Nat.le_mul_of_pos_left _ (hi ha')))
      exact ⟨⟨true, c⟩, by simp [hc], rfl, hlt, fun _ => by show 0 < c; omega⟩
    · simp only [hge, if_false]
      exact ⟨t, rfl, ha', by omega, hi⟩

theorem release_inv : TabInv release := by intro h; cases h

end NV.C16
