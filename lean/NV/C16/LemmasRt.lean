/-
C16 — lemma layers of the round-trip theorem (NV.C16.ProofRoundtrip): integers, the domain in its inductive form
(`Savable`, with `KeysDistinct` for the keys of a mapping), strings, the bytes of a saved text, the pre-pass and the value
pass over one saved element (`Item`), mapping keys (where `KeysDistinct` comes from).
-/
import NV.C16.RtDefs
import NV.C16.Equations

namespace NV.C16

variable {α : Type}

/-! ## integers -/

theorem isDigit_false_iff (c : Byte) : isDigit c = false ↔ ¬ (48 ≤ c ∧ c ≤ 57) := by
  rw [← isDigit_iff]; simp

theorem digits_range (m : Nat) : ∀ b ∈ digits m, 48 ≤ b ∧ b ≤ 57 := by
  induction m using digits.induct with
  | case1 n h => rw [digits]; simp [h]; omega
  | case2 n h ih =>
    rw [digits]; simp only [h, ↓reduceDIte, List.mem_append, List.mem_singleton]
    intro b hb
    rcases hb with hb | hb
    · exact ih b hb
    · omega

theorem digits_ne_nil (m : Nat) : digits m ≠ [] := by
  rw [digits]; split <;> simp

theorem accDigits_cons (a c : Nat) (r : List Byte) :
    accDigits a (c :: r) = accDigits ((a * 10 + (c - 48)) % 2 ^ 64) r := by
  rw [accDigits.eq_def]

theorem accDigits_nil (a : Nat) : accDigits a [] = a := by
  rw [accDigits.eq_def]

theorem accDigits_append (a : Nat) (l : List Byte) (c : Byte) :
    accDigits a (l ++ [c]) = (accDigits a l * 10 + (c - 48)) % 2 ^ 64 := by
  induction l generalizing a with
  | nil => rw [List.nil_append, accDigits_cons, accDigits_nil, accDigits_nil]
  | cons x r ih => rw [List.cons_append, accDigits_cons, accDigits_cons, ih]

theorem accDigits_digits (m : Nat) (hm : m < 2 ^ 64) : accDigits 0 (digits m) = m := by
  induction m using digits.induct with
  | case1 n h =>
    rw [digits]; simp only [h, ↓reduceDIte]
    rw [accDigits_cons, accDigits_nil]; omega
  | case2 n h ih =>
    rw [digits]; simp only [h, ↓reduceDIte]
    rw [accDigits_append, ih (by omega)]; omega

/-- the digit loop over digits followed by a text at which it stops at once -/
theorem span_digits (ds tail : List Byte) (h : ∀ b ∈ ds, isDigit b = true) (ht : tail.span isDigit = ([], tail)) :
    (ds ++ tail).span isDigit = (ds, tail) := by
  rw [span_eq] at ht ⊢
  rw [List.takeWhile_append_of_pos h, List.dropWhile_append_of_pos h, (Prod.mk.inj ht).1, (Prod.mk.inj ht).2,
    List.append_nil]

theorem toInt64_magnitude (n : Int) (h1 : -(2 : Int) ^ 63 ≤ n) (h2 : n < (2 : Int) ^ 63) :
    toInt64 (decide (n < 0)) (magnitude n) = n := by
  unfold toInt64 magnitude
  by_cases h : n < 0
  · simp only [h, decide_true, ↓reduceIte, Int.ofNat_eq_natCast]
    split <;> omega
  · simp only [h, decide_false, Bool.false_eq_true, ↓reduceIte, Int.ofNat_eq_natCast]
    split <;> omega

/-- what may follow a number: the end of the text or a delimiter -/
def TailOK (tail : List Byte) : Prop := tail = [] ∨ ∃ d r, tail = d :: r ∧ (d = 44 ∨ d = 58)

theorem TailOK.span {tail : List Byte} (h : TailOK tail) : tail.span isDigit = ([], tail) := by
  rcases h with rfl | ⟨d, r, rfl, rfl | rfl⟩ <;> rfl

theorem parseNumeric_digits (F : FloatOps α) (c : Byte) (ds tail : List Byte) (hc : isDigit c = true)
    (hds : ∀ b ∈ ds, isDigit b = true) (ht : TailOK tail) :
    parseNumeric F c (ds ++ tail) = some (.int (toInt64 false (accDigits (c - 48) ds)), tail) := by
  have hc45 : c ≠ 45 := by rw [isDigit_iff] at hc; omega
  unfold parseNumeric
  simp only [hc45, ↓reduceIte, span_digits ds tail hds ht.span]
  rcases ht with rfl | ⟨d, r, rfl, hd | hd⟩
  · rfl
  · subst hd; rfl
  · subst hd; rfl

theorem parseNumeric_neg (F : FloatOps α) (c : Byte) (ds tail : List Byte) (hc : isDigit c = true)
    (hds : ∀ b ∈ ds, isDigit b = true) (ht : TailOK tail) :
    parseNumeric F 45 (c :: ds ++ tail) = some (.int (toInt64 true (accDigits (c - 48) ds)), tail) := by
  unfold parseNumeric
  simp only [↓reduceIte, List.cons_append, hc, span_digits ds tail hds ht.span]
  rcases ht with rfl | ⟨d, r, rfl, hd | hd⟩
  · rfl
  · subst hd; rfl
  · subst hd; rfl

/-- a text `c.d` of two digits around a point is read as a float, whatever delimiter follows -/
theorem parseNumeric_point (F : FloatOps α) (c d : Byte) (tail : List Byte) (hc : isDigit c = true)
    (hd : isDigit d = true) (ht : TailOK tail) :
    parseNumeric F c ([46, d] ++ tail) =
      some (.real (F.add (accFrac F (F.ofNat 0) (F.ofNat 10) [d]) (F.ofNat (c - 48))), tail) := by
  have hc45 : c ≠ 45 := by rw [isDigit_iff] at hc; omega
  have hspan : ([d] ++ tail).span isDigit = ([d], tail) :=
    span_digits [d] tail (by intro b hb; rw [List.mem_singleton.1 hb]; exact hd) ht.span
  have hspan0 : ([46, d] ++ tail).span isDigit = ([], [46, d] ++ tail) := rfl
  unfold parseNumeric
  simp only [List.cons_append, List.nil_append] at hspan hspan0 ⊢
  simp only [hc45, ↓reduceIte, hspan0, hspan, hd]
  rcases ht with rfl | ⟨e, r, rfl, he | he⟩
  · rfl
  · subst he; rfl
  · subst he; rfl
/-- a text that the restore functions read as the number `w`, whatever delimiter follows -/
structure NumText (F : FloatOps α) (t : List Byte) (w : Value α) : Prop where
  start : ∃ c s, t = c :: s ∧ numStart c = true
  chars : ∀ b ∈ t, b ≠ 0 ∧ b ≠ 10 ∧ b ≠ 44 ∧ b ≠ 58 ∧ b < 128
  parse : ∀ c s, t = c :: s → ∀ tail : List Byte, TailOK tail →
    ∃ y, parseNumeric F c (s ++ tail) = some (y, tail) ∧ Equiv F w y

theorem digits_decomp (m : Nat) (hm : m < 2 ^ 64) :
    ∃ c ds, digits m = c :: ds ∧ isDigit c = true ∧ (∀ b ∈ ds, isDigit b = true) ∧
      accDigits (c - 48) ds = m := by
  have hr := digits_range m
  have ha := accDigits_digits m hm
  cases hd : digits m with
  | nil => exact absurd hd (digits_ne_nil m)
  | cons c ds =>
    rw [hd] at hr ha
    have hc := hr c (by simp)
    refine ⟨c, ds, rfl, (isDigit_iff c).2 hc, fun b hb => (isDigit_iff b).2 (hr b (by simp [hb])), ?_⟩
    rw [accDigits_cons] at ha
    have : (0 * 10 + (c - 48)) % 2 ^ 64 = c - 48 := by omega
    rw [this] at ha; exact ha

theorem numText_int (F : FloatOps α) (n : Int) (h1 : -(2 : Int) ^ 63 ≤ n) (h2 : n < (2 : Int) ^ 63) :
    NumText F (saveInt n) (.int n) := by
  have hm : magnitude n < 2 ^ 64 := by unfold magnitude; omega
  obtain ⟨c, ds, hd, hc, hds, hacc⟩ := digits_decomp (magnitude n) hm
  have hr := digits_range (magnitude n)
  have hti := toInt64_magnitude n h1 h2
  by_cases hn : n < 0
  · have hs : saveInt n = 45 :: c :: ds := by simp [saveInt, hn, hd]
    simp only [hn, decide_true] at hti
    refine ⟨⟨45, c :: ds, hs, by decide⟩, ?_, ?_⟩
    · intro b hb
      rw [hs, ← hd] at hb
      rcases List.mem_cons.1 hb with rfl | hb
      · omega
      · have := hr b hb; omega
    · intro c' s' he tail ht
      rw [hs] at he
      injection he with he1 he2
      subst he1; subst he2
      refine ⟨_, parseNumeric_neg F c ds tail hc hds ht, ?_⟩
      rw [hacc, hti]; exact Equiv.int n
  · have hs : saveInt n = c :: ds := by simp [saveInt, hn, hd]
    simp only [hn, decide_false] at hti
    refine ⟨⟨c, ds, hs, by simp [numStart, hc]⟩, ?_, ?_⟩
    · intro b hb
      rw [hs, ← hd] at hb
      have := hr b hb; omega
    · intro c' s' he tail ht
      rw [hs] at he
      injection he with he1 he2
      subst he1; subst he2
      refine ⟨_, parseNumeric_digits F c ds tail hc hds ht, ?_⟩
      rw [hacc, hti]; exact Equiv.int n

theorem numText_real (F : FloatOps α) (x : α) (h : FloatOK F x) : NumText F (saveReal F x) (.real x) := by
  refine ⟨h.start, h.chars, ?_⟩
  intro c s he tail ht
  obtain ⟨y, hy, hp⟩ := h.parse c s he tail ht
  exact ⟨.real y, hy, Equiv.real x y hp.symm⟩

/-! ## the domain as an inductive predicate (internal form of `savable` + `FloatsOK`) -/

/-- `strOK` (RtDefs.lean) as a proposition -/
def StrOK (s : List Byte) : Prop := ∀ b ∈ s, b ≠ 0

/-- **Keys that stay different keys through a save / restore**: whatever values equal to two keys up to `Equiv` (equal
    integers / strings, floats with the same saved text) come back, `msameval` — the duplicate test of restore_mapping —
    tells them apart.  Follows from pairwise different integer / string / object keys when there is no float key
    (`keysDistinct_of_tags`), and for float keys from pairwise different saved texts plus the contract of `==` on the
    floats with those texts (`keysDistinct_of_tagsF`) -/
def KeysDistinct (F : FloatOps α) (ks : List (Value α)) : Prop :=
  ks.Pairwise (fun x y => ∀ x' y', Equiv F (erase x) x' → Equiv F (erase y) y' → sameKey F x' y' = false)

mutual
inductive Savable (F : FloatOps α) : Value α → Prop
  | int (n : Int) : -(2 : Int) ^ 63 ≤ n → n < (2 : Int) ^ 63 → Savable F (.int n)
  | real (x : α) : FloatOK F x → Savable F (.real x)
  | str (s : List Byte) : StrOK s → Savable F (.str s)
  | obj : Savable F .obj
  | arr (xs : Vals α) : SavableVals F xs → xs.length ≤ maxArray → Savable F (.arr xs)
  | cls (xs : Vals α) : SavableVals F xs → xs.length ≤ maxClass → Savable F (.cls xs)
  | map (ps : Pairs α) : SavablePairs F ps → KeysDistinct F ps.keys → Savable F (.map ps)
inductive SavableVals (F : FloatOps α) : Vals α → Prop
  | nil : SavableVals F .nil
  | cons (v : Value α) (r : Vals α) : Savable F v → SavableVals F r → SavableVals F (.cons v r)
inductive SavablePairs (F : FloatOps α) : Pairs α → Prop
  | nil : SavablePairs F .nil
  | cons (k v : Value α) (r : Pairs α) : Savable F k → Savable F v → SavablePairs F r → SavablePairs F (.cons k v r)
end

theorem strOK_iff (s : List Byte) : strOK s = true ↔ StrOK s := by
  simp [strOK, StrOK]


/-! ## strings: what is used of the regenerated escape sets -/

/-- `escByte` independent of the concrete lists -/
theorem escByte_eq (c : Byte) :
    escByte c = if c = 34 ∨ c = 92 ∨ c = 13 then [92, c] else if c = 10 then [13] else [c] := by
  rw [escByte, swap_vals.1, swap_vals.2]
  by_cases h : c = 34 ∨ c = 92 ∨ c = 13
  · rw [if_pos h, if_pos ((saveEscaped_iff c).2 h)]
  · rw [if_neg h, if_neg (mt (saveEscaped_iff c).1 h)]

theorem decodeStr_esc (s rest : List Byte) :
    decodeStr (escStr s ++ 34 :: rest) = some (s, rest) := by
  induction s with
  | nil => simp [escStr, decodeStr_cons]
  | cons c r ih =>
    simp only [escStr, escByte_eq]
    by_cases h1 : c = 34 ∨ c = 92 ∨ c = 13
    · simp [h1, decodeStr_cons, ih]
    · have h34 : c ≠ 34 := fun h => h1 (Or.inl h)
      have h92 : c ≠ 92 := fun h => h1 (Or.inr (Or.inl h))
      have h13 : c ≠ 13 := fun h => h1 (Or.inr (Or.inr h))
      by_cases h10 : c = 10
      · subst h10; simp [decodeStr_cons, ih]
      · simp [h10, decodeStr_cons, ih, h34, h92, h13]

theorem skipStr_esc (s rest : List Byte) : skipStr (escStr s ++ 34 :: rest) = some rest := by
  rw [skipStr_eq_decodeStr, decodeStr_esc]; rfl

theorem skipStrMb_esc (mb : MbLen) (s rest : List Byte) (fuel : Nat)
    (hf : (escStr s ++ 34 :: rest).length < fuel) :
    skipStrMb mb fuel (escStr s ++ 34 :: rest) = MbScan.closed rest := by
  rw [skipStrMb_eq mb fuel _ hf, skipStr_esc]

theorem escStr_bytes (s : List Byte) (hs : StrOK s) : ∀ b ∈ escStr s, b ≠ 0 ∧ b ≠ 10 := by
  induction s with
  | nil => intro b hb; nomatch hb
  | cons c r ih =>
    have hc : c ≠ 0 := hs c (by simp)
    intro b hb
    rw [escStr, List.mem_append] at hb
    rcases hb with hb | hb
    · rw [escByte_eq] at hb
      split at hb
      · simp at hb; omega
      · split at hb <;> simp at hb <;> omega
    · exact ih (fun b hb => hs b (by simp [hb])) b hb

/-! ## inversion of `Savable` -/

section inv
variable {F : FloatOps α}

theorem Savable.int_inv {n : Int} (h : Savable F (.int n)) : -(2 : Int) ^ 63 ≤ n ∧ n < (2 : Int) ^ 63 := by
  cases h; exact ⟨by assumption, by assumption⟩
theorem Savable.real_inv {x : α} (h : Savable F (.real x)) : FloatOK F x := by
  cases h; assumption
theorem Savable.str_inv {s : List Byte} (h : Savable F (.str s)) : StrOK s := by
  cases h; assumption
theorem Savable.arr_inv {xs : Vals α} (h : Savable F (.arr xs)) : SavableVals F xs ∧ xs.length ≤ maxArray := by
  cases h; exact ⟨by assumption, by assumption⟩
theorem Savable.cls_len {xs : Vals α} (h : Savable F (.cls xs)) : xs.length ≤ maxClass := by
  cases h; assumption
theorem Savable.cls_inv {xs : Vals α} (h : Savable F (.cls xs)) : SavableVals F xs := by
  cases h; assumption
theorem Savable.map_inv {ps : Pairs α} (h : Savable F (.map ps)) :
    SavablePairs F ps ∧ KeysDistinct F ps.keys := by
  cases h; exact ⟨by assumption, by assumption⟩
theorem SavableVals.cons_inv {v : Value α} {r : Vals α} (h : SavableVals F (.cons v r)) :
    Savable F v ∧ SavableVals F r := by
  cases h; exact ⟨by assumption, by assumption⟩
theorem SavablePairs.key {k v : Value α} {r : Pairs α} (h : SavablePairs F (.cons k v r)) : Savable F k := by
  cases h; assumption
theorem SavablePairs.val {k v : Value α} {r : Pairs α} (h : SavablePairs F (.cons k v r)) : Savable F v := by
  cases h; assumption
theorem SavablePairs.rest {k v : Value α} {r : Pairs α} (h : SavablePairs F (.cons k v r)) : SavablePairs F r := by
  cases h; assumption

end inv

/-! ## a saved text has neither a NUL (the end of the C string) nor an LF (the line terminator of the save file) -/

theorem mem_bracketed {b o k c e : Byte} {t : List Byte} (h : b ∈ o :: k :: (t ++ [c, e])) :
    b = o ∨ b = k ∨ b ∈ t ∨ b = c ∨ b = e := by
  simpa using h

mutual
theorem save_bytes (F : FloatOps α) : (v : Value α) → Savable F v → ∀ b ∈ save F v, b ≠ 0 ∧ b ≠ 10
  | .int n, hs => by
    intro b hb; rw [save] at hb
    have := (numText_int F n hs.int_inv.1 hs.int_inv.2).chars b hb
    exact ⟨this.1, this.2.1⟩
  | .real x, hs => by
    intro b hb; rw [save] at hb
    have := (numText_real F x hs.real_inv).chars b hb
    exact ⟨this.1, this.2.1⟩
  | .str s, hs => by
    intro b hb
    rw [save, List.mem_cons, List.mem_append, List.mem_singleton] at hb
    rcases hb with rfl | hb | rfl
    · omega
    · exact escStr_bytes s hs.str_inv b hb
    · omega
  | .arr xs, hs => by
    intro b hb; rw [save] at hb
    rcases mem_bracketed hb with rfl | rfl | hb | rfl | rfl
    · omega
    · omega
    · exact saveElems_bytes F xs hs.arr_inv.1 b hb
    · omega
    · omega
  | .cls xs, hs => by
    intro b hb; rw [save] at hb
    rcases mem_bracketed hb with rfl | rfl | hb | rfl | rfl
    · omega
    · omega
    · exact saveElems_bytes F xs hs.cls_inv b hb
    · omega
    · omega
  | .map ps, hs => by
    intro b hb; rw [save] at hb
    rcases mem_bracketed hb with rfl | rfl | hb | rfl | rfl
    · omega
    · omega
    · exact savePairs_bytes F ps hs.map_inv.1 b hb
    · omega
    · omega
  | .obj, _ => by intro b hb; rw [save] at hb; nomatch hb
theorem saveElems_bytes (F : FloatOps α) : (xs : Vals α) → SavableVals F xs → ∀ b ∈ saveElems F xs, b ≠ 0 ∧ b ≠ 10
  | .nil, _ => by intro b hb; rw [saveElems] at hb; nomatch hb
  | .cons v r, hs => by
    intro b hb
    rw [saveElems, List.mem_append, List.mem_cons] at hb
    rcases hb with hb | rfl | hb
    · exact save_bytes F v hs.cons_inv.1 b hb
    · omega
    · exact saveElems_bytes F r hs.cons_inv.2 b hb
theorem savePairs_bytes (F : FloatOps α) : (ps : Pairs α) → SavablePairs F ps →
    ∀ b ∈ savePairs F ps, b ≠ 0 ∧ b ≠ 10
  | .nil, _ => by intro b hb; rw [savePairs] at hb; nomatch hb
  | .cons k v r, hs => by
    intro b hb
    rw [savePairs, List.mem_append, List.mem_cons, List.mem_append, List.mem_cons] at hb
    rcases hb with hb | rfl | hb | rfl | hb
    · exact save_bytes F k hs.key b hb
    · omega
    · exact save_bytes F v hs.val b hb
    · omega
    · exact savePairs_bytes F r hs.rest b hb
end

theorem save_nz (F : FloatOps α) (v : Value α) (hs : Savable F v) : ∀ b ∈ save F v, b ≠ 0 :=
  fun b hb => (save_bytes F v hs b hb).1

theorem save_nl (F : FloatOps α) (v : Value α) (hs : Savable F v) : ∀ b ∈ save F v, b ≠ 10 :=
  fun b hb => (save_bytes F v hs b hb).2

theorem saveElems_nz (F : FloatOps α) : (xs : Vals α) → SavableVals F xs → ∀ b ∈ saveElems F xs, b ≠ 0 :=
  fun xs hs b hb => (saveElems_bytes F xs hs b hb).1

theorem savePairs_nz (F : FloatOps α) : (ps : Pairs α) → SavablePairs F ps → ∀ b ∈ savePairs F ps, b ≠ 0 :=
  fun ps hs b hb => (savePairs_bytes F ps hs b hb).1

theorem saveElems_nl (F : FloatOps α) : (xs : Vals α) → SavableVals F xs → ∀ b ∈ saveElems F xs, b ≠ 10 :=
  fun xs hs b hb => (saveElems_bytes F xs hs b hb).2

theorem savePairs_nl (F : FloatOps α) : (ps : Pairs α) → SavablePairs F ps → ∀ b ∈ savePairs F ps, b ≠ 10 :=
  fun ps hs b hb => (savePairs_bytes F ps hs b hb).2

theorem cstr_eq_self (t : List Byte) (h : ∀ b ∈ t, b ≠ 0) : cstr t = t := by
  unfold cstr
  induction t with
  | nil => rfl
  | cons c r ih =>
    have hc : c ≠ 0 := h c (by simp)
    simp only [List.takeWhile_cons, ne_eq, hc, not_false_eq_true, decide_true, ↓reduceIte]
    rw [ih (fun b hb => h b (by simp [hb]))]

/-! ## `svalue_save_size` succeeded: the nesting of the value is within MAX_SAVE_SVALUE_DEPTH -/

theorem sizeElems_cons_some {F : FloatOps α} {d : Nat} {v : Value α} {r : Vals α}
    (h : (sizeElems F d (.cons v r)).isSome = true) :
    (saveSize F d v).isSome = true ∧ (sizeElems F d r).isSome = true := by
  obtain ⟨n, hn⟩ := Option.isSome_iff_exists.1 h
  obtain ⟨a, b, ha, hb, _⟩ := sizeElems_cons_eq hn
  exact ⟨ha ▸ rfl, hb ▸ rfl⟩

theorem sizePairs_cons_some {F : FloatOps α} {d : Nat} {k v : Value α} {r : Pairs α}
    (h : (sizePairs F d (.cons k v r)).isSome = true) :
    (saveSize F d k).isSome = true ∧ (saveSize F d v).isSome = true ∧ (sizePairs F d r).isSome = true := by
  obtain ⟨n, hn⟩ := Option.isSome_iff_exists.1 h
  obtain ⟨a, b, c, ha, hb, hc, _⟩ := sizePairs_cons_eq hn
  exact ⟨ha ▸ rfl, hb ▸ rfl, hc ▸ rfl⟩

/-! ## the size pre-pass over the forms a saved element takes -/

/-- the nesting test of restore_internal_size passes: restore_size (`top`) has none, below it the level is within
    MAX_SAVE_SVALUE_DEPTH -/
def NestOK (top : Bool) (nest : Nat) : Prop := top = true ∨ nest ≤ maxDepth

/-- within the nesting limit the test of restore_internal_size passes and `preD` makes its step -/
theorem preD_succ_of_nestOK (mb : MbLen) (fuel nest : Nat) (top isMap idx : Bool) (c : Byte) (r : List Byte) (size : Nat)
    (zs : List Nat) (hn : NestOK top nest) :
    preD mb (fuel + 1) nest top isMap idx (c :: r) size zs =
      preCont (preD mb fuel nest top isMap (idxNext isMap idx))
        (fun m b => preD mb fuel (nest + 1) false m false b 0 []) (delimOf isMap idx) size zs
        (preStep mb top isMap idx c r) := by
  rw [preD_succ, if_neg]
  rcases hn with rfl | hn
  · exact Bool.false_ne_true
  · simp only [Bool.and_eq_true, decide_eq_true_eq, not_and]; omega

/-- restore_size steps over an ASCII byte as restore_internal_size does -/
theorem mbRest_ascii (mb : MbLen) (top : Bool) (c : Byte) (r : List Byte) (hc : c < 128) :
    (if top = true then (c :: r).drop (mbStep mb (c :: r)) else r) = r := by
  cases top
  · rfl
  · rw [if_pos rfl, mbStep_ascii mb c r hc]; rfl

section prelemmas
variable (mb : MbLen) (fuel nest : Nat) (top isMap idx : Bool) (size : Nat) (zs : List Nat)

/-- an empty element (an object reference): the delimiter itself -/
theorem preD_empty (d : Byte) (hd : delimOf isMap idx = d) (r : List Byte) (hn : NestOK top nest) :
    preD mb (fuel + 1) nest top isMap idx (d :: r) size zs =
      preD mb fuel nest top isMap (idxNext isMap idx) r (size + 1) zs := by
  have h := delimOf_cases isMap idx
  rw [hd] at h
  have hs : preStep mb top isMap idx d r = .elem r := by
    rw [preStep, mbRest_ascii mb top d r (by omega), hd]
    rcases h with rfl | rfl <;> rfl
  rw [preD_succ_of_nestOK _ _ _ _ _ _ _ _ _ _ hn, hs]; rfl

theorem preD_num (d : Byte) (hd : delimOf isMap idx = d) (c : Byte) (s rest : List Byte)
    (hc : numStart c = true) (hs : ∀ b ∈ s, b ≠ d) (hn : NestOK top nest) :
    preD mb (fuel + 1) nest top isMap idx (c :: (s ++ d :: rest)) size zs =
      preD mb fuel nest top isMap (idxNext isMap idx) rest (size + 1) zs := by
  rw [numStart_iff] at hc
  have hst : preStep mb top isMap idx c (s ++ d :: rest) = .elem rest := by
    rw [preStep, mbRest_ascii mb top c _ (by omega), hd, if_neg (by omega), if_neg (by omega), if_neg (by omega),
      if_neg (by omega), if_neg (by omega), afterDelim_skip d s rest hs]
  rw [preD_succ_of_nestOK _ _ _ _ _ _ _ _ _ _ hn, hst]; rfl

theorem preD_str (d : Byte) (hd : delimOf isMap idx = d) (s rest : List Byte) (hn : NestOK top nest) :
    preD mb (fuel + 1) nest top isMap idx (34 :: (escStr s ++ 34 :: d :: rest)) size zs =
      preD mb fuel nest top isMap (idxNext isMap idx) rest (size + 1) zs := by
  have hst : preStep mb top isMap idx 34 (escStr s ++ 34 :: d :: rest) = .elem rest := by
    rw [preStep, mbRest_ascii mb top 34 _ (by omega), hd, if_pos rfl]
    cases top
    · rw [if_neg Bool.false_ne_true, skipStr_esc]; exact if_pos rfl
    · rw [if_pos rfl, skipStrMb_esc mb s (d :: rest) _ (by omega)]; exact if_pos rfl
  rw [preD_succ_of_nestOK _ _ _ _ _ _ _ _ _ _ hn, hst]; rfl

theorem preD_nested (d : Byte) (hd : delimOf isMap idx = d) (k : Byte) (hk : k = 123 ∨ k = 91 ∨ k = 47)
    (r1 rest : List Byte) (n : Nat) (zs' : List Nat)
    (h : preD mb fuel (nest + 1) false (k = 91) false r1 0 [] = some (d :: rest, n, zs')) (hn : NestOK top nest) :
    preD mb (fuel + 1) nest top isMap idx (40 :: k :: r1) size zs =
      preD mb fuel nest top isMap (idxNext isMap idx) rest (size + 1) (zs ++ n :: zs') := by
  have hst : preStep mb top isMap idx 40 (k :: r1) = .nested (k = 91) r1 := by
    rw [preStep, mbRest_ascii mb top 40 _ (by omega), if_neg (by omega), if_pos rfl]
    exact if_pos hk
  rw [preD_succ_of_nestOK _ _ _ _ _ _ _ _ _ _ hn, hst, hd]
  simp only [preCont, h, if_true]

theorem preD_close_vals (c : Byte) (hc : c = 125 ∨ c = 47) (rest : List Byte) (hn : NestOK top nest) :
    preD mb (fuel + 1) nest top false idx (c :: 41 :: rest) size zs = some (rest, size, zs) := by
  have hst : preStep mb top false idx c (41 :: rest) = .close rest := by
    rw [preStep, mbRest_ascii mb top c _ (by omega), if_neg (by omega), if_neg (by omega), if_neg (by omega),
      if_pos (by omega)]
    rfl
  rw [preD_succ_of_nestOK _ _ _ _ _ _ _ _ _ _ hn, hst]; rfl

theorem preD_close_map (rest : List Byte) (hn : NestOK top nest) :
    preD mb (fuel + 1) nest top true idx (93 :: 41 :: rest) size zs = some (rest, size, zs) := by
  have hst : preStep mb top true idx 93 (41 :: rest) = .close rest := by
    rw [preStep, mbRest_ascii mb top 93 _ (by omega)]; rfl
  rw [preD_succ_of_nestOK _ _ _ _ _ _ _ _ _ _ hn, hst]; rfl

end prelemmas

/-! ## the value pass -/

def Vals.app : Vals α → Vals α → Vals α
  | .nil, ys => ys
  | .cons x r, ys => .cons x (r.app ys)

def Pairs.app : Pairs α → Pairs α → Pairs α
  | .nil, ys => ys
  | .cons k v r, ys => .cons k v (r.app ys)

theorem Vals.snoc_app : (acc : Vals α) → (v : Value α) → (ys : Vals α) →
    (acc.snoc v).app ys = acc.app (.cons v ys)
  | .nil, _, _ => rfl
  | .cons x r, v, ys => by simp [Vals.snoc, Vals.app, Vals.snoc_app r v ys]

theorem Vals.app_nil : (acc : Vals α) → acc.app .nil = acc
  | .nil => rfl
  | .cons x r => by simp [Vals.app, Vals.app_nil r]

theorem Pairs.snoc_app : (acc : Pairs α) → (k v : Value α) → (ys : Pairs α) →
    (acc.snoc k v).app ys = acc.app (.cons k v ys)
  | .nil, _, _, _ => rfl
  | .cons a b r, k, v, ys => by simp [Pairs.snoc, Pairs.app, Pairs.snoc_app r k v ys]

theorem Pairs.app_nil : (acc : Pairs α) → acc.app .nil = acc
  | .nil => rfl
  | .cons a b r => by simp [Pairs.app, Pairs.app_nil r]

/-- what the value pass reads at an element position, with the delimiter `d` after it -/
inductive Item (F : FloatOps α) (fuel : Nat) (d : Byte) :
    List Byte → List Nat → Value α → List Byte → List Nat → Prop
  | str (r s rest zs) : decodeStr r = some (s, d :: rest) → Item F fuel d (34 :: r) zs (.str s) rest zs
  | nested (r zs w rest more) : rdNested F fuel r zs = .ok ⟨w, some (d :: rest), more⟩ →
      Item F fuel d (40 :: r) zs w rest more
  | empty (rest zs) : Item F fuel d (d :: rest) zs (.int 0) rest zs
  | num (c r w rest zs) : numStart c = true → parseNumeric F c r = some (w, d :: rest) →
      Item F fuel d (c :: r) zs w rest zs

theorem rdElems_done (F : FloatOps α) (fuel : Nat) (c1 c2 : Byte) (r : List Byte) (zs : List Nat)
    (acc : Vals α) (g : RErr) :
    rdElems F (fuel + 1) (c1 :: c2 :: r) 0 zs acc g = .ok ⟨acc, some r, zs⟩ := by
  rw [rdElems.eq_def]

/-- an `Item` is what `elemStep` reads there, whatever the error codes of the calling function -/
theorem Item.elemStep {F : FloatOps α} {fuel : Nat} {d : Byte} {s : List Byte} {zs : List Nat} {w : Value α}
    {rest : List Byte} {more : List Nat} (h : Item F fuel d s zs w rest more) (hd : d = 44 ∨ d = 58) (es g : RErr) :
    ∃ c r, s = c :: r ∧ c ≠ 93 ∧ NV.C16.elemStep F fuel d es g c r zs = .ok ⟨w, some rest, more⟩ := by
  cases h with
  | str r s rest zs h => exact ⟨34, r, rfl, by omega, by simp [NV.C16.elemStep, h, advCur]⟩
  | nested r zs w rest more h => exact ⟨40, r, rfl, by omega, by simp [NV.C16.elemStep, h, advCur]⟩
  | empty rest zs =>
    have hne : d ≠ 34 ∧ d ≠ 40 := by omega
    exact ⟨d, rest, rfl, by omega, by simp [NV.C16.elemStep, hne]⟩
  | num c r w rest zs hc h =>
    have hne : c ≠ 34 ∧ c ≠ 40 ∧ c ≠ d ∧ c ≠ 93 := by rw [numStart_iff] at hc; omega
    exact ⟨c, r, rfl, hne.2.2.2, by simp [NV.C16.elemStep, hne, hc, h]⟩

theorem rdElems_step (F : FloatOps α) (fuel : Nat) (s : List Byte) (zs : List Nat) (w : Value α)
    (rest : List Byte) (more : List Nat) (h : Item F fuel 44 s zs w rest more) (n : Nat) (acc : Vals α)
    (g : RErr) :
    rdElems F (fuel + 1) s (n + 1) zs acc g = rdElems F fuel rest n more (acc.snoc w) g := by
  obtain ⟨c, r, rfl, _, he⟩ := h.elemStep (Or.inl rfl) g g
  rw [rdElems_succ, he]

theorem rdNested_arr (F : FloatOps α) (fuel : Nat) (r : List Byte) (n : Nat) (zs' : List Nat) (ys : Vals α)
    (cur : Cur) (more : List Nat) (hn : n ≤ maxArray)
    (h : rdElems F fuel r n zs' .nil .array = .ok ⟨ys, cur, more⟩) :
    rdNested F (fuel + 1) (123 :: r) (n :: zs') = .ok ⟨.arr ys, cur, more⟩ := by
  rw [rdNested.eq_def]; simp [h, Nat.not_lt.2 hn]

theorem rdNested_cls (F : FloatOps α) (fuel : Nat) (r : List Byte) (n : Nat) (zs' : List Nat) (ys : Vals α)
    (cur : Cur) (more : List Nat) (hn : n ≤ maxClass)
    (h : rdElems F fuel r n zs' .nil .cls = .ok ⟨ys, cur, more⟩) :
    rdNested F (fuel + 1) (47 :: r) (n :: zs') = .ok ⟨.cls ys, cur, more⟩ := by
  rw [rdNested.eq_def]; simp [h, Nat.not_lt.2 hn]

theorem rdNested_map_empty (F : FloatOps α) (fuel : Nat) (c1 c2 : Byte) (r : List Byte) (zs' : List Nat) :
    rdNested F (fuel + 1) (91 :: c1 :: c2 :: r) (0 :: zs') = .ok ⟨.map .nil, some r, zs'⟩ := by
  rw [rdNested.eq_def]; simp

theorem rdNested_map (F : FloatOps α) (fuel : Nat) (r : List Byte) (n : Nat) (zs' : List Nat) (qs : Pairs α)
    (cur : Cur) (more : List Nat) (hn : n ≠ 0)
    (h : rdMap F fuel r zs' .nil = .ok ⟨qs, cur, more⟩) :
    rdNested F (fuel + 1) (91 :: r) (n :: zs') = .ok ⟨.map qs, cur, more⟩ := by
  rw [rdNested.eq_def]; simp [h, hn]

theorem rdMap_done (F : FloatOps α) (fuel : Nat) (c : Byte) (r : List Byte) (zs : List Nat) (acc : Pairs α) :
    rdMap F (fuel + 1) (93 :: c :: r) zs acc = .ok ⟨acc, some r, zs⟩ := by
  rw [rdMap.eq_def]; simp

theorem Item.first (F : FloatOps α) (fuel : Nat) (d : Byte) (hd : d = 44 ∨ d = 58) (s : List Byte)
    (zs : List Nat) (w : Value α) (rest : List Byte) (more : List Nat) (h : Item F fuel d s zs w rest more) :
    ∃ c r, s = c :: r ∧ c ≠ 93 :=
  let ⟨c, r, hs, h93, _⟩ := h.elemStep hd .general .general
  ⟨c, r, hs, h93⟩

theorem rdMap_step (F : FloatOps α) (fuel : Nat) (s : List Byte) (zs : List Nat) (k : Value α)
    (s2 : List Byte) (zs1 : List Nat) (h1 : Item F fuel 58 s zs k s2 zs1) (w : Value α) (s3 : List Byte)
    (zs2 : List Nat) (h2 : Item F fuel 44 s2 zs1 w s3 zs2) (acc : Pairs α) :
    rdMap F (fuel + 1) s zs acc = rdMap F fuel s3 zs2 (insertKV F acc k w) := by
  obtain ⟨c, r, rfl, h93, he1⟩ := h1.elemStep (Or.inr rfl) .string .mapping
  obtain ⟨c2, r2, rfl, _, he2⟩ := h2.elemStep (Or.inl rfl) .string .mapping
  rw [rdMap_succ, rdMapBody_key h93 he1, mapVal_value he2]

/-! ## mapping keys -/

theorem Pairs.keys_snoc : (acc : Pairs α) → (k v : Value α) → (acc.snoc k v).keys = acc.keys ++ [k]
  | .nil, _, _ => rfl
  | .cons a b r, k, v => by simp [Pairs.snoc, Pairs.keys, Pairs.keys_snoc r k v]

theorem insertKV_snoc (F : FloatOps α) : (acc : Pairs α) → (k v : Value α) →
    (∀ a ∈ acc.keys, sameKey F a k = false) → insertKV F acc k v = acc.snoc k v
  | .nil, _, _, _ => rfl
  | .cons a b r, k, v, h => by
    have ha : sameKey F a k = false := h a (by simp [Pairs.keys])
    have ih := insertKV_snoc F r k v (fun x hx => h x (by simp [Pairs.keys, hx]))
    simp [insertKV, ha, Pairs.snoc, ih]

/-- msameval identifies two keys only when both are integers, both floats or both strings -/
theorem sameKey_cases (F : FloatOps α) (a b : Value α) (h : sameKey F a b = true) :
    (∃ m, a = .int m ∧ b = .int m) ∨ (∃ x y, a = .real x ∧ b = .real y ∧ F.eq x y = true) ∨
    (∃ s, a = .str s ∧ b = .str s) := by
  cases a <;> cases b <;> first
    | exact absurd h Bool.false_ne_true
    | exact .inl ⟨_, rfl, by rw [← eq_of_beq (α := Int) h]⟩
    | exact .inr (.inl ⟨_, _, rfl, rfl, h⟩)
    | exact .inr (.inr ⟨_, rfl, by rw [← eq_of_beq (α := List Nat) h]⟩)

theorem sameKey_tag (F : FloatOps α) (a k : Value α) (h : sameKey F a k = true) (hk : isReal k = false) :
    ∃ t, keyTag a = some t ∧ keyTag k = some t := by
  rcases sameKey_cases F a k h with ⟨m, rfl, rfl⟩ | ⟨x, y, rfl, rfl, _⟩ | ⟨s, rfl, rfl⟩
  · exact ⟨_, rfl, rfl⟩
  · cases hk
  · exact ⟨_, rfl, rfl⟩

theorem Equiv.keyTag_eq {F : FloatOps α} {a b : Value α} (h : Equiv F a b) : keyTag a = keyTag b := by
  cases h <;> rfl

theorem Equiv.isReal_eq {F : FloatOps α} {a b : Value α} (h : Equiv F a b) : isReal a = isReal b := by
  cases h <;> rfl

theorem keyTag_erase (v : Value α) : keyTag (erase v) = keyTag v := by
  cases v <;> simp [erase, keyTag]

theorem isReal_erase (v : Value α) : isReal (erase v) = isReal v := by
  cases v <;> simp [erase, isReal]

/-- keys whose tags are pairwise different stay different keys, when `msameval` identifies only keys of one tag:
    `KeysDistinct` and `Nodup` of the tags are both `Pairwise` over the keys -/
theorem keysDistinct_of_tag (F : FloatOps α) {τ : Type} (tg : Value α → Option τ) (ks : List (Value α))
    (hs : ∀ x ∈ ks, ∀ y ∈ ks, ∀ x' y', Equiv F (erase x) x' → Equiv F (erase y) y' → sameKey F x' y' = true →
      ∃ t, tg x = some t ∧ tg y = some t)
    (hn : (ks.filterMap tg).Nodup) : KeysDistinct F ks :=
  (List.pairwise_filterMap.1 hn).imp_of_mem fun hx hy hne x' y' ex ey =>
    Bool.eq_false_iff.2 fun hsk =>
      let ⟨t, h1, h2⟩ := hs _ hx _ hy x' y' ex ey hsk
      hne t h1 t h2 rfl

/-- no float keys and pairwise different integer / string / object keys: the keys stay different keys -/
theorem keysDistinct_of_tags (F : FloatOps α) (ks : List (Value α)) (hr : ∀ k ∈ ks, isReal k = false)
    (hn : (ks.filterMap keyTag).Nodup) : KeysDistinct F ks := by
  refine keysDistinct_of_tag F keyTag ks (fun x _ y hy x' y' ex ey hs => ?_) hn
  obtain ⟨t, h1, h2⟩ := sameKey_tag F x' y' hs (by rw [← ey.isReal_eq, isReal_erase]; exact hr y hy)
  exact ⟨t, by rw [← keyTag_erase, ex.keyTag_eq]; exact h1, by rw [← keyTag_erase, ey.keyTag_eq]; exact h2⟩

/-- identity of a key when float keys are admitted: a float key is identified by its saved text -/
def keyTagF (F : FloatOps α) : Value α → Option ((Int ⊕ List Byte) ⊕ List Byte)
  | .real x => some (.inr (saveReal F x))
  | v => (keyTag v).map .inl

/-- the contract of `==` (msameval on float keys) needed for the float keys of ONE mapping: floats that print like two
    of its float keys and compare equal belong to keys that print alike.  True of IEEE `==` except for the pair
    0.0 / -0.0 (equal, printed "0.0" / "-0.0") — which no mapping holds as two keys, msameval identifying them. -/
def EqPrintOK (F : FloatOps α) (ks : List (Value α)) : Prop :=
  ∀ a b, Value.real a ∈ ks → Value.real b ∈ ks → ∀ a' b', saveReal F a' = saveReal F a → saveReal F b' = saveReal F b →
    F.eq a' b' = true → saveReal F a = saveReal F b

theorem keyTagF_of_keyTag (F : FloatOps α) {x : Value α} {t : Int ⊕ List Byte} (h : keyTag x = some t) :
    keyTagF F x = some (.inl t) := by
  cases x <;> first | exact congrArg (Option.map Sum.inl) h | cases h

theorem sameKey_tagF (F : FloatOps α) (x y x' y' : Value α) (ex : Equiv F (erase x) x') (ey : Equiv F (erase y) y')
    (hs : sameKey F x' y' = true)
    (hc : ∀ a b a' b', x = .real a → y = .real b → saveReal F a' = saveReal F a → saveReal F b' = saveReal F b →
      F.eq a' b' = true → saveReal F a = saveReal F b) :
    ∃ t, keyTagF F x = some t ∧ keyTagF F y = some t := by
  -- keys that are no floats are told apart by `keyTag` already
  have hplain : isReal y' = false → ∃ t, keyTagF F x = some t ∧ keyTagF F y = some t := by
    intro hr
    obtain ⟨t, h1, h2⟩ := sameKey_tag F x' y' hs hr
    rw [← ex.keyTag_eq, keyTag_erase] at h1
    rw [← ey.keyTag_eq, keyTag_erase] at h2
    exact ⟨.inl t, keyTagF_of_keyTag F h1, keyTagF_of_keyTag F h2⟩
  rcases sameKey_cases F x' y' hs with ⟨m, rfl, rfl⟩ | ⟨a', b', rfl, rfl, he⟩ | ⟨s, rfl, rfl⟩
  · exact hplain rfl
  · -- floats: both keys were floats with those texts
    cases x <;> rw [erase] at ex <;> cases ex
    cases y <;> rw [erase] at ey <;> cases ey
    rename_i a ha b hb
    exact ⟨.inr (saveReal F a), rfl, by rw [keyTagF, hc a b a' b' rfl rfl ha.symm hb.symm he]⟩
  · exact hplain rfl

/-- float keys admitted: pairwise different keys — float keys by their saved texts — stay different keys, given the
    `==` contract on the floats with those texts -/
theorem keysDistinct_of_tagsF (F : FloatOps α) (ks : List (Value α)) (hn : (ks.filterMap (keyTagF F)).Nodup)
    (hc : EqPrintOK F ks) : KeysDistinct F ks :=
  keysDistinct_of_tag F (keyTagF F) ks (fun x hx y hy x' y' ex ey hs =>
    sameKey_tagF F x y x' y' ex ey hs (fun a b a' b' h1 h2 => hc a b (h1 ▸ hx) (h2 ▸ hy) a' b')) hn

mutual
/-- the decidable domain check plus the float contract give the inductive form -/
theorem savable_bridge (F : FloatOps α) : (v : Value α) → savable v = true → FloatsOK F v → Savable F v
  | .int n, h, _ => by
    simp only [savable, Bool.and_eq_true, decide_eq_true_eq] at h
    exact Savable.int n h.1 h.2
  | .real x, _, hf => by
    rw [FloatsOK] at hf
    exact Savable.real x hf
  | .str s, h, _ => by
    rw [savable] at h
    exact Savable.str s ((strOK_iff s).1 h)
  | .obj, _, _ => Savable.obj
  | .arr xs, h, hf => by
    simp only [savable, Bool.and_eq_true, decide_eq_true_eq] at h
    rw [FloatsOK] at hf
    exact Savable.arr xs (savableVals_bridge F xs h.2 hf) h.1
  | .cls xs, h, hf => by
    simp only [savable, Bool.and_eq_true, decide_eq_true_eq] at h
    rw [FloatsOK] at hf
    exact Savable.cls xs (savableVals_bridge F xs h.2 hf) h.1
  | .map ps, h, hf => by
    simp only [savable, Bool.and_eq_true, decide_eq_true_eq, List.all_eq_true, Bool.not_eq_true'] at h
    rw [FloatsOK] at hf
    exact Savable.map ps (savablePairs_bridge F ps h.1.1 hf) (keysDistinct_of_tags F ps.keys h.1.2 h.2)
theorem savableVals_bridge (F : FloatOps α) : (xs : Vals α) → savableVals xs = true → FloatsOKVals F xs →
    SavableVals F xs
  | .nil, _, _ => SavableVals.nil
  | .cons v r, h, hf => by
    simp only [savableVals, Bool.and_eq_true] at h
    rw [FloatsOKVals] at hf
    exact SavableVals.cons v r (savable_bridge F v h.1 hf.1) (savableVals_bridge F r h.2 hf.2)
theorem savablePairs_bridge (F : FloatOps α) : (ps : Pairs α) → savablePairs ps = true → FloatsOKPairs F ps →
    SavablePairs F ps
  | .nil, _, _ => SavablePairs.nil
  | .cons k v r, h, hf => by
    simp only [savablePairs, Bool.and_eq_true] at h
    rw [FloatsOKPairs] at hf
    exact SavablePairs.cons k v r (savable_bridge F k h.1.1 hf.1) (savable_bridge F v h.1.2 hf.2.1)
      (savablePairs_bridge F r h.2 hf.2.2)
end

end NV.C16
