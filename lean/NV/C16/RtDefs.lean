/-
C16 — definitions used by the round-trip theorems: the values the statement ranges over (`savable`, a decidable check;
its inductive form `Savable`, which admits float keys, is in LemmasRt.lean), the contract of the float parameter on one
float (`FloatOK`) and on every float of a value (`FloatsOK`), what a restore must yield (`erase`: object references are
not persisted), equality up to the printed precision of floats (`Equiv`); at the object level `objSavable` and
`ObjRestored`.
-/
import NV.C16.Model

namespace NV.C16

variable {α : Type}

mutual
/-- what must come back: object references (and everything else save_svalue has no case for) are restored as 0 -/
def erase : Value α → Value α
  | .obj => .int 0
  | .arr xs => .arr (eraseVals xs)
  | .cls xs => .cls (eraseVals xs)
  | .map ps => .map (erasePairs ps)
  | .int n => .int n
  | .real x => .real x
  | .str s => .str s
def eraseVals : Vals α → Vals α
  | .nil => .nil
  | .cons v r => .cons (erase v) (eraseVals r)
def erasePairs : Pairs α → Pairs α
  | .nil => .nil
  | .cons k v r => .cons (erase k) (erase v) (erasePairs r)
end

/-- The stated contract of `FloatOps` on the float `x` (it holds for IEEE doubles with glibc's "%g", the texts
    save_real_text writes for inf / nan and the arithmetic of parse_numeric — checked on every generated float by the
    correspondence run; before the fixes K2 / K4 it failed for inf, nan (their "%g" text does not start a number) and for
    subnormal numbers):
    the saved text is a non-empty run of ASCII bytes that starts like a number and contains no delimiter, and
    parse_numeric reads it back — whatever delimiter or end of text follows — as a float with the same saved text. -/
structure FloatOK (F : FloatOps α) (x : α) : Prop where
  start : ∃ c s, saveReal F x = c :: s ∧ numStart c = true
  chars : ∀ b ∈ saveReal F x, b ≠ 0 ∧ b ≠ 10 ∧ b ≠ 44 ∧ b ≠ 58 ∧ b < 128
  parse : ∀ c s, saveReal F x = c :: s → ∀ tail : List Byte,
    (tail = [] ∨ ∃ d r, tail = d :: r ∧ (d = 44 ∨ d = 58)) →
    ∃ y, parseNumeric F c (s ++ tail) = some (.real y, tail) ∧ saveReal F y = saveReal F x

/-- bytes a string may hold: everything but NUL (LPC strings are C strings).  CR and bytes that are no valid
    multibyte character round-trip since the fixes K1 / K3. -/
def strOK (s : List Byte) : Bool := s.all (· != 0)

/-- identity of a mapping key as far as restore_mapping's duplicate test is concerned (`none`: a container,
    never equal to another key).  An object reference used as key is written as nothing and read back as 0. -/
def keyTag : Value α → Option (Int ⊕ List Byte)
  | .int n => some (.inl n)
  | .obj => some (.inl 0)
  | .str s => some (.inr s)
  | _ => none

def Pairs.keys : Pairs α → List (Value α)
  | .nil => []
  | .cons k _ r => k :: r.keys

def isReal : Value α → Bool
  | .real _ => true
  | _ => false

mutual
/-- **The domain of the round-trip theorem** — a decidable check on the value alone:
    * integers are 64-bit,
    * strings contain no NUL byte (any other byte is allowed),
    * an array has at most MaxArraySize elements (allocate_array refuses more, on both sides),
    * the keys of a mapping are not floats (two float keys that print alike collapse: open finding K5) and its
      integer / string / object keys are pairwise different as restore_mapping sees them (`keyTag`; true of every
      real mapping); container keys are unrestricted,
    * no restriction on nesting depth, classes, empty containers, object references (they come back as 0).
    Floats carry no restriction here: what is needed of them is the contract `FloatsOK` of the float parameter. -/
def savable : Value α → Bool
  | .int n => decide (-(2 : Int) ^ 63 ≤ n) && decide (n < (2 : Int) ^ 63)
  | .real _ => true
  | .str s => strOK s
  | .obj => true
  | .arr xs => decide (xs.length ≤ maxArray) && savableVals xs
  | .cls xs => decide (xs.length ≤ maxClass) && savableVals xs
  | .map ps => savablePairs ps && ps.keys.all (fun k => !isReal k) && decide ((ps.keys.filterMap keyTag).Nodup)
def savableVals : Vals α → Bool
  | .nil => true
  | .cons v r => savable v && savableVals r
def savablePairs : Pairs α → Bool
  | .nil => true
  | .cons k v r => savable k && savable v && savablePairs r
end

mutual
/-- every float inside the value satisfies the float contract `FloatOK` -/
def FloatsOK (F : FloatOps α) : Value α → Prop
  | .real x => FloatOK F x
  | .arr xs => FloatsOKVals F xs
  | .cls xs => FloatsOKVals F xs
  | .map ps => FloatsOKPairs F ps
  | _ => True
def FloatsOKVals (F : FloatOps α) : Vals α → Prop
  | .nil => True
  | .cons v r => FloatsOK F v ∧ FloatsOKVals F r
def FloatsOKPairs (F : FloatOps α) : Pairs α → Prop
  | .nil => True
  | .cons k v r => FloatsOK F k ∧ FloatsOK F v ∧ FloatsOKPairs F r
end

mutual
/-- equality of values, floats compared by their saved text ("%g": the printed precision; every NaN alike) -/
inductive Equiv (F : FloatOps α) : Value α → Value α → Prop
  | int (n : Int) : Equiv F (.int n) (.int n)
  | real (x y : α) : saveReal F x = saveReal F y → Equiv F (.real x) (.real y)
  | str (s : List Byte) : Equiv F (.str s) (.str s)
  | arr (xs ys : Vals α) : EquivVals F xs ys → Equiv F (.arr xs) (.arr ys)
  | cls (xs ys : Vals α) : EquivVals F xs ys → Equiv F (.cls xs) (.cls ys)
  | map (ps qs : Pairs α) : EquivPairs F ps qs → Equiv F (.map ps) (.map qs)
inductive EquivVals (F : FloatOps α) : Vals α → Vals α → Prop
  | nil : EquivVals F .nil .nil
  | cons (v w : Value α) (r s : Vals α) : Equiv F v w → EquivVals F r s → EquivVals F (.cons v r) (.cons w s)
inductive EquivPairs (F : FloatOps α) : Pairs α → Pairs α → Prop
  | nil : EquivPairs F .nil .nil
  | cons (k k' v v' : Value α) (r s : Pairs α) : Equiv F k k' → Equiv F v v' → EquivPairs F r s →
      EquivPairs F (.cons k v r) (.cons k' v' s)
end

/-! ## object level -/

/-- a variable name as it can stand in a save file line: an identifier — non-empty, shorter than the 100-byte
    buffer of restore_object_from_buff, no blank / LF / NUL, not starting with `#` (comment lines) -/
def nameOK (n : List Byte) : Bool :=
  n != [] && decide (n.length < varBufSize) && n.all (fun b => b != 32 && b != 10 && b != 0) && n.head? != some 35

/-- **Domain of the object-level round trip**: the variable names are identifiers and pairwise different (two
    variables of one name at different inheritance levels are NOT restored correctly: open finding K6), every
    non-static value is in the domain of `roundtrip` -/
def objSavable (vars : List (Var α)) : Bool :=
  vars.all (fun v => nameOK v.name) && decide ((vars.map (·.name)).Nodup) &&
    vars.all (fun v => v.isStatic || savable v.val)

/-- what restore_object must leave in the object: `saved` = the variables at save time, `live` = the variables
    of the (same program's) object at restore time, third list = the variables afterwards: a static variable keeps
    its live value, a non-static one holds the saved value (equal up to `Equiv`, object references as 0) -/
inductive ObjRestored (F : FloatOps α) : List (Var α) → List (Var α) → List (Var α) → Prop
  | nil : ObjRestored F [] [] []
  | static (s l : Var α) (ss ls rs : List (Var α)) : s.isStatic = true → l.isStatic = true → l.name = s.name →
      ObjRestored F ss ls rs → ObjRestored F (s :: ss) (l :: ls) (l :: rs)
  | saved (s l : Var α) (x : Value α) (ss ls rs : List (Var α)) : s.isStatic = false → l.isStatic = false →
      l.name = s.name → Equiv F (erase s.val) x → ObjRestored F ss ls rs →
      ObjRestored F (s :: ss) (l :: ls) (⟨s.name, false, x⟩ :: rs)

end NV.C16
