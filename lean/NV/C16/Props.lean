/-
C16 — property theorems (statements live here; the proofs are in ProofSave.lean, ProofTotal.lean,
ProofRoundtrip.lean / LemmasRt.lean, ProofObject.lean, ProofTree.lean, ProofHash.lean, ProofGlobals.lean; the definitions of
the round-trip statement in RtDefs.lean; the witnesses against the FULL round-trip statement in Witness.lean).

All theorems are about the executable model (Model.lean; Tree.lean, Hash.lean, Globals.lean for the program tree, the
hash table and the shared state), for every float parameter `F : FloatOps α` and every `mb : MbLen` (mblen with its
stated contract), all values / all byte strings / all crash points.
-/
import NV.C16.Model
import NV.C16.RtDefs
import NV.C16.ProofSave
import NV.C16.ProofTotal
import NV.C16.ProofRoundtrip
import NV.C16.ProofObject
import NV.C16.Tree
import NV.C16.ProofTree
import NV.C16.ProofHash
import NV.C16.ProofGlobals

namespace NV.C16.Props

open NV.C16

variable {α : Type}

/-- **Memory safety of the save buffer.**  Whatever value is saved (any nesting `d` within the limit, i.e.
`svalue_save_size` did not raise "nested too deep"): the bytes `save_svalue` writes, plus the terminating NUL,
fit into the `svalue_save_size(v)` bytes that were allocated.  (False before the fix for INT64_MIN.) -/
theorem size_bounds_output (F : FloatOps α) (d : Nat) (v : Value α) (n : Nat) (h : saveSize F d v = some n) :
    (save F v).length + 1 ≤ n :=
  NV.C16.size_bounds_output F d v n h

/-- hence `save_variable` never writes outside its allocation -/
theorem saveVariable_no_crash (F : FloatOps α) (v : Value α) : saveVariable F v ≠ SaveOut.crash :=
  NV.C16.saveVariable_no_crash F v

/-- what the efun save_variable returns is the text `save_svalue` writes and never longer than MaxStringLength (the size
test `theSize - 1 > MaxStringLength` stands in front of the allocation — regenerated site `save_variable-limit`) -/
theorem saveVariableEfun_ok (F : FloatOps α) (v : Value α) (t : List Nat) (h : saveVariableEfun F v = SaveEfunOut.ok t) :
    t = save F v ∧ t.length ≤ maxStringLength := NV.C16.saveVariableEfun_ok F v t h

/-- ... nor does any variable buffer of `save_object` -/
theorem saveObject_no_crash (F : FloatOps α) (vars : List (Var α)) : saveObjectCrash F vars = false :=
  NV.C16.saveObject_no_crash F vars

example : saveSize (α := Unit) ⟨fun _ => [49, 46, 53], fun _ => (), fun _ _ => (), fun _ _ => (), fun _ _ => (),
    fun _ => (), fun _ => (), fun _ _ => true, fun _ => false, fun _ => false, fun _ => false⟩ 0
    (.arr (.cons (.str [34, 10]) .nil)) = some 11 := by decide

/-- **Restore is total: no memory error on ANY byte string.**  `restore_variable` applied to an arbitrary text
yields a value or an LPC error; the model never reaches `crash`, i.e. never dereferences or advances the cursor
beyond the position one past the terminating NUL and never uses a size-table entry the pre-pass did not write.
(False before the fixes "number not followed by its delimiter" and "unterminated string with a backslash".) -/
theorem restore_total (F : FloatOps α) (mb : MbLen) (t : List Nat) : restoreVariable F mb t ≠ RvOut.crash :=
  NV.C16.Total.restore_total F mb t

/-- the same for `restore_object` on arbitrary file contents -/
theorem restoreObject_total (F : FloatOps α) (mb : MbLen) (nc : Bool) (file : Option (List Nat))
    (vars : List (Var α)) : (restoreObject F mb nc file vars).2 ≠ RoOut.crash :=
  NV.C16.Total.restoreObject_total F mb nc file vars

/-- **Round trip.**  Restoring what `save_variable` wrote yields a value equal to the saved one with the same
types — integers, strings, structure exactly; floats equal in their saved text (the "%g" precision); object
references come back as 0 (`erase`).

THE DOMAIN, explicitly (`savable`, RtDefs.lean — a decidable check on the value alone):
  * integers: all 64-bit values;  strings: every byte string without NUL (CR, `"`, `\`, invalid UTF-8 included);
  * arrays up to MaxArraySize elements, classes, mappings, empty containers, object references;
  * nesting: whatever `save_variable` accepts (`hd`: svalue_save_size did not raise "nested too deep", i.e. at most
    MAX_SAVE_SVALUE_DEPTH levels).  Since the nesting fix restore REFUSES deeper text (`restore_nesting_bounded`), so
    the limit is part of the statement; before the fix, restore followed any depth — and overflowed the C stack on
    "({({({..." (a 600 KB text);
  * mapping keys: in THIS statement anything but floats, integer / string / object keys pairwise different (true of every
    real mapping); float keys whose saved texts are pairwise different are covered by `roundtrip_float_keys` below
    (two float keys that print alike collapse — open finding K5, witness `Witness.float_keys_collapse`);
  * floats: no condition on the value; `FloatsOK F v` is the stated contract of the float parameter (`FloatOK`: the
    saved text is a number token that `parse_numeric` reads back to a float with the same saved text), which the
    correspondence run checks on every generated double incl. ±0, subnormals, infinities and NaN.
Before the fixes of K1-K4 the driver did not round-trip CR (K1), inf/nan (K2), non-UTF-8 bytes (K3), subnormals (K4). -/
theorem roundtrip (F : FloatOps α) (mb : MbLen) (v : Value α) (hs : savable v = true) (hf : FloatsOK F v)
    (hd : saveVariable F v ≠ SaveOut.tooDeep) :
    ∃ v', restoreVariable F mb (save F v) = RvOut.value v' ∧ Equiv F (erase v) v' :=
  NV.C16.roundtrip F mb v hs hf hd

/-- a deeply nested value of the domain: array ∋ mapping (string key with `"` CR LF `\` 0xff ↦ class ∋ array ∋
mapping (INT64_MIN ↦ array ∋ object reference, empty string), float; 7 ↦ empty mapping), INT64_MAX -/
example : savable NV.C16.deepExample = true := by decide

example (mb : MbLen) : ∃ v', restoreVariable NV.C16.rtF mb (save NV.C16.rtF NV.C16.deepExample) = RvOut.value v' ∧
    Equiv NV.C16.rtF (erase NV.C16.deepExample) v' :=
  roundtrip NV.C16.rtF mb NV.C16.deepExample (by decide) NV.C16.deepExample_floatsOK NV.C16.deepExample_withinDepth

/-- **Round trip, float keys included.**  The same statement on the inductive domain `Savable F v` (LemmasRt.lean): as
`savable` + `FloatsOK`, except that the keys of a mapping only have to STAY DIFFERENT KEYS (`KeysDistinct`: whatever
values equal to two keys up to `Equiv` come back, msameval tells them apart).  `keys_distinct_with_float_keys` gives that
for float keys whose saved texts are pairwise different — finding K5 is exactly the case where they are not — under the
`==` contract `EqPrintOK` for the floats that print like those keys (true of IEEE `==` unless 0.0 and -0.0 are both
keys, which no mapping holds).  Non-vacuity: `floatKeyExample` (two float keys, an integer and a string key). -/
theorem roundtrip_float_keys (F : FloatOps α) (mb : MbLen) (v : Value α) (hs : Savable F v)
    (hd : saveVariable F v ≠ SaveOut.tooDeep) :
    ∃ v', restoreVariable F mb (save F v) = RvOut.value v' ∧ Equiv F (erase v) v' := by
  exact NV.C16.roundtrip_of_Savable F mb v hs ((NV.C16.saveVariable_ne_tooDeep F v).1 hd)

theorem keys_distinct_with_float_keys (F : FloatOps α) (ks : List (Value α))
    (hn : (ks.filterMap (keyTagF F)).Nodup) (hc : EqPrintOK F ks) : KeysDistinct F ks :=
  NV.C16.keysDistinct_of_tagsF F ks hn hc

example (mb : MbLen) : ∃ v', restoreVariable NV.C16.rtF2 mb (save NV.C16.rtF2 NV.C16.floatKeyExample) = RvOut.value v' ∧
    Equiv NV.C16.rtF2 (erase NV.C16.floatKeyExample) v' :=
  roundtrip_float_keys NV.C16.rtF2 mb NV.C16.floatKeyExample NV.C16.floatKeyExample_savable
    NV.C16.floatKeyExample_withinDepth

/-- **The C stack use of restore is bounded**: an activation of restore_internal_size at a nesting level beyond
MAX_SAVE_SVALUE_DEPTH refuses at once, for every text; every recursive call passes `nest + 1`; the value pass
(restore_array / restore_mapping / restore_class) recurses only where the pre-pass succeeded. -/
theorem restore_nesting_bounded (mb : MbLen) (fuel nest : Nat) (isMap idx : Bool) (s : List Nat) (size : Nat)
    (zs : List Nat) (h : nest > maxDepth) : preD mb fuel nest false isMap idx s size zs = none :=
  NV.C16.Total.preD_refuses_beyond_limit mb fuel nest isMap idx s size zs h

/-- the nesting test only adds refusals: a text the pre-pass as coded accepts is accepted, with the same element
counts, by the pre-pass without the test — which is what `restore_total` is proved through -/
theorem nesting_test_only_refuses (mb : MbLen) (fuel nest : Nat) (top isMap idx : Bool) (s : List Nat) (size : Nat)
    (zs : List Nat) (out : PreOut) (h : preD mb fuel nest top isMap idx s size zs = some out) :
    pre mb fuel top isMap idx s size zs = some out :=
  NV.C16.Total.preD_pre mb fuel nest top isMap idx s size zs out h

/-- **safe_restore_svalue keeps the old value on every error.** -/
theorem safe_restore_keeps_old_on_error (F : FloatOps α) (mb : MbLen) (t : List Nat) (old : Value α)
    (h : ∀ v, (safeRestoreSvalue F mb t old).1 ≠ Res.ok v) : (safeRestoreSvalue F mb t old).2 = old :=
  NV.C16.safe_restore_keeps_old_on_error F mb t old h

/-- a line of a save file whose value cannot be restored leaves every variable of the object as it was -/
theorem restoreObject_error_keeps_variable (F : FloatOps α) (mb : MbLen) (nc : Bool) (l : List Nat)
    (ls : List (List Nat)) (vars : List (Var α)) (m : String) (vs : List (Var α)) :
    restoreLines F mb nc [l] vars = RoOut.error m vs → vs = vars :=
  NV.C16.restoreObject_error_keeps_variable F mb nc l ls vars m vs

/-- **Saves are atomic.**  For every prefix of the call script of `save_object` (= crash point `k`), the save file
holds either the complete old or the complete new contents.  Assumption (in `FS.step`): `rename` is atomic. -/
theorem save_atomic (chunks : List (List Nat)) (old : Option (List Nat)) (k : Nat) :
    ((FS.mk old none).run ((saveScript chunks none).1.take k)).file = old ∨
    ((FS.mk old none).run ((saveScript chunks none).1.take k)).file = some chunks.flatten :=
  NV.C16.save_atomic chunks old k

/-- ... also when the crash falls INSIDE a call (a line half written, a buffer half flushed: `FS.partialStep`) -/
theorem save_atomic_partial (chunks : List (List Nat)) (old : Option (List Nat)) (k : Nat) (c : Call) (d' : List Nat) :
    (((FS.mk old none).run ((saveScript chunks none).1.take k)).partialStep c d').file = old ∨
    (((FS.mk old none).run ((saveScript chunks none).1.take k)).partialStep c d').file = some chunks.flatten :=
  NV.C16.save_atomic_partial chunks old k c d'

/-- a save that runs to its end leaves exactly the new contents and no temporary -/
theorem save_complete (chunks : List (List Nat)) (old : Option (List Nat)) :
    (FS.mk old none).run (saveScript chunks none).1 = FS.mk (some chunks.flatten) none :=
  NV.C16.save_complete chunks old

/-- with a failure injected at call `j`: at every crash point the file is old, or new and the save reports
success; a save that reports failure leaves the old file -/
theorem save_atomic_failure (chunks : List (List Nat)) (old : Option (List Nat)) (j k : Nat) :
    let r := saveScript chunks (some j)
    let fs := (FS.mk old none).run (r.1.take k)
    (fs.file = old ∨ (fs.file = some chunks.flatten ∧ r.2 = 1)) ∧
      (r.2 = 0 → ((FS.mk old none).run r.1).file = old) :=
  NV.C16.save_atomic_failure chunks old j k

/-- **Static variables and object references are not persisted**: the file does not depend on static variables,
a restore never changes a static variable (nor the layout), an object reference is written as nothing and read back
as 0. -/
theorem statics_and_objects_not_persisted (F : FloatOps α) (mb : MbLen) :
    (∀ z vars, saveLines F z vars = saveLines F z (vars.filter (fun v => !v.isStatic))) ∧
    (∀ nc ls vars,
      match restoreLines F mb nc ls vars with
      | .done vs => vs.filter (·.isStatic) = vars.filter (·.isStatic) ∧ vs.map (·.name) = vars.map (·.name)
      | .error _ vs => vs.filter (·.isStatic) = vars.filter (·.isStatic) ∧ vs.map (·.name) = vars.map (·.name)
      | _ => True) ∧
    save F (Value.obj : Value α) = [] ∧ restoreSvalue F mb [] = Res.ok (Value.int 0) :=
  NV.C16.statics_and_objects_not_persisted F mb

/-! ## object level: the walks over the program tree (Tree.lean) -/

/-- **save_object writes each non-static variable its own value.**  For EVERY program tree (inherits with any type
modifiers at any depth, static variables anywhere) and variable array of the right size, the cursor walk of
`save_object_recurse` writes exactly the lines the flat layout `slots` prescribes: the k-th slot's name with the k-th
slot's value, skipping precisely the slots that are static — declared static or reached through a static inherit
(the whole subtree: a statically inherited program's own inherits included). -/
theorem saveObject_writes_each_nonstatic_variable_its_own_value (F : FloatOps α) (z : Bool) (p : Prog)
    (vals : List (Value α)) (h : vals.length = (slots p false).length) :
    saveTreeLines F z p vals = some (saveLines F z (mkVars (slots p false) vals)) :=
  NV.C16.TreeProofs.saveObject_writes_each_nonstatic_variable_its_own_value F z p vals h

/-- ... where, with save_zeros, the lines are: every non-static variable exactly once, in slot order, as
`name value-of-that-variable`, and nothing static -/
theorem saveLines_spec (F : FloatOps α) (vars : List (Var α)) :
    saveLines F true vars =
      (vars.filter (fun v => !v.isStatic)).map (fun v => v.name ++ 32 :: (save F v.val ++ [10])) :=
  NV.C16.TreeProofs.saveLines_spec F vars

/-- ... and without save_zeros a subset of those lines (zero-valued variables are left out) -/
theorem saveLines_sub (F : FloatOps α) (z : Bool) (vars : List (Var α)) :
    ∀ l ∈ saveLines F z vars, ∃ v ∈ vars, v.isStatic = false ∧ l = v.name ++ 32 :: (save F v.val ++ [10]) :=
  NV.C16.TreeProofs.saveLines_sub F z vars

/-- `find_global_variable` (search through the inherits, then the own variables, index accumulated on the way)
returns the FIRST slot of that name in layout order, with its effective static flag -/
theorem findGlobal_flat (p : Prog) (name : List Nat) :
    findGlobal p name = NV.C16.TreeProofs.firstIdx name (slots p false) 0 :=
  NV.C16.TreeProofs.findGlobal_flat p name

/-- `clear_non_statics` zeroes exactly the non-static slots -/
theorem cns_flat (vals : List (Value α)) (p : Prog) (h : vals.length = (slots p false).length) :
    (cns vals p 0).1 = ((mkVars (slots p false) vals).map (fun v => if v.isStatic then v.val else Value.int 0)) :=
  NV.C16.TreeProofs.cns_flat vals p h

/-- hence `restore_object` on the tree IS the flat `restoreObject` of Model.lean on the layout: everything proved
about the flat functions (`restoreObject_total`, `statics_and_objects_not_persisted`, `object_roundtrip`) holds for
every program tree -/
theorem restoreObjectT_flat (F : FloatOps α) (mb : MbLen) (nc : Bool) (file : Option (List Nat)) (p : Prog)
    (vals : List (Value α)) (h : vals.length = (slots p false).length) :
    restoreObjectT F mb nc file p vals =
      ((restoreObject F mb nc file (mkVars (slots p false) vals)).1,
       NV.C16.TreeProofs.outVals (restoreObject F mb nc file (mkVars (slots p false) vals)).2) :=
  NV.C16.TreeProofs.restoreObjectT_flat F mb nc file p vals h

/-- **Object-level round trip.**  save_object of the variables `vars`, then restore_object(file, 0) into an object of
the same layout whose variables currently are `live`: static variables keep their live values, every non-static
variable holds the saved value (equal up to `Equiv`, object references as 0).  Domain `objSavable` (decidable):
variable names are identifiers and PAIRWISE DIFFERENT (two variables of one name at different inheritance levels are
not restored correctly: open finding K6, `Witness.same_name_variables`), non-static values in the domain of
`roundtrip`, incl. `hdp`: no variable nested too deep, i.e. the save_object was not refused. -/
theorem object_roundtrip (F : FloatOps α) (mb : MbLen) (prog : List Nat) (z : Bool) (vars live : List (Var α))
    (hprog : ∀ b ∈ prog, b ≠ 10 ∧ b ≠ 0) (hs : objSavable vars = true)
    (hf : ∀ v ∈ vars, v.isStatic = false → FloatsOK F v.val)
    (hdp : ∀ v ∈ vars, v.isStatic = false → saveVariable F v.val ≠ SaveOut.tooDeep)
    (hlay : live.map (·.name) = vars.map (·.name) ∧ live.map (·.isStatic) = vars.map (·.isStatic)) :
    ∃ res, restoreObject F mb false (some (saveFileText F prog z vars)) live = (1, RoOut.done res) ∧
      ObjRestored F vars live res :=
  NV.C16.object_roundtrip F mb prog z vars live hprog hs hf hdp hlay

/-- restore_object(file, 1) (noclear): as `object_roundtrip`, except that a non-static variable the save did not
write (no save_zeros, value 0) keeps its LIVE value instead of becoming 0 (`ObjRestoredNC.kept`) -/
theorem object_roundtrip_noclear (F : FloatOps α) (mb : MbLen) (prog : List Nat) (z : Bool)
    (vars live : List (Var α)) (hprog : ∀ b ∈ prog, b ≠ 10 ∧ b ≠ 0) (hs : objSavable vars = true)
    (hf : ∀ v ∈ vars, v.isStatic = false → FloatsOK F v.val)
    (hdp : ∀ v ∈ vars, v.isStatic = false → saveVariable F v.val ≠ SaveOut.tooDeep)
    (hlay : live.map (·.name) = vars.map (·.name) ∧ live.map (·.isStatic) = vars.map (·.isStatic)) :
    ∃ res, restoreObject F mb true (some (saveFileText F prog z vars)) live = (1, RoOut.done res) ∧
      ObjRestoredNC F z vars live res :=
  NV.C16.object_roundtrip_noclear F mb prog z vars live hprog hs hf hdp hlay

/-- **restore_object into another version of the program** (variables renamed / removed / added / reordered, made
static ("nosave") or non-static, moved into or out of an inherited program — `live` is ANY variable table with pairwise
different names; with `restoreObjectT_flat` the flat tables are the `slots` of the two program trees): the efun returns 1
without an error and leaves in every variable of the restoring object exactly `After` (ProofObject.lean): a non-static
variable whose name has a line in the file (`written`: the non-static variables of the saving program, those with the
text "0" only with save_zeros) holds that saved value up to `Equiv`; every other variable — static ones, names the file
does not have — is what it was when the lines were read (its live value with the no-clear flag, else 0 for a
non-static one); lines of unknown or static names are skipped.  Declared types play no part. -/
theorem restore_into_another_program_version (F : FloatOps α) (mb : MbLen) (prog : List Nat) (z nc : Bool)
    (ss live : List (Var α)) (hprog : ∀ b ∈ prog, b ≠ 10 ∧ b ≠ 0) (hs : objSavable ss = true)
    (hf : ∀ v ∈ ss, v.isStatic = false → FloatsOK F v.val)
    (hdp : ∀ v ∈ ss, v.isStatic = false → saveVariable F v.val ≠ SaveOut.tooDeep)
    (hlive : (live.map (·.name)).Nodup) :
    ∃ res, restoreObject F mb nc (some (saveFileText F prog z ss)) live = (1, RoOut.done res) ∧
      Rel2 (After F (written F z ss)) (if nc then live else live.map clearVar) res :=
  NV.C16.restoreObject_other_version F mb prog z nc ss live hprog hs hf hdp hlive

/-! ## bridging lemmas over the REGENERATED source facts (NV/Gen/C16.lean): a changed C line breaks these
(`size_overheads_suffice`, `saveEscaped_sub_sizeEscaped`, `restore_swap_*`, `save_escapes_*`, `tmpName_*`,
`*_as_in_source`, `*_as_modelled`); between them the theorems about the temporary file and save_object as a whole -/

/-- the additive constants in the return statements of `svalue_save_size` cover what `save_svalue` writes -/
theorem size_overheads_suffice : 3 ≤ sizeStr ∧ 5 ≤ sizeArr ∧ 5 ≤ sizeCls ∧ 5 ≤ sizeMap ∧ 2 ≤ sizeInt ∧
    1 ≤ sizeReal ∧ 1 ≤ sizeOther := NV.C16.size_overheads_suffice

/-- every byte `save_svalue` escapes is counted twice by `svalue_save_size` -/
theorem saveEscaped_sub_sizeEscaped : ∀ c, saveEscaped.contains c = true → sizeEscaped.contains c = true :=
  NV.C16.saveEscaped_sub_sizeEscaped

/-- the restore functions undo the LF → CR substitution of `save_svalue` ... -/
theorem restore_swap_inverts_save : restoreSwapFrom = swapTo ∧ restoreSwapTo = swapFrom :=
  NV.C16.restore_swap_inverts_save

/-- ... at all six sites (two each in restore_string, restore_interior_string, restore_hash_string) alike -/
theorem restore_swap_sites_agree : NV.Gen.C16.restoreSwapSitesAgree = true := by decide

/-- `"`, `\` and CR are escaped by `save_svalue` (what the string round trip needs) -/
theorem save_escapes_quote_backslash_cr :
    saveEscaped.contains 34 = true ∧ saveEscaped.contains 92 = true ∧ saveEscaped.contains 13 = true := by decide

/-- for paths up to the `%.Ns` prefix the temporary is `<file>.tmp`: not truncated by `tmp_name[]`, and a name
different from the save file -/
theorem tmpName_ne_file (file : List Nat) (h : file.length ≤ NV.Gen.C16.tmpPrefixMax) :
    tmpName file = file ++ [46, 116, 109, 112] ∧ tmpName file ≠ file := NV.C16.tmpName_ne_file file h

/-- **No temporary is left behind**: a save that reports failure — whichever call failed — has closed and unlinked
its temporary (true since the header-failure fix); so has a successful save (renamed away) -/
theorem save_failure_leaves_no_tmp (chunks : List (List Nat)) (old : Option (List Nat)) (j : Nat) :
    (saveScript chunks (some j)).2 = 0 → ((FS.mk old none).run (saveScript chunks (some j)).1).tmp = none :=
  NV.C16.save_failure_leaves_no_tmp chunks old j

theorem save_success_leaves_no_tmp (chunks : List (List Nat)) (old : Option (List Nat)) :
    ((FS.mk old none).run (saveScript chunks none).1).tmp = none :=
  NV.C16.save_success_leaves_no_tmp chunks old

/-- **save_object as a whole** (dry run over the variables, then the call script): whatever way it ends — the LPC error
"nested too deep", a failure reported for any call, success — no temporary file is left behind.  (False before the
two temporary-file fixes: header-write failure; too-deep error raised in the middle of writing = finding K7.) -/
theorem saveObject_leaves_no_tmp (F : FloatOps α) (prog : List Nat) (z : Bool) (vars : List (Var α))
    (fail : Option Nat) (old : Option (List Nat)) :
    (saveObjectFS F prog z vars fail (FS.mk old none)).1.tmp = none :=
  NV.C16.saveObject_leaves_no_tmp F prog z vars fail old

/-- the LPC error of save_object is raised before its first file-system call: nothing has changed ... -/
theorem saveObject_error_touches_nothing (F : FloatOps α) (prog : List Nat) (z : Bool) (vars : List (Var α))
    (fail : Option Nat) (fs : FS) (h : (saveObjectFS F prog z vars fail fs).2 = none) :
    (saveObjectFS F prog z vars fail fs).1 = fs :=
  NV.C16.saveObject_error_touches_nothing F prog z vars fail fs h

/-- ... and it is raised exactly when a non-static variable is nested deeper than MAX_SAVE_SVALUE_DEPTH -/
theorem saveObject_error_iff_too_deep (F : FloatOps α) (prog : List Nat) (z : Bool) (vars : List (Var α))
    (fail : Option Nat) (fs : FS) :
    (saveObjectFS F prog z vars fail fs).2 = none ↔
      ∃ v ∈ vars, v.isStatic = false ∧ saveVariable F v.val = SaveOut.tooDeep :=
  NV.C16.saveObject_error_iff_too_deep F prog z vars fail fs

/-- for EVERY path the temporary is `<first tmpPrefixMax bytes>.tmp` (the buffer never cuts the suffix) ... -/
theorem tmpName_eq (file : List Nat) : tmpName file = file.take NV.Gen.C16.tmpPrefixMax ++ [46, 116, 109, 112] :=
  NV.C16.tmpName_eq file

/-- ... hence never the save file of ANY object (those end in the last byte of SAVE_EXTENSION): two objects whose long
paths share a temporary cannot clobber a save file with it -/
theorem tmpName_never_a_save_file (file g : List Nat) (hg : g.getLast? = some NV.Gen.C16.saveExt1) :
    tmpName file ≠ g := NV.C16.tmpName_never_a_save_file file g hg

/-- the error message of every ROB_* code is the one the source raises, in the order of its if-chain; restore_variable
has NO branch for ROB_CLASS_ERROR (a damaged class yields 0 without an error — mirrored by `restoreVariable`) -/
theorem error_messages_as_in_source :
    NV.Gen.C16.restoreVariableMessages =
      [("ROB_GENERAL_ERROR", errMsg .general), ("ROB_NUMERAL_ERROR", errMsg .numeral), ("ROB_ARRAY_ERROR", errMsg .array),
       ("ROB_MAPPING_ERROR", errMsg .mapping), ("ROB_STRING_ERROR", errMsg .string)] ∧
    NV.Gen.C16.restoreObjectMessages =
      [("ROB_GENERAL_ERROR", errMsgVar .general [37, 115]), ("ROB_NUMERAL_ERROR", errMsgVar .numeral [37, 115]),
       ("ROB_ARRAY_ERROR", errMsgVar .array [37, 115]), ("ROB_MAPPING_ERROR", errMsgVar .mapping [37, 115]),
       ("ROB_STRING_ERROR", errMsgVar .string [37, 115]), ("ROB_CLASS_ERROR", errMsgVar .cls [37, 115])] :=
  -- the second table needs the string concatenations of `errMsgVar` evaluated
  ⟨rfl, by decide +kernel⟩

/-- the structure bytes of the three container kinds are the character literals `save_svalue` writes, in source order
(`(` `{` element `,` `}` `)` NUL, ...) -/
theorem save_structure_bytes_as_in_source (F : FloatOps α) :
    save F (.arr (.cons .obj .nil)) ++ [0] = NV.Gen.C16.saveArrayLits ∧
    save F (.cls (.cons .obj .nil)) ++ [0] = NV.Gen.C16.saveClassLits ∧
    save F (.map (.cons .obj .obj .nil)) ++ [0] = NV.Gen.C16.saveMappingLits := by
  refine ⟨?_, ?_, ?_⟩ <;> simp [save, saveElems, savePairs] <;> decide

/-- the statements that carry the restore nesting limit and the dry run of save_object read as `preD` /
`saveObjectScript` model them (REGENERATED by comparison with the source text): the test `nesting > MAX_SAVE_SVALUE_DEPTH`
at the entry of restore_internal_size, `nesting + 1` in its three recursive calls, the literal restore_size passes
(= level of the outermost container, 1 in `restoreContainer`, plus one); the dry run stands before `fopen`, advances the
variable cursor, and the writing run follows the header -/
theorem nesting_and_dry_run_sites_as_modelled :
    NV.Gen.C16.nestingSitesAsModelled = true ∧ NV.Gen.C16.restoreSizeNestingArg = 1 + 1 ∧
    NV.Gen.C16.dryRunSitesAsModelled = true := by decide

/-! ### state shared between calls (Globals.lean) -/

/-- **No entry point of the restore sees the shared state it is entered with.**  Whatever an earlier save or restore
that ended in an LPC error left in `save_svalue_depth` and `save_svalue_sizes` (`g` arbitrary), restore_svalue /
safe_restore_svalue — hence restore_variable and restore_object with either flag — yield what they yield on a fresh
driver.  (`restoreTextFrom` is the code without its first statement: `Witness.stale_counter_without_reset`.) -/
theorem restore_ignores_stale_state (F : FloatOps α) (mb : MbLen) (g : G) (t : List Nat) :
    restoreSvalueG F mb g t = restoreSvalue F mb t := NV.C16.restore_ignores_stale_state F mb g t

/-- ... nor does any entry point of the save (save_variable, every variable of save_object) -/
theorem save_ignores_stale_state (F : FloatOps α) (g : G) (v : Value α) : saveSizeG F g v = saveSize F 0 v :=
  NV.C16.save_ignores_stale_state F g v

/-- the reset `save_svalue_depth = 0` IS the first statement of restore_svalue and of safe_restore_svalue, every
top-level dispatch to restore_array / restore_mapping / restore_class sits in one of the two, every outer call of
svalue_save_size is directly preceded by the reset (REGENERATED); and the file-scope variables the save / restore code
shares between calls are exactly the three `G` abstracts (`nm` on the objects of this build; a new one the code
mentions breaks the tie `file-scope-state/<name>`) -/
theorem reset_sites_as_modelled :
    NV.Gen.C16.resetSitesAsModelled = true ∧
    ((NV.Gen.C16.fileScopeState.filter (fun x => x.2.2 == "protocol")).map (fun x => x.2.1)) =
      ["save_max_depth", "save_svalue_depth", "save_svalue_sizes"] := by decide

/-- **The capacity loops of the size table end and make room** (`while (save_max_depth <= depth) save_max_depth <<= 1`
for a fresh table, `while ((save_max_depth <<= 1) <= depth)` for an allocated one — the second doubles BEFORE it tests),
for every index, from every state that satisfies `TabInv` (an allocated table has a capacity > 0), which the release block
(`release_inv`), both loops and an `error()` in between all keep.  `Witness.zero_capacity_with_a_table_never_ends`: from
(allocated, capacity 0) the second loop does not end. -/
theorem size_table_capacity_ok (t : Tab) (depth : Nat) (hi : TabInv t) :
    ∃ t', ensure t depth (depth + 1) = some t' ∧ t'.alloc = true ∧ depth < t'.cap ∧ TabInv t' :=
  NV.C16.ensure_ok t depth hi

/-- the statements of that protocol read as modelled (REGENERATED): allocation and growth in both closing branches of
restore_internal_size, the entry written after them, pointer and capacity reset TOGETHER in both entry points -/
theorem table_sites_as_modelled : NV.Gen.C16.tableSitesAsModelled = true ∧ 0 < NV.Gen.C16.sizeTableInitial := by decide

/-! ### what the restore functions dispatch on -/

/-- the model's dispatch of restore_array / restore_class (`rdElems`) accepts exactly these first characters ... -/
theorem elem_dispatch_spec (c : Nat) : c ∈ [34, 44, 40, 45, 48, 49, 50, 51, 52, 53, 54, 55, 56, 57] ↔
    (c = 34 ∨ c = 44 ∨ c = 40 ∨ numStart c = true) :=
  (mem_numStart c [34, 44, 40] []).trans (by simp only [List.mem_cons, List.mem_nil_iff, or_false, or_assoc])

/-- ... of a key / of a value in restore_mapping (`rdMap`) ... -/
theorem key_dispatch_spec (c : Nat) : c ∈ [34, 40, 58, 93, 45, 48, 49, 50, 51, 52, 53, 54, 55, 56, 57] ↔
    (c = 93 ∨ c = 34 ∨ c = 40 ∨ c = 58 ∨ numStart c = true) :=
  (mem_numStart c [34, 40, 58, 93] []).trans
    (by simp only [List.mem_cons, List.mem_nil_iff, or_false, or_assoc, or_left_comm (b := c = 93)])

theorem value_dispatch_spec (c : Nat) : c ∈ [34, 40, 45, 48, 49, 50, 51, 52, 53, 54, 55, 56, 57, 44] ↔
    (c = 34 ∨ c = 40 ∨ c = 44 ∨ numStart c = true) :=
  (mem_numStart c [34, 40] [44]).trans
    (by simp only [List.mem_cons, List.mem_nil_iff, or_false, or_assoc, or_comm (a := numStart c = true)])

/-- ... of restore_svalue / safe_restore_svalue (`restoreSvalue`; everything else is the value 0) -/
theorem svalue_dispatch_spec (c : Nat) : c ∈ [34, 40, 45, 48, 49, 50, 51, 52, 53, 54, 55, 56, 57] ↔
    (c = 34 ∨ c = 40 ∨ numStart c = true) :=
  (mem_numStart c [34, 40] []).trans (by simp only [List.mem_cons, List.mem_nil_iff, or_false, or_assoc])

/-- and these ARE the `case 'x':` labels of the switches in the source (REGENERATED, in source order), the nested
containers being opened by `[`, `{`, `/` behind the `(` in all five functions -/
theorem restore_dispatch_as_in_source :
    NV.Gen.C16.restoreArrayCases = [34, 44, 40, 45, 48, 49, 50, 51, 52, 53, 54, 55, 56, 57] ∧
    NV.Gen.C16.restoreClassCases = [34, 44, 40, 45, 48, 49, 50, 51, 52, 53, 54, 55, 56, 57] ∧
    NV.Gen.C16.restoreMappingKeyCases = [34, 40, 58, 93, 45, 48, 49, 50, 51, 52, 53, 54, 55, 56, 57] ∧
    NV.Gen.C16.restoreMappingValueCases = [34, 40, 45, 48, 49, 50, 51, 52, 53, 54, 55, 56, 57, 44] ∧
    NV.Gen.C16.restoreSvalueCases = [34, 40, 45, 48, 49, 50, 51, 52, 53, 54, 55, 56, 57] ∧
    NV.Gen.C16.safeRestoreSvalueCases = [34, 40, 45, 48, 49, 50, 51, 52, 53, 54, 55, 56, 57] ∧
    NV.Gen.C16.restoreOpeners.all (fun l => l.all (fun b => b = 91 || b = 123 || b = 47) && [91, 123, 47].all l.contains) = true := by
  decide

/-! ## the hash table restore_mapping fills (Hash.lean): every restored pair can be looked up -/

/-- **One pair of restore_mapping** (bucket `hash & mask`, duplicate test in the chain, `--unfilled`, growMap in the
middle, re-derived bucket `if (oi & ++mask) elt2 = a[i |= mask]`): the table stays well-formed (a power of two of
buckets, every node in the bucket its hash selects), the inserted key is found by node_find_in_mapping, no other key
is lost — for EVERY hash function (string keys hash by address) and table size. -/
theorem mapping_insert_spec {κ : Type} [DecidableEq κ] (h : κ → Nat) (t t' : Hash.Tbl κ) (k : κ)
    (hw : Hash.WF h t) (hi : Hash.insert h t k = some t') :
    Hash.WF h t' ∧ Hash.find h t' k = true ∧ ∀ k', Hash.find h t k' = true → Hash.find h t' k' = true :=
  Hash.insert_spec h t t' k hw hi

/-- **Every pair of a restored mapping is found through its key** (`m[key]`), whatever the keys, their order, their
hashes, the initial table size and however often the table grows during the restore. -/
theorem restore_mapping_all_found {κ : Type} [DecidableEq κ] (h : κ → Nat) (e : Nat) (ks : List κ) (t : Hash.Tbl κ)
    (hi : Hash.insertAll h (Hash.empty e) ks = some t) : ∀ k ∈ ks, Hash.find h t k = true :=
  Hash.restore_mapping_all_found h e ks t hi

/-- the same starting from the table `allocate_mapping(n)` makes, for every `n`: the restored table is well-formed and
every pair is found (this is the function the model driver runs against the real table of every restored integer-key
mapping: `tbl` lines — size, `unfilled`, count, every chain in order) -/
theorem restore_mapping_all_found_alloc {κ : Type} [DecidableEq κ] (h : κ → Nat) (n : Nat) (ks : List κ)
    (t : Hash.Tbl κ) (hi : Hash.insertAll h (Hash.allocate n) ks = some t) :
    Hash.WF h t ∧ ∀ k ∈ ks, Hash.find h t k = true :=
  Hash.restore_mapping_all_found_alloc h n ks t hi

/-- the statements of restore_mapping / growMap / node_find_in_mapping that Hash.lean mirrors read that way
(REGENERATED from the source text on every run) -/
theorem hash_sites_as_modelled : NV.Gen.C16.hashSitesAsModelled = true := by decide

end NV.C16.Props
