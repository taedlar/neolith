/-
C16 — the walks over the program tree (Tree.lean) are the flat functions of Model.lean applied to `slots`.
-/
import NV.C16.Tree
import NV.C16.Equations

namespace NV.C16.TreeProofs
open NV.C16


variable {α : Type}

/-! ## the static flag -/

theorem hasStatic_or (a b : Nat) : hasStatic (a ||| b) = (hasStatic a || hasStatic b) := by
  unfold hasStatic
  rw [Nat.and_or_distrib_right]
  generalize a &&& nameStatic = x
  generalize b &&& nameStatic = y
  rw [Bool.eq_iff_iff]
  simp only [bne_iff_ne, Bool.or_eq_true, ne_eq, Nat.or_eq_zero_iff]
  by_cases hx : x = 0 <;> by_cases hy : y = 0 <;> simp [hx, hy]

theorem hasStatic_zero : hasStatic 0 = false := by
  simp [hasStatic]

mutual
theorem slots_st : ∀ (p : Prog) (st : Bool),
    slots p st = (slots p false).map (fun s => ⟨s.name, st || s.isStatic⟩)
  | .mk _ _ inhs vars, st => by
    simp only [slots, List.map_append, List.map_map]
    rw [slotsInhs_st inhs st]
    congr 1
theorem slotsInhs_st : ∀ (i : Inhs) (st : Bool),
    slotsInhs i st = (slotsInhs i false).map (fun s => ⟨s.name, st || s.isStatic⟩)
  | .nil, st => by simp [slotsInhs]
  | .cons m _ p r, st => by
    simp only [slotsInhs, List.map_append]
    rw [slotsInhs_st r st, slots_st p (st || hasStatic m), slots_st p (false || hasStatic m)]
    congr 1
    simp only [List.map_map]
    apply List.map_congr_left
    intro s _
    simp [Bool.or_assoc]
end

theorem slots_true (p : Prog) : slots p true = (slots p false).map (fun s => ⟨s.name, true⟩) := by
  rw [slots_st p true]
  simp

theorem slots_length (p : Prog) (st : Bool) : (slots p st).length = (slots p false).length := by
  rw [slots_st p st]; simp

/-! ## save_object_recurse writes the lines of the flat list -/

theorem mkVars_nil_right (ss : List Slot) : mkVars ss ([] : List (Value α)) = [] := by
  cases ss <;> rfl

theorem mkVars_append (a b : List Slot) : ∀ (vs : List (Value α)),
    mkVars (a ++ b) vs = mkVars a vs ++ mkVars b (vs.drop a.length) := by
  induction a with
  | nil => intro vs; rfl
  | cons s a ih =>
    intro vs
    cases vs with
    | nil => rw [mkVars_nil_right, mkVars_nil_right, List.drop_nil, mkVars_nil_right]; rfl
    | cons v vs => rw [List.cons_append, mkVars, mkVars, ih, List.length_cons, List.drop_succ_cons, List.cons_append]

theorem saveLines_append (F : FloatOps α) (z : Bool) (a b : List (Var α)) :
    saveLines F z (a ++ b) = saveLines F z a ++ saveLines F z b := by
  rw [saveLines_eq, saveLines_eq, saveLines_eq, written, List.filter_append, List.map_append]; rfl

/-- the lines of two runs of slots one after the other: the second run starts where the first ended, at the cursor
    plus the number of its slots -/
theorem saveLines_mkVars_append (F : FloatOps α) (z : Bool) (a b : List Slot) (vals : List (Value α)) (c : Nat) :
    saveLines F z (mkVars (a ++ b) (vals.drop c)) =
      saveLines F z (mkVars a (vals.drop c)) ++ saveLines F z (mkVars b (vals.drop (c + a.length))) := by
  rw [mkVars_append, saveLines_append, List.drop_drop]

theorem saveLines_static (F : FloatOps α) (z : Bool) (ss : List Slot) (hs : ∀ s ∈ ss, s.isStatic = true) :
    ∀ (vs : List (Value α)), saveLines F z (mkVars ss vs) = [] := by
  induction ss with
  | nil => intro vs; simp [mkVars, saveLines]
  | cons s ss ih =>
    intro vs
    cases vs with
    | nil => simp [mkVars, saveLines]
    | cons v vs =>
      have h1 := hs s (by simp)
      simp [mkVars, saveLines, h1]
      exact ih (fun x hx => hs x (by simp [hx])) vs

theorem saveOwn_flat (F : FloatOps α) (z : Bool) (vals : List (Value α)) : ∀ (vars : List VarDecl) (c : Nat),
    c + vars.length ≤ vals.length →
    saveOwn F z vals vars c = some (c + vars.length,
      saveLines F z (mkVars (vars.map (fun v => ⟨v.name, false || hasStatic v.flags⟩)) (vals.drop c))) := by
  intro vars
  induction vars with
  | nil => intro c h; simp [saveOwn, mkVars, saveLines]
  | cons v vars ih =>
    intro c h
    simp only [List.length_cons] at h
    have hc : c < vals.length := by omega
    have ih' := ih (c + 1) (by omega)
    rw [List.drop_eq_getElem_cons hc]
    simp only [saveOwn, List.map_cons, mkVars, saveLines, Bool.false_or, ih', List.length_cons,
      List.getElem?_eq_getElem hc]
    by_cases hst : hasStatic v.flags = true
    · simp [hst]; omega
    · simp only [hst, Bool.false_eq_true, if_false]
      split <;> simp <;> omega

mutual
theorem saveRec_flat (F : FloatOps α) (z : Bool) (vals : List (Value α)) : ∀ (p : Prog) (c ty : Nat),
    c + (slots p (hasStatic ty)).length ≤ vals.length →
    saveRec F z vals p c ty = some (c + (slots p (hasStatic ty)).length,
      saveLines F z (mkVars (slots p (hasStatic ty)) (vals.drop c)))
  | .mk _ _ inhs vars, c, ty, h => by
    simp only [slots, List.length_append, List.length_map] at h
    have hi := saveInhs_flat F z vals inhs c ty (by omega)
    simp only [saveRec, hi, slots, saveLines_mkVars_append, List.length_append, List.length_map, Nat.add_assoc]
    cases hst : hasStatic ty with
    | true =>
      -- below a static inherit the program's own variables only move the cursor
      rw [if_pos rfl, saveLines_static F z (vars.map _) (by simp), List.append_nil]
    | false =>
      rw [if_neg Bool.false_ne_true, saveOwn_flat F z vals vars _ (by rw [hst] at h; omega), Nat.add_assoc]
theorem saveInhs_flat (F : FloatOps α) (z : Bool) (vals : List (Value α)) : ∀ (i : Inhs) (c ty : Nat),
    c + (slotsInhs i (hasStatic ty)).length ≤ vals.length →
    saveInhs F z vals i c ty = some (c + (slotsInhs i (hasStatic ty)).length,
      saveLines F z (mkVars (slotsInhs i (hasStatic ty)) (vals.drop c)))
  | .nil, c, ty, h => by simp [saveInhs, slotsInhs, mkVars, saveLines]
  | .cons m _ p r, c, ty, h => by
    have e : hasStatic (m ||| ty) = (hasStatic ty || hasStatic m) := by rw [hasStatic_or, Bool.or_comm]
    simp only [slotsInhs, List.length_append] at h
    have hp := saveRec_flat F z vals p c (m ||| ty) (by rw [e]; omega)
    rw [e] at hp
    have hr := saveInhs_flat F z vals r (c + (slots p (hasStatic ty || hasStatic m)).length) ty (by omega)
    simp only [saveInhs, hp, hr, slotsInhs, saveLines_mkVars_append, List.length_append, Nat.add_assoc]
end

/-- save_object writes, for every program tree, exactly the lines of the flat variable list -/
theorem saveObject_writes_each_nonstatic_variable_its_own_value (F : FloatOps α) (z : Bool) (p : Prog)
    (vals : List (Value α)) (h : vals.length = (slots p false).length) :
    saveTreeLines F z p vals = some (saveLines F z (mkVars (slots p false) vals)) := by
  have := saveRec_flat F z vals p 0 0 (by rw [hasStatic_zero]; omega)
  rw [hasStatic_zero] at this
  simp [saveTreeLines, this]

/-- with save_zeros: every non-static variable exactly once, in slot order, as `name value`; nothing static -/
theorem saveLines_spec (F : FloatOps α) (vars : List (Var α)) :
    saveLines F true vars =
      (vars.filter (fun v => !v.isStatic)).map (fun v => v.name ++ 32 :: (save F v.val ++ [10])) := by
  rw [saveLines_eq, written]
  simp only [Bool.true_or, Bool.and_true]
  rfl

/-- without save_zeros: a subset of those lines -/
theorem saveLines_sub (F : FloatOps α) (z : Bool) (vars : List (Var α)) :
    ∀ l ∈ saveLines F z vars, ∃ v ∈ vars, v.isStatic = false ∧ l = v.name ++ 32 :: (save F v.val ++ [10]) := by
  intro l hl
  rw [saveLines_eq] at hl
  obtain ⟨v, hv, rfl⟩ := List.mem_map.1 hl
  obtain ⟨h1, h2, _⟩ := written_nonstatic F z vars v hv
  exact ⟨v, h1, h2, rfl⟩

/-! ### non-vacuity: a three-level tree with a static inherit of a program that itself inherits -/

def exF : FloatOps Unit :=
  ⟨fun _ => [49, 46, 53], fun _ => (), fun _ _ => (), fun _ _ => (), fun _ _ => (), fun _ => (), fun _ => (),
    fun _ _ => true, fun _ => false, fun _ => false, fun _ => false⟩

/-- p0: `int a; static int b;` -/
def exP0 : Prog := .mk [112, 48] 2 .nil [⟨[97], 0⟩, ⟨[98], 512⟩]
/-- p1: `inherit p0; int c;` -/
def exP1 : Prog := .mk [112, 49] 3 (.cons 0 0 exP0 .nil) [⟨[99], 0⟩]
/-- p2: `static inherit p1; int d; int e;` -/
def exP2 : Prog := .mk [112, 50] 5 (.cons 512 0 exP1 .nil) [⟨[100], 0⟩, ⟨[101], 0⟩]

example : slots exP2 false = [⟨[97], true⟩, ⟨[98], true⟩, ⟨[99], true⟩, ⟨[100], false⟩, ⟨[101], false⟩] := by
  decide

/-- values a=1 b=2 c=3 d=4 e=5: only `d 4` and `e 5` are written -/
example : saveTreeLines exF true exP2 [.int 1, .int 2, .int 3, .int 4, .int 5]
    = some [[100, 32, 52, 10], [101, 32, 53, 10]] := by
  rw [saveObject_writes_each_nonstatic_variable_its_own_value _ _ _ _ (by decide)]
  have h4 : save exF (.int 4) = [52] := by
    simp [save, saveInt, magnitude]; rw [digits]; simp
  have h5 : save exF (.int 5) = [53] := by
    simp [save, saveInt, magnitude]; rw [digits]; simp
  have hs : slots exP2 false = [⟨[97], true⟩, ⟨[98], true⟩, ⟨[99], true⟩, ⟨[100], false⟩, ⟨[101], false⟩] := by
    decide
  simp [hs, mkVars, saveLines, h4, h5]

/-! ## find_global_variable finds the first slot of that name -/

/-- index (counted from the given start) and static flag of the first slot with that name -/
def firstIdx (name : List Byte) : List Slot → Nat → Option (Nat × Bool)
  | [], _ => none
  | s :: r, i => if s.name = name then some (i, s.isStatic) else firstIdx name r (i + 1)

theorem firstIdx_append (name : List Byte) (a b : List Slot) : ∀ (i : Nat),
    firstIdx name (a ++ b) i =
      match firstIdx name a i with
      | some r => some r
      | none => firstIdx name b (i + a.length) := by
  induction a with
  | nil => intro i; simp [firstIdx]
  | cons s a ih =>
    intro i
    simp only [List.cons_append, firstIdx, List.length_cons]
    split
    · rfl
    · rw [ih (i + 1)]
      simp [Nat.add_assoc, Nat.add_comm 1]

theorem firstIdx_map_st (name : List Byte) (st : Bool) (l : List Slot) : ∀ (i : Nat),
    firstIdx name (l.map (fun s => ⟨s.name, st || s.isStatic⟩)) i =
      (firstIdx name l i).map (fun r => (r.1, st || r.2)) := by
  induction l with
  | nil => intro i; simp [firstIdx]
  | cons s l ih =>
    intro i
    simp only [List.map_cons, firstIdx]
    split
    · rfl
    · exact ih (i + 1)

/-- what find_global_variable makes of the result of fgv_recurse -/
def fgvOut : (Nat × Nat) ⊕ Nat → Option (Nat × Bool)
  | .inl (i, ty) => some (i, hasStatic ty)
  | .inr _ => none

theorem findOwn_flat (name : List Byte) (base : Nat) : ∀ (vars : List VarDecl) (k : Nat),
    firstIdx name (vars.map (fun v => ⟨v.name, false || hasStatic v.flags⟩)) (base + k) =
      (findOwn name vars k).map (fun r => (base + r.1, hasStatic r.2)) := by
  intro vars
  induction vars with
  | nil => intro k; simp [firstIdx, findOwn]
  | cons v vars ih =>
    intro k
    simp only [List.map_cons, firstIdx, findOwn]
    split
    · simp
    · exact ih (k + 1)

mutual
/-- not found: the cursor has moved over the whole subtree -/
theorem fgv_inr (name : List Byte) : ∀ (p : Prog) (idx j : Nat),
    fgv name p idx = .inr j → j = idx + (slots p false).length
  | .mk _ _ inhs vars, idx, j, h => by
    simp only [fgv] at h
    split at h
    · simp at h
    · rename_i idx1 hi
      have := fgvInhs_inr name inhs idx idx1 hi
      split at h
      · simp at h
      · simp at h
        simp [slots]
        omega
theorem fgvInhs_inr (name : List Byte) : ∀ (i : Inhs) (idx j : Nat),
    fgvInhs name i idx = .inr j → j = idx + (slotsInhs i false).length
  | .nil, idx, j, h => by
    simp [fgvInhs] at h
    simp [slotsInhs, h]
  | .cons m _ p r, idx, j, h => by
    simp only [fgvInhs] at h
    split at h
    · simp at h
    · rename_i idx1 hp
      have h1 := fgv_inr name p idx idx1 hp
      have h2 := fgvInhs_inr name r idx1 j h
      simp [slotsInhs, slots_length p (hasStatic m)]
      omega
end

mutual
theorem fgv_flat (name : List Byte) : ∀ (p : Prog) (idx : Nat),
    fgvOut (fgv name p idx) = firstIdx name (slots p false) idx
  | .mk _ _ inhs vars, idx => by
    have hi := fgvInhs_flat name inhs idx
    simp only [fgv, slots, firstIdx_append]
    rw [← hi]
    cases hf : fgvInhs name inhs idx with
    | inl r =>
      obtain ⟨i, ty⟩ := r
      simp [fgvOut]
    | inr idx1 =>
      have hlen := fgvInhs_inr name inhs idx idx1 hf
      simp only [fgvOut]
      rw [← hlen]
      have ho := findOwn_flat name idx1 vars 0
      simp only [Nat.add_zero] at ho
      rw [ho]
      cases findOwn name vars 0 with
      | none => simp
      | some r => obtain ⟨i, ty⟩ := r; simp
theorem fgvInhs_flat (name : List Byte) : ∀ (i : Inhs) (idx : Nat),
    fgvOut (fgvInhs name i idx) = firstIdx name (slotsInhs i false) idx
  | .nil, idx => by simp [fgvInhs, fgvOut, slotsInhs, firstIdx]
  | .cons m _ p r, idx => by
    have hp := fgv_flat name p idx
    simp only [fgvInhs, slotsInhs, firstIdx_append, Bool.false_or]
    rw [slots_st p (hasStatic m), firstIdx_map_st, ← hp, List.length_map]
    cases hf : fgv name p idx with
    | inl q =>
      obtain ⟨i, ty⟩ := q
      simp [fgvOut, hasStatic_or, Bool.or_comm]
    | inr idx1 =>
      have hlen := fgv_inr name p idx idx1 hf
      simp only [fgvOut, Option.map_none]
      rw [← hlen]
      exact fgvInhs_flat name r idx1
end

theorem findGlobal_flat (p : Prog) (name : List Byte) : findGlobal p name = firstIdx name (slots p false) 0 := by
  rw [← fgv_flat name p 0]
  unfold findGlobal
  cases fgv name p 0 with
  | inl r => obtain ⟨i, ty⟩ := r; rfl
  | inr j => rfl

/-! ## clear_non_statics clears exactly the non-static slots -/

/-- the flat clearing loop: slot `k` of `ss` is at index `idx + k` of the variable array -/
def clrAt : List Slot → List (Value α) → Nat → List (Value α)
  | [], vals, _ => vals
  | s :: ss, vals, idx => clrAt ss (if s.isStatic then vals else setAt vals idx (.int 0)) (idx + 1)

theorem clrAt_append (a b : List Slot) : ∀ (vals : List (Value α)) (idx : Nat),
    clrAt (a ++ b) vals idx = clrAt b (clrAt a vals idx) (idx + a.length) := by
  induction a with
  | nil => intro vals idx; simp [clrAt]
  | cons s a ih =>
    intro vals idx
    simp only [List.cons_append, clrAt, ih, List.length_cons]
    simp [Nat.add_assoc, Nat.add_comm 1]

theorem clrAt_static (ss : List Slot) (hs : ∀ s ∈ ss, s.isStatic = true) : ∀ (vals : List (Value α)) (idx : Nat),
    clrAt ss vals idx = vals := by
  induction ss with
  | nil => intro vals idx; rfl
  | cons s ss ih =>
    intro vals idx
    simp only [clrAt, hs s (by simp), if_true]
    exact ih (fun x hx => hs x (by simp [hx])) vals (idx + 1)

theorem cnsOwn_flat : ∀ (vars : List VarDecl) (vals : List (Value α)) (i : Nat),
    cnsOwn vals vars i = clrAt (vars.map (fun v => ⟨v.name, false || hasStatic v.flags⟩)) vals i := by
  intro vars
  induction vars with
  | nil => intro vals i; rfl
  | cons v vars ih =>
    intro vals i
    simp only [cnsOwn, List.map_cons, clrAt, Bool.false_or]
    exact ih _ _

mutual
theorem cnsCount_flat : ∀ (p : Prog), cnsCount p = (slots p false).length
  | .mk _ _ inhs vars => by simp [cnsCount, slots, cnsCountInhs_flat inhs]
theorem cnsCountInhs_flat : ∀ (i : Inhs), cnsCountInhs i = (slotsInhs i false).length
  | .nil => by simp [cnsCountInhs, slotsInhs]
  | .cons m _ p r => by
    simp [cnsCountInhs, slotsInhs, cnsCount_flat p, cnsCountInhs_flat r, slots_length p (hasStatic m)]
end

mutual
theorem cns_clrAt : ∀ (p : Prog) (vals : List (Value α)) (idx : Nat),
    cns vals p idx = (clrAt (slots p false) vals idx, idx + (slots p false).length)
  | .mk _ _ inhs vars, vals, idx => by
    simp only [cns, cnsInhs_clrAt inhs vals idx, slots, clrAt_append, cnsOwn_flat, List.length_append,
      List.length_map, Nat.add_assoc]
theorem cnsInhs_clrAt : ∀ (i : Inhs) (vals : List (Value α)) (idx : Nat),
    cnsInhs vals i idx = (clrAt (slotsInhs i false) vals idx, idx + (slotsInhs i false).length)
  | .nil, vals, idx => by simp [cnsInhs, slotsInhs, clrAt]
  | .cons m _ p r, vals, idx => by
    simp only [cnsInhs, slotsInhs, clrAt_append, List.length_append, Bool.false_or]
    by_cases hm : hasStatic m = true
    · simp only [hm, if_true]
      rw [cnsInhs_clrAt r vals _, cnsCount_flat, slots_length p true]
      rw [clrAt_static (slots p true) (by rw [slots_true]; simp)]
      simp [Nat.add_assoc]
    · simp only [Bool.not_eq_true] at hm
      simp only [hm, Bool.false_eq_true, if_false]
      rw [cns_clrAt p vals idx]
      simp only
      rw [cnsInhs_clrAt r _ _]
      simp [Nat.add_assoc]
end

theorem setAt_length {β : Type} : ∀ (l : List β) (n : Nat) (x : β), (setAt l n x).length = l.length := by
  intro l
  induction l with
  | nil => intro n x; rfl
  | cons y l ih =>
    intro n x
    cases n with
    | zero => rfl
    | succ n => simp [setAt, ih]

theorem setAt_append_length {β : Type} (pre : List β) (v x : β) (vs : List β) :
    setAt (pre ++ v :: vs) pre.length x = pre ++ x :: vs := by
  induction pre with
  | nil => rfl
  | cons y pre ih => simp [setAt, ih]

theorem clrAt_mkVars : ∀ (ss : List Slot) (pre vs : List (Value α)), vs.length = ss.length →
    clrAt ss (pre ++ vs) pre.length =
      pre ++ (mkVars ss vs).map (fun v => if v.isStatic then v.val else Value.int 0) := by
  intro ss
  induction ss with
  | nil =>
    intro pre vs h
    cases vs with
    | nil => simp [clrAt, mkVars]
    | cons v vs => simp at h
  | cons s ss ih =>
    intro pre vs h
    cases vs with
    | nil => simp at h
    | cons v vs =>
      simp only [List.length_cons, Nat.add_right_cancel_iff] at h
      simp only [clrAt, mkVars, List.map_cons]
      by_cases hst : s.isStatic = true
      · simp only [hst, if_true]
        have := ih (pre ++ [v]) vs h
        simp only [List.append_assoc, List.singleton_append, List.length_append, List.length_singleton] at this
        exact this
      · simp only [hst, Bool.false_eq_true, if_false, setAt_append_length]
        have := ih (pre ++ [Value.int 0]) vs h
        simp only [List.append_assoc, List.singleton_append, List.length_append, List.length_singleton] at this
        exact this

theorem cns_flat (vals : List (Value α)) (p : Prog) (h : vals.length = (slots p false).length) :
    (cns vals p 0).1 = (mkVars (slots p false) vals |>.map (fun v => if v.isStatic then v.val else Value.int 0)) := by
  rw [cns_clrAt]
  have := clrAt_mkVars (slots p false) [] vals h
  simpa using this

/-! ## restore_object on the tree is the flat restore_object -/

def outVals : RoOut α → RoOutT α
  | .done vs => .done (vs.map (·.val))
  | .error m vs => .error m (vs.map (·.val))
  | .crash => .crash
  | .stuck => .stuck

theorem mkVars_vals : ∀ (ss : List Slot) (vals : List (Value α)), vals.length = ss.length →
    (mkVars ss vals).map (·.val) = vals := by
  intro ss
  induction ss with
  | nil => intro vals h; cases vals with
    | nil => rfl
    | cons v vs => simp at h
  | cons s ss ih =>
    intro vals h
    cases vals with
    | nil => simp at h
    | cons v vs =>
      simp only [List.length_cons, Nat.add_right_cancel_iff] at h
      simp [mkVars, ih vs h]

/-- the flat search against `firstIdx` -/
theorem find_mkVars (name : List Byte) : ∀ (ss : List Slot) (vals : List (Value α)) (k : Nat),
    vals.length = ss.length →
    ((mkVars ss vals).find? (fun v => v.name = name)).map (·.isStatic) = (firstIdx name ss k).map (·.2) := by
  intro ss
  induction ss with
  | nil => intro vals k _; rfl
  | cons s ss ih =>
    intro vals k h
    cases vals with
    | nil => nomatch h
    | cons v vs =>
      rw [mkVars, firstIdx]
      by_cases hn : s.name = name
      · rw [if_pos hn, List.find?_cons_of_pos (p := fun v : Var α => decide (v.name = name)) (decide_eq_true hn)]; rfl
      · rw [if_neg hn, List.find?_cons_of_neg (p := fun v : Var α => decide (v.name = name)) (by simpa using hn)]
        exact ih vs (k + 1) (Nat.succ.inj h)

/-- the flat assignment against `setAt` at the index `firstIdx` finds -/
theorem setVar_mkVars (name : List Byte) (x : Value α) : ∀ (ss : List Slot) (vals : List (Value α)) (k i : Nat)
    (st : Bool), vals.length = ss.length → firstIdx name ss k = some (i, st) →
    k ≤ i ∧ mkVars ss (setAt vals (i - k) x) = setVar (mkVars ss vals) name x := by
  intro ss
  induction ss with
  | nil => intro vals k i st _ hf; nomatch hf
  | cons s ss ih =>
    intro vals k i st h hf
    cases vals with
    | nil => nomatch h
    | cons v vs =>
      rw [firstIdx] at hf
      by_cases hn : s.name = name
      · rw [if_pos hn] at hf
        cases hf
        rw [Nat.sub_self, setAt, mkVars, mkVars, setVar, if_pos hn]
        exact ⟨Nat.le_refl k, rfl⟩
      · rw [if_neg hn] at hf
        obtain ⟨hle, hset⟩ := ih vs (k + 1) i st (Nat.succ.inj h) hf
        have e : i - k = (i - (k + 1)) + 1 := by omega
        rw [e, setAt, mkVars, mkVars, setVar, if_neg hn, hset]
        exact ⟨by omega, rfl⟩

/-- one line of the file, on the tree: as `restoreLines_cons`, with find_global_variable for the lookup -/
theorem restoreLinesT_cons (F : FloatOps α) (mb : MbLen) (p : Prog) (l : List Byte) (ls : List (List Byte))
    (vals : List (Value α)) :
    restoreLinesT F mb p (l :: ls) vals =
      match lineAct F mb (fun n => (findGlobal p n).map (·.2)) l (ls = []) with
      | .done => .done vals
      | .fileError => .error "restore_object(): Illegal file format." vals
      | .skip => restoreLinesT F mb p ls vals
      | .assign n x => restoreLinesT F mb p ls (setAt vals ((findGlobal p n).getD (0, false)).1 x)
      | .valueError e n => .error (errMsgVar e n) vals
      | .crash => .crash
      | .stuck => .stuck := by
  rw [restoreLinesT, lineAct]
  by_cases h0 : l = []
  · rw [if_pos h0, if_pos h0]; by_cases h1 : ls = [] <;> simp only [h1, if_true, if_false]
  rw [if_neg h0, if_neg h0]
  by_cases h1 : l.head? = some 35
  · rw [if_pos h1, if_pos h1]
  rw [if_neg h1, if_neg h1]
  simp only []
  by_cases h2 : (l.takeWhile (· ≠ 32)).length = l.length ∨ (l.takeWhile (· ≠ 32)).length ≥ varBufSize
  · rw [if_pos h2, if_pos h2]
  rw [if_neg h2, if_neg h2]
  cases hf : findGlobal p (l.takeWhile (· ≠ 32)) with
  | none => rfl
  | some q =>
    obtain ⟨idx, st⟩ := q
    cases st with
    | true => rfl
    | false =>
      simp only [Option.map_some, Bool.false_eq_true, if_false]
      cases restoreSvalue F mb (l.drop ((l.takeWhile (· ≠ 32)).length + 1)) <;> simp only [valueAct, hf, Option.getD_some]

theorem restoreLinesT_flat (F : FloatOps α) (mb : MbLen) (nc : Bool) (p : Prog) :
    ∀ (ls : List (List Byte)) (vals : List (Value α)), vals.length = (slots p false).length →
    restoreLinesT F mb p ls vals = outVals (restoreLines F mb nc ls (mkVars (slots p false) vals)) := by
  intro ls
  induction ls with
  | nil => intro vals h; rw [restoreLinesT, restoreLines, outVals, mkVars_vals _ _ h]
  | cons l ls ih =>
    intro vals h
    -- both sides classify the line alike, find_global_variable being the first slot of the name
    have hlook : (fun n => (findGlobal p n).map (·.2)) =
        fun n => ((mkVars (slots p false) vals).find? (fun v => v.name = n)).map (·.isStatic) :=
      funext fun n => by rw [findGlobal_flat, find_mkVars n _ vals 0 h]
    rw [restoreLinesT_cons, restoreLines_cons, hlook]
    rcases lineAct_cases F mb (fun n => ((mkVars (slots p false) vals).find? (fun v => v.name = n)).map (·.isStatic))
      l (ls = []) with e | e | e | ⟨hl, e⟩ <;> rw [e]
    · show RoOutT.done vals = outVals (.done _); rw [outVals, mkVars_vals _ _ h]
    · show RoOutT.error _ vals = outVals (.error _ _); rw [outVals, mkVars_vals _ _ h]
    · exact ih vals h
    · cases restoreSvalue F mb (l.drop ((l.takeWhile (· ≠ 32)).length + 1)) with
      | ok x =>
        show restoreLinesT F mb p ls (setAt vals ((findGlobal p (l.takeWhile (· ≠ 32))).getD (0, false)).1 x) =
          outVals (restoreLines F mb nc ls (setVar _ (l.takeWhile (· ≠ 32)) x))
        rw [find_mkVars _ _ vals 0 h] at hl
        rw [findGlobal_flat]
        cases hf : firstIdx (l.takeWhile (· ≠ 32)) (slots p false) 0 with
        | none => rw [hf] at hl; nomatch hl
        | some q =>
          rw [← (setVar_mkVars _ x _ vals 0 q.1 q.2 h hf).2]
          exact ih _ (by rw [setAt_length]; exact h)
      | err e => show RoOutT.error _ vals = outVals (.error _ _); rw [outVals, mkVars_vals _ _ h]
      | crash => rfl
      | stuck => rfl

theorem mkVars_cleared : ∀ (ss : List Slot) (vals : List (Value α)), vals.length = ss.length →
    mkVars ss ((mkVars ss vals).map (fun v => if v.isStatic then v.val else Value.int 0)) =
      (mkVars ss vals).map (fun v => if v.isStatic then v else { v with val := .int 0 }) := by
  intro ss
  induction ss with
  | nil => intro vals h; simp [mkVars]
  | cons s ss ih =>
    intro vals h
    cases vals with
    | nil => simp at h
    | cons v vs =>
      simp only [List.length_cons, Nat.add_right_cancel_iff] at h
      simp only [mkVars, List.map_cons, ih vs h]
      by_cases hst : s.isStatic = true <;> simp [hst]

theorem restoreObjectT_flat (F : FloatOps α) (mb : MbLen) (nc : Bool) (file : Option (List Byte)) (p : Prog)
    (vals : List (Value α)) (h : vals.length = (slots p false).length) :
    restoreObjectT F mb nc file p vals =
      ((restoreObject F mb nc file (mkVars (slots p false) vals)).1,
        outVals (restoreObject F mb nc file (mkVars (slots p false) vals)).2) := by
  unfold restoreObjectT restoreObject
  split
  · simp [outVals, mkVars_vals _ _ h]
  · simp [outVals, mkVars_vals _ _ h]
  · simp only
    cases nc with
    | true =>
      simp only [if_true]
      rw [restoreLinesT_flat F mb true p _ vals h]
    | false =>
      simp only [Bool.false_eq_true, if_false]
      rw [restoreLinesT_flat F mb false p _ _ (by
        rw [cns_flat vals p h, List.length_map, ← h]
        have := congrArg List.length (mkVars_vals _ _ h)
        simpa using this)]
      rw [cns_flat vals p h, mkVars_cleared _ _ h]

end NV.C16.TreeProofs
