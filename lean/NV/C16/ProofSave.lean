/-
C16 — proofs about the save side of the model (NV.C16.Model): buffer size, atomic replacement of the save
file, the temporary file and its name, save_object as a whole, static variables; and, of the restore side, what
needs no parsing: safe_restore_svalue, static variables and a failing line in restore_object.
-/
import NV.C16.Equations

namespace NV.C16

variable {α : Type}

/-- concrete float operations over `Unit`, used by the non-vacuity examples -/
def unitF : FloatOps Unit :=
  ⟨fun _ => [49,46,53], fun _ => (), fun _ _ => (), fun _ _ => (), fun _ _ => (), fun _ => (), fun _ => (),
   fun _ _ => true, fun _ => false, fun _ => false, fun _ => false⟩

/-! ## the save buffer is large enough -/

/-- the digit loop writes one byte more than the counting loop counted -/
theorem digits_length (m : Nat) : (digits m).length = ndigits m + 1 := by
  induction m using digits.induct with
  | case1 n h => rw [digits, ndigits]; simp [h]
  | case2 n h ih => rw [digits, ndigits]; simp [h, ih]; omega

/-- every byte save_svalue writes with a backslash is counted twice by svalue_save_size (stated over the
    conditions extracted from the two C functions: breaks exactly when they drift apart) -/
theorem saveEscaped_sub_sizeEscaped : ∀ c, saveEscaped.contains c = true → sizeEscaped.contains c = true := by
  intro c h
  rcases (saveEscaped_iff c).1 h with rfl | rfl | rfl <;> decide

theorem escByte_length_le (c : Byte) : (escByte c).length ≤ (if sizeEscaped.contains c then 2 else 1) := by
  unfold escByte
  by_cases h : saveEscaped.contains c = true
  · rw [if_pos h, if_pos (saveEscaped_sub_sizeEscaped c h)]; simp
  · rw [if_neg h]
    split <;> split <;> simp

theorem escStr_length_le (s : List Byte) : (escStr s).length ≤ strSize s := by
  induction s with
  | nil => simp [escStr]
  | cons c r ih =>
    have := escByte_length_le c
    simp only [escStr, strSize, List.length_append]
    omega

theorem saveInt_length (i : Int) :
    (saveInt i).length = (if i < 0 then 1 else 0) + ndigits (magnitude i) + 1 := by
  unfold saveInt
  by_cases h : i < 0 <;> simp [h, digits_length] <;> omega

/-- the constants svalue_save_size adds per kind of value cover the delimiters and the NUL that save_svalue writes
    (stated over the values extracted from its return statements: a constant that shrinks breaks this lemma) -/
theorem size_overheads_suffice :
    3 ≤ sizeStr ∧ 5 ≤ sizeArr ∧ 5 ≤ sizeCls ∧ 5 ≤ sizeMap ∧ 2 ≤ sizeInt ∧ 1 ≤ sizeReal ∧ 1 ≤ sizeOther := by
  decide

mutual
/-- text + NUL of a value fits into `svalue_save_size` bytes -/
theorem size_bounds_output (F : FloatOps α) (d : Nat) (v : Value α) (n : Nat) (h : saveSize F d v = some n) :
    (save F v).length + 1 ≤ n :=
  match v, h with
  | .int i, h => by
    rw [saveSize] at h; cases h
    have : 2 ≤ sizeInt := size_overheads_suffice.2.2.2.2.1
    rw [save, saveInt_length]; omega
  | .real x, h => by
    rw [saveSize] at h; cases h
    have : 1 ≤ sizeReal := size_overheads_suffice.2.2.2.2.2.1
    rw [save]; omega
  | .str s, h => by
    rw [saveSize] at h; cases h
    have := escStr_length_le s
    have : 3 ≤ sizeStr := size_overheads_suffice.1
    rw [save_str_length]; omega
  | .arr xs, h => by
    rw [saveSize] at h
    obtain ⟨_, m, hm, rfl⟩ := saveSize_nested h
    have := elems_le F (d + 1) xs m hm
    have : 5 ≤ sizeArr := size_overheads_suffice.2.1
    rw [save_arr_length]; omega
  | .cls xs, h => by
    rw [saveSize] at h
    obtain ⟨_, m, hm, rfl⟩ := saveSize_nested h
    have := elems_le F (d + 1) xs m hm
    have : 5 ≤ sizeCls := size_overheads_suffice.2.2.1
    rw [save_cls_length]; omega
  | .map ps, h => by
    rw [saveSize] at h
    obtain ⟨_, m, hm, rfl⟩ := saveSize_nested h
    have := pairs_le F (d + 1) ps m hm
    have : 5 ≤ sizeMap := size_overheads_suffice.2.2.2.1
    rw [save_map_length]; omega
  | .obj, h => by
    rw [saveSize] at h; cases h
    have : 1 ≤ sizeOther := size_overheads_suffice.2.2.2.2.2.2
    rw [save]; exact this
theorem elems_le (F : FloatOps α) : (d : Nat) → (xs : Vals α) → (n : Nat) → sizeElems F d xs = some n →
    (saveElems F xs).length ≤ n
  | d, .nil, n, h => by rw [saveElems]; exact Nat.zero_le n
  | d, .cons v r, n, h => by
    obtain ⟨a, b, ha, hb, rfl⟩ := sizeElems_cons_eq h
    have h1 := size_bounds_output F d v a ha
    have h2 := elems_le F d r b hb
    rw [saveElems_cons_length]; omega
theorem pairs_le (F : FloatOps α) : (d : Nat) → (ps : Pairs α) → (n : Nat) → sizePairs F d ps = some n →
    (savePairs F ps).length ≤ n
  | d, .nil, n, h => by rw [savePairs]; exact Nat.zero_le n
  | d, .cons k v r, n, h => by
    obtain ⟨a, b, c, ha, hb, hc, rfl⟩ := sizePairs_cons_eq h
    have h1 := size_bounds_output F d k a ha
    have h2 := size_bounds_output F d v b hb
    have h3 := pairs_le F d r c hc
    rw [savePairs_cons_length]; omega
end

example : saveSize unitF 0 (.arr (.cons (.str [34,10]) .nil)) = some 11 := by decide
example : (save unitF (.arr (.cons (.str [34,10]) .nil))).length + 1 = 11 := by decide
example : saveSize unitF 0 (.int (-120)) = some 5 ∧ save unitF (.int (-120)) = [45,49,50,48] := by
  simp [saveSize, save, saveInt, magnitude, ndigits, digits, sizeInt, NV.Gen.C16.sizeInt]

/-! ## save_variable / save_object never write beyond their buffer -/

/-- the text always fits (`size_bounds_output`): save_variable returns it, or refuses where svalue_save_size does -/
theorem saveVariable_eq (F : FloatOps α) (v : Value α) :
    saveVariable F v = if (saveSize F 0 v).isSome then .ok (save F v) else .tooDeep := by
  unfold saveVariable
  cases h : saveSize F 0 v with
  | none => rfl
  | some n => exact if_pos (size_bounds_output F 0 v n h)

theorem saveVariable_no_crash (F : FloatOps α) (v : Value α) : saveVariable F v ≠ SaveOut.crash := by
  rw [saveVariable_eq]; split <;> nofun

example : saveVariable unitF (.str [34,10]) = .ok [34,92,34,13,34] := by decide

theorem saveObject_no_crash (F : FloatOps α) (vars : List (Var α)) : saveObjectCrash F vars = false := by
  unfold saveObjectCrash
  rw [List.any_eq_false]
  intro v _
  rw [saveVariable_eq]
  split <;> cases v.isStatic <;> simp <;> rfl

/-! ## the save file is replaced atomically -/

theorem run_file_of_no_rename (cs : List Call) : ∀ (fs : FS), (∀ c ∈ cs, c ≠ Call.rename) →
    (fs.run cs).file = fs.file := by
  induction cs with
  | nil => intro fs _; rfl
  | cons c r ih =>
    intro fs h
    have hc : c ≠ Call.rename := h c (by simp)
    have hr : ∀ x ∈ r, x ≠ Call.rename := fun x hx => h x (by simp [hx])
    show ((fs.step c).run r).file = fs.file
    rw [ih _ hr]
    cases c <;> first | rfl | exact absurd rfl hc

theorem run_take_file_of_no_rename (cs : List Call) (fs : FS) (k : Nat) (h : ∀ c ∈ cs, c ≠ Call.rename) :
    (fs.run (cs.take k)).file = fs.file :=
  run_file_of_no_rename _ fs (fun c hc => h c (List.mem_of_mem_take hc))

theorem run_writes (chunks : List (List Byte)) : ∀ (file : Option (List Byte)) (acc : List Byte),
    (FS.mk file (some acc)).run (chunks.map Call.write) = FS.mk file (some (acc ++ chunks.flatten)) := by
  induction chunks with
  | nil => intro file acc; simp [FS.run]
  | cons c r ih =>
    intro file acc
    show ((FS.mk file (some acc)).step (Call.write c)).run (r.map Call.write) = _
    simp only [FS.step, Option.map_some]
    rw [ih]; simp

theorem run_open_writes (chunks : List (List Byte)) (old : Option (List Byte)) :
    (FS.mk old none).run (Call.fopenTmp :: chunks.map Call.write) = FS.mk old (some chunks.flatten) := by
  show ((FS.mk old none).step Call.fopenTmp).run (chunks.map Call.write) = _
  simp only [FS.step]
  rw [run_writes]; simp

theorem run_append (fs : FS) (a b : List Call) : fs.run (a ++ b) = (fs.run a).run b := by
  simp [FS.run, List.foldl_append]

theorem save_complete (chunks : List (List Byte)) (old : Option (List Byte)) :
    (FS.mk old none).run (saveScript chunks none).1 = FS.mk (some chunks.flatten) none := by
  show (FS.mk old none).run (Call.fopenTmp :: (chunks.map Call.write ++ [Call.fclose, Call.rename])) = _
  have h3 : Call.fopenTmp :: (chunks.map Call.write ++ [Call.fclose, Call.rename])
      = (Call.fopenTmp :: chunks.map Call.write) ++ [Call.fclose, Call.rename] := by simp
  rw [h3, run_append, run_open_writes]
  rfl

example : (FS.mk none none).run (saveScript [[35],[120,10]] none).1 = FS.mk (some [35,120,10]) none := by decide

theorem save_atomic (chunks : List (List Byte)) (old : Option (List Byte)) (k : Nat) :
    ((FS.mk old none).run ((saveScript chunks none).1.take k)).file = old ∨
    ((FS.mk old none).run ((saveScript chunks none).1.take k)).file = some chunks.flatten := by
  -- up to the rename nothing touches the file; with it the script is complete
  have hsplit : (saveScript chunks none).1 =
      (Call.fopenTmp :: (chunks.map Call.write ++ [Call.fclose])) ++ [Call.rename] := by
    simp [saveScript]
  have hA : ∀ c ∈ Call.fopenTmp :: (chunks.map Call.write ++ [Call.fclose]), c ≠ Call.rename := by
    intro c hc
    simp at hc
    rcases hc with rfl | ⟨x, _, rfl⟩ | rfl <;> simp
  by_cases hk : k ≤ (Call.fopenTmp :: (chunks.map Call.write ++ [Call.fclose])).length
  · rw [hsplit, List.take_append_of_le_length hk]
    exact .inl (run_take_file_of_no_rename _ _ k hA)
  · rw [List.take_of_length_le (by rw [hsplit, List.length_append, List.length_singleton]; omega), save_complete]
    exact .inr rfl

example : ((FS.mk (some [1]) none).run ((saveScript [[2],[3]] none).1.take 4)).file = some [1] := by decide
example : ((FS.mk (some [1]) none).run ((saveScript [[2],[3]] none).1.take 5)).file = some [2,3] := by decide

/-- What save_object does under an injected failure: nothing at all (fopen failed); or it opens the temporary, makes
    some of the writes, closes and unlinks, and returns 0; or the failure number lies beyond the calls it makes and the
    save runs as without one. -/
theorem saveScript_some (chunks : List (List Byte)) (j : Nat) :
    saveScript chunks (some j) = ([], 0) ∨
    (∃ m, saveScript chunks (some j) =
      (Call.fopenTmp :: ((chunks.map Call.write).take m ++ [Call.fclose, Call.unlinkTmp]), 0)) ∨
    saveScript chunks (some j) = saveScript chunks none := by
  have hall : (chunks.map Call.write).take (chunks.map Call.write).length = chunks.map Call.write := List.take_length
  have hn : saveScript chunks none = (Call.fopenTmp :: (chunks.map Call.write ++ [Call.fclose, Call.rename]), 1) := rfl
  rw [hn]
  -- (the if-chain is taken apart in a hypothesis, by hand: `split` on the goal is slow to check)
  generalize h : saveScript chunks (some j) = r
  simp only [saveScript] at h
  by_cases h0 : j = 0
  · rw [if_pos h0] at h; exact .inl h.symm
  rw [if_neg h0] at h
  by_cases h1 : j = 1
  · rw [if_pos h1] at h; exact .inr (.inl ⟨0, h.symm⟩)
  rw [if_neg h1] at h
  by_cases h2 : j ≤ chunks.length
  · rw [if_pos h2] at h; exact .inr (.inl ⟨j - 1, h.symm⟩)
  rw [if_neg h2] at h
  by_cases h3 : j = chunks.length + 1
  · rw [if_pos h3] at h; exact .inr (.inl ⟨_, by rw [hall]; exact h.symm⟩)
  rw [if_neg h3] at h
  by_cases h4 : j = chunks.length + 2
  · rw [if_pos h4] at h; exact .inr (.inl ⟨_, by rw [hall]; exact h.symm⟩)
  · rw [if_neg h4] at h; exact .inr (.inr h.symm)

theorem fail_script_no_rename (chunks : List (List Byte)) (m : Nat) :
    ∀ c ∈ Call.fopenTmp :: ((chunks.map Call.write).take m ++ [Call.fclose, Call.unlinkTmp]), c ≠ Call.rename := by
  intro c hc
  simp only [List.mem_cons, List.mem_append, List.not_mem_nil, or_false] at hc
  rcases hc with rfl | hc | rfl | rfl
  · exact Call.noConfusion
  · obtain ⟨x, _, rfl⟩ := List.mem_map.1 (List.mem_of_mem_take hc); exact Call.noConfusion
  · exact Call.noConfusion
  · exact Call.noConfusion

theorem save_atomic_failure (chunks : List (List Byte)) (old : Option (List Byte)) (j k : Nat) :
    let r := saveScript chunks (some j)
    let fs := (FS.mk old none).run (r.1.take k)
    (fs.file = old ∨ (fs.file = some chunks.flatten ∧ r.2 = 1)) ∧
      (r.2 = 0 → ((FS.mk old none).run r.1).file = old) := by
  show (((FS.mk old none).run ((saveScript chunks (some j)).1.take k)).file = old ∨ _) ∧ _
  rcases saveScript_some chunks j with h | ⟨m, h⟩ | h <;> rw [h]
  · exact ⟨.inl (by cases k <;> rfl), fun _ => rfl⟩
  · exact ⟨.inl (run_take_file_of_no_rename _ _ k (fail_script_no_rename chunks m)),
      fun _ => run_file_of_no_rename _ _ (fail_script_no_rename chunks m)⟩
  · exact ⟨(save_atomic chunks old k).imp_right (fun h => ⟨h, rfl⟩), fun h0 => nomatch h0⟩

-- a failed variable line: the old file stays, the save reports 0
example : (saveScript [[2],[3]] (some 2)).2 = 0 ∧
    ((FS.mk (some [1]) none).run (saveScript [[2],[3]] (some 2)).1) = FS.mk (some [1]) none := by decide
-- a failure number beyond the calls made: the save succeeds
example : (saveScript [[2],[3]] (some 9)).2 = 1 ∧
    ((FS.mk (some [1]) none).run (saveScript [[2],[3]] (some 9)).1).file = some [2,3] := by decide

/-! ## no temporary is left behind; the temporary's name -/

theorem run_snoc_unlink_tmp (fs : FS) (cs : List Call) :
    (fs.run (cs ++ [Call.fclose, Call.unlinkTmp])).tmp = none := by
  rw [run_append]; rfl

/-- **Whatever way the call script ends, it leaves no temporary behind**: without a failure the temporary is renamed
    away; under a failure nothing was opened, or the last call unlinks it -/
theorem saveScript_leaves_no_tmp (chunks : List (List Byte)) (old : Option (List Byte)) (fail : Option Nat) :
    ((FS.mk old none).run (saveScript chunks fail).1).tmp = none := by
  have hnone : ((FS.mk old none).run (saveScript chunks none).1).tmp = none := by rw [save_complete]
  cases fail with
  | none => exact hnone
  | some j =>
    rcases saveScript_some chunks j with h | ⟨m, h⟩ | h
    · rw [h]; rfl
    · rw [h]
      exact run_snoc_unlink_tmp _ (Call.fopenTmp :: (chunks.map Call.write).take m)
    · rw [h]; exact hnone

/-- atomicity at a finer grain than the stdio calls: a crash in the middle of ANY call — a block of a variable line
    half written, the stdio buffer half flushed — still leaves the save file complete old or complete new, because only
    the temporary is ever written to -/
theorem save_atomic_partial (chunks : List (List Byte)) (old : Option (List Byte)) (k : Nat) (c : Call)
    (d' : List Byte) :
    (((FS.mk old none).run ((saveScript chunks none).1.take k)).partialStep c d').file = old ∨
    (((FS.mk old none).run ((saveScript chunks none).1.take k)).partialStep c d').file = some chunks.flatten := by
  have h := save_atomic chunks old k
  cases c <;> simpa [FS.partialStep] using h

theorem save_failure_leaves_no_tmp (chunks : List (List Byte)) (old : Option (List Byte)) (j : Nat) :
    (saveScript chunks (some j)).2 = 0 → ((FS.mk old none).run (saveScript chunks (some j)).1).tmp = none :=
  fun _ => saveScript_leaves_no_tmp chunks old (some j)

-- the header write fails (j = 1), a variable line fails (j = 2), the rename fails (j = 4): no temporary, old file
example : (saveScript [[2],[3]] (some 1)).2 = 0 ∧
    (FS.mk (some [1]) none).run (saveScript [[2],[3]] (some 1)).1 = FS.mk (some [1]) none := by decide
example : (saveScript [[2],[3]] (some 2)).2 = 0 ∧
    (FS.mk (some [1]) none).run (saveScript [[2],[3]] (some 2)).1 = FS.mk (some [1]) none := by decide
example : (saveScript [[2],[3]] (some 3)).2 = 0 ∧
    (FS.mk (some [1]) none).run (saveScript [[2],[3]] (some 3)).1 = FS.mk (some [1]) none := by decide
example : (saveScript [[2],[3]] (some 4)).2 = 0 ∧
    (FS.mk (some [1]) none).run (saveScript [[2],[3]] (some 4)).1 = FS.mk (some [1]) none := by decide
-- the temporary does exist before the unlink: dropping the last call of the j = 3 script leaves it
example : ((FS.mk (some [1]) none).run ((saveScript [[2],[3]] (some 3)).1.take 4)).tmp = some [2, 3] := by decide

theorem save_success_leaves_no_tmp (chunks : List (List Byte)) (old : Option (List Byte)) :
    ((FS.mk old none).run (saveScript chunks none).1).tmp = none :=
  saveScript_leaves_no_tmp chunks old none

example : ((FS.mk (some [1]) none).run ((saveScript [[2],[3]] none).1.take 4)).tmp = some [2, 3] ∧
    ((FS.mk (some [1]) none).run (saveScript [[2],[3]] none).1).tmp = none := by decide

/-- the longest prefix snprintf copies plus ".tmp" and the NUL fit into tmp_name[] (generated values) -/
theorem tmp_suffix_fits : NV.Gen.C16.tmpPrefixMax + 4 < NV.Gen.C16.tmpBufSize := by decide

theorem tmpName_eq (file : List Byte) :
    tmpName file = file.take NV.Gen.C16.tmpPrefixMax ++ [46,116,109,112] := by
  unfold tmpName
  apply List.take_of_length_le
  have := tmp_suffix_fits
  simp only [List.length_append, List.length_take, List.length_cons, List.length_nil]
  omega

theorem tmpName_ne_file (file : List Byte) (h : file.length ≤ NV.Gen.C16.tmpPrefixMax) :
    tmpName file = file ++ [46,116,109,112] ∧ tmpName file ≠ file := by
  have h1 : tmpName file = file ++ [46,116,109,112] := by rw [tmpName_eq, List.take_of_length_le h]
  refine ⟨h1, ?_⟩
  rw [h1]
  intro hc
  have := congrArg List.length hc
  simp at this

example : tmpName [97, 46, 111] = [97, 46, 111, 46, 116, 109, 112] := by decide

/-- hence the temporary of ANY save (two objects whose long paths share their first `tmpPrefixMax` bytes share it) is
    never the save file of any object: save files end in the last byte of SAVE_EXTENSION (regenerated), the
    temporary in `p` -/
theorem tmpName_never_a_save_file (file g : List Byte) (hg : g.getLast? = some NV.Gen.C16.saveExt1) :
    tmpName file ≠ g := by
  rw [tmpName_eq]
  intro h
  rw [← h] at hg
  simp at hg
  exact absurd hg (by decide)


/-- **What the efun save_variable returns is never longer than MaxStringLength** (and is the text `save_svalue`
    writes): the size test stands in front of the allocation, and the size bounds the text (`size_bounds_output`) -/
theorem saveVariableEfun_ok (F : FloatOps α) (v : Value α) (t : List Byte) (h : saveVariableEfun F v = .ok t) :
    t = save F v ∧ t.length ≤ maxStringLength := by
  unfold saveVariableEfun at h
  cases hs : saveSize F 0 v with
  | none => simp [hs] at h
  | some n =>
    simp only [hs] at h
    by_cases hl : n - 1 > maxStringLength
    · simp [hl] at h
    · simp only [hl, if_false] at h
      have hb := size_bounds_output F 0 v n hs
      rw [saveVariable_eq, hs] at h
      cases h
      exact ⟨rfl, by omega⟩

/-! ## save_object as a whole: dry run, then the call script -/

/-- **Whatever way save_object ends — LPC error ("nested too deep"), failure reported for any call, success — no
    temporary file is left behind.**  (False before the two temporary-file fixes: header failure, too-deep error.) -/
theorem saveObject_leaves_no_tmp (F : FloatOps α) (prog : List Byte) (z : Bool) (vars : List (Var α))
    (fail : Option Nat) (old : Option (List Byte)) :
    (saveObjectFS F prog z vars fail (FS.mk old none)).1.tmp = none := by
  unfold saveObjectFS saveObjectScript
  by_cases h : vars.any (fun v => !v.isStatic && (saveVariable F v.val == .tooDeep)) = true
  · rw [if_pos h]
  · rw [if_neg h]; exact saveScript_leaves_no_tmp _ old fail

theorem saveObject_error_touches_nothing (F : FloatOps α) (prog : List Byte) (z : Bool) (vars : List (Var α))
    (fail : Option Nat) (fs : FS) (h : (saveObjectFS F prog z vars fail fs).2 = none) :
    (saveObjectFS F prog z vars fail fs).1 = fs := by
  unfold saveObjectFS at h ⊢
  split
  · rfl
  · rename_i cs ret heq
    simp [heq] at h

theorem beq_tooDeep (x : SaveOut) : (x == SaveOut.tooDeep) = true ↔ x = SaveOut.tooDeep := by
  cases x with
  | ok t => exact ⟨fun h => Bool.noConfusion h, fun h => SaveOut.noConfusion h⟩
  | tooDeep => exact ⟨fun _ => rfl, fun _ => rfl⟩
  | crash => exact ⟨fun h => Bool.noConfusion h, fun h => SaveOut.noConfusion h⟩

theorem saveObject_error_iff_too_deep (F : FloatOps α) (prog : List Byte) (z : Bool) (vars : List (Var α))
    (fail : Option Nat) (fs : FS) :
    (saveObjectFS F prog z vars fail fs).2 = none ↔
      ∃ v ∈ vars, v.isStatic = false ∧ saveVariable F v.val = SaveOut.tooDeep := by
  unfold saveObjectFS saveObjectScript
  by_cases hany : (vars.any (fun v => !v.isStatic && (saveVariable F v.val == .tooDeep))) = true
  · simp only [hany, if_true, true_iff]
    rw [List.any_eq_true] at hany
    obtain ⟨v, hv, hc⟩ := hany
    simp only [Bool.and_eq_true, Bool.not_eq_true'] at hc
    exact ⟨v, hv, hc.1, (beq_tooDeep _).1 hc.2⟩
  · simp only [hany, Bool.false_eq_true, if_false]
    constructor
    · intro h; simp at h
    · rintro ⟨v, hv, hs, hd⟩
      exfalso
      apply hany
      rw [List.any_eq_true]
      exact ⟨v, hv, by simp only [hs, Bool.not_false, Bool.true_and]; exact (beq_tooDeep _).2 hd⟩

/-! ## static variables -/

theorem statics_not_saved (F : FloatOps α) (z : Bool) (vars : List (Var α)) :
    saveLines F z vars = saveLines F z (vars.filter (fun v => !v.isStatic)) := by
  rw [saveLines_eq, saveLines_eq, written, written, List.filter_filter]
  congr 1
  apply List.filter_congr
  intro v _
  cases v.isStatic <;> simp

example : saveLines unitF true [⟨[97], true, .str []⟩, ⟨[98], false, .str []⟩] = [[98, 32, 34, 34, 10]] := by
  decide

/-! ## objects, safe_restore_svalue -/

theorem objects_not_persisted (F : FloatOps α) (mb : MbLen) :
    save F (Value.obj : Value α) = [] ∧ restoreSvalue F mb [] = Res.ok (Value.int 0) :=
  ⟨by simp [save], by simp [restoreSvalue]⟩

theorem safe_restore_keeps_old_on_error (F : FloatOps α) (mb : MbLen) (t : List Byte) (old : Value α)
    (h : ∀ v, (safeRestoreSvalue F mb t old).1 ≠ Res.ok v) : (safeRestoreSvalue F mb t old).2 = old := by
  unfold safeRestoreSvalue at h ⊢
  cases hr : restoreSvalue F mb t with
  | ok v => rw [hr] at h; exact absurd rfl (h v)
  | err e => rfl
  | crash => rfl
  | stuck => rfl

example (mb : MbLen) : safeRestoreSvalue unitF mb [40] (.int 7) = (Res.err RErr.general, Value.int 7) := rfl
example (mb : MbLen) : safeRestoreSvalue unitF mb [34, 97, 34] (.int 7) = (Res.ok (.str [97]), Value.str [97]) := rfl

/-! ## restore_object and static variables / errors -/

/-- setVar assigns the first variable of the name only: when that one is not static, the statics stay -/
theorem setVar_statics (vars : List (Var α)) (n : List Byte) (x : Value α) (v : Var α)
    (hf : vars.find? (fun w => w.name = n) = some v) (hs : v.isStatic = false) :
    (setVar vars n x).filter (·.isStatic) = vars.filter (·.isStatic) := by
  induction vars with
  | nil => rfl
  | cons u r ih =>
    by_cases h : u.name = n
    · have hu : u = v := by simpa [List.find?_cons, h] using hf
      subst hu
      simp [setVar, h, hs]
    · have hf' : r.find? (fun w => w.name = n) = some v := by simpa [List.find?_cons, h] using hf
      simp only [setVar, h, if_false, List.filter_cons, ih hf']

/-- a result of restore_object with the statics and the names of `vars` -/
def GoodOut (vars : List (Var α)) (out : RoOut α) : Prop :=
  match out with
  | .done vs => vs.filter (·.isStatic) = vars.filter (·.isStatic) ∧ vs.map (·.name) = vars.map (·.name)
  | .error _ vs => vs.filter (·.isStatic) = vars.filter (·.isStatic) ∧ vs.map (·.name) = vars.map (·.name)
  | _ => True

/-- restore_object never changes a static variable nor the variable layout -/
theorem restoreLines_good (F : FloatOps α) (mb : MbLen) (nc : Bool) (ls : List (List Byte)) :
    ∀ (vars : List (Var α)), GoodOut vars (restoreLines F mb nc ls vars) := by
  induction ls with
  | nil => intro vars; exact ⟨rfl, rfl⟩
  | cons l ls ih =>
    intro vars
    rw [restoreLines_cons]
    rcases lineAct_cases F mb (fun n => (vars.find? (fun v => v.name = n)).map (·.isStatic)) l (ls = [])
      with h | h | h | ⟨hl, h⟩ <;> rw [h]
    · exact ⟨rfl, rfl⟩
    · exact ⟨rfl, rfl⟩
    · exact ih vars
    · cases restoreSvalue F mb (l.drop ((l.takeWhile (· ≠ 32)).length + 1)) with
      | ok x =>
        -- the line is for a variable that is not static: the assignment leaves the statics and the names alone
        show GoodOut vars (restoreLines F mb nc ls (setVar vars (l.takeWhile (· ≠ 32)) x))
        cases hf : vars.find? (fun v => v.name = l.takeWhile (· ≠ 32)) with
        | none => rw [hf] at hl; cases hl
        | some v =>
          rw [hf] at hl
          have := ih (setVar vars (l.takeWhile (· ≠ 32)) x)
          unfold GoodOut at this
          rwa [setVar_statics vars _ x v hf (Option.some.inj hl), setVar_names] at this
      | err e => exact ⟨rfl, rfl⟩
      | crash => trivial
      | stuck => trivial

theorem statics_and_objects_not_persisted (F : FloatOps α) (mb : MbLen) :
    (∀ z vars, saveLines F z vars = saveLines F z (vars.filter (fun v => !v.isStatic))) ∧
    (∀ nc ls vars,
      match restoreLines F mb nc ls vars with
      | .done vs => vs.filter (·.isStatic) = vars.filter (·.isStatic) ∧ vs.map (·.name) = vars.map (·.name)
      | .error _ vs => vs.filter (·.isStatic) = vars.filter (·.isStatic) ∧ vs.map (·.name) = vars.map (·.name)
      | _ => True) ∧
    save F (Value.obj : Value α) = [] ∧ restoreSvalue F mb [] = Res.ok (Value.int 0) :=
  ⟨fun z vars => statics_not_saved F z vars, fun nc ls vars => restoreLines_good F mb nc ls vars,
   objects_not_persisted F mb⟩

set_option linter.unusedVariables false in  -- `ls` does not occur in the statement
theorem restoreObject_error_keeps_variable (F : FloatOps α) (mb : MbLen) (nc : Bool) (l : List Byte)
    (ls : List (List Byte)) (vars : List (Var α)) (m : String) (vs : List (Var α)) :
    restoreLines F mb nc [l] vars = RoOut.error m vs → vs = vars := by
  intro h
  rw [restoreLines_cons] at h
  rcases lineAct_cases F mb (fun n => (vars.find? (fun v => v.name = n)).map (·.isStatic)) l
      (([] : List (List Byte)) = []) with e | e | e | ⟨_, e⟩ <;> rw [e] at h
  · cases h
  · cases h; rfl
  · cases h
  · revert h
    cases restoreSvalue F mb (l.drop ((l.takeWhile (· ≠ 32)).length + 1)) <;> intro h <;> cases h
    rfl

example (mb : MbLen) : restoreLines unitF mb false [[97, 32, 40]] [⟨[97], false, .int 1⟩]
    = RoOut.error (errMsgVar .general [97]) [⟨[97], false, .int 1⟩] := by
  simp [restoreLines, restoreSvalue, varBufSize, NV.Gen.C16.varBufSize]

-- a static variable with the name of an earlier non-static one is left alone: only the first one is assigned
example (mb : MbLen) : restoreLines unitF mb false [[97, 32, 34, 34]] [⟨[97], false, .int 1⟩, ⟨[97], true, .int 2⟩]
    = RoOut.done [⟨[97], false, .str []⟩, ⟨[97], true, .int 2⟩] := by
  simp [restoreLines, restoreSvalue, restoreString, decodeStr, setVar, varBufSize, NV.Gen.C16.varBufSize]

-- with distinct names the static variable keeps its value while the other one is assigned
example (mb : MbLen) : restoreLines unitF mb false [[98, 32, 34, 34], [97, 32, 34, 34]]
      [⟨[97], false, .int 1⟩, ⟨[98], true, .int 2⟩]
    = RoOut.done [⟨[97], false, .str []⟩, ⟨[98], true, .int 2⟩] := by
  simp [restoreLines, restoreSvalue, restoreString, decodeStr, setVar, varBufSize, NV.Gen.C16.varBufSize]

end NV.C16
