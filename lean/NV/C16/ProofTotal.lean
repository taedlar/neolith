/-
C16 — memory safety of the restore side of the model: `restoreSvalue` never produces `Res.crash`.

The value pass (`rdElems` / `rdMap` / `rdNested`) is safe because it stays in sync with the size pre-pass `pre`.
`Counted` is the grammar between the two: a successful pre-pass has seen a `Counted` text (`pre_counted`, induction over
its fuel, one `preStep` of Equations.lean at a time), and on a `Counted` text the value pass, given that count and table,
ends where the pre-pass ended (`Counted.sync`, recursion over the derivation).  `pre_sync` puts the two together;
`preD_pre` carries it over to the pre-pass as coded, with its nesting test.
-/
import NV.C16.Equations

namespace NV.C16.Total


variable {α : Type}

/-! ## strings -/

theorem skipStr_decode (r r' : List Byte) (h : skipStr r = some r') : ∃ str, decodeStr r = some (str, r') := by
  rw [skipStr_eq_decodeStr] at h
  obtain ⟨p, hp, rfl⟩ := Option.map_eq_some_iff.1 h
  exact ⟨p.1, hp⟩

theorem skipStrMb_closed (mb : MbLen) (fuel : Nat) (r r' : List Byte) (hf : r.length < fuel)
    (h : skipStrMb mb fuel r = MbScan.closed r') : skipStr r = some r' := by
  rw [skipStrMb_eq mb fuel r hf] at h
  cases hs : skipStr r with
  | none => rw [hs] at h; nomatch h
  | some t => rw [hs] at h; cases h; rfl

/-! ## numbers -/

/-- no `,` and no `:` between `s` and its rest `rem`, said the way it is used: the search for either goes on from `rem` -/
def NoDelimPfx (s rem : List Byte) : Prop := ∀ d, d = 44 ∨ d = 58 → afterDelim d s = afterDelim d rem

theorem NoDelimPfx.refl (s : List Byte) : NoDelimPfx s s := fun _ _ => rfl

theorem NoDelimPfx.cons {s rem : List Byte} (b : Byte) (h : NoDelimPfx s rem) (hb : b ≠ 44 ∧ b ≠ 58) :
    NoDelimPfx (b :: s) rem :=
  fun d hd => by rw [afterDelim, if_neg (by omega)]; exact h d hd

theorem NoDelimPfx.trans {a b c : List Byte} (h1 : NoDelimPfx a b) (h2 : NoDelimPfx b c) : NoDelimPfx a c :=
  fun d hd => (h1 d hd).trans (h2 d hd)

theorem isDigit_ne {b : Byte} (h : isDigit b = true) : b ≠ 44 ∧ b ≠ 58 := by
  simp [isDigit] at h
  omega

theorem NoDelimPfx.span (s : List Byte) : NoDelimPfx s (s.span isDigit).2 := by
  rw [span_eq]
  induction s with
  | nil => exact .refl _
  | cons b s ih =>
    rw [List.dropWhile_cons]
    split
    · next hb => exact ih.cons b (isDigit_ne hb)
    · exact .refl _

theorem parseExp_pfx (F : FloatOps α) (s : List Byte) (pw : α → α) (rem : List Byte)
    (h : parseExp F s = some (pw, rem)) : NoDelimPfx s rem := by
  unfold parseExp at h
  split at h
  · simp at h
    rw [← h.2]
    exact NoDelimPfx.cons _ (NoDelimPfx.span _) (by omega)
  · simp at h
    rw [← h.2]
    exact NoDelimPfx.cons _ (NoDelimPfx.span _) (by omega)
  · simp at h

theorem afterDelim_pfx (d : Byte) (hd : d = 44 ∨ d = 58) (s r' : List Byte) (h : NoDelimPfx s (d :: r')) :
    afterDelim d s = some r' :=
  (h d hd).trans (by rw [afterDelim, if_pos rfl])

/-- parse_numeric steps over a sign, digits, `.`, `e`, `+` / `-` and nothing else, never over a `,` or a `:` — so the
    `strchr` of the pre-pass, started at the same place, finds the delimiter at which the number ends -/
theorem parseNumeric_pfx (F : FloatOps α) (c : Byte) (s : List Byte) (v : Value α) (rem : List Byte)
    (h : parseNumeric F c s = some (v, rem)) : NoDelimPfx s rem := by
  unfold parseNumeric at h
  simp only at h
  split at h
  · simp at h
  · rename_i neg c' s' hstart
    -- the sign: behind `-` one digit is stepped over, which becomes the first character `c'`
    have hs : NoDelimPfx s s' := by
      split at hstart
      · split at hstart
        · rename_i d r
          split at hstart
          · rename_i hd
            simp at hstart
            rw [← hstart.2.2]
            exact NoDelimPfx.cons d (NoDelimPfx.refl _) (isDigit_ne hd)
          · simp at hstart
        · simp at hstart
      · simp at hstart
        rw [hstart.2.2]
        exact NoDelimPfx.refl _
    refine NoDelimPfx.trans hs ?_
    -- the integer digits, then what follows them: `.`, `e`, or the end of the number
    have hp := NoDelimPfx.span s'
    split at h
    · -- `.`, at least one digit, the fraction digits, then `e` + exponent or the end
      rename_i s1 hp2
      rw [hp2] at hp
      refine NoDelimPfx.trans hp (NoDelimPfx.cons _ ?_ (by omega))
      split at h
      · rename_i d r1
        split at h
        · rename_i hd
          have hq := NoDelimPfx.span (d :: r1)
          split at h
          · rename_i s2 hq2
            rw [hq2] at hq
            refine NoDelimPfx.trans hq (NoDelimPfx.cons _ ?_ (by omega))
            split at h
            · rename_i pw rem' hpe
              simp at h
              rw [← h.2]
              exact parseExp_pfx F _ _ _ hpe
            · simp at h
          · simp at h
            rw [← h.2]
            exact hq
        · simp at h
      · simp at h
    · -- `e` + exponent
      rename_i s2 hp2
      rw [hp2] at hp
      refine NoDelimPfx.trans hp (NoDelimPfx.cons _ ?_ (by omega))
      split at h
      · rename_i pw rem' hpe
        simp at h
        rw [← h.2]
        exact parseExp_pfx F _ _ _ hpe
      · simp at h
    · -- an integer: the number ends behind its digits
      simp at h
      rw [← h.2]
      exact hp

/-! ## the size pre-pass, one element at a time -/

mutual
/-- what an activation of the size pre-pass in the state (`isMap`, `idx`) has accepted of the text up to its closing
    bracket: `n` elements, the sizes `zs` of the containers nested in them, the rest `r` behind the bracket -/
inductive Counted : Bool → Bool → List Byte → Nat → List Nat → List Byte → Prop
  | closeMap (idx : Bool) (r : List Byte) : Counted true idx (93 :: 41 :: r) 0 [] r
  | closeSeq (idx : Bool) (c : Byte) (r : List Byte) : c = 47 ∨ c = 125 → Counted false idx (c :: 41 :: r) 0 [] r
  | elem (isMap idx : Bool) (c : Byte) (r0 : List Byte) (z1 : List Nat) (r' : List Byte) (n : Nat) (z2 : List Nat)
      (r : List Byte) : ElemAt (delimOf isMap idx) c r0 z1 r' → Counted isMap (idxNext isMap idx) r' n z2 r →
      Counted isMap idx (c :: r0) (n + 1) (z1 ++ z2) r
/-- one element at `c :: r0` with the delimiter `d` behind it; the loop goes on at `r'` -/
inductive ElemAt : Byte → Byte → List Byte → List Nat → List Byte → Prop
  | str (d : Byte) (r0 r' : List Byte) : skipStr r0 = some (d :: r') → ElemAt d 34 r0 [] r'
  | nested (d k : Byte) (r1 : List Byte) (n : Nat) (zs : List Nat) (r' : List Byte) : (k = 123 ∨ k = 91 ∨ k = 47) →
      Counted (decide (k = 91)) false r1 n zs (d :: r') → ElemAt d 40 (k :: r1) (n :: zs) r'
  | empty (d : Byte) (r' : List Byte) : ElemAt d d r' [] r'
  /-- anything else is passed over up to the delimiter (`l`: the text behind the whole multibyte character) -/
  | other (d c : Byte) (r0 l r' : List Byte) : c ≠ 34 → c ≠ 40 → c ≠ 93 → c ≠ 44 → c ≠ 58 → (c < 128 → l = r0) →
      afterDelim d l = some r' → ElemAt d c r0 [] r'
end

theorem ElemAt.ne93 {d c : Byte} {r0 : List Byte} {zs : List Nat} {r' : List Byte} (hd : d = 44 ∨ d = 58)
    (h : ElemAt d c r0 zs r') : c ≠ 93 := by
  cases h <;> omega

/-- what a step of the pre-pass has checked, by kind -/
theorem preStep_spec (mb : MbLen) (top isMap idx : Bool) (c : Byte) (r0 : List Byte) :
    match preStep mb top isMap idx c r0 with
    | .fail => True
    | .unterminated => top = true
    | .close rest => r0 = 41 :: rest ∧ ((c = 93 ∧ isMap = true) ∨ ((c = 47 ∨ c = 125) ∧ isMap = false))
    | .elem r' => ElemAt (delimOf isMap idx) c r0 [] r'
    | .nested m body => c = 40 ∧ ∃ k, r0 = k :: body ∧ (k = 123 ∨ k = 91 ∨ k = 47) ∧ m = decide (k = 91) := by
  rw [preStep]
  generalize delimOf isMap idx = d
  generalize hL : (if top = true then List.drop (mbStep mb (c :: r0)) (c :: r0) else r0) = l
  have hl : c < 128 → l = r0 := by
    intro hc
    subst hL
    cases top with
    | false => rfl
    | true => rw [if_pos rfl, mbStep, mb.ascii c r0 hc]; rfl
  by_cases h34 : c = 34
  · rw [if_pos h34]
    obtain rfl := hl (by omega)
    subst h34
    cases top with
    | true =>
      rw [if_pos rfl]
      cases hsk : skipStrMb mb (l.length + 1) l with
      | open_ => rfl
      | closed t =>
        cases t with
        | nil => trivial
        | cons d' r' =>
          by_cases hd : d' = d
          · simp only [hd, if_true]; exact .str d l r' (hd ▸ skipStrMb_closed mb _ _ _ (Nat.lt_succ_self _) hsk)
          · simp only [hd, if_false]
    | false =>
      rw [if_neg Bool.false_ne_true]
      cases hsk : skipStr l with
      | none => trivial
      | some t =>
        cases t with
        | nil => trivial
        | cons d' r' =>
          by_cases hd : d' = d
          · simp only [hd, if_true]; exact .str d l r' (hd ▸ hsk)
          · simp only [hd, if_false]
  rw [if_neg h34]
  by_cases h40 : c = 40
  · rw [if_pos h40]
    obtain rfl := hl (by omega)
    cases l with
    | nil => trivial
    | cons k r1 =>
      by_cases hk : k = 123 ∨ k = 91 ∨ k = 47
      · simp only [hk, if_true]; exact ⟨h40, k, rfl, hk, rfl⟩
      · simp only [hk, if_false]
  rw [if_neg h40]
  by_cases h93 : c = 93
  · rw [if_pos h93]
    obtain rfl := hl (by omega)
    cases l with
    | nil => trivial
    | cons k r' =>
      by_cases hk : k = 41 ∧ isMap = true
      · obtain ⟨rfl, rfl⟩ := hk; exact ⟨rfl, .inl ⟨h93, rfl⟩⟩
      · simp only [hk, if_false]
  rw [if_neg h93]
  by_cases h47 : c = 47 ∨ c = 125
  · rw [if_pos h47]
    obtain rfl := hl (by omega)
    cases l with
    | nil => trivial
    | cons k r' =>
      by_cases hk : k = 41 ∧ isMap = false
      · obtain ⟨rfl, rfl⟩ := hk; exact ⟨rfl, .inr ⟨h47, rfl⟩⟩
      · simp only [hk, if_false]
  rw [if_neg h47]
  by_cases h58 : c = 58 ∨ c = 44
  · rw [if_pos h58]
    obtain rfl := hl (by omega)
    by_cases hd : c = d
    · rw [if_pos hd]; subst hd; exact .empty c l
    · rw [if_neg hd]; trivial
  rw [if_neg h58]
  cases had : afterDelim d l with
  | none => trivial
  | some r' => exact .other d c r0 l r' h34 h40 h93 (by omega) (by omega) hl had

/-! ## the value pass stays in sync with the pre-pass -/

/-- a result of the value pass that is not a crash and, when it is a value, ends at `r` with table `more` -/
def EndsAt {β : Type} (r : List Byte) (more : List Nat) : Res (Step β) → Prop
  | .ok st => st.cur = some r ∧ st.zs = more
  | .crash => False
  | _ => True

theorem EndsAt.cases {β : Type} {r : List Byte} {more : List Nat} {x : Res (Step β)} (h : EndsAt r more x) :
    (∃ v, x = .ok ⟨v, some r, more⟩) ∨ (∃ e, x = .err e) ∨ x = .stuck := by
  cases x with
  | ok st => obtain ⟨v, cur, zs⟩ := st; obtain ⟨rfl, rfl⟩ := h; exact .inl ⟨v, rfl⟩
  | err e => exact .inr (.inl ⟨e, rfl⟩)
  | crash => exact h.elim
  | stuck => exact .inr (.inr rfl)

/-- the value pass started at `s` (where the pre-pass is, in the same state `isMap`, `idx`) with `k` elements to
    go and table `zsAll` ends where the pre-pass ended (`r`), leaving `more` -/
def Sync (F : FloatOps α) (isMap idx : Bool) (s : List Byte) (k : Nat) (zsAll : List Nat) (r : List Byte)
    (more : List Nat) : Prop :=
  match isMap, idx with
  | false, _ => ∀ f2 acc g, EndsAt r more (rdElems F f2 s k zsAll acc g)
  | true, false => ∀ f2 acc, EndsAt r more (rdMap F f2 s zsAll acc)
  | true, true => ∀ f2 acc kv, EndsAt r more (mapVal F f2 s zsAll acc kv)

/-- every successful pre-pass either gave up at an unterminated top-level string (count 0), or has seen a `Counted`
    text: `m` further elements, `zsNew` appended to the table -/
theorem pre_counted (mb : MbLen) : ∀ (f1 : Nat) (top isMap idx : Bool) (s : List Byte) (size : Nat) (zs : List Nat)
    (r : List Byte) (n : Nat) (zsOut : List Nat), pre mb f1 top isMap idx s size zs = some (r, n, zsOut) →
    (top = true ∧ n = 0) ∨ ∃ m zsNew, n = size + m ∧ zsOut = zs ++ zsNew ∧ Counted isMap idx s m zsNew r := by
  intro f1
  induction f1 with
  | zero => intro top isMap idx s size zs r n zsOut h; rw [pre] at h; cases h
  | succ f1 ih =>
    intro top isMap idx s size zs r n zsOut h
    cases s with
    | nil => simp [pre] at h
    | cons c r0 =>
      -- an element, then the rest of the loop, of which the induction hypothesis speaks
      have step : ∀ z1 r', ElemAt (delimOf isMap idx) c r0 z1 r' →
          pre mb f1 top isMap (idxNext isMap idx) r' (size + 1) (zs ++ z1) = some (r, n, zsOut) →
          (top = true ∧ n = 0) ∨
            ∃ m zsNew, n = size + m ∧ zsOut = zs ++ zsNew ∧ Counted isMap idx (c :: r0) m zsNew r := by
        intro z1 r' he hrec
        rcases ih _ _ _ _ _ _ _ _ _ hrec with h0 | ⟨m, zsNew, rfl, rfl, hcnt⟩
        · exact .inl h0
        · exact .inr ⟨m + 1, z1 ++ zsNew, by omega, by rw [List.append_assoc], .elem _ _ _ _ _ _ _ _ _ he hcnt⟩
      rw [pre_succ] at h
      have hs := preStep_spec mb top isMap idx c r0
      revert h hs
      cases preStep mb top isMap idx c r0 with
      | fail => intro h; cases h
      | unterminated => intro h hs; cases h; exact .inl ⟨hs, rfl⟩
      | close rest =>
        intro h hs
        cases h
        obtain ⟨rfl, hc⟩ := hs
        refine .inr ⟨0, [], rfl, (List.append_nil _).symm, ?_⟩
        rcases hc with ⟨rfl, rfl⟩ | ⟨hc, rfl⟩
        · exact .closeMap idx r
        · exact .closeSeq idx c r hc
      | elem r' => intro h hs; exact step [] r' hs (by rw [List.append_nil]; exact h)
      | nested m body =>
        intro h hs
        obtain ⟨rfl, k, rfl, hk, rfl⟩ := hs
        simp only [preCont] at h
        cases hq : pre mb f1 false (decide (k = 91)) false body 0 [] with
        | none => rw [hq] at h; cases h
        | some q =>
          obtain ⟨t, n', zs'⟩ := q
          rw [hq] at h
          cases t with
          | nil => cases h
          | cons d r' =>
            simp only [] at h
            by_cases hd : d = delimOf isMap idx
            · rw [if_pos hd] at h
              subst hd
              rcases ih _ _ _ _ _ _ _ _ _ hq with ⟨ht, _⟩ | ⟨m', zsN, hm, hz, hc'⟩
              · cases ht
              · rw [Nat.zero_add] at hm; rw [List.nil_append] at hz; subst hm hz
                exact step _ r' (.nested _ k body _ _ r' hk hc') h
            · rw [if_neg hd] at h; cases h

/-- the value pass over a nested container whose inside the pre-pass has counted -/
theorem nested_endsAt (F : FloatOps α) (k : Byte) (r1 r' : List Byte) (n : Nat) (zs' : List Nat)
    (hk : k = 123 ∨ k = 91 ∨ k = 47) (hc : Counted (decide (k = 91)) false r1 n zs' r')
    (hs : ∀ more, Sync F (decide (k = 91)) false r1 n (zs' ++ more) r' more) :
    ∀ f2 more, EndsAt r' more (rdNested F f2 (k :: r1) (n :: zs' ++ more) : Res (Step (Value α))) := by
  intro f2 more
  cases f2 with
  | zero => rw [rdNested]; trivial
  | succ f2 =>
    rw [rdNested.eq_def]
    show EndsAt r' more (if k = 123 ∨ k = 47 then _ else _)
    by_cases hk1 : k = 123 ∨ k = 47
    · rw [if_pos hk1]
      show EndsAt r' more (if k = 123 ∧ n > maxArray then _ else _)
      by_cases h1 : k = 123 ∧ n > maxArray
      · rw [if_pos h1]; trivial
      rw [if_neg h1]
      by_cases h2 : k = 47 ∧ n > maxClass
      · rw [if_pos h2]; trivial
      rw [if_neg h2]
      have hs := hs more
      rw [decide_eq_false (by omega)] at hs
      have := hs f2 .nil (if k = 123 then .array else .cls)
      revert this
      cases rdElems F f2 r1 n (zs' ++ more) .nil (if k = 123 then .array else .cls) with
      | ok st => exact id
      | err e => exact id
      | crash => exact id
      | stuck => exact id
    · have hk91 : k = 91 := by omega
      subst hk91
      rw [if_neg hk1, if_pos rfl]
      show EndsAt r' more (if n = 0 then _ else _)
      by_cases hn : n = 0
      · subst hn
        cases hc
        exact ⟨rfl, rfl⟩
      · rw [if_neg hn]
        have := hs more f2 .nil
        revert this
        cases rdMap F f2 r1 (zs' ++ more) .nil with
        | ok st => exact id
        | err e => exact id
        | crash => exact id
        | stuck => exact id

mutual
/-- the value pass, given the count and the table of a `Counted` text, ends where the pre-pass ended -/
theorem Counted.sync (F : FloatOps α) : ∀ {isMap idx : Bool} {s : List Byte} {n : Nat} {zs : List Nat} {r : List Byte},
    Counted isMap idx s n zs r → ∀ more, Sync F isMap idx s n (zs ++ more) r more
  | _, _, _, _, _, _, .closeMap idx r, more => by
    cases idx with
    | false =>
      intro f2 acc
      cases f2 with
      | zero => exact trivial
      | succ f2 => rw [rdMap_succ]; exact (show EndsAt r more (.ok ⟨acc, some r, more⟩) from ⟨rfl, rfl⟩)
    | true =>
      intro f2 acc kv
      exact (show EndsAt r more (.err .mapping : Res (Step (Pairs α))) from trivial)
  | _, _, _, _, _, _, .closeSeq idx c r hc, more => by
    intro f2 acc g
    cases f2 with
    | zero => exact trivial
    | succ f2 => rcases hc with rfl | rfl <;> exact (show EndsAt r more (.ok ⟨acc, some r, more⟩) from ⟨rfl, rfl⟩)
  | _, _, _, _, _, _, .elem isMap idx c r0 z1 r' n z2 r he hc, more => by
    have hs := Counted.sync F hc more
    have hd := delimOf_cases isMap idx
    have he' := ElemAt.endsAt F he hd
    have h93 := he.ne93 hd
    rw [List.append_assoc]
    -- one element read by `elemStep`, then the value pass is where the rest of the derivation speaks of it
    cases isMap with
    | false =>
      intro f2 acc g
      cases f2 with
      | zero => exact trivial
      | succ f2 =>
        rw [rdElems_succ]
        have he'' : EndsAt r' _ (elemStep F f2 44 g g c r0 _) := he' f2 (z2 ++ more) g g
        rcases he''.cases with ⟨v, hx⟩ | ⟨e, hx⟩ | hx <;> rw [hx]
        · exact hs f2 _ g
        · exact trivial
        · exact trivial
    | true =>
      cases idx with
      | false =>
        intro f2 acc
        cases f2 with
        | zero => exact trivial
        | succ f2 =>
          rw [rdMap_succ]
          show EndsAt r more (if c = 93 then _ else _)
          rw [if_neg h93]
          have he'' : EndsAt r' _ (elemStep F f2 58 .string .mapping c r0 _) := he' f2 (z2 ++ more) .string .mapping
          rcases he''.cases with ⟨v, hx⟩ | ⟨e, hx⟩ | hx <;> rw [hx]
          · exact hs f2 _ _
          · exact trivial
          · exact trivial
      | true =>
        intro f2 acc kv
        rw [mapVal]
        have he'' : EndsAt r' _ (elemStep F f2 44 .string .mapping c r0 _) := he' f2 (z2 ++ more) .string .mapping
        rcases he''.cases with ⟨v, hx⟩ | ⟨e, hx⟩ | hx <;> rw [hx]
        · exact hs f2 _
        · exact trivial
        · exact trivial
theorem ElemAt.endsAt (F : FloatOps α) : ∀ {d c : Byte} {r0 : List Byte} {zs : List Nat} {r' : List Byte},
    ElemAt d c r0 zs r' → (d = 44 ∨ d = 58) →
    ∀ f2 more es g, EndsAt r' more (elemStep F f2 d es g c r0 (zs ++ more))
  | _, _, _, _, _, .str d r0 r' hsk, hd, f2, more, es, g => by
    -- a string: the scan of the pre-pass ended where the decoder ends
    obtain ⟨str, hdec⟩ := skipStr_decode _ _ hsk
    rw [elemStep, if_pos rfl, hdec]
    exact ⟨rfl, rfl⟩
  | _, _, _, _, _, .nested d k r1 n zs r' hk hc, hd, f2, more, es, g => by
    have hn := nested_endsAt F k r1 (d :: r') n zs hk hc (Counted.sync F hc) f2 more
    rw [elemStep, if_neg (by omega), if_pos rfl]
    rcases hn.cases with ⟨v, hx⟩ | ⟨e, hx⟩ | hx <;> rw [hx]
    · exact ⟨rfl, rfl⟩
    · exact trivial
    · exact trivial
  | _, _, _, _, _, .empty d r', hd, f2, more, es, g => by
    rw [elemStep, if_neg (by omega), if_neg (by omega), if_pos rfl]
    exact ⟨rfl, rfl⟩
  | _, _, _, _, _, .other d c r0 l r' h34 h40 h93 h44 h58 hl had, hd, f2, more, es, g => by
    -- a number, or something the value pass refuses
    rw [elemStep, if_neg h34, if_neg h40, if_neg (by omega)]
    by_cases hns : numStart c = true
    · rw [if_pos hns]
      have hlt : c < 128 := by rw [numStart_iff] at hns; omega
      obtain rfl := hl hlt
      cases hp : parseNumeric F c l with
      | none => trivial
      | some p =>
        obtain ⟨v, rem⟩ := p
        cases rem with
        | nil => trivial
        | cons d' rem' =>
          show EndsAt r' more (if d' = d then _ else _)
          by_cases hdd : d' = d
          · subst hdd
            rw [if_pos rfl]
            have := afterDelim_pfx d' hd l rem' (parseNumeric_pfx F c l v _ hp)
            rw [this] at had
            exact ⟨congrArg some (Option.some.inj had), rfl⟩
          · rw [if_neg hdd]; trivial
    · rw [if_neg hns]; trivial
end

/-- the value pass over a whole container the pre-pass has accepted does not crash -/
theorem pre_sync (F : FloatOps α) (mb : MbLen) {f1 : Nat} {top isMap : Bool} {s r : List Byte} {n : Nat} {zs : List Nat}
    (h : pre mb f1 top isMap false s 0 [] = some (r, n, zs)) :
    (top = true ∧ n = 0) ∨ Sync F isMap false s n zs r [] := by
  rcases pre_counted mb _ _ _ _ _ _ _ _ _ _ h with h0 | ⟨m, zsNew, rfl, rfl, hc⟩
  · exact .inl h0
  · have := hc.sync F []
    rw [List.append_nil] at this
    rw [Nat.zero_add]
    exact .inr this

/-! ## entry points -/

theorem endsAt_ne_crash {β : Type} {r : List Byte} {more : List Nat} {x : Res (Step β)} (h : EndsAt r more x) :
    x ≠ .crash := by
  intro hx
  subst hx
  exact h

/-- the nesting test of restore_internal_size only ADDS refusals: whenever the pre-pass as coded (`preD`) accepts a
    text, the pre-pass without the test (`pre`) accepts it with the same result — so everything proved about an
    accepted pre-pass (`pre_sync`) carries over -/
theorem preD_pre (mb : MbLen) : ∀ (fuel nest : Nat) (top isMap idx : Bool) (s : List Byte) (size : Nat)
    (zs : List Nat) (out : PreOut),
    preD mb fuel nest top isMap idx s size zs = some out → pre mb fuel top isMap idx s size zs = some out := by
  intro fuel
  induction fuel with
  | zero => intro nest top isMap idx s size zs out h; rw [preD] at h; cases h
  | succ f ih =>
    intro nest top isMap idx s size zs out h
    cases s with
    | nil => simp [preD] at h
    | cons c r0 =>
      rw [preD_succ] at h
      rw [pre_succ]
      by_cases hg : (!top && decide (nest > maxDepth)) = true
      · rw [if_pos hg] at h; cases h
      rw [if_neg hg] at h
      -- the same step on both sides; the recursive calls carry over by the induction hypothesis
      revert h
      cases preStep mb top isMap idx c r0 with
      | fail => exact id
      | unterminated => exact id
      | close rest => exact id
      | elem r' => exact ih _ _ _ _ _ _ _ _
      | nested m body =>
        intro h
        simp only [preCont] at h ⊢
        cases hq : preD mb f (nest + 1) false m false body 0 [] with
        | none => rw [hq] at h; cases h
        | some q =>
          obtain ⟨t, n, zs'⟩ := q
          rw [hq] at h
          rw [ih _ _ _ _ _ _ _ _ hq]
          cases t with
          | nil => cases h
          | cons d r' =>
            simp only [] at h ⊢
            by_cases hd : d = delimOf isMap idx
            · rw [if_pos hd] at h ⊢; exact ih _ _ _ _ _ _ _ _ h
            · rw [if_neg hd] at h; cases h

/-- **The C recursion of the size pre-pass is bounded.**  An activation of restore_internal_size at a nesting level
    beyond MAX_SAVE_SVALUE_DEPTH returns "illegal format" at once, whatever the text — it never opens a further level.
    Since every recursive call passes `nest + 1` (see `preD`), no more than MAX_SAVE_SVALUE_DEPTH + 1 activations are
    ever on the C stack, and the value pass recurses only where the pre-pass succeeded.
    (Before the nesting fix the depth was the nesting of the text: "({({({..." overflowed the stack.) -/
theorem preD_refuses_beyond_limit (mb : MbLen) (fuel nest : Nat) (isMap idx : Bool) (s : List Byte) (size : Nat)
    (zs : List Nat) (h : nest > maxDepth) : preD mb fuel nest false isMap idx s size zs = none := by
  cases fuel with
  | zero => simp [preD]
  | succ f =>
    cases s with
    | nil => simp [preD]
    | cons c r => rw [preD_succ]; simp [h]

theorem restoreContainer_total (F : FloatOps α) (mb : MbLen) (k : Byte) (s : List Byte) :
    restoreContainer F mb k s ≠ .crash := by
  rw [restoreContainer]
  by_cases hk : k = 123 ∨ k = 47
  · -- arrays and classes
    rw [if_pos hk]
    cases hpreD : preD mb (s.length + 2) 1 true false false s 0 [] with
    | none => nofun
    | some out =>
      obtain ⟨r, n, zs⟩ := out
      have hpre := preD_pre mb _ _ _ _ _ _ _ _ _ hpreD
      show (if k = 123 ∧ n > maxArray then _ else _) ≠ _
      by_cases h1 : k = 123 ∧ n > maxArray
      · rw [if_pos h1]; nofun
      rw [if_neg h1]
      by_cases h2 : k = 47 ∧ n > maxClass
      · rw [if_pos h2]; nofun
      rw [if_neg h2]
      have hne : rdElems F (s.length + 2) s n zs .nil (if k = 123 then .array else .cls) ≠ .crash := by
        rcases pre_sync F mb hpre with ⟨_, hn⟩ | hs
        · subst hn
          cases s with
          | nil => simp [pre] at hpre
          | cons c r0 => cases r0 <;> simp [rdElems]
        · exact endsAt_ne_crash (hs _ _ _)
      revert hne
      cases rdElems F (s.length + 2) s n zs .nil (if k = 123 then .array else .cls) with
      | crash => exact fun h => (h rfl).elim
      | _ => exact fun _ => nofun
  · -- mappings
    rw [if_neg hk]
    cases hpreD : preD mb (s.length + 2) 1 true true false s 0 [] with
    | none => nofun
    | some out =>
      obtain ⟨r, n, zs⟩ := out
      have hpre := preD_pre mb _ _ _ _ _ _ _ _ _ hpreD
      show (if n = 0 then _ else _) ≠ _
      by_cases hn : n = 0
      · rw [if_pos hn]; nofun
      rw [if_neg hn]
      have hne : rdMap F (s.length + 2) s zs .nil ≠ .crash := by
        rcases pre_sync F mb hpre with ⟨_, hn0⟩ | hs
        · exact absurd hn0 hn
        · exact endsAt_ne_crash (hs _ _)
      revert hne
      cases rdMap F (s.length + 2) s zs .nil with
      | crash => exact fun h => (h rfl).elim
      | _ => exact fun _ => nofun

/-- the core statement: `restore_svalue` never makes an invalid memory access, whatever the text -/
theorem restoreSvalue_total (F : FloatOps α) (mb : MbLen) (t : List Byte) : restoreSvalue F mb t ≠ .crash := by
  -- every branch returns `.ok` / `.err` where it stands, except `(` + opener, which calls restoreContainer
  match t with
  | [] => nofun
  | c :: s =>
    show (if c = 34 then restoreString s else _) ≠ _
    by_cases hq : c = 34
    · rw [if_pos hq, restoreString]; split <;> nofun
    rw [if_neg hq]
    by_cases hp : c = 40
    · rw [if_pos hp]
      match s with
      | [] => nofun
      | k :: s' =>
        show (if k = 123 ∨ k = 91 ∨ k = 47 then restoreContainer F mb k s' else _) ≠ _
        split
        · exact restoreContainer_total F mb k s'
        · nofun
    rw [if_neg hp]
    split
    · split <;> nofun
    · nofun

theorem restore_total {α : Type} (F : FloatOps α) (mb : MbLen) (t : List Byte) :
    restoreVariable F mb t ≠ RvOut.crash := by
  unfold restoreVariable
  have h := restoreSvalue_total F mb (cstr t)
  revert h
  cases restoreSvalue F mb (cstr t) with
  | ok v => simp
  | err e => cases e <;> simp
  | crash => simp
  | stuck => simp

theorem restoreLines_total (F : FloatOps α) (mb : MbLen) (nc : Bool) :
    ∀ (ls : List (List Byte)) (vars : List (Var α)), restoreLines F mb nc ls vars ≠ RoOut.crash := by
  intro ls
  induction ls with
  | nil => intro vars; rw [restoreLines]; nofun
  | cons l ls ih =>
    intro vars
    rw [restoreLines_cons]
    rcases lineAct_cases F mb (fun n => (vars.find? (fun v => v.name = n)).map (·.isStatic)) l (ls = [])
      with h | h | h | ⟨_, h⟩ <;> rw [h]
    · nofun
    · nofun
    · exact ih vars
    · have := restoreSvalue_total F mb (l.drop ((l.takeWhile (· ≠ 32)).length + 1))
      revert this
      cases restoreSvalue F mb (l.drop ((l.takeWhile (· ≠ 32)).length + 1)) with
      | ok x => exact fun _ => ih _
      | err e => nofun
      | crash => exact fun this => absurd rfl this
      | stuck => nofun

theorem restoreObject_total {α : Type} (F : FloatOps α) (mb : MbLen) (nc : Bool) (file : Option (List Byte))
    (vars : List (Var α)) : (restoreObject F mb nc file vars).2 ≠ RoOut.crash := by
  unfold restoreObject
  split
  · simp
  · simp
  · exact restoreLines_total F mb nc _ _

/-! ## non-vacuity: the theorem speaks about texts that restore to errors as well as to values -/

def unitFT : FloatOps Unit :=
  ⟨fun _ => [49, 46, 53], fun _ => (), fun _ _ => (), fun _ _ => (), fun _ _ => (), fun _ => (), fun _ => (),
    fun _ _ => true, fun _ => false, fun _ => false, fun _ => false⟩

/-- the "C" locale: every byte below 128 is a character, everything else is invalid -/
def asciiMbT : MbLen where
  len := fun s => match s with
    | [] => some 0
    | c :: _ => if c < 128 then some 1 else none
  pos := by
    intro s n h hne
    cases s with
    | nil => exact absurd rfl hne
    | cons c r =>
      simp only at h
      split at h <;> simp at h
      omega
  le_length := by
    intro s n h
    cases s with
    | nil => simp at h; omega
    | cons c r =>
      simp only at h
      split at h <;> simp at h
      simp; omega
  ascii := by
    intro c r hc
    simp [hc]
  cont := by
    intro s n h b hb
    cases s with
    | nil => simp at hb
    | cons c r =>
      simp only at h
      split at h <;> simp at h
      subst h
      simp at hb

def _root_.NV.C16.RvOut.isError {α : Type} : RvOut α → Bool
  | .error _ => true
  | _ => false

/-- `({1x"a,2,3,4,})"77`: the pre-pass accepts it (4 elements), the value pass stops at the `x` -/
example : restoreVariable unitFT asciiMbT [40,123,49,120,34,97,44,50,44,51,44,52,44,125,41,34,55,55]
    = .error "restore_object(): Illegal numeric format." := by rfl

/-- `({1,"ab`: restore_size reports 0 elements at the unterminated string (sic), the result is an empty array -/
example : restoreVariable unitFT asciiMbT [40,123,49,44,34,97,98] = .value (.arr .nil) := by rfl

/-- `({1,"a",({2,}),})` -/
example : restoreVariable unitFT asciiMbT [40,123,49,44,34,97,34,44,40,123,50,44,125,41,44,125,41]
    = .value (.arr (.cons (.int 1) (.cons (.str [97]) (.cons (.arr (.cons (.int 2) .nil)) .nil)))) := by rfl

/-- `([1:2,"k":({}),])` -/
example : restoreVariable unitFT asciiMbT [40,91,49,58,50,44,34,107,34,58,40,123,125,41,44,93,41]
    = .value (.map (.cons (.int 1) (.int 2) (.cons (.str [107]) (.arr .nil) .nil))) := by rfl

/-- `([1:])`: the pre-pass ends in value position, the value pass answers with an error -/
example : (restoreVariable unitFT asciiMbT [40,91,49,58,93,41]).isError = true := by rfl

end NV.C16.Total


