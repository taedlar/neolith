/-
C16 — Lean-checked witnesses, by kernel evaluation of the model.

Open finding C16-K5: the FULL round-trip statement "a mapping comes back with all its entries" is false when two
float keys print alike (`float_keys_collapse`, `roundtripFloatKeys_Full_false`); `roundtrip` (Props.lean) therefore
excludes float keys (`savable`).  known/C16.jsonl replays the same input on the real driver.

Findings K1-K3 are repaired in the driver (`fix:` commits CR escape, inf/nan text, mblen): `cr_round_trips`,
`stray_byte_in_array_ok`, `inf_is_written_as_number` state the repaired behaviour on the very inputs that failed before.
Open finding C16-K6 (same variable name at two inheritance levels): `same_name_saved`, `same_name_variables`.
The last two groups show what the modelled code does when a statement the theorems rely on is changed:
`old_mask_loses_the_key` (Hash.lean, against `restore_mapping_all_found`) and the `stale_*` / `zero_capacity_*` theorems
(Globals.lean: the entry points without their reset, the size table outside `TabInv`).

(K4, subnormal floats, concerns IEEE arithmetic, a parameter of the model: no Lean evaluation; replayed on the driver.)
-/
import NV.C16.Model
import NV.C16.Tree
import NV.C16.ProofHash
import NV.C16.ProofGlobals

namespace NV.C16.Witness

open NV.C16

/-- a float parameter whose every float prints as "1.5" -/
def unitF : FloatOps Unit :=
  ⟨fun _ => [49, 46, 53], fun _ => (), fun _ _ => (), fun _ _ => (), fun _ _ => (), fun _ => (), fun _ => (),
   fun _ _ => true, fun _ => false, fun _ => false, fun _ => false⟩

/-- a float parameter whose only float is an infinity ("%g" would print "inf") -/
def infF : FloatOps Unit := { unitF with print := fun _ => [105, 110, 102], isInf := fun _ => true }

/-- mblen of a locale in which exactly the ASCII bytes are characters (every byte ≥ 128 is an invalid sequence):
    the behaviour of the UTF-8 locale on a stray byte such as 0xff -/
def asciiMb : MbLen where
  len s := match s with
    | [] => some 0
    | c :: _ => if c < 128 then some 1 else none
  pos s n h hs := by
    cases s with
    | nil => exact absurd rfl hs
    | cons c r => simp only at h; split at h <;> simp_all
  le_length s n h := by
    cases s with
    | nil => simp_all
    | cons c r => simp only at h; split at h <;> simp_all
  ascii c r h := by simp [h]
  cont s n h := by
    cases s with
    | nil => simp_all
    | cons c r => simp only at h; split at h <;> simp_all

/-! ### open: K5 -/

/-- two float keys that print alike are one key after the restore  (known finding C16-K5-float-keys) -/
theorem float_keys_collapse :
    restoreVariable unitF asciiMb
        (save unitF (.map (.cons (.real ()) (.str [97]) (.cons (.real ()) (.str [98]) .nil))))
      = RvOut.value (.map (.cons (.real ()) (.str [98]) .nil)) := by rfl

def pairCount {α} : Pairs α → Nat
  | .nil => 0
  | .cons _ _ r => pairCount r + 1

/-- the full statement for mappings: a restored mapping has as many entries as the saved one -/
def RoundtripFloatKeys_Full : Prop :=
  ∀ ps : Pairs Unit, ∃ qs, restoreVariable unitF asciiMb (save unitF (.map ps)) = RvOut.value (.map qs) ∧
    pairCount qs = pairCount ps

theorem roundtripFloatKeys_Full_false : ¬ RoundtripFloatKeys_Full := by
  intro h
  obtain ⟨qs, h1, h2⟩ := h (.cons (.real ()) (.str [97]) (.cons (.real ()) (.str [98]) .nil))
  rw [float_keys_collapse] at h1
  cases h1
  simp [pairCount] at h2

/-! ### K1-K3 after their `fix:` commits -/

/-- K1: the string "\r" is written as `"\` CR `"` and comes back unchanged; "\n" still travels as a bare CR -/
theorem cr_round_trips :
    save unitF (.str [13, 10]) = [34, 92, 13, 13, 34] ∧
    restoreVariable unitF asciiMb (save unitF (.str [13, 10])) = RvOut.value (.str [13, 10]) := by
  constructor <;> rfl

/-- K3: a string with a byte that is no character of the locale restores inside an array as well -/
theorem stray_byte_in_array_ok :
    restoreVariable unitF asciiMb (save unitF (.arr (.cons (.str [255, 34]) .nil)))
      = RvOut.value (.arr (.cons (.str [255, 34]) .nil)) := by rfl

/-- K2: an infinity is written as "1e+999" and read back as a float, alone and inside an array -/
theorem inf_is_written_as_number :
    save infF (.real ()) = [49, 101, 43, 57, 57, 57] ∧
    restoreVariable infF asciiMb (save infF (.real ())) = RvOut.value (.real ()) ∧
    restoreVariable infF asciiMb (save infF (.arr (.cons (.real ()) .nil)))
      = RvOut.value (.arr (.cons (.real ()) .nil)) := by
  refine ⟨rfl, rfl, rfl⟩

/-! ### open: K6 — two variables of one name at different inheritance levels -/

/-- program `s0` defines `x`; program `s1` inherits `s0` and defines its own `x` -/
def s0 : Prog := .mk [115, 48] 1 .nil [⟨[120], 1⟩]
def s1 : Prog := .mk [115, 49] 2 (.cons 0 0 s0 .nil) [⟨[120], 1⟩]

/-- save_object writes both (`x "a"` for the inherited, `x "b"` for the own variable) ... -/
theorem same_name_saved :
    saveTreeLines unitF true s1 [.str [97], .str [98]]
      = some [[120, 32, 34, 97, 34, 10], [120, 32, 34, 98, 34, 10]] := by rfl

/-- ... and restore_object assigns both lines to the inherited `x`: it ends up with the value of the own `x`,
whose slot stays 0  (known finding C16-K6-same-name) -/
theorem same_name_variables :
    (match (restoreObjectT unitF asciiMb false
        (some ([35, 47, 115, 49, 10] ++ [120, 32, 34, 97, 34, 10] ++ [120, 32, 34, 98, 34, 10])) s1
        [.str [97], .str [98]]).2 with
      | .done vals => vals
      | _ => []) = [.str [98], .int 0] := by rfl

/-! ### why `restore_mapping_all_found` is not vacuous: a bucket re-derived with the OLD mask loses the key

The independently written change C16-4 replaced `if (oi & ++mask) elt2 = a[i |= mask]; mask <<= 1; mask--;` by
`elt2 = a[i = oi & mask]; mask = m->table_size;` (bucket picked again with the mask of the table BEFORE it doubled). -/

open NV.C16.Hash in
/-- one pair of restore_mapping with that change -/
def insertOldMask (h : Nat → Nat) (t : Tbl Nat) (k : Nat) : Option (Tbl Nat) :=
  let i := h k &&& t.mask
  let chain := t.buckets.getD i []
  if chain ≠ [] then
    if chain.contains k then some t else some ⟨t.buckets.set i (k :: chain), t.unfilled⟩
  else
    let unf := dec16 t.unfilled
    if unf = 0 then
      match grow h ⟨t.buckets, unf⟩ with
      | none => none
      | some g => some ⟨g.buckets.set i (k :: g.buckets.getD i []), g.unfilled⟩
    else some ⟨t.buckets.set i [k], unf⟩

open NV.C16.Hash in
/-- `([16:1,32:2,48:3,64:4,80:5,224:6,])`: the sixth pair makes the 8-bucket table grow; its hash 14 has the new bit
set, so it belongs into bucket 14 of the doubled table — the changed code links it into bucket 6, where no lookup of 224
(`14 & 15`) finds it, while the code as it is does -/
theorem old_mask_loses_the_key :
    -- (the witness input is chosen for FILL_PERCENT = 80, 8 initial buckets, hash shift 4: with other constants the
    -- statement is void instead of false)
    if Hash.fillPercent = 80 ∧ NV.Gen.C16.hashShift = 4 then
    ((([16, 32, 48, 64, 80, 224] : List Nat).foldl (fun (t : Option (Tbl Nat)) k => t.bind (fun t => insertOldMask intHash t k))
        (some (empty 3))).map (fun t => find intHash t 224)) = some false ∧
    ((insertAll intHash (empty 3) [16, 32, 48, 64, 80, 224]).map (fun t => find intHash t 224)) = some true
    else True := by
  decide

/-! ### why `restore_ignores_stale_state` is not vacuous: the code without the reset at its head

(the independently written change C16-5 left `safe_restore_svalue` without it) -/

/-- after a save refused as "nested too deep" the counter stands at 26 and there is no table: restoring the valid text
`({1,})` from that state dereferences the NULL table; with the reset it restores -/
theorem stale_counter_without_reset :
    restoreTextFrom unitF asciiMb ⟨26, none⟩ [40, 123, 49, 44, 125, 41] = Res.crash ∧
    restoreSvalueG unitF asciiMb ⟨26, none⟩ [40, 123, 49, 44, 125, 41] = Res.ok (.arr (.cons (.int 1) .nil)) := by
  refine ⟨rfl, rfl⟩

/-- after a restore that ended in "Illegal array size" the counter is set and the table allocated: the valid text
`({1,2,})` restored from the state (1, [0]) comes back as the EMPTY array, without any error -/
theorem stale_table_gives_wrong_value :
    restoreTextFrom unitF asciiMb ⟨1, some [0]⟩ [40, 123, 49, 44, 50, 44, 125, 41] = Res.ok (.arr .nil) := by rfl

/-- and a save entered with a stale counter refuses a value of depth 2 as "nested too deep" -/
theorem stale_counter_refuses_save :
    saveSizeFrom unitF ⟨24, none⟩ (.arr (.cons (.arr .nil) .nil)) = none ∧
    (saveSizeG unitF ⟨24, none⟩ (.arr (.cons (.arr .nil) .nil))).isSome = true := by
  refine ⟨by decide, by decide⟩

/-- the table released but its pointer kept (capacity 0, pointer set): the growth loop `while ((cap <<= 1) <= depth)`
never gets above 0 — the model's fuel runs out for every fuel -/
theorem zero_capacity_with_a_table_never_ends (depth fuel : Nat) : ensure ⟨true, 0⟩ depth fuel = none := by
  have h : ∀ f, growCap depth f 0 = none := by
    intro f
    induction f with
    | zero => rfl
    | succ f ih => rw [growCap]; simp [ih]
  simp [ensure, h]

end NV.C16.Witness
