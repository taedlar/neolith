/-
C16 — the object level: restore_object on the file that save_object wrote, on top of the value-level round trip
(NV.C16.ProofRoundtrip).

The general statement is `restoreObject_other_version`: the restoring object may have ANOTHER variable table than the
saving one (variables renamed / removed / added, made static (nosave) or non-static, reordered, moved into or out of an
inherited program — the flat layouts of both come from `slots`, Tree.lean, and `restoreObjectT_flat` carries everything
proved here to every program tree).  Matching is by NAME only: a variable of the restoring program takes the saved value
iff it is non-static and the file has a line of its name (written by a non-static variable of the saving program whose
text was not "0", or any with save_zeros); nothing else of the object changes; lines of unknown or static names are
skipped without an error.  Types play no part (LPC variables are restored whatever their declared type).
`object_roundtrip` and `object_roundtrip_noclear` are the case of the same table on both sides.
-/
import NV.C16.ProofRoundtrip

namespace NV.C16

variable {α : Type}

/-! ## lines -/

theorem splitLines_cons (c : Byte) (r : List Byte) : splitLines (c :: r) =
    match splitLines r with
    | [] => [[c]]
    | l :: ls => if c = 10 then [] :: l :: ls else (c :: l) :: ls := by
  rw [splitLines.eq_def]; rfl

theorem splitLines_ne_nil (t : List Byte) : splitLines t ≠ [] := by
  cases t with
  | nil => simp [splitLines]
  | cons c r =>
    rw [splitLines_cons]
    split
    · simp
    · split <;> simp

theorem splitLines_line (l rest : List Byte) (h : ∀ b ∈ l, b ≠ 10) :
    splitLines (l ++ 10 :: rest) = l :: splitLines rest := by
  induction l with
  | nil =>
    rw [List.nil_append, splitLines_cons]
    cases hr : splitLines rest with
    | nil => exact absurd hr (splitLines_ne_nil rest)
    | cons a b => simp
  | cons c r ih =>
    have hc : c ≠ 10 := h c (by simp)
    rw [List.cons_append, splitLines_cons, ih (fun b hb => h b (by simp [hb]))]
    simp [hc]

/-! ## names -/

theorem nameOK_bytes {n : List Byte} (h : nameOK n = true) : ∀ b ∈ n, b ≠ 32 ∧ b ≠ 10 ∧ b ≠ 0 := by
  simp only [nameOK, Bool.and_eq_true, bne_iff_ne, ne_eq, List.all_eq_true] at h
  exact fun b hb => ⟨(h.1.2 b hb).1.1, (h.1.2 b hb).1.2, (h.1.2 b hb).2⟩

theorem nameOK_spec (n : List Byte) (h : nameOK n = true) : n ≠ [] ∧ n.length < varBufSize ∧ n.head? ≠ some 35 := by
  simp only [nameOK, Bool.and_eq_true, bne_iff_ne, ne_eq, decide_eq_true_eq] at h
  exact ⟨h.1.1.1, h.1.1.2, h.2⟩

theorem takeWhile_name (n t : List Byte) (h : ∀ b ∈ n, b ≠ 32) :
    (n ++ 32 :: t).takeWhile (· ≠ 32) = n := by
  induction n with
  | nil => simp
  | cons c r ih =>
    have hc : c ≠ 32 := h c (by simp)
    simp only [List.cons_append, List.takeWhile_cons, ne_eq, hc, not_false_eq_true, decide_true, ↓reduceIte]
    rw [ih (fun b hb => h b (by simp [hb]))]

/-- a line `name text` goes by what the lookup says of `name` -/
theorem lineAct_named (F : FloatOps α) (mb : MbLen) (look : List Byte → Option Bool) (nm t : List Byte) (last : Prop)
    [Decidable last] (hn : nameOK nm = true) :
    lineAct F mb look (nm ++ 32 :: t) last =
      if look nm = some false then valueAct nm (restoreSvalue F mb t) else .skip := by
  obtain ⟨hne, hlen, hhead⟩ := nameOK_spec nm hn
  have htw := takeWhile_name nm t (fun b hb => (nameOK_bytes hn b hb).1)
  have hl0 : nm ++ 32 :: t ≠ [] := by simp
  have hh : (nm ++ 32 :: t).head? ≠ some 35 := by
    cases hnm : nm with
    | nil => exact absurd hnm hne
    | cons c r => rw [hnm] at hhead; simpa using hhead
  have hdrop : (nm ++ 32 :: t).drop (nm.length + 1) = t := by
    rw [show nm ++ 32 :: t = (nm ++ [32]) ++ t by simp, List.drop_append_of_le_length (by simp)]
    simp
  have hlen2 : ¬ (nm.length = (nm ++ 32 :: t).length ∨ nm.length ≥ varBufSize) := by
    intro h
    rcases h with h | h
    · simp only [List.length_append, List.length_cons] at h; omega
    · exact absurd hlen (Nat.not_lt.2 h)
  rw [lineAct, if_neg hl0, if_neg hh]
  simp only [htw, hdrop, if_neg hlen2]
  cases look nm with
  | none => rfl
  | some st => cases st <;> rfl

/-- a line of a name the restoring program does not know, or knows as a static variable, is skipped -/
theorem restoreLines_skip (F : FloatOps α) (mb : MbLen) (nc : Bool) (cur : List (Var α)) (nm t : List Byte)
    (rest : List (List Byte)) (hn : nameOK nm = true)
    (hf : (cur.find? (fun v => v.name = nm)).map (·.isStatic) ≠ some false) :
    restoreLines F mb nc ((nm ++ 32 :: t) :: rest) cur = restoreLines F mb nc rest cur := by
  rw [restoreLines_cons, lineAct_named F mb _ nm t _ hn, if_neg hf]

/-- the line of a name the restoring program knows as a non-static variable -/
theorem restoreLines_hit (F : FloatOps α) (mb : MbLen) (nc : Bool) (cur : List (Var α)) (nm t : List Byte)
    (rest : List (List Byte)) (v : Var α) (w : Value α) (hn : nameOK nm = true)
    (hf : cur.find? (fun v => v.name = nm) = some v) (hv : v.isStatic = false) (hr : restoreSvalue F mb t = .ok w) :
    restoreLines F mb nc ((nm ++ 32 :: t) :: rest) cur = restoreLines F mb nc rest (setVar cur nm w) := by
  rw [restoreLines_cons, lineAct_named F mb _ nm t _ hn, if_pos (by rw [hf, Option.map_some, hv]), hr]
  rfl

theorem restoreLines_nil (F : FloatOps α) (mb : MbLen) (nc : Bool) (vars : List (Var α)) :
    restoreLines F mb nc [[]] vars = .done vars := by
  simp [restoreLines]

theorem restoreLines_header (F : FloatOps α) (mb : MbLen) (nc : Bool) (l : List Byte) (rest : List (List Byte))
    (vars : List (Var α)) : restoreLines F mb nc ((35 :: l) :: rest) vars = restoreLines F mb nc rest vars := by
  simp [restoreLines]

/-! ## the text "0" -/

theorem restoreSvalue_zero (F : FloatOps α) (mb : MbLen) : restoreSvalue F mb [48] = .ok (.int 0) := by
  have h := parseNumeric_digits F 48 [] [] rfl (by simp) (Or.inl rfl)
  rw [accDigits_nil] at h
  have h0 : toInt64 false (48 - 48) = 0 := by unfold toInt64; simp
  rw [h0] at h
  simp only [List.append_nil] at h
  simp [restoreSvalue, numStart, isDigit, h]

/-- only the integer 0 is written as "0" -/
theorem save_eq_zero (F : FloatOps α) (mb : MbLen) (v : Value α) (hs : Savable F v) (h : save F v = [48]) :
    Equiv F (erase v) (.int 0) := by
  have hz : (saveSize F 0 v).isSome = true := by
    cases v with
    | int n => simp [saveSize]
    | real x => simp [saveSize]
    | str s => simp [save] at h
    | obj => simp [save] at h
    | arr xs => simp [save] at h
    | cls xs => simp [save] at h
    | map ps => simp [save] at h
  obtain ⟨v', hv, he⟩ := restoreSvalue_save F mb v hs hz
  rw [h, restoreSvalue_zero] at hv
  cases hv
  exact he

/-! ## the body of the file -/

/-- a value of the round-trip domain that `svalue_save_size` accepted (nesting within MAX_SAVE_SVALUE_DEPTH; restore
    refuses deeper text since the nesting fix) -/
def SavableD (F : FloatOps α) (v : Value α) : Prop := Savable F v ∧ (saveSize F 0 v).isSome = true


/-- `restore_object(file, 0)` zeroes the non-static variables first -/
def clearVar (v : Var α) : Var α := if v.isStatic then v else { v with val := .int 0 }

theorem saveLines_nz (F : FloatOps α) (z : Bool) (ss : List (Var α))
    (hname : ∀ v ∈ ss, nameOK v.name = true) (hsv : ∀ v ∈ ss, v.isStatic = false → Savable F v.val) :
    ∀ b ∈ (saveLines F z ss).flatten, b ≠ 0 := by
  intro b hb
  rw [saveLines_eq] at hb
  obtain ⟨l, hl, hbl⟩ := List.mem_flatten.1 hb
  obtain ⟨s, hs, rfl⟩ := List.mem_map.1 hl
  obtain ⟨h1, h2, _⟩ := written_nonstatic F z ss s hs
  simp only [varLine, List.mem_append, List.mem_cons, List.not_mem_nil, or_false] at hbl
  rcases hbl with hb | rfl | hb | rfl
  · have := nameOK_bytes (hname s h1) b hb
    omega
  · omega
  · exact save_nz F s.val (hsv s h1 h2) b hb
  · omega

theorem objSavable_nameOK {vars : List (Var α)} (h : objSavable vars = true) :
    ∀ v ∈ vars, nameOK v.name = true := by
  simp only [objSavable, Bool.and_eq_true, List.all_eq_true] at h
  exact h.1.1

theorem objSavable_nodup {vars : List (Var α)} (h : objSavable vars = true) : (vars.map (·.name)).Nodup := by
  simp only [objSavable, Bool.and_eq_true, decide_eq_true_eq] at h
  exact h.1.2

theorem objSavable_savable {vars : List (Var α)} (h : objSavable vars = true) :
    ∀ v ∈ vars, v.isStatic = false → savable v.val = true := by
  simp only [objSavable, Bool.and_eq_true, List.all_eq_true, Bool.or_eq_true] at h
  intro v hv hs
  rcases h.2 v hv with h' | h'
  · rw [hs] at h'; cases h'
  · exact h'

/-- what `objSavable` and the hypotheses on the floats and the nesting give for every non-static variable -/
theorem objSavable_savableD (F : FloatOps α) (vars : List (Var α)) (hs : objSavable vars = true)
    (hf : ∀ v ∈ vars, v.isStatic = false → FloatsOK F v.val)
    (hdp : ∀ v ∈ vars, v.isStatic = false → saveVariable F v.val ≠ SaveOut.tooDeep) :
    ∀ v ∈ vars, v.isStatic = false → SavableD F v.val := by
  intro v hv hst
  exact ⟨savable_bridge F v.val (objSavable_savable hs v hv hst) (hf v hv hst),
    (saveVariable_ne_tooDeep F v.val).1 (hdp v hv hst)⟩

/-- restore_object on a file written by save_object: the header line is a comment, the efun returns 1, and what it
    does to the variables is `restoreLines` over the variable lines -/
theorem restoreObject_saveFile (F : FloatOps α) (mb : MbLen) (prog : List Byte) (z nc : Bool) (ss live : List (Var α))
    (hprog : ∀ b ∈ prog, b ≠ 10 ∧ b ≠ 0) (hname : ∀ v ∈ ss, nameOK v.name = true)
    (hsv : ∀ v ∈ ss, v.isStatic = false → Savable F v.val) :
    restoreObject F mb nc (some (saveFileText F prog z ss)) live =
      (1, restoreLines F mb nc (splitLines (saveLines F z ss).flatten) (if nc then live else live.map clearVar)) := by
  have htext : saveFileText F prog z ss = (35 :: 47 :: prog) ++ 10 :: (saveLines F z ss).flatten := by
    simp [saveFileText, headerLine]
  have hnz : ∀ b ∈ saveFileText F prog z ss, b ≠ 0 := by
    intro b hb
    rw [htext] at hb
    simp only [List.mem_append, List.mem_cons] at hb
    rcases hb with (rfl | rfl | hb) | rfl | hb
    · omega
    · omega
    · exact (hprog b hb).2
    · omega
    · exact saveLines_nz F z ss hname hsv b hb
  have hnl : ∀ b ∈ 35 :: 47 :: prog, b ≠ 10 := by
    intro b hb
    simp only [List.mem_cons] at hb
    rcases hb with rfl | rfl | hb
    · omega
    · omega
    · exact (hprog b hb).1
  have hlines : splitLines (cstr (saveFileText F prog z ss)) =
      (35 :: 47 :: prog) :: splitLines (saveLines F z ss).flatten := by
    rw [cstr_eq_self _ hnz, htext, splitLines_line _ _ hnl]
  rw [htext] at hlines ⊢
  show (1, restoreLines F mb nc _ _) = _
  rw [hlines, restoreLines_header]
  cases nc <;> rfl

/-! ## restore_object into another version of the program -/

/-- pointwise relation of two lists of equal length -/
inductive Rel2 {β : Type} (R : β → β → Prop) : List β → List β → Prop
  | nil : Rel2 R [] []
  | cons (a b : β) (as bs : List β) : R a b → Rel2 R as bs → Rel2 R (a :: as) (b :: bs)

theorem Rel2.refl {β : Type} {R : β → β → Prop} (h : ∀ a, R a a) : ∀ l, Rel2 R l l
  | [] => .nil
  | a :: l => .cons a a l l (h a) (Rel2.refl h l)

theorem Rel2.of_map {β : Type} {R : β → β → Prop} (f : β → β) :
    ∀ {a c : List β}, Rel2 R (a.map f) c → Rel2 (fun x z => R (f x) z) a c
  | [], _, .nil => .nil
  | x :: xs, _, .cons _ z _ zs h t => .cons x z xs zs h (Rel2.of_map f t)

theorem Rel2.mono {β : Type} {R1 R2 : β → β → Prop} :
    ∀ {a b : List β}, Rel2 R1 a b → (∀ x ∈ a, ∀ y, R1 x y → R2 x y) → Rel2 R2 a b
  | _, _, .nil, _ => .nil
  | _, _, .cons x y xs ys h1 t1, h => .cons x y xs ys (h x (by simp) y h1) (Rel2.mono t1 (fun x' hx' => h x' (by simp [hx'])))

/-- what the restore leaves in the variable `c` of the restoring program (`r` = the variable afterwards): same name and
    static flag; a non-static variable whose name has a line in the file holds that saved value (up to `Equiv`, object
    references as 0); every other variable is untouched -/
def After (F : FloatOps α) (ws : List (Var α)) (c r : Var α) : Prop :=
  r.name = c.name ∧ r.isStatic = c.isStatic ∧
  match (if c.isStatic then none else ws.find? (fun s => s.name = c.name)) with
  | some s => Equiv F (erase s.val) r.val
  | none => r.val = c.val

theorem after_refl (F : FloatOps α) (c : Var α) : After F [] c c := by
  refine ⟨rfl, rfl, ?_⟩
  cases c.isStatic <;> simp

/-- `setVar` on a list with pairwise different names: the variable of that name gets the value, nothing else changes -/
theorem setVar_eq_map (cur : List (Var α)) (nm : List Byte) (w : Value α) (hnd : (cur.map (·.name)).Nodup) :
    setVar cur nm w = cur.map fun c => { c with val := if c.name = nm then w else c.val } := by
  induction cur with
  | nil => rfl
  | cons x r ih =>
    rw [List.map_cons, List.nodup_cons] at hnd
    rw [setVar, List.map_cons]
    by_cases hx : x.name = nm
    · have hr : ∀ y ∈ r, y.name ≠ nm := fun y hy hyn => hnd.1 (hx ▸ hyn ▸ List.mem_map.2 ⟨y, hy, rfl⟩)
      rw [if_pos hx, if_pos hx, (List.map_congr_left fun y hy => by rw [if_neg (hr y hy)]; rfl).trans (List.map_id r)]
    · rw [if_neg hx, if_neg hx, ih hnd.2]

/-- in a table with pairwise different names a variable is the one found under its name -/
theorem find_by_name : ∀ (cur : List (Var α)), (cur.map (·.name)).Nodup → ∀ c ∈ cur,
    cur.find? (fun v => v.name = c.name) = some c
  | x :: r, hnd, c, hc => by
    rw [List.map_cons, List.nodup_cons] at hnd
    rcases List.mem_cons.1 hc with rfl | hc'
    · exact List.find?_cons_of_pos (p := fun v : Var α => decide (v.name = c.name)) (decide_eq_true rfl)
    · have hx : ¬ (decide (x.name = c.name) = true) :=
        fun h => hnd.1 (of_decide_eq_true h ▸ List.mem_map.2 ⟨c, hc', rfl⟩)
      exact (List.find?_cons_of_neg (p := fun v : Var α => decide (v.name = c.name)) hx).trans
        (find_by_name r hnd.2 c hc')

/-- a line under a name that no non-static variable `c` carries does not show in `After` -/
theorem After.skip {F : FloatOps α} {ws : List (Var α)} {s c r : Var α} (h : c.isStatic = false → s.name ≠ c.name)
    (ha : After F ws c r) : After F (s :: ws) c r := by
  obtain ⟨h1, h2, h3⟩ := ha
  refine ⟨h1, h2, ?_⟩
  cases hcs : c.isStatic with
  | true => simpa [hcs] using h3
  | false => simpa [List.find?_cons, h hcs, hcs] using h3

/-- **The lines of variables `ws` that all have one, restored into any table.**  `ws`: names are identifiers, pairwise
    different, values in the round-trip domain; `cur`: the variables of the restoring object when the lines are read
    (pairwise different names, ANY layout): the restore ends without error and leaves `After` in every variable. -/
theorem restoreLines_written (F : FloatOps α) (mb : MbLen) (nc : Bool) : ∀ (ws cur : List (Var α)),
    (∀ v ∈ ws, nameOK v.name = true) → (ws.map (·.name)).Nodup →
    (∀ v ∈ ws, SavableD F v.val) → (cur.map (·.name)).Nodup →
    ∃ res, restoreLines F mb nc (splitLines (ws.map (varLine F)).flatten) cur = .done res ∧
      Rel2 (After F ws) cur res := by
  intro ws
  induction ws with
  | nil =>
    intro cur _ _ _ _
    exact ⟨cur, by simp [splitLines, restoreLines_nil], Rel2.refl (after_refl F) cur⟩
  | cons s ws ih =>
    intro cur hname hnd hsv hcur
    have hname' : ∀ v ∈ ws, nameOK v.name = true := fun v hv => hname v (by simp [hv])
    have hsv' : ∀ v ∈ ws, SavableD F v.val := fun v hv => hsv v (by simp [hv])
    rw [List.map_cons, List.nodup_cons] at hnd
    obtain ⟨hsn, hnd'⟩ := hnd
    have hsav := hsv s (by simp)
    have hnl : ∀ b ∈ s.name ++ 32 :: save F s.val, b ≠ 10 := by
      intro b hb
      rcases List.mem_append.1 hb with hb | hb
      · have := nameOK_bytes (hname s (by simp)) b hb
        omega
      · rcases List.mem_cons.1 hb with rfl | hb
        · omega
        · exact save_nl F s.val hsav.1 b hb
    have e1 : ((s :: ws).map (varLine F)).flatten =
        (s.name ++ 32 :: save F s.val) ++ 10 :: (ws.map (varLine F)).flatten := by
      simp [varLine]
    have hnotin : ∀ x ∈ ws, x.name ≠ s.name := fun x hx hxs =>
      hsn (by rw [← hxs]; exact List.mem_map.2 ⟨x, hx, rfl⟩)
    rw [e1, splitLines_line _ _ hnl]
    by_cases hf : (cur.find? (fun v => v.name = s.name)).map (·.isStatic) = some false
    case neg =>
      -- no non-static variable of `cur` has this name: the line is skipped and `After` does not see it
      rw [restoreLines_skip F mb nc cur s.name _ _ (hname s (by simp)) hf]
      obtain ⟨res, hres, hrel⟩ := ih cur hname' hnd' hsv' hcur
      refine ⟨res, hres, Rel2.mono hrel fun c hc r => After.skip fun hcs h => hf ?_⟩
      rw [h, find_by_name cur hcur c hc, Option.map_some, hcs]
    cases hq : cur.find? (fun v => v.name = s.name) with
    | none => rw [hq] at hf; cases hf
    | some v =>
      -- the line goes into `v`, the one variable of `cur` with this name
      rw [hq] at hf
      have hvs : v.isStatic = false := Option.some.inj hf
      have hv : ∀ c ∈ cur, c.name = s.name → c = v := fun c hc h =>
        Option.some.inj ((find_by_name cur hcur c hc).symm.trans (h ▸ hq))
      obtain ⟨w, hw1, hw2⟩ := restoreSvalue_save F mb s.val hsav.1 hsav.2
      rw [restoreLines_hit F mb nc cur s.name _ _ v w (hname s (by simp)) hq hvs hw1]
      have hcur' : ((setVar cur s.name w).map (·.name)).Nodup := by rw [setVar_names]; exact hcur
      obtain ⟨res, hres, hrel⟩ := ih (setVar cur s.name w) hname' hnd' hsv' hcur'
      rw [setVar_eq_map cur s.name w hcur] at hrel
      refine ⟨res, hres, Rel2.mono (Rel2.of_map _ hrel) ?_⟩
      intro c hc r ⟨h1, h2, h3⟩
      refine ⟨h1, h2, ?_⟩
      by_cases hcn : c.name = s.name
      · -- `c` is `v`: `setVar` gave it `w`, and no later line has its name
        have hcs : c.isStatic = false := by rw [hv c hc hcn]; exact hvs
        have hnone : ws.find? (fun x => x.name = c.name) = none := by
          rw [List.find?_eq_none]
          intro x hx
          have := hnotin x hx
          simp [hcn, this]
        simp only [hcs, Bool.false_eq_true, if_false] at h3 ⊢
        rw [hnone] at h3
        simp only [List.find?_cons, hcn, decide_true]
        rw [h3, if_pos hcn]; exact hw2
      · -- any other variable: `setVar` left it alone
        rw [if_neg hcn] at h3
        exact (After.skip (fun _ h => hcn h.symm) ⟨h1, h2, h3⟩).2.2

/-- **restore_object into another version of the program**: the lines `save_object` wrote for `ss` are those of
    `written F z ss` -/
theorem restoreLines_other_version (F : FloatOps α) (mb : MbLen) (nc z : Bool) (ss cur : List (Var α))
    (hname : ∀ v ∈ ss, nameOK v.name = true) (hnd : (ss.map (·.name)).Nodup)
    (hsv : ∀ v ∈ ss, v.isStatic = false → SavableD F v.val) (hcur : (cur.map (·.name)).Nodup) :
    ∃ res, restoreLines F mb nc (splitLines (saveLines F z ss).flatten) cur = .done res ∧
      Rel2 (After F (written F z ss)) cur res := by
  rw [saveLines_eq]
  have hw := written_nonstatic F z ss
  exact restoreLines_written F mb nc _ cur (fun v hv => hname v (hw v hv).1)
    (hnd.sublist ((List.filter_sublist (l := ss)).map _)) (fun v hv => hsv v (hw v hv).1 (hw v hv).2.1) hcur

theorem clearVar_names (live : List (Var α)) : (live.map clearVar).map (·.name) = live.map (·.name) := by
  induction live with
  | nil => rfl
  | cons x r ih =>
    simp only [List.map_cons, ih]
    by_cases hx : x.isStatic = true <;> simp [clearVar, hx]

/-- **restore_object(file, nc) into another version of the program** — the whole efun on the whole file: it returns 1
    without an error, and every variable of the restoring object is `After` with respect to what it was when the lines
    were read (its live value with the no-clear flag, else the live value of a static and 0 for a non-static one). -/
theorem restoreObject_other_version {α : Type} (F : FloatOps α) (mb : MbLen) (prog : List Byte) (z nc : Bool)
    (ss live : List (Var α)) (hprog : ∀ b ∈ prog, b ≠ 10 ∧ b ≠ 0) (hs : objSavable ss = true)
    (hf : ∀ v ∈ ss, v.isStatic = false → FloatsOK F v.val)
    (hdp : ∀ v ∈ ss, v.isStatic = false → saveVariable F v.val ≠ SaveOut.tooDeep)
    (hlive : (live.map (·.name)).Nodup) :
    ∃ res, restoreObject F mb nc (some (saveFileText F prog z ss)) live = (1, RoOut.done res) ∧
      Rel2 (After F (written F z ss)) (if nc then live else live.map clearVar) res := by
  have hname := objSavable_nameOK hs
  have hsv := objSavable_savableD F ss hs hf hdp
  obtain ⟨res, hres, hrel⟩ := restoreLines_other_version F mb nc z ss (if nc then live else live.map clearVar)
    hname (objSavable_nodup hs) hsv (by cases nc <;> simp only [Bool.false_eq_true, if_false, if_true, clearVar_names] <;> exact hlive)
  exact ⟨res, by rw [restoreObject_saveFile F mb prog z nc ss live hprog hname (fun v hv h => (hsv v hv h).1), hres],
    hrel⟩

/-! ## the same variable table on both sides -/

/-- the line of a variable among the `written` ones of a table with pairwise different names -/
theorem find_written (F : FloatOps α) (z : Bool) (ss : List (Var α)) (hnd : (ss.map (·.name)).Nodup) (s : Var α)
    (hs : s ∈ ss) :
    (written F z ss).find? (fun x => x.name = s.name) =
      if (!s.isStatic && (z || save F s.val != [48])) = true then some s else none := by
  by_cases hc : (!s.isStatic && (z || save F s.val != [48])) = true
  · rw [if_pos hc]
    exact find_by_name _ (hnd.sublist ((List.filter_sublist (l := ss)).map _)) s (List.mem_filter.2 ⟨hs, hc⟩)
  · -- a written variable of that name would be `s` itself, which is not written
    rw [if_neg hc, List.find?_eq_none]
    intro x hx hxs
    obtain ⟨hxm, hxc⟩ := List.mem_filter.1 hx
    have h := find_by_name ss hnd x hxm
    rw [of_decide_eq_true hxs, find_by_name ss hnd s hs] at h
    cases h
    exact hc hxc

/-- a variable gets a line: save_zeros, or its text is not "0" -/
theorem line_cond (z : Bool) (t : List Byte) : (z || t != [48]) = true ↔ (z = true ∨ t ≠ [48]) := by
  cases z <;> simp

theorem line_cond_not (z : Bool) (t : List Byte) (h : ¬ (z || t != [48]) = true) : z = false ∧ t = [48] := by
  cases z <;> simp at h ⊢; exact h

theorem Var.eta (r : Var α) : r = ⟨r.name, r.isStatic, r.val⟩ := rfl

/-- `After` read for the SAME table on both sides, the non-static variables cleared first: `ObjRestored` -/
theorem objRestored_of_after (F : FloatOps α) (ws : List (Var α)) (z : Bool) :
    ∀ (ss ls rs : List (Var α)), ls.map (·.name) = ss.map (·.name) → ls.map (·.isStatic) = ss.map (·.isStatic) →
    (∀ s ∈ ss, s.isStatic = false → ws.find? (fun x => x.name = s.name) =
      if (z || save F s.val != [48]) = true then some s else none) →
    (∀ s ∈ ss, s.isStatic = false → save F s.val = [48] → Equiv F (erase s.val) (.int 0)) →
    Rel2 (After F ws) (ls.map clearVar) rs → ObjRestored F ss ls rs := by
  intro ss
  induction ss with
  | nil =>
    intro ls rs hn _ _ _ hr
    cases ls with
    | cons l ls' => nomatch hn
    | nil => cases hr; exact .nil
  | cons s ss' ih =>
    intro ls rs hn hst hw h0 hr
    cases ls with
    | nil => nomatch hn
    | cons l ls' =>
      simp only [List.map_cons, List.cons.injEq] at hn hst
      rw [List.map_cons] at hr
      cases hr with
      | cons _ r _ rs' ha ht =>
      have ih' := ih ls' rs' hn.2 hst.2 (fun x hx => hw x (List.mem_cons_of_mem _ hx))
        (fun x hx => h0 x (List.mem_cons_of_mem _ hx)) ht
      obtain ⟨h1, h2, h3⟩ := ha
      rw [Var.eta r]
      by_cases hs : s.isStatic = true
      · -- static: not cleared, no line taken
        have hl : l.isStatic = true := hst.1.trans hs
        have hc : clearVar l = l := by rw [clearVar, if_pos hl]
        rw [hc] at h1 h2 h3
        rw [if_pos hl] at h3
        rw [h1, h2, h3]
        exact .static s l ss' ls' rs' hs hl hn.1 ih'
      · have hs' : s.isStatic = false := by simpa using hs
        have hl : l.isStatic = false := hst.1.trans hs'
        have hc : clearVar l = ⟨s.name, false, .int 0⟩ := by
          rw [clearVar, if_neg (by rw [hl]; exact Bool.false_ne_true), ← hn.1, ← hl]
        rw [hc] at h1 h2 h3
        rw [if_neg Bool.false_ne_true, hw s (List.mem_cons_self ..) hs'] at h3
        rw [h1, h2]
        by_cases hz : (z || save F s.val != [48]) = true
        · rw [if_pos hz] at h3
          exact .saved s l r.val ss' ls' rs' hs' hl hn.1 h3 ih'
        · -- no line: the text is "0" and zeros are not saved; the variable stays cleared
          rw [if_neg hz] at h3
          have hz0 := (line_cond_not z _ hz).2
          rw [show r.val = .int 0 from h3]
          exact .saved s l (.int 0) ss' ls' rs' hs' hl hn.1 (h0 s (List.mem_cons_self ..) hs' hz0) ih'

/-- what the round-trip statements need of the common table: `find_written` for every variable, and that only the
    integer 0 is written as "0" -/
theorem sameTable_facts (F : FloatOps α) (mb : MbLen) (z : Bool) (vars : List (Var α)) (hs : objSavable vars = true)
    (hf : ∀ v ∈ vars, v.isStatic = false → FloatsOK F v.val) :
    (∀ s ∈ vars, s.isStatic = false → (written F z vars).find? (fun x => x.name = s.name) =
      if (z || save F s.val != [48]) = true then some s else none) ∧
    (∀ s ∈ vars, s.isStatic = false → save F s.val = [48] → Equiv F (erase s.val) (.int 0)) := by
  refine ⟨fun s hm hst => ?_, fun s hm hst h0 => ?_⟩
  · rw [find_written F z vars (objSavable_nodup hs) s hm, hst]; rfl
  · exact save_eq_zero F mb s.val (savable_bridge F s.val (objSavable_savable hs s hm hst) (hf s hm hst)) h0

/-- **Object round trip.**  save_object writes the variables `vars`; restore_object(file, 0) into an object of
    the same program whose variables currently are `live` succeeds and leaves every static variable untouched and
    every non-static variable holding the saved value (up to `Equiv`, object references as 0) — also the
    variables that were not written because their text is "0". -/
theorem object_roundtrip {α : Type} (F : FloatOps α) (mb : MbLen) (prog : List Byte) (z : Bool)
    (vars live : List (Var α))
    (hprog : ∀ b ∈ prog, b ≠ 10 ∧ b ≠ 0)
    (hs : objSavable vars = true)
    (hf : ∀ v ∈ vars, v.isStatic = false → FloatsOK F v.val)
    (hdp : ∀ v ∈ vars, v.isStatic = false → saveVariable F v.val ≠ SaveOut.tooDeep)
    (hlay : live.map (·.name) = vars.map (·.name) ∧ live.map (·.isStatic) = vars.map (·.isStatic)) :
    ∃ res, restoreObject F mb false (some (saveFileText F prog z vars)) live = (1, RoOut.done res) ∧
      ObjRestored F vars live res := by
  obtain ⟨res, hres, hrel⟩ := restoreObject_other_version F mb prog z false vars live hprog hs hf hdp
    (by rw [hlay.1]; exact objSavable_nodup hs)
  obtain ⟨hw, h0⟩ := sameTable_facts F mb z vars hs hf
  exact ⟨res, hres, objRestored_of_after F _ z vars live res hlay.1 hlay.2 hw h0 hrel⟩

/-! ## restore_object(file, 1): no clearing -/

/-- what `restore_object(file, 1)` must leave in the object: as `ObjRestored`, but a non-static variable that the
    save did not write (its text is "0" and zeros are not saved) keeps its live value -/
inductive ObjRestoredNC (F : FloatOps α) (z : Bool) : List (Var α) → List (Var α) → List (Var α) → Prop
  | nil : ObjRestoredNC F z [] [] []
  | static (s l : Var α) (ss ls rs : List (Var α)) : s.isStatic = true → l.isStatic = true → l.name = s.name →
      ObjRestoredNC F z ss ls rs → ObjRestoredNC F z (s :: ss) (l :: ls) (l :: rs)
  | saved (s l : Var α) (x : Value α) (ss ls rs : List (Var α)) : s.isStatic = false → l.isStatic = false →
      l.name = s.name → (z = true ∨ save F s.val ≠ [48]) → Equiv F (erase s.val) x →
      ObjRestoredNC F z ss ls rs → ObjRestoredNC F z (s :: ss) (l :: ls) (⟨s.name, false, x⟩ :: rs)
  | kept (s l : Var α) (ss ls rs : List (Var α)) : s.isStatic = false → l.isStatic = false → l.name = s.name →
      z = false → save F s.val = [48] → ObjRestoredNC F z ss ls rs →
      ObjRestoredNC F z (s :: ss) (l :: ls) (l :: rs)

/-- `After` read for the same table on both sides, nothing cleared: `ObjRestoredNC` -/
theorem objRestoredNC_of_after (F : FloatOps α) (ws : List (Var α)) (z : Bool) :
    ∀ (ss ls rs : List (Var α)), ls.map (·.name) = ss.map (·.name) → ls.map (·.isStatic) = ss.map (·.isStatic) →
    (∀ s ∈ ss, s.isStatic = false → ws.find? (fun x => x.name = s.name) =
      if (z || save F s.val != [48]) = true then some s else none) →
    Rel2 (After F ws) ls rs → ObjRestoredNC F z ss ls rs := by
  intro ss
  induction ss with
  | nil =>
    intro ls rs hn _ _ hr
    cases ls with
    | cons l ls' => nomatch hn
    | nil => cases hr; exact .nil
  | cons s ss' ih =>
    intro ls rs hn hst hw hr
    cases ls with
    | nil => nomatch hn
    | cons l ls' =>
      simp only [List.map_cons, List.cons.injEq] at hn hst
      cases hr with
      | cons _ r _ rs' ha ht =>
      have ih' := ih ls' rs' hn.2 hst.2 (fun x hx => hw x (List.mem_cons_of_mem _ hx)) ht
      obtain ⟨h1, h2, h3⟩ := ha
      rw [Var.eta r, h1, h2]
      by_cases hs : s.isStatic = true
      · have hl : l.isStatic = true := hst.1.trans hs
        rw [if_pos hl] at h3
        rw [show r.val = l.val from h3]
        exact .static s l ss' ls' rs' hs hl hn.1 ih'
      · have hs' : s.isStatic = false := by simpa using hs
        have hl : l.isStatic = false := hst.1.trans hs'
        rw [if_neg (by rw [hl]; exact Bool.false_ne_true), hn.1, hw s (List.mem_cons_self ..) hs'] at h3
        by_cases hz : (z || save F s.val != [48]) = true
        · rw [if_pos hz] at h3
          rw [hl, hn.1]
          exact .saved s l r.val ss' ls' rs' hs' hl hn.1 ((line_cond z _).1 hz) h3 ih'
        · -- no line: the variable keeps its live value
          rw [if_neg hz] at h3
          have hz0 := line_cond_not z _ hz
          rw [show r.val = l.val from h3]
          exact .kept s l ss' ls' rs' hs' hl hn.1 hz0.1 hz0.2 ih'

/-- **Object round trip without clearing** (`restore_object(file, 1)`): static variables untouched, every
    written variable holds the saved value, a variable that was not written (text "0", zeros not saved) keeps its
    live value. -/
theorem object_roundtrip_noclear {α : Type} (F : FloatOps α) (mb : MbLen) (prog : List Byte) (z : Bool)
    (vars live : List (Var α))
    (hprog : ∀ b ∈ prog, b ≠ 10 ∧ b ≠ 0)
    (hs : objSavable vars = true)
    (hf : ∀ v ∈ vars, v.isStatic = false → FloatsOK F v.val)
    (hdp : ∀ v ∈ vars, v.isStatic = false → saveVariable F v.val ≠ SaveOut.tooDeep)
    (hlay : live.map (·.name) = vars.map (·.name) ∧ live.map (·.isStatic) = vars.map (·.isStatic)) :
    ∃ res, restoreObject F mb true (some (saveFileText F prog z vars)) live = (1, RoOut.done res) ∧
      ObjRestoredNC F z vars live res := by
  obtain ⟨res, hres, hrel⟩ := restoreObject_other_version F mb prog z true vars live hprog hs hf hdp
    (by rw [hlay.1]; exact objSavable_nodup hs)
  exact ⟨res, hres, objRestoredNC_of_after F _ z vars live res hlay.1 hlay.2 (sameTable_facts F mb z vars hs hf).1 hrel⟩

/-! ## non-vacuity -/

/-- a static variable, a variable with a deeply nested value, a variable holding 0 (not written unless
    save_zeros) -/
def objExample : List (Var Unit) :=
  [⟨[115], true, .obj⟩, ⟨[118, 97], false, deepExample⟩, ⟨[122], false, .int 0⟩]

/-- the object at restore time: same layout, other values -/
def objLive : List (Var Unit) :=
  [⟨[115], true, .str [120]⟩, ⟨[118, 97], false, .int 5⟩, ⟨[122], false, .str []⟩]

theorem objExample_savable : objSavable objExample = true := by decide

theorem objExample_floats : ∀ v ∈ objExample, v.isStatic = false → FloatsOK rtF v.val := by
  intro v hv _
  simp only [objExample, List.mem_cons, List.not_mem_nil, or_false] at hv
  rcases hv with rfl | rfl | rfl
  · simp [FloatsOK]
  · exact deepExample_floatsOK
  · simp [FloatsOK]

theorem objExample_depth : ∀ v ∈ objExample, v.isStatic = false → saveVariable rtF v.val ≠ SaveOut.tooDeep := by
  intro v hv _
  simp only [objExample, List.mem_cons, List.not_mem_nil, or_false] at hv
  rcases hv with rfl | rfl | rfl
  · exact (saveVariable_ne_tooDeep _ _).2 rfl
  · exact deepExample_withinDepth
  · exact (saveVariable_ne_tooDeep _ _).2 rfl

example (mb : MbLen) (z : Bool) :
    ∃ res, restoreObject rtF mb false (some (saveFileText rtF [97, 47, 98] z objExample)) objLive =
        (1, RoOut.done res) ∧ ObjRestored rtF objExample objLive res :=
  object_roundtrip rtF mb [97, 47, 98] z objExample objLive (by decide) objExample_savable objExample_floats
    objExample_depth ⟨rfl, rfl⟩

/-- the same object restored without clearing: with `z = false` the variable `[122]` (saved value 0, not
    written) keeps its live value `""` -/
example (mb : MbLen) (z : Bool) :
    ∃ res, restoreObject rtF mb true (some (saveFileText rtF [97, 47, 98] z objExample)) objLive =
        (1, RoOut.done res) ∧ ObjRestoredNC rtF z objExample objLive res :=
  object_roundtrip_noclear rtF mb [97, 47, 98] z objExample objLive (by decide) objExample_savable
    objExample_floats objExample_depth ⟨rfl, rfl⟩

/-! ## non-vacuity: version 2 of a program restores a file of version 1

version 1: `a` (= 5), `b` (= "x"), `gone` (= 7), static `s`; version 2: `b` first, `a` now static (nosave), a new `c`,
`gone` removed, `s` no longer static -/

def v1Vars : List (Var Unit) :=
  [⟨[97], false, .int 5⟩, ⟨[98], false, .str [120]⟩, ⟨[103, 111, 110, 101], false, .int 7⟩, ⟨[115], true, .int 9⟩]

def v2Live : List (Var Unit) :=
  [⟨[98], false, .int 1⟩, ⟨[97], true, .int 2⟩, ⟨[99], false, .int 3⟩, ⟨[115], false, .int 4⟩]

example (mb : MbLen) : ∃ res, restoreObject rtF mb true (some (saveFileText rtF [112] false v1Vars)) v2Live =
    (1, RoOut.done res) ∧ Rel2 (After rtF (written rtF false v1Vars)) v2Live res :=
  restoreObject_other_version rtF mb [112] false true v1Vars v2Live (by decide) (by decide)
    (by intro v hv _; simp only [v1Vars, List.mem_cons, List.not_mem_nil, or_false] at hv
        rcases hv with rfl | rfl | rfl | rfl <;> simp [FloatsOK])
    (by intro v hv _; simp only [v1Vars, List.mem_cons, List.not_mem_nil, or_false] at hv
        rcases hv with rfl | rfl | rfl | rfl <;> exact (saveVariable_ne_tooDeep _ _).2 rfl)
    (by decide)

end NV.C16
