/-
C16 — the round trip: restore_variable(save_variable(v)) yields a value equal to `v` (object references as 0,
floats up to their printed text) for every `Savable` value.  Lemma layers in NV.C16.LemmasRt.
-/
import NV.C16.LemmasRt

namespace NV.C16

variable {α : Type}

/-! ## the size table written by the pre-pass -/

def Pairs.len : Pairs α → Nat
  | .nil => 0
  | .cons _ _ r => r.len + 1

mutual
/-- sizes of the containers nested in a value, in the order in which their text opens -/
def tbl : Value α → List Nat
  | .arr xs => xs.length :: tblVals xs
  | .cls xs => xs.length :: tblVals xs
  | .map ps => (2 * ps.len) :: tblPairs ps
  | .int _ => []
  | .real _ => []
  | .str _ => []
  | .obj => []
def tblVals : Vals α → List Nat
  | .nil => []
  | .cons v r => tbl v ++ tblVals r
def tblPairs : Pairs α → List Nat
  | .nil => []
  | .cons k v r => tbl k ++ (tbl v ++ tblPairs r)
end

/-! ## the size pre-pass over a saved text -/

theorem preD_numText (F : FloatOps α) (mb : MbLen) (t : List Byte) (w : Value α) (hn : NumText F t w)
    (fuel nest : Nat) (top isMap idx : Bool) (d : Byte) (rest : List Byte) (size : Nat) (zs : List Nat)
    (hd : delimOf isMap idx = d) (hk : NestOK top nest) :
    preD mb (fuel + 1) nest top isMap idx (t ++ d :: rest) size zs =
      preD mb fuel nest top isMap (idxNext isMap idx) rest (size + 1) zs := by
  obtain ⟨c, s, hcs, hstart⟩ := hn.start
  have hdc := delimOf_cases isMap idx
  rw [hd] at hdc
  have hch : ∀ b ∈ s, b ≠ d := by
    intro b hb
    have := hn.chars b (by rw [hcs]; simp [hb])
    rcases hdc with rfl | rfl <;> omega
  rw [hcs, List.cons_append]
  exact preD_num mb fuel nest top isMap idx size zs d hd c s rest hstart hch hk

/-
The pre-pass AS CODED (with the nesting test) over a saved text.  `nest` is the level of the container whose elements
are being counted; an element that is itself a container sits at level `nest + 1`, which is exactly what
`svalue_save_size` tested when it computed the size of that element with `save_svalue_depth = nest` on entry:
the hypothesis `(saveSize F nest v).isSome` — "the save did not raise `nested too deep`".
-/
mutual
theorem pre_elem (F : FloatOps α) (mb : MbLen) : (v : Value α) → Savable F v →
    ∀ (fuel nest : Nat) (top isMap idx : Bool) (d : Byte) (rest : List Byte) (size : Nat) (zs : List Nat),
      delimOf isMap idx = d → (save F v).length ≤ fuel → NestOK top nest → (saveSize F nest v).isSome = true →
      preD mb (fuel + 1) nest top isMap idx (save F v ++ d :: rest) size zs =
        preD mb fuel nest top isMap (idxNext isMap idx) rest (size + 1) (zs ++ tbl v)
  | .int n, hs => by
    intro fuel nest top isMap idx d rest size zs hd _ hk _
    have hn := numText_int F n hs.int_inv.1 hs.int_inv.2
    rw [save, preD_numText F mb _ _ hn fuel nest top isMap idx d rest size zs hd hk, tbl, List.append_nil]
  | .real x, hs => by
    intro fuel nest top isMap idx d rest size zs hd _ hk _
    have hn := numText_real F x hs.real_inv
    rw [save, preD_numText F mb _ _ hn fuel nest top isMap idx d rest size zs hd hk, tbl, List.append_nil]
  | .str s, hs => by
    intro fuel nest top isMap idx d rest size zs hd _ hk _
    rw [save_str_append, preD_str mb fuel nest top isMap idx size zs d hd s rest hk, tbl, List.append_nil]
  | .obj, _ => by
    intro fuel nest top isMap idx d rest size zs hd _ hk _
    rw [save, List.nil_append, preD_empty mb fuel nest top isMap idx size zs d hd rest hk, tbl, List.append_nil]
  | .arr xs, hs => by
    intro fuel nest top isMap idx d rest size zs hd hf hk hz
    rw [save_arr_length] at hf
    obtain ⟨hlim, hzs⟩ := saveSize_nested_some hz
    have h := preD_vals F mb xs hs.arr_inv.1 fuel (nest + 1) false false 125 (d :: rest) 0 [] (Or.inl rfl) (by omega)
      (Or.inr hlim) hzs
    rw [save_arr_append, preD_nested mb fuel nest top isMap idx size zs d hd 123 (Or.inl rfl) _ rest _ _ h hk,
      tbl, Nat.zero_add, List.nil_append]
  | .cls xs, hs => by
    intro fuel nest top isMap idx d rest size zs hd hf hk hz
    rw [save_cls_length] at hf
    obtain ⟨hlim, hzs⟩ := saveSize_nested_some hz
    have h := preD_vals F mb xs hs.cls_inv fuel (nest + 1) false false 47 (d :: rest) 0 [] (Or.inr rfl) (by omega)
      (Or.inr hlim) hzs
    rw [save_cls_append, preD_nested mb fuel nest top isMap idx size zs d hd 47 (Or.inr (Or.inr rfl)) _ rest _ _ h hk,
      tbl, Nat.zero_add, List.nil_append]
  | .map ps, hs => by
    intro fuel nest top isMap idx d rest size zs hd hf hk hz
    rw [save_map_length] at hf
    obtain ⟨hlim, hzs⟩ := saveSize_nested_some hz
    have h := preD_pairs F mb ps hs.map_inv.1 fuel (nest + 1) false (d :: rest) 0 [] (by omega) (Or.inr hlim) hzs
    rw [save_map_append, preD_nested mb fuel nest top isMap idx size zs d hd 91 (Or.inr (Or.inl rfl)) _ rest _ _ h hk,
      tbl, Nat.zero_add, List.nil_append]
theorem preD_vals (F : FloatOps α) (mb : MbLen) : (xs : Vals α) → SavableVals F xs →
    ∀ (fuel nest : Nat) (top idx : Bool) (c : Byte) (rest : List Byte) (size : Nat) (zs : List Nat),
      (c = 125 ∨ c = 47) → (saveElems F xs).length + 1 ≤ fuel → NestOK top nest →
      (sizeElems F nest xs).isSome = true →
      preD mb fuel nest top false idx (saveElems F xs ++ c :: 41 :: rest) size zs =
        some (rest, size + xs.length, zs ++ tblVals xs)
  | .nil, _ => by
    intro fuel nest top idx c rest size zs hc hf hk _
    cases fuel with
    | zero => omega
    | succ f =>
      rw [saveElems, List.nil_append, preD_close_vals mb f nest top idx size zs c hc rest hk, Vals.length, tblVals,
        Nat.add_zero, List.append_nil]
  | .cons v r, hs => by
    intro fuel nest top idx c rest size zs hc hf hk hz
    rw [saveElems_cons_length] at hf
    obtain ⟨hzv, hzr⟩ := sizeElems_cons_some hz
    cases fuel with
    | zero => omega
    | succ f =>
      rw [saveElems_cons_append,
        pre_elem F mb v hs.cons_inv.1 f nest top false idx 44 _ size zs rfl (by omega) hk hzv,
        show idxNext false idx = idx from rfl,
        preD_vals F mb r hs.cons_inv.2 f nest top idx c rest (size + 1) (zs ++ tbl v) hc (by omega) hk hzr,
        Vals.length, tblVals, List.append_assoc, Nat.add_assoc, Nat.add_comm 1]
theorem preD_pairs (F : FloatOps α) (mb : MbLen) : (ps : Pairs α) → SavablePairs F ps →
    ∀ (fuel nest : Nat) (top : Bool) (rest : List Byte) (size : Nat) (zs : List Nat),
      (savePairs F ps).length + 1 ≤ fuel → NestOK top nest → (sizePairs F nest ps).isSome = true →
      preD mb fuel nest top true false (savePairs F ps ++ 93 :: 41 :: rest) size zs =
        some (rest, size + 2 * ps.len, zs ++ tblPairs ps)
  | .nil, _ => by
    intro fuel nest top rest size zs hf hk _
    cases fuel with
    | zero => omega
    | succ f =>
      rw [savePairs, List.nil_append, preD_close_map mb f nest top false size zs rest hk, Pairs.len, tblPairs,
        Nat.mul_zero, Nat.add_zero, List.append_nil]
  | .cons k v r, hs => by
    intro fuel nest top rest size zs hf hk hz
    rw [savePairs_cons_length] at hf
    obtain ⟨hzk, hzv, hzr⟩ := sizePairs_cons_some hz
    obtain ⟨f, rfl⟩ : ∃ f, fuel = f + 2 := ⟨fuel - 2, by omega⟩
    have h1 : (save F k).length ≤ f + 1 := by omega
    have h2 : (save F v).length ≤ f := by omega
    have h3 : (savePairs F r).length + 1 ≤ f := by omega
    rw [savePairs_cons_append,
      pre_elem F mb k hs.key (f + 1) nest top true false 58 _ size zs rfl h1 hk hzk,
      show idxNext true false = true from rfl,
      pre_elem F mb v hs.val f nest top true true 44 _ (size + 1) (zs ++ tbl k) rfl h2 hk hzv,
      show idxNext true true = false from rfl,
      preD_pairs F mb r hs.rest f nest top rest (size + 1 + 1) (zs ++ tbl k ++ tbl v) h3 hk hzr,
      Pairs.len, tblPairs, List.append_assoc, List.append_assoc,
      show size + 1 + 1 + 2 * r.len = size + 2 * (r.len + 1) by omega]
end

/-! ## the value pass over a saved text -/

theorem item_numText (F : FloatOps α) (t : List Byte) (w : Value α) (hn : NumText F t w) (fuel : Nat)
    (d : Byte) (hd : d = 44 ∨ d = 58) (rest : List Byte) (more : List Nat) :
    ∃ y, Item F fuel d (t ++ d :: rest) more y rest more ∧ Equiv F w y := by
  obtain ⟨c, s, hcs, hstart⟩ := hn.start
  obtain ⟨y, hy, he⟩ := hn.parse c s hcs (d :: rest) (Or.inr ⟨d, rest, rfl, hd⟩)
  refine ⟨y, ?_, he⟩
  rw [hcs, List.cons_append]
  exact Item.num c _ y rest more hstart hy

mutual
theorem rd_item (F : FloatOps α) : (v : Value α) → Savable F v →
    ∀ (fuel : Nat) (d : Byte) (rest : List Byte) (more : List Nat), (d = 44 ∨ d = 58) →
      (save F v).length ≤ fuel →
      ∃ w, Item F fuel d (save F v ++ d :: rest) (tbl v ++ more) w rest more ∧ Equiv F (erase v) w
  | .int n, hs => by
    intro fuel d rest more hd _
    have hn := numText_int F n hs.int_inv.1 hs.int_inv.2
    simpa [save, tbl, erase] using item_numText F _ _ hn fuel d hd rest more
  | .real x, hs => by
    intro fuel d rest more hd _
    have hn := numText_real F x hs.real_inv
    simpa [save, tbl, erase] using item_numText F _ _ hn fuel d hd rest more
  | .str s, hs => by
    intro fuel d rest more hd _
    refine ⟨.str s, ?_, by rw [erase]; exact Equiv.str s⟩
    rw [save_str_append]
    simpa [tbl] using Item.str (F := F) (fuel := fuel) (d := d) _ s rest more
      (decodeStr_esc s (d :: rest))
  | .obj, _ => by
    intro fuel d rest more hd _
    refine ⟨.int 0, ?_, by rw [erase]; exact Equiv.int 0⟩
    simpa [save, tbl] using Item.empty (F := F) (fuel := fuel) (d := d) rest more
  | .arr xs, hs => by
    intro fuel d rest more hd hf
    rw [save_arr_length] at hf
    match fuel, hf with
    | f + 1, hf =>
      obtain ⟨ys, hys, he⟩ := rd_vals F xs hs.arr_inv.1 f 125 41 (d :: rest) more .nil .array (by omega)
      refine ⟨.arr ys, ?_, by rw [erase]; exact Equiv.arr _ _ he⟩
      rw [save_arr_append]
      -- `tbl (.arr xs) ++ more` is `xs.length :: (tblVals xs ++ more)`: the count rdNested takes, then the elements' table
      exact .nested _ _ _ rest more (rdNested_arr F f _ xs.length (tblVals xs ++ more) _ _ _ hs.arr_inv.2 hys)
  | .cls xs, hs => by
    intro fuel d rest more hd hf
    rw [save_cls_length] at hf
    match fuel, hf with
    | f + 1, hf =>
      obtain ⟨ys, hys, he⟩ := rd_vals F xs hs.cls_inv f 47 41 (d :: rest) more .nil .cls (by omega)
      refine ⟨.cls ys, ?_, by rw [erase]; exact Equiv.cls _ _ he⟩
      rw [save_cls_append]
      exact .nested _ _ _ rest more (rdNested_cls F f _ xs.length (tblVals xs ++ more) _ _ _ hs.cls_len hys)
  | .map ps, hs => by
    intro fuel d rest more hd hf
    rw [save_map_length] at hf
    match fuel, hf with
    | f + 1, hf =>
      have ih := rd_pairs F ps hs.map_inv.1 hs.map_inv.2 f 41 (d :: rest) more .nil (by omega)
        (by intro a ha; simp [Pairs.keys] at ha)
      rw [save_map_append]
      cases ps with
      | nil =>
        refine ⟨.map .nil, ?_, by rw [erase, erasePairs]; exact Equiv.map _ _ EquivPairs.nil⟩
        exact .nested _ _ _ rest more (rdNested_map_empty F f 93 41 (d :: rest) more)
      | cons k v r =>
        obtain ⟨qs, hqs, he⟩ := ih
        refine ⟨.map qs, ?_, by rw [erase]; exact Equiv.map _ _ he⟩
        exact .nested _ _ _ rest more (rdNested_map F f _ (2 * (Pairs.cons k v r).len)
          (tblPairs (.cons k v r) ++ more) _ _ _ (by simp [Pairs.len]) hqs)
theorem rd_vals (F : FloatOps α) : (xs : Vals α) → SavableVals F xs →
    ∀ (fuel : Nat) (c1 c2 : Byte) (rest : List Byte) (more : List Nat) (acc : Vals α) (g : RErr),
      (saveElems F xs).length + 1 ≤ fuel →
      ∃ ys, rdElems F fuel (saveElems F xs ++ c1 :: c2 :: rest) xs.length (tblVals xs ++ more) acc g =
          .ok ⟨acc.app ys, some rest, more⟩ ∧ EquivVals F (eraseVals xs) ys
  | .nil, _ => by
    intro fuel c1 c2 rest more acc g hf
    match fuel, hf with
    | f + 1, hf =>
      refine ⟨.nil, ?_, by rw [eraseVals]; exact EquivVals.nil⟩
      simp [saveElems, Vals.length, tblVals, rdElems_done, Vals.app_nil]
  | .cons v r, hs => by
    intro fuel c1 c2 rest more acc g hf
    rw [saveElems_cons_length] at hf
    match fuel, hf with
    | f + 1, hf =>
      obtain ⟨w, hw, ew⟩ := rd_item F v hs.cons_inv.1 f 44 (saveElems F r ++ c1 :: c2 :: rest)
        (tblVals r ++ more) (Or.inl rfl) (by omega)
      obtain ⟨ys, hys, es⟩ := rd_vals F r hs.cons_inv.2 f c1 c2 rest more (acc.snoc w) g (by omega)
      refine ⟨.cons w ys, ?_, by rw [eraseVals]; exact EquivVals.cons _ _ _ _ ew es⟩
      rw [saveElems_cons_append, Vals.length, tblVals, List.append_assoc,
        rdElems_step F f _ _ w _ _ hw r.length acc g, hys, Vals.snoc_app]
theorem rd_pairs (F : FloatOps α) : (ps : Pairs α) → SavablePairs F ps → KeysDistinct F ps.keys →
    ∀ (fuel : Nat) (c : Byte) (rest : List Byte) (more : List Nat) (acc : Pairs α),
      (savePairs F ps).length + 1 ≤ fuel →
      (∀ a ∈ acc.keys, ∀ k ∈ ps.keys, ∀ k', Equiv F (erase k) k' → sameKey F a k' = false) →
      ∃ qs, rdMap F fuel (savePairs F ps ++ 93 :: c :: rest) (tblPairs ps ++ more) acc =
          .ok ⟨acc.app qs, some rest, more⟩ ∧ EquivPairs F (erasePairs ps) qs
  | .nil, _, _ => by
    intro fuel c rest more acc hf _
    match fuel, hf with
    | f + 1, hf =>
      refine ⟨.nil, ?_, by rw [erasePairs]; exact EquivPairs.nil⟩
      simp [savePairs, tblPairs, rdMap_done, Pairs.app_nil]
  | .cons k v r, hs, hkd => by
    intro fuel c rest more acc hf hinv
    rw [savePairs_cons_length] at hf
    have hkd' : (∀ y ∈ r.keys, ∀ x' y', Equiv F (erase k) x' → Equiv F (erase y) y' → sameKey F x' y' = false) ∧
        KeysDistinct F r.keys := by
      have : (Pairs.cons k v r).keys = k :: r.keys := by simp [Pairs.keys]
      rw [this] at hkd
      exact List.pairwise_cons.1 hkd
    match fuel, hf with
    | f + 1, hf =>
      obtain ⟨k', hk', ek⟩ := rd_item F k hs.key f 58
        (save F v ++ 44 :: (savePairs F r ++ 93 :: c :: rest)) (tbl v ++ (tblPairs r ++ more))
        (Or.inr rfl) (by omega)
      obtain ⟨w', hw', ew⟩ := rd_item F v hs.val f 44 (savePairs F r ++ 93 :: c :: rest)
        (tblPairs r ++ more) (Or.inl rfl) (by omega)
      -- the duplicate test of restore_mapping finds no earlier key equal to this one
      have hfresh : ∀ a ∈ acc.keys, sameKey F a k' = false :=
        fun a ha => hinv a ha k (by simp [Pairs.keys]) k' ek
      have hinv' : ∀ a ∈ (acc.snoc k' w').keys, ∀ y ∈ r.keys, ∀ y', Equiv F (erase y) y' → sameKey F a y' = false := by
        intro a ha y hy y' ey
        rw [Pairs.keys_snoc] at ha
        rcases List.mem_append.1 ha with ha | ha
        · exact hinv a ha y (by simp [Pairs.keys, hy]) y' ey
        · simp only [List.mem_singleton] at ha
          subst ha
          exact hkd'.1 y hy a y' ek ey
      obtain ⟨qs, hqs, es⟩ := rd_pairs F r hs.rest hkd'.2 f c rest more (acc.snoc k' w') (by omega) hinv'
      refine ⟨.cons k' w' qs, ?_, by rw [erasePairs]; exact EquivPairs.cons _ _ _ _ _ _ ek ew es⟩
      rw [savePairs_cons_append, tblPairs, List.append_assoc, List.append_assoc,
        rdMap_step F f _ _ k' _ _ hk' w' _ _ hw' acc, insertKV_snoc F acc k' w' hfresh, hqs,
        Pairs.snoc_app]
end

/-! ## the top level: restore_svalue on a saved text -/

theorem restoreSvalue_numText (F : FloatOps α) (mb : MbLen) (t : List Byte) (w : Value α)
    (hn : NumText F t w) : ∃ y, restoreSvalue F mb t = .ok y ∧ Equiv F w y := by
  obtain ⟨c, s, hcs, hstart⟩ := hn.start
  obtain ⟨y, hy, he⟩ := hn.parse c s hcs [] (Or.inl rfl)
  rw [List.append_nil] at hy
  have hc := (numStart_iff c).1 hstart
  have h1 : c ≠ 34 := by omega
  have h2 : c ≠ 40 := by omega
  refine ⟨y, ?_, he⟩
  rw [hcs]
  simp [restoreSvalue, h1, h2, hstart, hy]

theorem restoreSvalue_save (F : FloatOps α) (mb : MbLen) (v : Value α) (hs : Savable F v)
    (hz : (saveSize F 0 v).isSome = true) :
    ∃ v', restoreSvalue F mb (save F v) = .ok v' ∧ Equiv F (erase v) v' := by
  cases v with
  | int n =>
    have hn := numText_int F n hs.int_inv.1 hs.int_inv.2
    simpa [save, erase] using restoreSvalue_numText F mb _ _ hn
  | real x =>
    have hn := numText_real F x hs.real_inv
    simpa [save, erase] using restoreSvalue_numText F mb _ _ hn
  | str s =>
    refine ⟨.str s, ?_, by rw [erase]; exact Equiv.str s⟩
    have h := decodeStr_esc s []
    simp [save, restoreSvalue, restoreString, h]
  | obj =>
    exact ⟨.int 0, by simp [save, restoreSvalue], by rw [erase]; exact Equiv.int 0⟩
  | arr xs =>
    have hp := preD_vals F mb xs hs.arr_inv.1 ((saveElems F xs).length + 4) 1 true false 125 [] 0 []
      (Or.inl rfl) (by omega) (Or.inl rfl) (saveSize_nested_some (d := 0) hz).2
    obtain ⟨ys, hys, he⟩ := rd_vals F xs hs.arr_inv.1 ((saveElems F xs).length + 4) 125 41 [] [] .nil
      .array (by omega)
    refine ⟨.arr ys, ?_, by rw [erase]; exact Equiv.arr _ _ he⟩
    have hlen := hs.arr_inv.2
    simp only [List.nil_append, Nat.zero_add, List.append_nil] at hp hys
    simp [save, restoreSvalue, restoreContainer, hp, hys, Nat.not_lt.2 hlen, Vals.app]
  | cls xs =>
    have hp := preD_vals F mb xs hs.cls_inv ((saveElems F xs).length + 4) 1 true false 47 [] 0 []
      (Or.inr rfl) (by omega) (Or.inl rfl) (saveSize_nested_some (d := 0) hz).2
    obtain ⟨ys, hys, he⟩ := rd_vals F xs hs.cls_inv ((saveElems F xs).length + 4) 47 41 [] [] .nil
      .cls (by omega)
    refine ⟨.cls ys, ?_, by rw [erase]; exact Equiv.cls _ _ he⟩
    have hlen := hs.cls_len
    simp only [List.nil_append, Nat.zero_add, List.append_nil] at hp hys
    simp [save, restoreSvalue, restoreContainer, hp, hys, Nat.not_lt.2 hlen, Vals.app]
  | map ps =>
    have hp := preD_pairs F mb ps hs.map_inv.1 ((savePairs F ps).length + 4) 1 true [] 0 [] (by omega) (Or.inl rfl)
      (saveSize_nested_some (d := 0) hz).2
    have ih := rd_pairs F ps hs.map_inv.1 hs.map_inv.2 ((savePairs F ps).length + 4) 41 [] [] .nil
      (by omega) (by intro a ha; simp [Pairs.keys] at ha)
    simp only [List.nil_append, Nat.zero_add, List.append_nil] at hp ih
    cases ps with
    | nil =>
      refine ⟨.map .nil, ?_, by rw [erase, erasePairs]; exact Equiv.map _ _ EquivPairs.nil⟩
      simp only [savePairs, List.nil_append, List.length_nil, Pairs.len, tblPairs] at hp
      simp [save, savePairs, restoreSvalue, restoreContainer, hp]
    | cons k v r =>
      obtain ⟨qs, hqs, he⟩ := ih
      refine ⟨.map qs, ?_, by rw [erase]; exact Equiv.map _ _ he⟩
      simp [save, restoreSvalue, restoreContainer, hp, hqs, Pairs.len, Pairs.app]

theorem roundtrip_of_Savable (F : FloatOps α) (mb : MbLen) (v : Value α) (hs : Savable F v)
    (hz : (saveSize F 0 v).isSome = true) :
    ∃ v', restoreVariable F mb (save F v) = RvOut.value v' ∧ Equiv F (erase v) v' := by
  obtain ⟨v', h, he⟩ := restoreSvalue_save F mb v hs hz
  refine ⟨v', ?_, he⟩
  unfold restoreVariable
  rw [cstr_eq_self _ (save_nz F v hs), h]

/-- **Round trip.**  For every value of the domain `savable` (64-bit integers, strings without NUL, arrays of at
    most MaxArraySize elements, mappings without float keys and with distinct integer / string / object keys) whose
    floats satisfy the float contract and that `save_variable` accepted (`hd`: svalue_save_size did not raise "nested
    too deep" — restore refuses deeper text since the nesting fix, so the limit is part of the statement),
    restoring the text that `save` wrote yields a value of the same shape: equal integers and strings, floats with the
    same saved text, object references as 0. -/
theorem roundtrip {α : Type} (F : FloatOps α) (mb : MbLen) (v : Value α) (hs : savable v = true)
    (hf : FloatsOK F v) (hd : saveVariable F v ≠ SaveOut.tooDeep) :
    ∃ v', restoreVariable F mb (save F v) = RvOut.value v' ∧ Equiv F (erase v) v' := by
  exact roundtrip_of_Savable F mb v (savable_bridge F v hs hf) ((saveVariable_ne_tooDeep F v).1 hd)

/-! ## non-vacuity -/

/-- a deeply nested value: string key with quote, CR, LF, backslash and a non-ASCII byte; class, arrays and
    mappings inside each other; both 64-bit extremes; an object reference; a float; empty string and mapping -/
def deepExample : Value Unit :=
  .arr (.cons (.map (.cons (.str [34, 13, 10, 92, 255])
      (.cls (.cons (.arr (.cons (.map (.cons (.int (-9223372036854775808))
        (.arr (.cons .obj (.cons (.str []) .nil))) .nil)) .nil)) (.cons (.real ()) .nil)))
      (.cons (.int 7) (.map .nil) .nil)))
    (.cons (.int 9223372036854775807) .nil))

theorem deepExample_savable : savable deepExample = true := by decide


/-- concrete float operations over `Unit`: every float prints as "1.5" -/
def rtF : FloatOps Unit :=
  ⟨fun _ => [49, 46, 53], fun _ => (), fun _ _ => (), fun _ _ => (), fun _ _ => (), fun _ => (), fun _ => (),
   fun _ _ => true, fun _ => false, fun _ => false, fun _ => false⟩

/-- the float contract `FloatOK` is satisfiable: the text "1.5" of `rtF` -/
theorem rtF_floatOK : FloatOK rtF () := by
  have hsave : saveReal rtF () = [49, 46, 53] := rfl
  refine ⟨⟨49, [46, 53], hsave, rfl⟩, by rw [hsave]; decide, ?_⟩
  intro c s he tail ht
  rw [hsave] at he
  cases he
  exact ⟨(), parseNumeric_point rtF 49 53 tail rfl rfl ht, rfl⟩

theorem deepExample_floatsOK : FloatsOK rtF deepExample := by
  simp only [deepExample, FloatsOK, FloatsOKVals, FloatsOKPairs, and_true, true_and]
  exact rtF_floatOK

/-- `save_variable` accepts it (nesting 6 of at most MAX_SAVE_SVALUE_DEPTH) -/
theorem deepExample_withinDepth : saveVariable rtF deepExample ≠ SaveOut.tooDeep := by
  rw [saveVariable_ne_tooDeep]
  simp [deepExample, saveSize, sizeElems, sizePairs, maxDepth, NV.Gen.C16.maxSaveSvalueDepth]

example (mb : MbLen) : ∃ v', restoreVariable rtF mb (save rtF deepExample) = RvOut.value v' ∧
    Equiv rtF (erase deepExample) v' :=
  roundtrip rtF mb deepExample deepExample_savable deepExample_floatsOK deepExample_withinDepth

/-! ## float keys

`roundtrip` (domain `savable`) excludes float keys; the round trip on the inductive domain (`roundtrip_of_Savable`)
only needs `KeysDistinct`: the keys of a mapping stay different keys.  With `keysDistinct_of_tagsF` that holds for float keys whose saved texts are
pairwise different (finding K5 is the case where they are NOT: the entries collapse), given the `==` contract
`EqPrintOK` on the floats that print like those keys. -/

/-- two "floats" with different texts: `true` prints "1.5", `false` prints "2.5"; `==` is equality -/
def rtF2 : FloatOps Bool :=
  ⟨fun b => if b then [49, 46, 53] else [50, 46, 53], fun n => n == 1, fun _ b => b, fun a _ => a, fun a _ => a,
   fun a => a, fun _ => true, fun a b => a == b, fun _ => false, fun _ => false, fun _ => false⟩

theorem rtF2_floatOK (b : Bool) : FloatOK rtF2 b := by
  have hsave : saveReal rtF2 b = [if b then 49 else 50, 46, 53] := by cases b <;> rfl
  refine ⟨⟨if b then 49 else 50, [46, 53], hsave, by cases b <;> rfl⟩, by rw [hsave]; cases b <;> decide, ?_⟩
  intro c s he tail ht
  rw [hsave] at he
  cases he
  -- the digit in front of the point decides which of the two floats comes back
  exact ⟨b, by cases b <;> exact parseNumeric_point rtF2 _ 53 tail rfl rfl ht, rfl⟩

/-- a mapping with two float keys (texts "1.5", "2.5"), an integer key and a string key -/
def floatKeyExample : Value Bool :=
  .map (.cons (.real true) (.int 1) (.cons (.real false) (.str [97]) (.cons (.int 7) (.real true)
    (.cons (.str [107]) (.arr (.cons (.real false) .nil)) .nil))))

theorem floatKeyExample_savable : Savable rtF2 floatKeyExample := by
  refine Savable.map _ ?_ ?_
  · refine SavablePairs.cons _ _ _ (Savable.real _ (rtF2_floatOK _)) (Savable.int _ (by decide) (by decide)) ?_
    refine SavablePairs.cons _ _ _ (Savable.real _ (rtF2_floatOK _)) (Savable.str _ (by intro b hb; simp at hb; omega)) ?_
    refine SavablePairs.cons _ _ _ (Savable.int _ (by decide) (by decide)) (Savable.real _ (rtF2_floatOK _)) ?_
    refine SavablePairs.cons _ _ _ (Savable.str _ (by intro b hb; simp at hb; omega)) ?_ SavablePairs.nil
    exact Savable.arr _ (SavableVals.cons _ _ (Savable.real _ (rtF2_floatOK _)) SavableVals.nil) (by decide)
  · apply keysDistinct_of_tagsF
    · decide
    · intro a b _ _ a' b' ha hb heq
      have : a' = b' := by simpa [rtF2] using heq
      subst this
      rw [← ha, ← hb]

theorem floatKeyExample_withinDepth : saveVariable rtF2 floatKeyExample ≠ SaveOut.tooDeep := by
  rw [saveVariable_ne_tooDeep]
  simp [floatKeyExample, saveSize, sizeElems, sizePairs, maxDepth, NV.Gen.C16.maxSaveSvalueDepth]

/-- the round trip of a mapping WITH float keys -/
example (mb : MbLen) : ∃ v', restoreVariable rtF2 mb (save rtF2 floatKeyExample) = RvOut.value v' ∧
    Equiv rtF2 (erase floatKeyExample) v' :=
  roundtrip_of_Savable rtF2 mb floatKeyExample floatKeyExample_savable
    ((saveVariable_ne_tooDeep _ _).1 floatKeyExample_withinDepth)

end NV.C16
