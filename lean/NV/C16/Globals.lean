/-
C16 — the file-scope state the save / restore code of lib/lpc/object.c shares between calls, and what an LPC error raised
in the middle of a save or restore leaves in it:

  int save_svalue_depth   container counter: nesting depth while svalue_save_size runs, index into the size table while
                          the restore functions run (`if (save_svalue_depth) size = save_svalue_sizes[save_svalue_depth-1]
                          else size = restore_size (..)`)
  int *save_svalue_sizes  the size table of the pre-pass (NULL until a nested container was met, freed after a restore
                          that opened one)
  int save_max_depth      its capacity

`error()` leaves through longjmp: none of them is reset on that way ("nested too deep" in svalue_save_size: the counter
stays at MAX_SAVE_SVALUE_DEPTH + 1 with whatever table there was; "Illegal array size" / "Mapping too large" inside the
value pass: the counter stays at the number of containers opened so far, the table allocated).  So EVERY entry point has
to start from an arbitrary `G`.  The functions below mirror the code WITHOUT the reset (`…From`) and the entry points
with it; the theorems (ProofGlobals.lean) say the entry points do not see the state they are entered with, the witnesses what the code
without the reset does.  (The statement `save_svalue_depth = 0` at the head of each entry point is a REGENERATED fact:
`NV.Gen.C16.resetSitesAsModelled`.)
-/
import NV.C16.Model

namespace NV.C16

/-- the shared state: `depth` = save_svalue_depth, `table` = save_svalue_sizes (`none` = NULL) -/
structure G where
  depth : Nat
  table : Option (List Nat)
  deriving Repr

variable {α : Type}

/-- restore_array / restore_class / restore_mapping entered with the state `g` (no reset): the element count comes from
    the table when the counter is not 0 — a NULL table is dereferenced (`crash`), an index beyond what the pre-pass wrote
    is read outside it (`crash`), otherwise the value pass runs with that count and the table entries behind it -/
def restoreContainerFrom (F : FloatOps α) (mb : MbLen) (g : G) (k : Byte) (s : List Byte) : Res (Value α) :=
  if g.depth = 0 then restoreContainer F mb k s
  else
    match g.table with
    | none => .crash
    | some tb =>
      match tb[g.depth - 1]? with
      | none => .crash
      | some n =>
        let fuel := s.length + 2
        let zs := tb.drop g.depth
        if k = 123 ∨ k = 47 then
          if k = 123 ∧ n > maxArray then .err .arraySize else
          if k = 47 ∧ n > maxClass then .err .cls else
          match rdElems F fuel s n zs .nil (if k = 123 then .array else .cls) with
          | .ok st => .ok (if k = 123 then .arr st.val else .cls st.val)
          | .err e => .err e
          | .crash => .crash
          | .stuck => .stuck
        else if n = 0 then .ok (.map .nil)
        else
          match rdMap F fuel s zs .nil with
          | .ok st => .ok (.map st.val)
          | .err e => .err e
          | .crash => .crash
          | .stuck => .stuck

/-- the text of one saved value parsed from the state `g`, i.e. restore_svalue / safe_restore_svalue WITHOUT their first
    statement -/
def restoreTextFrom (F : FloatOps α) (mb : MbLen) (g : G) (t : List Byte) : Res (Value α) :=
  match t with
  | 40 :: k :: s' => if k = 123 ∨ k = 91 ∨ k = 47 then restoreContainerFrom F mb g k s' else restoreSvalue F mb t
  | _ => restoreSvalue F mb t

/-- `restore_svalue` / `safe_restore_svalue` as coded: `save_svalue_depth = 0;` first -/
def restoreSvalueG (F : FloatOps α) (mb : MbLen) (g : G) (t : List Byte) : Res (Value α) :=
  restoreTextFrom F mb { g with depth := 0 } t

/-- `svalue_save_size` entered with the counter of `g` (no reset) -/
def saveSizeFrom (F : FloatOps α) (g : G) (v : Value α) : Option Nat := saveSize F g.depth v

/-- `save_variable` / every variable of `save_object_recurse` / the MUD-mode socket write as coded:
    `save_svalue_depth = 0;` first -/
def saveSizeG (F : FloatOps α) (g : G) (v : Value α) : Option Nat := saveSizeFrom F { g with depth := 0 } v

/-! ## the size table and its capacity (`save_svalue_sizes`, `save_max_depth`)

restore_internal_size, in front of `save_svalue_sizes[depth] = size`:

    if (!save_svalue_sizes) { save_max_depth = 128; while (save_max_depth <= depth) save_max_depth <<= 1; CALLOCATE .. }
    else if (depth >= save_max_depth) { while ((save_max_depth <<= 1) <= depth); RESIZE .. }

and restore_svalue / safe_restore_svalue after a restore that opened a nested container:
`save_svalue_depth = save_max_depth = 0; FREE (save_svalue_sizes); save_svalue_sizes = 0;`.
The second loop doubles BEFORE it tests: from a capacity of 0 it never ends.  The invariant that keeps it from that state:
an allocated table has a capacity > 0 (`TabInv`) — kept by both blocks, and by an `error()` in between (nothing is
touched on that way). -/

/-- `alloc` = `save_svalue_sizes != NULL`, `cap` = `save_max_depth` -/
structure Tab where
  alloc : Bool
  cap : Nat
  deriving Repr, DecidableEq

def TabInv (t : Tab) : Prop := t.alloc = true → 0 < t.cap

/-- `while (cap <= depth) cap <<= 1;` (`none`: not finished within the fuel) -/
def initCap (depth : Nat) : Nat → Nat → Option Nat
  | fuel, cap =>
    if cap ≤ depth then
      match fuel with
      | 0 => none
      | f + 1 => initCap depth f (cap * 2)
    else some cap

/-- `while ((cap <<= 1) <= depth);` -/
def growCap (depth : Nat) : Nat → Nat → Option Nat
  | 0, _ => none
  | f + 1, cap => if cap * 2 ≤ depth then growCap depth f (cap * 2) else some (cap * 2)

/-- the allocation / growth in front of the write of entry `depth` -/
def ensure (t : Tab) (depth fuel : Nat) : Option Tab :=
  if t.alloc = false then (initCap depth fuel NV.Gen.C16.sizeTableInitial).map (fun c => ⟨true, c⟩)
  else if depth ≥ t.cap then (growCap depth fuel t.cap).map (fun c => ⟨true, c⟩)
  else some t

/-- the release after a restore -/
def release : Tab := ⟨false, 0⟩

end NV.C16
