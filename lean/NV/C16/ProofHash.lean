/-
C16 — proofs about the hash table of restore_mapping (NV/C16/Hash.lean): for every hash function, every table size and
every sequence of keys, the table stays well-formed through the insertions — including the one during which
`growMap()` doubles the table — and every inserted key is found by the lookup afterwards.
-/
import NV.C16.Hash

namespace NV.C16.Hash

set_option linter.unusedSectionVars false

variable {κ : Type} [DecidableEq κ]

/-! ## the C bit operations on a hash, for a table of 2^e buckets -/

theorem and_two_pow_eq (x e : Nat) : x &&& 2 ^ e = if x.testBit e then 2 ^ e else 0 := by
  apply Nat.eq_of_testBit_eq
  intro i
  rw [Nat.testBit_and, Nat.testBit_two_pow]
  by_cases hb : x.testBit e = true
  · rw [if_pos hb, Nat.testBit_two_pow]
    by_cases h : e = i
    · subst h; simp [hb]
    · simp [h]
  · rw [if_neg hb]
    by_cases h : e = i
    · subst h; simp at hb; simp [hb]
    · simp [h]

theorem bit_iff (x e : Nat) : x &&& 2 ^ e ≠ 0 ↔ x / 2 ^ e % 2 = 1 := by
  rw [and_two_pow_eq, Nat.testBit_eq_decide_div_mod_eq]
  have hp : 2 ^ e > 0 := Nat.two_pow_pos e
  by_cases h : x / 2 ^ e % 2 = 1
  · simp [h]
  · simp [h]

/-- `oi & mask` of the doubled table when bit `oldsize` of the hash is clear: the same bucket -/
theorem idx_grow_lo (x e : Nat) (h : x &&& 2 ^ e = 0) : x &&& (2 ^ (e + 1) - 1) = x &&& (2 ^ e - 1) := by
  have hb : ¬ (x / 2 ^ e % 2 = 1) := fun hc => ((bit_iff x e).2 hc) h
  rw [Nat.and_two_pow_sub_one_eq_mod, Nat.and_two_pow_sub_one_eq_mod, Nat.mod_pow_succ]
  have : x / 2 ^ e % 2 = 0 := by omega
  rw [this]; simp

/-- ... when it is set: `i |= oldsize` -/
theorem idx_grow_hi (x e : Nat) (h : x &&& 2 ^ e ≠ 0) :
    x &&& (2 ^ (e + 1) - 1) = (x &&& (2 ^ e - 1)) ||| 2 ^ e ∧
    (x &&& (2 ^ e - 1)) ||| 2 ^ e = (x &&& (2 ^ e - 1)) + 2 ^ e := by
  have hb := (bit_iff x e).1 h
  have hlt : x &&& (2 ^ e - 1) < 2 ^ e := by
    rw [Nat.and_two_pow_sub_one_eq_mod]; exact Nat.mod_lt _ (Nat.two_pow_pos e)
  have hor : (x &&& (2 ^ e - 1)) ||| 2 ^ e = (x &&& (2 ^ e - 1)) + 2 ^ e := by
    have := Nat.two_pow_add_eq_or_of_lt hlt 1
    rw [Nat.mul_one] at this
    rw [Nat.or_comm, ← this]; omega
  refine ⟨?_, hor⟩
  rw [hor, Nat.and_two_pow_sub_one_eq_mod, Nat.and_two_pow_sub_one_eq_mod, Nat.mod_pow_succ, hb]
  simp

theorem idx_lt (x e : Nat) : x &&& (2 ^ e - 1) < 2 ^ e := by
  rw [Nat.and_two_pow_sub_one_eq_mod]; exact Nat.mod_lt _ (Nat.two_pow_pos e)

/-! ## buckets: placement and membership under `set` -/

/-- every node of `bs` sits in the bucket `hash & m` (`WF` read through `getD`, as `find` and `insert` read the table) -/
def Placed (h : κ → Nat) (m : Nat) (bs : List (List κ)) : Prop := ∀ i, ∀ k ∈ bs.getD i [], h k &&& m = i

theorem placed_iff (h : κ → Nat) (m : Nat) (bs : List (List κ)) :
    Placed h m bs ↔ ∀ i c, bs[i]? = some c → ∀ k ∈ c, h k &&& m = i := by
  refine ⟨fun hp i c hc k hk => hp i k (by rw [List.getD_eq_getElem?_getD, hc]; exact hk), fun hp i k hk => ?_⟩
  rw [List.getD_eq_getElem?_getD] at hk
  cases hq : bs[i]? with
  | none => rw [hq] at hk; nomatch hk
  | some c => rw [hq] at hk; exact hp i c hq k hk

/-- the lookup finds `k`: it is in the chain that `find` and `insert` read -/
def Mem (h : κ → Nat) (m : Nat) (bs : List (List κ)) (k : κ) : Prop := k ∈ bs.getD (h k &&& m) []

theorem find_iff (h : κ → Nat) (t : Tbl κ) (k : κ) : find h t k = true ↔ Mem h t.mask t.buckets k :=
  List.contains_iff_mem

theorem getD_set (bs : List (List κ)) (i j : Nat) (c' : List κ) (hlt : i < bs.length) :
    (bs.set i c').getD j [] = if i = j then c' else bs.getD j [] := by
  rw [List.getD_eq_getElem?_getD, List.getElem?_set, if_pos hlt, List.getD_eq_getElem?_getD]
  split <;> rfl

theorem placed_set (h : κ → Nat) (m : Nat) (bs : List (List κ)) (i : Nat) (c' : List κ)
    (hlt : i < bs.length) (hp : Placed h m bs) (hc : ∀ k ∈ c', h k &&& m = i) : Placed h m (bs.set i c') := by
  intro j k hk
  rw [getD_set _ _ _ _ hlt] at hk
  split at hk
  · next hij => exact hij ▸ hc k hk
  · exact hp j k hk

/-! ## growMap -/

/-- the doubled table -/
def grown (h : κ → Nat) (bs : List (List κ)) : List (List κ) :=
  bs.map (splitLo h bs.length) ++ bs.map (splitHi h bs.length)

theorem grown_length (h : κ → Nat) (bs : List (List κ)) : (grown h bs).length = bs.length + bs.length := by
  simp [grown]

theorem mem_splitLo (h : κ → Nat) (n : Nat) (c : List κ) (k : κ) : k ∈ splitLo h n c ↔ k ∈ c ∧ h k &&& n = 0 := by
  simp [splitLo, List.mem_filter]

theorem mem_splitHi (h : κ → Nat) (n : Nat) (c : List κ) (k : κ) : k ∈ splitHi h n c ↔ k ∈ c ∧ h k &&& n ≠ 0 := by
  simp [splitHi, List.mem_filter]

/-- bucket `j` of the doubled table: the lower half of old bucket `j`, or the upper half of old bucket `j - oldsize` -/
theorem grown_getD (h : κ → Nat) (bs : List (List κ)) (j : Nat) :
    (grown h bs).getD j [] = if j < bs.length then splitLo h bs.length (bs.getD j [])
      else splitHi h bs.length (bs.getD (j - bs.length) []) := by
  rw [grown, List.getD_eq_getElem?_getD, List.getElem?_append, List.length_map, List.getElem?_map, List.getElem?_map]
  split
  · rw [List.getD_eq_getElem?_getD]; cases bs[j]? <;> rfl
  · rw [List.getD_eq_getElem?_getD]; cases bs[j - bs.length]? <;> rfl

theorem grown_placed (h : κ → Nat) (e : Nat) (bs : List (List κ)) (hl : bs.length = 2 ^ e)
    (hp : Placed h (2 ^ e - 1) bs) : Placed h (2 ^ (e + 1) - 1) (grown h bs) := by
  intro j k hk
  rw [grown_getD, hl] at hk
  by_cases hlt : j < 2 ^ e
  · rw [if_pos hlt, mem_splitLo] at hk
    rw [idx_grow_lo _ _ hk.2]
    exact hp j k hk.1
  · rw [if_neg hlt, mem_splitHi] at hk
    have := idx_grow_hi (h k) e hk.2
    rw [this.1, this.2, hp _ k hk.1]
    omega

theorem grown_mem (h : κ → Nat) (e : Nat) (bs : List (List κ)) (hl : bs.length = 2 ^ e) (k : κ)
    (hm : Mem h (2 ^ e - 1) bs k) : Mem h (2 ^ (e + 1) - 1) (grown h bs) k := by
  have hlt := idx_lt (h k) e
  rw [Mem, grown_getD, hl]
  by_cases hb : h k &&& 2 ^ e = 0
  · rw [idx_grow_lo _ _ hb, if_pos hlt]
    exact (mem_splitLo h _ _ k).2 ⟨hm, hb⟩
  · have := idx_grow_hi (h k) e hb
    rw [this.1, this.2, if_neg (by omega), Nat.add_sub_cancel]
    exact (mem_splitHi h _ _ k).2 ⟨hm, hb⟩

theorem grow_eq (h : κ → Nat) (t g : Tbl κ) (hg : grow h t = some g) : g.buckets = grown h t.buckets := by
  unfold grow at hg
  simp only at hg
  split at hg
  · simp at hg
  · injection hg with hg; rw [← hg]; rfl

/-! ## one pair of restore_mapping -/

theorem wf_mask (t : Tbl κ) (e : Nat) (hl : t.buckets.length = 2 ^ e) : t.mask = 2 ^ e - 1 := by
  unfold Tbl.mask; rw [hl]

/-- Linking `k` in front of the chain of the bucket its hash selects (empty or not), in a table `bs` that holds the keys
    of `t0`: the table stays well-formed, `k` is found, no key of `t0` is lost. -/
theorem link_spec (h : κ → Nat) (e : Nat) (bs : List (List κ)) (u : Nat) (k : κ) (t0 : Tbl κ)
    (hl : bs.length = 2 ^ e) (hp : Placed h (2 ^ e - 1) bs)
    (hkeep : ∀ k', find h t0 k' = true → Mem h (2 ^ e - 1) bs k') :
    let t1 : Tbl κ := ⟨bs.set (h k &&& (2 ^ e - 1)) (k :: bs.getD (h k &&& (2 ^ e - 1)) []), u⟩
    WF h t1 ∧ find h t1 k = true ∧ ∀ k', find h t0 k' = true → find h t1 k' = true := by
  have hlt : h k &&& (2 ^ e - 1) < bs.length := by rw [hl]; exact idx_lt _ _
  have hl' : (bs.set (h k &&& (2 ^ e - 1)) (k :: bs.getD (h k &&& (2 ^ e - 1)) [])).length = 2 ^ e := by
    rw [List.length_set, hl]
  have hm := wf_mask ⟨bs.set (h k &&& (2 ^ e - 1)) (k :: bs.getD (h k &&& (2 ^ e - 1)) []), u⟩ e hl'
  simp only [find_iff h ⟨_, u⟩, hm, Mem, getD_set _ _ _ _ hlt]
  refine ⟨⟨⟨e, hl'⟩, ?_⟩, ?_, fun k' hk0 => ?_⟩
  · rw [hm]
    refine (placed_iff ..).1 (placed_set h _ _ _ _ hlt hp fun x hx => ?_)
    rcases List.mem_cons.1 hx with rfl | hx
    · rfl
    · exact hp _ x hx
  · rw [if_pos trivial]; exact List.mem_cons_self ..
  · have hk' : k' ∈ bs.getD (h k' &&& (2 ^ e - 1)) [] := hkeep k' hk0
    split
    · next heq => rw [← heq] at hk'; exact List.mem_cons_of_mem _ hk'
    · exact hk'

/-- **One insertion keeps the table well-formed, finds the inserted key and loses no other key** — in all
    branches: duplicate key, non-empty bucket, empty bucket, empty bucket + growMap with either value of the hash's new
    top bit. -/
theorem insert_spec (h : κ → Nat) (t t' : Tbl κ) (k : κ) (hw : WF h t) (hi : insert h t k = some t') :
    WF h t' ∧ find h t' k = true ∧ ∀ k', find h t k' = true → find h t' k' = true := by
  obtain ⟨⟨e, hl⟩, hp⟩ := hw
  have hm := wf_mask t e hl
  have hp' : Placed h (2 ^ e - 1) t.buckets := by rw [← hm]; exact (placed_iff ..).2 hp
  have hilt : h k &&& (2 ^ e - 1) < t.buckets.length := by rw [hl]; exact idx_lt _ _
  have hfm : ∀ k', find h t k' = true → Mem h (2 ^ e - 1) t.buckets k' :=
    fun k' hk' => by rw [find_iff, hm] at hk'; exact hk'
  unfold insert at hi
  simp only [hm] at hi
  by_cases hch : t.buckets.getD (h k &&& (2 ^ e - 1)) [] ≠ []
  · rw [if_pos hch] at hi
    by_cases hdup : (t.buckets.getD (h k &&& (2 ^ e - 1)) []).contains k = true
    · -- duplicate key: the table is left as it is
      rw [if_pos hdup] at hi
      cases hi
      exact ⟨⟨⟨e, hl⟩, hp⟩, (find_iff h t k).2 (by rw [hm]; exact List.contains_iff_mem.1 hdup), fun _ hk => hk⟩
    · rw [if_neg hdup] at hi
      cases hi
      exact link_spec h e t.buckets t.unfilled k t hl hp' hfm
  · rw [if_neg hch] at hi
    have hnil : t.buckets.getD (h k &&& (2 ^ e - 1)) [] = [] := by simpa using hch
    by_cases hz : dec16 t.unfilled = 0
    · -- the table grows: the pair goes into the lower or the upper half of its old bucket
      rw [if_pos hz] at hi
      generalize dec16 t.unfilled = u at hi
      cases hg : grow h ⟨t.buckets, u⟩ with
      | none => rw [hg] at hi; nomatch hi
      | some g =>
        rw [hg] at hi
        have hgb : g.buckets = grown h t.buckets := grow_eq h ⟨t.buckets, u⟩ g hg
        have hgl : g.buckets.length = 2 ^ (e + 1) := by rw [hgb, grown_length, hl, Nat.pow_succ]; omega
        have hgp : Placed h (2 ^ (e + 1) - 1) g.buckets := by rw [hgb]; exact grown_placed h e _ hl hp'
        have hgm : ∀ k', find h t k' = true → Mem h (2 ^ (e + 1) - 1) g.buckets k' :=
          fun k' hk' => by rw [hgb]; exact grown_mem h e _ hl k' (hfm k' hk')
        have hsz : 2 ^ e - 1 + 1 = 2 ^ e := by have := Nat.two_pow_pos e; omega
        simp only [hsz] at hi
        by_cases hb : h k &&& 2 ^ e ≠ 0
        · rw [if_pos hb] at hi
          cases hi
          rw [← (idx_grow_hi (h k) e hb).1]
          exact link_spec h (e + 1) g.buckets g.unfilled k t hgl hgp hgm
        · rw [if_neg hb] at hi
          cases hi
          have hidx := idx_grow_lo (h k) e (by simpa using hb)
          -- the lower half of the (empty) old bucket is empty, so `[k]` is `k` in front of it
          have hg0 : g.buckets.getD (h k &&& (2 ^ (e + 1) - 1)) [] = [] := by
            rw [hgb, hidx, grown_getD, if_pos hilt, hnil]; rfl
          have := link_spec h (e + 1) g.buckets g.unfilled k t hgl hgp hgm
          rw [hg0, hidx] at this
          exact this
    · -- empty bucket, no growth
      rw [if_neg hz] at hi
      cases hi
      have := link_spec h e t.buckets (dec16 t.unfilled) k t hl hp' hfm
      rw [hnil] at this
      exact this

/-- a power of two of empty buckets is well-formed, whatever `unfilled` says -/
theorem replicate_wf (h : κ → Nat) (e u : Nat) : WF h (⟨List.replicate (2 ^ e) [], u⟩ : Tbl κ) := by
  refine ⟨⟨e, List.length_replicate⟩, fun i c hc k hk => ?_⟩
  rw [List.getElem?_replicate] at hc
  split at hc
  · cases hc; nomatch hk
  · nomatch hc

/-- a freshly allocated table is well-formed -/
theorem empty_wf (h : κ → Nat) (e : Nat) : WF h (empty e : Tbl κ) := replicate_wf h e _

theorem pow2Above_pow (n : Nat) : ∀ (fuel p : Nat), (∃ a, p = 2 ^ a) → ∃ b, pow2Above n fuel p = 2 ^ b := by
  intro fuel
  induction fuel with
  | zero => intro p hp; simpa [pow2Above] using hp
  | succ f ih =>
    intro p hp
    rw [pow2Above]
    split
    · exact hp
    · obtain ⟨a, rfl⟩ := hp
      exact ih _ ⟨a + 1, by rw [Nat.pow_succ]⟩

/-- the table allocate_mapping hands to restore_mapping is well-formed, whatever the number of pairs -/
theorem allocate_wf (h : κ → Nat) (n : Nat) : WF h (allocate n : Tbl κ) := by
  have hsz : ∃ e, (if n > NV.Gen.C16.mapHashTableSize then pow2Above n 20 1 else NV.Gen.C16.mapHashTableSize) = 2 ^ e := by
    split
    · exact pow2Above_pow n 20 1 ⟨0, rfl⟩
    · exact ⟨Nat.log2 NV.Gen.C16.mapHashTableSize, by decide⟩   -- whatever power of two MAP_HASH_TABLE_SIZE is
  obtain ⟨e, he⟩ := hsz
  rw [allocate, he]
  exact replicate_wf h e _

/-- **Every pair restore_mapping inserts is found through its key afterwards** — for every hash function, every
    initial table size, every key sequence (duplicates included), however often the table grows on the way. -/
theorem insertAll_spec (h : κ → Nat) : ∀ (ks : List κ) (t t' : Tbl κ), WF h t → insertAll h t ks = some t' →
    WF h t' ∧ (∀ k ∈ ks, find h t' k = true) ∧ ∀ k', find h t k' = true → find h t' k' = true := by
  intro ks
  induction ks with
  | nil =>
    intro t t' hw hi
    simp [insertAll] at hi; subst hi
    exact ⟨hw, by simp, fun _ hk => hk⟩
  | cons k ks ih =>
    intro t t' hw hi
    rw [insertAll] at hi
    cases h1 : insert h t k with
    | none => rw [h1] at hi; simp at hi
    | some t1 =>
      rw [h1] at hi
      simp only at hi
      obtain ⟨hw1, hk1, hkeep1⟩ := insert_spec h t t1 k hw h1
      obtain ⟨hw', hall, hkeep⟩ := ih t1 t' hw1 hi
      refine ⟨hw', ?_, fun k' hk' => hkeep k' (hkeep1 k' hk')⟩
      intro x hx
      rcases List.mem_cons.1 hx with rfl | hx
      · exact hkeep x hk1
      · exact hall x hx

theorem restore_mapping_all_found (h : κ → Nat) (e : Nat) (ks : List κ) (t : Tbl κ)
    (hi : insertAll h (empty e) ks = some t) : ∀ k ∈ ks, find h t k = true :=
  (insertAll_spec h ks _ t (empty_wf h e) hi).2.1

/-- the same from the table `allocate_mapping(n)` makes, for every `n` -/
theorem restore_mapping_all_found_alloc (h : κ → Nat) (n : Nat) (ks : List κ) (t : Tbl κ)
    (hi : insertAll h (allocate n) ks = some t) : WF h t ∧ ∀ k ∈ ks, find h t k = true :=
  let r := insertAll_spec h ks _ t (allocate_wf h n) hi
  ⟨r.1, r.2.1⟩

/-! ## non-vacuity: the table does grow in the middle of an insertion sequence, with both values of the new bit -/

/-- hash of a (non-negative) integer key: `MAP_POINTER_HASH(x) = x >> 4` — the shift is REGENERATED -/
def intHash (x : Nat) : Nat := x / 2 ^ NV.Gen.C16.hashShift

-- ([16:1,32:2,48:3,64:4,80:5,224:6,]) into the 8 buckets allocate_mapping(6) gives: the sixth key grows the table
-- (16 buckets afterwards) and has the new bit set (224 >> 4 = 14 = 8 + 6)
example : (insertAll intHash (empty 3) [16, 32, 48, 64, 80, 224]).map (fun t => find intHash t 224) = some true := by decide
-- (that the table has grown to 16 buckets by then holds for FILL_PERCENT = 80 and a hash shift of 4: stated under that
-- condition, so that another choice of these constants is not reported as a broken obligation)
example : if fillPercent = 80 ∧ NV.Gen.C16.hashShift = 4 then
    (insertAll intHash (empty 3) [16, 32, 48, 64, 80, 224]).map (fun t => t.buckets.length) = some 16 else True := by decide
-- ... and with the new bit clear (96 >> 4 = 6)
example : (insertAll intHash (empty 3) [16, 32, 48, 64, 80, 96]).map (fun t => find intHash t 96) = some true := by decide

end NV.C16.Hash
