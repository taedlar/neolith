/-
C16 — the functions of the model (NV.C16.Model) one step at a time: what `save` / `saveSize` are on each kind of value,
which bytes are escaped, how the three string scans relate, one element of the value pass, one step of the size pre-pass, the variable lines of a
save file (`saveLines_eq`), what one line does to `restoreLines`.  The proof files reason from these equations instead of
unfolding the model again.
-/
import NV.C16.Model

namespace NV.C16

variable {α : Type}

/-! ## save side -/

theorem save_arr_append (F : FloatOps α) (xs : Vals α) (t : List Byte) :
    save F (.arr xs) ++ t = 40 :: 123 :: (saveElems F xs ++ 125 :: 41 :: t) := by simp [save]

theorem save_cls_append (F : FloatOps α) (xs : Vals α) (t : List Byte) :
    save F (.cls xs) ++ t = 40 :: 47 :: (saveElems F xs ++ 47 :: 41 :: t) := by simp [save]

theorem save_map_append (F : FloatOps α) (ps : Pairs α) (t : List Byte) :
    save F (.map ps) ++ t = 40 :: 91 :: (savePairs F ps ++ 93 :: 41 :: t) := by simp [save]

theorem save_str_append (F : FloatOps α) (s : List Byte) (t : List Byte) :
    save F (.str s) ++ t = 34 :: (escStr s ++ 34 :: t) := by simp [save]

theorem saveElems_cons_append (F : FloatOps α) (v : Value α) (r : Vals α) (t : List Byte) :
    saveElems F (.cons v r) ++ t = save F v ++ 44 :: (saveElems F r ++ t) := by simp [saveElems]

theorem savePairs_cons_append (F : FloatOps α) (k v : Value α) (r : Pairs α) (t : List Byte) :
    savePairs F (.cons k v r) ++ t = save F k ++ 58 :: (save F v ++ 44 :: (savePairs F r ++ t)) := by
  simp [savePairs]

theorem save_str_length (F : FloatOps α) (s : List Byte) : (save F (.str s)).length = (escStr s).length + 2 := by
  simp [save]

theorem save_arr_length (F : FloatOps α) (xs : Vals α) :
    (save F (.arr xs)).length = (saveElems F xs).length + 4 := by simp [save]

theorem save_cls_length (F : FloatOps α) (xs : Vals α) :
    (save F (.cls xs)).length = (saveElems F xs).length + 4 := by simp [save]

theorem save_map_length (F : FloatOps α) (ps : Pairs α) :
    (save F (.map ps)).length = (savePairs F ps).length + 4 := by simp [save]

theorem saveElems_cons_length (F : FloatOps α) (v : Value α) (r : Vals α) :
    (saveElems F (.cons v r)).length = (save F v).length + (saveElems F r).length + 1 := by
  simp [saveElems]; omega

theorem savePairs_cons_length (F : FloatOps α) (k v : Value α) (r : Pairs α) :
    (savePairs F (.cons k v r)).length = (save F k).length + (save F v).length + (savePairs F r).length + 2 := by
  simp [savePairs]; omega

/-- `svalue_save_size` of a container (all three kinds have this shape) succeeded: the nesting is within the limit and
    the size is that of the elements plus the kind's constant -/
theorem saveSize_nested {o : Option Nat} {d k n : Nat}
    (h : (if d + 1 > maxDepth then none else o.map (· + k)) = some n) :
    d + 1 ≤ maxDepth ∧ ∃ m, o = some m ∧ n = m + k := by
  by_cases hd : d + 1 > maxDepth
  · rw [if_pos hd] at h; cases h
  · rw [if_neg hd] at h
    cases o with
    | none => cases h
    | some m => exact ⟨Nat.le_of_not_gt hd, m, rfl, (Option.some.inj h).symm⟩

theorem sizeElems_cons_eq {F : FloatOps α} {d : Nat} {v : Value α} {r : Vals α} {n : Nat}
    (h : sizeElems F d (.cons v r) = some n) :
    ∃ a b, saveSize F d v = some a ∧ sizeElems F d r = some b ∧ n = a + b := by
  rw [sizeElems] at h
  cases ha : saveSize F d v <;> cases hb : sizeElems F d r <;> rw [ha, hb] at h <;> cases h
  exact ⟨_, _, rfl, rfl, rfl⟩

theorem sizePairs_cons_eq {F : FloatOps α} {d : Nat} {k v : Value α} {r : Pairs α} {n : Nat}
    (h : sizePairs F d (.cons k v r) = some n) :
    ∃ a b c, saveSize F d k = some a ∧ saveSize F d v = some b ∧ sizePairs F d r = some c ∧ n = a + b + c := by
  rw [sizePairs] at h
  cases ha : saveSize F d k <;> cases hb : saveSize F d v <;> cases hc : sizePairs F d r <;>
    rw [ha, hb, hc] at h <;> cases h
  exact ⟨_, _, _, rfl, rfl, rfl, rfl⟩

theorem saveSize_nested_some {o : Option Nat} {d k : Nat}
    (h : (if d + 1 > maxDepth then none else o.map (· + k)).isSome = true) :
    d + 1 ≤ maxDepth ∧ o.isSome = true := by
  obtain ⟨n, hn⟩ := Option.isSome_iff_exists.1 h
  obtain ⟨hd, m, hm, _⟩ := saveSize_nested hn
  exact ⟨hd, hm ▸ rfl⟩

/-- save_variable raises "nested too deep" exactly when svalue_save_size does -/
theorem saveVariable_ne_tooDeep (F : FloatOps α) (v : Value α) :
    saveVariable F v ≠ SaveOut.tooDeep ↔ (saveSize F 0 v).isSome = true := by
  rw [saveVariable]
  cases saveSize F 0 v with
  | none => exact ⟨fun h => absurd rfl h, fun h => nomatch h⟩
  | some n =>
    refine ⟨fun _ => rfl, fun _ => ?_⟩
    show (if (save F v).length + 1 ≤ n then SaveOut.ok (save F v) else SaveOut.crash) ≠ SaveOut.tooDeep
    by_cases h : (save F v).length + 1 ≤ n
    · rw [if_pos h]; nofun
    · rw [if_neg h]; nofun

/-! ## numbers -/

theorem isDigit_iff (c : Byte) : isDigit c = true ↔ 48 ≤ c ∧ c ≤ 57 := by simp [isDigit]

theorem numStart_iff (c : Byte) : numStart c = true ↔ c = 45 ∨ (48 ≤ c ∧ c ≤ 57) := by
  simp [numStart, isDigit]

/-- the `case` labels of a number in the restore switches (`-`, `0` .. `9`), wherever they stand in the list -/
theorem mem_numStart (c : Byte) (a b : List Byte) :
    c ∈ a ++ [45, 48, 49, 50, 51, 52, 53, 54, 55, 56, 57] ++ b ↔ c ∈ a ∨ numStart c = true ∨ c ∈ b := by
  have h : c ∈ [45, 48, 49, 50, 51, 52, 53, 54, 55, 56, 57] ↔ numStart c = true := by
    rw [numStart_iff]; simp only [List.mem_cons, List.mem_nil_iff, or_false]; omega
  rw [List.mem_append, List.mem_append, h, or_assoc]

/-- `List.span`, with which parse_numeric's digit loops are modelled, is `takeWhile` and `dropWhile` -/
theorem span_eq {β : Type} (p : β → Bool) (l : List β) : l.span p = (l.takeWhile p, l.dropWhile p) := by
  have h : ∀ acc, List.span.loop p l acc = (acc.reverse ++ l.takeWhile p, l.dropWhile p) := by
    induction l with
    | nil => intro acc; simp [List.span.loop]
    | cons x r ih => intro acc; cases hx : p x <;> simp [List.span.loop, hx, ih]
  exact h []

/-! ## strings -/

/-- the bytes `save_svalue` writes with a backslash (regenerated list) -/
theorem saveEscaped_iff (c : Byte) : saveEscaped.contains c = true ↔ c = 34 ∨ c = 92 ∨ c = 13 := by
  simp [saveEscaped, NV.Gen.C16.saveEscaped]

theorem skipStr_cons (c : Byte) (r : List Byte) : skipStr (c :: r) =
    if c = 34 then some r
    else if c = 92 then
      match r with
      | [] => none
      | _ :: r' => skipStr r'
    else skipStr r := by
  rw [skipStr.eq_def]; rfl

/-- the restore side undoes the byte swap of the save side (both pairs are regenerated from the source) -/
theorem restore_swap_inverts_save : restoreSwapFrom = swapTo ∧ restoreSwapTo = swapFrom := by
  unfold restoreSwapFrom restoreSwapTo swapTo swapFrom
  decide

theorem swap_vals : swapFrom = 10 ∧ swapTo = 13 := ⟨rfl, rfl⟩

theorem decodeStr_cons (c : Byte) (r : List Byte) : decodeStr (c :: r) =
    if c = 34 then some ([], r)
    else if c = 92 then
      match r with
      | [] => none
      | x :: r' => (decodeStr r').map (fun p => (x :: p.1, p.2))
    else (decodeStr r).map (fun p => ((if c = 13 then 10 else c) :: p.1, p.2)) := by
  rw [decodeStr.eq_def, restore_swap_inverts_save.1, restore_swap_inverts_save.2, swap_vals.1, swap_vals.2]; rfl

/-- restore_internal_size scans a string body as far as restore_string decodes it -/
theorem skipStr_eq_decodeStr (r : List Byte) : skipStr r = (decodeStr r).map (·.2) := by
  induction r using skipStr.induct with
  | case1 => rfl
  | case2 r => rw [skipStr_cons, decodeStr_cons, if_pos rfl, if_pos rfl]; rfl
  | case3 hc => rw [skipStr_cons, decodeStr_cons, if_neg hc, if_neg hc, if_pos rfl, if_pos rfl]; rfl
  | case4 x r2 hc ih =>
    rw [skipStr_cons, decodeStr_cons, if_neg hc, if_neg hc, if_pos rfl, if_pos rfl]
    show skipStr r2 = ((decodeStr r2).map (fun p => (x :: p.1, p.2))).map (·.2)
    rw [ih]
    cases decodeStr r2 <;> rfl
  | case5 c r hc hc2 ih =>
    rw [skipStr_cons, decodeStr_cons, if_neg hc, if_neg hc, if_neg hc2, if_neg hc2, ih]
    cases decodeStr r <;> rfl

theorem skipStrMb_cons (mb : MbLen) (fuel : Nat) (c : Byte) (r : List Byte) :
    skipStrMb mb (fuel + 1) (c :: r) =
      if c = 34 then .closed r
      else if c = 92 then
        match (c :: r).drop (mbStep mb (c :: r)) with
        | [] => .open_
        | _ :: r'' => skipStrMb mb fuel r''
      else skipStrMb mb fuel ((c :: r).drop (mbStep mb (c :: r))) := by
  rw [skipStrMb.eq_def]; rfl

/-- bytes that are not ASCII are neither quote nor backslash: the plain scan passes them one by one -/
theorem skipStr_drop_high : ∀ (m : Nat) (l : List Byte), (∀ b ∈ l.take m, 128 ≤ b) →
    skipStr (l.drop m) = skipStr l
  | 0, _, _ => by simp
  | m + 1, [], _ => by simp
  | m + 1, x :: r, h => by
    have hx : 128 ≤ x := h x (by simp)
    have ih := skipStr_drop_high m r (fun b hb => h b (by simp [hb]))
    have h34 : x ≠ 34 := by omega
    have h92 : x ≠ 92 := by omega
    rw [List.drop_succ_cons, ih, skipStr_cons]
    simp [h34, h92]

/-- the step of `restore_size` over one character -/
theorem mbStep_spec (mb : MbLen) (c : Byte) (r : List Byte) :
    ∃ m, mbStep mb (c :: r) = m + 1 ∧ m ≤ r.length ∧ ∀ b ∈ r.take m, 128 ≤ b := by
  unfold mbStep
  cases h : mb.len (c :: r) with
  | none => exact ⟨0, rfl, by omega, by simp⟩
  | some n =>
    have h1 := mb.pos _ _ h (by simp)
    have h2 := mb.le_length _ _ h
    have h3 := mb.cont _ _ h
    match n, h1, h2, h3 with
    | m + 1, _, h2, h3 =>
      refine ⟨m, rfl, by simpa using h2, ?_⟩
      simpa using h3

theorem mbStep_ascii (mb : MbLen) (c : Byte) (r : List Byte) (hc : c < 128) : mbStep mb (c :: r) = 1 := by
  unfold mbStep; rw [mb.ascii c r hc]; rfl

/-- the multibyte-aware scan of `restore_size` agrees with the plain scan, for every byte sequence: stepping over a whole
    character skips bytes the plain scan passes one by one -/
theorem skipStrMb_eq (mb : MbLen) : ∀ (fuel : Nat) (t : List Byte), t.length < fuel →
    skipStrMb mb fuel t = match skipStr t with
      | some rest => .closed rest
      | none => .open_ := by
  intro fuel
  induction fuel with
  | zero => intro t h; nomatch h
  | succ f ih =>
    intro t hf
    cases t with
    | nil => rfl
    | cons c r =>
      rw [List.length_cons] at hf
      rw [skipStrMb_cons, skipStr_cons]
      by_cases h34 : c = 34
      · rw [if_pos h34, if_pos h34]
      rw [if_neg h34, if_neg h34]
      by_cases h92 : c = 92
      · rw [if_pos h92, if_pos h92, mbStep_ascii mb c r (by omega)]
        cases r with
        | nil => rfl
        | cons x r'' => exact ih r'' (by rw [List.length_cons] at hf; omega)
      · rw [if_neg h92, if_neg h92]
        obtain ⟨m, hm, hle, hhigh⟩ := mbStep_spec mb c r
        rw [hm, List.drop_succ_cons, ← skipStr_drop_high m r hhigh]
        exact ih (r.drop m) (by rw [List.length_drop]; omega)

/-! ## the value pass -/

/-- One element of the value pass: what restore_array / restore_class read at an element position (`d` = 44) and
    restore_mapping at a key (`d` = 58) or value (`d` = 44) position.  `es` is the error of an unterminated string,
    `g` the generic error of the calling function. -/
def elemStep (F : FloatOps α) (fuel : Nat) (d : Byte) (es g : RErr) (c : Byte) (r : List Byte) (zs : List Nat) :
    Res (Step (Value α)) :=
  if c = 34 then
    match decodeStr r with
    | none => .err es
    | some (str, r') =>
      match advCur (some r') with
      | .ok r'' => .ok ⟨.str str, some r'', zs⟩
      | .err e => .err e
      | .crash => .crash
      | .stuck => .stuck
  else if c = 40 then
    match rdNested F fuel r zs with
    | .ok st =>
      match advCur st.cur with
      | .ok r'' => .ok ⟨st.val, some r'', st.zs⟩
      | .err e => .err e
      | .crash => .crash
      | .stuck => .stuck
    | .err e => .err (match e with | .general => g | e => e)
    | .crash => .crash
    | .stuck => .stuck
  else if c = d then .ok ⟨.int 0, some r, zs⟩
  else if numStart c then
    match parseNumeric F c r with
    | some (v, d' :: r') => if d' = d then .ok ⟨v, some r', zs⟩ else .err .numeral
    | _ => .err .numeral
  else .err g

/-- restore_array / restore_class: one element, then the loop goes on -/
theorem rdElems_succ (F : FloatOps α) (fuel : Nat) (c : Byte) (r : List Byte) (n : Nat) (zs : List Nat)
    (acc : Vals α) (g : RErr) :
    rdElems F (fuel + 1) (c :: r) (n + 1) zs acc g =
      match elemStep F fuel 44 g g c r zs with
      | .ok ⟨v, some r'', z⟩ => rdElems F fuel r'' n z (acc.snoc v) g
      | .ok ⟨_, none, _⟩ => .crash
      | .err e => .err e
      | .crash => .crash
      | .stuck => .stuck := by
  rw [rdElems, elemStep]
  by_cases h34 : c = 34
  · rw [if_pos h34, if_pos h34]
    cases decodeStr r with
    | none => rfl
    | some p => cases p with | mk str r' => cases r' <;> rfl
  rw [if_neg h34, if_neg h34]
  by_cases h44 : c = 44
  · rw [if_pos h44, if_neg (by omega), if_pos h44]
  rw [if_neg h44]
  by_cases h40 : c = 40
  · rw [if_pos h40, if_pos h40]
    cases rdNested F fuel r zs with
    | ok st =>
      cases st with | mk v cur z =>
      cases cur with
      | none => rfl
      | some r' => cases r' <;> rfl
    | err e => cases e <;> rfl
    | crash => rfl
    | stuck => rfl
  rw [if_neg h40, if_neg h40, if_neg h44]
  by_cases hns : numStart c = true
  · rw [if_pos hns, if_pos hns]
    cases parseNumeric F c r with
    | none => rfl
    | some p =>
      cases p with | mk v rem =>
      cases rem with
      | nil => rfl
      | cons d' r' => by_cases hd : d' = 44 <;> simp only [hd, if_true, if_false]
  · rw [if_neg hns, if_neg hns]

/-- the rest of an iteration of restore_mapping once the key has been read -/
def mapVal (F : FloatOps α) (fuel : Nat) (cur : List Byte) (zs : List Nat) (acc : Pairs α) (kv : Value α) :
    Res (Step (Pairs α)) :=
  match cur with
  | [] => .err .mapping
  | c2 :: r2 =>
    match elemStep F fuel 44 .string .mapping c2 r2 zs with
    | .err e => .err e
    | .crash => .crash
    | .stuck => .stuck
    | .ok vs =>
      match vs.cur with
      | none => .crash
      | some r3 => rdMap F fuel r3 vs.zs (insertKV F acc kv vs.val)

/-- one iteration of the `while (1)` loop of restore_mapping: the closing bracket, or a key and `mapVal` -/
def rdMapBody (F : FloatOps α) (fuel : Nat) (s : List Byte) (zs : List Nat) (acc : Pairs α) : Res (Step (Pairs α)) :=
  match s with
  | [] => .err .mapping
  | c :: r =>
    if c = 93 then
      match r with
      | _ :: r' => .ok ⟨acc, some r', zs⟩
      | [] => .ok ⟨acc, none, zs⟩
    else
      match elemStep F fuel 58 .string .mapping c r zs with
      | .err e => .err e
      | .crash => .crash
      | .stuck => .stuck
      | .ok ks =>
        match ks.cur with
        | none => .crash
        | some cur => mapVal F fuel cur ks.zs acc ks.val

theorem rdMap_succ (F : FloatOps α) (fuel : Nat) (s : List Byte) (zs : List Nat) (acc : Pairs α) :
    rdMap F (fuel + 1) s zs acc = rdMapBody F fuel s zs acc := by
  rw [rdMap.eq_def]
  cases s with
  | nil => rfl
  | cons c r =>
    simp only [rdMapBody]
    by_cases h93 : c = 93
    · simp only [h93, if_true]
      cases r <;> rfl
    · simp only [h93, if_false]
      -- key and value halves of the loop body are `elemStep` word for word; only the nesting of the matches differs
      show (match elemStep F fuel 58 .string .mapping c r zs with
            | .err e => .err e
            | .crash => .crash
            | .stuck => .stuck
            | .ok ks =>
              match ks.cur with
              | none => .crash
              | some [] => .err .mapping
              | some (c2 :: r2) =>
                match elemStep F fuel 44 .string .mapping c2 r2 ks.zs with
                | .err e => .err e
                | .crash => .crash
                | .stuck => .stuck
                | .ok vs =>
                  match vs.cur with
                  | none => .crash
                  | some r3 => rdMap F fuel r3 vs.zs (insertKV F acc ks.val vs.val) : Res (Step (Pairs α))) = _
      cases elemStep F fuel 58 .string .mapping c r zs with
      | err e => rfl
      | crash => rfl
      | stuck => rfl
      | ok ks =>
        obtain ⟨kv, cur, z⟩ := ks
        cases cur with
        | none => rfl
        | some cur => cases cur <;> rfl

theorem rdMapBody_key {F : FloatOps α} {fuel : Nat} {c : Byte} {r : List Byte} {zs : List Nat} {kv : Value α}
    {cur : List Byte} {z : List Nat} (h93 : c ≠ 93)
    (he : elemStep F fuel 58 .string .mapping c r zs = .ok ⟨kv, some cur, z⟩) (acc : Pairs α) :
    rdMapBody F fuel (c :: r) zs acc = mapVal F fuel cur z acc kv := by
  simp only [rdMapBody, if_neg h93, he]

theorem mapVal_value {F : FloatOps α} {fuel : Nat} {c : Byte} {r : List Byte} {zs : List Nat} {v : Value α}
    {rest : List Byte} {z : List Nat} (he : elemStep F fuel 44 .string .mapping c r zs = .ok ⟨v, some rest, z⟩)
    (acc : Pairs α) (kv : Value α) :
    mapVal F fuel (c :: r) zs acc kv = rdMap F fuel rest z (insertKV F acc kv v) := by
  simp only [mapVal, he]

/-! ## the size pre-pass -/

def delimOf (isMap idx : Bool) : Byte := if isMap && !idx then 58 else 44
def idxNext (isMap idx : Bool) : Bool := if isMap then !idx else idx

theorem delimOf_cases (isMap idx : Bool) : delimOf isMap idx = 44 ∨ delimOf isMap idx = 58 := by
  cases isMap <;> cases idx <;> simp [delimOf]

/-- `strchr` passes everything that is not the delimiter -/
theorem afterDelim_skip (d : Byte) (s rest : List Byte) (h : ∀ b ∈ s, b ≠ d) :
    afterDelim d (s ++ d :: rest) = some rest := by
  induction s with
  | nil => simp [afterDelim]
  | cons c r ih =>
    have hc : c ≠ d := h c (by simp)
    simp only [List.cons_append, afterDelim, hc, ↓reduceIte]
    exact ih (fun b hb => h b (by simp [hb]))

/-- what one iteration of the size pre-pass finds at the element position `c :: r0` -/
inductive PreStep where
  | fail
  /-- restore_size ran into the NUL inside a string: `return 0` -/
  | unterminated
  /-- the closing bracket: the count is complete, `rest` follows -/
  | close (rest : List Byte)
  /-- an element without nested containers; the loop goes on at `rest` -/
  | elem (rest : List Byte)
  /-- `(` and an opener: the nested pre-pass runs on `body` -/
  | nested (isMap : Bool) (body : List Byte)

/-- the body of the loop of `pre` / `preD` without its recursive calls -/
def preStep (mb : MbLen) (top isMap idx : Bool) (c : Byte) (r0 : List Byte) : PreStep :=
  let delim : Byte := delimOf isMap idx
  let r := if top then (c :: r0).drop (mbStep mb (c :: r0)) else r0
  if c = 34 then
    if top then
      match skipStrMb mb (r.length + 1) r with
      | .open_ => .unterminated
      | .closed (d :: r') => if d = delim then .elem r' else .fail
      | .closed [] => .fail
    else
      match skipStr r with
      | some (d :: r') => if d = delim then .elem r' else .fail
      | _ => .fail
  else if c = 40 then
    match r with
    | k :: r1 => if k = 123 ∨ k = 91 ∨ k = 47 then .nested (k = 91) r1 else .fail
    | [] => .fail
  else if c = 93 then
    match r with
    | k :: r' => if k = 41 ∧ isMap = true then .close r' else .fail
    | [] => .fail
  else if c = 47 ∨ c = 125 then
    match r with
    | k :: r' => if k = 41 ∧ isMap = false then .close r' else .fail
    | [] => .fail
  else if c = 58 ∨ c = 44 then
    if c = delim then .elem r else .fail
  else
    match afterDelim delim r with
    | some r' => .elem r'
    | none => .fail

/-- how the loop goes on after a step: `loop` = the rest of this activation, `nested` = a fresh activation one level
    down, whose result must be followed by the delimiter -/
def preCont (loop : List Byte → Nat → List Nat → Option PreOut) (nested : Bool → List Byte → Option PreOut)
    (delim : Byte) (size : Nat) (zs : List Nat) : PreStep → Option PreOut
  | .fail => none
  | .unterminated => some ([], 0, [])
  | .close rest => some (rest, size, zs)
  | .elem rest => loop rest (size + 1) zs
  | .nested m body =>
    match nested m body with
    | some (d :: r', n, zs') => if d = delim then loop r' (size + 1) (zs ++ n :: zs') else none
    | _ => none

/-- The loop body that `pre` and `preD` share, word for word, with their recursive calls as the parameters `loop` (the rest
    of this activation) and `nested` (a fresh activation): it classifies the position and goes on as `preCont` says. -/
theorem preBody_eq (mb : MbLen) (top isMap idx : Bool) (c : Byte) (r0 : List Byte) (size : Nat) (zs : List Nat)
    (loop : List Byte → Nat → List Nat → Option PreOut) (nested : Bool → List Byte → Option PreOut) :
    (let delim : Byte := if isMap && !idx then 58 else 44
     let r := if top then (c :: r0).drop (mbStep mb (c :: r0)) else r0
     if c = 34 then
       if top then
         match skipStrMb mb (r.length + 1) r with
         | .open_ => some ([], 0, [])
         | .closed (d :: r') => if d = delim then loop r' (size + 1) zs else none
         | .closed [] => none
       else
         match skipStr r with
         | some (d :: r') => if d = delim then loop r' (size + 1) zs else none
         | _ => none
     else if c = 40 then
       match r with
       | k :: r1 =>
         if k = 123 ∨ k = 91 ∨ k = 47 then
           match nested (k = 91) r1 with
           | some (d :: r', n, zs') => if d = delim then loop r' (size + 1) (zs ++ n :: zs') else none
           | _ => none
         else none
       | [] => none
     else if c = 93 then
       match r with
       | 41 :: r' => if isMap then some (r', size, zs) else none
       | _ => none
     else if c = 47 ∨ c = 125 then
       match r with
       | 41 :: r' => if !isMap then some (r', size, zs) else none
       | _ => none
     else if c = 58 ∨ c = 44 then
       if c = delim then loop r (size + 1) zs else none
     else
       match afterDelim delim r with
       | some r' => loop r' (size + 1) zs
       | none => none) =
      preCont loop nested (delimOf isMap idx) size zs (preStep mb top isMap idx c r0) := by
  rw [preStep, delimOf]
  generalize (if (isMap && !idx) = true then 58 else 44) = d0
  generalize (if top = true then List.drop (mbStep mb (c :: r0)) (c :: r0) else r0) = l
  by_cases h34 : c = 34
  · rw [if_pos h34, if_pos h34]
    cases top with
    | true =>
      rw [if_pos rfl, if_pos rfl]
      cases skipStrMb mb (l.length + 1) l with
      | open_ => rfl
      | closed t =>
        cases t with
        | nil => rfl
        | cons d r' => by_cases hd : d = d0 <;> simp only [hd, if_true, if_false, preCont]
    | false =>
      rw [if_neg Bool.false_ne_true, if_neg Bool.false_ne_true]
      cases skipStr l with
      | none => rfl
      | some t =>
        cases t with
        | nil => rfl
        | cons d r' => by_cases hd : d = d0 <;> simp only [hd, if_true, if_false, preCont]
  rw [if_neg h34, if_neg h34]
  by_cases h40 : c = 40
  · rw [if_pos h40, if_pos h40]
    cases l with
    | nil => rfl
    | cons k r1 =>
      by_cases hk : k = 123 ∨ k = 91 ∨ k = 47
      · simp only [hk, if_true]; rfl
      · simp only [hk, if_false]; rfl
  rw [if_neg h40, if_neg h40]
  by_cases h93 : c = 93
  · rw [if_pos h93, if_pos h93]
    split
    · cases isMap <;> rfl
    · next hne =>
      cases l with
      | nil => rfl
      | cons k r' =>
        have hk : ¬ k = 41 := fun hk => hne r' (hk ▸ rfl)
        simp only [hk, false_and, if_false]; rfl
  rw [if_neg h93, if_neg h93]
  by_cases h47 : c = 47 ∨ c = 125
  · rw [if_pos h47, if_pos h47]
    split
    · cases isMap <;> rfl
    · next hne =>
      cases l with
      | nil => rfl
      | cons k r' =>
        have hk : ¬ k = 41 := fun hk => hne r' (hk ▸ rfl)
        simp only [hk, false_and, if_false]; rfl
  rw [if_neg h47, if_neg h47]
  by_cases h58 : c = 58 ∨ c = 44
  · rw [if_pos h58, if_pos h58]
    by_cases hd : c = d0 <;> simp only [hd, if_true, if_false, preCont]
  rw [if_neg h58, if_neg h58]
  cases afterDelim d0 l <;> rfl

/-- restore_size / restore_internal_size before the nesting fix: one step, then the loop goes on -/
theorem pre_succ (mb : MbLen) (f : Nat) (top isMap idx : Bool) (c : Byte) (r0 : List Byte) (size : Nat)
    (zs : List Nat) :
    pre mb (f + 1) top isMap idx (c :: r0) size zs =
      preCont (pre mb f top isMap (idxNext isMap idx)) (fun m b => pre mb f false m false b 0 [])
        (delimOf isMap idx) size zs (preStep mb top isMap idx c r0) := by
  rw [pre]
  exact preBody_eq mb top isMap idx c r0 size zs (pre mb f top isMap (idxNext isMap idx))
    (fun m b => pre mb f false m false b 0 [])

/-- the pre-pass as coded: the nesting test, then the same step; a nested activation runs one level further down -/
theorem preD_succ (mb : MbLen) (f nest : Nat) (top isMap idx : Bool) (c : Byte) (r0 : List Byte) (size : Nat)
    (zs : List Nat) :
    preD mb (f + 1) nest top isMap idx (c :: r0) size zs =
      if !top && decide (nest > maxDepth) then none else
      preCont (preD mb f nest top isMap (idxNext isMap idx)) (fun m b => preD mb f (nest + 1) false m false b 0 [])
        (delimOf isMap idx) size zs (preStep mb top isMap idx c r0) := by
  rw [preD]
  by_cases hg : (!top && decide (nest > maxDepth)) = true
  · rw [if_pos hg, if_pos hg]
  rw [if_neg hg, if_neg hg]
  exact preBody_eq mb top isMap idx c r0 size zs (preD mb f nest top isMap (idxNext isMap idx))
    (fun m b => preD mb f (nest + 1) false m false b 0 [])

/-! ## the lines of a save file -/

/-- the variables of the saving program that get a line in the file -/
def written (F : FloatOps α) (z : Bool) (ss : List (Var α)) : List (Var α) :=
  ss.filter (fun s => !s.isStatic && (z || save F s.val != [48]))

/-- the line save_object_recurse writes for a variable -/
def varLine (F : FloatOps α) (v : Var α) : List Byte := v.name ++ 32 :: (save F v.val ++ [10])

theorem saveLines_eq (F : FloatOps α) (z : Bool) (ss : List (Var α)) :
    saveLines F z ss = (written F z ss).map (varLine F) := by
  induction ss with
  | nil => rfl
  | cons s ss ih =>
    rw [saveLines, written, List.filter_cons]
    cases s.isStatic with
    | true => exact ih
    | false =>
      by_cases hz : (z || save F s.val != [48]) = true
      · simp only [Bool.false_eq_true, if_false, hz, if_true, Bool.not_false, Bool.true_and, List.map_cons, ih]
        rfl
      · simp only [Bool.false_eq_true, if_false, hz, Bool.not_false, Bool.true_and]
        exact ih

theorem written_nonstatic (F : FloatOps α) (z : Bool) (ss : List (Var α)) :
    ∀ s ∈ written F z ss, s ∈ ss ∧ s.isStatic = false ∧ (z = true ∨ save F s.val ≠ [48]) := by
  intro s hs
  obtain ⟨h1, h2⟩ := List.mem_filter.1 hs
  simp only [Bool.and_eq_true, Bool.not_eq_true', Bool.or_eq_true, bne_iff_ne, ne_eq] at h2
  exact ⟨h1, h2.1, h2.2⟩

/-! ## one line of a save file -/

/-- what restore_object_from_buff makes of one line -/
inductive LineAct (α : Type) where
  /-- the empty rest behind the last LF: end of the text -/
  | done
  /-- "Illegal file format" -/
  | fileError
  /-- a comment line, an unknown or a static name -/
  | skip
  | assign (name : List Byte) (x : Value α)
  | valueError (e : RErr) (name : List Byte)
  | crash
  | stuck

/-- the outcome of restore_svalue on the text of a line -/
def valueAct (name : List Byte) : Res (Value α) → LineAct α
  | .ok x => .assign name x
  | .err e => .valueError e name
  | .crash => .crash
  | .stuck => .stuck

/-- `look name`: the static flag of the variable find_global_variable() finds (`none`: no such variable);
    `last`: nothing follows the line -/
def lineAct (F : FloatOps α) (mb : MbLen) (look : List Byte → Option Bool) (l : List Byte) (last : Prop)
    [Decidable last] : LineAct α :=
  if l = [] then (if last then .done else .fileError)
  else if l.head? = some 35 then .skip
  else
    let name := l.takeWhile (· ≠ 32)
    if name.length = l.length ∨ name.length ≥ varBufSize then .fileError
    else
      match look name with
      | some false => valueAct name (restoreSvalue F mb (l.drop (name.length + 1)))
      | _ => .skip

/-- a line is skipped or refused for its form, or it names a non-static variable and its text goes to restore_svalue -/
theorem lineAct_cases (F : FloatOps α) (mb : MbLen) (look : List Byte → Option Bool) (l : List Byte) (last : Prop)
    [Decidable last] :
    lineAct F mb look l last = .done ∨ lineAct F mb look l last = .fileError ∨ lineAct F mb look l last = .skip ∨
    (look (l.takeWhile (· ≠ 32)) = some false ∧ lineAct F mb look l last =
      valueAct (l.takeWhile (· ≠ 32)) (restoreSvalue F mb (l.drop ((l.takeWhile (· ≠ 32)).length + 1)))) := by
  generalize h : lineAct F mb look l last = a
  rw [lineAct] at h
  by_cases h0 : l = []
  · rw [if_pos h0] at h
    by_cases h1 : last
    · rw [if_pos h1] at h; exact .inl h.symm
    · rw [if_neg h1] at h; exact .inr (.inl h.symm)
  rw [if_neg h0] at h
  by_cases h1 : l.head? = some 35
  · rw [if_pos h1] at h; exact .inr (.inr (.inl h.symm))
  rw [if_neg h1] at h
  simp only [] at h
  by_cases h2 : (l.takeWhile (· ≠ 32)).length = l.length ∨ (l.takeWhile (· ≠ 32)).length ≥ varBufSize
  · rw [if_pos h2] at h; exact .inr (.inl h.symm)
  rw [if_neg h2] at h
  cases hf : look (l.takeWhile (· ≠ 32)) with
  | none => rw [hf] at h; exact .inr (.inr (.inl h.symm))
  | some st =>
    cases st with
    | true => rw [hf] at h; exact .inr (.inr (.inl h.symm))
    | false => rw [hf] at h; exact .inr (.inr (.inr ⟨rfl, h.symm⟩))

theorem setVar_names (vars : List (Var α)) (n : List Byte) (x : Value α) :
    (setVar vars n x).map (·.name) = vars.map (·.name) := by
  induction vars with
  | nil => rfl
  | cons v r ih =>
    by_cases h : v.name = n
    · simp [setVar, h]
    · simp only [setVar, h, if_false, List.map_cons, ih]

theorem restoreLines_cons (F : FloatOps α) (mb : MbLen) (nc : Bool) (l : List Byte) (ls : List (List Byte))
    (vars : List (Var α)) :
    restoreLines F mb nc (l :: ls) vars =
      match lineAct F mb (fun n => (vars.find? (fun v => v.name = n)).map (·.isStatic)) l (ls = []) with
      | .done => .done vars
      | .fileError => .error "restore_object(): Illegal file format." vars
      | .skip => restoreLines F mb nc ls vars
      | .assign n x => restoreLines F mb nc ls (setVar vars n x)
      | .valueError e n => .error (errMsgVar e n) vars
      | .crash => .crash
      | .stuck => .stuck := by
  rw [restoreLines, lineAct]
  by_cases h0 : l = []
  · rw [if_pos h0, if_pos h0]; by_cases h1 : ls = [] <;> simp only [h1, if_true, if_false]
  rw [if_neg h0, if_neg h0]
  by_cases h1 : l.head? = some 35
  · rw [if_pos h1, if_pos h1]
  rw [if_neg h1, if_neg h1]
  simp only []
  by_cases h2 : (l.takeWhile (· ≠ 32)).length = l.length ∨ (l.takeWhile (· ≠ 32)).length ≥ varBufSize
  · rw [if_pos h2, if_pos h2]
  rw [if_neg h2, if_neg h2]
  cases hf : vars.find? (fun v => v.name = l.takeWhile (· ≠ 32)) with
  | none => rfl
  | some v =>
    simp only [Option.map_some]
    cases v.isStatic with
    | true => rfl
    | false =>
      simp only [Bool.false_eq_true, if_false]
      cases restoreSvalue F mb (l.drop ((l.takeWhile (· ≠ 32)).length + 1)) <;> rfl
end NV.C16
