/-
C09 — the command loop and the timer tick keep the invariant.
-/
import NV.C09.CycleLemmas

namespace NV.C09

/-- moving the rotating cursor inside the table -/
theorem setCursor_step (w : W) (n : Nat) (h : ∀ l, w.users = some l → n < l.length)
    (h0 : w.users = none → n = 0) : Step w { w with nextUser := n } := by
  intro i
  exact ⟨⟨i.crashed, i.inError, i.inMeh, i.live, i.inj, i.len, h, h0, i.bound⟩,
    ⟨fun _ c hc hcl => ⟨c, hc, hcl⟩, fun _ _ _ _ _ ho => ho, rfl, rfl, rfl, TrExt.of_eq rfl⟩⟩

/-- the local `dec` of `scanUsers` (`if (s_next_user-- == 0) s_next_user = max_users - 1;`), named so that
    `scanUsers_succ` can state the equation of `scanUsers` -/
def decCursor (n : Nat) (w : W) : W := { w with nextUser := if w.nextUser = 0 then n - 1 else w.nextUser - 1 }

/-- the cursor steps down and wraps: it stays inside a table of that size -/
theorem decCursor_step (w : W) (n : Nat) (hw : w.users.map List.length = some n) : Step w (decCursor n w) := by
  intro i
  obtain ⟨l, hu, e⟩ := Option.map_eq_some_iff.mp hw
  have hc := i.cur l hu
  refine setCursor_step w _ (fun l' hl' => ?_) (fun hn => by rw [hu] at hn; cases hn) i
  rw [← Option.some.inj (hu.symm.trans hl'), ← e]
  split <;> omega

/-- get_user_command() takes the command of the record under the cursor, or moves on -/
theorem scanUsers_succ (n : Nat) (w : W) (l : List (Option Conn)) (hl : w.users = some l) :
    scanUsers (n + 1) w =
      match l[w.nextUser]? with
      | none => (crash w "get_user_command: s_next_user out of range", none)
      | some none => scanUsers n (decCursor l.length w)
      | some (some c) =>
        if !c.cmds.isEmpty && c.turn then
          (decCursor l.length (mapConn w c.id (fun c => { c with turn := false, cmds := c.cmds.drop 1 })), some c)
        else scanUsers n (decCursor l.length w) := by
  conv => lhs; unfold scanUsers
  rw [hl]
  simp only []
  cases l[w.nextUser]? with
  | none => rfl
  | some s => cases s <;> rfl

theorem scanUsers_step : ∀ (n : Nat) (w : W), Step w (scanUsers n w).1
  | 0, w => Step.refl w
  | n + 1, w => fun inv => by
    cases hl : w.users with
    | none => unfold scanUsers; rw [hl]; exact ⟨inv, Rel.refl w⟩
    | some l =>
      have hw : w.users.map List.length = some l.length := by rw [hl]; rfl
      have miss := Step.trans (decCursor_step w l.length hw) (scanUsers_step n _)
      rw [scanUsers_succ n w l hl]
      cases hs : l[w.nextUser]? with
      | none => exact absurd (List.getElem?_eq_none_iff.mp hs) (Nat.not_le.mpr (inv.cur l hl))
      | some s =>
        cases s with
        | none => exact miss inv
        | some c =>
          have hit := Step.trans
            (mapConn_step w c.id (fun c => { c with turn := false, cmds := c.cmds.drop 1 }) (fun _ => rfl) (fun _ h => h))
            (decCursor_step _ l.length (by unfold mapConn; rw [hl]; exact congrArg some (List.length_map _)))
          exact ite_fst_both hit miss inv

theorem inputStage_step (rh : HookFn) (hrh : HookOK rh) (w : W) (cg : Oid) (line : String) (b : Bool) :
    Step w (inputStage rh w cg line b).1 :=
  ite_fst_both (Step.trans (emit_step _ _) (hrh _ _ _)) (Step.refl w)

theorem commandStage_step (rh : HookFn) (hrh : HookOK rh) (w : W) (cg : Oid) (line : String) :
    Step w (commandStage rh w cg line).1 :=
  have h := Step.trans (emit_step w (.tCmd cg (line.take (maxVerbBuff - 1)).toString))
    (hrh _ cg (.cmd (line.take (maxVerbBuff - 1)).toString))
  Step.returnOr (Step.refl w) (Step.returnOr (Step.refl w) (Step.returnOr h (addOut_step _ _ _)))

/-- `ip` passed VALIDATE_IP: the uses that follow touch a live record -/
theorem useConn_valid (w : W) (o : Oid) (id : Nat) (inv : Inv w) (h : w.inter o = some id) : useConn w id = w :=
  useConn_live w id (inv.live o id h)

/-- `VALIDATE_IP (ip, ob)` after a callback: either the function returns, or `ip` is used - and is live -/
theorem Step.validate {α : Type} {v : W} {o : Oid} {id : Nat} {a : α} (f : W → W × α) (hf : Step v (f v).1) :
    Step v (if v.inter o ≠ some id then (v, a) else f (useConn v id)).1 := by
  intro inv
  by_cases h : v.inter o ≠ some id
  · rw [if_pos h]; exact Step.refl v inv
  · rw [if_neg h, useConn_valid v o id inv (Classical.not_not.mp h)]
    exact hf inv

theorem promptStage_step (rh : HookFn) (hrh : HookOK rh) (w : W) (cg : Oid) (id : Nat) :
    Step w (promptStage rh w cg id).1 :=
  have s1 : Step w (rh (emit w (.tPrompt cg)) cg .prompt).1 := Step.trans (emit_step _ _) (hrh _ _ _)
  Step.returnOr (Step.refl w) (Step.returnOr (Step.refl w) (Step.returnOr s1
    (Step.validate (fun v => (addOut v cg ">_", false)) (addOut_step _ _ _))))

theorem plainCommand_step (rh : HookFn) (hrh : HookOK rh) (w : W) (cg : Oid) (id : Nat) (line : String) :
    Step w (plainCommand rh w cg id line).1 :=
  Step.returnOr (inputStage_step rh hrh w cg line (hasPIOf w id)) (Step.returnOr (Step.refl _)
    (Step.returnOr (commandStage_step rh hrh _ cg line)
      (Step.validate (fun v => ((promptStage rh v cg id).1, true, (promptStage rh v cg id).2))
        (promptStage_step rh hrh _ cg id))))

theorem inputToCommand_step (rh : HookFn) (hrh : HookOK rh) (w : W) (cg : Oid) (id : Nat) (line tag : String) :
    Step w (inputToCommand rh w cg id line tag).1 :=
  have s1 : Step w (rh (emit (mapConn w id clearInputTo) (.tIt cg tag line)) cg (.it tag)).1 :=
    Step.trans (Step.trans (mapConn_step w id clearInputTo (fun _ => rfl) (fun _ h => h)) (emit_step _ _)) (hrh _ _ _)
  Step.returnOr s1 (Step.validate (fun v => ((promptStage rh v cg id).1, true, (promptStage rh v cg id).2))
    (promptStage_step rh hrh _ cg id))

theorem serveCommand_step (rh : HookFn) (hrh : HookOK rh) (w : W) (c0 : Conn) :
    Step w (serveCommand rh w c0).1 := by
  unfold serveCommand
  refine ite_fst_both (Step.refl w) (fun inv => ?_)
  cases hid : w.inter c0.ob with
  | none => exact ⟨inv, Rel.refl w⟩
  | some id =>
    simp only []
    rw [useConn_valid w c0.ob id inv hid]
    have s0 := updateLoadAv_step w
    cases inputToOf (updateLoadAv w) id with
    | some tag => exact (Step.trans s0 (inputToCommand_step rh hrh _ _ _ _ _)) inv
    | none => exact (Step.trans s0 (plainCommand_step rh hrh _ _ _ _)) inv

theorem processUserCommand_step (rh : HookFn) (hrh : HookOK rh) (w : W) :
    Step w (processUserCommand rh w).1 := by
  unfold processUserCommand
  have h := scanUsers_step (slots w).length w
  generalize scanUsers (slots w).length w = r at h ⊢
  obtain ⟨v, oc⟩ := r
  cases oc with
  | none => exact h
  | some c0 => exact Step.trans h (serveCommand_step rh hrh _ _)

theorem commandLoop_step (rh : HookFn) (hrh : HookOK rh) : ∀ (n : Nat) (w : W), Step w (commandLoop rh n w).1
  | 0, w => processUserCommand_step rh hrh w
  | n + 1, w =>
    Step.returnOr (processUserCommand_step rh hrh w) (ite_fst_both (commandLoop_step rh hrh n _) (Step.refl _))

theorem hbLoop_step (rh : HookFn) (hrh : HookOK rh) : ∀ (n : Nat) (w : W), Step w (hbLoop rh n w).1
  | 0, w => Step.refl w
  | n + 1, w => by
    unfold hbLoop
    cases w.hbs[w.hbNext]? with
    | none => exact Step.refl w
    | some o =>
      have h : Step w (rh (emit { w with hbNext := w.hbNext + 1, curHb := some o } (.tHb o)) o .hb).1 := by
        refine Step.trans ?_ (hrh _ _ _)
        exact Step.logged rfl rfl
      exact Step.returnOr h (Step.returnOr (Step.refl _) (hbLoop_step rh hrh n _))

theorem resetObjectR_step (rh : HookFn) (hrh : HookOK rh) (w : W) (k : Nat) : Step w (resetObjectR rh w k).1 := by
  have h : Step w (rh (emit { w with nextReset := fun x => if x = k then w.now + resetDuration / 2 else w.nextReset x,
                                     refTime := fun x => if x = k then w.now else w.refTime x }
      (.tReset (.obj k))) (.obj k) .reset).1 := by
    refine Step.trans ?_ (hrh _ _ _)
    exact Step.logged rfl rfl
  exact Step.returnOr h (Step.silent rfl rfl)

theorem resetObject_step (rh : HookFn) (hrh : HookOK rh) (w : W) (k : Nat) : Step w (resetObject rh w k) :=
  resetObjectR_step rh hrh w k

theorem cleanupObject_step (rh : HookFn) (hrh : HookOK rh) (w : W) (k : Nat) : Step w (cleanupObject rh w k).1 :=
  have h : Step w (rh (emit (touch w (.obj k)) (.tCleanup (.obj k))) (.obj k) .cleanup).1 :=
    Step.trans (Step.trans (touch_step _ _) (emit_step _ _)) (hrh _ _ _)
  Step.returnOr h (Step.returnOr (Step.refl _) (Step.silent rfl rfl))

theorem sweepObject_step (rh : HookFn) (hrh : HookOK rh) (w : W) (k : Nat) : Step w (sweepObject rh w k).1 :=
  have h1 : Step w (if w.nextReset k < w.now && !w.resetState k then resetObjectR rh w k else (w, false)).1 :=
    ite_fst_both (resetObjectR_step rh hrh w k) (Step.refl w)
  Step.returnOr h1 (Step.returnOr (Step.refl _) (ite_fst_both (cleanupObject_step rh hrh _ k) (Step.refl _)))

theorem sweepPass_step (rh : HookFn) (hrh : HookOK rh) : ∀ (ks : List Nat) (w : W), Step w (sweepPass rh ks w).1
  | [], w => Step.refl w
  | k :: ks, w =>
    ite_fst_both (sweepPass_step rh hrh ks w)
      (Step.returnOr (sweepObject_step rh hrh w k) (sweepPass_step rh hrh ks _))

theorem sweepResets_step (rh : HookFn) (hrh : HookOK rh) : ∀ (fuel : Nat) (w : W), Step w (sweepResets rh fuel w)
  | 0, w => Step.refl w
  | n + 1, w =>
    have h := sweepPass_step rh hrh w.objList w
    ite_both (Step.trans h (sweepResets_step rh hrh n _)) h

theorem sweepCallOuts_step (rh : HookFn) (hrh : HookOK rh) : ∀ (n : Nat) (w : W), Step w (sweepCallOuts rh n w)
  | 0, w => Step.refl w
  | n + 1, w => by
    unfold sweepCallOuts
    cases w.callouts with
    | nil => exact Step.refl w
    | cons c rest =>
      have drop : Step w { w with callouts := rest } := Step.silent rfl rfl
      refine ite_both (ite_both ?_ ?_) (Step.refl w)
      · -- the owner is destructed: on to the next entry
        exact Step.trans drop (sweepCallOuts_step rh hrh n _)
      · -- the call_out runs
        exact Step.trans (Step.trans drop (Step.trans (Step.trans (emit_step _ _) (touch_step _ _)) (hrh _ _ _)))
          (sweepCallOuts_step rh hrh n _)

theorem hbRound_step (rh : HookFn) (hrh : HookOK rh) (w : W) : Step w (hbRound rh w).1 := by
  have h : Step w (hbLoop rh w.hbToDo { w with hbNext := 0 }).1 := by
    refine Step.trans ?_ (hbLoop_step rh hrh _ _)
    exact Step.silent rfl rfl
  exact ite_fst_both (Step.returnOr h (Step.silent rfl rfl)) (Step.refl w)

theorem timerSweeps_step (rh : HookFn) (hrh : HookOK rh) (w : W) : Step w (timerSweeps rh w) := by
  have h0 : Step w { w with curHb := none } := Step.silent rfl rfl
  have h1 : Step { w with curHb := none }
      (popCtx (sweepResets rh (3 * w.objList.length + 3) (pushCtx { w with curHb := none, nextSweep := w.now + sweepPeriod }))) := by
    refine Step.trans ?_ (Step.bracket (sweepResets_step rh hrh _ _))
    exact Step.silent rfl rfl
  exact Step.trans (Step.trans h0 (ite_both (Step.refl _) h1)) (Step.bracket (sweepCallOuts_step rh hrh _ _))

theorem callHeartBeat_step (rh : HookFn) (hrh : HookOK rh) (w : W) : Step w (callHeartBeat rh w).1 := by
  have h : Step w (hbRound rh { w with hbFlag := false, now := w.clock, hbToDo := w.hbs.length }).1 := by
    refine Step.trans ?_ (hbRound_step rh hrh _)
    exact Step.silent rfl rfl
  exact Step.returnOr h (timerSweeps_step rh hrh _)

end NV.C09
