/-
C09 — backend_total: the invariant holds at the head of every loop iteration, for every history of external events,
every script oracle (incl. tasks that raise, disconnect themselves or others, destruct) and both modes.
-/
import NV.C09.TickLemmas

namespace NV.C09

/-- the outside world only moves the clock, rings the timer and is recorded in two ghost lists -/
theorem applyAction_eq (w : W) (a : Action) : ∃ c f t s,
    (applyAction w a).1 = { w with clock := c, hbFlag := f, tcpClients := t, closedByScript := s } := by
  cases a with
  | tick dt => exact ⟨_, _, _, _, rfl⟩
  | conn c => exact ⟨_, _, _, _, rfl⟩
  | send c t => simp only [applyAction]; split <;> exact ⟨_, _, _, _, rfl⟩
  | close c => simp only [applyAction]; split <;> exact ⟨_, _, _, _, rfl⟩
  | reset c => simp only [applyAction]; split <;> exact ⟨_, _, _, _, rfl⟩
  | cin t => simp only [applyAction]; split <;> exact ⟨_, _, _, _, rfl⟩
  | idle => exact ⟨_, _, _, _, rfl⟩

theorem applyActions_eq : ∀ (as : List Action) (w : W), ∃ c f t s,
    (applyActions as w).1 = { w with clock := c, hbFlag := f, tcpClients := t, closedByScript := s }
  | [], _ => ⟨_, _, _, _, rfl⟩
  | a :: as, w => by
    obtain ⟨c, f, t, s, h⟩ := applyAction_eq w a
    obtain ⟨c', f', t', s', h'⟩ := applyActions_eq as (applyAction w a).1
    exact ⟨c', f', t', s', by show (applyActions as (applyAction w a).1).1 = _; rw [h', h]⟩

theorem findIn_isSome_of_mem {l : List (Option Conn)} {r : Conn} (h : some r ∈ l) : (findIn l r.id).isSome = true := by
  induction l with
  | nil => cases h
  | cons x xs ih =>
    rcases List.mem_cons.mp h with h1 | h1
    · rw [← h1, findIn_eq _ _ _ rfl]; rfl
    · cases x with
      | none => exact ih h1
      | some d =>
        by_cases hd : d.id = r.id
        · rw [findIn_eq _ _ _ hd]; rfl
        · rw [findIn_ne _ _ _ hd]; exact ih h1

/-- the connection of a scripted client is a live record -/
theorem connOfClient_live (w : W) (c : Nat) (r : Conn) (h : connOfClient w c = some r) :
    (findConn w r.id).isSome = true := by
  unfold connOfClient at h
  generalize hf : List.find? _ (slots w) = s at h
  cases s with
  | none => cases h
  | some s =>
    have hs : s = some r := h
    exact findIn_isSome_of_mem (hs ▸ List.mem_of_find?_eq_some hf)

/-- what a poll can report: connection events for live records, and console input only in console mode -/
def Reported (w : W) : IoEv → Prop
  | .data id _ | .eof id | .hup id => (findConn w id).isSome = true
  | .console _ => w.mode = .console
  | _ => True

theorem applyAction_events (w : W) (a : Action) (e : IoEv) (he : e ∈ (applyAction w a).2) : Reported w e := by
  have conn : ∀ (v : W) (c : Nat) (f : Conn → IoEv), v.users = w.users →
      (∀ r, (findConn w r.id).isSome = true → Reported w (f r)) →
      e ∈ (match connOfClient v c with | some r => (v, [f r]) | none => (v, [])).2 → Reported w e := by
    intro v c f hv hf he
    have hcc : connOfClient v c = connOfClient w c := by unfold connOfClient slots; rw [hv]
    rw [hcc] at he
    cases hr : connOfClient w c with
    | none => rw [hr] at he; cases he
    | some r => rw [hr] at he; rw [List.mem_singleton.mp he]; exact hf r (connOfClient_live w c r hr)
  cases a with
  | tick dt => rw [List.mem_singleton.mp he]; trivial
  | conn c => rw [List.mem_singleton.mp he]; trivial
  | send c t => exact conn w c (fun r => .data r.id t) rfl (fun _ h => h) he
  | close c => exact conn { w with closedByScript := c :: w.closedByScript } c (fun r => .eof r.id) rfl (fun _ h => h) he
  | reset c => exact conn { w with closedByScript := c :: w.closedByScript } c (fun r => .hup r.id) rfl (fun _ h => h) he
  | cin t =>
    have he : e ∈ (if w.mode = .console then (w, [IoEv.console t]) else (w, [])).2 := he
    by_cases hm : w.mode = .console
    · rw [if_pos hm] at he; rw [List.mem_singleton.mp he]; exact hm
    · rw [if_neg hm] at he; cases he
  | idle => cases he

theorem applyActions_console : ∀ (as : List Action) (w : W) (t : String),
    IoEv.console t ∈ (applyActions as w).2 → w.mode = .console
  | [], _, _, h => nomatch h
  | a :: as, w, t, h => by
    rcases List.mem_append.mp h with h | h
    · exact applyAction_events w a (.console t) h
    · obtain ⟨_, _, _, _, e⟩ := applyAction_eq w a
      have := applyActions_console as _ t h
      rw [e] at this; exact this

/-- the loop is at its head: the invariant holds, in console mode the connection table exists, and the
    error-context chain is at its base (only backend()'s own context) -/
structure Good (w : W) : Prop where
  inv : Inv w
  console : w.mode = .console → w.users.isSome = true
  base : w.ctxDepth = 1

theorem Good.cstep {w w' : W} (g : Good w) (h : CStep w w') : Good w' := by
  obtain ⟨i, r⟩ := h g.inv
  exact ⟨i, fun hm => r.alloc (g.console (by rw [← r.mode]; exact hm)), by rw [r.ctx]; exact g.base⟩

theorem Good.recover {w : W} (g : Good w) : Good (recover w) :=
  ⟨g.inv.ctx_irrel 1, g.console, rfl⟩

/-- good at the end, and the trace grew by a well-formed block -/
def GT (w w' : W) : Prop := Good w' ∧ TrExt w w'

theorem GT.refl {w : W} (g : Good w) : GT w w := ⟨g, TrExt.refl w⟩
theorem GT.then {a b c : W} (h1 : GT a b) (h2 : CStep b c) : GT a c :=
  ⟨h1.1.cstep h2, h1.2.trans (h2 h1.1.inv).2.tr⟩
theorem GT.trans {a b c : W} (h1 : GT a b) (h2 : GT b c) : GT a c := ⟨h2.1, h1.2.trans h2.2⟩
theorem GT.recover {a b : W} (h : GT a b) : GT a (recover b) := ⟨h.1.recover, h.2.trans (TrExt.of_eq rfl)⟩

theorem Good.same {w w' : W} (g : Good w) (h : Same w w') : Good w' := g.cstep h.step.toC

theorem Good.emit {w : W} (g : Good w) (e : Ev) : Good (emit w e) :=
  ⟨⟨g.inv.crashed, g.inv.inError, g.inv.inMeh, g.inv.live, g.inv.inj, g.inv.len, g.inv.cur, g.inv.cur0, g.inv.bound⟩,
   g.console, g.base⟩

/-- the head of an iteration: turns granted, the marker `cycle n` is the one event, the outside world has acted -/
theorem cycleHead_good (n : Nat) (acts : List Action) (w : W) (g : Good w) :
    Good (cycleHead n acts w).1 ∧ (cycleHead n acts w).1.trace = Ev.cycle n :: w.trace ∧
    (∀ t, IoEv.console t ∈ (cycleHead n acts w).2 → w.mode = .console) ∧
    (cycleHead n acts w).1.mode = w.mode := by
  have g1 : Good (mapAll w (fun c => { c with turn := true })) :=
    g.cstep (mapAll_step' w (fun c => { c with turn := true }) (fun _ => rfl) (fun _ h => h)).toC
  obtain ⟨c, f, t, s, h⟩ := applyActions_eq acts (emit (mapAll w (fun c => { c with turn := true })) (.cycle n))
  have h' : (cycleHead n acts w).1 = _ := h
  rw [h']
  exact ⟨(g1.emit (.cycle n)).same (Same.of_frame rfl (TrExt.of_eq rfl)), rfl, applyActions_console acts _, rfl⟩

theorem pendingEvents_noConsole (w : W) (t : String) : IoEv.console t ∉ pendingEvents w := by
  unfold pendingEvents
  intro h
  have := (List.mem_filter.mp h).2
  simp [isConnEv] at this

theorem cycleBody_good (S : Scripts) (rh : HookFn) (hrh : HookOK rh) (k : Nat) (w : W) (evs : List IoEv)
    (g : Good w) (hc : ∀ t, IoEv.console t ∈ evs → w.mode = .console) :
    GT w (cycleBody S rh k w evs).1 := by
  have s0 : Step w (clearBacklog w) := Step.silent rfl rfl
  have gc : GT w (clearBacklog w) := (GT.refl g).then s0.toC
  have gIo : GT w (if evs.isEmpty then (clearBacklog w, false) else processIo S rh (clearBacklog w) evs).1 :=
    ite_fst_both gc (gc.then (processIo_cstep S rh hrh (clearBacklog w) evs (fun t ht => gc.1.console (hc t ht))))
  unfold cycleBody
  generalize (if evs.isEmpty then (clearBacklog w, false) else processIo S rh (clearBacklog w) evs) = r1 at gIo ⊢
  have s1 : Step r1.1 (setBacklog r1.1 (abandoned S rh evs (clearBacklog w))) := Step.silent rfl rfl
  have gCmd : GT w (commandLoop rh k r1.1).1 := gIo.then (commandLoop_step rh hrh k r1.1).toC
  have gHb : GT w (callHeartBeat rh (commandLoop rh k r1.1).1).1 := gCmd.then (callHeartBeat_step rh hrh _).toC
  -- the arms as in `cycleBody`: a stage that left by longjmp is followed by `recover`
  exact ite_fst_both (gIo.then s1.toC).recover (ite_fst_both gCmd.recover (ite_fst_both (ite_fst_both gHb.recover gHb) gCmd))

/-- chronological list of the cycle markers of a (newest-first) trace -/
def markers (t : List Ev) : List Nat :=
  t.reverse.filterMap (fun e => match e with | .cycle k => some k | _ => none)

theorem markers_append (a b : List Ev) : markers (a ++ b) = markers b ++ markers a := by
  unfold markers; rw [List.reverse_append, List.filterMap_append]

theorem markers_noCycle (es : List Ev) (h : ∀ e ∈ es, isCycleEv e = false) : markers es = [] := by
  unfold markers
  rw [List.filterMap_eq_nil_iff]
  intro e he
  have := h e (List.mem_reverse.mp he)
  split
  · cases this
  · rfl

/-- good at the end; the trace grew by a block that is well-formed up to cycle markers, and exactly the markers
    `ms` were added -/
structure GTC (w w' : W) (ms : List Nat) : Prop where
  good : Good w'
  grew : ∃ es, w'.trace = es ++ w.trace ∧ BlockC es ∧ markers es = ms

theorem GT.toC {w w' : W} (h : GT w w') : GTC w w' [] := by
  obtain ⟨es, he, hb⟩ := h.2
  exact ⟨h.1, es, he, hb.toC, markers_noCycle es hb.noCycle⟩

theorem GTC.trans {a b c : W} {m1 m2 : List Nat} (h1 : GTC a b m1) (h2 : GTC b c m2) : GTC a c (m1 ++ m2) := by
  obtain ⟨_, e1, t1, b1, k1⟩ := h1
  obtain ⟨g2, e2, t2, b2, k2⟩ := h2
  exact ⟨g2, e2 ++ e1, by rw [t2, t1, List.append_assoc], b1.append b2, by rw [markers_append, k1, k2]⟩

theorem cycle_shutdown_id (S : Scripts) (rh : HookFn) (n : Nat) (a : List Action) (w : W) (hs : w.shutdown = true) :
    cycle S rh n a w = (w, false) := by unfold cycle; rw [if_pos hs]

/-- one iteration, unless the driver has been shut down: the marker `cycle n`, then a well-formed block -/
theorem cycle_good (S : Scripts) (rh : HookFn) (hrh : HookOK rh) (n : Nat) (acts : List Action) (w : W)
    (g : Good w) (hs : w.shutdown = false) : GTC w (cycle S rh n acts w).1 [n] := by
  unfold cycle
  rw [if_neg (by rw [hs]; decide)]
  obtain ⟨g1, ht, hc, hm⟩ := cycleHead_good n acts w g
  have hb := cycleBody_good S rh hrh ((slots w).filter Option.isSome).length _ _ g1
    (fun t ht' => by
      rw [hm]
      rcases List.mem_append.mp ht' with h | h
      · exact absurd h (pendingEvents_noConsole w t)
      · exact hc t h)
  have h1 : GTC w (cycleHead n acts w).1 [n] :=
    ⟨g1, [Ev.cycle n], ht, ⟨fun e he => by rw [List.mem_singleton.mp he]; rfl, rfl, fun _ h => nomatch h⟩, rfl⟩
  exact h1.trans hb.toC

theorem runCycles_shutdown (S : Scripts) (rh : HookFn) (w : W) (hs : w.shutdown = true) :
    ∀ (h : List (List Action)) (n : Nat), runCycles S rh n h w = w
  | [], _ => rfl
  | a :: as, n => by
    show runCycles S rh (n + 1) as (cycle S rh n a w).1 = w
    rw [cycle_shutdown_id S rh n a w hs]; exact runCycles_shutdown S rh w hs as (n + 1)

/-- a run of iterations appends consecutive markers `n, n+1, ...`: one per iteration until the driver has been shut
    down (then none any more: the state does not change) -/
theorem runCycles_good (S : Scripts) (rh : HookFn) (hrh : HookOK rh) :
    ∀ (h : List (List Action)) (n : Nat) (w : W), Good w → ∃ m, GTC w (runCycles S rh n h w) (List.range' n m)
  | [], _, _, g => ⟨0, (GT.refl g).toC⟩
  | a :: as, n, w, g => by
    cases hs : w.shutdown with
    | true => rw [runCycles_shutdown S rh w hs]; exact ⟨0, (GT.refl g).toC⟩
    | false =>
      have g1 := cycle_good S rh hrh n a w g hs
      obtain ⟨m, g2⟩ := runCycles_good S rh hrh as (n + 1) _ g1.good
      exact ⟨m + 1, g1.trans g2⟩

/-- the idle driver: no connection at all (all_users == NULL), nothing in flight -/
structure Fresh (w : W) : Prop where
  users : w.users = none
  inter : ∀ o, w.inter o = none
  inError : w.inError = false
  inMeh : w.inMeh = false
  crashed : w.crashed = none
  nextUser : w.nextUser = 0

theorem Fresh.inv {w : W} (f : Fresh w) : Inv w := by
  refine ⟨f.crashed, f.inError, f.inMeh, ?_, ?_, ?_, ?_, fun _ => f.nextUser, ?_⟩
  · intro o id h; rw [f.inter o] at h; simp at h
  · intro o o' id h; rw [f.inter o] at h; simp at h
  · intro l h; rw [f.users] at h; simp at h
  · intro l h; rw [f.users] at h; simp at h
  · intro id _; unfold findConn slots; rw [f.users]; rfl

/-- restore_context at backend()'s recovery point changes nothing when the chain is at its base already -/
theorem recover_of_base {w : W} (h : w.ctxDepth = 1) : recover w = w := by
  show { w with ctxDepth := 1 } = w
  rw [← h]

/-- backend() up to the loop, seen from the moment `start` has been logged: the state is good and everything else the
    start-up steps log comes AFTER that event -/
theorem startup_good_start (S : Scripts) (rh : HookFn) (hrh : HookOK rh) (w : W) (f : Fresh w) :
    GT (emit w .start) (startup S rh w) := by
  unfold startup
  simp only []
  -- save_context; the initial tick: no table yet, the context chain stays at its base
  have i0 : Inv ({ (emit w .start) with ctxDepth := 1 } : W) := ((emit_step w .start) f.inv).1.ctx_irrel 1
  obtain ⟨i1, r1⟩ := callHeartBeat_step rh hrh _ i0
  generalize callHeartBeat rh { (emit w .start) with ctxDepth := 1 } = r at i1 r1 ⊢
  have c1 : r.1.ctxDepth = 1 := r1.ctx
  have hu1 : r.1.users = none :=
    Option.map_eq_none_iff.mp (r1.ulen.trans (congrArg (Option.map List.length) f.users))
  have t1 : TrExt (emit w .start) r.1 := r1.tr
  rw [recover_of_base c1, ite_self]
  by_cases hcons : r.1.mode = .console
  · rw [if_pos hcons]
    have hs : (slots r.1).headD none = none := by unfold slots; rw [hu1]; rfl
    obtain ⟨s3, u3⟩ := initConsoleUser_cstep S rh hrh r.1 hs
    obtain ⟨i3, r3⟩ := s3 i1
    have c3 : (initConsoleUser S rh r.1).1.ctxDepth = 1 := r3.ctx.trans c1
    rw [recover_of_base c3, ite_self]
    exact ⟨⟨i3, fun _ => u3 i1, c3⟩, t1.trans r3.tr⟩
  · rw [if_neg hcons]
    exact ⟨⟨i1, fun hm => absurd hm hcons, c1⟩, t1⟩

/-- backend() from the moment `start` has been logged: good at the head of the loop after every history, and what it
    logged is one block whose cycle markers are 1, 2, ..., m -/
theorem run_gtc (S : Scripts) (w0 : W) (h : List (List Action)) (f : Fresh w0) :
    ∃ m, GTC (emit w0 .start) (run S w0 h) (List.range' 1 m) :=
  let g0 := startup_good_start S _ (runHook_ok S hookFuel) w0 f
  (runCycles_good S _ (runHook_ok S hookFuel) h 1 _ g0.1).imp fun _ g => g0.toC.trans g

theorem run_good (S : Scripts) (w0 : W) (h : List (List Action)) (f : Fresh w0) : Good (run S w0 h) :=
  (run_gtc S w0 h f).choose_spec.good

/-- **backend_total.**  Starting from the idle driver (no connection at all), for every script oracle `S` (what every
    command, process_input, logon, net_dead, heart_beat, call_out, reset hook does - succeed, raise, raise inside a
    catch, destruct/disconnect itself or others - and what the master's connect() and error handler do: ok / raises /
    raises recursively, switchable at any time), for both modes and for EVERY finite history `h` of external events
    (ticks, connections, partial / complete input, disconnections, console input), the run never reaches `crash`
    (no NULL `all_users` / `master_ob->interactive` dereference, no use of a freed connection record, cursor inside
    the table), and the loop is back at its head with in_error = in_mudlib_error_handler = false and the error-context
    chain at its base.  Since this holds for every `h`, it holds after every cycle (every prefix of a history). -/
theorem backend_total (S : Scripts) (w0 : W) (h : List (List Action)) (f : Fresh w0) :
    (run S w0 h).crashed = none ∧ (run S w0 h).inError = false ∧ (run S w0 h).inMeh = false ∧
    (run S w0 h).ctxDepth = 1 := by
  have g := run_good S w0 h f
  exact ⟨g.inv.crashed, g.inv.inError, g.inv.inMeh, g.base⟩

/-- the same after every cycle, spelled out: for every prefix of the history -/
theorem backend_total_prefix (S : Scripts) (w0 : W) (h : List (List Action)) (k : Nat) (f : Fresh w0) :
    (run S w0 (h.take k)).crashed = none ∧ (run S w0 (h.take k)).inError = false ∧
    (run S w0 (h.take k)).inMeh = false ∧ (run S w0 (h.take k)).ctxDepth = 1 :=
  backend_total S w0 (h.take k) f

/-- a record that an object points to is never freed behind its back: at the head of every cycle every interactive
    pointer refers to a live record, and no two objects share one - so every `ip` that passes VALIDATE_IP is live -/
theorem freed_conn_never_used_run (S : Scripts) (w0 : W) (h : List (List Action)) (f : Fresh w0) (o : Oid) (id : Nat)
    (hi : (run S w0 h).inter o = some id) : (findConn (run S w0 h) id).isSome = true ∧
      useConn (run S w0 h) id = run S w0 h := by
  have g := run_good S w0 h f
  exact ⟨g.inv.live o id hi, useConn_live _ id (g.inv.live o id hi)⟩

end NV.C09
