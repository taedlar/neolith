/-
C09 — NEGATIVE examples for the specification oracle: traces the judge must reject, clause by clause.  Each example
is checked by evaluation.
-/
import NV.C09.Spec

namespace NV.C09

def okTail : List Ev := [.exitLoop, .hbs [], .refs 0 0, .slots 0]

-- clause crash
example : judgeEv {} ([.start, .cycle 1, .crash "sanitizer heap-use-after-free"] ++ okTail) ≠ [] := by decide
example : clauseCrash [.start, .crash "exit 1"] ≠ [] := by decide
example : clauseCrash [.start, .cycle 1, .exitLoop] = [] := by decide

-- clause liveness: no exit line, gap in the cycle numbering, numbering not starting at 1, unexpected shutdown
example : clauseExit {} [.start, .cycle 1, .cycle 2] ≠ [] := by decide
example : clauseCycles [.start, .cycle 1, .cycle 3, .exitLoop] ≠ [] := by decide
example : clauseCycles [.start, .cycle 2, .exitLoop] ≠ [] := by decide
example : clauseCycles [.start, .cycle 1, .cycle 1, .exitLoop] ≠ [] := by decide
example : clauseExit {} [.start, .cycle 1, .exitShutdown] ≠ [] := by decide                       -- network mode
example : clauseExit { console := true } [.start, .tConnect 1, .tLogon (.user 1), .cycle 1, .exitShutdown] ≠ [] := by
  decide                                                                                          -- nobody destructed
example : clauseExit { console := true }
    [.start, .tConnect 1, .tLogon (.user 1), .cycle 1, .xDest (.user 1) (.user 1), .exitShutdown] = [] := by decide

-- clause report: error not reported, reported with the wrong text, report only after another event
example : clauseReport [.tHb (.obj 1), .xErr "o1", .cycle 2] ≠ [] := by decide
example : clauseReport [.tHb (.obj 1), .xErr "o1", .meh false "boom o2"] ≠ [] := by decide
example : clauseReport [.tHb (.obj 1), .xErr "o1", .tHb (.obj 2), .meh false "boom o1"] ≠ [] := by decide
example : clauseReport [.tHb (.obj 1), .xErr "o1", .meh true "boom o1"] ≠ [] := by decide         -- reported as caught
example : clauseReport [.tHb (.obj 1), .xErr "o1"] ≠ [] := by decide                              -- dangling at the end
example : clauseReport [.tHb (.obj 1), .xErr "o1", .meh false "boom o1", .meh false "mehagain"] = [] := by decide

-- clause refs
example : clauseRefs [.exitLoop, .refs 1 0] ≠ [] := by decide
example : clauseRefs [.exitLoop, .refs (-1) 0] ≠ [] := by decide
example : clauseRefs [.exitLoop, .refs 0 2] ≠ [] := by decide

-- clause heartbeats: the failing object still on; a healthy object switched off; nothing observed
example : judgeEv {} [.start, .xHb (.obj 1) 1, .xHb (.obj 2) 1, .cycle 1, .tHb (.obj 1), .xErr "o1",
    .meh false "boom o1", .exitLoop, .hbs ["o1", "o2"], .refs 0 0, .slots 0] ≠ [] := by decide
example : judgeEv {} [.start, .xHb (.obj 1) 1, .xHb (.obj 2) 1, .cycle 1, .tHb (.obj 1), .xErr "o1",
    .meh false "boom o1", .exitLoop, .hbs [], .refs 0 0, .slots 0] ≠ [] := by decide
example : judgeEv {} [.start, .xHb (.obj 1) 1, .cycle 1, .exitLoop, .refs 0 0, .slots 0] ≠ [] := by decide
example : judgeEv {} [.start, .xHb (.obj 1) 1, .xHb (.obj 2) 1, .cycle 1, .tHb (.obj 1), .xErr "o1",
    .meh false "boom o1", .exitLoop, .hbs ["o2"], .refs 0 0, .slots 0] = [] := by decide

-- clause commands: `linesOf` uses String.splitOn (not kernel-reducible); its negative examples are run through the
-- compiled judge on every check (props/c09.py extra_checks: "oracle self-test")

-- clause callouts: scheduled before the closing ticks and never fired
example : judgeEv { coCutoff := 3 } [.start, .cycle 1, .xCo (.obj 1) "p", .cycle 2, .cycle 3, .cycle 4,
    .exitLoop, .hbs [], .refs 0 0, .slots 0] ≠ [] := by decide
example : judgeEv { coCutoff := 3 } [.start, .cycle 1, .xCo (.obj 1) "p", .cycle 2, .tCo (.obj 1) "p", .cycle 3,
    .exitLoop, .hbs [], .refs 0 0, .slots 0] = [] := by decide

-- clause leak: more records than users; a `dest` aimed at a user that does not exist yet must not excuse it
example : judgeEv { conns := [1] } [.start, .cycle 1, .tConnect 1, .xErr "k1", .meh false "boom k1", .cycle 2,
    .exitLoop, .hbs [], .refs 0 0, .slots 1] ≠ [] := by decide
example : judgeEv { conns := [1] } [.start, .xDest (.obj 1) (.user 1), .cycle 1, .tConnect 1, .tLogon (.user 1), .cycle 2,
    .exitLoop, .hbs [], .refs 0 0, .slots 2] ≠ [] := by decide

-- clause disconnect: net_dead for a user whose client never hung up (the stale event of another connection reached
-- it); accepted when that client did close or reset
example : clauseDisconnect { conns := [1, 2] } [.start, .cycle 1, .tConnect 1, .tLogon (.user 1), .cycle 2, .tConnect 2,
    .tLogon (.user 2), .tNetdead (.user 2), .cycle 3, .exitLoop] ≠ [] := by decide
example : judgeEv { conns := [1, 2], closed := [1] } [.start, .cycle 1, .tConnect 1, .tLogon (.user 1), .cycle 2,
    .tNetdead (.user 1), .tConnect 2, .tLogon (.user 2), .tNetdead (.user 2), .cycle 3,
    .exitLoop, .hbs [], .refs 0 0, .slots 0] ≠ [] := by decide
example : clauseDisconnect { conns := [1, 2], closed := [2] } [.start, .cycle 1, .tConnect 1, .tLogon (.user 1), .cycle 2,
    .tConnect 2, .tLogon (.user 2), .tNetdead (.user 2), .cycle 3, .exitLoop] = [] := by decide

-- clause hb-schedule: two beats of one object in one tick; a beat of a destructed object; one beat per tick is fine
example : clauseHbSchedule [.start, .cycle 1, .tHb (.obj 1), .tHb (.obj 2), .tHb (.obj 1), .cycle 2] ≠ [] := by decide
example : clauseHbSchedule [.start, .cycle 1, .tHb (.obj 1), .xDest (.obj 1) (.obj 2), .tHb (.obj 2)] ≠ [] := by decide
example : clauseHbSchedule [.start, .tHb (.obj 1), .cycle 1, .tHb (.obj 1), .tHb (.obj 2), .cycle 2, .tHb (.obj 1)] = [] := by
  decide

-- clause turns: a second command of the same user in one iteration
example : clauseTurns [.start, .cycle 1, .tInput (.user 1) "a", .tCmd (.user 1) "a", .tInput (.user 2) "x", .tCmd (.user 2) "x",
    .tInput (.user 1) "b", .cycle 2] ≠ [] := by decide
example : clauseTurns [.start, .cycle 1, .tInput (.user 1) "a", .tCmd (.user 1) "a", .tInput (.user 2) "x", .tCmd (.user 2) "x",
    .cycle 2, .tInput (.user 1) "b", .tCmd (.user 1) "b"] = [] := by decide

-- clause preload: the file after a failing one was skipped
example : clausePreload { preloads := ["p1", "p2", "p3"] } [.tEpilog, .tPreload "p1", .tPreload "p2", .xErr "p2",
    .meh false "boom p2", .start, .cycle 1, .exitLoop] ≠ [] := by decide
example : clausePreload { preloads := ["p1", "p2", "p3"] } [.tEpilog, .tPreload "p1", .tPreload "p2", .xErr "p2",
    .meh false "boom p2", .tPreload "p3", .start, .cycle 1, .exitLoop] = [] := by decide
-- ... and a file loaded only after backend() was entered does not count
example : clausePreload { preloads := ["p1"] } [.tEpilog, .start, .tPreload "p1", .cycle 1, .exitLoop] ≠ [] := by decide

-- clause isolation (the string-level examples are in the plugin's oracle self-test): a line delivered in iteration 3
-- and served in iteration 10 is late for bound 4; served in iteration 4 it is not; waiting behind the user's OWN
-- earlier lines does not count
example : lateLine 4 1 0 [3] [10] = some (1, 7) := by decide
example : lateLine 4 1 0 [3] [4] = none := by decide
example : lateLine 4 1 0 [3, 3, 3, 3, 3, 3, 3, 3] [3, 4, 5, 6, 7, 8, 9, 10] = none := by decide
example : servedCycles (.user 2) 0 [.start, .cycle 1, .tInput (.user 1) "a", .cycle 2, .tInput (.user 2) "x",
    .tIt (.user 2) "s" "y"] = [2, 2] := by decide

-- clause sweep: the same object's reset() twice in one tick (the sweep spins); once per tick is fine, also together with
-- its clean_up(); the verdict survives a cut-off trace
example : clauseSweep [.start, .cycle 1, .tReset (.obj 1), .xErr "o1", .meh false "boom o1", .tReset (.obj 1)] ≠ [] := by decide
example : clauseSweep [.start, .tReset (.obj 1), .cycle 1, .tReset (.obj 1), .tCleanup (.obj 1), .tReset (.obj 2), .cycle 2,
    .tReset (.obj 1)] = [] := by decide
example : (judgeEv {} [.start, .cycle 1, .tReset (.obj 1), .xErr "o1", .meh false "boom o1", .tReset (.obj 1),
    .crash "trace-truncated"]).length = 2 := by decide

end NV.C09
