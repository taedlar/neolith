/-
C09 — preload_objects(): the fourth recovery point of the property's mechanism list.  Whatever files fail to load,
under every master error_handler behaviour, every file epilog() named is handed to preload() exactly once and in
order; the error path leaves the flags clear and the idle driver idle, so `backend_total` applies to the state
backend() is entered with.  The oracle's clause `preload` holds on the full run; the clauses crash / report / cycle
markers of TraceThms are re-derived for runs that begin with a preload phase (`preloadObjects_step`: the phase logs
one well-formed block).  Every statement about the phase follows from its exact log, `preloadObjects_logs`.
-/
import NV.C09.TraceThms

namespace NV.C09

theorem preloaded_append (a b : List Ev) : preloaded (a ++ b) = preloaded a ++ preloaded b := by
  unfold preloaded; exact List.filterMap_append

/-- what preload() of one file logs: the attempt, and for a file that fails to load the error and its report -/
def preloadLog : List (String × Bool) → List Ev
  | [] => []
  | (name, true) :: fs => .tPreload name :: .xErr name :: .meh false s!"boom {name}" :: preloadLog fs
  | (name, false) :: fs => .tPreload name :: preloadLog fs

theorem preloaded_preloadLog : ∀ fs : List (String × Bool), preloaded (preloadLog fs) = fs.map (·.1)
  | [] => rfl
  | (name, true) :: fs => congrArg (name :: ·) (preloaded_preloadLog fs)
  | (name, false) :: fs => congrArg (name :: ·) (preloaded_preloadLog fs)

theorem preloadLog_noStart : ∀ fs : List (String × Bool), Ev.start ∉ preloadLog fs
  | [] => List.not_mem_nil
  | (name, true) :: fs => by
    simp only [preloadLog, List.mem_cons, reduceCtorEq, false_or]; exact preloadLog_noStart fs
  | (name, false) :: fs => by
    simp only [preloadLog, List.mem_cons, reduceCtorEq, false_or]; exact preloadLog_noStart fs

/-- the loop over the files, whichever of them fail and whatever the master's error handler does -/
theorem preloadFiles_logs : ∀ (fs : List (String × Bool)) (w : W), Logs w (preloadFiles fs w) (preloadLog fs)
  | [], w => Logs.refl w
  | (name, true) :: fs, w =>
    ((Logs.emit w (.tPreload name)).trans (raise_logs _ name)).trans (preloadFiles_logs fs _)
  | (name, false) :: fs, w => (Logs.emit w (.tPreload name)).trans (preloadFiles_logs fs _)

/-- **every file, exactly once, in order** - whichever of them fail to load, for every master error_handler
    behaviour: the chronological list of `t preload` events grows by exactly the names epilog() returned; the flags are
    clear again afterwards -/
theorem preloadFiles_visits_all : ∀ (fs : List (String × Bool)) (w : W), w.inError = false → w.inMeh = false →
    preloaded (preloadFiles fs w).trace.reverse = preloaded w.trace.reverse ++ fs.map (·.1) ∧
    (preloadFiles fs w).inError = false ∧ (preloadFiles fs w).inMeh = false := by
  intro fs w h1 h2
  have l := preloadFiles_logs fs w h1 h2
  exact ⟨by rw [l.trace, preloaded_append, preloaded_preloadLog], l.inError, l.inMeh⟩

/-- preload_objects(): epilog() is announced first; then either its error and the report, or the files -/
theorem preloadObjects_logs (e : Bool) (files : List (String × Bool)) (w : W) :
    Logs w (preloadObjects e files w)
      (.tEpilog :: (if e then [.xErr "epilog", .meh false "boom epilog"] else preloadLog files)) := by
  unfold preloadObjects
  cases e with
  | true => exact Logs.bracket ((Logs.emit _ .tEpilog).trans (raise_logs _ "epilog"))
  | false => exact (Logs.bracket (Logs.emit _ .tEpilog)).trans (Logs.bracket (preloadFiles_logs files _))

theorem preloadLog_block : ∀ fs : List (String × Bool), BlockOK (preloadLog fs).reverse
  | [] => BlockOK.nil
  | (name, true) :: fs => by
    simp only [preloadLog, List.reverse_cons, List.append_assoc]
    exact ((BlockOK.single (.tPreload name) rfl).append (BlockOK.raise name)).append (preloadLog_block fs)
  | (name, false) :: fs => by
    simp only [preloadLog, List.reverse_cons]
    exact (BlockOK.single (.tPreload name) rfl).append (preloadLog_block fs)

theorem preloadObjects_block (e : Bool) (files : List (String × Bool)) :
    BlockOK (Ev.tEpilog :: (if e then [.xErr "epilog", .meh false "boom epilog"] else preloadLog files)).reverse := by
  rw [List.reverse_cons]
  cases e with
  | true => exact (BlockOK.single .tEpilog rfl).append (BlockOK.raise "epilog")
  | false => exact (BlockOK.single .tEpilog rfl).append (preloadLog_block files)

/-- preload_objects() keeps the invariant and logs one well-formed block (every `x err` directly followed by its
    report, no crash event, no cycle marker) -/
theorem preloadObjects_step (e : Bool) (files : List (String × Bool)) (w : W) : Step w (preloadObjects e files w) :=
  (preloadObjects_logs e files w).step (preloadObjects_block e files)

theorem preload_visits_every_file (files : List (String × Bool)) (w : W) (h1 : w.inError = false)
    (h2 : w.inMeh = false) :
    preloaded (preloadObjects false files w).trace.reverse = preloaded w.trace.reverse ++ files.map (·.1) := by
  rw [(preloadObjects_logs false files w h1 h2).trace, preloaded_append]
  exact congrArg _ (preloaded_preloadLog files)

/-- an error in epilog() itself: reported, nothing is preloaded -/
theorem preload_epilog_error_loads_nothing (files : List (String × Bool)) (w : W) (h1 : w.inError = false)
    (h2 : w.inMeh = false) :
    preloaded (preloadObjects true files w).trace.reverse = preloaded w.trace.reverse := by
  rw [(preloadObjects_logs true files w h1 h2).trace, preloaded_append]
  exact List.append_nil _

theorem Fresh.popCtx {w : W} (f : Fresh w) : Fresh (popCtx w) := ⟨f.users, f.inter, f.inError, f.inMeh, f.crashed, f.nextUser⟩

/-- preload_objects() - with any files failing, even epilog() itself - hands an idle driver to backend():
    `backend_total` applies to everything that follows -/
theorem preload_keeps_fresh (e : Bool) (files : List (String × Bool)) (w : W) (f : Fresh w) :
    Fresh (preloadObjects e files w) := by
  have s := (preloadObjects_logs e files w).same (preloadObjects_block e files) f.inError f.inMeh
  exact ⟨s.users.trans f.users, fun o => by rw [s.inter]; exact f.inter o, s.inError.trans f.inError,
    s.inMeh.trans f.inMeh, s.crashed.trans f.crashed, s.nextUser.trans f.nextUser⟩

/-- nothing preload_objects() logs is the `start` event of backend() -/
theorem preloadObjects_noStart (files : List (String × Bool)) (w : W) (h1 : w.inError = false) (h2 : w.inMeh = false)
    (ht : w.trace = []) : ∀ e ∈ (preloadObjects false files w).trace.reverse, e ≠ Ev.start := by
  rw [(preloadObjects_logs false files w h1 h2).trace, ht]
  intro e he
  rcases List.mem_cons.mp he with h | h
  · rw [h]; exact Ev.noConfusion
  · exact fun hs => preloadLog_noStart files (hs ▸ h)

theorem beforeStart_prefix (a b : List Ev) (h : ∀ e ∈ a, e ≠ Ev.start) : beforeStart (a ++ Ev.start :: b) = a :=
  (List.takeWhile_append_of_pos fun e he => bne_iff_ne.mpr (h e he)).trans
    (by rw [List.takeWhile_cons_of_neg (by decide), List.append_nil])

/-- the oracle's `preload` clause holds on the model's preload phase, for every list of files and failures -/
theorem judge_preload_phase (files : List (String × Bool)) (w : W) (h1 : w.inError = false) (h2 : w.inMeh = false)
    (ht : w.trace = []) :
    preloaded (preloadObjects false files w).trace.reverse = files.map (·.1) := by
  rw [preload_visits_every_file files w h1 h2, ht]
  simp [preloaded]

/-- **clause `preload` of the oracle, all file lists x all failures x all histories x all oracles:** preload_objects()
    with any files failing, then the whole run of backend() on any history: the judge's `preload` clause accepts the
    model's trace -/
theorem judge_preload_clause (S : Scripts) (w : W) (files : List (String × Bool)) (h : List (List Action))
    (f : Fresh w) (ht : w.trace = []) :
    clausePreload { preloads := files.map (·.1) } (events S (preloadObjects false files w) h) = [] := by
  obtain ⟨es, he, _⟩ := runFull_block_start S (preloadObjects false files w) h (preload_keeps_fresh false files w f)
  have hns := preloadObjects_noStart files w f.inError f.inMeh ht
  have hb : beforeStart (events S (preloadObjects false files w) h) = (preloadObjects false files w).trace.reverse := by
    unfold events
    rw [he, List.reverse_append, List.reverse_cons, List.append_assoc]
    exact beforeStart_prefix _ _ hns
  unfold clausePreload
  rw [hb, judge_preload_phase files w f.inError f.inMeh ht]
  simp

/-- start-up with failing preloads, then ANY history: the driver never crashes and the flags are clear -/
theorem backend_total_after_preload (S : Scripts) (w0 : W) (e : Bool) (files : List (String × Bool))
    (h : List (List Action)) (f : Fresh w0) :
    (run S (preloadObjects e files w0) h).crashed = none ∧ (run S (preloadObjects e files w0) h).inError = false ∧
    (run S (preloadObjects e files w0) h).inMeh = false :=
  let t := backend_total S (preloadObjects e files w0) h (preload_keeps_fresh e files w0 f)
  ⟨t.1, t.2.1, t.2.2.1⟩

/-- non-vacuity: three files, two of them failing, every one is visited -/
example : preloaded (preloadObjects false [("p1", true), ("p2", false), ("p3", true)] {}).trace.reverse = ["p1", "p2", "p3"] := by
  rw [preload_visits_every_file _ _ rfl rfl]; rfl

theorem preload_block (e : Bool) (files : List (String × Bool)) (w : W) (f : Fresh w) (ht : w.trace = []) :
    BlockOK (preloadObjects e files w).trace := by
  obtain ⟨es, he, hb⟩ := (preloadObjects_step e files w f.inv).2.tr
  rw [he, ht, List.append_nil]; exact hb

/-- **clause `crash`**, preload phase included -/
theorem judge_crash_clause_preload (S : Scripts) (w : W) (e : Bool) (files : List (String × Bool))
    (h : List (List Action)) (f : Fresh w) (ht : w.trace = []) :
    clauseCrash (events S (preloadObjects e files w) h) = [] :=
  clauseCrash_block (runFull_blockC S _ h (preload_keeps_fresh e files w f) (preload_block e files w f ht).toC)

/-- **clause `report`**, preload phase included: an error while a file is preloaded (or in epilog()) is reported to
    the master like every other uncaught error -/
theorem judge_report_clause_preload (S : Scripts) (w : W) (e : Bool) (files : List (String × Bool))
    (h : List (List Action)) (f : Fresh w) (ht : w.trace = []) :
    clauseReport (events S (preloadObjects e files w) h) = [] :=
  clauseReport_block (runFull_blockC S _ h (preload_keeps_fresh e files w f) (preload_block e files w f ht).toC)

/-- **clause `liveness` (cycle markers)**, preload phase included -/
theorem judge_cycles_clause_preload (S : Scripts) (w : W) (e : Bool) (files : List (String × Bool))
    (h : List (List Action)) (f : Fresh w) (ht : w.trace = []) :
    clauseCycles (events S (preloadObjects e files w) h) = [] :=
  clauseCycles_markers (runFull_markers S _ h (preload_keeps_fresh e files w f)
    (markers_noCycle _ (preload_block e files w f ht).noCycle)).choose_spec

end NV.C09
