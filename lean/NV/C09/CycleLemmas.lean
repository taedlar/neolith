/-
C09 — process_io() keeps the invariant: connect / logon / accept, the input path with the snooper's callback, one event,
one batch.
-/
import NV.C09.HookLemmas

namespace NV.C09

theorem mudlibConnect_cstep (S : Scripts) (w : W) : CStep w (mudlibConnect S w).1 := by
  -- the attempt is counted and logged first: nothing the invariant looks at changes
  have s0 : Step w (emit { w with nConnect := w.nConnect + 1, masterRef := w.masterRef + 1 } (.tConnect (w.nConnect + 1))) :=
    Step.logged rfl rfl
  unfold mudlibConnect
  simp only []
  generalize emit { w with nConnect := w.nConnect + 1, masterRef := w.masterRef + 1 } (.tConnect (w.nConnect + 1)) = w0
    at s0 ⊢
  refine CStep.trans s0.toC ?_
  cases S.connect (w.nConnect + 1) with
  | err => exact (Step.bracket (raise_step _ _)).toC
  | rej => exact CStep.refl _
  | ok =>
    simp only []
    cases hid : w0.inter .master with
    | none => exact CStep.refl _
    | some id =>
      simp only []
      -- the new user object is counted; then the record moves from the master to it
      have s1 : Step w0 { w0 with nUser := w0.nUser + 1, masterRef := w0.masterRef - 1 } := Step.silent rfl rfl
      have hid1 : ({ w0 with nUser := w0.nUser + 1, masterRef := w0.masterRef - 1 } : W).inter .master = some id := hid
      generalize ({ w0 with nUser := w0.nUser + 1, masterRef := w0.masterRef - 1 } : W) = w1 at s1 hid1 ⊢
      refine CStep.trans s1.toC (fun inv1 => ?_)
      have inv2 := setInter_inv w1 .master none (fun _ e => nomatch e) inv1
      have inv3 := setInter_inv (setInter w1 .master none) (.user (w0.nUser + 1)) (some id) (fun id' e => by
        rw [← Option.some.inj e]
        refine ⟨inv1.live .master id hid1, fun o' ho' => ?_⟩
        rcases setInter_get ho' with ⟨_, e⟩ | ⟨hm, e⟩
        · cases e
        · exact absurd (inv1.inj o' .master id e hid1) hm) inv2
      obtain ⟨inv4, r4⟩ := mapConn_step _ id (bindTo (.user (w0.nUser + 1))) (fun _ => rfl) (fun _ h => h) inv3
      exact ⟨inv4, r4.toCRel.alloc, r4.mode, r4.ctx, r4.tr⟩

theorem logonHook_step (rh : HookFn) (hrh : HookOK rh) (w : W) (u : Oid) : Step w (logonHook rh w u).1 :=
  Step.bracket (Step.trans (Step.trans (emit_step _ _) (addOut_step _ _ _)) (hrh _ _ _))

theorem afterConnect_cstep (S : Scripts) (rh : HookFn) (hrh : HookOK rh) (w : W) :
    CStep w (afterConnect S rh w).1 := by
  have h := mudlibConnect_cstep S w
  unfold afterConnect
  dsimp only
  refine ite_fst_both h ?_
  cases (mudlibConnect S w).2.1 with
  | none =>
    cases (mudlibConnect S w).1.inter .master with
    | some _ => exact CStep.trans h (Step.toC (removeInteractive_step rh hrh _ _ _))
    | none => exact h
  | some u => exact CStep.trans h (Step.toC (logonHook_step rh hrh _ _))

theorem acceptConn_cstep (S : Scripts) (rh : HookFn) (hrh : HookOK rh) (w : W) (client : Nat) :
    CStep w (acceptConn S rh w client).1 := by
  have h := newInteractive_cstep w false client
  unfold acceptConn
  dsimp only
  cases (newInteractive w false client).2 with
  | none => exact h
  | some _ => exact CStep.trans h (afterConnect_cstep S rh hrh _)

/-- init_console_user() with the console slot free: a step, and the table exists afterwards -/
theorem initConsoleUser_cstep (S : Scripts) (rh : HookFn) (hrh : HookOK rh) (w : W)
    (h : (slots w).headD none = none) :
    CStep w (initConsoleUser S rh w).1 ∧ (Inv w → (initConsoleUser S rh w).1.users.isSome = true) := by
  have hi := newInteractive_console w 0 h
  have h1 := newInteractive_cstep w true 0
  unfold initConsoleUser
  dsimp only
  cases hn : (newInteractive w true 0).1.inter .master with
  | none => rw [hn] at hi; cases hi.1
  | some _ =>
    have h2 := afterConnect_cstep S rh hrh (newInteractive w true 0).1
    exact ⟨CStep.trans h1 h2, fun i => (h2 (h1 i).1).2.alloc hi.2⟩

theorem snoopHook_step (rh : HookFn) (hrh : HookOK rh) (w : W) (id : Nat) : Step w (snoopHook rh w id) := by
  unfold snoopHook
  cases findConn w id with
  | none => exact Step.refl w
  | some c =>
    dsimp only
    cases c.snoopBy with
    | none => exact Step.refl w
    | some s => exact Step.bracket (Step.trans (emit_step _ (.tSnoop s)) (hrh _ _ _))

theorem echoLoop_step (rh : HookFn) (hrh : HookOK rh) : ∀ (n : Nat) (w : W) (id : Nat) (ob : Oid),
    Step w (echoLoop rh n w id ob)
  | 0, w, _, _ => Step.refl w
  | n + 1, w, id, ob =>
    have h1 : Step w (snoopHook rh (addOut w ob "|") id) := Step.trans (addOut_step _ _ _) (snoopHook_step rh hrh _ _)
    ite_both h1 (Step.trans h1 (echoLoop_step rh hrh n _ _ _))

theorem userData_step (rh : HookFn) (hrh : HookOK rh) (w : W) (id : Nat) (telnet : Bool) (text : String) :
    Step w (userData rh w id telnet text) := by
  unfold userData
  cases findConn w id with
  | none => exact Step.refl w
  | some c =>
    have h1 := echoLoop_step rh hrh ((splitLines c.part text).1.filter (· ≠ "")).length w id c.ob
    have h2 := Step.trans h1 (mapConn_step _ id
      (bufferText ((splitLines c.part text).1.filter (· ≠ "")) (splitLines c.part text).2) (fun _ => rfl) (fun _ h => h))
    exact ite_both (ite_both h1 (ite_both (Step.trans h2 (snoopHook_step rh hrh _ _)) h2))
      (mapConn_step w id (bufferText _ _) (fun _ => rfl) (fun _ h => h))

/-- `is_interactive_user (evt->context)` and the validation of the record before a connection event is handled -/
theorem validated_cstep (w : W) (id : Nat) (f : Conn → W × Bool) (hf : ∀ c, CStep w (f c).1) :
    CStep w (match findConn w id with
      | none => (w, false)
      | some c => if w.dead c.ob || w.inter c.ob ≠ some c.id then (w, false) else f c).1 := by
  cases findConn w id with
  | none => exact CStep.refl w
  | some c => exact ite_fst_both (CStep.refl w) (hf c)

theorem ioEvent_cstep (S : Scripts) (rh : HookFn) (hrh : HookOK rh) (w : W) (e : IoEv)
    (hc : ∀ t, e = .console t → w.users.isSome = true) : CStep w (ioEvent S rh w e).1 := by
  cases e with
  | wakeup => exact CStep.refl w
  | accept client => exact acceptConn_cstep S rh hrh w client
  | data id text => exact validated_cstep w id _ (fun c => Step.toC (userData_step rh hrh _ _ _ _))
  | eof id => exact validated_cstep w id _ (fun c => Step.toC (removeInteractive_step rh hrh _ _ _))
  | hup id => exact validated_cstep w id _ (fun c => Step.toC (removeInteractive_step rh hrh _ _ _))
  | console text =>
    unfold ioEvent
    cases hl : w.users with
    | none => have := hc text rfl; rw [hl] at this; cases this
    | some l =>
      dsimp only
      have h1 : CStep w (if (l.headD none).isNone = true then initConsoleUser S rh w else (w, false)).1 := by
        by_cases hn : (l.headD none).isNone = true
        · rw [if_pos hn]
          refine (initConsoleUser_cstep S rh hrh w ?_).1
          unfold slots; rw [hl]
          show l.headD none = none
          cases hh : l.headD none with
          | none => rfl
          | some c => rw [hh] at hn; cases hn
        · rw [if_neg hn]; exact CStep.refl w
      generalize (if (l.headD none).isNone = true then initConsoleUser S rh w else (w, false)) = r at h1 ⊢
      refine ite_fst_both h1 ?_
      cases (slots r.1).headD none with
      | none => exact h1
      | some c => exact CStep.trans h1 (Step.toC (userData_step rh hrh _ _ _ _))

theorem processIoEvents_cstep (S : Scripts) (rh : HookFn) (hrh : HookOK rh) :
    ∀ (evs : List IoEv) (w : W), (∀ t, IoEv.console t ∈ evs → w.users.isSome = true) →
      CStep w (processIoEvents S rh evs w).1
  | [], w, _ => CStep.refl w
  | e :: es, w, hc => by
    have h1 := ioEvent_cstep S rh hrh w e (fun t ht => hc t (by rw [ht]; exact List.mem_cons_self))
    refine ite_fst_both h1 (fun inv => ?_)
    obtain ⟨i1, r1⟩ := h1 inv
    obtain ⟨i2, r2⟩ := processIoEvents_cstep S rh hrh es (ioEvent S rh w e).1
      (fun t ht => r1.alloc (hc t (List.mem_cons_of_mem _ ht))) i1
    exact ⟨i2, r1.trans r2⟩

theorem processIo_cstep (S : Scripts) (rh : HookFn) (hrh : HookOK rh) (w : W) (evs : List IoEv)
    (hc : ∀ t, IoEv.console t ∈ evs → w.users.isSome = true) : CStep w (processIo S rh w evs).1 := by
  have h := processIoEvents_cstep S rh hrh evs w hc
  unfold processIo
  dsimp only
  refine ite_fst_both h ?_
  cases (processIoEvents S rh evs w).1.users <;> exact h

end NV.C09
