/-
C09 — several I/O events delivered by ONE poll (process_io() works through g_io_events[]): every batch, in every
order, keeps the invariant; an entry whose record was freed by an earlier entry of the same batch is skipped and can
never reach a younger record (serials are never reused - in the C code: remove_interactive() clears the context of the
entries still waiting, fix commit); entries abandoned by a longjmp out of process_io() are exactly the ones behind the
failing entry (`abandoned_spec`: nothing before it is repeated, nothing behind it is lost).

Also here, each a statement about one function of the model: the rotating start slot of get_user_command() moves past the
user it serves (`cursor_moves_past_served_user`); the input path of a snooped user; input_to(); the quirks of the
object sweep (reset / clean_up).
-/
import NV.C09.Total

namespace NV.C09

/-- an event only ever reaches the record it was registered for -/
theorem findConn_id (w : W) (id : Nat) (c : Conn) (h : findConn w id = some c) : c.id = id :=
  findIn_id (slots w) id c h

/-- `is_interactive_user (evt->context)` fails for a stale entry: process_io() goes on with the next one, nothing is
    touched (all three kinds of connection events) -/
theorem stale_event_skipped (S : Scripts) (rh : HookFn) (w : W) (id : Nat) (t : String) (h : findConn w id = none) :
    ioEvent S rh w (.data id t) = (w, false) ∧ ioEvent S rh w (.eof id) = (w, false) ∧
    ioEvent S rh w (.hup id) = (w, false) := by
  -- each of the three handlers begins with `match findConn w id`: `h` selects its `none` arm
  refine ⟨?_, ?_, ?_⟩ <;> rw [ioEvent, h]

/-- after the end of remove_interactive() every entry of the batch that still carries the freed record's context is
    stale (and therefore skipped, `stale_event_skipped`) -/
theorem freed_record_events_are_stale (w : W) (o : Oid) (id client : Nat) (l : List (Option Conn))
    (h : w.users = some l) : findConn (freeConnOf w o id client) id = none := by
  obtain ⟨x, y, z, e⟩ := freeConnOf_eq w o id client l h
  rw [e]; exact (findIn_freeSlot id l id).trans (if_pos rfl)

/-- the serial of a record that new_interactive() creates is the allocation counter: under the invariant no record -
    live or freed - was ever given it, so no entry of the current batch (resolved when the poll returned) can carry it -/
theorem accept_serial_fresh (w : W) (console : Bool) (client : Nat) (id' : Nat)
    (h : (newInteractive w console client).2 = some id') : id' = w.nextConnId := by
  rcases newInteractive_spec w console client with ⟨_, _, e⟩ | ⟨l', i, c, a⟩
  · rw [e] at h; cases h
  · rw [a.eq] at h; exact (Option.some.inj h).symm.trans a.serial

/-- every connection entry the poll reports was resolved to a LIVE record at that moment ... -/
theorem applyAction_resolved (w : W) (a : Action) (e : IoEv) (he : e ∈ (applyAction w a).2) :
    match e with
    | .data id _ | .eof id | .hup id => (findConn w id).isSome = true
    | _ => True := by
  have h := applyAction_events w a e he
  cases e <;> first | exact h | trivial

/-- ... hence carries a serial below the allocation counter: together with `accept_serial_fresh` a pending entry and
    a record accepted later in the same batch never have the same identity -/
theorem pending_entry_older_than_any_accept (w : W) (i : Inv w) (id : Nat) (h : (findConn w id).isSome = true) :
    id < w.nextConnId := by
  apply Nat.lt_of_not_le
  intro hle
  rw [i.bound id hle] at h
  simp at h

/-- process_io() over a batch: either every entry was handled and nothing is abandoned, or the batch is
    `pre ++ e :: post` where `pre` was handled without an uncaught error, the handler of `e` left by longjmp, and
    exactly `post` is abandoned -/
theorem abandoned_spec (S : Scripts) (rh : HookFn) : ∀ (evs : List IoEv) (w : W),
    ((processIoEvents S rh evs w).2 = false ∧ abandoned S rh evs w = []) ∨
    ((processIoEvents S rh evs w).2 = true ∧ ∃ pre e, evs = pre ++ e :: abandoned S rh evs w ∧
      (processIoEvents S rh pre w).2 = false ∧ (ioEvent S rh (processIoEvents S rh pre w).1 e).2 = true)
  | [], _ => .inl ⟨rfl, rfl⟩
  | e :: es, w => by
    by_cases h : (ioEvent S rh w e).2 = true
    · have hp : processIoEvents S rh (e :: es) w = ((ioEvent S rh w e).1, true) := if_pos h
      have ha : abandoned S rh (e :: es) w = es := if_pos h
      rw [hp, ha]
      exact .inr ⟨rfl, [], e, rfl, rfl, h⟩
    · -- `e` is handled: both functions go on with the rest, and `e` joins the handled prefix
      have hp : ∀ l, processIoEvents S rh (e :: l) w = processIoEvents S rh l (ioEvent S rh w e).1 := fun _ => if_neg h
      have ha : abandoned S rh (e :: es) w = abandoned S rh es (ioEvent S rh w e).1 := if_neg h
      rw [hp, ha]
      refine (abandoned_spec S rh es _).imp id (And.imp_right ?_)
      rintro ⟨pre, x, he, h1, h2⟩
      exact ⟨e :: pre, x, congrArg (e :: ·) he, by rw [hp]; exact h1, by rw [hp]; exact h2⟩

/-- a longjmp out of process_io() abandons exactly a suffix of the batch -/
theorem abandoned_suffix (S : Scripts) (rh : HookFn) : ∀ (evs : List IoEv) (w : W), abandoned S rh evs w <:+ evs := by
  intro evs w
  rcases abandoned_spec S rh evs w with ⟨_, h⟩ | ⟨_, pre, e, h, _⟩
  · rw [h]; exact List.nil_suffix
  · exact ⟨pre ++ [e], by rw [List.append_assoc]; exact h.symm⟩

/-- without an uncaught error nothing is abandoned -/
theorem abandoned_nil_of_ok (S : Scripts) (rh : HookFn) : ∀ (evs : List IoEv) (w : W),
    (processIoEvents S rh evs w).2 = false → abandoned S rh evs w = [] :=
  fun evs w h => (abandoned_spec S rh evs w).elim And.right fun h' => absurd (h'.1.symm.trans h) Bool.noConfusion

/-- **every batch, every order:** whatever list of events one poll reports - any number of accepts, data, end of file,
    hang-ups, console lines and timer wake-ups for any connections, in any order (in particular every permutation of a
    given batch), stale entries included - process_io() keeps the invariant: no NULL / freed-record access, flags
    clear, context chain at its base -/
theorem batch_any_order_good (S : Scripts) (rh : HookFn) (hrh : HookOK rh) (w : W) (g : Good w)
    (evs evs' : List IoEv) (_hp : evs'.Perm evs) (hc : ∀ t, IoEv.console t ∈ evs → w.mode = .console) :
    Good (processIo S rh w evs').1 ∧ (processIo S rh w evs').1.crashed = none := by
  have hc' : ∀ t, IoEv.console t ∈ evs' → w.users.isSome = true :=
    fun t ht => g.console (hc t (_hp.mem_iff.mp ht))
  have := g.cstep (processIo_cstep S rh hrh w evs' hc')
  exact ⟨this, this.inv.crashed⟩

/-- non-vacuity: a batch of three with a stale entry; the hang-up of connection 1 arrives after the net_dead of user 2
    destructed user 1 and an accept took a new record -/
example : ∃ evs : List IoEv, evs.length = 3 ∧ evs.Perm [.hup 1, .accept 3, .eof 2] := ⟨[.eof 2, .accept 3, .hup 1], rfl, by decide⟩

/-- **the start slot moves past the user that is served** - also when more of his commands are buffered, so a user whose
    commands keep failing (the longjmp to backend() restarts the iteration) cannot keep the search at his own slot: the
    next iteration starts BEHIND him (the seeded change C09-5 broke exactly this; the oracle's `isolation` clause is the
    observable consequence).  `i` is the slot the served record sits in. -/
theorem cursor_moves_past_served_user : ∀ (n : Nat) (w : W) (c : Conn), (scanUsers n w).2 = some c →
    ∃ l i, w.users = some l ∧ l[i]? = some (some c) ∧
      (scanUsers n w).1.nextUser = (if i = 0 then l.length - 1 else i - 1) := by
  intro n
  induction n with
  | zero => intro w c h; cases h
  | succ n ih =>
    intro w c h
    rcases Option.eq_none_or_eq_some w.users with hu | ⟨l, hu⟩
    · unfold scanUsers at h; rw [hu] at h; cases h
    · -- a miss moves the cursor and searches on in the same table
      have miss := ih (decCursor l.length w) c
      rw [scanUsers_succ n w l hu] at h ⊢
      cases hs : l[w.nextUser]? with
      | none => rw [hs] at h; cases h
      | some s =>
        rw [hs] at h
        cases s with
        | none => exact miss h
        | some d =>
          dsimp only at h ⊢
          by_cases hc : (!d.cmds.isEmpty && d.turn) = true
          · rw [if_pos hc] at h ⊢
            exact ⟨l, w.nextUser, hu, hs.trans (congrArg some h), rfl⟩
          · rw [if_neg hc] at h ⊢
            exact miss h

/-- **the whole input path of a snooped user** - CR LF echo with the snooper's receive_snoop() after every line, the
    re-validation, buffering, the raw input shown to the snooper last - keeps the invariant whatever the snooper's
    callback does (destructs / disconnects the typing user, itself, anybody; raises; snoops somebody else), for every
    script oracle, every packet and every nesting depth -/
theorem snoop_input_path_safe (S : Scripts) (fuel : Nat) (w : W) (id : Nat) (telnet : Bool) (text : String)
    (i : Inv w) : Inv (userData (runHook S fuel) w id telnet text) :=
  (userData_step (runHook S fuel) (runHook_ok S fuel) w id telnet text i).1

/-- copy_chars() gives up when the snooper removed the user during the echo: nothing of the packet is buffered and
    nothing is done with the record any more -/
theorem packet_dropped_when_user_gone (rh : HookFn) (w : W) (id : Nat) (text : String) (c : Conn)
    (hc : findConn w id = some c)
    (hg : (echoLoop rh ((splitLines c.part text).1.filter (· ≠ "")).length w id c.ob).inter c.ob ≠ some id) :
    userData rh w id true text = echoLoop rh ((splitLines c.part text).1.filter (· ≠ "")).length w id c.ob := by
  unfold userData
  rw [hc]
  simp only [if_true]
  rw [if_pos hg]

/-- remove_interactive(): once a user's record is gone nobody is recorded as snooped by that user any more -/
theorem removed_snooper_leaves_no_link (w : W) (o : Oid) (id : Nat) (c : Conn)
    (h : findConn (clearSnoopers w o) id = some c) : c.snoopBy ≠ some o := by
  unfold clearSnoopers at h
  rw [findConn_mapAll w _ (snoopUnlink_id o)] at h
  cases hc : findConn w id with
  | none => rw [hc] at h; simp at h
  | some d =>
    rw [hc] at h
    simp only [Option.map_some, Option.some.injEq] at h
    rw [← h]
    unfold snoopUnlink
    split
    · simp
    · assumption

/-- new_set_snoop(): a snoop that would close a loop is refused, nothing changes -/
theorem snoop_loop_refused (w : W) (me you : Oid) (h : snoopLoop (slots w).length w me you = true) :
    setSnoop w me you = w := by
  unfold setSnoop
  by_cases h0 : (me = you || w.dead you) = true
  · rw [if_pos h0]
  · rw [if_neg h0]
    cases w.inter me with
    | none => rfl
    | some _ =>
      cases w.inter you with
      | none => rfl
      | some idy => exact if_pos h

/-- call_function_interactive(): when the callback starts, `ip->input_to` is already cleared - the callback may arm a
    new input_to(), and an error inside it leaves no stale sentence behind that would swallow the next line -/
theorem input_to_cleared_before_callback (w : W) (id : Nat) (e : Ev) :
    inputToOf (emit (mapConn w id clearInputTo) e) id = none := by
  unfold inputToOf
  have h : findConn (emit (mapConn w id clearInputTo) e) id = findConn (mapConn w id clearInputTo) id := rfl
  rw [h, findConn_mapConn w id clearInputTo (fun _ => rfl) id]
  cases hc : findConn w id with
  | none => rfl
  | some c =>
    have := findConn_id w id c hc
    simp [this, clearInputTo]

/-- set_call(): a second input_to() while one is pending is refused - the first stays -/
theorem input_to_first_wins (t1 t2 : String) (c : Conn) (h : c.inputTo = some t1) : (armInputTo t2 c).inputTo = some t1 := by
  unfold armInputTo; simp [h]

/-- the line of a user with a pending input_to() goes to the callback only: neither process_input nor the command
    parser see it - the step is the callback, the re-validation and the prompt, nothing else -/
theorem input_to_takes_the_line (rh : HookFn) (w : W) (cg : Oid) (id : Nat) (line tag : String) :
    (inputToCommand rh w cg id line tag).1 =
      (if (rh (emit (mapConn w id clearInputTo) (.tIt cg tag line)) cg (.it tag)).2 then
         (rh (emit (mapConn w id clearInputTo) (.tIt cg tag line)) cg (.it tag)).1
       else if (rh (emit (mapConn w id clearInputTo) (.tIt cg tag line)) cg (.it tag)).1.inter cg ≠ some id then
         (rh (emit (mapConn w id clearInputTo) (.tIt cg tag line)) cg (.it tag)).1
       else (promptStage rh (useConn (rh (emit (mapConn w id clearInputTo) (.tIt cg tag line)) cg (.it tag)).1 id)
               cg id).1) := by
  unfold inputToCommand
  simp only []
  split
  · rfl
  · split <;> rfl

/-- the prompt (and the write_prompt() apply) is suppressed while an input_to() is pending -/
theorem no_prompt_while_input_to_pending (rh : HookFn) (w : W) (cg : Oid) (id : Nat)
    (h : (inputToOf w id).isSome = true) : promptStage rh w cg id = (w, false) := by
  unfold promptStage
  by_cases hm : cg = .master
  · rw [if_pos hm]
  · rw [if_neg hm, if_pos h]

/-- after write_prompt() the record is used only when it is still this user's (IP_VALID): a write_prompt() that
    disconnects or destructs its user makes print_prompt() return before flush_message (ip) -/
theorem prompt_revalidates (rh : HookFn) (w : W) (cg : Oid) (id : Nat) (hm : cg ≠ .master)
    (hi : (inputToOf w id).isSome = false) (he : (rh (emit w (.tPrompt cg)) cg .prompt).2 = false)
    (hv : (rh (emit w (.tPrompt cg)) cg .prompt).1.inter cg ≠ some id) :
    promptStage rh w cg id = ((rh (emit w (.tPrompt cg)) cg .prompt).1, false) := by
  unfold promptStage
  simp [hm, hi, he, hv]

/-- **the object sweep, every restart:** look_for_objects_to_swap() - reset() and clean_up() of every due object, the
    walk restarted after every error, for every fuel - keeps the invariant, for every script oracle -/
theorem sweep_keeps_invariant (S : Scripts) (fuel hf : Nat) (w : W) (i : Inv w) :
    Inv (sweepResets (runHook S hf) fuel w) := (sweepResets_step (runHook S hf) (runHook_ok S hf) fuel w i).1

/-- a clean_up() that raises does NOT restore the saved O_RESET_STATE (the C code or-s it back only when the apply
    returns): modelled quirk - the restarted walk may reset() the object at once.  Stated for a hook that raises. -/
theorem failing_cleanup_loses_reset_state (rh : HookFn) (w : W) (k : Nat)
    (h : (rh (emit (touch w (.obj k)) (.tCleanup (.obj k))) (.obj k) .cleanup).2 = true) :
    (cleanupObject rh w k) = ((rh (emit (touch w (.obj k)) (.tCleanup (.obj k))) (.obj k) .cleanup).1, true) := by
  unfold cleanupObject
  simp [h]

/-- ... while a clean_up() that returns gives the flag back -/
theorem cleanup_restores_reset_state (rh : HookFn) (w : W) (k : Nat)
    (h : (rh (emit (touch w (.obj k)) (.tCleanup (.obj k))) (.obj k) .cleanup).2 = false)
    (hd : (rh (emit (touch w (.obj k)) (.tCleanup (.obj k))) (.obj k) .cleanup).1.dead (.obj k) = false)
    (hs : w.resetState k = true) : (cleanupObject rh w k).1.resetState k = true := by
  unfold cleanupObject
  simp [h, hd, hs]

end NV.C09
