/-
C09 — property theorems over the model `Backend` (NV/C09/Model.lean).  PARTIAL only in the sense of the property
label: the theorems are about the control-flow / bookkeeping model; memory errors inside arbitrary failing tasks, real
signal delivery and the OS are observed by the sanitizer runs of the correspondence harness.

The statement over whole histories - `backend_total`, `backend_total_prefix`, `freed_conn_never_used_run` - is in
NV/C09/Total.lean, the oracle clauses over whole traces in TraceThms / PreloadThms, batches of one poll in BatchThms.
Here: non-vacuity examples for `backend_total` and the trace clauses, and the statements about the single steps of
the error path (heart-beat shut-off, flag protocol, what error_handler() and backend()'s recovery point leave alone,
the call_out sweep, VALIDATE_IP).
-/
import NV.C09.TraceThms

namespace NV.C09

example : Fresh ({} : W) := ⟨rfl, fun _ => rfl, rfl, rfl, rfl, rfl⟩

/-- non-vacuity of the trace-level clauses: they apply to a run in which errors are raised in three task kinds
    under a recursively failing master handler -/
example :
    let S : Scripts := { hook := fun o k => match o, k with
                            | .obj _, .hb => [.err]
                            | .user _, .cmd "boom" => [.cerr, .err]
                            | .user _, .netdead => [.err]
                            | _, _ => [.ok],
                         connect := fun _ => .ok }
    clauseCrash (events S { meh := .recurse, hbs := [.obj 1] } [[.tick 2], [.conn 1], [.send 1 "boom/"], [.close 1]]) = [] ∧
    clauseReport (events S { meh := .recurse, hbs := [.obj 1] } [[.tick 2], [.conn 1], [.send 1 "boom/"], [.close 1]]) = [] :=
  ⟨judge_crash_clause _ _ _ ⟨rfl, fun _ => rfl, rfl, rfl, rfl, rfl⟩ rfl,
   judge_report_clause _ _ _ ⟨rfl, fun _ => rfl, rfl, rfl, rfl, rfl⟩ rfl⟩
example : Fresh ({ mode := .console, meh := .recurse, hbs := [.obj 1, .obj 2],
                   callouts := [{ owner := .obj 1, tag := "p", due := T0 + 3 }] } : W) :=
  ⟨rfl, fun _ => rfl, rfl, rfl, rfl, rfl⟩

/-- non-vacuity of `backend_total`: a console-mode driver with a recursively failing master handler, two heart
    beats that raise, a failing call_out, a user whose command destructs itself and a history with ticks before any
    connection, connects, partial input and disconnects - the theorem applies and gives crash-freedom -/
example :
    let S : Scripts := { hook := fun o k => match o, k with
                            | .obj _, .hb => [.err]
                            | .obj _, .co _ => [.cerr, .err]
                            | .user _, .cmd "quit" => [.destMe]
                            | .user _, .netdead => [.err]
                            | _, _ => [.ok],
                         connect := fun k => if k = 2 then .err else .ok }
    (run S { mode := .console, meh := .recurse, hbs := [.obj 1, .obj 2],
             callouts := [{ owner := .obj 1, tag := "p", due := T0 + 3 }] }
      [[.tick 2], [.conn 1], [.send 1 "a/qu"], [.send 1 "it/", .tick 2], [.conn 2], [.close 1], [.cin "x/"]]).crashed = none :=
  (backend_total _ _ _ ⟨rfl, fun _ => rfl, rfl, rfl, rfl, rfl⟩).1

/-- the crash outcome is not totalised away: outside the invariant the model does crash (use of a freed record) -/
example : (useConn ({} : W) 7).crashed ≠ none := by decide

/-- whatever a task does - at any nesting depth of hooks calling hooks - the invariant survives it -/
theorem hooks_keep_invariant (S : Scripts) (fuel : Nat) (w : W) (o : Oid) (k : Kind) (i : Inv w) :
    Inv (runHook S fuel w o k).1 := (runHook_ok S fuel w o k i).1

/-- An error in a heart_beat switches off exactly that object's heart beat: the shut-off step of error_handler()
    erases current_heart_beat from the table and clears it. -/
theorem only_failing_hb_removed (w : W) (o : Oid) (hc : w.curHb = some o) (hd : w.dead o = false) :
    (hbOff w).hbs = w.hbs.erase o ∧ (hbOff w).curHb = none := by
  refine ⟨?_, hbOff_curHb w⟩
  rw [hbOff_hbs_some w o hc, hd]; rfl

example : (hbOff { hbs := [.obj 1, .obj 2, .user 1], curHb := some (.obj 2) }).hbs = [.obj 1, .user 1] := by
  decide

/-- ... and every other object's heart beat stays switched on (or off) as it was; with no heart beat running
    (error in a command, call_out, reset, logon ...) the table is untouched. -/
theorem error_keeps_other_heart_beats (w : W) (x : Oid) :
    (w.curHb = none → (hbOff w).hbs = w.hbs) ∧
    (∀ o, w.curHb = some o → x ≠ o → (x ∈ (hbOff w).hbs ↔ x ∈ w.hbs)) := by
  refine ⟨hbOff_hbs_none w, fun o hc hne => ?_⟩
  rw [hbOff_hbs_some w o hc]
  split
  · exact Iff.rfl
  · exact List.mem_erase_of_ne hne

example : Oid.obj 1 ∈ (hbOff { hbs := [.obj 1, .obj 2], curHb := some (.obj 2) }).hbs := by decide

/-- error_handler()'s flag protocol, for EVERY master-handler behaviour (ok / raises / raises recursively): entered
    with both flags clear it leaves with both flags clear. -/
theorem flags_clear_after_error (w : W) (msg : String) (h1 : w.inError = false) (h2 : w.inMeh = false) :
    (errorHandler w msg).inError = false ∧ (errorHandler w msg).inMeh = false := by
  have l := errorHandler_logs w msg h1 h2
  exact ⟨l.inError, l.inMeh⟩

example : (errorHandler { meh := .recurse } "boom").inError = false :=
  (flags_clear_after_error _ _ rfl rfl).1

/-- Pending tasks of everybody else survive the error path: error_handler() leaves the connection table with all
    buffered commands, every object's connection, the pending call_outs, the set of destructed objects and the
    error-context depth untouched (the heart-beat table changes only by the shut-off of current_heart_beat, see
    `only_failing_hb_removed`). -/
theorem pending_tasks_preserved (w : W) (msg : String) (h1 : w.inError = false) (h2 : w.inMeh = false) :
    (errorHandler w msg).users = w.users ∧ (errorHandler w msg).inter = w.inter ∧
    (errorHandler w msg).callouts = w.callouts ∧ (errorHandler w msg).dead = w.dead ∧
    (errorHandler w msg).ctxDepth = w.ctxDepth ∧ (errorHandler w msg).crashed = w.crashed := by
  have hp := (errorHandler_logs w msg h1 h2).proj
  simp only [proj, Prod.mk.injEq] at hp
  obtain ⟨a, b, _, _, e, _, g, c, d⟩ := hp
  exact ⟨a, b, c, d, g, e⟩

/-- the recovery point of backend() (restore_context at the setjmp): nothing pending is lost, nothing is re-run,
    the context chain is at its base -/
theorem recover_preserves_pending (w : W) :
    (recover w).users = w.users ∧ (recover w).callouts = w.callouts ∧ (recover w).hbs = w.hbs ∧
    (recover w).hbFlag = w.hbFlag ∧ (recover w).inter = w.inter ∧ (recover w).ctxDepth = 1 ∧
    (recover w).trace = w.trace := ⟨rfl, rfl, rfl, rfl, rfl, rfl, rfl⟩

/-- call_out(): an error in one call_out does not end the sweep - the sweep is the same function of the states the
    callbacks leave behind whether or not they raised (each call_out runs under call_out()'s own recovery point). -/
theorem callout_sweep_continues_after_error (rh : HookFn) : ∀ (n : Nat) (w : W),
    sweepCallOuts rh n w = sweepCallOuts (fun w o k => ((rh w o k).1, false)) n w := by
  intro n
  induction n with
  | zero => intro w; rfl
  | succ n ih =>
    intro w
    unfold sweepCallOuts
    split
    · rfl
    · split
      · simp only []
        split <;> exact ih _
      · rfl

/-- Re-validation makes the later uses safe: under the invariant, after `VALIDATE_IP (ip, command_giver)` succeeded
    the uses of `ip` do not touch a freed record. -/
theorem freed_conn_never_used (w : W) (o : Oid) (id : Nat) (inv : Inv w) (hvalid : w.inter o = some id) :
    useConn w id = w := useConn_valid w o id inv hvalid

/-- repaired defect 1 at model level: the first timer wake-up of an idle driver (all_users == NULL) -/
theorem idle_tick_no_crash (S : Scripts) (rh : HookFn) (w : W) (h : w.users = none) :
    (processIo S rh w [.wakeup]).1.crashed = w.crashed := by
  have e : processIoEvents S rh [.wakeup] w = (w, false) := rfl
  -- after the loop `all_users[0]` is looked at only in the `some` arm of `w.users`; `h` selects the other
  unfold processIo; rw [e]; dsimp only; rw [h]; rfl

end NV.C09
