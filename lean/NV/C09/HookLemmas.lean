/-
C09 — everything a task (hook) can do keeps the invariant: remove_interactive, destruct_object, the script
interpreter, and - by induction on the nesting fuel - every hook.
-/
import NV.C09.ConnLemmas

namespace NV.C09

/-- the contract of "run a hook" -/
def HookOK (rh : HookFn) : Prop := ∀ w o k, Step w (rh w o k).1

theorem netDeadHook_step (rh : HookFn) (hrh : HookOK rh) (w : W) (o : Oid) (d : Bool) :
    Step w (netDeadHook rh w o d) :=
  ite_both (Step.refl w) (ite_both (Step.refl w) (ite_both (Step.refl w)
    (Step.bracket (Step.trans (emit_step _ _) (hrh _ _ _)))))

/-- an object with a connection: the table exists -/
theorem Inv.users_of_inter {w : W} (i : Inv w) {o : Oid} {id : Nat} (h : w.inter o = some id) :
    ∃ l, w.users = some l := by
  cases hu : w.users with
  | none =>
    have hlive := i.live o id h
    unfold findConn slots at hlive
    rw [hu] at hlive; cases hlive
  | some l => exact ⟨l, rfl⟩

/-- the end of remove_interactive() is `FREE (ip)`, with the output kept, the master's reference returned and, for the
    console, the shutdown request -/
theorem freeConnOf_eq (w : W) (o : Oid) (id client : Nat) (l : List (Option Conn)) (hu : w.users = some l) :
    ∃ x y z, freeConnOf w o id client =
      setInter { w with users := some (freeSlot l id), outs := x, masterRef := y, shutdown := z } o none := by
  unfold freeConnOf
  rw [hu]
  dsimp only
  by_cases hs : (w.mode = .console && hasId id (l.headD none)) = true
  · rw [if_pos hs]; exact ⟨_, _, true, rfl⟩
  · rw [if_neg hs]; exact ⟨_, _, w.shutdown, rfl⟩

/-- what `FREE (ip)` of the record `id` of object `o` keeps on the way from `w` to `v`: the invariant, every OTHER record
    and every OTHER object's pointer, and the rest of what `Rel` compares -/
structure Freed (w : W) (o : Oid) (id : Nat) (v : W) : Prop where
  inv : Inv v
  others : ∀ id', id' ≠ id → findConn v id' = findConn w id'
  pointers : ∀ o', o' ≠ o → v.inter o' = w.inter o'
  ulen : v.users.map List.length = w.users.map List.length
  mode : v.mode = w.mode
  ctx : v.ctxDepth = w.ctxDepth
  trace : v.trace = w.trace

/-- the pointer is cleared, then the record - which nobody points to any more - leaves its slot -/
theorem freeConnOf_freed (w : W) (o : Oid) (id client : Nat) (inv : Inv w) (hio : w.inter o = some id) :
    Freed w o id (freeConnOf w o id client) := by
  obtain ⟨l, hu⟩ := inv.users_of_inter hio
  obtain ⟨x, y, z, e⟩ := freeConnOf_eq w o id client l hu
  rw [e]
  have hf : ∀ id', findIn (freeSlot l id) id' = if id' = id then none else findConn w id' := by
    intro id'
    unfold findConn slots; rw [hu]; exact findIn_freeSlot id l id'
  have hl : (some (freeSlot l id)).map List.length = w.users.map List.length := by
    rw [hu]; exact congrArg some (List.length_map _)
  have i1 := setInter_inv w o none (fun _ e => nomatch e) inv
  obtain ⟨len, cur, cur0⟩ := i1.table_of_ulen
    (w' := setInter { w with users := some (freeSlot l id), outs := x, masterRef := y, shutdown := z } o none) hl rfl
  refine { inv := ⟨inv.crashed, inv.inError, inv.inMeh, ?_, i1.inj, len, cur, cur0, ?_⟩,
           others := fun id' hne => (hf id').trans (if_neg hne), pointers := fun o' hne => if_neg hne,
           ulen := hl, mode := rfl, ctx := rfl, trace := rfl }
  · intro o' id' h
    rcases setInter_get h with ⟨_, e⟩ | ⟨ho, e⟩
    · cases e
    · show (findIn (freeSlot l id) id').isSome = true
      rw [hf, if_neg (fun (e' : id' = id) => ho (inv.inj o' o id (e' ▸ e) hio))]; exact inv.live o' id' e
  · intro id' hid'
    show findIn (freeSlot l id) id' = none
    rw [hf, inv.bound id' hid']; exact ite_self none

theorem removeInteractiveBody_step (rh : HookFn) (hrh : HookOK rh) (w : W) (o : Oid) (d : Bool) :
    Step w (removeInteractiveBody rh w o d) := by
  intro inv
  unfold removeInteractiveBody
  cases hio : w.inter o with
  | none => exact ⟨inv, Rel.refl w⟩
  | some id =>
    simp only []
    have hlive := inv.live o id hio
    cases hfc : findConn w id with
    | none => rw [hfc] at hlive; simp at hlive
    | some c =>
      simp only []
      by_cases hcl : c.closing = true
      · simp only [hcl, if_true]; exact ⟨inv, Rel.refl w⟩
      · simp only [hcl, Bool.false_eq_true, if_false]
        have s1 := mapConn_step w id markClosing (fun _ => rfl) (fun _ _ => rfl)
        obtain ⟨inv1, r1⟩ := s1 inv
        have hfc1 : findConn (mapConn w id markClosing) id = some (markClosing c) := by
          rw [findConn_mapConn w id markClosing (fun _ => rfl), hfc]
          have : c.id = id := findIn_id _ id c hfc
          simp [this]
        obtain ⟨inv2, r2⟩ := netDeadHook_step rh hrh _ o d inv1
        obtain ⟨c2, hc2, hc2cl⟩ := r2.closing id _ hfc1 rfl
        have hio1 : (mapConn w id markClosing).inter o = some id := hio
        have hio2 := r2.owner id _ o hfc1 rfl hio1
        rw [useConn_live _ id (by rw [hc2]; rfl)]
        have fr := freeConnOf_freed _ o id c.client inv2 hio2
        have r12 := r1.trans r2
        -- records that were CLOSING before this call are not ours: they survive
        have hne : ∀ id' c', findConn w id' = some c' → c'.closing = true → id' ≠ id := by
          intro id' c' hc' hcl' e
          rw [e, hfc] at hc'
          exact hcl (Option.some.inj hc' ▸ hcl')
        refine ⟨fr.inv, ?_, ?_, fr.ulen.trans r12.ulen, fr.mode.trans r12.mode, fr.ctx.trans r12.ctx,
          r12.tr.trans (TrExt.of_eq fr.trace)⟩
        · intro id' c' hc' hcl'
          obtain ⟨b, hb, hbcl⟩ := r12.closing id' c' hc' hcl'
          exact ⟨b, (fr.others id' (hne id' c' hc' hcl')).trans hb, hbcl⟩
        · intro id' c' o' hc' hcl' ho'
          have hne' : o' ≠ o := fun e => hne id' c' hc' hcl' (Option.some.inj ((e ▸ ho').symm.trans hio))
          exact (fr.pointers o' hne').trans (r12.owner id' c' o' hc' hcl' ho')

theorem removeInteractive_step (rh : HookFn) (hrh : HookOK rh) (w : W) (o : Oid) (d : Bool) :
    Step w (removeInteractive rh w o d) :=
  ite_both (Step.trans (removeInteractiveBody_step rh hrh w o d) (clearSnoopers_step _ o))
    (removeInteractiveBody_step rh hrh w o d)

theorem destructObject_step (rh : HookFn) (hrh : HookOK rh) (w : W) (o : Oid) :
    Step w (destructObject rh w o) := by
  have h := Step.trans (setHeartBeat_step w o 0) (setDead_step _ o)
  unfold destructObject
  refine ite_both (Step.refl w) ?_
  dsimp only
  cases (setDead (setHeartBeat w o 0) o).inter o with
  | some _ => exact Step.trans h (removeInteractive_step rh hrh _ o true)
  | none => exact h

theorem touch_step (w : W) (o : Oid) : Step w (touch w o) := by
  cases o <;> exact Step.silent rfl rfl

theorem armInputTo_id (tag : String) (c : Conn) : (armInputTo tag c).id = c.id := by
  unfold armInputTo; split <;> rfl

theorem armInputTo_closing (tag : String) (c : Conn) (h : c.closing = true) : (armInputTo tag c).closing = true := by
  unfold armInputTo; split <;> exact h

theorem setInputTo_step (w : W) (o : Oid) (tag : String) : Step w (setInputTo w o tag) := by
  unfold setInputTo
  cases w.inter o with
  | none => exact Step.refl w
  | some id => exact mapConn_step w id (armInputTo tag) (armInputTo_id tag) (armInputTo_closing tag)

theorem runOps_step (rh : HookFn) (hrh : HookOK rh) (self : Oid) :
    ∀ (ops : List Op) (w : W), Step w (runOps rh self ops w).1 := by
  intro ops
  induction ops with
  | nil => intro w; exact Step.refl w
  | cons op rest ih =>
    intro w
    cases op with
    | ok => exact ih w
    | err =>
      exact raise_step w self.name
    | cerr =>
      exact Step.trans (emit_step _ _) (Step.trans (Step.bracket (caughtError_step _ _)) (ih _))
    | dest t =>
      have h1 : Step w (if objExists (emit w (.xDest self t)) t then destructObject rh (emit w (.xDest self t)) t
          else emit w (.xDest self t)) :=
        Step.trans (emit_step _ _) (ite_both (destructObject_step rh hrh _ t) (Step.refl _))
      exact Step.returnOr h1 (ih _)
    | destMe =>
      exact Step.trans (emit_step _ _) (destructObject_step rh hrh _ self)
    | co d tag =>
      refine Step.trans ?_ (ih _)
      exact Step.logged rfl rfl
    | hb n =>
      exact Step.trans (Step.trans (emit_step _ _) (setHeartBeat_step _ _ _)) (ih _)
    | w s =>
      exact Step.trans (Step.trans (touch_step _ _) (addOut_step _ _ _)) (ih _)
    | meh m =>
      refine Step.trans ?_ (ih _)
      exact Step.silent rfl rfl
    | snoop t =>
      exact Step.trans (Step.trans (emit_step _ _) (setSnoop_step _ _ _)) (ih _)
    | it tag =>
      exact Step.trans (Step.trans (emit_step _ _) (setInputTo_step _ _ _)) (ih _)

/-- every hook keeps the invariant, for every nesting fuel and every script oracle -/
theorem runHook_ok (S : Scripts) : ∀ fuel, HookOK (runHook S fuel) := by
  intro fuel
  induction fuel with
  | zero => intro w o k; exact Step.refl w
  | succ n ih => intro w o k; exact runOps_step (runHook S n) ih o (S.hook o k) w

end NV.C09
