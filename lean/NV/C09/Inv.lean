/-
C09 — lookups in the slot table, well-formed blocks of trace events, the invariant of the backend model and the step
relations (`Step`, `CStep`) that thread the invariant and the trace block through every function.
-/
import NV.C09.Model
import NV.C09.Spec

namespace NV.C09

theorem findIn_nil (id : Nat) : findIn [] id = none := rfl
theorem findIn_none (l : List (Option Conn)) (id : Nat) : findIn (none :: l) id = findIn l id := rfl
theorem findIn_eq (c : Conn) (l : List (Option Conn)) (id : Nat) (h : c.id = id) :
    findIn (some c :: l) id = some c := by simp [findIn, h]
theorem findIn_ne (c : Conn) (l : List (Option Conn)) (id : Nat) (h : c.id ≠ id) :
    findIn (some c :: l) id = findIn l id := by simp [findIn, h]
theorem mapSlot_eq (id0 : Nat) (f : Conn → Conn) (c : Conn) (h : c.id = id0) :
    mapSlot id0 f (some c) = some (f c) := by simp [mapSlot, h]
theorem mapSlot_ne (id0 : Nat) (f : Conn → Conn) (c : Conn) (h : c.id ≠ id0) :
    mapSlot id0 f (some c) = some c := by simp [mapSlot, h]
theorem freeSlot_cons (x : Option Conn) (xs : List (Option Conn)) (id0 : Nat) :
    freeSlot (x :: xs) id0 = (if hasId id0 x then none else x) :: freeSlot xs id0 := rfl
theorem hasId_some (id0 : Nat) (c : Conn) : hasId id0 (some c) = decide (c.id = id0) := rfl
theorem hasId_none (id0 : Nat) : hasId id0 none = false := rfl

theorem findIn_id (l : List (Option Conn)) (id : Nat) (c : Conn) (h : findIn l id = some c) : c.id = id := by
  induction l with
  | nil => cases h
  | cons x xs ih =>
    cases x with
    | none => exact ih h
    | some d =>
      by_cases hd : d.id = id
      · rw [findIn_eq _ _ _ hd] at h; exact Option.some.inj h ▸ hd
      · rw [findIn_ne _ _ _ hd] at h; exact ih h

/-- `FREE (ip)`: no record with that serial is left, every other one is found as before -/
theorem findIn_freeSlot (id0 : Nat) (l : List (Option Conn)) (id : Nat) :
    findIn (freeSlot l id0) id = if id = id0 then none else findIn l id := by
  induction l with
  | nil => exact (ite_self _).symm
  | cons x xs ih =>
    rw [freeSlot_cons]
    cases x with
    | none => exact ih
    | some c =>
      rw [hasId_some]
      by_cases h0 : c.id = id0
      · rw [decide_eq_true h0, if_pos rfl, findIn_none, ih]
        by_cases h : id = id0
        · rw [if_pos h, if_pos h]
        · rw [findIn_ne _ _ _ (fun e => h (e.symm.trans h0))]
      · rw [decide_eq_false h0, if_neg Bool.false_ne_true]
        by_cases h : c.id = id
        · rw [findIn_eq _ _ _ h, findIn_eq _ _ _ h, if_neg (fun e => h0 (h.trans e))]
        · rw [findIn_ne _ _ _ h, findIn_ne _ _ _ h, ih]

theorem findIn_append_none (n : Nat) : ∀ (l : List (Option Conn)) (id : Nat),
    findIn (l ++ List.replicate n none) id = findIn l id := by
  intro l id
  induction l with
  | nil =>
    induction n with
    | zero => rfl
    | succ n ih => simpa [List.replicate, findIn] using ih
  | cons x xs ih =>
    cases x with
    | none => simpa [findIn] using ih
    | some c => by_cases h : c.id = id <;> simp [findIn, h, ih]

/-- a record with an unused serial put into an empty slot: it is found, every other lookup is as before -/
theorem findIn_set (cn : Conn) : ∀ (l : List (Option Conn)) (i id : Nat), l[i]? = some none → findIn l cn.id = none →
    findIn (l.set i (some cn)) id = if id = cn.id then some cn else findIn l id := by
  intro l
  induction l with
  | nil => intro i id h; cases h
  | cons x xs ih =>
    intro i id h hn
    cases i with
    | zero =>
      cases Option.some.inj h
      by_cases hc : cn.id = id
      · rw [List.set_cons_zero, findIn_eq _ _ _ hc, if_pos hc.symm]
      · rw [List.set_cons_zero, findIn_ne _ _ _ hc, if_neg (fun e => hc e.symm)]; rfl
    | succ i =>
      rw [List.set_cons_succ]
      cases x with
      | none => exact ih i id h hn
      | some c =>
        have hc : c.id ≠ cn.id := fun e => by rw [findIn_eq _ _ _ e] at hn; cases hn
        rw [findIn_ne _ _ _ hc] at hn
        by_cases hi : c.id = id
        · rw [findIn_eq _ _ _ hi, findIn_eq _ _ _ hi, if_neg (fun e => hc (hi.trans e))]
        · rw [findIn_ne _ _ _ hi, findIn_ne _ _ _ hi]; exact ih i id h hn

/-- the slot search is core's `findIdx`, counted from `i` -/
theorem firstNone_eq : ∀ (l : List (Option Conn)) (i : Nat), firstNone l i = l.findIdx Option.isNone + i
  | [], i => (Nat.zero_add i).symm
  | none :: _, i => (Nat.zero_add i).symm
  | some _ :: l, i =>
    (firstNone_eq l (i + 1)).trans (by rw [List.findIdx_cons]; exact Nat.add_comm i 1 ▸ (Nat.add_assoc ..).symm)

/-- the slot picked by new_interactive() is empty after the table has been grown -/
theorem firstFree_slot_empty (l : List (Option Conn)) (n : Nat) (hn : 2 ≤ n) :
    (if firstFree l ≥ l.length then l ++ List.replicate n none else l)[firstFree l]? = some none := by
  cases l with
  | nil => exact List.getElem?_replicate.trans (if_pos hn)
  | cons x xs =>
    show (if firstNone xs 1 ≥ xs.length + 1 then _ else _)[firstNone xs 1]? = _
    rw [firstNone_eq]
    by_cases h : xs.findIdx Option.isNone < xs.length
    · rw [if_neg (by omega), List.getElem?_cons_succ, List.getElem?_eq_getElem h]
      exact congrArg some (Option.isNone_iff_eq_none.mp List.findIdx_getElem)
    · -- no empty slot: the search stops at the table size, the first of the new slots
      have e : xs.findIdx Option.isNone = xs.length := by have := @List.findIdx_le_length _ Option.isNone xs; omega
      rw [if_pos (by omega), e, List.getElem?_append_right (by simp), List.getElem?_replicate]
      simp; omega

/-- an event that is neither a crash, nor the announcement of an uncaught error, nor a cycle marker: what a step may
    log without any obligation on what follows -/
def quiet : Ev → Bool
  | .crash _ => false
  | .xErr _ => false
  | .cycle _ => false
  | _ => true

def isCycleEv : Ev → Bool
  | .cycle _ => true
  | _ => false

/-- a block of events (newest first) appended by a step: no crash event; chronologically every `x err who` is
    directly followed by its report `meh 0 boom who` (the judge's `reportOk`), in particular none is left dangling -/
structure BlockOK (es : List Ev) : Prop where
  noCrash : ∀ e ∈ es, isCrash e = false
  report : reportOk es.reverse = true
  closed : ∀ who, es.head? ≠ some (.xErr who)
  noCycle : ∀ e ∈ es, isCycleEv e = false

/-- `quiet` is false on the three kinds of event that `isCrash`, `isCycleEv` and `reportOk` single out (this lemma and the
    next two); Lean's equation for the catch-all arm of each (`f.eq_n`) asks exactly for the event not being of that kind -/
theorem quiet_not_crash {e : Ev} (q : quiet e = true) : isCrash e = false :=
  isCrash.eq_2 e fun why he => Bool.noConfusion (he ▸ q : quiet (.crash why) = true)

theorem quiet_not_cycle {e : Ev} (q : quiet e = true) : isCycleEv e = false :=
  isCycleEv.eq_2 e fun k he => Bool.noConfusion (he ▸ q : quiet (.cycle k) = true)

theorem quiet_ne_xErr {e : Ev} (q : quiet e = true) (who : String) : e ≠ .xErr who :=
  fun he => Bool.noConfusion (he ▸ q : quiet (.xErr who) = true)

theorem reportOk_cons {e : Ev} (h : ∀ who, e ≠ .xErr who) (es : List Ev) : reportOk (e :: es) = reportOk es :=
  reportOk.eq_4 e es h

/-- what follows an `x err` must begin with its report; the test looks at that one event only -/
theorem reportOk_xErr (who : String) (m : Ev) (r : List Ev) :
    reportOk (.xErr who :: m :: r) = ((m == .meh false s!"boom {who}") && reportOk (m :: r)) := by
  cases m with
  | meh c msg =>
    cases c
    · show ((msg == s!"boom {who}") && _) = _
      congr 1
      by_cases h : msg = s!"boom {who}"
      · rw [h, beq_self_eq_true, beq_self_eq_true]
      · rw [beq_eq_false_iff_ne.mpr h, beq_eq_false_iff_ne.mpr (fun e => h (Ev.meh.inj e).2)]
    · rfl
  | _ => rfl

theorem reportOk_append : ∀ (a b : List Ev), reportOk a = true → (∀ who, a.getLast? ≠ some (.xErr who)) →
    reportOk b = true → reportOk (a ++ b) = true
  | [], _, _, _, hb => hb
  | [e], b, _, hl, hb => by
    have h : ∀ who, e ≠ .xErr who := fun who he => hl who (by rw [he]; rfl)
    rw [List.singleton_append, reportOk_cons h]; exact hb
  | e :: m :: r, b, ha, hl, hb => by
    have hl' : ∀ who, (m :: r).getLast? ≠ some (.xErr who) := fun who => List.getLast?_cons_cons ▸ hl who
    by_cases h : ∀ who, e ≠ .xErr who
    · rw [List.cons_append, reportOk_cons h]
      rw [reportOk_cons h] at ha
      exact reportOk_append (m :: r) b ha hl' hb
    · obtain ⟨who, he⟩ := Classical.not_forall.mp h
      rw [Classical.not_not.mp he, reportOk_xErr, Bool.and_eq_true] at ha
      rw [Classical.not_not.mp he, List.cons_append, List.cons_append, reportOk_xErr, Bool.and_eq_true]
      exact ⟨ha.1, reportOk_append (m :: r) b ha.2 hl' hb⟩

theorem BlockOK.nil : BlockOK [] where
  noCrash _ h := nomatch h
  noCycle _ h := nomatch h
  report := rfl
  closed _ h := nomatch h

theorem BlockOK.single (e : Ev) (q : quiet e = true) : BlockOK [e] where
  noCrash _ h := List.mem_singleton.mp h ▸ quiet_not_crash q
  noCycle _ h := List.mem_singleton.mp h ▸ quiet_not_cycle q
  report := reportOk_cons (quiet_ne_xErr q) []
  closed who h := quiet_ne_xErr q who (Option.some.inj h)

/-- the two events of an uncaught error: the announcement, directly followed by the report -/
theorem BlockOK.raise (who : String) : BlockOK [.meh false s!"boom {who}", .xErr who] where
  noCrash e he := by
    rcases List.mem_cons.mp he with h | h
    · rw [h]; rfl
    · rw [List.mem_singleton.mp h]; rfl
  noCycle e he := by
    rcases List.mem_cons.mp he with h | h
    · rw [h]; rfl
    · rw [List.mem_singleton.mp h]; rfl
  report := by
    show reportOk [.xErr who, .meh false s!"boom {who}"] = true
    rw [reportOk_xErr, beq_self_eq_true]; rfl
  closed _ hh := Ev.noConfusion (Option.some.inj hh)

/-- blocks at the level of whole iterations: as `BlockOK`, but cycle markers may occur -/
structure BlockC (es : List Ev) : Prop where
  noCrash : ∀ e ∈ es, isCrash e = false
  report : reportOk es.reverse = true
  closed : ∀ who, es.head? ≠ some (.xErr who)

theorem BlockOK.toC {es : List Ev} (b : BlockOK es) : BlockC es := ⟨b.noCrash, b.report, b.closed⟩

theorem BlockC.append {a b : List Ev} (ha : BlockC a) (hb : BlockC b) : BlockC (b ++ a) := by
  refine ⟨?_, ?_, ?_⟩
  · intro e he
    rcases List.mem_append.mp he with h | h
    · exact hb.noCrash e h
    · exact ha.noCrash e h
  · rw [List.reverse_append]
    apply reportOk_append _ _ ha.report _ hb.report
    intro who
    rw [List.getLast?_reverse]
    exact ha.closed who
  · intro who
    cases b with
    | nil => exact ha.closed who
    | cons x xs => exact hb.closed who

/-- block `b` appended after block `a` (newest first: `b ++ a`) -/
theorem BlockOK.append {a b : List Ev} (ha : BlockOK a) (hb : BlockOK b) : BlockOK (b ++ a) := by
  have c := ha.toC.append hb.toC
  refine ⟨c.noCrash, c.report, c.closed, ?_⟩
  intro e he
  rcases List.mem_append.mp he with h | h
  · exact hb.noCycle e h
  · exact ha.noCycle e h

def TrExt (w w' : W) : Prop := ∃ es, w'.trace = es ++ w.trace ∧ BlockOK es

theorem TrExt.of_eq {w w' : W} (h : w'.trace = w.trace) : TrExt w w' := ⟨[], by simpa using h, BlockOK.nil⟩
theorem TrExt.refl (w : W) : TrExt w w := TrExt.of_eq rfl
theorem TrExt.one {w w' : W} {e : Ev} (h : w'.trace = e :: w.trace) (q : quiet e = true) : TrExt w w' :=
  ⟨[e], h, BlockOK.single e q⟩
theorem TrExt.trans {a b c : W} (h1 : TrExt a b) (h2 : TrExt b c) : TrExt a c := by
  obtain ⟨e1, t1, b1⟩ := h1
  obtain ⟨e2, t2, b2⟩ := h2
  exact ⟨e2 ++ e1, by rw [t2, t1, List.append_assoc], b1.append b2⟩

/-- What holds at every point where LPC code may run or the loop is at its head:
    no crash so far; error_handler's flags clear; every interactive pointer of an object points to a live record,
    and no two objects share one; the table, once allocated, is non-empty and the rotating cursor is inside it;
    serials at or above `nextConnId` are unused. -/
structure Inv (w : W) : Prop where
  crashed : w.crashed = none
  inError : w.inError = false
  inMeh : w.inMeh = false
  live : ∀ o id, w.inter o = some id → (findConn w id).isSome = true
  inj : ∀ o o' id, w.inter o = some id → w.inter o' = some id → o = o'
  len : ∀ l, w.users = some l → 0 < l.length
  cur : ∀ l, w.users = some l → w.nextUser < l.length
  cur0 : w.users = none → w.nextUser = 0
  bound : ∀ id, w.nextConnId ≤ id → findConn w id = none

/-- what a callback (hook) may do to the state, as far as its caller relies on it: records marked CLOSING stay
    (only their own remove_interactive frees them), the table is neither allocated nor grown, mode and the
    error-context depth are as before -/
structure Rel (w w' : W) : Prop where
  closing : ∀ id c, findConn w id = some c → c.closing = true →
      ∃ c', findConn w' id = some c' ∧ c'.closing = true
  owner : ∀ id c o, findConn w id = some c → c.closing = true → w.inter o = some id → w'.inter o = some id
  ulen : w'.users.map List.length = w.users.map List.length
  mode : w'.mode = w.mode
  ctx : w'.ctxDepth = w.ctxDepth
  tr : TrExt w w'

/-- the weaker relation of the steps that may accept connections -/
structure CRel (w w' : W) : Prop where
  alloc : w.users.isSome = true → w'.users.isSome = true
  mode : w'.mode = w.mode
  ctx : w'.ctxDepth = w.ctxDepth
  tr : TrExt w w'

def Step (w w' : W) : Prop := Inv w → Inv w' ∧ Rel w w'
def CStep (w w' : W) : Prop := Inv w → Inv w' ∧ CRel w w'

theorem Rel.refl (w : W) : Rel w w := ⟨fun _ c h hc => ⟨c, h, hc⟩, fun _ _ _ _ _ h => h, rfl, rfl, rfl, TrExt.refl w⟩

theorem Rel.trans {a b c : W} (h1 : Rel a b) (h2 : Rel b c) : Rel a c := by
  refine ⟨?_, ?_, by rw [h2.ulen, h1.ulen], by rw [h2.mode, h1.mode], by rw [h2.ctx, h1.ctx], h1.tr.trans h2.tr⟩
  · intro id x hx hc
    obtain ⟨y, hy, hyc⟩ := h1.closing id x hx hc
    exact h2.closing id y hy hyc
  · intro id x o hx hc ho
    obtain ⟨y, hy, hyc⟩ := h1.closing id x hx hc
    exact h2.owner id y o hy hyc (h1.owner id x o hx hc ho)

theorem CRel.refl (w : W) : CRel w w := ⟨id, rfl, rfl, TrExt.refl w⟩

theorem CRel.trans {a b c : W} (h1 : CRel a b) (h2 : CRel b c) : CRel a c :=
  ⟨fun h => h2.alloc (h1.alloc h), by rw [h2.mode, h1.mode], by rw [h2.ctx, h1.ctx], h1.tr.trans h2.tr⟩

theorem Rel.toCRel {a b : W} (h : Rel a b) : CRel a b := by
  refine ⟨fun hs => ?_, h.mode, h.ctx, h.tr⟩
  have e := congrArg Option.isSome h.ulen
  rw [Option.isSome_map, Option.isSome_map] at e
  exact e.trans hs

theorem Step.refl (w : W) : Step w w := fun h => ⟨h, Rel.refl w⟩
theorem Step.trans {a b c : W} (h1 : Step a b) (h2 : Step b c) : Step a c := fun h =>
  let ⟨i1, r1⟩ := h1 h
  let ⟨i2, r2⟩ := h2 i1
  ⟨i2, r1.trans r2⟩
/-- both branches of a test have the property, e.g. are steps from `w` (`split` on a goal that mentions whole states is
    slow to check); the `_fst` form is for functions that return the state paired with a flag or a value -/
theorem ite_both {P : W → Prop} {c : Prop} [Decidable c] {x y : W} (hx : P x) (hy : P y) :
    P (if c then x else y) := by
  split <;> assumption

theorem ite_fst_both {α : Type} {P : W → Prop} {c : Prop} [Decidable c] {x y : W × α} (hx : P x.1) (hy : P y.1) :
    P (if c then x else y).1 := by
  split <;> assumption

/-- the model's `if c then (v, a) else k`: a function that has come to `v` returns there (a stage left by longjmp,
    a guard that finds nothing to do) or goes on with `k` -/
theorem Step.returnOr {α : Type} {w v : W} {c : Prop} [Decidable c] {a : α} {k : W × α} (h : Step w v)
    (hk : Step v k.1) : Step w (if c then (v, a) else k).1 :=
  ite_fst_both h (h.trans hk)

theorem CStep.refl (w : W) : CStep w w := fun h => ⟨h, CRel.refl w⟩
theorem CStep.trans {a b c : W} (h1 : CStep a b) (h2 : CStep b c) : CStep a c := fun h =>
  let ⟨i1, r1⟩ := h1 h
  let ⟨i2, r2⟩ := h2 i1
  ⟨i2, r1.trans r2⟩

theorem Step.toC {a b : W} (h : Step a b) : CStep a b := fun i => ⟨(h i).1, (h i).2.toCRel⟩

/-- the fields the invariant and the relations look at are unchanged -/
structure Same (w w' : W) : Prop where
  users : w'.users = w.users
  inter : w'.inter = w.inter
  nextUser : w'.nextUser = w.nextUser
  nextConnId : w'.nextConnId = w.nextConnId
  crashed : w'.crashed = w.crashed
  inError : w'.inError = w.inError
  inMeh : w'.inMeh = w.inMeh
  mode : w'.mode = w.mode
  ctx : w'.ctxDepth = w.ctxDepth
  tr : TrExt w w'


/-- the fields `Same` compares -/
def frame (w : W) := (w.users, w.inter, w.nextUser, w.nextConnId, w.crashed, w.inError, w.inMeh, w.mode, w.ctxDepth)

/-- a step that, by unfolding, leaves alone every field `Same` lists -/
theorem Same.of_frame {w w' : W} (h : frame w' = frame w) (t : TrExt w w') : Same w w' := by
  simp only [frame, Prod.mk.injEq] at h
  obtain ⟨a, b, c, d, e, f, g, m, x⟩ := h
  exact ⟨a, b, c, d, e, f, g, m, x, t⟩

theorem findConn_congr {w w' : W} (h : w'.users = w.users) (id : Nat) : findConn w' id = findConn w id := by
  unfold findConn slots; rw [h]

theorem Same.step {w w' : W} (h : Same w w') : Step w w' := by
  intro i
  refine ⟨⟨by rw [h.crashed]; exact i.crashed, by rw [h.inError]; exact i.inError, by rw [h.inMeh]; exact i.inMeh,
      ?_, ?_, ?_, ?_, ?_, ?_⟩, ?_, ?_, by rw [h.users], h.mode, h.ctx, h.tr⟩
  · intro o id ho; rw [findConn_congr h.users]; rw [h.inter] at ho; exact i.live o id ho
  · intro o o' id h1 h2; rw [h.inter] at h1 h2; exact i.inj o o' id h1 h2
  · intro l hl; rw [h.users] at hl; exact i.len l hl
  · intro l hl; rw [h.users] at hl; rw [h.nextUser]; exact i.cur l hl
  · intro hn; rw [h.users] at hn; rw [h.nextUser]; exact i.cur0 hn
  · intro id hid; rw [findConn_congr h.users]; rw [h.nextConnId] at hid; exact i.bound id hid
  · intro id c hc hcl; exact ⟨c, by rw [findConn_congr h.users]; exact hc, hcl⟩
  · intro id c o _ _ ho; rw [h.inter]; exact ho

/-- a step that logs nothing and, by unfolding, leaves alone every field `Same` lists -/
theorem Step.silent {w w' : W} (h : frame w' = frame w) (t : w'.trace = w.trace) : Step w w' :=
  (Same.of_frame h (TrExt.of_eq t)).step

/-- ... or logs one quiet event -/
theorem Step.logged {w w' : W} {e : Ev} (h : frame w' = frame w) (t : w'.trace = e :: w.trace)
    (q : quiet e = true := by rfl) : Step w w' :=
  (Same.of_frame h (TrExt.one t q)).step

/-- the table part of the invariant only looks at the size of the table and the cursor -/
theorem Inv.table_of_ulen {w w' : W} (i : Inv w) (hl : w'.users.map List.length = w.users.map List.length)
    (hn : w'.nextUser = w.nextUser) :
    (∀ l, w'.users = some l → 0 < l.length) ∧ (∀ l, w'.users = some l → w'.nextUser < l.length) ∧
    (w'.users = none → w'.nextUser = 0) := by
  rw [hn]
  have key : ∀ l', w'.users = some l' → ∃ l, w.users = some l ∧ l.length = l'.length := fun l' h' =>
    Option.map_eq_some_iff.mp (by rw [← hl, h']; rfl)
  refine ⟨fun l' h' => ?_, fun l' h' => ?_, fun h' => i.cur0 ?_⟩
  · obtain ⟨l, hw, e⟩ := key l' h'
    rw [← e]; exact i.len l hw
  · obtain ⟨l, hw, e⟩ := key l' h'
    rw [← e]; exact i.cur l hw
  · rw [h'] at hl; exact Option.map_eq_none_iff.mp hl.symm

theorem Inv.ctx_irrel {w : W} (i : Inv w) (n : Nat) : Inv { w with ctxDepth := n } :=
  ⟨i.crashed, i.inError, i.inMeh, i.live, i.inj, i.len, i.cur, i.cur0, i.bound⟩

/-- push / pop of an error context around a step -/
theorem Step.bracket {w w2 : W} (h : Step (pushCtx w) w2) : Step w (popCtx w2) := by
  intro i
  obtain ⟨i2, r⟩ := h (i.ctx_irrel _)
  refine ⟨i2.ctx_irrel _, ?_, ?_, r.ulen, r.mode, ?_, ?_⟩
  · intro id c hc hcl
    exact r.closing id c hc hcl
  · intro id c o hc hcl ho
    exact r.owner id c o hc hcl ho
  rotate_left
  · obtain ⟨es, t, b⟩ := r.tr
    exact ⟨es, t, b⟩
  · show w2.ctxDepth - 1 = w.ctxDepth
    have := r.ctx
    have e : (pushCtx w).ctxDepth = w.ctxDepth + 1 := rfl
    omega

end NV.C09
