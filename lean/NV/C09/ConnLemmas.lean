/-
C09 — the connection-table primitives keep the invariant.
-/
import NV.C09.ErrLemmas

namespace NV.C09

theorem findIn_mapAll (g : Conn → Conn) (hg : ∀ c, (g c).id = c.id) : ∀ (l : List (Option Conn)) (id : Nat),
    findIn (l.map (fun s => s.map g)) id = (findIn l id).map g
  | [], _ => rfl
  | none :: l, id => findIn_mapAll g hg l id
  | some c :: l, id => by
    show findIn (some (g c) :: _) id = _
    by_cases h : c.id = id
    · rw [findIn_eq _ _ _ ((hg c).trans h), findIn_eq _ _ _ h]; rfl
    · rw [findIn_ne _ _ _ (fun e => h ((hg c).symm.trans e)), findIn_ne _ _ _ h]; exact findIn_mapAll g hg l id

theorem findConn_mapAll (w : W) (g : Conn → Conn) (hg : ∀ c, (g c).id = c.id) (id : Nat) :
    findConn (mapAll w g) id = (findConn w id).map g := by
  unfold findConn slots mapAll
  cases w.users with
  | none => rfl
  | some l => exact findIn_mapAll g hg l id

/-- applying to every record a function that keeps serials and CLOSING marks (the turn grant, the snoop links) -/
theorem mapAll_step' (w : W) (g : Conn → Conn) (hg : ∀ c, (g c).id = c.id)
    (hc : ∀ c, c.closing = true → (g c).closing = true) : Step w (mapAll w g) := by
  intro i
  have hf := findConn_mapAll w g hg
  have hl : (mapAll w g).users.map List.length = w.users.map List.length := by
    unfold mapAll
    cases w.users with
    | none => rfl
    | some l => exact congrArg some (List.length_map _)
  obtain ⟨len, cur, cur0⟩ := i.table_of_ulen hl rfl
  refine ⟨⟨i.crashed, i.inError, i.inMeh, ?_, i.inj, len, cur, cur0, ?_⟩, ?_, fun _ _ _ _ _ h => h, hl, rfl, rfl,
    TrExt.of_eq rfl⟩
  · intro o id ho
    rw [hf, Option.isSome_map]; exact i.live o id ho
  · intro id hid
    rw [hf, i.bound id hid]; rfl
  · intro id c hcn hcl
    rw [hf, hcn]
    exact ⟨_, rfl, hc c hcl⟩

theorem mapConn_eq_mapAll (w : W) (id0 : Nat) (f : Conn → Conn) :
    mapConn w id0 f = mapAll w (fun c => if c.id = id0 then f c else c) := by
  have h : mapSlot id0 f = fun s => s.map (fun c => if c.id = id0 then f c else c) := by
    funext s
    cases s with
    | none => rfl
    | some c => exact (apply_ite some _ _ _).symm
  unfold mapConn mapAll
  rw [h]

theorem findConn_mapConn (w : W) (id0 : Nat) (f : Conn → Conn) (hf : ∀ c, (f c).id = c.id) (id : Nat) :
    findConn (mapConn w id0 f) id = (findConn w id).map (fun c => if c.id = id0 then f c else c) := by
  rw [mapConn_eq_mapAll]
  exact findConn_mapAll w _ (fun c => by split; exact hf c; rfl) id

theorem mapConn_step (w : W) (id0 : Nat) (f : Conn → Conn) (hf : ∀ c, (f c).id = c.id)
    (hc : ∀ c, c.closing = true → (f c).closing = true) : Step w (mapConn w id0 f) := by
  rw [mapConn_eq_mapAll]
  exact mapAll_step' w _ (fun c => by split; exact hf c; rfl) (fun c h => by split; exact hc c h; exact h)

theorem addOut_step (w : W) (o : Oid) (s : String) : Step w (addOut w o s) := by
  unfold addOut
  split
  · exact Step.refl w
  · split
    · exact Step.refl w
    · apply mapConn_step
      · intro c; split <;> rfl
      · intro c h; simp [h]

theorem useConn_live (w : W) (id : Nat) (h : (findConn w id).isSome = true) : useConn w id = w := by
  unfold useConn
  cases hc : findConn w id with
  | none => simp [hc] at h
  | some c => rfl

theorem setInter_self (w : W) (o : Oid) (v : Option Nat) : (setInter w o v).inter o = v := if_pos rfl

/-- who holds a record after `o->interactive = v` -/
theorem setInter_get {w : W} {o o' : Oid} {v : Option Nat} {id : Nat} (h : (setInter w o v).inter o' = some id) :
    (o' = o ∧ v = some id) ∨ (o' ≠ o ∧ w.inter o' = some id) := by
  have h' : (if o' = o then v else w.inter o') = some id := h
  by_cases ho : o' = o
  · rw [if_pos ho] at h'; exact Or.inl ⟨ho, h'⟩
  · rw [if_neg ho] at h'; exact Or.inr ⟨ho, h'⟩

/-- `o->interactive = v`: either cleared, or set to a live record that nobody else holds -/
theorem setInter_inv (w : W) (o : Oid) (v : Option Nat)
    (hv : ∀ id, v = some id → (findConn w id).isSome = true ∧ ∀ o', w.inter o' = some id → o' = o) (i : Inv w) :
    Inv (setInter w o v) := by
  refine ⟨i.crashed, i.inError, i.inMeh, ?_, ?_, i.len, i.cur, i.cur0, i.bound⟩
  · intro o' id' h
    rcases setInter_get h with ⟨_, e⟩ | ⟨_, e⟩
    · exact (hv id' e).1
    · exact i.live o' id' e
  · intro a b id' ha hb
    rcases setInter_get ha with ⟨a1, e1⟩ | ⟨a1, e1⟩ <;> rcases setInter_get hb with ⟨b1, e2⟩ | ⟨b1, e2⟩
    · rw [a1, b1]
    · rw [a1]; exact ((hv id' e1).2 b e2).symm
    · rw [b1]; exact (hv id' e2).2 a e1
    · exact i.inj a b id' e1 e2

/-- putting a fresh record into an empty slot of the (possibly grown) table and handing it to the master -/
theorem alloc_step (w : W) (i : Nat) (l' : List (Option Conn)) (c : Conn)
    (hslot : l'[i]? = some none) (hfind : ∀ id, findIn l' id = findConn w id)
    (hlen : (slots w).length ≤ l'.length) (hc : c.id = w.nextConnId) :
    CStep w (setInter { w with users := some (l'.set i (some c)), nextConnId := w.nextConnId + 1 } .master (some c.id)) := by
  intro inv
  have hi : i < l'.length := (List.getElem?_eq_some_iff.mp hslot).1
  have hnew : findConn w c.id = none := inv.bound c.id (by rw [hc]; exact Nat.le_refl _)
  let w1 : W := { w with users := some (l'.set i (some c)), nextConnId := w.nextConnId + 1 }
  have hset : ∀ id, findConn w1 id = if id = c.id then some c else findConn w id := fun id =>
    (findIn_set c l' i id hslot ((hfind c.id).trans hnew)).trans (by rw [hfind])
  have f_other : ∀ id, id ≠ c.id → findConn w1 id = findConn w id := fun id hne => (hset id).trans (if_neg hne)
  have f_new : findConn w1 c.id = some c := (hset c.id).trans (if_pos rfl)
  have inv1 : Inv w1 := by
    refine ⟨inv.crashed, inv.inError, inv.inMeh, ?_, inv.inj, ?_, ?_, ?_, ?_⟩
    · intro o id ho
      have hl := inv.live o id ho
      rw [f_other id (fun e => by rw [e, hnew] at hl; cases hl)]; exact hl
    · intro l hl
      rw [← Option.some.inj hl, List.length_set]; omega
    · intro l hl
      rw [← Option.some.inj hl, List.length_set]
      show w.nextUser < l'.length
      cases hu : w.users with
      | none => rw [inv.cur0 hu]; omega
      | some l0 =>
        have := inv.cur l0 hu
        have e : slots w = l0 := by unfold slots; rw [hu]; rfl
        rw [e] at hlen; omega
    · intro h; cases h
    · intro id hid
      have hid' : w.nextConnId + 1 ≤ id := hid
      have hne : id ≠ c.id := by rw [hc]; omega
      rw [f_other id hne]; exact inv.bound id (by omega)
  have i2 := setInter_inv w1 .master (some c.id) (fun id' e => by
    rw [← Option.some.inj e]
    refine ⟨by rw [f_new]; rfl, fun o' ho' => ?_⟩
    have hl := inv.live o' c.id ho'
    rw [hnew] at hl; cases hl) inv1
  exact ⟨i2, ⟨fun _ => rfl, rfl, rfl, TrExt.of_eq rfl⟩⟩

theorem userChunk_ge : 2 ≤ userChunk := by decide

theorem grow_find (c : Prop) [Decidable c] (l : List (Option Conn)) (n id : Nat) :
    findIn (if c then l ++ List.replicate n none else l) id = findIn l id := by
  split
  · rw [findIn_append_none]
  · rfl

theorem grow_len (c : Prop) [Decidable c] (l : List (Option Conn)) (n : Nat) :
    l.length ≤ (if c then l ++ List.replicate n none else l).length := by
  split
  · simp
  · exact Nat.le_refl _

/-- `r` is what new_interactive() returns when it does not refuse: the record `c` with the next serial has been put into
    slot `i`, empty before, of the (possibly grown) table `l'` and handed to the master -/
structure Allocated (w : W) (r : W × Option Nat) (l' : List (Option Conn)) (i : Nat) (c : Conn) : Prop where
  slot : l'[i]? = some none
  find : ∀ id, findIn l' id = findConn w id
  len : (slots w).length ≤ l'.length
  serial : c.id = w.nextConnId
  eq : r = (setInter { w with users := some (l'.set i (some c)), nextConnId := w.nextConnId + 1 } .master (some c.id),
            some c.id)

/-- new_interactive(): refused for a second console user, or `Allocated` -/
theorem newInteractive_spec (w : W) (console : Bool) (client : Nat) :
    (console = true ∧ ((slots w).headD none).isSome = true ∧ newInteractive w console client = (w, none)) ∨
    ∃ l' i c, Allocated w (newInteractive w console client) l' i c := by
  unfold newInteractive
  dsimp only
  by_cases hr : (console && ((slots w).headD none).isSome) = true
  · rw [if_pos hr]
    exact Or.inl ⟨(Bool.and_eq_true_iff.mp hr).1, (Bool.and_eq_true_iff.mp hr).2, rfl⟩
  · rw [if_neg hr]
    refine Or.inr ⟨_, _, _, { slot := ?_, find := fun id => grow_find _ _ _ _, len := grow_len _ _ _, serial := rfl,
                              eq := rfl }⟩
    cases console with
    | false => exact firstFree_slot_empty (slots w) userChunk userChunk_ge
    | true =>
      cases hl : slots w with
      | nil => exact List.getElem?_replicate.trans (if_pos (show 0 < userChunk from Nat.lt_of_lt_of_le (by decide) userChunk_ge))
      | cons x xs =>
        rw [hl] at hr
        cases x with
        | none => rfl
        | some c => exact absurd rfl hr

theorem newInteractive_cstep (w : W) (console : Bool) (client : Nat) :
    CStep w (newInteractive w console client).1 := by
  rcases newInteractive_spec w console client with ⟨_, _, e⟩ | ⟨l', i, c, a⟩
  · rw [e]; exact CStep.refl w
  · rw [a.eq]; exact alloc_step w i l' c a.slot a.find a.len a.serial

theorem newInteractive_inter (w : W) (console : Bool) (client : Nat) (id : Nat)
    (h : (newInteractive w console client).2 = some id) :
    (newInteractive w console client).1.inter .master = some id := by
  rcases newInteractive_spec w console client with ⟨_, _, e⟩ | ⟨l', i, c, a⟩
  · rw [e] at h; cases h
  · rw [a.eq] at h ⊢; exact (setInter_self _ _ _).trans h

/-- the console slot is free: new_interactive() does not refuse -/
theorem newInteractive_console (w : W) (client : Nat) (h : (slots w).headD none = none) :
    ((newInteractive w true client).1.inter .master).isSome = true ∧
    (newInteractive w true client).1.users.isSome = true := by
  rcases newInteractive_spec w true client with ⟨_, hs, _⟩ | ⟨l', i, c, a⟩
  · rw [h] at hs; cases hs
  · rw [a.eq]; exact ⟨congrArg Option.isSome (setInter_self _ _ _), rfl⟩

theorem snoopLink_id (me : Oid) (idy : Nat) (c : Conn) : (snoopLink me idy c).id = c.id := by
  unfold snoopLink; split <;> (try split) <;> rfl
theorem snoopLink_closing (me : Oid) (idy : Nat) (c : Conn) (h : c.closing = true) :
    (snoopLink me idy c).closing = true := by
  unfold snoopLink; split <;> (try split) <;> exact h
theorem snoopUnlink_id (o : Oid) (c : Conn) : (snoopUnlink o c).id = c.id := by
  unfold snoopUnlink; split <;> rfl
theorem snoopUnlink_closing (o : Oid) (c : Conn) (h : c.closing = true) : (snoopUnlink o c).closing = true := by
  unfold snoopUnlink; split <;> exact h

theorem setSnoop_step (w : W) (me you : Oid) : Step w (setSnoop w me you) := by
  unfold setSnoop
  split
  · exact Step.refl w
  · split
    · split
      · exact Step.refl w
      · exact mapAll_step' w _ (snoopLink_id _ _) (snoopLink_closing _ _)
    · exact Step.refl w

theorem clearSnoopers_step (w : W) (o : Oid) : Step w (clearSnoopers w o) :=
  mapAll_step' w _ (snoopUnlink_id o) (snoopUnlink_closing o)

end NV.C09
