/-
C09 — error_handler() (`errorHandler`, `callMasterHandler`, `caughtError`) keeps the invariant: the flag protocol
returns to (0, 0) for every master-handler behaviour (ok / raises / raises recursively), the report is the one event
it logs, and apart from the heart-beat bookkeeping nothing else is touched.

A goal `(f (g (h w))).fld = w.fld` over three or more nested record updates must not be left to `rfl`: the unifier
first tries to identify the two records field by field, at every level again.  Unfold the setters with `simp only`
(which also reduces the projections) first.
-/
import NV.C09.Inv

namespace NV.C09

/-- the fields (other than the two flags) that the invariant and the relations look at -/
def proj (w : W) := (w.users, w.inter, w.nextUser, w.nextConnId, w.crashed, w.mode, w.ctxDepth, w.callouts, w.dead)

/-- push / pop of an error context around a step that leaves alone what the invariant looks at -/
theorem proj_bracket {w v : W} (h : proj v = proj (pushCtx w)) : proj (popCtx v) = proj w := by
  simp only [proj, pushCtx, popCtx, Prod.mk.injEq] at h ⊢
  obtain ⟨a, b, c, d, e, f, g, x, y⟩ := h
  exact ⟨a, b, c, d, e, f, by rw [g]; rfl, x, y⟩

/-- `proj` and the two flags are what `Same` compares (`frame`) -/
theorem frame_of_proj {w w' : W} (p : proj w' = proj w) (f : w'.inError = w.inError) (g : w'.inMeh = w.inMeh) :
    frame w' = frame w := by
  simp only [proj, Prod.mk.injEq] at p
  obtain ⟨hu, hi, hn, hc, hx, hm, hd, _, _⟩ := p
  simp only [frame, hu, hi, hn, hc, hx, f, g, hm, hd]

/-- what a step of the error path leaves: both flags clear, what the invariant looks at as before, and exactly `es`
    logged (in chronological order) -/
structure Logged (w w' : W) (es : List Ev) : Prop where
  proj : proj w' = proj w
  inError : w'.inError = false
  inMeh : w'.inMeh = false
  trace : w'.trace.reverse = w.trace.reverse ++ es

/-- the error path: entered with both flags clear -/
def Logs (w w' : W) (es : List Ev) : Prop := w.inError = false → w.inMeh = false → Logged w w' es

theorem Logs.refl (w : W) : Logs w w [] := fun h1 h2 => ⟨rfl, h1, h2, (List.append_nil _).symm⟩

theorem Logs.trans {a b c : W} {e1 e2 : List Ev} (x : Logs a b e1) (y : Logs b c e2) : Logs a c (e1 ++ e2) :=
  fun h1 h2 =>
    have a := x h1 h2
    have b := y a.inError a.inMeh
    ⟨b.proj.trans a.proj, b.inError, b.inMeh, by rw [b.trace, a.trace, List.append_assoc]⟩

theorem Logs.emit (w : W) (e : Ev) : Logs w (emit w e) [e] := fun h1 h2 => ⟨rfl, h1, h2, List.reverse_cons⟩

theorem Logs.bracket {w v : W} {es : List Ev} (x : Logs (pushCtx w) v es) : Logs w (popCtx v) es := fun h1 h2 =>
  have l := x h1 h2
  ⟨proj_bracket l.proj, l.inError, l.inMeh, l.trace⟩

/-- when what it logs is a well-formed block, nothing the invariant looks at has changed (the two flags are set and
    cleared on the way: they are compared apart from `proj`) -/
theorem Logs.same {w w' : W} {es : List Ev} (x : Logs w w' es) (b : BlockOK es.reverse) (h1 : w.inError = false)
    (h2 : w.inMeh = false) : Same w w' := by
  have l := x h1 h2
  exact Same.of_frame (frame_of_proj l.proj (l.inError.trans h1.symm) (l.inMeh.trans h2.symm))
    ⟨_, by rw [← List.reverse_reverse w'.trace, l.trace, List.reverse_append, List.reverse_reverse], b⟩

theorem Logs.step {w w' : W} {es : List Ev} (x : Logs w w' es) (b : BlockOK es.reverse) : Step w w' := fun i =>
  (x.same b i.inError i.inMeh).step i

/-! ## set_heart_beat() and the shut-off step touch the heart-beat bookkeeping only -/

theorem setHeartBeat_eq (w : W) (o : Oid) (n : Nat) :
    ∃ l a b, setHeartBeat w o n = { w with hbs := l, hbNext := a, hbToDo := b } := by
  unfold setHeartBeat
  by_cases hd : w.dead o = true
  · rw [if_pos hd]; exact ⟨_, _, _, rfl⟩
  · rw [if_neg hd]
    by_cases hn : n = 0
    · rw [if_pos hn]
      cases w.hbs.idxOf? o with
      | none => exact ⟨_, _, _, rfl⟩
      | some i => exact ⟨_, _, _, rfl⟩
    · rw [if_neg hn]
      by_cases hm : o ∈ w.hbs
      · rw [if_pos hm]; exact ⟨_, _, _, rfl⟩
      · rw [if_neg hm]; exact ⟨_, _, _, rfl⟩

theorem setHeartBeat_step (w : W) (o : Oid) (n : Nat) : Step w (setHeartBeat w o n) := by
  obtain ⟨l, a, b, h⟩ := setHeartBeat_eq w o n
  rw [h]; exact Step.silent rfl rfl

theorem setHeartBeat_zero_hbs (w : W) (o : Oid) (hd : w.dead o = false) :
    (setHeartBeat w o 0).hbs = w.hbs.erase o := by
  unfold setHeartBeat
  rw [if_neg (by rw [hd]; decide), if_pos rfl]
  cases h : w.hbs.idxOf? o with
  | none => exact (List.erase_of_not_mem (fun hm => List.idxOf?_eq_none_iff.mp h hm)).symm
  | some i => rfl

theorem hbOff_eq (w : W) : ∃ l a b c, hbOff w = { w with hbs := l, hbNext := a, hbToDo := b, curHb := c } := by
  unfold hbOff
  cases w.curHb with
  | none => exact ⟨_, _, _, _, rfl⟩
  | some o =>
    obtain ⟨l, a, b, h⟩ := setHeartBeat_eq w o 0
    exact ⟨l, a, b, none, by show { setHeartBeat w o 0 with curHb := none } = _; rw [h]⟩

theorem hbOff_inError (w : W) : (hbOff w).inError = w.inError := by
  obtain ⟨l, a, b, c, h⟩ := hbOff_eq w
  rw [h]

theorem hbOff_curHb (w : W) : (hbOff w).curHb = none := by
  unfold hbOff
  cases h : w.curHb with
  | none => exact h
  | some o => rfl

theorem hbOff_hbs_none (w : W) (h : w.curHb = none) : (hbOff w).hbs = w.hbs := by
  unfold hbOff; rw [h]

theorem hbOff_hbs_some (w : W) (o : Oid) (h : w.curHb = some o) :
    (hbOff w).hbs = if w.dead o then w.hbs else w.hbs.erase o := by
  unfold hbOff; rw [h]
  show (setHeartBeat w o 0).hbs = _
  cases hd : w.dead o with
  | true => unfold setHeartBeat; rw [if_pos hd]; rfl
  | false => rw [setHeartBeat_zero_hbs w o hd]; rfl

/-- the tail of error_handler(): both flags end up clear -/
theorem errExit_eq (w : W) : ∃ l a b c,
    errExit w = { w with inError := false, inMeh := false, hbs := l, hbNext := a, hbToDo := b, curHb := c } := by
  obtain ⟨l, a, b, c, h⟩ := hbOff_eq (setMeh (setErr w true) false)
  exact ⟨l, a, b, c, by unfold errExit; rw [h]; rfl⟩

theorem proj_bumpDepth (w : W) : proj (bumpDepth w) = proj w := rfl
theorem proj_emit (w : W) (e : Ev) : proj (emit w e) = proj w := rfl

theorem callMasterHandler_succ (n : Nat) (w : W) (msg : String) :
    callMasterHandler (n + 1) w msg =
      (match w.meh with
       | .ok => (emit w (.meh false msg), false)
       | .raise => (errExit (emit w (.meh false msg)), true)
       | .recurse =>
         if w.mehDepth < 2 then (errExit (bumpDepth (emit w (.meh false msg))), true)
         else (resetDepth (emit w (.meh false msg)), false)) := rfl

/-- the master-handler step logs exactly the report and leaves alone what the invariant looks at -/
theorem callMasterHandler_proj_trace (fuel : Nat) (w : W) (msg : String) :
    proj (callMasterHandler fuel w msg).1 = proj w ∧
    (callMasterHandler fuel w msg).1.trace = Ev.meh false msg :: w.trace := by
  cases fuel with
  | zero => exact ⟨rfl, rfl⟩
  | succ n =>
    rw [callMasterHandler_succ]
    obtain ⟨l, a, b, c, h⟩ := errExit_eq (emit w (.meh false msg))
    obtain ⟨l', a', b', c', h'⟩ := errExit_eq (bumpDepth (emit w (.meh false msg)))
    cases w.meh with
    | ok => exact ⟨rfl, rfl⟩
    | raise => show proj (errExit _) = _ ∧ (errExit _).trace = _; rw [h]; exact ⟨rfl, rfl⟩
    | recurse =>
      by_cases hd : w.mehDepth < 2
      · rw [if_pos hd]; show proj (errExit _) = _ ∧ (errExit _).trace = _; rw [h']; exact ⟨rfl, rfl⟩
      · rw [if_neg hd]; exact ⟨rfl, rfl⟩

/-- the flag protocol of the master-handler step, for EVERY handler behaviour (ok / raises / catches an inner error and
    raises): entered with in_error = 0 it comes back with in_error = 0; if it left through a (nested) error,
    in_mudlib_error_handler is 0, otherwise it is unchanged -/
theorem cmh_flags : ∀ (fuel : Nat) (w : W) (msg : String), w.inError = false →
    (callMasterHandler fuel w msg).1.inError = false ∧
    ((callMasterHandler fuel w msg).2 = true → (callMasterHandler fuel w msg).1.inMeh = false) ∧
    ((callMasterHandler fuel w msg).2 = false → (callMasterHandler fuel w msg).1.inMeh = w.inMeh) := by
  intro fuel w msg h
  have raised : ∀ v : W, (errExit v).inError = false ∧ (errExit v).inMeh = false := by
    intro v
    obtain ⟨l, a, b, c, e⟩ := errExit_eq v
    rw [e]; exact ⟨rfl, rfl⟩
  cases fuel with
  | zero => exact ⟨h, fun h' => Bool.noConfusion h', fun _ => rfl⟩
  | succ n =>
    rw [callMasterHandler_succ]
    cases w.meh with
    | ok => exact ⟨h, fun h' => Bool.noConfusion h', fun _ => rfl⟩
    | raise => exact ⟨(raised _).1, fun _ => (raised _).2, fun h' => Bool.noConfusion h'⟩
    | recurse =>
      by_cases hd : w.mehDepth < 2
      · rw [if_pos hd]; exact ⟨(raised _).1, fun _ => (raised _).2, fun h' => Bool.noConfusion h'⟩
      · rw [if_neg hd]; exact ⟨h, fun h' => Bool.noConfusion h', fun _ => rfl⟩

/-- error_handler() outside a catch, whatever the master's handler does: the report to the master is the one event -/
theorem errorHandler_logs (w : W) (msg : String) : Logs w (errorHandler w msg) [.meh false msg] := by
  intro h1 h2
  unfold errorHandler
  rw [if_neg (by rw [h1]; decide), if_neg (by rw [h2]; decide)]
  have hw : proj (setErr (setMeh (setErr w true) true) false) = proj w ∧
      (setErr (setMeh (setErr w true) true) false).trace = w.trace := by unfold setErr setMeh; exact ⟨rfl, rfl⟩
  obtain ⟨hp, ht⟩ := callMasterHandler_proj_trace 3 (setErr (setMeh (setErr w true) true) false) msg
  obtain ⟨a, b, _⟩ := cmh_flags 3 (setErr (setMeh (setErr w true) true) false) msg rfl
  rw [hw.1] at hp; rw [hw.2] at ht
  have ht' := (congrArg List.reverse ht).trans List.reverse_cons
  by_cases hr : (callMasterHandler 3 (setErr (setMeh (setErr w true) true) false) msg).2 = true
  · simp only [hr, if_true]
    exact ⟨hp, a, b hr, ht'⟩
  · simp only [hr]
    obtain ⟨l, x, y, c, e⟩ := errExit_eq (callMasterHandler 3 (setErr (setMeh (setErr w true) true) false) msg).1
    rw [e]
    exact ⟨hp, rfl, rfl, ht'⟩

/-- error_handler() outside a catch, entered with both flags clear, leaves them clear and touches nothing else the
    invariant looks at - whatever the master's handler does -/
theorem errorHandler_same (w : W) (msg : String) (h1 : w.inError = false) (h2 : w.inMeh = false) :
    Same w (errorHandler w msg) :=
  (errorHandler_logs w msg).same (BlockOK.single _ rfl) h1 h2

theorem errorHandler_step (w : W) (msg : String) : Step w (errorHandler w msg) :=
  (errorHandler_logs w msg).step (BlockOK.single _ rfl)

theorem emit_step (w : W) (e : Ev) (q : quiet e = true := by rfl) : Step w (emit w e) :=
  Step.logged rfl rfl q

/-- an uncaught error: `x err who` announced, then error_handler() - the report follows immediately -/
theorem raise_logs (w : W) (who : String) :
    Logs w (errorHandler (emit w (.xErr who)) s!"boom {who}") [.xErr who, .meh false s!"boom {who}"] :=
  (Logs.emit w _).trans (errorHandler_logs _ _)

theorem raise_step (w : W) (who : String) : Step w (errorHandler (emit w (.xErr who)) s!"boom {who}") :=
  (raise_logs w who).step (BlockOK.raise who)

theorem caughtError_step (w : W) (msg : String) : Step w (caughtError w msg) :=
  Logs.step (es := [.meh true msg]) (fun h1 h2 => by
    unfold caughtError
    rw [if_neg (by rw [h2]; decide)]
    exact ⟨rfl, h1, rfl, List.reverse_cons⟩) (BlockOK.single _ rfl)

theorem setDead_step (w : W) (o : Oid) : Step w (setDead w o) := Step.silent rfl rfl

theorem updateLoadAv_step (w : W) : Step w (updateLoadAv w) :=
  ite_both (Step.refl w) (ite_both (Step.silent rfl rfl) (Step.silent rfl rfl))

end NV.C09
