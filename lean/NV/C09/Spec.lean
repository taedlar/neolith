/-
C09 — specification oracle.  It judges a trace of structured events (`Ev`) - the model's or the real driver's - and
knows nothing about the implementation's data structures (slots, cursors, flags, error contexts).  What it needs from
the case input (which lines each client sent, in which order clients connected, the mode) is handed over as `Expect`.

Clauses (property C09):
  crash        no crash / sanitizer report / missing exit
  liveness     the cycle markers count 1,2,3,... and the run ends with `exit loop` (or `exit shutdown`, legitimate only
               in console mode after the console user was destructed: stdin is a pipe)
  report       every uncaught error (`x err who`) is immediately reported to the master (`meh 0 boom who`)
  heartbeats   the set of objects whose heart beat is on at the end = switched on - switched off - destructed -
               (objects in whose heart_beat task an uncaught error occurred): only the failing object's is removed
  commands     every complete line a client sent reaches its user object (process_input), in order, exactly once (a
               prefix if the user was disconnected / destructed, or the driver was shut down from the console); the
               commands executed are a subsequence of these lines (a line is dropped only when its own input task failed)
  callouts     every scheduled call_out fired, unless its object was destructed (or shutdown)
  leak         no connection record outlives its user (slots occupied at the end = users still connected)
  hb-schedule  within one loop iteration (one timer tick) an object's heart_beat runs at most once, and never after the
               object was destructed: a failing or self-removing heart beat does not disturb the round of the others
  turns        within one loop iteration a user gets at most ONE command served (process_input once, the command once):
               a user with a backlog cannot keep the others waiting
  isolation    a failing task of ONE user does not keep the OTHERS waiting: once a complete line is at the head of its
               user's input (delivered, and the user's previous line served) it is served within `users + 2` loop
               iterations - each other user can abort at most one iteration with an uncaught error before the rotating
               start slot has moved past him (C12 owns the exact fairness statement; this is the failure-isolation bound)
  sweep        bounded work per tick: within one loop iteration the object sweep applies reset() to an object at most once
               and clean_up() at most once - the sweep restarts its walk after an error, and a failing reset() must
               not be found due again (the driver would spin inside one tick, nobody else is served any more)
  preload      every file the master's epilog() names is handed to preload(), in order, also after one failed to load
  disconnect   the driver tells a user object `net_dead` only when that user's own client went away: events of other
               connections (hang-ups, errors, accepts arriving in the same poll) never cost a user its connection
-/
import NV.C09.Model

namespace NV.C09

structure Expect where
  console : Bool := false
  conns : List Nat := []                 -- clients in the order they connect
  sends : List (Nat × String) := []      -- (client, text), '/' = end of line; client 0 = console
  closed : List Nat := []                -- clients the script closes
  settle : Bool := true                  -- the history ends with enough idle cycles / ticks to drain everything
  coCutoff : Nat := 0                    -- cycle of the second-to-last tick: call_outs scheduled later may stay pending
  preloads : List String := []           -- files epilog() hands to preload_objects(), in order
  sentAt : List (Nat × Nat × String) := []   -- (cycle of the poll that delivered it, client, text) for every packet

def isCrash : Ev → Bool
  | .crash _ => true
  | _ => false

/-- cycle markers must count up from 1 -/
def cyclesOk : Nat → List Ev → Bool
  | _, [] => true
  | n, .cycle k :: es => k == n && cyclesOk (n + 1) es
  | n, _ :: es => cyclesOk n es

def hasExit (es : List Ev) : Option Bool :=      -- some true = shutdown
  if es.contains .exitShutdown then some true else if es.contains .exitLoop then some false else none

def destructedUsers (es : List Ev) : List Oid :=
  es.filterMap (fun e => match e with | .xDest _ (.user k) => some (.user k) | _ => none)

/-- every `x err who` is directly followed by the report -/
def reportOk : List Ev → Bool
  | [] => true
  | .xErr who :: rest =>
    (match rest with
     | .meh false msg :: _ => msg == s!"boom {who}"
     | _ => false) && reportOk rest
  | _ :: rest => reportOk rest

/-- expected final heart-beat set, from the events alone -/
def hbExpected : Option Oid → List Oid → List Ev → List Oid
  | _, on, [] => on
  | cur, on, e :: es =>
    match e with
    | .tHb o => hbExpected (some o) on es
    | .xHb o n => hbExpected cur (if n = 0 then on.erase o else if on.contains o then on else on ++ [o]) es
    | .xDest _ t => hbExpected (if cur = some t then none else cur) (on.erase t) es
    | .xErr _ =>
      (match cur with
       | some o => hbExpected none (on.erase o) es
       | none => hbExpected none on es)
    | .tCmd _ _ | .tInput _ _ | .tIt _ _ _ | .tPrompt _ | .tSnoop _ | .tEpilog | .tPreload _ | .tCo _ _ | .tReset _ | .tCleanup _ | .tConnect _ | .tLogon _ | .cycle _ => hbExpected none on es
    | _ => hbExpected cur on es

def finalHbs (es : List Ev) : Option (List String) :=
  es.findSome? (fun e => match e with | .hbs l => some l | _ => none)

/-- users in the order of successful connections: each `t connect` directly followed by `t logon u` -/
def usersOfConnects : List Ev → List (Option Oid)
  | [] => []
  | .tConnect _ :: .tLogon u :: es => some u :: usersOfConnects es
  | .tConnect _ :: es => none :: usersOfConnects es
  | _ :: es => usersOfConnects es

def linesOf (sends : List (Nat × String)) (client : Nat) : List String :=
  let text := String.join ((sends.filter (·.1 == client)).map (·.2))
  ((text.splitOn "/").dropLast).filter (· ≠ "")

def servedCmds (es : List Ev) (u : Oid) : List String :=
  es.filterMap (fun e => match e with | .tCmd o v => if o = u then some v else none | _ => none)

/-- the lines that reached the user object: through process_input, or through a pending input_to() callback -/
def servedInputs (es : List Ev) (u : Oid) : List String :=
  es.filterMap (fun e => match e with
    | .tInput o v => if o = u then some v else none
    | .tIt o _ v => if o = u then some v else none
    | _ => none)

def goneUsers (es : List Ev) : List Oid :=
  es.filterMap (fun e => match e with
    | .xDest _ (.user k) => some (.user k)
    | .tNetdead o => some o
    | _ => none)

def loggedOn (es : List Ev) : List Oid :=
  es.filterMap (fun e => match e with | .tLogon o => some o | _ => none)

/-- users that are connected at the end: logged on and neither destructed nor net-dead AFTERWARDS (a `dest` aimed
    at a user that does not exist yet is a no-op in the driver) -/
def liveUsers : List Oid → List Ev → List Oid
  | live, [] => live
  | live, .tLogon u :: es => liveUsers (if live.contains u then live else u :: live) es
  | live, .xDest _ t :: es => liveUsers (live.erase t) es
  | live, .tNetdead u :: es => liveUsers (live.erase u) es
  | live, _ :: es => liveUsers live es

def finalSlots (es : List Ev) : Option Nat :=
  es.findSome? (fun e => match e with | .slots n => some n | _ => none)

/-- the events before the marker of cycle `n` -/
def beforeCycle (n : Nat) : List Ev → List Ev
  | [] => []
  | .cycle k :: es => if k ≥ n then [] else .cycle k :: beforeCycle n es
  | e :: es => e :: beforeCycle n es

def isPrefix (a b : List String) : Bool := a.length ≤ b.length && b.take a.length == a

def isSubseq : List String → List String → Bool
  | [], _ => true
  | _ :: _, [] => false
  | a :: as, b :: bs => if b.startsWith a then isSubseq as bs else isSubseq (a :: as) bs   -- verb = start of the line

/-- clause `crash`: the first crash / sanitizer line, if any -/
def clauseCrash (es : List Ev) : List String :=
  ((es.filter isCrash).map (fun e => match e with | .crash why => s!"crash {why}" | _ => "crash")).take 1

/-- clause `report`: every uncaught error is reported to the master at once -/
def clauseReport (es : List Ev) : List String :=
  if reportOk es then [] else ["report uncaught error not reported to the master"]

/-- clause `liveness` (cycle markers) -/
def clauseCycles (es : List Ev) : List String :=
  if cyclesOk 1 es then [] else ["liveness cycle-markers"]

/-- clause `liveness` (the loop was left in an orderly way) -/
def clauseExit (x : Expect) (es : List Ev) : List String :=
  match hasExit es with
  | none => ["liveness no-exit"]
  | some true =>
    -- stdin of the harness console is a pipe: losing the console user (destructed, or its connection rejected
    -- by the master) is the documented shutdown request
    if x.console && (!(destructedUsers es).isEmpty || (usersOfConnects es).contains none) then []
    else ["liveness unexpected-shutdown"]
  | some false => []

/-- clause `refs`: the vital objects' reference counts are back where they were when backend() was entered: the
    extra reference connection set-up takes on the master is returned on every path -/
def clauseRefs (es : List Ev) : List String :=
  es.filterMap (fun e => match e with
    | .refs m x => if m == 0 && x == 0 then none else some s!"refs master={m} simul_efun={x}"
    | _ => none)

/-- clause `disconnect`: `net_dead` is applied only to users whose own client closed or reset the connection
    (`clients` / `users` pair every scripted client with the user object its connection was given) -/
def clauseDisconnect (x : Expect) (es : List Ev) : List String :=
  let clients := (if x.console then [0] else []) ++ x.conns
  (clients.zip (usersOfConnects es)).filterMap (fun (c, ou) =>
    match ou with
    | none => none
    | some u =>
      if es.contains (.tNetdead u) && !x.closed.contains c then
        some s!"disconnect {u.name} lost its connection although client c{c} never hung up"
      else none)

/-- clause `hb-schedule`: `seen` = objects whose heart_beat already ran in this iteration, `gone` = destructed objects
    (a `dest` aimed at a user that has not logged on yet is a no-op in the driver), `on` = users that have logged on -/
def hbSchedule : List Oid → List Oid → List Oid → List Ev → List String
  | _, _, _, [] => []
  | _, gone, on, .cycle _ :: es => hbSchedule [] gone on es
  | seen, gone, on, .tLogon u :: es => hbSchedule seen gone (u :: on) es
  | seen, gone, on, .tHb o :: es =>
    if gone.contains o then [s!"hb-schedule heart_beat of destructed {o.name}"]
    else if seen.contains o then [s!"hb-schedule {o.name} beat twice in one tick"]
    else hbSchedule (o :: seen) gone on es
  | seen, gone, on, .xDest _ t :: es =>
    match t with
    | .user _ => hbSchedule seen (if on.contains t then t :: gone else gone) on es
    | _ => hbSchedule seen (t :: gone) on es
  | seen, gone, on, _ :: es => hbSchedule seen gone on es

def clauseHbSchedule (es : List Ev) : List String := hbSchedule [] [] [] es

/-- clause `turns`: `ins` / `cmds` = users whose process_input / command already ran in this iteration -/
def turnsOk : List Oid → List Oid → List Ev → List String
  | _, _, [] => []
  | _, _, .cycle _ :: es => turnsOk [] [] es
  | ins, cmds, .tInput u _ :: es =>
    if ins.contains u then [s!"turns {u.name} served twice in one iteration"] else turnsOk (u :: ins) cmds es
  | ins, cmds, .tIt u _ _ :: es =>
    if ins.contains u then [s!"turns {u.name} served twice in one iteration"] else turnsOk (u :: ins) cmds es
  | ins, cmds, .tCmd u _ :: es =>
    if cmds.contains u then [s!"turns {u.name} served twice in one iteration"] else turnsOk ins (u :: cmds) es
  | ins, cmds, _ :: es => turnsOk ins cmds es

def clauseTurns (es : List Ev) : List String := turnsOk [] [] es

def preloaded (es : List Ev) : List String :=
  es.filterMap (fun e => match e with | .tPreload n => some n | _ => none)

/-- the events logged before backend() is entered -/
def beforeStart (es : List Ev) : List Ev := es.takeWhile (fun e => e != .start)

/-- clause `preload`: every file epilog() returned is handed to the master's preload(), in order, exactly once - a file
    that fails to load does not stop the others -/
def clausePreload (x : Expect) (es : List Ev) : List String :=
  -- preload_objects() runs before backend() is entered (`start`)
  if preloaded (beforeStart es) == x.preloads then []
  else [s!"preload loaded={preloaded (beforeStart es)} expected={x.preloads}"]

/-- cycle in which each complete, non-empty line of a client was delivered (the packet that carried its line end) -/
def lineCyclesAux : String → List (Nat × String) → List Nat
  | _, [] => []
  | part, (cy, t) :: rest =>
    let pieces := (part ++ t).splitOn "/"
    (pieces.dropLast.filter (· ≠ "")).map (fun _ => cy) ++ lineCyclesAux (pieces.getLastD "") rest

def lineCycles (x : Expect) (client : Nat) : List Nat :=
  lineCyclesAux "" ((x.sentAt.filter (fun e => e.2.1 == client)).map (fun e => (e.1, e.2.2)))

/-- loop iteration in which each line of user `u` reached the user object (process_input or an input_to callback) -/
def servedCycles (u : Oid) : Nat → List Ev → List Nat
  | _, [] => []
  | _, .cycle k :: es => servedCycles u k es
  | cy, .tInput o _ :: es => if o = u then cy :: servedCycles u cy es else servedCycles u cy es
  | cy, .tIt o _ _ :: es => if o = u then cy :: servedCycles u cy es else servedCycles u cy es
  | cy, _ :: es => servedCycles u cy es

/-- the longest wait of a line at the head of its user's input: (line number, wait) of the first line over `bound` -/
def lateLine (bound : Nat) : Nat → Nat → List Nat → List Nat → Option (Nat × Nat)
  | _, _, [], _ => none
  | _, _, _, [] => none
  | j, prev, s :: ss, t :: ts =>
    let head := max s (prev + 1)
    if t > head + bound then some (j, t - head) else lateLine bound (j + 1) t ss ts

/-- clause `isolation` -/
def clauseIsolation (x : Expect) (es : List Ev) : List String :=
  let clients := (if x.console then [0] else []) ++ x.conns
  let bound := clients.length + 2
  (clients.zip (usersOfConnects es)).filterMap (fun (c, ou) =>
    match ou with
    | none => none
    | some u =>
      match lateLine bound 1 0 (lineCycles x c) (servedCycles u 0 es) with
      | some (j, w) => some s!"isolation {u.name} line {j} waited {w} iterations at the head of its input (bound {bound})"
      | none => none)

/-- clause `sweep`: `rs` / `cs` = objects whose reset() / clean_up() was already applied in this iteration -/
def sweepOnce : List Oid → List Oid → List Ev → List String
  | _, _, [] => []
  | _, _, .cycle _ :: es => sweepOnce [] [] es
  | rs, cs, .tReset o :: es =>
    if rs.contains o then [s!"sweep reset() of {o.name} applied again in the same tick (the sweep does not advance)"]
    else sweepOnce (o :: rs) cs es
  | rs, cs, .tCleanup o :: es =>
    if cs.contains o then [s!"sweep clean_up() of {o.name} applied again in the same tick (the sweep does not advance)"]
    else sweepOnce rs (o :: cs) es
  | rs, cs, _ :: es => sweepOnce rs cs es

def clauseSweep (es : List Ev) : List String := sweepOnce [] [] es

def judgeEv (x : Expect) (es : List Ev) : List String :=
  -- a run that was cut off (time-out, output cap) is a crash-class verdict; when the cut-off trace already shows the
  -- sweep spinning, that precise verdict comes first
  if !(clauseCrash es).isEmpty then clauseSweep es ++ clauseCrash es else
  let ex := hasExit es
  let v1 := clauseExit x es
  let v2 := clauseCycles es
  let v3 := clauseReport es
  let shut := ex == some true
  let v4 := match finalHbs es with
    | none => ["heartbeats no-observation"]
    | some l =>
      let want := sortStrings ((hbExpected none [] es).map Oid.name)
      if l == want then [] else [s!"heartbeats on={l} expected={want}"]
  -- commands
  let users := usersOfConnects es
  let clients := (if x.console then [0] else []) ++ x.conns
  let gone := goneUsers es
  let v5 := (clients.zip users).filterMap (fun (c, ou) =>
    match ou with
    | none => none
    | some u =>
      let want := linesOf x.sends c
      let gotC := servedCmds es u
      let gotI := servedInputs es u
      let partialOk := gone.contains u || x.closed.contains c || shut || !x.settle
      -- every line reaches process_input; the command itself is skipped only when that task failed
      let okI := if partialOk then isPrefix gotI want else gotI == want
      if okI && isSubseq gotC gotI then none
      else some s!"commands {u.name} served={gotC} inputs={gotI} sent={want}")
  let v6 := if shut || !x.settle then [] else
    (beforeCycle x.coCutoff es).filterMap (fun e => match e with
      | .xCo o tag =>
        if es.contains (.tCo o tag) || es.any (fun d => match d with | .xDest _ t => t == o | _ => false)
        then none else some s!"callouts {o.name} {tag} never fired"
      | _ => none)
  let v7 := match finalSlots es with
    | none => []
    | some n =>
      let live := (liveUsers [] es).length
      if n > live then [s!"leaked-conn slots={n} live-users={live}"] else []
  v1 ++ v2 ++ v3 ++ v4 ++ v5 ++ v6 ++ v7 ++ clauseRefs es ++ clauseDisconnect x es ++ clauseHbSchedule es ++ clauseTurns es ++ clausePreload x es ++ clauseIsolation x es ++ clauseSweep es

end NV.C09
