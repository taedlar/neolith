/-
C09 — trace-level theorems: clauses of the specification oracle `judgeEv` that hold for the model's full trace
(`runFull`: start-up, the scripted history, the trailing idle cycles, the final observations) for EVERY history and
oracle, without any settling assumption.
-/
import NV.C09.Total

namespace NV.C09

/-- the harness runs backend()'s iterations; it only also counts them -/
theorem runScripted_eq (S : Scripts) (rh : HookFn) : ∀ (h : List (List Action)) (n : Nat) (w : W) (last : Bool),
    (runScripted S rh n h w last).1 = runCycles S rh n h w ∧ (runScripted S rh n h w last).2.1 = n + h.length
  | [], _, _, _ => ⟨rfl, rfl⟩
  | a :: as, n, w, _ => by
    obtain ⟨e1, e2⟩ := runScripted_eq S rh as (n + 1) (cycle S rh n a w).1 (cycle S rh n a w).2
    exact ⟨e1, e2.trans (by rw [List.length_cons]; omega)⟩

theorem runCycles_append (S : Scripts) (rh : HookFn) : ∀ (a b : List (List Action)) (n : Nat) (w : W),
    runCycles S rh n (a ++ b) w = runCycles S rh (n + a.length) b (runCycles S rh n a w)
  | [], _, _, _ => rfl
  | x :: a, b, n, w => by
    show runCycles S rh (n + 1) (a ++ b) _ = _
    rw [runCycles_append S rh a b, List.length_cons, Nat.add_right_comm, Nat.add_assoc]; rfl

/-- the trailing iterations of the harness are iterations of backend() without external events -/
theorem trailing_eq (S : Scripts) (rh : HookFn) : ∀ (f n trail : Nat) (w : W),
    ∃ k, trailing S rh f n trail w = runCycles S rh n (List.replicate k []) w
  | 0, _, _, _ => ⟨0, rfl⟩
  | f + 1, n, trail, w => by
    unfold trailing
    split
    · exact ⟨0, rfl⟩
    · obtain ⟨k, e⟩ := trailing_eq S rh f (n + 1) (if (cycle S rh n [] w).2 = true then trail + 1 else trail)
        (cycle S rh n [] w).1
      exact ⟨k + 1, e⟩

/-- the run of the harness is backend() on the history padded with idle iterations, then the final observations -/
theorem runFull_eq (S : Scripts) (w0 : W) (h : List (List Action)) :
    ∃ k, runFull S w0 h = finish (run S w0 (h ++ List.replicate k [])) := by
  obtain ⟨e1, e2⟩ := runScripted_eq S (runHook S hookFuel) h 1 (startup S (runHook S hookFuel) w0) false
  unfold runFull run
  simp only []
  generalize runScripted S (runHook S hookFuel) 1 h (startup S (runHook S hookFuel) w0) false = r at e1 e2 ⊢
  obtain ⟨k, e⟩ := trailing_eq S (runHook S hookFuel) 256 r.2.1 (if r.2.2 = true then 1 else 0) r.1
  exact ⟨k, by rw [e, runCycles_append, e1, e2]⟩

theorem foldl_emit_trext (f : Nat × String → Ev) (hf : ∀ e, quiet (f e) = true) :
    ∀ (l : List (Nat × String)) (w : W), TrExt w (l.foldl (fun v e => emit v (f e)) w)
  | [], w => TrExt.refl w
  | x :: xs, w => (TrExt.one rfl (hf x)).trans (foldl_emit_trext f hf xs (emit w (f x)))

theorem quiet_exitEv (w : W) : quiet (exitEv w) = true := by unfold exitEv; split <;> rfl

/-- the final observations, after the exit line, are quiet events -/
theorem finish_trext_exit (w : W) : TrExt (emit w (exitEv w)) (finish w) := by
  have h1 : TrExt (emit w (exitEv w)) (finishHead w) :=
    (((TrExt.one rfl rfl).trans (TrExt.one rfl rfl)).trans (TrExt.one rfl rfl)).trans (TrExt.one rfl rfl)
  have h2 := h1.trans (foldl_emit_trext outEv (fun _ => rfl)
    (((allOuts w).filter (fun e => e.1 ≠ 0)).foldr insertByKey []) (finishHead w))
  unfold finish
  split
  · exact h2.trans (TrExt.one rfl rfl)
  · exact h2

theorem finish_trext (w : W) : TrExt w (finish w) :=
  (TrExt.one rfl (quiet_exitEv w)).trans (finish_trext_exit w)

/-- the whole run of the harness, seen from the moment `start` has been logged: whatever was logged before backend() was
    entered (the preload phase) is an untouched prefix; what follows `start` is one block (well-formed up to cycle
    markers) whose cycle markers are exactly 1, 2, ..., m -/
theorem runFull_after_start (S : Scripts) (w0 : W) (h : List (List Action)) (f : Fresh w0) :
    ∃ es m, (runFull S w0 h).trace = es ++ (Ev.start :: w0.trace) ∧ BlockC es ∧ markers es = List.range' 1 m := by
  obtain ⟨k, e⟩ := runFull_eq S w0 h
  obtain ⟨m, _, es, he, hb, hk⟩ := run_gtc S w0 (h ++ List.replicate k []) f
  obtain ⟨fs, hf, hfb⟩ := finish_trext (run S w0 (h ++ List.replicate k []))
  refine ⟨fs ++ es, m, by rw [e, hf, he, List.append_assoc]; rfl, hb.append hfb.toC, ?_⟩
  rw [markers_append, markers_noCycle fs hfb.noCycle, List.append_nil, hk]

/-- the whole run of the harness: the trace is one block (well-formed up to cycle markers) on top of the initial
    trace, and its cycle markers are exactly 1, 2, ..., m -/
theorem runFull_block (S : Scripts) (w0 : W) (h : List (List Action)) (f : Fresh w0) :
    ∃ es m, (runFull S w0 h).trace = es ++ w0.trace ∧ BlockC es ∧ markers es = List.range' 1 m := by
  obtain ⟨es, m, he, hb, hk⟩ := runFull_after_start S w0 h f
  refine ⟨es ++ [Ev.start], m, by rw [he, List.append_assoc]; rfl, (BlockOK.single .start rfl).toC.append hb, ?_⟩
  rw [markers_append, hk]; rfl

/-- chronologically the block of `runFull_block` begins with the `start` event: whatever was logged before backend() was entered
    (the preload phase) is an untouched prefix of the trace -/
theorem runFull_block_start (S : Scripts) (w0 : W) (h : List (List Action)) (f : Fresh w0) :
    ∃ es, (runFull S w0 h).trace = es ++ (Ev.start :: w0.trace) ∧ BlockC es := by
  obtain ⟨es, _, he, hb, _⟩ := runFull_after_start S w0 h f
  exact ⟨es, he, hb⟩

/-- events of the full run in chronological order (what `nvdrive C09 model` prints) -/
def events (S : Scripts) (w0 : W) (h : List (List Action)) : List Ev := (runFull S w0 h).trace.reverse

/-! ## clauses of the oracle that hold of every trace that is one block -/

theorem clauseCrash_block {t : List Ev} (hb : BlockC t) : clauseCrash t.reverse = [] := by
  have : t.reverse.filter isCrash = [] :=
    List.filter_eq_nil_iff.mpr (fun e hm => by rw [hb.noCrash e (List.mem_reverse.mp hm)]; decide)
  unfold clauseCrash
  rw [this]; rfl

theorem clauseReport_block {t : List Ev} (hb : BlockC t) : clauseReport t.reverse = [] := by
  unfold clauseReport
  rw [if_pos hb.report]

theorem cyclesOk_of_markers : ∀ (es : List Ev) (n m : Nat),
    es.filterMap (fun e => match e with | .cycle k => some k | _ => none) = List.range' n m →
    cyclesOk n es = true := by
  intro es
  induction es with
  | nil => intro n m _; rfl
  | cons e rest ih =>
    intro n m h
    cases e with
    | cycle k =>
      simp only [List.filterMap_cons] at h
      cases m with
      | zero => simp at h
      | succ m' =>
        rw [List.range'_succ] at h
        injection h with h1 h2
        simp only [cyclesOk, h1, beq_self_eq_true, Bool.true_and]
        exact ih (n + 1) m' h2
    | _ => exact ih n m h

theorem clauseCycles_markers {t : List Ev} {m : Nat} (hk : markers t = List.range' 1 m) :
    clauseCycles t.reverse = [] := by
  unfold clauseCycles
  rw [if_pos (cyclesOk_of_markers _ 1 m hk)]

/-- the run of backend() after a start-up phase that logged a well-formed block (nothing, or the preload phase) -/
theorem runFull_blockC (S : Scripts) (w0 : W) (h : List (List Action)) (f : Fresh w0) (hb : BlockC w0.trace) :
    BlockC (runFull S w0 h).trace := by
  obtain ⟨es, _, he, hbe, _⟩ := runFull_block S w0 h f
  rw [he]; exact hb.append hbe

theorem runFull_markers (S : Scripts) (w0 : W) (h : List (List Action)) (f : Fresh w0) (hm : markers w0.trace = []) :
    ∃ m, markers (runFull S w0 h).trace = List.range' 1 m := by
  obtain ⟨es, m, he, _, hk⟩ := runFull_block S w0 h f
  exact ⟨m, by rw [he, markers_append, hm, hk]; rfl⟩

theorem BlockC.of_nil {t : List Ev} (ht : t = []) : BlockC t ∧ markers t = [] := by
  rw [ht]; exact ⟨BlockOK.nil.toC, rfl⟩

/-- **clause `crash` of the oracle, all histories, all oracles:** the model's trace never contains a crash event -/
theorem judge_crash_clause (S : Scripts) (w0 : W) (h : List (List Action)) (f : Fresh w0) (ht : w0.trace = []) :
    clauseCrash (events S w0 h) = [] :=
  clauseCrash_block (runFull_blockC S w0 h f (BlockC.of_nil ht).1)

/-- **clause `report` of the oracle, all histories, all oracles:** every uncaught error raised by any task (command,
    process_input, logon, net_dead, heart_beat, call_out, reset, the master's connect) is directly followed by its
    report to the master's error handler - whatever that handler then does -/
theorem judge_report_clause (S : Scripts) (w0 : W) (h : List (List Action)) (f : Fresh w0) (ht : w0.trace = []) :
    clauseReport (events S w0 h) = [] :=
  clauseReport_block (runFull_blockC S w0 h f (BlockC.of_nil ht).1)

/-- **clause `liveness` (cycle markers), all histories, all oracles:** the loop iterations are numbered 1, 2, 3, ...
    without a gap: after every task failure, disconnect or destruct the loop is entered again -/
theorem judge_cycles_clause (S : Scripts) (w0 : W) (h : List (List Action)) (f : Fresh w0) (ht : w0.trace = []) :
    clauseCycles (events S w0 h) = [] :=
  clauseCycles_markers (runFull_markers S w0 h f (BlockC.of_nil ht).2).choose_spec

/-- the loop is always left in an orderly way: the trace has its exit line (never `liveness no-exit`) -/
theorem judge_exit_present (S : Scripts) (w0 : W) (h : List (List Action)) :
    (hasExit (events S w0 h)).isSome = true := by
  have key : ∀ w : W, (hasExit (finish w).trace.reverse).isSome = true := by
    intro w
    obtain ⟨es, he, _⟩ := finish_trext_exit w
    have hmem : exitEv w ∈ (finish w).trace.reverse := by
      rw [he]; exact List.mem_reverse.mpr (List.mem_append_right _ List.mem_cons_self)
    unfold hasExit
    by_cases h1 : (finish w).trace.reverse.contains Ev.exitShutdown = true
    · rw [if_pos h1]; rfl
    · rw [if_neg h1]
      by_cases h2 : (finish w).trace.reverse.contains Ev.exitLoop = true
      · rw [if_pos h2]; rfl
      · unfold exitEv at hmem
        split at hmem
        · exact absurd (List.contains_iff_mem.mpr hmem) h1
        · exact absurd (List.contains_iff_mem.mpr hmem) h2
  exact key _

/-- what the oracle is told about a history (the driver `Drive.lean` computes the same from the case lines) -/
def noteAct (x : Expect) : Action → Expect
  | .conn c => { x with conns := x.conns ++ [c] }
  | .send c t => { x with sends := x.sends ++ [(c, t)] }
  | .cin t => { x with sends := x.sends ++ [(0, t)] }
  | .close c => { x with closed := c :: x.closed }
  | .reset c => { x with closed := c :: x.closed }
  | _ => x

def isTickAct : Action → Bool
  | .tick _ => true
  | _ => false

def expectOf (console : Bool) (h : List (List Action)) : Expect :=
  let x := (h.flatten).foldl noteAct { console := console }
  let idx := (List.range h.length).filter (fun i => (h.getD i []).any isTickAct)
  { x with coCutoff := match idx.reverse with | _ :: b :: _ => b + 1 | _ => 0 }

def isIdleStep (s : List Action) : Bool := s.all (fun a => match a with | .idle => true | _ => false)

/-- complete lines in a packet -/
def lineCount (t : String) : Nat := (t.toList.filter (· == '/')).length

/-- the longest backlog a client can have built up -/
def maxBacklog (h : List (List Action)) : Nat :=
  let sends := (h.flatten).filterMap (fun a => match a with
    | .send c t => some (c, lineCount t) | .cin t => some (0, lineCount t) | _ => none)
  (sends.map (fun e => ((sends.filter (fun f => f.1 == e.1)).map (·.2)).sum)).foldl max 0

/-- well-formed history: network clients are numbered from 1 (0 is the console), every client connects at most
    once, nothing is sent to or closed on a client that never connected -/
def WFHist (h : List (List Action)) : Bool :=
  let acts := h.flatten
  let conns := acts.filterMap (fun a => match a with | .conn c => some c | _ => none)
  conns.all (· ≠ 0) && conns.eraseDups.length == conns.length &&
  acts.all (fun a => match a with
    | .send c _ => conns.contains c
    | .close c => conns.contains c
    | .reset c => conns.contains c
    | _ => true)

/-- **the settling assumption, decidable:** the history ends as the generator's histories do - at least
    `max 4 (longest backlog)` idle cycles (one buffered line is served per user and cycle), then two ticks of 40 s (every
    call_out delay is shorter), then two idle cycles - so every buffered command and every call_out scheduled before
    the closing ticks has had its turn when the loop is left -/
def Settled (h : List (List Action)) : Bool :=
  let n := h.length
  let tail := h.drop (n - 4)
  let before := (h.take (n - 4)).reverse
  let idles := (before.takeWhile isIdleStep).length
  let closing := match tail with
    | [[.tick a], [.tick b], [.idle], [.idle]] => a == 40 && b == 40
    | _ => false
  decide (n ≥ 4) && closing && decide (idles ≥ max 4 (maxBacklog h))

/-- The full top statement: the oracle accepts the model's trace.  It is a `def`, NOT a theorem - it is not proved.
    Proved, unconditionally (no `Settled`, no `WFHist`): the clauses crash (`judge_crash_clause`), report
    (`judge_report_clause`), cycle markers (`judge_cycles_clause`), the presence of the exit line
    (`judge_exit_present`) and, in PreloadThms, preload (`judge_preload_clause`).  Not proved: every other clause of
    `judgeEv` (unexpected-shutdown, heartbeats, commands, callouts, leak, refs, disconnect, hb-schedule, turns,
    isolation, sweep) - they need ghost relations between the state and the trace (shutdown flag vs. the destruct /
    rejected-connect events, heart-beat table vs. `hbExpected`, slots vs. `liveUsers`, ...) and, for commands and
    callouts, the fairness of the rotating cursor under `Settled`. -/
def Model_satisfies_spec_Full : Prop :=
  ∀ (S : Scripts) (w0 : W) (h : List (List Action)), Fresh w0 → w0.trace = [] → WFHist h = true → Settled h = true →
    judgeEv (expectOf (w0.mode == .console) h) (events S w0 h) = []

/-- non-vacuity of the settling assumption: a history with a backlog of three lines -/
example : Settled [[.conn 1], [.send 1 "a/b/c/"], [.idle], [.idle], [.idle], [.idle],
                   [.tick 40], [.tick 40], [.idle], [.idle]] = true ∧
          WFHist [[.conn 1], [.send 1 "a/b/c/"], [.idle], [.idle], [.idle], [.idle],
                   [.tick 40], [.tick 40], [.idle], [.idle]] = true := by decide

/-- ... and it is a real restriction: without the closing ticks a history is not settled -/
example : Settled [[.conn 1], [.send 1 "a/"], [.idle], [.idle], [.idle], [.idle]] = false := by decide

end NV.C09
