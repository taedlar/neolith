/-
C09 — executable control-flow / bookkeeping model `Backend` of the driver's main loop.

Mirrors (function by function, including the order of the steps and what is re-validated after a callback):
  src/backend.c       backend()                 -> `startup`, `cycle`, `recover`
                      call_heart_beat()         -> `callHeartBeat` (`hbLoop`, `sweepResets`, `sweepCallOuts`)
                      set_heart_beat()          -> `setHeartBeat`
                      look_for_objects_to_swap  -> `sweepResets` (own recovery point; restart from the list head)
                      update_load_av()          -> `updateLoadAv` (clamped: fix commit)
                      init_console_user()       -> `initConsoleUser`
                      mudlib_connect/logon      -> `mudlibConnect`, `acceptConn`
  src/error_context.c error_handler()           -> `errorHandler` (uncaught) / `caughtError` (LOG_CATCHES path)
                      mudlib_error_handler()    -> `callMasterHandler`
  src/comm.c          process_io()              -> `processIo` (guarded `all_users && all_users[0]`: fix commit)
                      new_interactive()         -> `newInteractive`
                      remove_interactive()      -> `removeInteractive`
                      process_user_command()    -> `processUserCommand` (VALIDATE_IP after every callback)
                      get_user_command()        -> `scanUsers` (rotating cursor s_next_user, HAS_CMD_TURN)
                      get_user_data()           -> `userData`; end of file: the `.eof` branch of `ioEvent`
  src/simulate.c      destruct_object()         -> `destructObject`
  lib/efuns/call_out.c call_out()               -> `sweepCallOuts` (own recovery point, the sweep continues)

State is nullable exactly where the C state is: `users : Option (List (Option Conn))` is `all_users` (NULL before the
first connection; a list of slots afterwards, slot 0 reserved for the console), `inter o : Option Nat` is
`o->interactive`.  A connection record (`interactive_t`) is identified by its allocation serial `id`; the record is
live iff it sits in a slot.  A local C variable `ip` that survives a callback is an `id`; using it when the record is
gone (`useConn`) or dereferencing a NULL `all_users` / `master_ob->interactive` is the explicit outcome `crash`
(sticky field `crashed`, never cleared).

Tasks are oracle scripts (`Scripts`): what each hook of each object does (succeed, raise, raise inside catch,
destruct objects incl. itself = disconnect, schedule call_outs, switch heart beats, write, switch the master's
error-handler behaviour).  Hooks nest (destruct -> remove_interactive -> net_dead hook -> ...): nesting is bounded by
fuel (`runHook`), everything else is structural.
-/
import NV.Gen.C09

namespace NV.C09

/-- virtual epoch of the harness (VH_T0) -/
def T0 : Nat := 1000000000

/-- all_users grows by this many slots (comm.c new_interactive) -/
abbrev userChunk : Nat := NV.Gen.C09.userChunk
/-- MAX_VERB_BUFF of user_parser() (simulate.c) -/
abbrev maxVerbBuff : Nat := NV.Gen.C09.maxVerbBuff
/-- look_for_objects_to_swap runs every `sweepPeriod` seconds -/
abbrev sweepPeriod : Nat := NV.Gen.C09.sweepPeriod
/-- ResetDuration of the verification configuration: next_reset = now + D/2 + rand () % (D/2); the configuration
    uses D = 2, so the random term is `rand () % 1 = 0` and next_reset = now + 1 exactly -/
abbrev resetDuration : Nat := NV.Gen.C09.resetDuration
/-- CleanupDuration (__TIME_TO_CLEAN_UP__) of the verification configuration: an object that nothing has applied to
    for longer than this gets clean_up() from look_for_objects_to_swap() -/
abbrev cleanupDuration : Nat := NV.Gen.C09.cleanupDuration

inductive Mode | net | console
  deriving DecidableEq, Repr

inductive Meh | ok | raise | recurse
  deriving DecidableEq, Repr

inductive Oid | master | user (k : Nat) | obj (k : Nat)
  deriving DecidableEq, Repr

def Oid.name : Oid → String
  | .master => "master"
  | .user k => s!"u{k}"
  | .obj k => s!"o{k}"

inductive Op
  | ok | err | cerr
  | dest (t : Oid) | destMe
  | co (d : Nat) (tag : String)
  | hb (n : Nat)
  | w (s : String)
  | meh (m : Meh)
  | snoop (t : Oid)        -- snoop (this_object (), t): this user sees what user t types
  | it (tag : String)      -- input_to ("it_fire", 0, tag): the next line of this user goes to the callback
  deriving Repr

inductive Kind
  | logon | input | cmd (v : String) | netdead | hb | co (tag : String) | reset | it (tag : String) | cleanup | prompt | snoop
  deriving DecidableEq, Repr

inductive ConnB | ok | err | rej
  deriving DecidableEq, Repr

/-- the oracle: what every hook does, and what the master's connect() does on the k-th attempt -/
structure Scripts where
  hook : Oid → Kind → List Op
  connect : Nat → ConnB

/-- structured events = canonical trace lines -/
inductive Ev
  | start | cycle (n : Nat) | exitLoop | exitShutdown
  | tConnect (k : Nat) | tLogon (o : Oid) | tInput (o : Oid) (s : String) | tCmd (o : Oid) (v : String)
  | tNetdead (o : Oid) | tHb (o : Oid) | tCo (o : Oid) (tag : String) | tReset (o : Oid) | tCleanup (o : Oid)
  | tIt (o : Oid) (tag : String) (line : String) | xIt (o : Oid) (tag : String) | tPrompt (o : Oid)
  | tEpilog | tPreload (name : String)
  | tSnoop (o : Oid) | xSnoop (o t : Oid)
  | xErr (who : String) | xCerr (o : Oid) | xDest (o t : Oid) | xCo (o : Oid) (tag : String) | xHb (o : Oid) (n : Nat)
  | meh (caught : Bool) (msg : String)
  | hbs (l : List String) | out (name : String) (text : String) | slots (n : Nat)
  | refs (master simul : Int)
  | slotIdx (l : List Nat)
  | crash (why : String)
  deriving Repr, DecidableEq

structure Conn where
  id : Nat            -- ghost: allocation serial of the interactive_t
  ob : Oid            -- ip->ob
  client : Nat        -- ghost: scripted client number (0 = console)
  cmds : List String  -- complete lines between text_start and text_end
  part : String       -- partial line at the end of the buffer
  turn : Bool         -- HAS_CMD_TURN
  hasPI : Bool        -- HAS_PROCESS_INPUT
  closing : Bool      -- CLOSING
  out : String        -- everything add_message()d (canonical form)
  inputTo : Option String := none   -- ip->input_to: the pending input_to() callback (its carry-over argument)
  snoopBy : Option Oid := none      -- ip->snoop_by, named by the snooper's OBJECT (ip->snoop_by->ob); that the C
                                    -- pointer itself never dangles (both ends cleared in remove_interactive) is
                                    -- observed by ASan only
  deriving Repr

structure CallOut where
  owner : Oid
  tag : String
  due : Nat
  deriving Repr

/-- one entry of g_io_events[]: what the poll reported.  For a connection the entry holds the CONTEXT POINTER the
    socket was registered with (`id` = serial of the interactive_t), resolved when the poll returns - not when the entry
    is processed: an earlier entry of the same batch may have freed that record meanwhile (remove_interactive() then
    clears the context of the entries still waiting - fix commit - so a stale entry can never reach a younger record
    that the allocator placed at the same address). -/
inductive IoEv
  | wakeup | accept (client : Nat) | data (id : Nat) (text : String) | eof (id : Nat) | hup (id : Nat)
  | console (text : String)
  deriving Repr, DecidableEq

structure W where
  mode : Mode := .net
  meh : Meh := .ok
  mehDepth : Nat := 0
  users : Option (List (Option Conn)) := none
  inter : Oid → Option Nat := fun _ => none
  dead : Oid → Bool := fun _ => false
  hbs : List Oid := []
  hbNext : Nat := 0               -- heart_beat_index + 1
  hbToDo : Nat := 0               -- num_hb_to_do
  curHb : Option Oid := none      -- current_heart_beat
  callouts : List CallOut := []
  objList : List Nat := []        -- obj_list restricted to the scripted plain objects (newest first)
  resetState : Nat → Bool := fun _ => false
  nextReset : Nat → Nat := fun _ => 0
  refTime : Nat → Nat := fun _ => T0   -- ob->time_of_ref: when something last apply()d to the object
  now : Nat := T0                 -- current_time
  clock : Nat := T0               -- what time() returns
  nextSweep : Nat := 0            -- look_for_objects_to_swap: next_time
  loadLast : Nat := 0             -- update_load_av: last_time
  hbFlag : Bool := false          -- heart_beat_flag
  inError : Bool := false
  inMeh : Bool := false
  ctxDepth : Nat := 0             -- length of the error-context chain
  nextUser : Nat := 0             -- s_next_user
  nextConnId : Nat := 1
  nUser : Nat := 0
  nConnect : Nat := 0
  shutdown : Bool := false        -- g_proceeding_shutdown
  closedByScript : List Nat := []
  tcpClients : List Nat := []     -- ghost: clients whose connect() reached the listening socket (accepted or not)
  outs : List (Nat × String) := []   -- output of connections the driver has closed
  masterRef : Int := 0            -- ghost: master_ob->ref relative to the start of backend()
  backlog : List IoEv := []       -- entries of g_io_events[] a longjmp out of process_io() left unprocessed
  crashed : Option String := none
  trace : List Ev := []

def emit (w : W) (e : Ev) : W := { w with trace := e :: w.trace }

def crash (w : W) (why : String) : W :=
  match w.crashed with
  | some _ => w
  | none => { w with crashed := some why, trace := .crash why :: w.trace }

def setInter (w : W) (o : Oid) (v : Option Nat) : W :=
  { w with inter := fun x => if x = o then v else w.inter x }

def setDead (w : W) (o : Oid) : W :=
  { w with dead := fun x => if x = o then true else w.dead x }

def slots (w : W) : List (Option Conn) := w.users.getD []

def hasId (id : Nat) : Option Conn → Bool
  | some c => c.id == id
  | none => false

/-- first record with serial `id` in the slot table -/
def findIn : List (Option Conn) → Nat → Option Conn
  | [], _ => none
  | none :: l, id => findIn l id
  | some c :: l, id => if c.id = id then some c else findIn l id

/-- the live record with serial `id` (the C pointer `ip` is valid iff this is `some`) -/
def findConn (w : W) (id : Nat) : Option Conn := findIn (slots w) id

/-- apply `f` to the record(s) with serial `id` -/
def mapSlot (id : Nat) (f : Conn → Conn) : Option Conn → Option Conn
  | some c => if c.id = id then some (f c) else some c
  | none => none

def mapConn (w : W) (id : Nat) (f : Conn → Conn) : W :=
  { w with users := w.users.map (fun l => l.map (mapSlot id f)) }

/-- apply `g` to every connection record -/
def mapAll (w : W) (g : Conn → Conn) : W := { w with users := w.users.map (fun l => l.map (fun s => s.map g)) }

/-- the record `ob` is snooping, if any: `ob->interactive->snoop_on` -/
def snoopTargetOf (w : W) (ob : Oid) : Option Conn :=
  ((slots w).find? (fun s => match s with | some c => c.snoopBy == some ob | none => false)).join

/-- "Protect against snooping loops": `for (tmp = on; tmp; tmp = tmp->snoop_on) if (tmp == by) return 0;` -/
def snoopLoop : Nat → W → Oid → Oid → Bool
  | 0, _, _, _ => false
  | n + 1, w, by_, tmp =>
    if tmp = by_ then true else
    match snoopTargetOf w tmp with
    | none => false
    | some c => snoopLoop n w by_ c.ob

def snoopLink (me : Oid) (idy : Nat) (c : Conn) : Conn :=
  if c.id = idy then { c with snoopBy := some me }            -- on->snoop_by = by (a previous snooper is replaced)
  else if c.snoopBy = some me then { c with snoopBy := none } -- by->snoop_on->snoop_by = 0
  else c

def snoopUnlink (o : Oid) (c : Conn) : Conn := if c.snoopBy = some o then { c with snoopBy := none } else c

/-- new_set_snoop (me, you), guarded by the scripted object: both interactive, not the same object -/
def setSnoop (w : W) (me you : Oid) : W :=
  if me = you || w.dead you then w else
  match w.inter me, w.inter you with
  | some _, some idy =>
    if snoopLoop (slots w).length w me you then w else mapAll w (snoopLink me idy)
  | _, _ => w

/-- remove_interactive(): `ip->snoop_on->snoop_by = 0` - whoever the removed user was snooping is no longer snooped -/
def clearSnoopers (w : W) (o : Oid) : W := mapAll w (snoopUnlink o)

/-- a C access through a saved `ip` after a callback: crash when the record was freed meanwhile -/
def useConn (w : W) (id : Nat) : W :=
  match findConn w id with
  | some _ => w
  | none => crash w s!"use of freed interactive #{id}"

def addOut (w : W) (o : Oid) (s : String) : W :=
  -- add_message(): dropped when the object is destructed, has no connection, or the connection is closing
  if w.dead o then w else
  match w.inter o with
  | none => w
  | some id => mapConn w id (fun c => if c.closing then c else { c with out := c.out ++ s })

/-! ## heart beats (backend.c set_heart_beat) -/

def setHeartBeat (w : W) (o : Oid) (to : Nat) : W :=
  if w.dead o then w else
  if to = 0 then
    match w.hbs.idxOf? o with
    | none => w
    | some i =>
      let (nx, td) :=
        if w.hbToDo ≠ 0 then
          ((if i < w.hbNext then w.hbNext - 1 else w.hbNext), (if i < w.hbToDo then w.hbToDo - 1 else w.hbToDo))
        else (w.hbNext, w.hbToDo)
      { w with hbs := w.hbs.erase o, hbNext := nx, hbToDo := td }
  else
    if o ∈ w.hbs then w else { w with hbs := w.hbs ++ [o] }

/-! ## error_handler (error_context.c) -/

/-- `if (current_heart_beat) { set_heart_beat (current_heart_beat, 0); ...; current_heart_beat = 0; }` -/
def hbOff (w : W) : W :=
  match w.curHb with
  | some o => { setHeartBeat w o 0 with curHb := none }
  | none => w

def setErr (w : W) (b : Bool) : W := { w with inError := b }
def setMeh (w : W) (b : Bool) : W := { w with inMeh := b }
def bumpDepth (w : W) : W := { w with mehDepth := w.mehDepth + 1 }
def resetDepth (w : W) : W := { w with mehDepth := 0 }

/-- the tail of error_handler() when it does not (or no longer) call the master:
    `in_error = 1; in_mudlib_error_handler = 0; heart beat shut-off; in_error = 0;` (then longjmp) -/
def errExit (w : W) : W := setErr (hbOff (setMeh (setErr w true) false)) false

/-- mudlib_error_handler + the verification master's error_handler(): reports, then behaves per `meh`.
    Returns `true` when the handler itself raised (control has left through a nested error_handler/longjmp).
    Behaviour `recurse` (LPC): `catch (error ("mehinner"))`, then `error ("mehagain")`.  The caught error is delivered
    to the catch's own context, which is not `mudlib_error_handler_context`: in_mudlib_error_handler STAYS set and the
    handler goes on (C05's fix; before, the flag was cleared and the second error re-entered the handler).  The second
    error reaches error_handler() with the flag still set and is delivered to the context the handler was entered
    with: "error in mudlib error handler", flag := 0, no second report - the same exit as behaviour `raise`.  The LPC
    handler counts its calls (`mehDepth`): every third call returns normally.
    `fuel` does not drive a recursion (the handler is never re-entered); the lemmas carry it in their signatures. -/
def callMasterHandler : Nat → W → String → W × Bool
  | 0, w, msg => (emit w (.meh false msg), false)
  | _ + 1, w, msg =>
    match w.meh with
    | .ok => (emit w (.meh false msg), false)
    | .raise =>
      -- error("mehfail") inside the handler: nested error_handler with in_mudlib_error_handler = 1
      (errExit (emit w (.meh false msg)), true)
    | .recurse =>
      if w.mehDepth < 2 then (errExit (bumpDepth (emit w (.meh false msg))), true)
      else (resetDepth (emit w (.meh false msg)), false)

/-- error_handler() for an error outside any catch: everything up to (not including) the longjmp -/
def errorHandler (w : W) (msg : String) : W :=
  if w.inError then
    -- "New error occured while generating error trace!": no report to the mudlib, in_error stays set
    w
  else if w.inMeh then
    -- "error in mudlib error handler"
    errExit w
  else
    -- in_error = 1; in_mudlib_error_handler = 1; in_error = 0; mudlib_error_handler (); in_error = 1; ... = 0
    let r := callMasterHandler 3 (setErr (setMeh (setErr w true) true) false) msg
    if r.2 then r.1 else errExit r.1

/-- error_handler() for an error inside catch() (LOG_CATCHES): reported with caught = 1, then longjmp to the catch -/
def caughtError (w : W) (msg : String) : W :=
  -- inside the master's handler: only logged; the catch's context is not the handler's entry context, the flag stays
  if w.inMeh then w
  else
    let w := { w with inMeh := true }
    let w := emit w (.meh true msg)
    { w with inMeh := false }

/-! ## connections (comm.c) -/

def freeSlot (l : List (Option Conn)) (id : Nat) : List (Option Conn) :=
  l.map (fun s => if hasId id s then none else s)

/-- index (offset `i`) of the first empty slot of `l`, or `i + l.length` -/
def firstNone : List (Option Conn) → Nat → Nat
  | [], i => i
  | none :: _, i => i
  | some _ :: l, i => firstNone l (i + 1)

/-- `for (i = 1; i < max_users; i++) if (!all_users[i]) break;` - first free slot index >= 1 (slot 0 is the
    console's), else where the loop stops: the table size, but never below 1 (empty table: i stays 1) -/
def firstFree : List (Option Conn) → Nat
  | [] => 1
  | _ :: t => firstNone t 1

/-- new_interactive(): returns the new record's serial, or none when it refused (console user exists) -/
def newInteractive (w : W) (console : Bool) (client : Nat) : W × Option Nat :=
  let l := slots w
  if console && (l.headD none).isSome then (w, none)     -- "Console user already exists"
  else
    let i := if console then 0 else firstFree l
    let l := if i ≥ l.length then l ++ List.replicate userChunk none else l
    let id := w.nextConnId
    let c : Conn := { id := id, ob := .master, client := client, cmds := [], part := "", turn := false,
                      hasPI := false, closing := false, out := "" }
    let w := { w with users := some (l.set i (some c)), nextConnId := id + 1 }
    (setInter w .master (some id), some id)

/-- what a hook execution returns: the state and whether an uncaught error is propagating (longjmp in flight) -/
abbrev R := W × Bool

/-- the type of "run hook `k` of object `o`" (open recursion: nesting is bounded by fuel in `runHook`) -/
abbrev HookFn := W → Oid → Kind → R

def markClosing (c : Conn) : Conn := { c with closing := true }

def pushCtx (w : W) : W := { w with ctxDepth := w.ctxDepth + 1 }
def popCtx (w : W) : W := { w with ctxDepth := w.ctxDepth - 1 }

/-- `safe_apply (APPLY_NET_DEAD, ob, ...)` in remove_interactive(): own error context; an error inside is handled
    and stops here -/
def netDeadHook (rh : HookFn) (w : W) (o : Oid) (dested : Bool) : W :=
  if dested then w else
  if w.dead o then w else
  if o = .master then w else            -- the master defines no net_dead()
  popCtx (rh (emit (pushCtx w) (.tNetdead o)) o .netdead).1

/-- the end of remove_interactive(): `ip != all_users[0]`, console shutdown, FREE (ip), slot and pointer cleared -/
def freeConnOf (w : W) (o : Oid) (id : Nat) (client : Nat) : W :=
  match w.users with
  | none => crash w "remove_interactive: all_users is NULL"
  | some l =>
    let text := match findConn w id with | some c => c.out | none => ""
    -- free_object (ob, "remove_interactive"): for the master this is the reference mudlib_connect() took
    let w1 := setInter { w with users := some (freeSlot l id), outs := (client, text) :: w.outs,
                                masterRef := if o = .master then w.masterRef - 1 else w.masterRef } o none
    -- console user and stdin is not a tty: "Console input closed (pipe/file) - shutting down"
    if w.mode = .console && hasId id (l.headD none) then { w1 with shutdown := true } else w1

/-- remove_interactive(ob, dested) without the snoop links -/
def removeInteractiveBody (rh : HookFn) (w : W) (o : Oid) (dested : Bool) : W :=
  match w.inter o with
  | none => w
  | some id =>
    match findConn w id with
    | none => crash w s!"remove_interactive: dangling interactive #{id}"
    | some c =>
      if c.closing then w else                -- "Double call to remove_interactive()"
      let w := netDeadHook rh (mapConn w id markClosing) o dested
      -- the record is still ours (CLOSING keeps everybody else away): ip->snoop_by, ip != all_users[0], FREE (ip)
      freeConnOf (useConn w id) o id c.client

/-- remove_interactive(ob, dested): when the record has gone, the users it was snooping are no longer snooped -/
def removeInteractive (rh : HookFn) (w : W) (o : Oid) (dested : Bool) : W :=
  if (w.inter o).isSome && ((removeInteractiveBody rh w o dested).inter o).isNone
  then clearSnoopers (removeInteractiveBody rh w o dested) o else removeInteractiveBody rh w o dested

/-- destruct_object() -/
def destructObject (rh : HookFn) (w : W) (o : Oid) : W :=
  if w.dead o then w else
  let w := setHeartBeat w o 0
  let w := setDead w o
  match w.inter o with
  | some _ => removeInteractive rh w o true
  | none => w

/-- the registry knows the object (it was created and registered) -/
def objExists (w : W) : Oid → Bool
  | .master => false                 -- never a target
  | .user k => 1 ≤ k && k ≤ w.nUser
  | .obj k => w.objList.contains k

def insertCallOut (l : List CallOut) (c : CallOut) : List CallOut :=
  match l with
  | [] => [c]
  | x :: xs => if x.due ≥ c.due then c :: x :: xs else x :: insertCallOut xs c

/-- apply_low() on a plain object: `ob->time_of_ref = current_time` and O_RESET_STATE cleared -/
def touch (w : W) : Oid → W
  | .obj k => { w with resetState := fun x => if x = k then false else w.resetState x,
                       refTime := fun x => if x = k then w.now else w.refTime x }
  | _ => w

def armInputTo (tag : String) (c : Conn) : Conn := if c.inputTo.isNone then { c with inputTo := some tag } else c
def clearInputTo (c : Conn) : Conn := { c with inputTo := none }

/-- set_call(): `ob->interactive == 0 || ob->interactive->input_to` -> 0, else the sentence is installed -/
def setInputTo (w : W) (o : Oid) (tag : String) : W :=
  match w.inter o with
  | none => w
  | some id => mapConn w id (armInputTo tag)

/-- run a script in object `self`; stops at the first uncaught error or when `self` destructs itself -/
def runOps (rh : HookFn) (self : Oid) : List Op → W → R
  | [], w => (w, false)
  | op :: rest, w =>
    match op with
    | .ok => runOps rh self rest w
    | .err => (errorHandler (emit w (.xErr self.name)) s!"boom {self.name}", true)
    | .cerr =>
      -- catch(): own error context around the failing expression
      runOps rh self rest (popCtx (caughtError (pushCtx (emit w (.xCerr self))) s!"cboom {self.name}"))
    | .dest t =>
      let w := emit w (.xDest self t)
      let w := if objExists w t then destructObject rh w t else w     -- LPC: `if (o) destruct (o)`
      if w.dead self then (w, false) else runOps rh self rest w
    | .destMe =>
      let w := emit w (.xDest self self)
      (destructObject rh w self, false)
    | .co d tag =>
      let w := emit w (.xCo self tag)
      runOps rh self rest { w with callouts := insertCallOut w.callouts { owner := self, tag := tag, due := w.now + d } }
    | .hb n =>
      let w := emit w (.xHb self n)
      runOps rh self rest (setHeartBeat w self n)
    | .w s =>
      -- tell_object(): add_message for a user; for a plain object the catch_tell apply touches it (O_RESET_STATE off)
      runOps rh self rest (addOut (touch w self) self (s ++ "|"))
    | .meh m => runOps rh self rest { w with meh := m }
    | .snoop t =>
      runOps rh self rest (setSnoop (emit w (.xSnoop self t)) self t)
    | .it tag =>
      -- input_to(): set_call (command_giver, ...) - command_giver is the user itself in logon / process_input /
      -- command / input_to callbacks; refused (returns 0, no error) when there is no connection or one is pending
      runOps rh self rest (setInputTo (emit w (.xIt self tag)) self tag)

def kindEv (o : Oid) : Kind → Ev
  | .logon => .tLogon o
  | .input => .tInput o ""
  | .cmd v => .tCmd o v
  | .netdead => .tNetdead o
  | .hb => .tHb o
  | .co tag => .tCo o tag
  | .reset => .tReset o
  | .cleanup => .tCleanup o
  | .prompt => .tPrompt o
  | .snoop => .tSnoop o
  | .it tag => .tIt o tag ""

/-- run hook `k` of object `o` with nesting fuel -/
def runHook (S : Scripts) : Nat → HookFn
  | 0 => fun w _ _ => (w, false)
  | fuel + 1 => fun w o k => runOps (runHook S fuel) o (S.hook o k) w

def bindTo (u : Oid) (c : Conn) : Conn := { c with ob := u, hasPI := true }

/-- mudlib_connect(): master->connect(); on success the record moves from the master to the new user object -/
def mudlibConnect (S : Scripts) (w : W) : W × Option Oid × Bool :=
  let k := w.nConnect + 1
  let w := { w with nConnect := k, masterRef := w.masterRef + 1 }      -- add_ref (master_ob, "mudlib_connect")
  let w := emit w (.tConnect k)
  match S.connect k with
  | .err =>
    -- safe_apply_master_ob (fix commit): connect() runs under its own recovery point; the error is reported as
    -- usual and the connection then counts as rejected (the caller removes the record bound to the master)
    (popCtx (errorHandler (emit (pushCtx w) (.xErr s!"k{k}")) s!"boom {s!"k{k}"}"), none, false)
  | .rej => (w, none, false)
  | .ok =>
    match w.inter .master with
    | none => (w, none, false)          -- "!master_ob->interactive": rejected
    | some id =>
      -- ob->interactive = master_ob->interactive; ip->ob = ob; iflags |= HAS_PROCESS_INPUT; master_ob->interactive = 0
      let u := Oid.user (w.nUser + 1)
      let w := { w with nUser := w.nUser + 1, masterRef := w.masterRef - 1 }   -- free_object (master_ob, ...)
      (mapConn (setInter (setInter w .master none) u (some id)) id (bindTo u), some u, false)

/-- mudlib_logon(): `safe_apply (APPLY_LOGON, ...)` (fix commit) - logon() runs under its own recovery point, an
    uncaught error in it is reported and stops there: process_io() goes on with the next event of the poll round.
    (Before, the error unwound to backend() and the rest of the round was abandoned - socket events were reported again
    by the next poll, a console completion was not.) -/
def logonHook (rh : HookFn) (w : W) (u : Oid) : R :=
  let w := emit (pushCtx w) (.tLogon u)
  let w := addOut w u s!"hello_{u.name}|"
  (popCtx (rh w u .logon).1, false)

/-- after new_interactive(): mudlib_connect(); rejected -> remove the record again; accepted -> logon() -/
def afterConnect (S : Scripts) (rh : HookFn) (w : W) : R :=
  let r := mudlibConnect S w
  if r.2.2 then (r.1, true) else
  match r.2.1 with
  | none =>
    match r.1.inter .master with
    | some _ => (removeInteractive rh r.1 .master false, false)
    | none => (r.1, false)
  | some u => logonHook rh r.1 u

/-- setup_accepted_connection() after accept() -/
def acceptConn (S : Scripts) (rh : HookFn) (w : W) (client : Nat) : R :=
  let r := newInteractive w false client
  match r.2 with
  | none => (r.1, false)
  | some _ => afterConnect S rh r.1

/-- init_console_user(reconnect) -/
def initConsoleUser (S : Scripts) (rh : HookFn) (w : W) : R :=
  let w := (newInteractive w true 0).1
  match w.inter .master with
  | none => (crash w "init_console_user: master_ob->interactive is NULL", false)
  | some _ => afterConnect S rh w

/-- split received text at line ends ('/'): (complete lines, new partial) -/
def splitLines (part : String) (text : String) : List String × String :=
  let pieces := (part ++ text).splitOn "/"
  (pieces.dropLast, pieces.getLastD "")

def bufferText (ls : List String) (p : String) (c : Conn) : Conn := { c with cmds := c.cmds ++ ls, part := p }

/-- receive_snoop(): `safe_apply (APPLY_RECEIVE_SNOOP, ip->snoop_by->ob)` (fix commit: own recovery point) - the
    snooper's callback may destruct or disconnect anybody, an error in it stops there.  The scripted receive_snoop()
    acts on text that carries a CR (raw input and the CR LF echo), not on ordinary output. -/
def snoopHook (rh : HookFn) (w : W) (id : Nat) : W :=
  match findConn w id with
  | none => w
  | some c =>
    match c.snoopBy with
    | none => w
    | some s => popCtx (rh (emit (pushCtx w) (.tSnoop s)) s .snoop).1

/-- copy_chars(): every CR LF is echoed - add_message (ip->ob, "\r\n"), whose last act is the snoop forwarding - and
    the record is re-validated afterwards (fix commit): when the snooper removed the user, copy_chars() gives up (-1) -/
def echoLoop (rh : HookFn) : Nat → W → Nat → Oid → W
  | 0, w, _, _ => w
  | n + 1, w, id, ob =>
    let w1 := snoopHook rh (addOut w ob "|") id
    if w1.inter ob ≠ some id then w1 else echoLoop rh n w1 id ob

/-- get_user_data() with data.  Console: the line is buffered.  TELNET: copy_chars() (echo per line; -1 = the user is
    gone, the packet is dropped), then the text is in the buffer and CMD_IN_BUF is set, and LAST (fix commit: it came
    before the flag and `ip` was used after it) the raw input is shown to the snooper. -/
def userData (rh : HookFn) (w : W) (id : Nat) (telnet : Bool) (text : String) : W :=
  match findConn w id with
  | none => w
  | some c =>
    let ls := (splitLines c.part text).1.filter (· ≠ "")
    if telnet then
      let w1 := echoLoop rh ls.length w id c.ob
      if w1.inter c.ob ≠ some id then w1 else
      let w2 := mapConn w1 id (bufferText ls (splitLines c.part text).2)
      if text.contains '/' then snoopHook rh w2 id else w2
    else mapConn w id (bufferText ls (splitLines c.part text).2)

def connOfClient (w : W) (client : Nat) : Option Conn :=
  ((slots w).find? (fun s => match s with | some c => c.client == client | none => false)).join

/-- one event of process_io(); `true` = an uncaught error left process_io -/
def ioEvent (S : Scripts) (rh : HookFn) (w : W) : IoEv → R
  | .wakeup => (w, false)
  | .accept client => acceptConn S rh w client
  | .data id text =>
    match findConn w id with                  -- is_interactive_user (evt->context)
    | none => (w, false)
    | some c =>
      -- "Validate interactive is still valid": !ip->ob || destructed || ip->ob->interactive != ip
      if w.dead c.ob || w.inter c.ob ≠ some c.id then (w, false) else
      -- after get_user_data: re-validated through the saved object (fix commit), never through ip
      (userData rh w c.id true text, false)
  | .eof id =>
    -- EVENT_READ, recv() returns 0: get_user_data() calls remove_interactive (ip->ob, 0)
    match findConn w id with
    | none => (w, false)
    | some c =>
      if w.dead c.ob || w.inter c.ob ≠ some c.id then (w, false) else
      (removeInteractive rh w c.ob false, false)
  | .hup id =>
    -- EVENT_ERROR | EVENT_CLOSE (connection reset): remove_interactive (ip->ob, 0) without reading
    match findConn w id with
    | none => (w, false)
    | some c =>
      if w.dead c.ob || w.inter c.ob ≠ some c.id then (w, false) else
      (removeInteractive rh w c.ob false, false)
  | .console text =>
    match w.users with
    | none => (crash w "process_io: all_users[0] with all_users == NULL (console)", false)
    | some l =>
      -- console user disconnected: re-connect first
      let r := if (l.headD none).isNone then initConsoleUser S rh w else (w, false)
      if r.2 then (r.1, true) else
      match (slots r.1).headD none with
      | none => (r.1, false)
      | some c => (userData rh r.1 c.id false text, false)

def processIoEvents (S : Scripts) (rh : HookFn) : List IoEv → W → R
  | [], w => (w, false)
  | e :: es, w =>
    if (ioEvent S rh w e).2 then ((ioEvent S rh w e).1, true) else processIoEvents S rh es (ioEvent S rh w e).1

/-- the entries behind one whose handler left process_io() by longjmp: they are never looked at again, but their
    descriptors are still ready, so the next poll reports them once more (level-triggered registration).  Since
    logon() runs under safe_apply (fix commit) no scripted handler leaves process_io() this way any more (what is left
    in the C code: process_input of the ASCII port in get_user_data) - `abandoned` is `[]` on every scripted run; the
    mechanism is kept because process_io() itself still has no recovery point. -/
def abandoned (S : Scripts) (rh : HookFn) : List IoEv → W → List IoEv
  | [], _ => []
  | e :: es, w => if (ioEvent S rh w e).2 then es else abandoned S rh es (ioEvent S rh w e).1

/-- connection events are reported again; a console completion is not (its doorbell has been reset) and a second
    pending connection is not scripted -/
def isConnEv : IoEv → Bool
  | .data _ _ | .eof _ | .hup _ => true
  | _ => false

def clearBacklog (w : W) : W := { w with backlog := [] }
def setBacklog (w : W) (l : List IoEv) : W := { w with backlog := l }

/-- what the next poll reports on top of the new events -/
def pendingEvents (w : W) : List IoEv := w.backlog.filter isConnEv

/-- process_io(): all events, then `if (all_users && all_users[0]) flush_message (all_users[0])` -/
def processIo (S : Scripts) (rh : HookFn) (w : W) (evs : List IoEv) : R :=
  let r := processIoEvents S rh evs w
  if r.2 then (r.1, true) else
  match r.1.users with
  | none => (r.1, false)            -- guarded by the fix; before it: `all_users[0]` with all_users == NULL
  | some _ => (r.1, false)

/-! ## commands (comm.c) -/

/-- get_user_command(): scan from the rotating cursor downwards for a user with a buffered command and a turn -/
def scanUsers : Nat → W → W × Option Conn
  | 0, w => (w, none)
  | n + 1, w =>
    match w.users with
    | none => (w, none)
    | some l =>
      match l[w.nextUser]? with
      | none => (crash w "get_user_command: s_next_user out of range", none)
      | some s =>
        let dec (w : W) : W := { w with nextUser := if w.nextUser = 0 then l.length - 1 else w.nextUser - 1 }
        match s with
        | some c =>
          if !c.cmds.isEmpty && c.turn then
            -- consume the turn, take the command, move the cursor
            let w := mapConn w c.id (fun c => { c with turn := false, cmds := c.cmds.drop 1 })
            (dec w, some c)
          else scanUsers n (dec w)
        | none => scanUsers n (dec w)

/-- update_load_av(): duration = current_time - last_time indexes consts[]; clamped when the clock stepped back -/
def updateLoadAv (w : W) : W :=
  if w.now = w.loadLast then w
  else if w.now < w.loadLast then { w with loadLast := w.now }      -- fix commit; before: consts[negative]
  else { w with loadLast := w.now }

/-- `ip->iflags & HAS_PROCESS_INPUT` -/
def hasPIOf (w : W) (id : Nat) : Bool := match findConn w id with | some c => c.hasPI | none => false

/-- process_input apply of process_user_command() -/
def inputStage (rh : HookFn) (w : W) (cg : Oid) (line : String) (hasPI : Bool) : R :=
  if hasPI then rh (emit w (.tInput cg line)) cg .input else (w, false)

/-- process_command -> user_parser -> the catch-all verb of the user object -/
def commandStage (rh : HookFn) (w : W) (cg : Oid) (line : String) : R :=
  if cg = .master then (w, false)           -- user_parser(): no O_ENABLE_COMMANDS, nothing happens
  else if w.dead cg then (w, false) else
    -- user_parser(): the verb is copied into verb_buff[MAX_VERB_BUFF] (strncpy, MAX_VERB_BUFF - 1 characters)
    let verb := (line.take (maxVerbBuff - 1)).toString
    let r := rh (emit w (.tCmd cg verb)) cg (.cmd verb)
    if r.2 then (r.1, true) else (addOut r.1 cg s!"ack_{verb}|", false)

/-- `ip->input_to` -/
def inputToOf (w : W) (id : Nat) : Option String := match findConn w id with | some c => c.inputTo | none => none

/-- print_prompt (ip): only while no input_to() is pending the user object's write_prompt() is applied (unprotected:
    an error unwinds to backend()); the record is re-validated (IP_VALID) before flush_message (ip) touches it.  The
    scripted write_prompt() writes the prompt text itself.  The master is not a user object: nothing happens. -/
def promptStage (rh : HookFn) (w : W) (cg : Oid) (id : Nat) : R :=
  if cg = .master then (w, false) else
  if (inputToOf w id).isSome then (w, false) else
  let r := rh (emit w (.tPrompt cg)) cg .prompt
  if r.2 then (r.1, true) else
  if r.1.inter cg ≠ some id then (r.1, false) else               -- IP_VALID
  (addOut (useConn r.1 id) cg ">_", false)

/-- the ordinary path of process_user_command(): process_input, VALIDATE_IP, the command, VALIDATE_IP, the prompt -/
def plainCommand (rh : HookFn) (w : W) (cg : Oid) (id : Nat) (line : String) : W × Bool × Bool :=
  let hasPI := hasPIOf w id
  let r1 := inputStage rh w cg line hasPI
  if r1.2 then (r1.1, true, true) else
  if hasPI && r1.1.inter cg ≠ some id then (r1.1, true, false) else      -- VALIDATE_IP
  let r2 := commandStage rh r1.1 cg line
  if r2.2 then (r2.1, true, true) else
  if r2.1.inter cg ≠ some id then (r2.1, true, false) else               -- VALIDATE_IP
  ((promptStage rh (useConn r2.1 id) cg id).1, true, (promptStage rh (useConn r2.1 id) cg id).2)

/-- call_function_interactive(): the sentence is freed and `ip->input_to` cleared BEFORE the callback runs (it may
    call input_to() again); the line goes to the callback instead of process_input / the command parser -/
def inputToCommand (rh : HookFn) (w : W) (cg : Oid) (id : Nat) (line : String) (tag : String) : W × Bool × Bool :=
  let r := rh (emit (mapConn w id clearInputTo) (.tIt cg tag line)) cg (.it tag)
  if r.2 then (r.1, true, true) else
  if r.1.inter cg ≠ some id then (r.1, true, false) else                 -- VALIDATE_IP
  ((promptStage rh (useConn r.1 id) cg id).1, true, (promptStage rh (useConn r.1 id) cg id).2)

/-- process_user_command() once get_user_command() has picked a record: (state, processed, uncaught error) -/
def serveCommand (rh : HookFn) (w : W) (c0 : Conn) : W × Bool × Bool :=
  let cg := c0.ob                               -- command_giver = ip->ob
  let line := c0.cmds.headD ""
  if w.dead cg then (w, true, false) else
  match w.inter cg with                         -- ip = command_giver->interactive
  | none => (w, true, false)
  | some id =>
    let w := updateLoadAv (useConn w id)        -- clear_notify (ip); update_load_av ()
    match inputToOf w id with
    | some tag => inputToCommand rh w cg id line tag
    | none => plainCommand rh w cg id line

/-- process_user_command(): returns (state, a command was processed, uncaught error) -/
def processUserCommand (rh : HookFn) (w : W) : W × Bool × Bool :=
  let r := scanUsers (slots w).length w
  match r.2 with
  | none => (r.1, false, false)
  | some c0 => serveCommand rh r.1 c0

/-- `for (i = 0; process_user_command () && i < connected_users; i++);` -/
def commandLoop (rh : HookFn) : Nat → W → R
  | 0, w => ((processUserCommand rh w).1, (processUserCommand rh w).2.2)
  | n + 1, w =>
    let r := processUserCommand rh w
    if r.2.2 then (r.1, true) else
    if r.2.1 then commandLoop rh n r.1 else (r.1, false)

/-! ## the timer tick (backend.c call_heart_beat) -/

/-- the `while` loop of call_heart_beat(); fuel = number of entries at the start of the round -/
def hbLoop (rh : HookFn) : Nat → W → R
  | 0, w => (w, false)
  | n + 1, w =>
    match w.hbs[w.hbNext]? with           -- heart_beats[heart_beat_index]
    | none => (w, false)
    | some o =>
      let r := rh (emit { w with hbNext := w.hbNext + 1, curHb := some o } (.tHb o)) o .hb
      if r.2 then (r.1, true) else
      if r.1.hbNext = r.1.hbToDo then (r.1, false) else hbLoop rh n r.1

/-- reset_object(): next_reset first, then apply (time_of_ref, clears O_RESET_STATE), O_RESET_STATE set when it returns;
    the Bool says that reset() raised an error (longjmp to the recovery point of the sweep) -/
def resetObjectR (rh : HookFn) (w : W) (k : Nat) : R :=
  let r := rh (emit { w with nextReset := fun x => if x = k then w.now + resetDuration / 2 else w.nextReset x,
                             refTime := fun x => if x = k then w.now else w.refTime x }
                    (.tReset (.obj k))) (.obj k) .reset
  if r.2 then (r.1, true) else ({ r.1 with resetState := fun x => if x = k then true else r.1.resetState x }, false)

def resetObject (rh : HookFn) (w : W) (k : Nat) : W := (resetObjectR rh w k).1

/-- the clean_up branch of look_for_objects_to_swap(): O_RESET_STATE is saved, apply (APPLY_CLEAN_UP) (time_of_ref,
    clears O_RESET_STATE), and - unless the object is gone - the saved flag is or-ed back.  An error in clean_up()
    leaves by longjmp: the saved flag is NOT restored (the restarted walk finds the object due for reset() again).
    The scripted clean_up() returns 1, so O_WILL_CLEAN_UP stays.  The Bool says that clean_up() raised. -/
def cleanupObject (rh : HookFn) (w : W) (k : Nat) : R :=
  let r := rh (emit (touch w (.obj k)) (.tCleanup (.obj k))) (.obj k) .cleanup
  if r.2 then (r.1, true) else
  if r.1.dead (.obj k) then (r.1, false) else
  ({ r.1 with resetState := fun x => if x = k then (r.1.resetState k || w.resetState k) else r.1.resetState x }, false)

/-- one object of the walk: `ref_time` is read BEFORE reset() (so a reset does not postpone the clean_up); the Bool
    says that reset() or clean_up() raised (longjmp to the recovery point in front of the walk) -/
def sweepObject (rh : HookFn) (w : W) (k : Nat) : R :=
  let r := if w.nextReset k < w.now && !w.resetState k then resetObjectR rh w k else (w, false)
  if r.2 then (r.1, true) else
  -- an object destructed by its own reset() is not scripted (the C code would still apply clean_up to it)
  if r.1.dead (.obj k) then (r.1, false) else
  if 0 < cleanupDuration && cleanupDuration < r.1.now - w.refTime k then cleanupObject rh r.1 k else (r.1, false)

/-- one walk over obj_list, up to the first error -/
def sweepPass (rh : HookFn) : List Nat → W → R
  | [], w => (w, false)
  | k :: ks, w =>
    if w.dead (.obj k) then sweepPass rh ks w else
    if (sweepObject rh w k).2 then ((sweepObject rh w k).1, true) else sweepPass rh ks (sweepObject rh w k).1

/-- look_for_objects_to_swap(): reset() and clean_up() of every object that is due.  The recovery point sits in
    front of the walk: after an error the walk RESTARTS at the list head (objects already handled are not due any
    more; the failing object has a fresh next_reset / time_of_ref, but a failing clean_up() has cleared its
    O_RESET_STATE, so the restarted walk may reset() it at once).  `fuel` bounds the restarts: every error advances
    next_reset or time_of_ref of its object, at most three per object and sweep. -/
def sweepResets (rh : HookFn) : Nat → W → W
  | 0, w => w
  | fuel + 1, w => if (sweepPass rh w.objList w).2 then sweepResets rh fuel (sweepPass rh w.objList w).1
                   else (sweepPass rh w.objList w).1

/-- call_out(): every due entry fires, entries of destructed objects are dropped; own recovery point per entry -/
def sweepCallOuts (rh : HookFn) : Nat → W → W
  | 0, w => w
  | n + 1, w =>
    match w.callouts with
    | [] => w
    | c :: rest =>
      if c.due ≤ w.now then
        let w := { w with callouts := rest }
        if w.dead c.owner then sweepCallOuts rh n w else
        sweepCallOuts rh n (rh (touch (emit w (.tCo c.owner c.tag)) c.owner) c.owner (.co c.tag)).1
      else w

/-- the heart-beat round of call_heart_beat() -/
def hbRound (rh : HookFn) (w : W) : R :=
  if w.hbToDo > 0 then
    let r := hbLoop rh w.hbToDo { w with hbNext := 0 }
    if r.2 then (r.1, true) else ({ r.1 with hbNext := 0, hbToDo := 0 }, false)
  else (w, false)

/-- look_for_objects_to_swap() and call_out(), each under its own error context -/
def timerSweeps (rh : HookFn) (w : W) : W :=
  let w := { w with curHb := none }
  let w :=
    if w.now < w.nextSweep then w else
    popCtx (sweepResets rh (3 * w.objList.length + 3) (pushCtx { w with nextSweep := w.now + sweepPeriod }))
  popCtx (sweepCallOuts rh (w.callouts.length) (pushCtx w))

/-- call_heart_beat() -/
def callHeartBeat (rh : HookFn) (w : W) : R :=
  let r := hbRound rh { w with hbFlag := false, now := w.clock, hbToDo := w.hbs.length }
  if r.2 then (r.1, true) else (timerSweeps rh r.1, false)

/-! ## preload_objects() (backend.c; called by main() before backend()) -/

/-- the loop over the array epilog() returned: master->preload (file) for every entry; an error is reported, the
    recovery point in front of the loop does `ix++` and the loop goes on with the NEXT file ("effectively a continue") -/
def preloadFiles : List (String × Bool) → W → W
  | [], w => w
  | (name, raises) :: fs, w =>
    if raises then preloadFiles fs (errorHandler (emit (emit w (.tPreload name)) (.xErr name)) s!"boom {name}")
    else preloadFiles fs (emit w (.tPreload name))

/-- preload_objects(): epilog() under its own recovery point (an error there: nothing is preloaded), then the files
    under a second one -/
def preloadObjects (epilogRaises : Bool) (files : List (String × Bool)) (w : W) : W :=
  if epilogRaises then popCtx (errorHandler (emit (emit (pushCtx w) .tEpilog) (.xErr "epilog")) "boom epilog")
  else popCtx (preloadFiles files (pushCtx (popCtx (emit (pushCtx w) .tEpilog))))

/-! ## backend() -/

inductive Action
  | tick (dt : Int) | conn (c : Nat) | send (c : Nat) (text : String) | close (c : Nat) | reset (c : Nat)
  | cin (text : String) | idle
  deriving Repr

/-- what the outside world does while the driver waits in do_comm_polling(): returns the reported I/O events -/
def applyAction (w : W) : Action → W × List IoEv
  | .tick dt => ({ w with clock := (Int.ofNat w.clock + dt).toNat, hbFlag := true }, [.wakeup])
  | .conn c => ({ w with tcpClients := c :: w.tcpClients }, [.accept c])
  | .send c text =>
    match connOfClient w c with
    | some r => (w, [.data r.id text])
    | none => (w, [])
  | .close c =>
    let w := { w with closedByScript := c :: w.closedByScript }
    match connOfClient w c with
    | some r => (w, [.eof r.id])
    | none => (w, [])
  | .reset c =>
    -- the client aborts the connection (RST): the socket reports error / hang-up
    let w := { w with closedByScript := c :: w.closedByScript }
    match connOfClient w c with
    | some r => (w, [.hup r.id])
    | none => (w, [])
  | .cin text => if w.mode = .console then (w, [.console text]) else (w, [])   -- no console queue in network mode
  | .idle => (w, [])

def applyActions : List Action → W → W × List IoEv
  | [], w => (w, [])
  | a :: as, w =>
    ((applyActions as (applyAction w a).1).1, (applyAction w a).2 ++ (applyActions as (applyAction w a).1).2)

/-- restore_context (&econ) at the recovery point of backend(): back to the head of the loop.
    (Before the fix commits the start-up code ran again from here.) -/
def recover (w : W) : W := { w with ctxDepth := 1 }

/-- remove_destructed_objects (); grant command turns; do_comm_polling (trace marker, the outside world acts) -/
def cycleHead (n : Nat) (acts : List Action) (w : W) : W × List IoEv :=
  applyActions acts
    (emit { w with users := w.users.map (fun l => l.map (fun s => s.map (fun c => { c with turn := true }))) } (.cycle n))

/-- the body of one iteration after the poll: process_io, the command loop, call_heart_beat -/
def cycleBody (S : Scripts) (rh : HookFn) (connected : Nat) (w : W) (evs : List IoEv) : W × Bool :=
  let r1 := if evs.isEmpty then (clearBacklog w, false) else processIo S rh (clearBacklog w) evs
  if r1.2 then (recover (setBacklog r1.1 (abandoned S rh evs (clearBacklog w))), false) else
  let r2 := commandLoop rh connected r1.1
  if r2.2 then (recover r2.1, false) else
  if r2.1.hbFlag then
    let r3 := callHeartBeat rh r2.1
    if r3.2 then (recover r3.1, false) else (r3.1, true)
  else (r2.1, true)

/-- one iteration of `while (1)` in backend(); `n` is the cycle number (trace marker at the poll point).
    The Bool says whether the iteration reached its end (where the H1 hook sits) instead of leaving by longjmp. -/
def cycle (S : Scripts) (rh : HookFn) (n : Nat) (acts : List Action) (w : W) : W × Bool :=
  if w.shutdown then (w, false) else
  cycleBody S rh ((slots w).filter Option.isSome).length (cycleHead n acts w).1
    (pendingEvents w ++ (cycleHead n acts w).2)

/-- backend() up to the loop: save_context, recovery point, then the start-up steps - initial tick, console user -
    each exactly once even when the previous one left through the recovery point (fix commits) -/
def startup (S : Scripts) (rh : HookFn) (w : W) : W :=
  let r := callHeartBeat rh { (emit w .start) with ctxDepth := 1 }
  let w := if r.2 then recover r.1 else r.1
  if w.mode = .console then
    let r := initConsoleUser S rh w
    if r.2 then recover r.1 else r.1
  else w

def runCycles (S : Scripts) (rh : HookFn) : Nat → List (List Action) → W → W
  | _, [], w => w
  | n, a :: as, w => runCycles S rh (n + 1) as (cycle S rh n a w).1

/-- nesting fuel handed to every top-level task -/
def hookFuel : Nat := 64

/-- backend() on a history of external events: one list of actions per loop iteration -/
def run (S : Scripts) (w0 : W) (h : List (List Action)) : W :=
  runCycles S (runHook S hookFuel) 1 h (startup S (runHook S hookFuel) w0)

/-! ## what the harness adds: trailing idle cycles until H1 leaves the loop, final observations -/

/-- scripted cycles; returns the state, the next cycle number and whether the last cycle reached the hook -/
def runScripted (S : Scripts) (rh : HookFn) : Nat → List (List Action) → W → Bool → W × Nat × Bool
  | n, [], w, last => (w, n, last)
  | n, a :: as, w, _ =>
    let (w, done) := cycle S rh n a w
    runScripted S rh (n + 1) as w done

/-- the hook leaves the loop at the third completed iteration that found the script exhausted -/
def trailing (S : Scripts) (rh : HookFn) : Nat → Nat → Nat → W → W
  | 0, _, _, w => w
  | f + 1, n, trail, w =>
    if w.shutdown || trail > 2 then w else
    let (w, done) := cycle S rh n [] w
    trailing S rh f (n + 1) (if done then trail + 1 else trail) w

def insertSorted (s : String) : List String → List String
  | [] => [s]
  | x :: xs => if s < x then s :: x :: xs else x :: insertSorted s xs

def sortStrings (l : List String) : List String := l.foldr insertSorted []

def insertByKey (e : Nat × String) : List (Nat × String) → List (Nat × String)
  | [] => [e]
  | x :: xs => if e.1 < x.1 then e :: x :: xs else x :: insertByKey e xs

/-- (client, output) of every connection that still exists -/
def liveOuts (w : W) : List (Nat × String) := (slots w).filterMap (fun s => s.map (fun c => (c.client, c.out)))

/-- outputs the harness can still read: not of clients the script itself closed.  A client whose connection the
    driver never accepted (the accept was abandoned by a longjmp, or the driver was shut down first) has read nothing. -/
def allOuts (w : W) : List (Nat × String) :=
  let known := w.outs.reverse ++ liveOuts w
  let never := (w.tcpClients.reverse.filter (fun c => !(known.any (fun e => e.1 == c)))).map (fun c => (c, ""))
  (known ++ never).filter (fun e => !(w.closedByScript.contains e.1))

def exitEv (w : W) : Ev := if w.shutdown then .exitShutdown else .exitLoop
def outEv (e : Nat × String) : Ev := .out s!"c{e.1}" e.2
def consoleOutEv (w : W) : Ev := .out "console" (String.join (((allOuts w).filter (fun e => e.1 = 0)).map (·.2)))

/-- indices of the occupied slots of all_users[] -/
def occupiedIdx : List (Option Conn) → Nat → List Nat
  | [], _ => []
  | none :: l, i => occupiedIdx l (i + 1)
  | some _ :: l, i => i :: occupiedIdx l (i + 1)

/-- `exit ...`, `hbs`, `refs`, `slots`, `slotidx` -/
def finishHead (w : W) : W :=
  emit (emit (emit (emit (emit w (exitEv w)) (.hbs (sortStrings (w.hbs.map Oid.name)))) (.refs w.masterRef 0))
    (.slots (liveOuts w).length)) (.slotIdx (occupiedIdx (slots w) 0))

/-- final observations printed by the harness after backend() returned -/
def finish (w : W) : W :=
  let w1 := (((allOuts w).filter (fun e => e.1 ≠ 0)).foldr insertByKey []).foldl (fun v e => emit v (outEv e))
              (finishHead w)
  if w.mode = .console then emit w1 (consoleOutEv w) else w1

def runFull (S : Scripts) (w0 : W) (h : List (List Action)) : W :=
  let rh := runHook S hookFuel
  let w := startup S rh w0
  let (w, n, last) := runScripted S rh 1 h w false
  let w := trailing S rh 256 n (if last then 1 else 0) w
  finish w

end NV.C09
