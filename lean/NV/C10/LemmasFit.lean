/-
C10 — every handle printed in a history is bounded by the number of call_outs made so far (`unique`):
invariant `HB` along the whole control skeleton (no hypotheses: the only
facts used are that events are only appended and that `unique` never decreases).  From it `handlesFit_of_bound`
(Props.lean) gets the decidable side condition `handlesFit` of the int-width theorem under the bound
`unique + 1 ≤ 2^31 / N`.
-/
import NV.C10.LemmasSweep

namespace NV.C10

/-- a `co` event carries a handle that new_call_out can have produced with at most `u` call_outs made -/
def coFits (u : Nat) : Ev → Prop
  | .co _ _ _ _ _ h _ _ => 0 ≤ h ∧ h < ((N * (u + 1) : Nat) : Int)
  | _ => True

def HB (w : World) : Prop := ∀ e ∈ w.out, coFits w.unique e

theorem coFits.mono {u u' : Nat} (h : u ≤ u') {e : Ev} (he : coFits u e) : coFits u' e := by
  cases e with
  | co t o fn d tag hd fp tp =>
    have hm : N * (u + 1) ≤ N * (u' + 1) := Nat.mul_le_mul_left _ (by omega)
    exact ⟨he.1, by have := he.2; omega⟩
  | _ => trivial

theorem HB.congr {w w' : World} (hb : HB w) (hout : w'.out = w.out) (hu : w.unique ≤ w'.unique) : HB w' := by
  intro e he
  rw [hout] at he
  exact (hb e he).mono hu

theorem HB.emit {w w' : World} {ev : Ev} (hb : HB w) (hout : w'.out = w.out) (hu : w.unique ≤ w'.unique)
    (hev : coFits w'.unique ev) : HB (emit w' ev) := by
  intro e he
  have he' : e = ev ∨ e ∈ w'.out := List.mem_cons.1 he
  rcases he' with rfl | he'
  · exact hev
  · rw [hout] at he'
    exact (hb e he').mono hu

/-- an event printed by the world as it is (used for everything but `co` lines, where `coFits` is `True`) -/
theorem HB.note {w : World} (hb : HB w) (ev : Ev) (hev : coFits w.unique ev) : HB (NV.C10.emit w ev) :=
  HB.emit hb rfl (Nat.le_refl _) hev

theorem stepOp_hb {w : World} (hb : HB w) (self : Nat) (op : Op) : HB (stepOp w self op).w := by
  cases op with
  | co fn delay tag fp =>
    unfold stepOp
    simp only []
    split
    · exact HB.emit (w := w) hb rfl (Nat.le_refl _)
        ⟨Int.le_refl _, Int.ofNat_lt.2 (Nat.mul_pos N_pos (Nat.succ_pos _))⟩
    · have hu : (newCallOut w self fn tag delay fp).1.unique = w.unique + 1 := by rw [newCallOut_fst]; rfl
      have hs : coSlot w delay < N := slotOf_lt _
      refine HB.emit (w := w) hb (newCallOut_out w self fn tag delay fp) (by rw [hu]; exact Nat.le_succ _)
        ⟨Int.natCast_nonneg _, Int.ofNat_lt.2 ?_⟩
      rw [newCallOut_snd, hu, Nat.mul_succ N (w.unique + 1)]
      omega
  | rmh tag =>
    obtain ⟨sl, e⟩ := removeByHandle_slots_only w (lookupHandle w self tag)
    exact HB.emit hb (by rw [e]) (by rw [e]; exact Nat.le_refl _) trivial
  | rmn fn =>
    obtain ⟨sl, e⟩ := removeByName_slots_only w self fn
    exact HB.emit hb (by rw [e]) (by rw [e]; exact Nat.le_refl _) trivial
  | rmall => exact HB.emit (w' := removeAll w self) hb rfl (Nat.le_refl _) trivial
  | dest t => rw [stepOp_dest]; exact HB.emit (w := w) hb rfl (Nat.le_refl _) trivial
  | reload => exact HB.emit (w' := reloadObj w self) hb rfl (Nat.le_refl _) trivial
  | _ => exact hb.note _ trivial

theorem runOps_hb {w : World} (hb : HB w) (self : Nat) (ops : List Op) : HB (runOps w self ops).1 :=
  runOps_ind (P := HB) (fun _ h => h) (fun _ op h => ⟨stepOp_hb h self op, fun _ => stepOp_hb h self op⟩) ops w hb

theorem fireOne_hb (sc : Scripts) {w : World} (hb : HB w) (cop : Entry) : HB (fireOne sc w cop) := by
  rw [fireOne_eq_spec]
  unfold fireOneSpec
  split
  · split
    · exact hb.note _ trivial
    · exact hb
  · have h1 : HB (emit { w with giver := liveGiver w cop.c.giver, busy := 1 }
        (.fire (vnow w) cop.c.owner cop.c.fn cop.c.tag (liveGiver w cop.c.giver))) :=
      HB.emit (w := w) hb rfl (Nat.le_refl _) trivial
    exact (runOps_hb h1 cop.c.owner (sc cop.c.owner cop.c.tag)).congr rfl (Nat.le_refl _)

theorem visit_hb (sc : Scripts) (tm : Nat) : ∀ (fuel : Nat) (w : World), HB w → HB (visit sc tm fuel w) :=
  fun fuel w hb =>
    visit_ind (D := fun _ => True) trivial sc tm
      (fun v cop rest hv _ _ => fireOne_hb sc (hv.congr (w' := setSlot v tm rest) rfl (Nat.le_refl _)) cop)
      fuel w hb (fun _ _ _ => trivial)

theorem decHead_hb {w : World} (hb : HB w) : HB (decHead w) := by
  obtain ⟨sl, e⟩ := decHead_fields w
  exact hb.congr (by rw [e]) (by rw [e]; exact Nat.le_refl _)

theorem sweepSecond_hb (sc : Scripts) {w : World} (hb : HB w) : HB (sweepSecond sc w) :=
  sweepSecond_cases sc w (fun _ => decHead_hb hb) (fun _ _ _ _ => visit_hb sc _ _ _ (decHead_hb hb))

theorem sweepLoop_hb (sc : Scripts) : ∀ (fuel : Nat) (w : World), HB w → HB (sweepLoop sc fuel w) :=
  sweepLoop_ind sc (fun _ hb _ => sweepSecond_hb sc hb)

theorem sweep_hb (sc : Scripts) {w : World} (hb : HB w) : HB (sweep sc w) := by
  rw [sweep_eq, sweepCore_eq]
  exact HB.congr (sweepLoop_hb sc _ _ (hb.congr (w' := { w with cot := coCot w }) rfl (Nat.le_refl _))) rfl
    (Nat.le_refl _)

theorem applyOp_hb {w : World} (hb : HB w) (self : Nat) (op : Op) : HB (applyOp w self op) := by
  unfold applyOp
  split
  · exact hb.note _ trivial
  · simp only []
    have := runOps_hb hb self [op]
    split
    · exact this.note _ trivial
    · exact this

theorem stepCmd_hb (sc : Scripts) {w : World} (hb : HB w) (c : Cmd) : HB (stepCmd sc w c) := by
  cases c with
  | adv dt => exact hb.congr rfl (Nat.le_refl _)
  | sweep =>
    exact (sweep_hb sc (hb.note (.tickbegin (vnow w)) trivial)).note _ trivial
  | setScript self =>
    show HB (if isDead w self then emit w (.setScriptDestructed self) else w)
    split
    · exact hb.note _ trivial
    · exact hb
  | op self op => exact applyOp_hb hb self op
  | gop g self op =>
    have h1 : HB { w with giver := liveGiver w (some g) } := hb.congr rfl (Nat.le_refl _)
    exact (applyOp_hb h1 self op).congr rfl (Nat.le_refl _)
  | setUnique n =>
    show HB (if n > w.unique then { w with unique := n } else w)
    split
    · rename_i hn
      exact hb.congr (w' := { w with unique := n }) rfl (by show w.unique ≤ n; omega)
    · exact hb

theorem runCmds_hb (sc : Scripts) {w : World} (hb : HB w) (cs : List Cmd) : HB (runCmds sc w cs) :=
  runCmds_ind (P := HB) sc (fun _ c h => stepCmd_hb sc h c) cs w hb

theorem init_hb : HB World.init := by
  intro e he; cases he

end NV.C10
