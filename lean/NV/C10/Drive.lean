/-
C10 driver: parses the case lines that the harness executes against the real driver and runs the model
(`model` mode) or the specification oracle on an implementation trace (`judge` mode).

Case lines (shared with harness/c10):
  clone o<k> /c10/obj
  vapply o<k> set_script co:<tag> <op>;<op>;...
  vapply o<k> do_op <op>
  gop o<g> o<k> <op>            the same apply with command_giver = o<g> (if it is not destructed)
  adv <dt>
  sweep
  setuniq <n>                   verif hook: handle serial := max serial n
op syntax (comma separated): co,<fn>,<delay>,<tag> | cofp,<fn>,<delay>,<tag> | coa,.. | coafp,.. (extra arguments) | rmh,<tag> | rmn,<fn> | fh,<tag> | fn,<fn> | rmall |
  dest,o<k> | err | info | reload | usage
-/
import NV.Common.Proto
import NV.C10.Model
import NV.C10.Spec

namespace NV.C10

open NV.Proto

def parseOid (s : String) : Option Nat :=
  if s.startsWith "o" then (s.drop 1).toString.toNat? else none

def parseOp (s : String) : Option Op :=
  match s.splitOn "," with
  | ["co", f, d, t] => do some (.co (← f.toNat?) (← d.toInt?) t false)
  | ["cofp", f, d, t] => do some (.co (← f.toNat?) (← d.toInt?) t true)
  -- `coa`/`coafp`: the same call_out with three more arguments; the LPC callback checks them itself and prints an
  -- `argmismatch` line (an `unexpected-line` verdict) when they arrive wrong; the model does not see them
  | ["coa", f, d, t] => do some (.co (← f.toNat?) (← d.toInt?) t false)
  | ["coafp", f, d, t] => do some (.co (← f.toNat?) (← d.toInt?) t true)
  -- `cofpb`: function pointer with a bound first argument `(: fired, f :)`; for the model a function-pointer call_out
  | ["cofpb", f, d, t] => do some (.co (← f.toNat?) (← d.toInt?) t true)
  | ["rmh", t] => some (.rmh t)
  | ["rmn", f] => do some (.rmn (← f.toNat?))
  | ["fh", t] => some (.fh t)
  | ["fn", f] => do some (.fnm (← f.toNat?))
  | ["rmall"] => some .rmall
  | ["dest", o] => do some (.dest (← parseOid o))
  -- `destco,o<k>` (k = the object itself): destruct(this_object()) followed by a call_out that f_call_out must refuse;
  -- the LPC side prints a line only if it was not refused; for the model this is `dest`
  | ["destco", o] => do some (.dest (← parseOid o))
  | ["err"] => some .err
  | ["reload"] => some .reload
  | ["usage"] => some .usage
  | ["info"] => some .info
  | _ => none

structure Parsed where
  scripts : List ((Nat × String) × List Op) := []
  cmds : List Cmd := []
  bad : List String := []

def parseLine (p : Parsed) (line : String) : Parsed :=
  match toks line with
  | [] => p
  | "clone" :: _ => p
  | ["vapply", o, "set_script", key, ops] =>
    match parseOid o, key.startsWith "co:" with
    | some k, true =>
      let tag := (key.drop 3).toString
      let parsed := (ops.splitOn ";").map parseOp
      if parsed.all Option.isSome then
        { p with scripts := ((k, tag), parsed.filterMap id) :: p.scripts, cmds := Cmd.setScript k :: p.cmds }
      else { p with bad := line :: p.bad }
    | _, _ => { p with bad := line :: p.bad }
  | ["vapply", o, "do_op", op] =>
    match parseOid o, parseOp op with
    | some k, some op => { p with cmds := Cmd.op k op :: p.cmds }
    | _, _ => { p with bad := line :: p.bad }
  | ["gop", g, o, op] =>
    match parseOid g, parseOid o, parseOp op with
    | some g, some k, some op => { p with cmds := Cmd.gop g k op :: p.cmds }
    | _, _, _ => { p with bad := line :: p.bad }
  | ["adv", dt] =>
    match dt.toNat? with
    | some d => { p with cmds := Cmd.adv d :: p.cmds }
    | none => { p with bad := line :: p.bad }
  | ["sweep"] => { p with cmds := Cmd.sweep :: p.cmds }
  | ["setuniq", n] =>
    match n.toNat? with
    | some k => { p with cmds := Cmd.setUnique k :: p.cmds }
    | none => { p with bad := line :: p.bad }
  | _ => if line.startsWith "#" then p else { p with bad := line :: p.bad }

def parseCase (lines : List String) : Parsed :=
  let p := lines.foldl parseLine {}
  { p with cmds := p.cmds.reverse }

def scriptsOf (p : Parsed) : Scripts := fun o tag =>
  match p.scripts.find? (fun e => e.1 == (o, tag)) with
  | some e => e.2
  | none => []

def oid (o : Nat) : String := s!"o{o}"

def renderTp : Option Nat → String
  | some g => s!"o{g}"
  | none => "-"

def parseTp (s : String) : Option (Option Nat) :=
  if s == "-" then some none else (parseOid s).map some

def renderRow (r : Nat × Nat × Int) : String :=
  if r.2.1 = 0 then s!"o{r.1}/<function>/{r.2.2}" else s!"o{r.1}/co{r.2.1 - 1}/{r.2.2}"

/-- canonical text of an event (exactly what the harness prints) -/
def render : Ev → String
  | .tickbegin t => s!"{t} tickbegin"
  | .tickend t => s!"{t} tickend"
  | .co t o f d tag h fp g => s!"{t} r {if fp then "cofp" else "co"} o{o} {f} {d} {tag} {h} {renderTp g}"
  | .fire t o f tag tp => s!"{t} fire o{o} {f} {tag} {renderTp tp}"
  | .rmh t o tag r => s!"{t} r rmh o{o} {tag} {r}"
  | .fh t o tag r => s!"{t} r fh o{o} {tag} {r}"
  | .rmn t o f r => s!"{t} r rmn o{o} {f} {r}"
  | .fnm t o f r => s!"{t} r fn o{o} {f} {r}"
  | .rmall t o => s!"{t} r rmall o{o}"
  | .dest t o x => s!"{t} r dest o{o} o{x}"
  | .reload t o => s!"{t} r reload o{o}"
  | .usage t n l => s!"{t} r usage {n} {l}"
  | .info t rows => s!"{t} r info{String.join (rows.map fun r => " " ++ renderRow r)}"
  | .err o => s!"err *boom o{o}"
  | .errFpDead => "err *fp-owner-destructed"
  | .opErr o => s!"r o{o} do_op !err"
  | .opDestructed o => s!"r o{o} do_op !destructed"
  | .setScriptDestructed o => s!"r o{o} set_script !destructed"
  | .note l => l
  | .crash l => l
  | .sanitizer l => l
  | .malformed l => l
  | .unexpected l => l

def parseRow (s : String) : Option (Nat × Nat × Int) :=
  match s.splitOn "/" with
  | [o, f, d] =>
    if f == "<function>" then do some (← parseOid o, 0, ← d.toInt?)
    else if f.startsWith "co" then do some (← parseOid o, (← (f.drop 2).toString.toNat?) + 1, ← d.toInt?) else none
  | _ => none

/-- one canonical output line -> event (lines that are recognised but whose numbers do not parse become
    `.malformed`, unknown lines `.unexpected`) -/
def parseEv (line : String) : Ev :=
  let orBad (e : Option Ev) : Ev := e.getD (.malformed line)
  match toks line with
  | [t, "tickbegin"] => orBad do some (.tickbegin (← t.toInt?))
  | [t, "tickend"] => orBad do some (.tickend (← t.toInt?))
  | [t, "r", "co", o, f, d, tag, h, g] =>
    orBad do some (.co (← t.toInt?) (← parseOid o) (← f.toNat?) (← d.toInt?) tag (← h.toInt?) false (← parseTp g))
  | [t, "r", "cofp", o, f, d, tag, h, g] =>
    orBad do some (.co (← t.toInt?) (← parseOid o) (← f.toNat?) (← d.toInt?) tag (← h.toInt?) true (← parseTp g))
  | [t, "fire", o, f, tag, tp] => orBad do some (.fire (← t.toInt?) (← parseOid o) (← f.toNat?) tag (← parseTp tp))
  | [t, "r", "rmh", o, tag, r] => orBad do some (.rmh (← t.toInt?) (← parseOid o) tag (← r.toInt?))
  | [t, "r", "fh", o, tag, r] => orBad do some (.fh (← t.toInt?) (← parseOid o) tag (← r.toInt?))
  | [t, "r", "rmn", o, f, r] => orBad do some (.rmn (← t.toInt?) (← parseOid o) (← f.toNat?) (← r.toInt?))
  | [t, "r", "fn", o, f, r] => orBad do some (.fnm (← t.toInt?) (← parseOid o) (← f.toNat?) (← r.toInt?))
  | [t, "r", "rmall", o] => orBad do some (.rmall (← t.toInt?) (← parseOid o))
  | [t, "r", "reload", o] => orBad do some (.reload (← t.toInt?) (← parseOid o))
  | [t, "r", "usage", n, l] => orBad do some (.usage (← t.toInt?) (← n.toNat?) (← l.toNat?))
  | [t, "r", "dest", o, x] => orBad do some (.dest (← t.toInt?) (← parseOid o) (← parseOid x))
  | t :: "r" :: "info" :: rows =>
    let rs := rows.map parseRow
    if rs.all Option.isSome then orBad do some (.info (← t.toInt?) (rs.filterMap id)) else .malformed line
  -- the only LPC errors a history can contain: error("boom ...") of a script and the function-pointer owner error;
  -- any other error text (e.g. an efun returning a malformed value to the LPC side) is an unexpected line
  | "err" :: "*boom" :: _ => .note line
  | ["err", "*fp-owner-destructed"] => .note line
  | ["r", _, "do_op", "!err"] => .note line
  | ["r", _, "do_op", "!destructed"] => .note line
  | ["r", _, "set_script", "!destructed"] => .note line
  -- the case names an object it never cloned (only shrunk cases do): says nothing about the driver
  | ["r", _, _, "!noobj"] => .note line
  | "crash" :: _ => .crash line
  | "sanitizer" :: _ => .sanitizer line
  | [] => .note line
  | _ => .unexpected line

/-- text of a verdict (the known-finding signatures are regular expressions over these lines) -/
def Violation.render : Violation → String
  | .nestedTick e => s!"nested-tick {NV.C10.render e}"
  | .malformed l => s!"malformed {l}"
  | .notFired o tag due t => s!"not-fired owner=o{o} tag={tag} due={due} tick={t} late={t - due}"
  | .scheduledByDestructed e => s!"scheduled-by-destructed {NV.C10.render e}"
  | .callOutRefused e => s!"call_out-refused {NV.C10.render e}"
  | .handleReused e => s!"handle-reused {NV.C10.render e}"
  | .fireOutsideTick e => s!"fire-outside-tick {NV.C10.render e}"
  | .fireUnscheduled o f tag t => s!"fire-unscheduled-removed-or-repeated owner=o{o} fn={f} tag={tag} at={t}"
  | .fireEarly o tag due t => s!"fire-early owner=o{o} tag={tag} due={due} at={t} early={due - t}"
  | .fireDestructedOwner o tag => s!"fire-destructed-owner owner=o{o} tag={tag}"
  | .fireWrongPlayer o tag got want => s!"fire-wrong-this_player owner=o{o} tag={tag} got={renderTp got} want={renderTp want}"
  | .removeHandleAnswer o tag got want => s!"remove-handle-answer owner=o{o} tag={tag} got={got} want={want}"
  | .removeHandleNothingPending o tag got => s!"remove-handle-nothing-pending owner=o{o} tag={tag} got={got}"
  | .findHandleAnswer o tag got want => s!"find-handle-answer owner=o{o} tag={tag} got={got} want={want}"
  | .findHandleNothingPending o tag got => s!"find-handle-nothing-pending owner=o{o} tag={tag} got={got}"
  | .removeNameNothingPending o f got => s!"remove-name-nothing-pending owner=o{o} fn={f} got={got}"
  | .removeNameAnswer o f got pending => s!"remove-name-answer owner=o{o} fn={f} got={got} pending={pending}"
  | .findNameNothingPending o f got => s!"find-name-nothing-pending owner=o{o} fn={f} got={got}"
  | .findNameAnswer o f got pending => s!"find-name-answer owner=o{o} fn={f} got={got} pending={pending}"
  | .infoMismatch missing extra => s!"info-mismatch missing={missing.map renderRow} extra={extra.map renderRow}"
  | .usageLength len lo hi => s!"usage-length got={len} want={lo}..{hi}"
  | .usageAllocated n len hwm => s!"usage-allocated num_call={n} length={len} most-ever-in-use={hwm}"
  | .crash l => s!"crash {l}"
  | .memoryError l => s!"memory-error {l}"
  | .unexpectedLine l => s!"unexpected-line {l}"

/-- the string-level judge used on implementation traces: parse, then the same `judgeEv` the theorems are about -/
def judge (trace : List String) : List String :=
  (judgeEv (trace.map parseEv)).map Violation.render

def runModel (lines : List String) : List String :=
  let p := parseCase lines
  if !p.bad.isEmpty then p.bad.map (fun l => s!"bad-line {l}")
  else (eventsC (runCmds (scriptsOf p) World.init p.cmds)).map render

def runJudge (body : List String) : List String :=
  let (_input, impl) := splitJudge body
  match judge impl with
  | [] => ["ok"]
  | vs => vs.map (fun v => s!"bad {v}")

def main (mode : String) : IO Unit :=
  match mode with
  | "model" => serve runModel
  | "judge" => serve runJudge
  | _ => IO.eprintln s!"C10: unknown mode {mode}"

end NV.C10
