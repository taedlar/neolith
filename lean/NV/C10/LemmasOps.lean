/-
C10 — every efun keeps `WheelInv`: `new_call_out` spelled out (`co*`) and shown to insert a well-placed
entry, the removal efuns shown to delete entries only; then `stepOp`, `runOps` (with `runOps_inv_ind` for the later
invariants), `fireOne` and one turn of the do/while.
-/
import NV.C10.LemmasInv
import NV.C10.LemmasSkeleton

namespace NV.C10

/-! ### new_call_out in closed form: what the generated expressions evaluated by `newCallOut` come to
(`newCallOut_fst`, `newCallOut_snd`, through the `tie_*` lemmas) -/

def coD (delay : Int) : Int := if delay < 1 then 1 else delay
def coCot (w : World) : Nat := if w.cot = 0 then w.now else w.cot
def coDue (w : World) (delay : Int) : Int := coD delay + (w.now : Int)
def coSlot (w : World) (delay : Int) : Nat := slotOf (coDue w delay).toNat
def coRot (w : World) (delay : Int) : Int := 1 + Int.tdiv (coDue w delay - (coCot w : Int) - 1) (N : Int)
def coCall (w : World) (owner fn : Nat) (tag : String) (delay : Int) (fp : Bool) : Call :=
  { serial := w.unique + 1, owner := owner, fn := fn, tag := tag,
    handle := coSlot w delay + N * (w.unique + 1), due := coDue w delay, fp := fp,
    giver := liveGiver w w.giver }

theorem newCallOut_fst (w : World) (o f : Nat) (tag : String) (delay : Int) (fp : Bool) :
    (newCallOut w o f tag delay fp).1 =
      setSlot { w with cot := coCot w, unique := w.unique + 1, numCall := allocCall w } (coSlot w delay)
        (insertDelta (w.slots (coSlot w delay)) (coRot w delay) (coCall w o f tag delay fp)) := by
  unfold newCallOut coCall coRot coSlot coDue coCot coD
  simp only [tie_clampDelay, tie_initCot, tie_slotExpr, tie_rotExpr, tie_handleExpr]

theorem newCallOut_snd (w : World) (o f : Nat) (tag : String) (delay : Int) (fp : Bool) :
    (newCallOut w o f tag delay fp).2 = coSlot w delay + N * (w.unique + 1) := by
  unfold newCallOut coSlot coDue coD
  simp only [tie_clampDelay, tie_slotExpr, tie_handleExpr]

theorem newCallOut_out (w : World) (o f : Nat) (tag : String) (delay : Int) (fp : Bool) :
    (newCallOut w o f tag delay fp).1.out = w.out := by
  rw [newCallOut_fst]; rfl

/-- the efun `call_out(f, delay, tag)` called by a live object (a destructed one gets handle 0) -/
theorem stepOp_co {w : World} {self : Nat} (halive : isDead w self = false) (fn : Nat) (delay : Int) (tag : String)
    (fp : Bool) :
    (stepOp w self (.co fn delay tag fp)).w =
      emit { (newCallOut w self fn tag delay fp).1 with
              hmap := ((self, tag), (newCallOut w self fn tag delay fp).2) :: (newCallOut w self fn tag delay fp).1.hmap }
        (.co (vnow w) self fn delay tag ((newCallOut w self fn tag delay fp).2 : Int) fp (liveGiver w w.giver)) := by
  unfold stepOp
  simp only [halive, Bool.false_eq_true, if_false]

theorem stepOp_dest (w : World) (self t : Nat) :
    (stepOp w self (.dest t)).w =
      emit { w with dead := if isDead w t then w.dead else t :: w.dead } (.dest (vnow w) self t) := by
  unfold stepOp
  simp only []
  split <;> rfl

theorem coD_pos (delay : Int) : 1 ≤ coD delay := by unfold coD; split <;> omega

theorem coCot_le {w : World} (h : WheelInv w) : coCot w ≤ w.now := by
  unfold coCot; split
  · exact Nat.le_refl _
  · exact h.cot_le

theorem coCot_ne {w : World} (h : WheelInv w) : coCot w ≠ 0 := by
  unfold coCot; split
  · have := h.now_pos; omega
  · assumption

theorem coCot_eq {w : World} (h0 : w.cot ≠ 0) : coCot w = w.cot := by
  unfold coCot; simp [h0]

theorem coRot_pos {w : World} (h : WheelInv w) (delay : Int) : 1 ≤ coRot w delay :=
  newCallOut_rot_pos (coCot w) w.now (coD delay) (coD_pos delay) (coCot_le h)

theorem coRot_due {w : World} (h : WheelInv w) (delay : Int) :
    dueOf (coSlot w delay) (coCot w) (coRot w delay) = coDue w delay :=
  newCallOut_rot_due (coCot w) w.now (coD delay) (coD_pos delay) (coCot_le h)

theorem coCot_ge (w : World) : w.cot ≤ coCot w := by
  unfold coCot; split <;> omega

/-- `if (!call_out_time) call_out_time = current_time`: while `call_out_time` is 0 the wheel is empty, so any
    start is as good as another -/
theorem WheelInv.initCot {w : World} (h : WheelInv w) : WheelInv { w with cot := coCot w } := by
  by_cases h0 : w.cot = 0
  · refine ⟨coCot_le h, h.now_pos, fun _ => h.fresh h0, h.sorted, ?_⟩
    intro s p hp
    rw [h.fresh h0 s] at hp; cases hp
  · exact h.congr rfl (coCot_eq h0) rfl rfl

theorem cum_setSlot_insert (w : World) (s : Nat) (D : Int) (c : Call) (i : Nat) :
    cum 0 ((setSlot w s (insertDelta (w.slots s) D c)).slots i) =
      if i = s then insC D c (cum 0 (w.slots i)) else cum 0 (w.slots i) := by
  simp only [setSlot_slots]
  split
  · rename_i hi; rw [hi, cum_insertDelta, Int.zero_add]
  · rfl

/-- the ordered insert keeps the invariant when the new entry is well placed and newer than all others -/
theorem WheelInv.insert {w : World} (h : WheelInv w) (h0 : w.cot ≠ 0) {s : Nat} {D : Int} {c : Call}
    (hc : EntOK w s (D, c)) (hnew : ∀ s' x, x ∈ cum 0 (w.slots s') → x.2.serial < c.serial) :
    WheelInv (setSlot w s (insertDelta (w.slots s) D c)) := by
  refine ⟨h.cot_le, h.now_pos, fun h0' => absurd h0' h0, ?_, ?_⟩
  · intro i
    rw [cum_setSlot_insert]
    split
    · exact pairwise_insC (h.sorted i) (hnew i)
    · exact h.sorted i
  · intro i p hp
    rw [cum_setSlot_insert] at hp
    split at hp
    · rename_i hi
      rcases mem_insC.1 hp with rfl | hp
      · rw [hi]; exact hc.mono rfl (Nat.le_refl _)
      · exact (h.ent i p hp).mono rfl (Nat.le_refl _)
    · exact (h.ent i p hp).mono rfl (Nat.le_refl _)

theorem newCallOut_ok {w : World} (h : WheelInv w) (o f : Nat) (tag : String) (delay : Int) (fp : Bool) :
    StepOK w (newCallOut w o f tag delay fp).1 := by
  rw [newCallOut_fst]
  have h1 : WheelInv { w with cot := coCot w, unique := w.unique + 1, numCall := allocCall w } :=
    h.initCot.mono rfl rfl (Nat.le_refl _) (Nat.le_succ _)
  have hent : EntOK { w with cot := coCot w, unique := w.unique + 1, numCall := allocCall w } (coSlot w delay)
      (coRot w delay, coCall w o f tag delay fp) :=
    ⟨slotOf_lt _, (coRot_due h delay).symm, by have := coCot_le h; have := coD_pos delay; show ((coCot w : Nat) : Int) ≤ coDue w delay; unfold coDue; omega,
      rfl, Nat.succ_pos _, Nat.le_refl _⟩
  refine ⟨h1.insert (coCot_ne h) hent ?_, fun h0 => coCot_eq h0, rfl, ?_, Nat.le_succ _⟩
  · intro s x hx
    exact Nat.lt_succ_of_le (h.ent s x hx).serial
  · intro s
    rw [cum_setSlot_insert]
    split
    · rw [zc_insC (coRot_pos h delay)]; exact Nat.le_refl _
    · exact Nat.le_refl _

/-! ### the removal efuns change nothing but the slot lists, and only delete entries: slot by slot, the prefix sums
of what is left are a sublist -/

theorem removeByHandle_slots_only (w : World) (hd : Nat) :
    ∃ sl, (removeByHandle w hd).1 = { w with slots := sl } := by
  unfold removeByHandle
  simp only []
  split
  · exact ⟨_, rfl⟩
  · exact ⟨w.slots, rfl⟩

theorem removeByName_slots_only (w : World) (o f : Nat) :
    ∃ sl, (removeByName w o f).1 = { w with slots := sl } := by
  unfold removeByName
  split
  · exact ⟨_, rfl⟩
  · exact ⟨w.slots, rfl⟩

theorem removeByHandle_sub (w : World) (hd : Nat) (s : Nat) :
    (cum 0 ((removeByHandle w hd).1.slots s)).Sublist (cum 0 (w.slots s)) := by
  unfold removeByHandle
  simp only []
  cases hr : removeFirst (fun c => c.handle == hd) (w.slots (handleSlot hd)) 0 with
  | none => exact List.Sublist.refl _
  | some r => exact setSlot_sub (removeFirst_sub hr) s

theorem removeByName_sub (w : World) (o f : Nat) (s : Nat) :
    (cum 0 ((removeByName w o f).1.slots s)).Sublist (cum 0 (w.slots s)) := by
  unfold removeByName
  cases hr : scanFrom (fun i => removeFirst (byName o f) (w.slots i) 0) N 0 with
  | none => exact List.Sublist.refl _
  | some r => exact setSlot_sub (removeFirst_sub (scanFrom_val (j := r.1) (a := r.2) hr)) s

theorem removeAll_sub (w : World) (o : Nat) (s : Nat) :
    (cum 0 ((removeAll w o).slots s)).Sublist (cum 0 (w.slots s)) := by
  show (cum 0 (removeAllList _ (w.slots s))).Sublist _
  rw [cum_removeAllList]
  exact List.filter_sublist

theorem removeByHandle_ok {w : World} (h : WheelInv w) (hd : Nat) : StepOK w (removeByHandle w hd).1 := by
  obtain ⟨sl, e⟩ := removeByHandle_slots_only w hd
  exact StepOK.of_sublist h (by rw [e]) (by rw [e]) (by rw [e]) (removeByHandle_sub w hd)

theorem removeByName_ok {w : World} (h : WheelInv w) (o f : Nat) : StepOK w (removeByName w o f).1 := by
  obtain ⟨sl, e⟩ := removeByName_slots_only w o f
  exact StepOK.of_sublist h (by rw [e]) (by rw [e]) (by rw [e]) (removeByName_sub w o f)

theorem reloadObj_ok {w : World} (h : WheelInv w) (o : Nat) : StepOK w (reloadObj w o) :=
  StepOK.of_sublist h rfl rfl rfl (removeAll_sub w o)

theorem removeAll_ok {w : World} (h : WheelInv w) (o : Nat) : StepOK w (removeAll w o) :=
  StepOK.of_sublist h rfl rfl rfl (removeAll_sub w o)

theorem stepOp_ok {w : World} (h : WheelInv w) (self : Nat) (op : Op) : StepOK w (stepOp w self op).w := by
  cases op with
  | co fn delay tag fp =>
    unfold stepOp
    simp only []
    split
    · exact (StepOK.refl h).congr rfl rfl rfl rfl
    · exact (newCallOut_ok h self fn tag delay fp).congr rfl rfl rfl rfl
  | rmh tag => exact (removeByHandle_ok h _).emit _
  | rmn fn => exact (removeByName_ok h self fn).emit _
  | rmall => exact (removeAll_ok h self).emit _
  | reload => exact (reloadObj_ok h self).emit _
  | dest t => rw [stepOp_dest]; exact (StepOK.refl h).congr rfl rfl rfl rfl
  | _ => exact (StepOK.refl h).emit _

theorem runOps_ok {w : World} (h : WheelInv w) (self : Nat) (ops : List Op) :
    StepOK w (runOps w self ops).1 :=
  runOps_ind (P := StepOK w) (fun _ hv => hv)
    (fun _ op hv => have h1 := hv.trans (stepOp_ok hv.inv self op); ⟨h1, fun _ => h1⟩) ops w (StepOK.refl h)

/-- an object that has not destructed itself is still alive after its operation -/
theorem stepOp_alive {w : World} (self : Nat) (op : Op) (halive : isDead w self = false)
    (hstop : (stepOp w self op).stop = false) : isDead (stepOp w self op).w self = false := by
  cases op with
  | co fn delay tag fp => rw [stepOp_co halive, newCallOut_fst]; exact halive
  | rmh tag =>
    obtain ⟨sl, e⟩ := removeByHandle_slots_only w (lookupHandle w self tag)
    show isDead (removeByHandle w _).1 self = false
    rw [e]; exact halive
  | rmn fn =>
    obtain ⟨sl, e⟩ := removeByName_slots_only w self fn
    show isDead (removeByName w self fn).1 self = false
    rw [e]; exact halive
  | dest t =>
    have hne : (t == self) = false := hstop
    rw [stepOp_dest]
    show (if isDead w t then w.dead else t :: w.dead).contains self = false
    split
    · exact halive
    · unfold isDead at halive
      simp only [List.contains_cons, halive, Bool.or_false]
      rw [beq_eq_false_iff_ne] at hne ⊢
      exact fun h => hne h.symm
  | _ => exact halive

/-- A script run by a live object, with the wheel invariant carried along: `P` need only be kept by one operation
    of an object that is alive in a world satisfying `WheelInv`. -/
theorem runOps_inv_ind {P : World → Prop} {self : Nat}
    (step : ∀ w op, WheelInv w → isDead w self = false → P w → P (stepOp w self op).w) (ops : List Op) (w : World)
    (hw : WheelInv w) (halive : isDead w self = false) (hp : P w) : P (runOps w self ops).1 :=
  runOps_ind (P := fun v => WheelInv v ∧ isDead v self = false ∧ P v) (Q := P) (fun _ h => h.2.2)
    (fun _ op ⟨hv, ha, hpv⟩ =>
      have h1 := step _ op hv ha hpv
      ⟨h1, fun hstop => ⟨(stepOp_ok hv self op).inv, stepOp_alive self op ha hstop, h1⟩⟩)
    ops w ⟨hw, halive, hp⟩

theorem fireOne_ok {w : World} (h : WheelInv w) (sc : Scripts) (cop : Entry) : StepOK w (fireOne sc w cop) := by
  rw [fireOne_eq_spec]
  unfold fireOneSpec
  split
  · split
    · exact (StepOK.refl h).emit _
    · exact StepOK.refl h
  · have h1 : WheelInv (emit { w with giver := liveGiver w cop.c.giver, busy := 1 }
        (.fire (vnow w) cop.c.owner cop.c.fn cop.c.tag (liveGiver w cop.c.giver))) := h.congr rfl rfl rfl rfl
    have := runOps_ok h1 cop.c.owner (sc cop.c.owner cop.c.tag)
    exact ⟨this.inv.congr rfl rfl rfl rfl, this.cot, this.now, this.zc, this.uniq⟩

/-- popping the due head of a slot and running its callback: one due entry less -/
theorem pop_ok (sc : Scripts) {w : World} (h : WheelInv w) {tm : Nat} {cop : Entry} {rest : List Entry}
    (hl : w.slots tm = cop :: rest) (hz : cop.delta = 0) :
    StepOK w (fireOne sc (setSlot w tm rest) cop) ∧
      zc (cum 0 ((fireOne sc (setSlot w tm rest) cop).slots tm)) + 1 ≤ zc (cum 0 (w.slots tm)) := by
  have hcum : cum 0 (w.slots tm) = (0, cop.c) :: cum 0 rest := by rw [hl]; exact cum_pop_zero _ _ hz
  have h1 : StepOK w (setSlot w tm rest) :=
    StepOK.setSlot_sublist h tm rest (by rw [hcum]; exact List.sublist_cons_self _ _)
  have h2 := fireOne_ok h1.inv sc cop
  refine ⟨h1.trans h2, ?_⟩
  have := h2.zc tm
  simp only [setSlot_slots, if_true] at this
  rw [hcum]
  simp only [zc, List.countP_cons, Int.le_refl, decide_true, if_true] at this ⊢
  omega

end NV.C10
