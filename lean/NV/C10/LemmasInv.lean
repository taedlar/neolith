/-
C10 — the wheel invariant `WheelInv`, what one step of the model guarantees (`StepOK`), and the list
facts behind both: sorted insertion and deletion on prefix sums, the count `zc` of due entries.
-/
import NV.C10.LemmasArith
import NV.C10.LemmasCum

namespace NV.C10

/-- order of a slot list on prefix sums: by rotation count, newest (largest serial) first among equals -/
def Before (a b : Int × Call) : Prop := a.1 < b.1 ∨ (a.1 = b.1 ∧ b.2.serial < a.2.serial)

theorem before_le {a b : Int × Call} (h : Before a b) : a.1 ≤ b.1 := by
  unfold Before at h; omega

theorem before_irrefl (a : Int × Call) : ¬ Before a a := by
  unfold Before; omega

/-- what holds for the entry `p.2` found at cumulative rotation `p.1` in slot `s` -/
structure EntOK (w : World) (s : Nat) (p : Int × Call) : Prop where
  slot : s < N
  /-- the cumulative delta denotes the entry's own second -/
  due : p.2.due = dueOf s w.cot p.1
  /-- nothing pending lies in the past of `call_out_time` -/
  notPast : (w.cot : Int) ≤ p.2.due
  handle : p.2.handle = s + N * p.2.serial
  serialPos : 1 ≤ p.2.serial
  serial : p.2.serial ≤ w.unique

structure WheelInv (w : World) : Prop where
  cot_le : w.cot ≤ w.now
  now_pos : 0 < w.now
  /-- before the first call_out()/new_call_out() the wheel is empty -/
  fresh : w.cot = 0 → ∀ s, w.slots s = []
  sorted : ∀ s, (cum 0 (w.slots s)).Pairwise Before
  ent : ∀ s, ∀ p ∈ cum 0 (w.slots s), EntOK w s p

/-- outside the do/while of `call_out()` every pending entry is strictly in the future of `call_out_time` -/
def Quiet (w : World) : Prop := ∀ s, ∀ p ∈ cum 0 (w.slots s), 1 ≤ p.1

/-- number of entries of a slot whose rotation count has reached zero (they are due now) -/
def zc (L : List (Int × Call)) : Nat := L.countP (fun p => decide (p.1 ≤ 0))

theorem EntOK.mono {w w' : World} {s : Nat} {p : Int × Call} (e : EntOK w s p) (hc : w'.cot = w.cot)
    (hu : w.unique ≤ w'.unique) : EntOK w' s p :=
  ⟨e.slot, by rw [hc]; exact e.due, by rw [hc]; exact e.notPast, e.handle, e.serialPos, Nat.le_trans e.serial hu⟩

/-- the invariant does not read `giver`, `dead`, `hmap`, `numCall`, `busy`, `out`; the clock `now` and the
    serial counter `unique` may grow -/
theorem WheelInv.mono {w w' : World} (h : WheelInv w) (hs : w'.slots = w.slots) (hc : w'.cot = w.cot)
    (hn : w.now ≤ w'.now) (hu : w.unique ≤ w'.unique) : WheelInv w' :=
  ⟨by rw [hc]; exact Nat.le_trans h.cot_le hn, Nat.lt_of_lt_of_le h.now_pos hn,
    fun h0 s => by rw [hs]; exact h.fresh (hc ▸ h0) s, fun s => by rw [hs]; exact h.sorted s,
    fun s p hp => (h.ent s p (hs ▸ hp)).mono hc hu⟩

theorem WheelInv.congr {w w' : World} (h : WheelInv w) (hs : w'.slots = w.slots) (hc : w'.cot = w.cot)
    (hn : w'.now = w.now) (hu : w'.unique = w.unique) : WheelInv w' :=
  h.mono hs hc (Nat.le_of_eq hn.symm) (Nat.le_of_eq hu.symm)

/-- a visit not before `cot` is a later one, or the visit of the slot swept at `cot` itself -/
theorem dueOf_ge_iff (s cot : Nat) (D : Int) (hs : s < N) :
    (cot : Int) ≤ dueOf s cot D ↔ 1 ≤ D ∨ (D = 0 ∧ s = slotOf cot) := by
  constructor
  · intro h
    by_cases hD : 1 ≤ D
    · exact Or.inl hD
    · have h1 : ¬ D < 0 := fun hlt => by
        have := (dueOf_lt_iff s cot D 0).2 hlt
        have := dueOf_zero_le s cot
        omega
      have hD0 : D = 0 := by omega
      subst hD0
      -- visit number 0 is at most `cot`, so it is `cot`, and its residue is the slot
      have heq : dueOf s cot 0 = cot := Int.le_antisymm (dueOf_zero_le s cot) h
      have := dueOf_mod s cot 0 hs
      rw [heq] at this
      exact Or.inr ⟨rfl, by rw [slotOf_eq_mod]; omega⟩
  · rintro (h | ⟨rfl, rfl⟩)
    · exact Int.le_of_lt ((dueOf_gt_iff s cot D).2 h)
    · rw [dueOf_zero_cur]; exact Int.le_refl _

theorem timeLeft_of_inv {w : World} (hw : WheelInv w) {s : Nat} {x : Int × Call} (hx : x ∈ cum 0 (w.slots s)) :
    timeLeft w s x.1 = x.2.due - w.now := by
  rw [timeLeft_eq w s x.1 (hw.ent s x hx).slot, ← (hw.ent s x hx).due]

theorem EntOK.nonneg {w : World} {s : Nat} {p : Int × Call} (e : EntOK w s p) : 0 ≤ p.1 := by
  have := (dueOf_ge_iff s w.cot p.1 e.slot).1 (e.due ▸ e.notPast)
  omega

theorem EntOK.zero_slot {w : World} {s : Nat} {p : Int × Call} (e : EntOK w s p) (h : p.1 ≤ 0) :
    s = slotOf w.cot ∧ p.1 = 0 ∧ p.2.due = w.cot := by
  have := (dueOf_ge_iff s w.cot p.1 e.slot).1 (e.due ▸ e.notPast)
  have h0 : p.1 = 0 := by omega
  have hs : s = slotOf w.cot := by omega
  refine ⟨hs, h0, ?_⟩
  rw [e.due, h0, hs, dueOf_zero_cur]

theorem pairwise_insC {D : Int} {c : Call} {L : List (Int × Call)} (hL : L.Pairwise Before)
    (hnew : ∀ x ∈ L, x.2.serial < c.serial) : (insC D c L).Pairwise Before := by
  induction L with
  | nil => simp [insC]
  | cons y ys ih =>
    have hy := List.pairwise_cons.1 hL
    unfold insC
    split
    · rename_i hge
      refine List.pairwise_cons.2 ⟨?_, hL⟩
      intro z hz
      have hzs := hnew z hz
      simp only [List.mem_cons] at hz
      rcases hz with rfl | hz
      · unfold Before; simp only []; omega
      · have := hy.1 z hz
        unfold Before at this ⊢; simp only [] at this ⊢; omega
    · rename_i hlt
      refine List.pairwise_cons.2 ⟨?_, ih hy.2 (fun x hx => hnew x (List.mem_cons_of_mem _ hx))⟩
      intro z hz
      rcases mem_insC.1 hz with rfl | hz
      · unfold Before; simp only []; omega
      · exact hy.1 z hz

theorem zc_insC {D : Int} {c : Call} {L : List (Int × Call)} (hD : 1 ≤ D) : zc (insC D c L) = zc L := by
  unfold zc
  rw [(insC_perm D c L).countP_eq, List.countP_cons_of_neg (by simp only [decide_eq_true_eq]; omega)]

theorem zc_sublist {L L' : List (Int × Call)} (h : L'.Sublist L) : zc L' ≤ zc L :=
  List.Sublist.countP_le h

theorem zc_eq_zero_iff {L : List (Int × Call)} : zc L = 0 ↔ ∀ p ∈ L, 1 ≤ p.1 := by
  unfold zc
  rw [List.countP_eq_zero]
  constructor
  · intro h p hp; have := h p hp; simp at this; omega
  · intro h p hp; have := h p hp; simp; omega

theorem pairwise_before_map_sub {L : List (Int × Call)} (h : L.Pairwise Before) (k : Int) :
    (L.map (fun p => (p.1 - k, p.2))).Pairwise Before := by
  rw [List.pairwise_map]
  refine h.imp ?_
  intro a b hab
  unfold Before at hab ⊢; simp only [] at hab ⊢; omega

/-- `w'` results from `w` by operations that keep the invariant, leave the clocks alone and add no entry that
    is already due -/
structure StepOK (w w' : World) : Prop where
  inv : WheelInv w'
  cot : w.cot ≠ 0 → w'.cot = w.cot
  now : w'.now = w.now
  zc : ∀ s, zc (cum 0 (w'.slots s)) ≤ zc (cum 0 (w.slots s))
  uniq : w.unique ≤ w'.unique

theorem StepOK.refl {w : World} (h : WheelInv w) : StepOK w w :=
  ⟨h, fun _ => rfl, rfl, fun _ => Nat.le_refl _, Nat.le_refl _⟩

theorem StepOK.trans {a b c : World} (h1 : StepOK a b) (h2 : StepOK b c) : StepOK a c := by
  refine ⟨h2.inv, ?_, by rw [h2.now, h1.now], fun s => Nat.le_trans (h2.zc s) (h1.zc s),
    Nat.le_trans h1.uniq h2.uniq⟩
  intro h0
  have := h1.cot h0
  rw [h2.cot (by rw [this]; exact h0), this]

theorem StepOK.congr {w a b : World} (h : StepOK w a) (hs : b.slots = a.slots) (hc : b.cot = a.cot)
    (hn : b.now = a.now) (hu : b.unique = a.unique) : StepOK w b :=
  ⟨h.inv.congr hs hc hn hu, by rw [hc]; exact h.cot, by rw [hn]; exact h.now, by rw [hs]; exact h.zc,
    by rw [hu]; exact h.uniq⟩

theorem StepOK.emit {w a : World} (h : StepOK w a) (ev : Ev) : StepOK w (emit a ev) := h.congr rfl rfl rfl rfl

/-- replacing slot lists by sublists (on prefix sums) keeps everything -/
theorem StepOK.of_sublist {w w' : World} (h : WheelInv w) (hc : w'.cot = w.cot) (hn : w'.now = w.now)
    (hu : w'.unique = w.unique) (hsub : ∀ s, (cum 0 (w'.slots s)).Sublist (cum 0 (w.slots s))) :
    StepOK w w' := by
  refine ⟨⟨by rw [hc, hn]; exact h.cot_le, by rw [hn]; exact h.now_pos, ?_, ?_, ?_⟩, fun _ => hc, hn,
    fun s => zc_sublist (hsub s), by rw [hu]; exact Nat.le_refl _⟩
  · intro h0 s
    have := h.fresh (hc ▸ h0) s
    have hs := hsub s
    rw [this] at hs
    have hl := hs.length_le
    rw [cum_length] at hl
    simp only [cum_nil, List.length_nil] at hl
    exact List.eq_nil_of_length_eq_zero (by omega)
  · intro s; exact (h.sorted s).sublist (hsub s)
  · intro s p hp
    exact (h.ent s p ((hsub s).subset hp)).mono hc (Nat.le_of_eq hu.symm)

@[simp] theorem setSlot_slots (w : World) (s : Nat) (l : List Entry) (i : Nat) :
    (setSlot w s l).slots i = if i = s then l else w.slots i := rfl
@[simp] theorem setSlot_cot (w : World) (s : Nat) (l : List Entry) : (setSlot w s l).cot = w.cot := rfl
@[simp] theorem setSlot_now (w : World) (s : Nat) (l : List Entry) : (setSlot w s l).now = w.now := rfl
@[simp] theorem setSlot_unique (w : World) (s : Nat) (l : List Entry) : (setSlot w s l).unique = w.unique := rfl
@[simp] theorem setSlot_dead (w : World) (s : Nat) (l : List Entry) : (setSlot w s l).dead = w.dead := rfl
@[simp] theorem setSlot_hmap (w : World) (s : Nat) (l : List Entry) : (setSlot w s l).hmap = w.hmap := rfl
@[simp] theorem setSlot_out (w : World) (s : Nat) (l : List Entry) : (setSlot w s l).out = w.out := rfl

theorem setSlot_sub {w : World} {s : Nat} {l : List Entry} (hsub : (cum 0 l).Sublist (cum 0 (w.slots s))) (i : Nat) :
    (cum 0 ((setSlot w s l).slots i)).Sublist (cum 0 (w.slots i)) := by
  simp only [setSlot_slots]
  split
  · rename_i hi; rw [hi]; exact hsub
  · exact List.Sublist.refl _

theorem StepOK.setSlot_sublist {w : World} (h : WheelInv w) (s : Nat) (l : List Entry)
    (hsub : (cum 0 l).Sublist (cum 0 (w.slots s))) : StepOK w (setSlot w s l) :=
  StepOK.of_sublist h rfl rfl rfl (setSlot_sub hsub)

theorem removeFirst_split {p : Call → Bool} {l : List Entry} {r : Int × List Entry}
    (h : removeFirst p l 0 = some r) :
    ∃ x A B, cum 0 l = A ++ x :: B ∧ cum 0 r.2 = A ++ B ∧ x.1 = r.1 ∧ p x.2 = true ∧ ∀ y ∈ A, p y.2 = false := by
  have := cum_removeFirst p l 0
  rw [h, eraseFirstC_eq] at this
  cases hf : (cum 0 l).find? (fun x => p x.2) with
  | none => rw [hf] at this; cases this
  | some x =>
    rw [hf] at this
    simp only [Option.map_some, Option.some.injEq, Prod.mk.injEq] at this
    obtain ⟨A, B, e1, e2, e3, e4⟩ := find?_split hf
    exact ⟨x, A, B, e1, by rw [this.2, e2], this.1.symm, e3, e4⟩

theorem removeFirst_none {p : Call → Bool} {l : List Entry} (h : removeFirst p l 0 = none) :
    ∀ y ∈ cum 0 l, p y.2 = false := by
  have := cum_removeFirst p l 0
  rw [h, eraseFirstC_eq, Option.map_none, eq_comm, Option.map_eq_none_iff, Option.map_eq_none_iff,
    List.find?_eq_none] at this
  exact fun y hy => by simpa using this y hy

theorem removeFirst_sub {p : Call → Bool} {l : List Entry} {r : Int × List Entry} (h : removeFirst p l 0 = some r) :
    (cum 0 r.2).Sublist (cum 0 l) := by
  obtain ⟨x, A, B, e1, e2, _⟩ := removeFirst_split h
  rw [e1, e2]; exact sublist_of_split

end NV.C10
