/-
C10 — the delta-encoded lists, seen through their prefix sums.
`cum acc l` lists every entry of `l` with its cumulative delta (starting from `acc`).  The C list surgery
(`insertDelta`, `removeFirst`, `removeAllList`, the head decrement) becomes plain list surgery on `cum`.
-/
import NV.C10.LemmasTie

namespace NV.C10

/-- entries with their cumulative delta (prefix sums of `delta`) -/
def cum (acc : Int) : List Entry → List (Int × Call)
  | [] => []
  | x :: xs => (acc + x.delta, x.c) :: cum (acc + x.delta) xs

/-- sorted insertion on prefix sums: before the first element whose cumulative delta is ≥ `D` -/
def insC (D : Int) (c : Call) : List (Int × Call) → List (Int × Call)
  | [] => [(D, c)]
  | x :: xs => if x.1 ≥ D then (D, c) :: x :: xs else x :: insC D c xs

def eraseFirstC (p : Call → Bool) : List (Int × Call) → Option ((Int × Call) × List (Int × Call))
  | [] => none
  | x :: xs =>
    if p x.2 then some (x, xs)
    else match eraseFirstC p xs with
      | none => none
      | some r => some (r.1, x :: r.2)

@[simp] theorem cum_nil (acc : Int) : cum acc [] = [] := rfl
@[simp] theorem cum_cons (acc : Int) (x : Entry) (xs : List Entry) :
    cum acc (x :: xs) = (acc + x.delta, x.c) :: cum (acc + x.delta) xs := rfl

theorem cum_length (acc : Int) (l : List Entry) : (cum acc l).length = l.length := by
  induction l generalizing acc with
  | nil => rfl
  | cons x xs ih => simp [ih]

theorem cum_shift (acc k : Int) (l : List Entry) :
    cum (acc + k) l = (cum acc l).map (fun p => (p.1 + k, p.2)) := by
  induction l generalizing acc with
  | nil => rfl
  | cons x xs ih =>
    simp only [cum_cons, List.map_cons]
    have : acc + k + x.delta = acc + x.delta + k := by omega
    rw [this, ih]

/-- **insertDelta refines sorted insertion on prefix sums** -/
theorem cum_insertDelta (acc : Int) (l : List Entry) (d : Int) (c : Call) :
    cum acc (insertDelta l d c) = insC (acc + d) c (cum acc l) := by
  induction l generalizing acc d with
  | nil => simp [insertDelta, insC]
  | cons x xs ih =>
    unfold insertDelta
    rw [tie_insertBefore, tie_insertSplit, tie_insertWalk]
    by_cases h : x.delta ≥ d
    · have h' : acc + x.delta ≥ acc + d := Int.add_le_add_left h acc
      simp only [h, decide_true, ite_true, cum_cons, insC, h']
      have : acc + d + (x.delta - d) = acc + x.delta := by omega
      simp [this]
    · have h' : ¬ (acc + x.delta ≥ acc + d) := fun h' => h (Int.le_of_add_le_add_left h')
      simp only [h, decide_false, Bool.false_eq_true, ite_false, cum_cons, insC, h']
      rw [ih]
      have : acc + x.delta + (d - x.delta) = acc + d := by omega
      rw [this]

/-- **removeFirst preserves the prefix sums of the remaining entries** and reports the prefix sum
    of the removed one -/
theorem cum_removeFirst (p : Call → Bool) (l : List Entry) (acc : Int) :
    (removeFirst p l acc).map (fun r => (r.1, cum acc r.2)) =
      (eraseFirstC p (cum acc l)).map (fun r => (r.1.1, r.2)) := by
  induction l generalizing acc with
  | nil => simp [removeFirst, eraseFirstC]
  | cons x xs ih =>
    unfold removeFirst
    simp only [tie_unlinkDelta]
    by_cases h : p x.c
    · simp only [h, ite_true, cum_cons, eraseFirstC, Option.map_some]
      cases xs with
      | nil => simp
      | cons y ys =>
        simp only [cum_cons]
        have : acc + (y.delta + x.delta) = acc + x.delta + y.delta := by omega
        simp [this]
    · simp only [h, cum_cons, eraseFirstC]
      have ih' := ih (acc + x.delta)
      cases h1 : removeFirst p xs (acc + x.delta) with
      | none =>
        rw [h1] at ih'
        cases h2 : eraseFirstC p (cum (acc + x.delta) xs) with
        | none => simp
        | some r => rw [h2] at ih'; simp at ih'
      | some r =>
        rw [h1] at ih'
        cases h2 : eraseFirstC p (cum (acc + x.delta) xs) with
        | none => rw [h2] at ih'; simp at ih'
        | some r2 =>
          rw [h2] at ih'
          simp only [Option.map_some, Option.some.injEq, Prod.mk.injEq] at ih'
          simp [ih'.1, ih'.2]

theorem findFirst_eq (p : Call → Bool) (l : List Entry) (acc : Int) :
    findFirst p l acc = ((cum acc l).find? (fun x => p x.2)).map (·.1) := by
  induction l generalizing acc with
  | nil => simp [findFirst]
  | cons x xs ih =>
    unfold findFirst
    by_cases h : p x.c
    · simp [h]
    · simp [h, ih]

/-- **removeAllList preserves the prefix sums of the remaining entries** -/
theorem cum_removeAllList (p : Call → Bool) (l : List Entry) (acc : Int) :
    cum acc (removeAllList p l) = (cum acc l).filter (fun x => !p x.2) := by
  generalize hn : l.length = n
  induction n using Nat.strongRecOn generalizing l acc with
  | _ n ih =>
    cases l with
    | nil => simp [removeAllList]
    | cons x xs =>
      unfold removeAllList
      simp only [tie_unlinkDelta]
      by_cases h : p x.c
      · simp only [h, ite_true, cum_cons]
        cases xs with
        | nil => simp [h]
        | cons y ys =>
          simp only []
          rw [ih ys.length.succ (by simp at hn; omega) _ _ (by simp)]
          have : acc + (y.delta + x.delta) = acc + x.delta + y.delta := by omega
          simp [h, this]
      · simp only [h, Bool.false_eq_true, ↓reduceIte, cum_cons]
        rw [ih xs.length (by simp at hn; omega) _ _ rfl]
        simp [h]

/-- the head decrement of `call_out()` lowers every prefix sum of the slot by one -/
theorem cum_dec_head (h : Entry) (rest : List Entry) :
    cum 0 ({ h with delta := h.delta - 1 } :: rest) = (cum 0 (h :: rest)).map (fun p => (p.1 - 1, p.2)) := by
  simp only [cum_cons, List.map_cons]
  have : (0 : Int) + (h.delta - 1) = 0 + h.delta + (-1) := by omega
  rw [this, cum_shift]
  simp [Int.sub_eq_add_neg]

/-- popping a head whose delta is zero leaves the other prefix sums alone -/
theorem cum_pop_zero (h : Entry) (rest : List Entry) (hz : h.delta = 0) :
    cum 0 (h :: rest) = (0, h.c) :: cum 0 rest := by
  simp [hz]

theorem insC_perm (D : Int) (c : Call) (L : List (Int × Call)) : (insC D c L).Perm ((D, c) :: L) := by
  induction L with
  | nil => exact .refl _
  | cons y ys ih =>
    unfold insC
    split
    · exact .refl _
    · exact (ih.cons y).trans (.swap ..)

theorem mem_insC {D : Int} {c : Call} {L : List (Int × Call)} {x : Int × Call} :
    x ∈ insC D c L ↔ x = (D, c) ∨ x ∈ L :=
  (insC_perm D c L).mem_iff.trans List.mem_cons

theorem insC_length (D : Int) (c : Call) (L : List (Int × Call)) : (insC D c L).length = L.length + 1 :=
  (insC_perm D c L).length_eq

/-- where the first element of a list satisfying `q` stands, and what `eraseP` makes of the list -/
theorem find?_split {α} {q : α → Bool} {l : List α} {e : α} (h : l.find? q = some e) :
    ∃ A B, l = A ++ e :: B ∧ l.eraseP q = A ++ B ∧ q e = true ∧ ∀ y ∈ A, q y = false := by
  obtain ⟨hq, A, B, rfl, hA⟩ := List.find?_eq_some_iff_append.1 h
  have hA' : ∀ y ∈ A, q y = false := fun y hy => by simpa using hA y hy
  refine ⟨A, B, rfl, ?_, hq, hA'⟩
  rw [List.eraseP_append_right _ (fun y hy => by rw [hA' y hy]; exact Bool.false_ne_true),
    List.eraseP_cons_of_pos hq]

/-- one element taken out of a list whose elements `f` tells apart: the others stay, and none of them is like it -/
theorem mem_append_of_split {α β} {f : α → β} {A B : List α} {x : α}
    (h : (A ++ x :: B).Pairwise (fun a b => f a ≠ f b)) (y : α) :
    y ∈ A ++ B ↔ y ∈ A ++ x :: B ∧ f y ≠ f x := by
  have hx := (List.pairwise_cons.1 ((List.pairwise_middle Ne.symm).1 h)).1
  rw [List.perm_middle.mem_iff, List.mem_cons]
  exact ⟨fun hy => ⟨Or.inr hy, (hx y hy).symm⟩, fun ⟨hy, hne⟩ => hy.resolve_left fun e => hne (e ▸ rfl)⟩

theorem sublist_of_split {α} {A B : List α} {x : α} : (A ++ B).Sublist (A ++ x :: B) :=
  List.Sublist.append (List.Sublist.refl A) (List.sublist_cons_self x B)

theorem eraseFirstC_eq (p : Call → Bool) (L : List (Int × Call)) :
    eraseFirstC p L = (L.find? (fun x => p x.2)).map (fun e => (e, L.eraseP (fun x => p x.2))) := by
  induction L with
  | nil => rfl
  | cons y ys ih =>
    unfold eraseFirstC
    rw [ih, List.find?_cons, List.eraseP_cons]
    cases p y.2
    · cases ys.find? (fun x => p x.2) <;> rfl
    · rfl

end NV.C10
