/-
C10 — the simulation relation along the control skeleton: scripts by `runOps_inv_ind` (LemmasOps.lean), the do/while and
the per-second loop by `visit_inv_ind` / `sweepLoop_inv_ind` (LemmasSweep.lean); these carry `WheelInv` (and `Quiet`)
along.  Commands by `runCmds_ind`.  `Sim true` holds inside `call_out()`, `Sim false` between top-level commands.
-/
import NV.C10.LemmasSimEfuns

namespace NV.C10

theorem Sim.emit {tick : Bool} {w w' : World} {ev : Ev} (hout : w'.out = w.out)
    (h : SimJ tick w' (judgeStep (jstate w.out) ev)) : Sim tick (emit w' ev) := by
  unfold Sim
  show SimJ tick (NV.C10.emit w' ev) (judgeStep (jstate w'.out) ev)
  rw [hout]
  exact h.congr rfl rfl rfl rfl rfl

theorem Sim.setGiver {tick : Bool} {w : World} (hs : Sim tick w) (g : Option Nat) : Sim tick { w with giver := g } :=
  hs.congr rfl rfl rfl rfl rfl rfl

/-- the oracle enters `call_out()` with the `tickbegin` line -/
theorem Sim.tickbegin {w : World} (hs : Sim false w) : Sim true (NV.C10.emit w (.tickbegin (vnow w))) := by
  refine Sim.emit (w := w) rfl ?_
  have hj : judgeStep (jstate w.out) (.tickbegin (vnow w)) = { jstate w.out with inTick := true } := by
    unfold judgeStep
    simp only [hs.inTick, Bool.false_eq_true, if_false]
  rw [hj]
  exact SimJ.setTick hs true

theorem stepOp_sim {tick : Bool} {w : World} (hw : WheelInv w) (hs : Sim tick w) (self : Nat) (op : Op)
    (halive : isDead w self = false) : Sim tick (stepOp w self op).w := by
  cases op with
  | co fn delay tag fp =>
    rw [stepOp_co halive]
    exact Sim.emit (newCallOut_out w self fn tag delay fp) (sim_co hw hs self fn delay tag fp halive)
  | rmh tag =>
    obtain ⟨sl, e⟩ := removeByHandle_slots_only w (lookupHandle w self tag)
    exact Sim.emit (by rw [e]) (sim_rmh hw hs self tag)
  | rmn fn =>
    obtain ⟨sl, e⟩ := removeByName_slots_only w self fn
    exact Sim.emit (by rw [e]) (sim_rmn hw hs self fn halive)
  | fh tag => exact Sim.emit rfl (sim_fh hw hs self tag)
  | fnm fn => exact Sim.emit rfl (sim_fnm hw hs self fn halive)
  | rmall => exact Sim.emit (w := w) rfl (sim_rmall hs self)
  | dest t =>
    have e : ({ w with dead := if isDead w t then w.dead else t :: w.dead } : World) =
        if isDead w t then w else { w with dead := t :: w.dead } := by split <;> rfl
    rw [stepOp_dest]
    refine Sim.emit (w := w) rfl ?_
    rw [e]; exact sim_dest hs self t
  | err => exact Sim.emit (w := w) rfl hs
  | info => exact Sim.emit rfl (sim_info hw hs)
  | reload => exact Sim.emit (w := w) rfl (sim_reload hs self)
  | usage => exact Sim.emit (w := w) rfl hs

theorem runOps_sim {tick : Bool} {w : World} (hw : WheelInv w) (hs : Sim tick w) (self : Nat) (ops : List Op)
    (halive : isDead w self = false) : Sim tick (runOps w self ops).1 :=
  runOps_inv_ind (fun _ op hv ha hsv => stepOp_sim hv hsv self op ha) ops w hw halive hs

/-- the head of the swept slot when its delta is 0: a call of the wheel, meant for this very second -/
theorem due_head {w : World} (hw : WheelInv w) {cop : Entry} {rest : List Entry}
    (hl : w.slots (slotOf w.cot) = cop :: rest) (hz : cop.delta = 0) :
    cum 0 (w.slots (slotOf w.cot)) = [] ++ (0, cop.c) :: cum 0 rest ∧ InWheel w cop.c ∧ cop.c.due = w.cot := by
  have hcum : cum 0 (w.slots (slotOf w.cot)) = [] ++ (0, cop.c) :: cum 0 rest := by
    rw [hl]; exact cum_pop_zero _ _ hz
  have hx : ((0 : Int), cop.c) ∈ cum 0 (w.slots (slotOf w.cot)) := by rw [hcum]; simp
  exact ⟨hcum, ⟨_, 0, hx⟩, ((hw.ent _ _ hx).zero_slot (Int.le_refl _)).2.2⟩

/-- the live branch of `fireOne` up to the `fire` event: the oracle picks the same entry as call_out() -/
theorem fire_emit_sim {w : World} (hw : WheelInv w) (hs : Sim true w) {cop : Entry} {rest : List Entry}
    (hl : w.slots (slotOf w.cot) = cop :: rest) (hz : cop.delta = 0) (hdead' : isDead w cop.c.owner = false) :
    Sim true (emit { setSlot w (slotOf w.cot) rest with giver := liveGiver w cop.c.giver, busy := 1 }
        (.fire (vnow w) cop.c.owner cop.c.fn cop.c.tag (liveGiver w cop.c.giver))) ∧
      WheelInv (emit { setSlot w (slotOf w.cot) rest with giver := liveGiver w cop.c.giver, busy := 1 }
        (.fire (vnow w) cop.c.owner cop.c.fn cop.c.tag (liveGiver w cop.c.giver))) := by
  obtain ⟨hcum, hxw, hdue⟩ := due_head hw hl hz
  have hmem := hs.wheelPend _ hxw
  have h1 := StepOK.setSlot_sublist hw (slotOf w.cot) rest (by rw [hcum]; exact List.sublist_cons_self _ _)
  refine ⟨?_, h1.inv.congr rfl rfl rfl rfl⟩
  have hQ : ((toPend cop.c).owner == cop.c.owner && (toPend cop.c).tag == cop.c.tag &&
      (toPend cop.c).fn == cop.c.fn) = true := by
    simp [toPend]
  -- the oracle takes the earliest entry of that owner, function and tag, the newest among equals.  Nothing in
  -- the wheel is earlier than `call_out_time`, and among the entries of this second the head is the newest.
  have hmin := minDue_of_first hs (q := fun e => e.owner == cop.c.owner && e.tag == cop.c.tag && e.fn == cop.c.fn)
    hxw hQ
    (fun p hp hq => by
      simp only [Bool.and_eq_true, beq_iff_eq] at hq
      exact pend_alive_inWheel hs hp (by rw [hq.1.1]; exact hdead'))
    (fun c hc1 _ => by
      obtain ⟨s', D', hm'⟩ := hc1
      have := (hw.ent s' _ hm').notPast
      simp only [] at this
      exact ⟨by omega, fun hcd => first_has_largest_handle hw hcum ⟨s', D', hm'⟩ hcd (by simp)⟩)
  obtain ⟨rest', hro⟩ := removeOne_self hmem
  have hnotearly : ¬ ((toPend cop.c).due > vnow w) := by
    have := hw.cot_le
    simp only [toPend, vnow]; omega
  have hwant : liveGiverJ (jstate w.out) (toPend cop.c).giver = liveGiver w cop.c.giver := by
    unfold liveGiver liveGiverJ toPend
    cases cop.c.giver with
    | none => rfl
    | some g => simp only [isDeadJ_eq hs]
  have hj : judgeStep (jstate w.out) (.fire (vnow w) cop.c.owner cop.c.fn cop.c.tag (liveGiver w cop.c.giver)) =
      { jstate w.out with pend := rest' } := by
    unfold judgeStep
    simp only [hs.inTick, if_true, hmin, hnotearly, if_false, hwant, isDeadJ_eq hs, hdead', hro,
      Bool.false_eq_true, beq_self_eq_true]
  refine Sim.emit (w := w) rfl ?_
  rw [hj]
  exact (SimJ.remove_pair hw hs hcum (by simp) hro).congr rfl rfl rfl rfl rfl

theorem fireOne_sim (sc : Scripts) {w : World} (hw : WheelInv w) (hs : Sim true w) {cop : Entry} {rest : List Entry}
    (hl : w.slots (slotOf w.cot) = cop :: rest) (hz : cop.delta = 0) :
    Sim true (fireOne sc (setSlot w (slotOf w.cot) rest) cop) := by
  obtain ⟨hcum, hxw, hdue⟩ := due_head hw hl hz
  rw [fireOne_eq_spec]
  unfold fireOneSpec
  have hdw : isDead (setSlot w (slotOf w.cot) rest) cop.c.owner = isDead w cop.c.owner := rfl
  by_cases hdead : isDead w cop.c.owner = true
  · rw [if_pos (hdw.trans hdead)]
    -- dropped (silently, or with the "owner destructed" error of a function pointer): the oracle keeps it as
    -- an entry of a destructed owner whose time has come
    have hdrop : Sim true (setSlot w (slotOf w.cot) rest) := by
      refine ⟨hs.bad, hs.dead, hs.handles, hs.inTick, hs.allLt, hs.pendLt, hs.pendSorted, ?_, ?_⟩
      · intro c hc
        exact hs.wheelPend c ((inWheel_remove hw hcum (by simp) c).1 hc).1
      · intro p hp
        rcases hs.pendWheel p hp with ⟨c, hc1, hc2⟩ | hxx
        · by_cases hcc : c = cop.c
          · subst hcc
            exact Or.inr ⟨by rw [← hc2]; exact hdead, by rw [← hc2]; simp only [toPend, setSlot_cot]; omega⟩
          · exact Or.inl ⟨c, (inWheel_remove hw hcum (by simp) c).2 ⟨hc1, hcc⟩, hc2⟩
        · exact Or.inr hxx
    split
    · exact Sim.emit (w := setSlot w (slotOf w.cot) rest) (ev := .errFpDead) rfl hdrop
    · exact hdrop
  · have hdead' : isDead w cop.c.owner = false := by simpa using hdead
    rw [if_neg (by rw [hdw, hdead']; exact Bool.false_ne_true)]
    obtain ⟨hs1, hw1⟩ := fire_emit_sim hw hs hl hz hdead'
    exact (runOps_sim hw1 hs1 cop.c.owner (sc cop.c.owner cop.c.tag) hdead').congr rfl rfl rfl rfl rfl rfl

theorem visit_sim (sc : Scripts) (tm : Nat) : ∀ (fuel : Nat) (w : World), WheelInv w → w.cot ≠ 0 →
    tm = slotOf w.cot → (∃ cop rest, w.slots tm = cop :: rest ∧ cop.delta = 0) → Sim true w →
    Sim true (visit sc tm fuel w) :=
  visit_inv_ind sc tm (fun _ _ _ hw hl hz hs => fireOne_sim sc hw hs hl hz)

theorem decHead_sim {w : World} (hs : Sim true w) : Sim true (decHead w) := by
  obtain ⟨sl, e⟩ := decHead_fields w
  exact hs.mono (by rw [e]) inWheel_decHead (by rw [e]; exact Nat.le_succ _) (by rw [e]; exact Nat.le_refl _) (by rw [e])
    (by rw [e])

theorem sweepSecond_sim (sc : Scripts) {w : World} (h : WheelInv w) (hq : Quiet w) (hlt : w.cot < w.now)
    (hs : Sim true w) : Sim true (sweepSecond sc w) := by
  have hc := decHead_cot w
  exact sweepSecond_cases sc w (fun _ => decHead_sim hs) (fun x xs hl hx =>
    visit_sim sc _ _ (decHead w) (decHead_inv h hq hlt) (by rw [hc]; omega) (by rw [hc]) ⟨x, xs, hl, hx⟩
      (decHead_sim hs))

theorem sweepLoop_sim (sc : Scripts) : ∀ (fuel : Nat) (w : World), WheelInv w → Quiet w → w.cot ≠ 0 →
    Sim true w → Sim true (sweepLoop sc fuel w) :=
  fun fuel w h hq _ hs => sweepLoop_inv_ind sc (fun _ h hq hlt hs => sweepSecond_sim sc h hq hlt hs) fuel w h hq hs

theorem Sim.initCot {tick : Bool} {w : World} (hs : Sim tick w) : Sim tick { w with cot := coCot w } :=
  hs.mono rfl (fun _ => Iff.rfl) (coCot_ge w) (Nat.le_refl _) rfl rfl

theorem sweepCore_sim (sc : Scripts) {w : World} (h : WheelInv w) (hq : Quiet w) (hs : Sim true w) :
    Sim true (sweepCore sc w) := by
  rw [sweepCore_eq]
  exact sweepLoop_sim sc _ _ h.initCot hq (coCot_ne h) hs.initCot

theorem sweep_sim (sc : Scripts) {w : World} (h : WheelInv w) (hq : Quiet w) (hs : Sim true w) :
    Sim true (sweep sc w) := by
  rw [sweep_eq]
  exact (sweepCore_sim sc h hq hs).congr rfl rfl rfl rfl rfl rfl

theorem init_sim : Sim false World.init := by
  refine ⟨rfl, rfl, rfl, rfl, ?_, ?_, List.Pairwise.nil, ?_, ?_⟩
  · intro h hh; cases hh
  · intro p hp; cases hp
  · rintro c ⟨s, D, hm⟩; simp [World.init] at hm
  · intro p hp; cases hp

theorem tickend_sim {w : World} (hw : WheelInv w) (hq : Quiet w) (hcn : w.cot = w.now) (hs : Sim true w) :
    Sim false (emit w (.tickend (vnow w))) := by
  refine Sim.emit (w := w) rfl ?_
  -- nothing in the wheel is due any more, so the oracle misses nothing and keeps every entry of the wheel
  have hlater : ∀ c, InWheel w c → (toPend c).due > vnow w := fun c hc => by
    have := quiet_due_gt hw hq hc
    simp only [toPend, vnow]; omega
  have hmiss : (jstate w.out).pend.filter (fun e => decide (e.due ≤ vnow w) && !isDeadJ (jstate w.out) e.owner) = [] := by
    apply List.filter_eq_nil_iff.2
    intro p hp
    rcases hs.pendWheel p hp with ⟨c, hc1, hc2⟩ | hx
    · have := hlater c hc1
      have hd : ¬ p.due ≤ vnow w := by rw [← hc2]; omega
      simp [hd]
    · have : isDeadJ (jstate w.out) p.owner = true := by rw [isDeadJ_eq hs]; exact hx.1
      simp [this]
  have hj : judgeStep (jstate w.out) (.tickend (vnow w)) =
      { jstate w.out with inTick := false, pend := (jstate w.out).pend.filter (fun e => decide (e.due > vnow w)) } := by
    unfold judgeStep
    simp only [hmiss, List.foldl_nil]
  rw [hj]
  exact (hs.shrink List.filter_sublist rfl rfl rfl rfl
    (fun c hc => ⟨hc, List.mem_filter.2 ⟨hs.wheelPend c hc, decide_eq_true (hlater c hc)⟩⟩)
    (fun _ hc _ => hc)).setTick false

theorem applyOp_sim {w : World} (hr : Rest w) (hs : Sim false w) (self : Nat) (op : Op) :
    Sim false (applyOp w self op) := by
  unfold applyOp
  split
  · exact Sim.emit (w := w) rfl hs
  · rename_i hd
    have := runOps_sim hr.inv hs self [op] (by simpa using hd)
    simp only []
    split
    · exact Sim.emit (w := (runOps w self [op]).1) rfl this
    · exact this

theorem stepCmd_sim (sc : Scripts) {w : World} (hr : Rest w) (hs : Sim false w) (c : Cmd) :
    Sim false (stepCmd sc w c) := by
  cases c with
  | adv dt => exact hs.congr rfl rfl rfl rfl rfl rfl
  | sweep =>
    have hr1 := hr.emit (.tickbegin (vnow w))
    have h2 := sweep_sim sc hr1.inv hr1.quiet hs.tickbegin
    obtain ⟨hinv, hquiet, hcot, hnow, _⟩ := sweep_ok sc hr1.inv hr1.quiet
    exact tickend_sim hinv hquiet (by rw [hcot, hnow]) h2
  | setScript self =>
    show Sim false (if isDead w self then emit w (.setScriptDestructed self) else w)
    split
    · exact Sim.emit (w := w) rfl hs
    · exact hs
  | op self op => exact applyOp_sim hr hs self op
  | gop g self op =>
    have hr1 : Rest { w with giver := liveGiver w (some g) } := hr.congr rfl rfl rfl rfl
    exact (applyOp_sim hr1 (hs.setGiver _) self op).setGiver _
  | setUnique n =>
    show Sim false (if n > w.unique then { w with unique := n } else w)
    split
    · rename_i hn
      exact hs.mono rfl (fun _ => Iff.rfl) (Nat.le_refl _) (Nat.le_of_lt hn) rfl rfl
    · exact hs

theorem runCmds_sim (sc : Scripts) {w : World} (hr : Rest w) (hs : Sim false w) (cs : List Cmd) :
    Sim false (runCmds sc w cs) :=
  (runCmds_ind (P := fun v => Rest v ∧ Sim false v) sc
    (fun _ c ⟨a, b⟩ => ⟨stepCmd_rest sc a c, stepCmd_sim sc a b c⟩) cs w ⟨hr, hs⟩).2

end NV.C10
