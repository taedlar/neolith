/-
C10 — property theorems.  Helper lemmas live in NV/C10/Lemmas*.lean; this file has the top-level statements:

  * `model_satisfies_spec` : for ALL callback scripts and ALL command lists the specification oracle `judgeEv`
    (the same function that judges the traces of the real driver) raises no violation on the history produced by
    the model of lib/efuns/call_out.c.
  * `wheelInv_always`, `sweep_catches_up`, ... : the invariants behind it, clause by clause.
  * `handleC_exact`, `model_satisfies_spec_int`, `model_satisfies_spec_int_bound` : the same with handles in a C `int`,
    under an explicit bound on the number of call_outs; `C10_handles_Full_false`, `C10_int_Full_false` : witnesses that
    the bound cannot be dropped.
-/
import NV.C10.LemmasFit
import NV.C10.LemmasUsage

namespace NV.C10

/-- **C10, top theorem.**  For every callback oracle `sc` (what each call_out callback does: schedule, remove,
    find, destruct, raise an error, ...) and every list of top-level commands `cmds` (operations, clock advances of
    any size, sweeps at any spacing incl. backlog), the history of observable events produced by the model of
    lib/efuns/call_out.c is accepted by the specification oracle `judgeEv`: every scheduled call_out of a live
    object that is not removed fires exactly once, with its argument, not before its time and no later than the
    first `call_out()` at or after it; find/remove (by handle and by name) answer exactly `(int)(due - now)`; a removed
    call_out never fires; call_outs of destructed objects are dropped; an error in a callback loses/repeats
    nothing; handles are never reused; `call_out_info()` lists exactly the pending call_outs of live objects;
    this_player() in a callback is the saved command_giver (0 if destructed); `reload_object` drops the object's
    call_outs; print_call_out_usage reports the number of pending call_outs and a `num_call` that is a whole number of
    chunks, covers the structures in use and never exceeds what the largest number ever in use required (no leak).  (See NV/C10/PropsNeg.lean for histories the oracle rejects, clause by clause.) -/
theorem model_satisfies_spec (sc : Scripts) (cmds : List Cmd) :
    judgeEv (events (runCmds sc World.init cmds)) = [] := by
  unfold judgeEv
  rw [judgeCore_events, (runCmds_sim sc init_rest init_sim cmds).bad, judgeUsage_events,
    (runCmds_u sc init_rest init_sim init_u cmds).ubad]
  rfl

/-- **bookkeeping (free list / num_call / print_call_out_usage)**: after every history `num_call` is a whole number
    of chunks and covers every structure in use, none is held by a finished callback (`busy = 0`), and the wheel holds
    no more entries than the oracle lists as pending (the clause-level statement behind the `usage-*` verdicts; that
    `num_call` stays below `hwm + CHUNK_SIZE` is part of `model_satisfies_spec`) -/
theorem usage_exact (sc : Scripts) (cmds : List Cmd) :
    (runCmds sc World.init cmds).numCall % Gen.C10.chunkSize = 0 ∧
      wheelSize (runCmds sc World.init cmds) + (runCmds sc World.init cmds).busy ≤ (runCmds sc World.init cmds).numCall ∧
      (runCmds sc World.init cmds).busy = 0 ∧
      wheelSize (runCmds sc World.init cmds) ≤ (jstate (runCmds sc World.init cmds).out).pend.length := by
  have hu := runCmds_u sc init_rest init_sim init_u cmds
  have hr := runCmds_rest sc init_rest cmds
  have hs := runCmds_sim sc init_rest init_sim cmds
  exact ⟨hu.mod, hu.inUse, hu.busy, wheelSize_le_pend hr.inv hs⟩

/-- the wheel invariant holds after every history, and between commands nothing pending is due -/
theorem wheelInv_always (sc : Scripts) (cmds : List Cmd) :
    WheelInv (runCmds sc World.init cmds) ∧ Quiet (runCmds sc World.init cmds) :=
  runCmds_rest sc init_rest cmds

/-- after `call_out()` the sweep has caught up, `call_out_time = current_time` (so no pending
    entry is overdue: all of them are strictly later, by `Quiet`) -/
theorem sweep_catches_up (sc : Scripts) (cmds : List Cmd) :
    (sweep sc (runCmds sc World.init cmds)).cot = (runCmds sc World.init cmds).now ∧
      Quiet (sweep sc (runCmds sc World.init cmds)) ∧ WheelInv (sweep sc (runCmds sc World.init cmds)) := by
  have h := runCmds_rest sc init_rest cmds
  obtain ⟨hinv, hquiet, hcot, _⟩ := sweep_ok sc h.inv h.quiet
  exact ⟨hcot, hquiet, hinv⟩

/-- **time_left_exact**: in every reachable state, for the entry at cumulative rotation `D` of slot `s`,
    `time_left(s, D)` is the entry's own second minus `current_time` -/
theorem time_left_exact (sc : Scripts) (cmds : List Cmd) (s : Nat) (p : Int × Call)
    (hp : p ∈ cum 0 ((runCmds sc World.init cmds).slots s)) :
    timeLeft (runCmds sc World.init cmds) s p.1 = p.2.due - (runCmds sc World.init cmds).now :=
  timeLeft_of_inv (runCmds_rest sc init_rest cmds).inv hp

/-- **handle_unique**: two different pending call_outs never carry the same handle -/
theorem handle_unique (sc : Scripts) (cmds : List Cmd) (c₁ c₂ : Call)
    (h₁ : InWheel (runCmds sc World.init cmds) c₁) (h₂ : InWheel (runCmds sc World.init cmds) c₂)
    (hh : c₁.handle = c₂.handle) : c₁ = c₂ := by
  have hw := (runCmds_rest sc init_rest cmds).inv
  have hs := runCmds_sim sc init_rest init_sim cmds
  have := hdesc_handle_inj hs.pendSorted (hs.wheelPend _ h₁) (hs.wheelPend _ h₂) (by simp [toPend, hh])
  exact toPend_inj hw h₁ h₂ this

theorem nonneg_of_sorted : ∀ (xs : List Entry) (acc : Int) (x : Entry), (cum acc (x :: xs)).Pairwise Before →
    ∀ y ∈ xs, 0 ≤ y.delta := by
  intro xs
  induction xs with
  | nil => intro _ _ _ y hy; cases hy
  | cons z zs ih =>
    intro acc x hsort y hy
    simp only [cum_cons] at hsort
    have h2 := List.pairwise_cons.1 hsort
    simp only [List.mem_cons] at hy
    rcases hy with rfl | hy
    · have := before_le (h2.1 (acc + x.delta + y.delta, y.c) (by simp))
      simp only [] at this; omega
    · exact ih (acc + x.delta) z (by simpa using h2.2) y hy

/-- deltas are what the C code assumes: non-negative after the head, positive at the head outside a visit -/
theorem deltas_ok (sc : Scripts) (cmds : List Cmd) (s : Nat) (x : Entry) (xs : List Entry)
    (hl : (runCmds sc World.init cmds).slots s = x :: xs) : 1 ≤ x.delta ∧ ∀ y ∈ xs, 0 ≤ y.delta := by
  obtain ⟨hw, hq⟩ := runCmds_rest sc init_rest cmds
  have hsort := hw.sorted s
  rw [hl] at hsort
  have hq' := hq s
  rw [hl] at hq'
  constructor
  · have := hq' (0 + x.delta, x.c) (by simp)
    simp only [] at this; omega
  · exact nonneg_of_sorted xs 0 x hsort

/-- the one bound behind `handles_fit_int`, `handleC_exact` and `handlesFit_of_bound`: handles `tm + N * serial`
    (`tm < N`) of serials up to `k` are below `N * (k + 1)`, and that fits an `int` when `k < 2^31 / N`.  Their side
    conditions are this `k <` for the largest serial concerned: `unique`, the new serial `u + 1`, `unique` again
    (written `unique + 1 ≤`) -/
theorem handleBound_le {k : Nat} (h : k < 2 ^ 31 / N) : N * (k + 1) ≤ 2 ^ 31 :=
  Nat.le_trans (Nat.mul_le_mul_left _ h) (Nat.mul_div_le _ _)

/-- the model keeps handles in `Nat`; the C code returns them as `int`.  **Explicit side condition** under which
    the two agree: fewer than 2^31 / N call_outs have been created so far (`unique` counts them).  Then every pending
    handle fits a C `int`.  (Beyond that bound `tm += CALLOUT_CYCLE_SIZE * ++unique` overflows: `handleC` below, `eventsC` in Model.lean.) -/
theorem handles_fit_int (sc : Scripts) (cmds : List Cmd) (hb : (runCmds sc World.init cmds).unique < 2 ^ 31 / N)
    (c : Call) (hc : InWheel (runCmds sc World.init cmds) c) : c.handle < 2 ^ 31 := by
  have hw := (runCmds_rest sc init_rest cmds).inv
  obtain ⟨s, D, hm⟩ := hc
  have e := hw.ent s _ hm
  have h1 := e.handle
  have h2 := e.serial
  have h3 := e.slot
  simp only [] at h1 h2
  have hm := Nat.mul_le_mul_left N h2
  have := handleBound_le hb
  rw [Nat.mul_succ] at this
  omega

/-! ### handles in explicit width (C `int`) -/

/-- `tm += CALLOUT_CYCLE_SIZE * ++unique` evaluated in a C `int` (`trunc32` = what a two's complement machine
    leaves; in C itself the overflow is undefined behaviour) -/
def handleC (tm unique : Nat) : Int := Gen.C10.trunc32 (Gen.C10.handleExpr tm unique)

/-- **full statement under the stated bound**: for every slot and every value `u` of `unique` below `2^31 / N - 1`
    (the new serial `u + 1` is below `2^31 / N`) the `int` computation is exactly the model's handle
    `tm + N * (u + 1)` (positive, never 0, slot recoverable) -/
theorem handleC_exact (tm u : Nat) (htm : tm < N) (hb : u + 1 < 2 ^ 31 / N) :
    handleC tm u = ((tm + N * (u + 1) : Nat) : Int) := by
  have he : Gen.C10.handleExpr tm u = ((tm + N * (u + 1) : Nat) : Int) := by
    have := tie_handleExpr tm u
    have : 0 ≤ Gen.C10.handleExpr tm u := Int.add_nonneg (Int.natCast_nonneg _)
      (Int.mul_nonneg (Int.natCast_nonneg _) (Int.add_nonneg (Int.natCast_nonneg _) Int.one_nonneg))
    omega
  -- `tm + N * (u + 1) < N * (u + 2) ≤ 2^31`
  have h1 := handleBound_le hb
  rw [Nat.mul_succ] at h1
  unfold handleC
  rw [he]
  exact trunc32_id (by omega) (by omega)

/-- the statement without the bound, for all serials -/
def C10_handles_Full : Prop := ∀ tm u : Nat, tm < N → handleC tm u = ((tm + N * (u + 1) : Nat) : Int)

/-- **witness above the bound** (Lean-checked): the first serial whose handle leaves `int` comes out negative ... -/
theorem handleC_overflow_witness : handleC 0 (2 ^ 31 / N - 1) < 0 := by decide

/-- ... so the full statement is false; `handleC_exact` is the `_partial` version with the explicit bound
    (2^26 - 1 call_outs for N = 32).  This is about the single expression; the history that reaches it on the driver
    (through the hook that sets `unique`) is `ovfCmds` below. -/
theorem C10_handles_Full_false : ¬ C10_handles_Full := by
  intro h
  have h1 := h 0 (2 ^ 31 / N - 1) (by decide)
  have h2 := handleC_overflow_witness
  rw [h1] at h2
  omega

/-- and `2^32 / N` serials later a handle repeats -/
theorem handleC_collision_witness : handleC 5 0 = handleC 5 (2 ^ 32 / N) := by decide

/-! ### the history with `int` handles (`eventsC`): partial theorem, refuted full statement -/

/-- **explicit decidable side condition**: every handle returned by call_out() in this history survives the
    conversion to a C `int` -/
def handlesFit (evs : List Ev) : Bool :=
  evs.all (fun e => match e with
    | .co _ _ _ _ _ h _ _ => decide (Gen.C10.trunc32 h = h)
    | _ => true)

theorem cutAtOverflow_id : ∀ {evs : List Ev}, handlesFit evs = true → cutAtOverflow evs = evs
  | [], _ => rfl
  | e :: es, h => by
    have h' : handlesFit es = true := by
      unfold handlesFit at h ⊢
      simp only [List.all_cons, Bool.and_eq_true] at h
      exact h.2
    have ih := cutAtOverflow_id h'
    cases e with
    | co t o fn d tag hd fp tp =>
      have h1 : Gen.C10.trunc32 hd = hd := by
        unfold handlesFit at h
        simp only [List.all_cons, Bool.and_eq_true, decide_eq_true_eq] at h
        exact h.1
      simp only [cutAtOverflow, h1, if_true, ih]
    | _ => simp only [cutAtOverflow, ih]

/-- **`model_satisfies_spec_int` (the `_partial` statement)**: on every history whose handles fit an `int`, the
    history as the C code with `int` handles produces it (`eventsC`, what `nvdrive C10 model` prints) is accepted
    by the oracle.  With fewer than 2^31 / N handle serials used the side condition holds (`handlesFit_of_bound`). -/
theorem model_satisfies_spec_int (sc : Scripts) (cmds : List Cmd)
    (h : handlesFit (events (runCmds sc World.init cmds)) = true) :
    judgeEv (eventsC (runCmds sc World.init cmds)) = [] := by
  unfold eventsC
  rw [cutAtOverflow_id h]
  exact model_satisfies_spec sc cmds

/-- **the side condition follows from the number of call_outs made**: if after the history fewer than `2^31 / N`
    handle serials are used up (`unique` counts every call_out since boot, the hook only raises it), every handle
    printed in the history fits an `int` -/
theorem handlesFit_of_bound (sc : Scripts) (cmds : List Cmd)
    (hb : (runCmds sc World.init cmds).unique + 1 ≤ 2 ^ 31 / N) :
    handlesFit (events (runCmds sc World.init cmds)) = true := by
  have h := runCmds_hb sc init_hb cmds
  unfold handlesFit events
  rw [List.all_eq_true]
  intro e he
  have he' : e ∈ (runCmds sc World.init cmds).out := List.mem_reverse.1 he
  have hf := h e he'
  cases e with
  | co t o fn d tag hd fp tp =>
    have hm := handleBound_le hb
    obtain ⟨h0, h1⟩ := hf
    exact decide_eq_true (trunc32_id (by omega) (by omega))
  | _ => rfl

/-- **`model_satisfies_spec_int` under the numeric bound**: for every history that uses fewer than `2^31 / N` handle
    serials, the history with C `int` handles is accepted by the oracle (the bound is tight: `ovf_witness` uses one more) -/
theorem model_satisfies_spec_int_bound (sc : Scripts) (cmds : List Cmd)
    (hb : (runCmds sc World.init cmds).unique + 1 ≤ 2 ^ 31 / N) :
    judgeEv (eventsC (runCmds sc World.init cmds)) = [] :=
  model_satisfies_spec_int sc cmds (handlesFit_of_bound sc cmds hb)

/-- the statement without the side condition -/
def C10_int_Full : Prop := ∀ (sc : Scripts) (cmds : List Cmd), judgeEv (eventsC (runCmds sc World.init cmds)) = []

/-- the witness history (replayed on the real driver by the open known finding C10-handle-overflow): the serial is
    advanced to two below the end of the range, the first call_out still gets a positive `int`, the second overflows -/
def ovfCmds : List Cmd :=
  [.setUnique (2 ^ 31 / N - 2), .op 1 (.co 0 5 "a" false), .op 1 (.co 0 5 "b" false), .adv 5, .sweep]

theorem ovf_witness : judgeEv (eventsC (runCmds (fun _ _ => []) World.init ovfCmds)) ≠ [] := by decide

/-- the first call_out of the witness is still fine (non-vacuity of the side condition right below the bound) -/
example : handlesFit (events (runCmds (fun _ _ => []) World.init (ovfCmds.take 2))) = true := by decide

/-- the bound holds right below the witness: the first call_out of `ovfCmds` uses the last serial -/
example : (runCmds (fun _ _ => []) World.init (ovfCmds.take 2)).unique + 1 ≤ 2 ^ 31 / N := by decide

theorem C10_int_Full_false : ¬ C10_int_Full := fun h => ovf_witness (h _ _)

/-- the efuns return `(int) time_left (...)`; the model applies the same conversion (`efunResult`, generated) and the
    oracle expects a C int (`toCInt`).  **Explicit side condition** under which the conversion is the identity, i.e.
    the answer is the true time left: the entry's second lies within 2^31 seconds of `current_time`
    (delays and backlog below 2^31).  `trunc32` is the generated C `(int)` conversion. -/
theorem time_left_fits_int (sc : Scripts) (cmds : List Cmd) (s : Nat) (p : Int × Call)
    (hp : p ∈ cum 0 ((runCmds sc World.init cmds).slots s))
    (hb : -(2147483648 : Int) ≤ p.2.due - (runCmds sc World.init cmds).now ∧
      p.2.due - (runCmds sc World.init cmds).now < 2147483648) :
    Gen.C10.trunc32 (timeLeft (runCmds sc World.init cmds) s p.1) = timeLeft (runCmds sc World.init cmds) s p.1 := by
  rw [time_left_exact sc cmds s p hp]
  exact trunc32_id hb.1 hb.2

/-! ### non-vacuity -/

/-- a script table used by the examples: the callback of (o1, "a") schedules "b" into the slot being swept,
    removes "c" and raises an error -/
def exScripts : Scripts := fun o tag =>
  if o = 1 ∧ tag = "a" then [.co 1 32 "b" true, .rmh "c", .fnm 2, .info, .err] else []

def exCmds : List Cmd :=
  [.gop 3 1 (.co 0 1 "a" false), .op 1 (.co 2 5 "c" true), .op 2 (.co 2 70 "d" true), .op 2 (.dest 2), .adv 3, .sweep,
   .op 1 (.fh "b"), .adv 40, .sweep, .adv 100, .sweep]

/-- the example history is non-trivial: 2 fires (a, b: a function-pointer call_out scheduled from inside a callback
    into the slot being swept), a removal from inside a callback, an error, a destructed owner's function-pointer
    call_out dropped with the "owner destructed" error; this_player() = o3 is saved with "a", restored for its
    callback and inherited by "b" -/
example : (events (runCmds exScripts World.init exCmds)).length = 19 := by decide +kernel

example : (events (runCmds exScripts World.init exCmds)).filter (fun e => match e with | .fire .. => true | _ => false)
    = [.fire 3 1 0 "a" (some 3), .fire 43 1 1 "b" (some 3)] := by decide +kernel

/-- `usage_exact` on the example: one chunk allocated, one call_out still pending -/
example : (runCmds exScripts World.init (exCmds.take 9)).numCall = Gen.C10.chunkSize ∧
    wheelSize (runCmds exScripts World.init (exCmds.take 9)) = 1 := by decide +kernel

/-- the side condition of `handles_fit_int` is satisfiable on the non-trivial example history -/
example : (runCmds exScripts World.init exCmds).unique < 2 ^ 31 / N := by decide +kernel

/-- the side condition of `time_left_fits_int` holds for the three entries pending before the first sweep of the
    example history -/
example : (List.range N).all (fun s => (cum 0 ((runCmds exScripts World.init (exCmds.take 5)).slots s)).all (fun p =>
    decide (-(2147483648 : Int) ≤ p.2.due - (runCmds exScripts World.init (exCmds.take 5)).now ∧
      p.2.due - (runCmds exScripts World.init (exCmds.take 5)).now < 2147483648))) = true := by decide +kernel
example : ((List.range N).map (fun s => ((runCmds exScripts World.init (exCmds.take 5)).slots s).length)).sum = 3 := by
  decide +kernel

/-- the oracle is not vacuous: it rejects a repeated fire, an early fire, a wrong answer, a missed call_out, a wrong
    this_player(), a fire after removal -/
example : judgeEv [.co 0 1 0 5 "a" 37 false none, .tickbegin 9, .fire 9 1 0 "a" none, .fire 9 1 0 "a" none, .tickend 9] ≠ [] := by decide
example : judgeEv [.co 0 1 0 5 "a" 37 false none, .tickbegin 4, .fire 4 1 0 "a" none, .tickend 4] ≠ [] := by decide
example : judgeEv [.co 0 1 0 5 "a" 37 false none, .fh 1 1 "a" 5] ≠ [] := by decide
example : judgeEv [.co 0 1 0 5 "a" 37 false none, .tickbegin 5, .tickend 5] ≠ [] := by decide
example : judgeEv [.co 0 1 0 5 "a" 37 false (some 2), .tickbegin 5, .fire 5 1 0 "a" none, .tickend 5] ≠ [] := by decide
example : judgeEv [.co 0 1 0 5 "a" 37 false none, .rmh 2 1 "a" 3, .tickbegin 5, .fire 5 1 0 "a" none, .tickend 5] ≠ [] := by decide

end NV.C10
