/-
C10 — the list functions of the specification oracle (`removeOne`, `minDue`): where in the pending list the entry
they pick stands, and what that means on a list whose handles are strictly decreasing (newest first).
-/
import NV.C10.Spec
import NV.C10.LemmasCum

namespace NV.C10

/-- handle order of the oracle's pending list: newest (largest handle) first -/
def HDesc (l : List Pend) : Prop := l.Pairwise (fun a b => b.handle < a.handle)

theorem hdesc_handle_inj {l : List Pend} (hl : HDesc l) {a b : Pend} (ha : a ∈ l) (hb : b ∈ l)
    (h : a.handle = b.handle) : a = b :=
  List.Pairwise.forall_of_forall_of_flip (R := fun a b => a.handle = b.handle → a = b) (fun _ _ _ => rfl)
    (hl.imp fun hab h => by omega) (hl.imp fun hab h => by omega) ha hb h

theorem removeOne_eq (q : Pend → Bool) (l : List Pend) :
    removeOne q l = (l.find? q).map (fun e => (e, l.eraseP q)) := by
  induction l with
  | nil => rfl
  | cons x xs ih =>
    unfold removeOne
    rw [ih, List.find?_cons, List.eraseP_cons]
    cases q x
    · cases xs.find? q <;> rfl
    · rfl

theorem removeOne_some {q : Pend → Bool} {l : List Pend} {e : Pend} {rest : List Pend}
    (h : removeOne q l = some (e, rest)) :
    ∃ A B, l = A ++ e :: B ∧ rest = A ++ B ∧ q e = true ∧ ∀ p ∈ A, q p = false := by
  rw [removeOne_eq] at h
  cases hf : l.find? q with
  | none => rw [hf] at h; cases h
  | some b =>
    rw [hf] at h
    cases h
    exact find?_split hf

theorem removeOne_none {q : Pend → Bool} {l : List Pend} (h : removeOne q l = none) :
    ∀ p ∈ l, q p = false := by
  rw [removeOne_eq, Option.map_eq_none_iff, List.find?_eq_none] at h
  exact fun p hp => by simpa using h p hp

theorem removeOne_self {l : List Pend} {p : Pend} (hp : p ∈ l) : ∃ rest, removeOne (fun x => x == p) l = some (p, rest) := by
  cases h : removeOne (fun x => x == p) l with
  | none => simpa using removeOne_none h p hp
  | some r =>
    obtain ⟨_, _, _, _, he, _⟩ := removeOne_some (e := r.1) (rest := r.2) h
    exact ⟨r.2, by rw [← show r.1 = p by simpa using he]⟩

/-- the step of the fold in `minDue`, which Spec.lean writes inline; `minDue_eq` below is the link -/
def minStep (acc : Option Pend) (x : Pend) : Option Pend :=
  match acc with
  | none => some x
  | some y => if x.due < y.due then some x else some y

theorem minDue_eq (q : Pend → Bool) (l : List Pend) : minDue q l = (l.filter q).foldl minStep none := rfl

/-- the fold keeps the first of the entries with the least due time -/
theorem minFold_some : ∀ (l : List Pend) (a e : Pend), l.foldl minStep (some a) = some e →
    ∃ A B, a :: l = A ++ e :: B ∧ (∀ p ∈ A, e.due < p.due) ∧ ∀ p ∈ B, e.due ≤ p.due
  | [], a, e, h => by
    cases h
    exact ⟨[], [], rfl, (fun _ hp => nomatch hp), (fun _ hp => nomatch hp)⟩
  | x :: xs, a, e, h => by
    simp only [List.foldl_cons, minStep] at h
    split at h
    · -- `x` is earlier than everything before it
      rename_i hlt
      obtain ⟨A, B, e1, e2, e3⟩ := minFold_some xs x e h
      have hex : e.due ≤ x.due := by
        cases A with
        | nil => cases e1; exact Int.le_refl _
        | cons y ys => cases e1; exact Int.le_of_lt (e2 _ (List.mem_cons_self ..))
      refine ⟨a :: A, B, by rw [e1]; rfl, ?_, e3⟩
      intro p hp
      rcases List.mem_cons.1 hp with rfl | hp
      · omega
      · exact e2 p hp
    · rename_i hlt
      obtain ⟨A, B, e1, e2, e3⟩ := minFold_some xs a e h
      cases A with
      | nil =>
        cases e1
        refine ⟨[], x :: xs, rfl, (fun _ hp => nomatch hp), ?_⟩
        intro p hp
        rcases List.mem_cons.1 hp with rfl | hp
        · omega
        · exact e3 p hp
      | cons y ys =>
        cases e1
        refine ⟨a :: x :: ys, B, rfl, ?_, e3⟩
        intro p hp
        have := e2 a (List.mem_cons_self ..)
        rcases List.mem_cons.1 hp with rfl | hp
        · exact this
        · rcases List.mem_cons.1 hp with rfl | hp
          · omega
          · exact e2 p (List.mem_cons_of_mem _ hp)

theorem minFold_isSome : ∀ (l : List Pend) (a : Pend), ∃ e, l.foldl minStep (some a) = some e
  | [], a => ⟨a, rfl⟩
  | x :: xs, a => by
    simp only [List.foldl_cons, minStep]
    split <;> exact minFold_isSome xs _

theorem minDue_none {q : Pend → Bool} {l : List Pend} (h : minDue q l = none) : ∀ p ∈ l, q p = false := by
  rw [minDue_eq] at h
  intro p hp
  cases hq : q p with
  | false => rfl
  | true =>
    cases hf : l.filter q with
    | nil => exact absurd (List.mem_filter.2 ⟨hp, hq⟩) (by rw [hf]; exact List.not_mem_nil)
    | cons x xs =>
      rw [hf] at h
      obtain ⟨e, he⟩ := minFold_isSome xs x
      exact nomatch he.symm.trans h

/-- on a list with decreasing handles `minDue` returns, among the matching entries with the smallest due time, the
    one with the largest handle -/
theorem minDue_some {q : Pend → Bool} {l : List Pend} {e : Pend} (h : minDue q l = some e) (hl : HDesc l) :
    e ∈ l ∧ q e = true ∧ ∀ p ∈ l, q p = true → e.due ≤ p.due ∧ (p.due = e.due → p.handle ≤ e.handle) := by
  rw [minDue_eq] at h
  cases hf : l.filter q with
  | nil => rw [hf] at h; cases h
  | cons x xs =>
    rw [hf] at h
    obtain ⟨A, B, e1, e2, e3⟩ := minFold_some xs x e h
    have hd : HDesc (A ++ e :: B) := by rw [← e1, ← hf]; exact hl.sublist List.filter_sublist
    have hmem : ∀ p, p ∈ l ∧ q p = true ↔ p ∈ A ++ e :: B := by
      intro p; rw [← e1, ← hf, List.mem_filter]
    have he := (hmem e).2 (by simp)
    refine ⟨he.1, he.2, fun p hp hq => ?_⟩
    have hB := (List.pairwise_cons.1 (List.pairwise_append.1 hd).2.1).1
    rcases List.mem_append.1 ((hmem p).1 ⟨hp, hq⟩) with hp | hp
    · have := e2 p hp; exact ⟨by omega, fun h => by omega⟩
    · rcases List.mem_cons.1 hp with rfl | hp
      · exact ⟨Int.le_refl _, fun _ => Int.le_refl _⟩
      · exact ⟨e3 p hp, fun _ => Int.le_of_lt (hB p hp)⟩

end NV.C10
