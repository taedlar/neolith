/-
C10 — arithmetic core of the timing wheel: `dueOf` (the second a slot gets its D-th visit) and the placement computed
by `new_call_out`.  `wheel_omega` is how this file and LemmasTie.lean reason about `/ N`, `% N`, `& (N-1)`.
-/
import NV.C10.Model

namespace NV.C10

/-- the wheel size regenerated from the source is a power of two, so `t & (N-1)` is `t % N` -/
theorem N_pow2 : 2 ^ Nat.log2 N = N := by decide

theorem slotOf_eq_mod (t : Nat) : slotOf t = t % N := by
  unfold slotOf
  rw [← N_pow2]
  exact Nat.and_two_pow_sub_one_eq_mod t (Nat.log2 N)

theorem N_pos : 0 < N := by decide

theorem slotOf_lt (t : Nat) : slotOf t < N := by
  rw [slotOf_eq_mod]; exact Nat.mod_lt _ N_pos

/-- the second at which slot `slot` gets its `D`-th visit after second `cot` (`call_out()` visits slot
    `t & (N-1)` in second `t`; `D = 1` is the first visit strictly after `cot`, `D = 0` the last one at or
    before `cot`) -/
def dueOf (slot cot : Nat) (D : Int) : Int :=
  (cot : Int) + 1 + ((slot : Int) - (cot : Int) - 1) % (N : Int) + (D - 1) * (N : Int)

/-- unfold the generated wheel size to its literal so that `omega` can reason about `/ N`, `% N`, `* N` -/
macro "wheel_omega" : tactic =>
  `(tactic| (simp only [N, NV.Gen.C10.calloutCycleSize, slotOf_eq_mod] at *; omega))

/-- `dueOf` is characterised by: right residue, and in the `D`-th window of `N` seconds after `cot` -/
theorem dueOf_spec (s cot : Nat) (D u : Int) (hs : s < N) :
    u = dueOf s cot D ↔ (u % (N : Int) = s ∧ (cot : Int) + D * N - N < u ∧ u ≤ cot + D * N) := by
  unfold dueOf
  wheel_omega

theorem dueOf_mod (s cot : Nat) (D : Int) (hs : s < N) : dueOf s cot D % (N : Int) = s :=
  ((dueOf_spec s cot D _ hs).1 rfl).1

theorem dueOf_lt_iff (s cot : Nat) (D₁ D₂ : Int) : dueOf s cot D₁ < dueOf s cot D₂ ↔ D₁ < D₂ := by
  unfold dueOf
  wheel_omega

theorem dueOf_inj (s cot : Nat) (D₁ D₂ : Int) : dueOf s cot D₁ = dueOf s cot D₂ ↔ D₁ = D₂ := by
  unfold dueOf
  wheel_omega

/-- `D ≥ 1` visits are in the future of `cot`, `D ≤ 0` are not -/
theorem dueOf_gt_iff (s cot : Nat) (D : Int) : (cot : Int) < dueOf s cot D ↔ 1 ≤ D := by
  unfold dueOf
  wheel_omega

/-- the visit number 0 of the slot being swept is the current second -/
theorem dueOf_zero_cur (cot : Nat) : dueOf (slotOf cot) cot 0 = cot := by
  unfold dueOf
  wheel_omega

theorem dueOf_zero_le (s cot : Nat) : dueOf s cot 0 ≤ cot := by
  unfold dueOf
  wheel_omega

/-- advancing `call_out_time` by one second: every slot but the one now visited keeps its visit numbers -/
theorem dueOf_succ_other (s cot : Nat) (D : Int) (hs : s < N) (h : s ≠ slotOf (cot + 1)) :
    dueOf s (cot + 1) D = dueOf s cot D := by
  unfold dueOf
  wheel_omega

/-- ... and in the slot now visited all visit numbers drop by one (`--call_list[tm]->delta`) -/
theorem dueOf_succ_cur (cot : Nat) (D : Int) :
    dueOf (slotOf (cot + 1)) (cot + 1) (D - 1) = dueOf (slotOf (cot + 1)) cot D := by
  unfold dueOf
  wheel_omega

/-- **new_call_out places the entry at its own second**: the slot `(delay+now) & (N-1)` and the
    rotation count `1 + (delay+now-cot-1)/N` computed by the C code denote exactly the second `now + delay` -/
theorem newCallOut_rot_due (cot now : Nat) (d : Int) (hd : 1 ≤ d) (hc : cot ≤ now) :
    dueOf (slotOf (d + (now : Int)).toNat) cot (1 + Int.tdiv (d + (now : Int) - (cot : Int) - 1) (N : Int))
      = d + (now : Int) := by
  unfold dueOf
  have h0 : 0 ≤ d + (now : Int) - (cot : Int) - 1 := by omega
  rw [Int.tdiv_eq_ediv_of_nonneg h0]
  -- with `x = d + now - cot - 1 ≥ 0` and the slot `(d + now) % N`: `(slot - cot - 1) % N = x % N`, so `dueOf` is
  -- `cot + 1 + x % N + (x / N) * N`
  wheel_omega

theorem newCallOut_rot_pos (cot now : Nat) (d : Int) (hd : 1 ≤ d) (hc : cot ≤ now) :
    1 ≤ 1 + Int.tdiv (d + (now : Int) - (cot : Int) - 1) (N : Int) := by
  have h0 : 0 ≤ d + (now : Int) - (cot : Int) - 1 := by omega
  rw [Int.tdiv_eq_ediv_of_nonneg h0]
  wheel_omega

end NV.C10
