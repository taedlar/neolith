/-
C10 — `visit`, `sweepSecond`, `sweepLoop`, `sweep`, `stepCmd`, `runCmds` keep `WheelInv`, the fuel
of `visit`/`sweepLoop` is sufficient and after a sweep `call_out_time = current_time`.  `decHead` splits one second of
`call_out()` into the clock/decrement part and the do/while (`sweepSecond_eq`, `sweepSecond_cases`).
-/
import NV.C10.LemmasOps

namespace NV.C10

/-- if the head of the slot being swept is not due, nothing is due -/
theorem quiet_of_head {w : World} (h : WheelInv w)
    (hh : ∀ x xs, w.slots (slotOf w.cot) = x :: xs → x.delta ≠ 0) : Quiet w := by
  intro s p hp
  have e := h.ent s p hp
  have hn := e.nonneg
  by_cases h0 : p.1 ≤ 0
  · exfalso
    obtain ⟨hs, hp0, _⟩ := e.zero_slot h0
    subst hs
    cases hl : w.slots (slotOf w.cot) with
    | nil => rw [hl] at hp; simp at hp
    | cons x xs =>
      have hx := hh x xs hl
      have hsort := h.sorted (slotOf w.cot)
      rw [hl] at hp hsort
      simp only [cum_cons, List.mem_cons] at hp
      have hxn := (h.ent (slotOf w.cot) (0 + x.delta, x.c) (by rw [hl]; simp)).nonneg
      simp only [] at hxn
      rcases hp with rfl | hp
      · simp only [] at hp0; omega
      · simp only [cum_cons] at hsort
        have := before_le ((List.pairwise_cons.1 hsort).1 p hp)
        simp only [] at this
        omega
  · omega

theorem StepOK.quiet {w w' : World} (h : StepOK w w') (hq : Quiet w) : Quiet w' := by
  intro s
  have := h.zc s
  rw [zc_eq_zero_iff.2 (hq s)] at this
  exact zc_eq_zero_iff.1 (by omega)

/-- **the fuel of `visit` is sufficient**: started on a due head with at least as much fuel as
    there are due entries, the do/while ends because no head is due any more (`Quiet`), never because the fuel
    ran out; and it keeps the invariant -/
theorem visit_ok (sc : Scripts) (tm : Nat) : ∀ (fuel : Nat) (w : World), WheelInv w → w.cot ≠ 0 →
    tm = slotOf w.cot → (∃ cop rest, w.slots tm = cop :: rest ∧ cop.delta = 0) →
    zc (cum 0 (w.slots tm)) ≤ fuel → StepOK w (visit sc tm fuel w) ∧ Quiet (visit sc tm fuel w) := by
  intro fuel
  induction fuel with
  | zero =>
    intro w _ _ _ ⟨cop, rest, hl, hz⟩ hfuel
    rw [hl] at hfuel
    simp [zc, hz] at hfuel
  | succ fuel ih =>
    intro w h h0 htm ⟨cop, rest, hl, hz⟩ hfuel
    unfold visit
    simp only [hl, tie_nextDue]
    obtain ⟨h12, hz2⟩ := pop_ok sc h hl hz
    have hc2 : (fireOne sc (setSlot w tm rest) cop).cot = w.cot := h12.cot h0
    generalize fireOne sc (setSlot w tm rest) cop = w2 at *
    -- the loop stops only on a head that is not due
    have stop : (∀ x xs, w2.slots tm = x :: xs → x.delta ≠ 0) → StepOK w w2 ∧ Quiet w2 :=
      fun hne => ⟨h12, quiet_of_head h12.inv (by rw [hc2, ← htm]; exact hne)⟩
    cases hl2 : w2.slots tm with
    | nil => exact stop (fun x xs hx => by rw [hl2] at hx; cases hx)
    | cons x xs =>
      simp only []
      split
      · rename_i hx
        have := ih w2 h12.inv (by rw [hc2]; exact h0) (by rw [hc2]; exact htm) ⟨x, xs, hl2, beq_iff_eq.1 hx⟩
          (by omega)
        exact ⟨h12.trans this.1, this.2⟩
      · rename_i hx
        exact stop (fun y ys hy => by rw [hl2] at hy; cases hy; exact fun h => hx (beq_iff_eq.2 h))

/-- the world after `call_out_time++` and the head decrement of the visited slot -/
def decHead (w : World) : World :=
  let tm := slotOf (w.cot + 1)
  let w := { w with cot := w.cot + 1 }
  match w.slots tm with
  | [] => w
  | h :: rest => setSlot w tm ({ h with delta := h.delta - 1 } :: rest)

/-- one `map` for all slots, the `if` inside: the users need no case split on the slot -/
theorem decHead_cum (w : World) (s : Nat) :
    cum 0 ((decHead w).slots s) =
      (cum 0 (w.slots s)).map (fun p => (p.1 - (if s = slotOf (w.cot + 1) then 1 else 0), p.2)) := by
  unfold decHead
  simp only []
  cases hl : w.slots (slotOf (w.cot + 1)) with
  | nil =>
    simp only []
    split
    · rename_i hs; rw [hs, hl]; rfl
    · simp
  | cons h rest =>
    simp only [setSlot_slots]
    split
    · rename_i hs; rw [cum_dec_head, hs, hl]
    · simp

/-- `decHead` touches the slot lists and `call_out_time` only -/
theorem decHead_fields (w : World) : ∃ sl, decHead w = { w with slots := sl, cot := w.cot + 1 } := by
  unfold decHead
  simp only []
  split
  · exact ⟨_, rfl⟩
  · exact ⟨_, rfl⟩

theorem decHead_cot (w : World) : (decHead w).cot = w.cot + 1 := by
  obtain ⟨sl, e⟩ := decHead_fields w; rw [e]
theorem decHead_now (w : World) : (decHead w).now = w.now := by
  obtain ⟨sl, e⟩ := decHead_fields w; rw [e]
theorem decHead_unique (w : World) : (decHead w).unique = w.unique := by
  obtain ⟨sl, e⟩ := decHead_fields w; rw [e]

/-- `call_out_time++; --call_list[tm]->delta` keeps the invariant: in the visited slot every rotation count
    drops by one and denotes the same second as before, the other slots are untouched -/
theorem decHead_inv {w : World} (h : WheelInv w) (hq : Quiet w) (hlt : w.cot < w.now) : WheelInv (decHead w) := by
  refine ⟨by rw [decHead_cot, decHead_now]; omega, by rw [decHead_now]; exact h.now_pos, ?_, ?_, ?_⟩
  · intro h0; rw [decHead_cot] at h0; omega
  · intro s
    rw [decHead_cum]
    exact pairwise_before_map_sub (h.sorted s) _
  · intro s p hp
    rw [decHead_cum] at hp
    obtain ⟨q, hq1, rfl⟩ := List.mem_map.1 hp
    have e := h.ent s q hq1
    have hgt := (dueOf_gt_iff s w.cot q.1).2 (hq s q hq1)
    -- the visited slot counts one visit less from the new `call_out_time`, the others as many as before
    have hdue : dueOf s (w.cot + 1) (q.1 - if s = slotOf (w.cot + 1) then 1 else 0) = dueOf s w.cot q.1 := by
      split
      · rename_i hs; rw [hs, dueOf_succ_cur]
      · rename_i hs; rw [Int.sub_zero, dueOf_succ_other s w.cot q.1 e.slot hs]
    refine ⟨e.slot, ?_, ?_, e.handle, e.serialPos, by rw [decHead_unique]; exact e.serial⟩
    · rw [decHead_cot]; exact e.due.trans hdue.symm
    · rw [decHead_cot, e.due]; omega

theorem sweepSecond_eq (sc : Scripts) (w : World) :
    sweepSecond sc w =
      match (decHead w).slots (slotOf (w.cot + 1)) with
      | [] => decHead w
      | h :: _ => if h.delta == 0 then visit sc (slotOf (w.cot + 1)) (((decHead w).slots (slotOf (w.cot + 1))).length) (decHead w)
                  else decHead w := by
  unfold sweepSecond decHead
  simp only [tie_sweepOrder.1, tie_sweepOrder.2, if_true, tie_sweepSlot, tie_headDue, tie_headDec]
  cases hl : w.slots (slotOf (w.cot + 1)) with
  | nil => simp [hl]
  | cons h rest => simp [setSlot]

/-- `sweepSecond_eq` as a case analysis: either the head of the visited slot is not due after the decrement and
    nothing else happens, or the do/while runs with the length of the list as fuel -/
theorem sweepSecond_cases {P : World → Prop} (sc : Scripts) (w : World)
    (hdec : (∀ x xs, (decHead w).slots (slotOf (w.cot + 1)) = x :: xs → x.delta ≠ 0) → P (decHead w))
    (hvis : ∀ cop rest, (decHead w).slots (slotOf (w.cot + 1)) = cop :: rest → cop.delta = 0 →
      P (visit sc (slotOf (w.cot + 1)) (cop :: rest).length (decHead w))) : P (sweepSecond sc w) := by
  rw [sweepSecond_eq]
  cases hl : (decHead w).slots (slotOf (w.cot + 1)) with
  | nil => exact hdec (fun x xs hx => by rw [hl] at hx; cases hx)
  | cons x xs =>
    simp only []
    split
    · rename_i hx; exact hvis x xs hl (beq_iff_eq.1 hx)
    · rename_i hx; exact hdec (fun y ys hy => by rw [hl] at hy; cases hy; exact fun h => hx (beq_iff_eq.2 h))

/-- one second of `call_out()`: invariant kept, nothing due is left over, the clocks move as in the C code -/
theorem sweepSecond_ok (sc : Scripts) {w : World} (h : WheelInv w) (hq : Quiet w) (hlt : w.cot < w.now) :
    WheelInv (sweepSecond sc w) ∧ Quiet (sweepSecond sc w) ∧ (sweepSecond sc w).cot = w.cot + 1 ∧
      (sweepSecond sc w).now = w.now ∧ w.unique ≤ (sweepSecond sc w).unique := by
  have hd := decHead_inv h hq hlt
  have hc := decHead_cot w
  refine sweepSecond_cases (P := fun v => WheelInv v ∧ Quiet v ∧ v.cot = w.cot + 1 ∧ v.now = w.now ∧ w.unique ≤ v.unique)
    sc w (fun hne => ?_) (fun x xs hl hx => ?_)
  · exact ⟨hd, quiet_of_head hd (by rw [hc]; exact hne), hc, decHead_now w, Nat.le_of_eq (decHead_unique w).symm⟩
  · have hfuel : zc (cum 0 ((decHead w).slots (slotOf (w.cot + 1)))) ≤ (x :: xs).length := by
      rw [← hl, ← cum_length 0]; exact List.countP_le_length
    obtain ⟨v1, v2⟩ := visit_ok sc (slotOf (w.cot + 1)) (x :: xs).length (decHead w) hd (by rw [hc]; omega)
      (by rw [hc]) ⟨x, xs, hl, hx⟩ hfuel
    refine ⟨v1.inv, v2, ?_, ?_, ?_⟩
    · rw [v1.cot (by rw [hc]; omega), hc]
    · rw [v1.now, decHead_now]
    · have := v1.uniq; rw [decHead_unique] at this; exact this

/-- **the fuel of the `while (call_out_time < current_time)` loop is sufficient and the loop ends with
    `call_out_time = current_time`** -/
theorem sweepLoop_ok (sc : Scripts) : ∀ (fuel : Nat) (w : World), WheelInv w → Quiet w → w.cot ≠ 0 →
    w.now - w.cot ≤ fuel →
    WheelInv (sweepLoop sc fuel w) ∧ Quiet (sweepLoop sc fuel w) ∧ (sweepLoop sc fuel w).cot = w.now ∧
      (sweepLoop sc fuel w).now = w.now ∧ w.unique ≤ (sweepLoop sc fuel w).unique := by
  intro fuel
  induction fuel with
  | zero =>
    intro w h hq _ hf
    have := h.cot_le
    exact ⟨h, hq, by show w.cot = w.now; omega, rfl, Nat.le_refl _⟩
  | succ fuel ih =>
    intro w h hq h0 hf
    unfold sweepLoop
    rw [tie_sweepCond]
    by_cases hlt : w.cot < w.now
    · rw [if_pos (by simpa using hlt)]
      obtain ⟨hinv, hquiet, hcot, hnow, huniq⟩ := sweepSecond_ok sc h hq hlt
      have := ih (sweepSecond sc w) hinv hquiet (by rw [hcot]; exact Nat.succ_ne_zero _) (by rw [hcot, hnow]; omega)
      rw [hnow] at this
      obtain ⟨rinv, rquiet, rcot, rnow, runiq⟩ := this
      exact ⟨rinv, rquiet, rcot, rnow, Nat.le_trans huniq runiq⟩
    · rw [if_neg (by simpa using hlt)]
      have := h.cot_le
      exact ⟨h, hq, by omega, rfl, Nat.le_refl _⟩

/-- call_out() without the save/restore of command_giver around it -/
def sweepCore (sc : Scripts) (w : World) : World :=
  let w := if w.cot = 0 then { w with cot := w.now } else w
  sweepLoop sc (w.now - w.cot) w

theorem sweep_eq (sc : Scripts) (w : World) : sweep sc w = { sweepCore sc w with giver := w.giver } := rfl

/-- call_out() initialises `call_out_time` the way new_call_out does -/
theorem sweepCore_eq (sc : Scripts) (w : World) :
    sweepCore sc w = sweepLoop sc (w.now - coCot w) { w with cot := coCot w } := by
  unfold sweepCore coCot
  split <;> rfl

theorem sweepCore_ok (sc : Scripts) {w : World} (h : WheelInv w) (hq : Quiet w) :
    WheelInv (sweepCore sc w) ∧ Quiet (sweepCore sc w) ∧ (sweepCore sc w).cot = w.now ∧
      (sweepCore sc w).now = w.now ∧ w.unique ≤ (sweepCore sc w).unique := by
  rw [sweepCore_eq]
  exact sweepLoop_ok sc _ { w with cot := coCot w } h.initCot hq (coCot_ne h) (Nat.le_refl _)

/-- **after `call_out()`: `call_out_time = current_time`, so no pending entry is overdue** -/
theorem sweep_ok (sc : Scripts) {w : World} (h : WheelInv w) (hq : Quiet w) :
    WheelInv (sweep sc w) ∧ Quiet (sweep sc w) ∧ (sweep sc w).cot = w.now ∧ (sweep sc w).now = w.now ∧
      w.unique ≤ (sweep sc w).unique := by
  rw [sweep_eq]
  obtain ⟨hinv, rest⟩ := sweepCore_ok sc h hq
  exact ⟨hinv.congr rfl rfl rfl rfl, rest⟩

/-! ### induction along the sweep with the wheel invariant carried along

The shapes follow `visit_ok` and `sweepLoop_ok`, so that the simulation relation and the bookkeeping invariant go
through the loops by quoting their one-step lemma. -/

theorem visit_inv_ind {P : World → Prop} (sc : Scripts) (tm : Nat)
    (pop : ∀ w cop rest, WheelInv w → w.slots (slotOf w.cot) = cop :: rest → cop.delta = 0 → P w →
      P (fireOne sc (setSlot w (slotOf w.cot) rest) cop)) :
    ∀ (fuel : Nat) (w : World), WheelInv w → w.cot ≠ 0 → tm = slotOf w.cot →
      (∃ cop rest, w.slots tm = cop :: rest ∧ cop.delta = 0) → P w → P (visit sc tm fuel w) := by
  intro fuel w h h0 htm ⟨cop, rest, hl, hz⟩ hp
  refine (visit_ind (P := fun v => WheelInv v ∧ v.cot = w.cot ∧ P v) (D := (· = 0)) rfl sc tm ?_ fuel w
    ⟨h, rfl, hp⟩ (fun c r hl' => by rw [hl] at hl'; cases hl'; exact hz)).2.2
  intro v c r ⟨hv, hc, hpv⟩ hl' hz'
  have h12 := (pop_ok sc hv hl' hz').1
  have htm' : tm = slotOf v.cot := by rw [hc]; exact htm
  subst htm'
  exact ⟨h12.inv, (h12.cot (hc ▸ h0)).trans hc, pop v c r hv hl' hz' hpv⟩

theorem sweepLoop_inv_ind {P : World → Prop} (sc : Scripts)
    (step : ∀ w, WheelInv w → Quiet w → w.cot < w.now → P w → P (sweepSecond sc w)) :
    ∀ (fuel : Nat) (w : World), WheelInv w → Quiet w → P w → P (sweepLoop sc fuel w) := by
  intro fuel w h hq hp
  refine (sweepLoop_ind (P := fun v => WheelInv v ∧ Quiet v ∧ P v) sc ?_ fuel w ⟨h, hq, hp⟩).2.2
  intro v ⟨hv, hqv, hpv⟩ hlt
  obtain ⟨hinv, hquiet, _⟩ := sweepSecond_ok sc hv hqv hlt
  exact ⟨hinv, hquiet, step v hv hqv hlt hpv⟩

/-- the wheel at rest, between two top-level commands: the invariant, and nothing is due -/
def Rest (w : World) : Prop := WheelInv w ∧ Quiet w

theorem init_rest : Rest World.init := by
  refine ⟨⟨by decide, by decide, fun _ _ => rfl, ?_, ?_⟩, ?_⟩
  · intro s; simp [World.init]
  · intro s p hp; simp [World.init] at hp
  · intro s p hp; simp [World.init] at hp

theorem Rest.inv {w : World} (h : Rest w) : WheelInv w := h.1
theorem Rest.quiet {w : World} (h : Rest w) : Quiet w := h.2

theorem Rest.congr {w w' : World} (h : Rest w) (hs : w'.slots = w.slots) (hc : w'.cot = w.cot)
    (hn : w'.now = w.now) (hu : w'.unique = w.unique) : Rest w' :=
  ⟨h.inv.congr hs hc hn hu, by intro s; rw [hs]; exact h.quiet s⟩

theorem Rest.emit {w : World} (h : Rest w) (ev : Ev) : Rest (emit w ev) := h.congr rfl rfl rfl rfl

theorem applyOp_rest {w : World} (h : Rest w) (self : Nat) (op : Op) : Rest (applyOp w self op) := by
  unfold applyOp
  split
  · exact h.emit _
  · have := runOps_ok h.inv self [op]
    have hr : Rest (runOps w self [op]).1 := ⟨this.inv, this.quiet h.quiet⟩
    simp only []
    split
    · exact hr.emit _
    · exact hr

theorem stepCmd_rest (sc : Scripts) {w : World} (h : Rest w) (c : Cmd) : Rest (stepCmd sc w c) := by
  cases c with
  | adv dt => exact ⟨h.inv.mono rfl rfl (Nat.le_add_right _ _) (Nat.le_refl _), h.quiet⟩
  | sweep =>
    have h1 := h.emit (.tickbegin (vnow w))
    obtain ⟨hinv, hquiet, _⟩ := sweep_ok sc h1.inv h1.quiet
    exact Rest.emit ⟨hinv, hquiet⟩ _
  | setScript self =>
    show Rest (if isDead w self then emit w (.setScriptDestructed self) else w)
    split
    · exact h.emit _
    · exact h
  | op self op => exact applyOp_rest h self op
  | gop g self op =>
    have h1 : Rest { w with giver := liveGiver w (some g) } := h.congr rfl rfl rfl rfl
    exact (applyOp_rest h1 self op).congr rfl rfl rfl rfl
  | setUnique n =>
    -- the hook only raises `unique`: every serial stays below it
    show Rest (if n > w.unique then { w with unique := n } else w)
    split
    · rename_i hn
      exact ⟨h.inv.mono rfl rfl (Nat.le_refl _) (Nat.le_of_lt hn), h.quiet⟩
    · exact h

/-- **`WheelInv` (and `Quiet`) hold after every history** -/
theorem runCmds_rest (sc : Scripts) {w : World} (h : Rest w) (cs : List Cmd) : Rest (runCmds sc w cs) :=
  runCmds_ind (P := Rest) sc (fun _ c h => stepCmd_rest sc h c) cs w h

end NV.C10
