/-
C10 — the bookkeeping clause of the oracle (`usageStep`: print_call_out_usage, `num_call`, the free list) holds on
every history of the model.  Invariant `UInv`: `num_call` is a whole number of chunks, covers the structures in use
(`wheelSize + busy`), and is less than one chunk above the largest number the oracle has ever counted in use.
The simulation relation (LemmasSimRun.lean) is available at every intermediate state and gives the link between
the wheel and the oracle's pending list.
-/
import NV.C10.LemmasSimRun

namespace NV.C10

theorem sum_range_le {f g : Nat → Nat} (h : ∀ i, f i ≤ g i) (n : Nat) :
    ((List.range n).map f).sum ≤ ((List.range n).map g).sum := by
  induction n with
  | zero => exact Nat.le_refl _
  | succ n ih =>
    simp only [List.range_succ, List.map_append, List.sum_append_nat, List.map_cons, List.map_nil, List.sum_cons,
      List.sum_nil]
    have := h n; omega

theorem sum_range_update (f : Nat → Nat) (s a n : Nat) (h : s < n) :
    ((List.range n).map (fun i => if i = s then a else f i)).sum + f s = ((List.range n).map f).sum + a := by
  induction n with
  | zero => omega
  | succ n ih =>
    simp only [List.range_succ, List.map_append, List.sum_append_nat, List.map_cons, List.map_nil, List.sum_cons,
      List.sum_nil]
    by_cases hs : n = s
    · -- below `s` nothing is updated
      have : (List.range n).map (fun i => if i = s then a else f i) = (List.range n).map f :=
        List.map_congr_left (fun i hi => if_neg (by have := List.mem_range.1 hi; omega))
      rw [this, if_pos hs, hs]; omega
    · have := ih (by omega)
      rw [if_neg hs]; omega

theorem wheelSize_congr {w w' : World} (h : w'.slots = w.slots) : wheelSize w' = wheelSize w := by
  unfold wheelSize; rw [h]

theorem wheelSize_setSlot (w : World) (s : Nat) (l : List Entry) (hs : s < N) :
    wheelSize (setSlot w s l) + (w.slots s).length = wheelSize w + l.length := by
  have := sum_range_update (fun i => (w.slots i).length) s l.length N hs
  have hf : (fun i => ((setSlot w s l).slots i).length) = (fun i => if i = s then l.length else (w.slots i).length) := by
    funext i
    show (if i = s then l else w.slots i).length = _
    split <;> rfl
  unfold wheelSize
  rw [hf]; exact this

/-- where only entries are deleted the wheel does not grow -/
theorem wheelSize_le_of_sub {w w' : World} (h : ∀ s, (cum 0 (w'.slots s)).Sublist (cum 0 (w.slots s))) :
    wheelSize w' ≤ wheelSize w :=
  sum_range_le (fun s => by have := (h s).length_le; rwa [cum_length, cum_length] at this) N

theorem wheelSize_eq (w : World) : wheelSize w = (wheelList w).length := by
  unfold wheelSize wheelList
  rw [List.length_flatMap]
  congr 1
  apply List.map_congr_left
  intro s _
  rw [List.length_map, cum_length]

/-- the wheel never holds more than the oracle lists as pending -/
theorem wheelSize_le_pend {tick : Bool} {w : World} (hw : WheelInv w) (hs : Sim tick w) :
    wheelSize w ≤ (jstate w.out).pend.length := by
  rw [wheelSize_eq, ← List.length_map (f := toPend)]
  apply List.Nodup.length_le_of_subset
  · exact wheelList_nodup hw
  · intro p hp
    obtain ⟨c, hc, rfl⟩ := List.mem_map.1 hp
    exact hs.wheelPend c ((mem_wheelList hw c).1 hc)

/-- everything the oracle lists as pending is in the wheel, except entries of destructed owners whose time has come -/
theorem lo_le_wheelSize {tick : Bool} {w : World} (hw : WheelInv w) (hs : Sim tick w) :
    ((jstate w.out).pend.filter (fun e => !maybeDropped (jstate w.out) (vnow w) e)).length ≤ wheelSize w := by
  rw [wheelSize_eq, ← List.length_map (f := toPend)]
  apply List.Nodup.length_le_of_subset
  · exact hs.pend_nodup.filter _
  · intro p hp
    obtain ⟨hp1, hp2⟩ := List.mem_filter.1 hp
    rcases hs.pendWheel p hp1 with ⟨c, hc1, hc2⟩ | hx
    · exact List.mem_map.2 ⟨c, (mem_wheelList hw c).2 hc1, hc2⟩
    · exfalso
      have hd : maybeDropped (jstate w.out) (vnow w) p = true := by
        unfold maybeDropped
        rw [isDeadJ_eq hs]
        have h1 : isDead w p.owner = true := hx.1
        have h2 := hx.2
        have h3 := hw.cot_le
        have h4 : p.due ≤ vnow w := by simp only [vnow]; omega
        simp [h1, h4]
      rw [hd] at hp2; cases hp2

theorem insertDelta_length (l : List Entry) (d : Int) (c : Call) : (insertDelta l d c).length = l.length + 1 := by
  have := congrArg List.length (cum_insertDelta 0 l d c)
  rwa [cum_length, insC_length, cum_length] at this

theorem newCallOut_size (w : World) (o f : Nat) (tag : String) (delay : Int) (fp : Bool) :
    wheelSize (newCallOut w o f tag delay fp).1 = wheelSize w + 1 ∧
      (newCallOut w o f tag delay fp).1.numCall = allocCall w ∧ (newCallOut w o f tag delay fp).1.busy = w.busy := by
  rw [newCallOut_fst]
  refine ⟨?_, rfl, rfl⟩
  have := wheelSize_setSlot { w with cot := coCot w, unique := w.unique + 1, numCall := allocCall w } (coSlot w delay)
    (insertDelta (w.slots (coSlot w delay)) (coRot w delay) (coCall w o f tag delay fp)) (slotOf_lt _)
  rw [insertDelta_length] at this
  have h2 : wheelSize { w with cot := coCot w, unique := w.unique + 1, numCall := allocCall w } = wheelSize w := rfl
  have h3 : ({ w with cot := coCot w, unique := w.unique + 1, numCall := allocCall w } : World).slots (coSlot w delay) =
      w.slots (coSlot w delay) := rfl
  rw [h2, h3] at this
  omega

theorem decHead_size (w : World) : wheelSize (decHead w) = wheelSize w := by
  unfold wheelSize
  congr 1
  apply List.map_congr_left
  intro s _
  have := congrArg List.length (decHead_cum w s)
  rwa [cum_length, List.length_map, cum_length] at this

def ustate (out : List Ev) : UState := out.foldr (fun e u => usageStep u e) {}

@[simp] theorem ustate_cons (e : Ev) (out : List Ev) : ustate (e :: out) = usageStep (ustate out) e := rfl

def tickN (j : JState) : Nat := if j.inTick then 1 else 0

theorem usageStep_j (u : UState) (ev : Ev) : (usageStep u ev).j = judgeStep u.j ev := by
  cases ev <;> rfl

theorem usageStep_hwm (u : UState) (ev : Ev) :
    (usageStep u ev).hwm = max u.hwm ((judgeStep u.j ev).pend.length + tickN (judgeStep u.j ev)) := by
  cases ev <;> rfl

/-- every event but a `usage` line -/
def notUsage : Ev → Prop
  | .usage .. => False
  | _ => True

theorem usageStep_ubad_other (u : UState) (ev : Ev) (h : notUsage ev) : (usageStep u ev).ubad = u.ubad := by
  cases ev <;> first | rfl | exact h.elim

theorem usageStep_usage_ok (u : UState) (t : Int) (n len : Nat)
    (h1 : (u.j.pend.filter (fun e => !maybeDropped u.j t e)).length ≤ len) (h2 : len ≤ u.j.pend.length)
    (h3 : n % Gen.C10.chunkSize = 0) (h4 : len + tickN u.j ≤ n)
    (h5 : n < max u.hwm (u.j.pend.length + tickN u.j) + Gen.C10.chunkSize) :
    (usageStep u (.usage t n len)).ubad = u.ubad := by
  show (if _ then (if _ then u.ubad else _) else _) = u.ubad
  rw [if_pos ⟨h3, h4, h5⟩, if_pos ⟨h1, h2⟩]

theorem ustate_j (out : List Ev) : (ustate out).j = jstate out := by
  induction out with
  | nil => rfl
  | cons e out ih => rw [ustate_cons, usageStep_j, ih]; rfl

theorem judgeUsage_events (w : World) : judgeUsage (events w) = (ustate w.out).ubad.reverse := by
  unfold judgeUsage events ustate
  rw [List.foldl_reverse]

theorem ustate_hwm_cons (e : Ev) (out : List Ev) :
    (ustate (e :: out)).hwm = max (ustate out).hwm ((jstate (e :: out)).pend.length + tickN (jstate (e :: out))) := by
  rw [ustate_cons, usageStep_hwm, ustate_j]; rfl

structure UInv (b : Nat) (w : World) : Prop where
  ubad : (ustate w.out).ubad = []
  mod : w.numCall % Gen.C10.chunkSize = 0
  inUse : wheelSize w + w.busy ≤ w.numCall
  hwm : w.numCall < (ustate w.out).hwm + Gen.C10.chunkSize
  busy : w.busy = b

theorem UInv.congr {b : Nat} {w w' : World} (hu : UInv b w) (hout : w'.out = w.out) (hn : w'.numCall = w.numCall)
    (hb : w'.busy = w.busy) (hsz : wheelSize w' ≤ wheelSize w) : UInv b w' := by
  refine ⟨by rw [hout]; exact hu.ubad, by rw [hn]; exact hu.mod, ?_, by rw [hout, hn]; exact hu.hwm,
    hb.trans hu.busy⟩
  rw [hn, hb]; have := hu.inUse; omega

/-- one more event: what is left to show of the world `w'` that prints it -/
theorem UInv.emit {b : Nat} {w w' : World} {ev : Ev} (hu : UInv b w) (hout : w'.out = w.out)
    (hbad : (usageStep (ustate w.out) ev).ubad = (ustate w.out).ubad)
    (hmod : w'.numCall % Gen.C10.chunkSize = 0) (hb : w'.busy = w.busy)
    (huse : wheelSize w' + w.busy ≤ w'.numCall)
    (hhwm : w'.numCall < max (ustate w.out).hwm
      ((jstate (ev :: w.out)).pend.length + tickN (jstate (ev :: w.out))) + Gen.C10.chunkSize) :
    UInv b (NV.C10.emit w' ev) := by
  refine ⟨?_, hmod, ?_, ?_, hb.trans hu.busy⟩
  · show (ustate (ev :: w'.out)).ubad = []
    rw [hout, ustate_cons, hbad]; exact hu.ubad
  · show wheelSize w' + w'.busy ≤ w'.numCall
    rw [hb]; exact huse
  · show w'.numCall < (ustate (ev :: w'.out)).hwm + Gen.C10.chunkSize
    rw [hout, ustate_hwm_cons]; exact hhwm

/-- an event that allocates nothing and is no `usage` line -/
theorem UInv.emit_other {b : Nat} {w w' : World} {ev : Ev} (hu : UInv b w) (hout : w'.out = w.out)
    (hn : w'.numCall = w.numCall) (hb : w'.busy = w.busy) (hsz : wheelSize w' ≤ wheelSize w)
    (hev : notUsage ev) : UInv b (NV.C10.emit w' ev) := by
  refine hu.emit hout (usageStep_ubad_other _ _ hev) (by rw [hn]; exact hu.mod) hb ?_ ?_ <;> rw [hn]
  · exact Nat.le_trans (Nat.add_le_add_right hsz _) hu.inUse
  · exact Nat.lt_of_lt_of_le hu.hwm (Nat.add_le_add_right (Nat.le_max_left _ _) _)

/-- the same for a world that prints the event and changes nothing else -/
theorem UInv.note {b : Nat} {w : World} (hu : UInv b w) (ev : Ev) (hev : notUsage ev) : UInv b (NV.C10.emit w ev) :=
  hu.emit_other rfl rfl rfl (Nat.le_refl _) hev

/-- the arithmetic of `allocCall`: a chunk is added exactly when no structure is free, so afterwards there is room
    for one more, and `num_call` stays within a chunk of the largest number `hwm'` ever in use, which by now
    counts the new structure (`pend + busy ≤ hwm'`, `size + 1 ≤ pend`) -/
theorem alloc_room {size busy num hwm hwm' chunk pend : Nat} (hchunk : 0 < chunk) (hinUse : size + busy ≤ num)
    (hnum : num < hwm + chunk) (hgrow : hwm ≤ hwm') (hcounted : pend + busy ≤ hwm') (hnew : size + 1 ≤ pend) :
    size + 1 + busy ≤ (if size + busy = num then num + chunk else num) ∧
      (if size + busy = num then num + chunk else num) < hwm' + chunk := by
  split <;> omega

/-- new_call_out: one structure more is in use.  That the oracle has counted the new entry (`hle`) comes from the
    simulation relation after the step. -/
theorem UInv.emit_co {b : Nat} {w w' : World} {ev : Ev} (hu : UInv b w) (hout : w'.out = w.out)
    (hev : notUsage ev) (hb : w'.busy = w.busy) (hn : w'.numCall = allocCall w)
    (hsz : wheelSize w' = wheelSize w + 1) (hle : wheelSize w' ≤ (jstate (ev :: w.out)).pend.length)
    (htk : tickN (jstate (ev :: w.out)) = b) : UInv b (NV.C10.emit w' ev) := by
  obtain ⟨r1, r2⟩ := alloc_room tie_chunkPos hu.inUse hu.hwm (Nat.le_max_left _ _)
    (by rw [hu.busy, ← htk]; exact Nat.le_max_right (ustate w.out).hwm _) (by rw [← hsz]; exact hle)
  refine hu.emit hout (usageStep_ubad_other _ _ hev) ?_ hb (by rw [hn, hsz]; exact r1) (by rw [hn]; exact r2)
  rw [hn]
  unfold allocCall
  split
  · rw [Nat.add_mod_right]; exact hu.mod
  · exact hu.mod

theorem tickN_of_sim {tick : Bool} {w : World} (hs : Sim tick w) : tickN (jstate w.out) = if tick then 1 else 0 := by
  unfold tickN; rw [hs.inTick]

/-! ### along the skeleton (the shapes follow LemmasSimRun.lean) -/

theorem stepOp_u {tick : Bool} {w : World} (hw : WheelInv w) (hs : Sim tick w)
    (hu : UInv (if tick then 1 else 0) w) (self : Nat) (op : Op) (halive : isDead w self = false) :
    UInv (if tick then 1 else 0) (stepOp w self op).w := by
  cases op with
  | co fn delay tag fp =>
    have hs' := stepOp_sim hw hs self (.co fn delay tag fp) halive
    have hle := wheelSize_le_pend (stepOp_ok hw self (.co fn delay tag fp)).inv hs'
    have htk := tickN_of_sim hs'
    rw [stepOp_co halive] at hle htk ⊢
    obtain ⟨z1, z2, z3⟩ := newCallOut_size w self fn tag delay fp
    have hout := newCallOut_out w self fn tag delay fp
    simp only [emit, hout] at hle htk
    exact hu.emit_co hout trivial z3 z2 z1 hle htk
  | rmh tag =>
    obtain ⟨sl, e⟩ := removeByHandle_slots_only w (lookupHandle w self tag)
    exact hu.emit_other (by rw [e]) (by rw [e]) (by rw [e]) (wheelSize_le_of_sub (removeByHandle_sub w _)) trivial
  | rmn fn =>
    obtain ⟨sl, e⟩ := removeByName_slots_only w self fn
    exact hu.emit_other (by rw [e]) (by rw [e]) (by rw [e]) (wheelSize_le_of_sub (removeByName_sub w self fn)) trivial
  | rmall =>
    exact hu.emit_other (w' := removeAll w self) rfl rfl rfl (wheelSize_le_of_sub (removeAll_sub w self)) trivial
  | dest t =>
    rw [stepOp_dest]
    exact hu.emit_other (w := w) rfl rfl rfl (Nat.le_of_eq (wheelSize_congr rfl)) trivial
  | reload =>
    exact hu.emit_other (w' := reloadObj w self) rfl rfl rfl (wheelSize_le_of_sub (removeAll_sub w self)) trivial
  | usage =>
    -- asked for twice: by the oracle's clause for the line, and by `UInv` after it
    have hhwm (k : Nat) : w.numCall < max (ustate w.out).hwm k + Gen.C10.chunkSize :=
      Nat.lt_of_lt_of_le hu.hwm (Nat.add_le_add_right (Nat.le_max_left _ k) _)
    refine hu.emit (w' := w) rfl ?_ hu.mod rfl hu.inUse (hhwm _)
    refine usageStep_usage_ok _ _ _ _ ?_ ?_ hu.mod ?_ ?_ <;> rw [ustate_j]
    · exact lo_le_wheelSize hw hs
    · exact wheelSize_le_pend hw hs
    · rw [tickN_of_sim hs, ← hu.busy]; exact hu.inUse
    · exact hhwm _
  | _ => exact hu.note _ trivial

/-- `b` is a variable so that `fireOne_u` gets `UInv 1` of the callback, the shape `UInv.release` takes, and not
    `UInv (if true then 1 else 0)` -/
theorem runOps_u {tick : Bool} {b : Nat} (hb : b = if tick then 1 else 0) {w : World} (hw : WheelInv w)
    (hs : Sim tick w) (hu : UInv b w) (self : Nat) (ops : List Op) (halive : isDead w self = false) :
    UInv b (runOps w self ops).1 := by
  subst hb
  exact (runOps_inv_ind (P := fun v => Sim tick v ∧ UInv _ v)
    (fun _ op hv ha ⟨a, b⟩ => ⟨stepOp_sim hv a self op ha, stepOp_u hv a b self op ha⟩) ops w hw halive ⟨hs, hu⟩).2

/-- the structure of the callback that has returned goes back to the free list -/
theorem UInv.release {w : World} (hu : UInv 1 w) : UInv 0 { w with busy := 0 } := by
  refine ⟨hu.ubad, hu.mod, ?_, hu.hwm, rfl⟩
  -- rewritten first: left to the unifier, `wheelSize` would be unfolded into the sum over the slots
  have e : wheelSize { w with busy := 0 } = wheelSize w := wheelSize_congr rfl
  rw [e]
  exact Nat.le_trans (Nat.add_le_add_left (Nat.zero_le _) _) hu.inUse

theorem fireOne_u (sc : Scripts) {w : World} (hw : WheelInv w) (hs : Sim true w) (hu : UInv 0 w) {cop : Entry}
    {rest : List Entry} (hl : w.slots (slotOf w.cot) = cop :: rest) (hz : cop.delta = 0) :
    UInv 0 (fireOne sc (setSlot w (slotOf w.cot) rest) cop) := by
  have hsz : wheelSize (setSlot w (slotOf w.cot) rest) + 1 = wheelSize w := by
    have := wheelSize_setSlot w (slotOf w.cot) rest (slotOf_lt _)
    rw [hl, List.length_cons] at this
    omega
  have hdrop : UInv 0 (setSlot w (slotOf w.cot) rest) :=
    hu.congr rfl rfl rfl (by rw [← hsz]; exact Nat.le_succ _)
  rw [fireOne_eq_spec]
  unfold fireOneSpec
  have hdw : isDead (setSlot w (slotOf w.cot) rest) cop.c.owner = isDead w cop.c.owner := rfl
  by_cases hdead : isDead w cop.c.owner = true
  · rw [if_pos (hdw.trans hdead)]
    split
    · exact hdrop.note _ trivial
    · exact hdrop
  · have hdead' : isDead w cop.c.owner = false := by simpa using hdead
    rw [if_neg (by rw [hdw, hdead']; exact Bool.false_ne_true)]
    obtain ⟨hs1, hw1⟩ := fire_emit_sim hw hs hl hz hdead'
    -- the structure taken out of the list is in use until the callback returns
    have hb : UInv 1 { setSlot w (slotOf w.cot) rest with giver := liveGiver w cop.c.giver, busy := 1 } := by
      refine ⟨hu.ubad, hu.mod, ?_, hu.hwm, rfl⟩
      show wheelSize (setSlot w (slotOf w.cot) rest) + 1 ≤ w.numCall
      rw [hsz]; exact Nat.le_trans (Nat.le_add_right _ _) hu.inUse
    have hu1 : UInv 1 (emit { setSlot w (slotOf w.cot) rest with giver := liveGiver w cop.c.giver, busy := 1 }
        (.fire (vnow w) cop.c.owner cop.c.fn cop.c.tag (liveGiver w cop.c.giver))) :=
      hb.note _ trivial
    exact (runOps_u (tick := true) (b := 1) rfl hw1 hs1 hu1 cop.c.owner (sc cop.c.owner cop.c.tag) hdead').release

theorem visit_u (sc : Scripts) (tm : Nat) : ∀ (fuel : Nat) (w : World), WheelInv w → w.cot ≠ 0 →
    tm = slotOf w.cot → (∃ cop rest, w.slots tm = cop :: rest ∧ cop.delta = 0) → Sim true w → UInv 0 w →
    UInv 0 (visit sc tm fuel w) :=
  fun fuel w h h0 htm hd hs hu =>
    (visit_inv_ind (P := fun v => Sim true v ∧ UInv 0 v) sc tm
      (fun _ _ _ hv hl hz ⟨a, b⟩ => ⟨fireOne_sim sc hv a hl hz, fireOne_u sc hv a b hl hz⟩)
      fuel w h h0 htm hd ⟨hs, hu⟩).2

theorem decHead_u {w : World} (hu : UInv 0 w) : UInv 0 (decHead w) := by
  obtain ⟨sl, e⟩ := decHead_fields w
  exact hu.congr (by rw [e]) (by rw [e]) (by rw [e]) (Nat.le_of_eq (decHead_size w))

theorem sweepSecond_u (sc : Scripts) {w : World} (h : WheelInv w) (hq : Quiet w) (hlt : w.cot < w.now)
    (hs : Sim true w) (hu : UInv 0 w) : UInv 0 (sweepSecond sc w) := by
  have hc := decHead_cot w
  exact sweepSecond_cases sc w (fun _ => decHead_u hu) (fun x xs hl hx =>
    visit_u sc _ _ (decHead w) (decHead_inv h hq hlt) (by rw [hc]; omega) (by rw [hc]) ⟨x, xs, hl, hx⟩
      (decHead_sim hs) (decHead_u hu))

theorem sweepLoop_u (sc : Scripts) : ∀ (fuel : Nat) (w : World), WheelInv w → Quiet w → w.cot ≠ 0 →
    Sim true w → UInv 0 w → UInv 0 (sweepLoop sc fuel w) :=
  fun fuel w h hq _ hs hu =>
    (sweepLoop_inv_ind (P := fun v => Sim true v ∧ UInv 0 v) sc
      (fun _ hv hqv hlt ⟨a, b⟩ => ⟨sweepSecond_sim sc hv hqv hlt a, sweepSecond_u sc hv hqv hlt a b⟩)
      fuel w h hq ⟨hs, hu⟩).2

theorem sweepCore_u (sc : Scripts) {w : World} (h : WheelInv w) (hq : Quiet w) (hs : Sim true w) (hu : UInv 0 w) :
    UInv 0 (sweepCore sc w) := by
  rw [sweepCore_eq]
  exact sweepLoop_u sc _ _ h.initCot hq (coCot_ne h) hs.initCot (hu.congr rfl rfl rfl (Nat.le_refl _))

theorem sweep_u (sc : Scripts) {w : World} (h : WheelInv w) (hq : Quiet w) (hs : Sim true w) (hu : UInv 0 w) :
    UInv 0 (sweep sc w) := by
  rw [sweep_eq]
  exact (sweepCore_u sc h hq hs hu).congr rfl rfl rfl (Nat.le_refl _)

theorem applyOp_u {w : World} (hr : Rest w) (hs : Sim false w) (hu : UInv 0 w) (self : Nat) (op : Op) :
    UInv 0 (applyOp w self op) := by
  unfold applyOp
  split
  · exact hu.note _ trivial
  · rename_i hd
    have := runOps_u (tick := false) (b := 0) (by simp) hr.inv hs hu self [op] (by simpa using hd)
    simp only []
    split
    · exact this.note _ trivial
    · exact this

theorem UInv.setGiver {b : Nat} {w : World} (hu : UInv b w) (g : Option Nat) : UInv b { w with giver := g } :=
  hu.congr rfl rfl rfl (Nat.le_refl _)

theorem stepCmd_u (sc : Scripts) {w : World} (hr : Rest w) (hs : Sim false w) (hu : UInv 0 w) (c : Cmd) :
    UInv 0 (stepCmd sc w c) := by
  cases c with
  | adv dt => exact hu.congr rfl rfl rfl (Nat.le_refl _)
  | sweep =>
    have hr1 := hr.emit (.tickbegin (vnow w))
    have u1 : UInv 0 (emit w (.tickbegin (vnow w))) := hu.note _ trivial
    exact (sweep_u sc hr1.inv hr1.quiet hs.tickbegin u1).note _ trivial
  | setScript self =>
    show UInv 0 (if isDead w self then emit w (.setScriptDestructed self) else w)
    split
    · exact hu.note _ trivial
    · exact hu
  | op self op => exact applyOp_u hr hs hu self op
  | gop g self op =>
    have hr1 : Rest { w with giver := liveGiver w (some g) } := hr.congr rfl rfl rfl rfl
    exact (applyOp_u hr1 (hs.setGiver _) (hu.setGiver _) self op).setGiver _
  | setUnique n =>
    show UInv 0 (if n > w.unique then { w with unique := n } else w)
    split
    · exact hu.congr rfl rfl rfl (Nat.le_refl _)
    · exact hu

theorem init_u : UInv 0 World.init :=
  ⟨rfl, by decide, by decide, by decide, rfl⟩

theorem runCmds_u (sc : Scripts) {w : World} (hr : Rest w) (hs : Sim false w) (hu : UInv 0 w) (cs : List Cmd) :
    UInv 0 (runCmds sc w cs) :=
  (runCmds_ind (P := fun v => Rest v ∧ Sim false v ∧ UInv 0 v) sc
    (fun _ c ⟨a, b, u⟩ => ⟨stepCmd_rest sc a c, stepCmd_sim sc a b c, stepCmd_u sc a b u c⟩) cs w ⟨hr, hs, hu⟩).2.2

end NV.C10
