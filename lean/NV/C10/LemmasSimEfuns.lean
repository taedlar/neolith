/-
C10 — the simulation relation is kept by every efun: the oracle accepts the event the model prints, and its
pending list follows the wheel.  One `sim_*` theorem per efun.
-/
import NV.C10.LemmasSim

namespace NV.C10

theorem toPend_coCall (w : World) (o f : Nat) (tag : String) (delay : Int) (fp : Bool) :
    toPend (coCall w o f tag delay fp) =
      { owner := o, fn := f, tag := tag, due := vnow w + (if delay < 1 then 1 else delay),
        handle := ((coSlot w delay + N * (w.unique + 1) : Nat) : Int), fp := fp,
        giver := liveGiver w w.giver } := by
  unfold toPend coCall coDue coD vnow
  simp only [Pend.mk.injEq, true_and, and_true]
  omega

/-- the oracle's step on the `co` line of a live object that shows a new, non-zero handle -/
theorem judgeStep_co {j : JState} (t : Int) (o fn : Nat) (d : Int) (tag : String) {h : Int} (fp : Bool)
    (g : Option Nat) (hd : isDeadJ j o = false) (h0 : h ≠ 0) (hf : h ∉ j.allHandles) :
    judgeStep j (.co t o fn d tag h fp g) =
      { j with pend := { owner := o, fn := fn, tag := tag, due := t + (if d < 1 then 1 else d), handle := h,
                         fp := fp, giver := g } :: j.pend,
               handles := ((o, tag), h) :: j.handles, allHandles := h :: j.allHandles } := by
  have h0' : (h == 0) = false := by simpa using h0
  have hf' : j.allHandles.contains h = false := by simpa using hf
  unfold judgeStep
  simp only [hd, h0', hf', Bool.false_eq_true, if_false]

/-- a new call joins the wheel and the oracle's list; its handle lies in the range of the serial just used -/
theorem SimJ.add {tick : Bool} {w w' : World} {j : JState} (h : SimJ tick w j) {c : Call} {o : Nat} {tag : String}
    (hiw : ∀ c', InWheel w' c' ↔ (c' = c ∨ InWheel w c')) (hc : w.cot ≤ w'.cot) (hu : w'.unique = w.unique + 1)
    (hd : w'.dead = w.dead) (hm : w'.hmap = ((o, tag), c.handle) :: w.hmap)
    (hlo : N * (w.unique + 1) ≤ c.handle) (hhi : c.handle < N * (w.unique + 1) + N) :
    SimJ tick w' { j with pend := toPend c :: j.pend, handles := ((o, tag), (c.handle : Int)) :: j.handles,
                          allHandles := (c.handle : Int) :: j.allHandles } := by
  have hhi' : (c.handle : Int) < ((N * (w.unique + 1 + 1) : Nat) : Int) :=
    Int.ofNat_lt.2 (by rw [Nat.mul_succ]; exact hhi)
  have hold : ∀ x : Int, x < ((N * (w.unique + 1) : Nat) : Int) → x < ((N * (w.unique + 1 + 1) : Nat) : Int) :=
    fun x hx => Int.lt_of_lt_of_le hx (handleBound_mono (Nat.le_succ _))
  refine ⟨h.bad, by rw [hd]; exact h.dead, by rw [hm, List.map_cons, h.handles], h.inTick, ?_, ?_, ?_, ?_, ?_⟩
  · intro x hx
    rw [hu]
    rcases List.mem_cons.1 hx with rfl | hx
    · exact hhi'
    · exact hold x (h.allLt x hx)
  · intro p hp
    rw [hu]
    rcases List.mem_cons.1 hp with rfl | hp
    · exact hhi'
    · exact hold _ (h.pendLt p hp)
  · exact List.pairwise_cons.2 ⟨fun p hp => Int.lt_of_lt_of_le (h.pendLt p hp) (Int.ofNat_le.2 hlo), h.pendSorted⟩
  · intro c' hc'
    rcases (hiw c').1 hc' with rfl | hc'
    · exact List.mem_cons_self ..
    · exact List.mem_cons_of_mem _ (h.wheelPend c' hc')
  · intro p hp
    rcases List.mem_cons.1 hp with rfl | hp
    · exact Or.inl ⟨c, (hiw c).2 (Or.inl rfl), rfl⟩
    · rcases h.pendWheel p hp with ⟨c', hc1, hc2⟩ | hx
      · exact Or.inl ⟨c', (hiw c').2 (Or.inr hc1), hc2⟩
      · exact Or.inr ⟨by rw [hd]; exact hx.1, Int.le_trans hx.2 (Int.sub_le_sub_right (Int.ofNat_le.2 hc) _)⟩

theorem sim_co {tick : Bool} {w : World} {j : JState} (_hw : WheelInv w) (h : SimJ tick w j)
    (self fn : Nat) (delay : Int) (tag : String) (fp : Bool) (halive : isDead w self = false) :
    SimJ tick { (newCallOut w self fn tag delay fp).1 with
                hmap := ((self, tag), (newCallOut w self fn tag delay fp).2) :: (newCallOut w self fn tag delay fp).1.hmap }
      (judgeStep j (.co (vnow w) self fn delay tag ((newCallOut w self fn tag delay fp).2 : Int) fp (liveGiver w w.giver))) := by
  have hslot : coSlot w delay < N := slotOf_lt _
  have hpos : 0 < N * (w.unique + 1) := Nat.mul_pos N_pos (Nat.succ_pos _)
  have hlo : N * (w.unique + 1) ≤ (coCall w self fn tag delay fp).handle := Nat.le_add_left _ _
  have hhi : (coCall w self fn tag delay fp).handle < N * (w.unique + 1) + N := by
    rw [Nat.add_comm]; exact Nat.add_lt_add_right hslot _
  have key := inWheel_newCallOut (w := w) self fn tag delay fp
  rw [newCallOut_snd]
  rw [newCallOut_fst] at key ⊢
  rw [judgeStep_co _ _ _ _ _ _ _ ((isDeadJ_eq h self).trans halive) (by omega)
    (fun hmem => by have := h.allLt _ hmem; omega), ← toPend_coCall]
  exact h.add key (coCot_ge w) rfl rfl rfl hlo hhi

/-- no wheel call has handle `hd` when the slot `slotOf hd` has none -/
theorem no_wheel_handle {w : World} (hw : WheelInv w) {hd : Nat}
    (hnone : ∀ y ∈ cum 0 (w.slots (slotOf hd)), (y.2.handle == hd) = false) (c : Call) (hc : InWheel w c) :
    c.handle ≠ hd := by
  intro heq
  obtain ⟨D, hm⟩ := inWheel_handle_slot hw hc
  rw [heq] at hm
  have := hnone _ hm
  simp [heq] at this

/-- under the handle of a wheel call the oracle finds that call -/
theorem find?_handle {tick : Bool} {w : World} {j : JState} (h : SimJ tick w j) {c : Call} (hc : InWheel w c) :
    j.pend.find? (fun e => e.handle == (c.handle : Int)) = some (toPend c) := by
  have hmem := h.wheelPend c hc
  cases hf : j.pend.find? (fun e => e.handle == (c.handle : Int)) with
  | none => simpa [toPend] using List.find?_eq_none.1 hf _ hmem
  | some e =>
    have he : e.handle = (c.handle : Int) := by simpa using List.find?_some hf
    rw [hdesc_handle_inj h.pendSorted (List.mem_of_find?_eq_some hf) hmem he]

theorem sim_rmh {tick : Bool} {w : World} {j : JState} (hw : WheelInv w) (h : SimJ tick w j)
    (self : Nat) (tag : String) :
    SimJ tick (removeByHandle w (lookupHandle w self tag)).1
      (judgeStep j (.rmh (vnow w) self tag (removeByHandle w (lookupHandle w self tag)).2)) := by
  generalize hhd : lookupHandle w self tag = hd
  have hho : handleOf j self tag = (hd : Int) := by rw [handleOf_eq h, hhd]
  unfold removeByHandle
  simp only [tie_handleSlot]
  cases hr : removeFirst (fun c => c.handle == hd) (w.slots (slotOf hd)) 0 with
  | some r =>
    simp only []
    obtain ⟨x, A, B, e1, e2, e3, e4, _⟩ := removeFirst_split hr
    have hx : x ∈ cum 0 (w.slots (slotOf hd)) := by rw [e1]; simp
    have hxh : x.2.handle = hd := by simpa using e4
    have hxw : InWheel w x.2 := ⟨_, x.1, hx⟩
    obtain ⟨rest, hro⟩ : ∃ rest, removeOne (fun e => e.handle == (hd : Int)) j.pend = some (toPend x.2, rest) :=
      ⟨_, by rw [removeOne_eq, ← hxh, find?_handle h hxw]; rfl⟩
    have hval := efun_pend hw hx
    rw [e3] at hval
    have hj : judgeStep j (.rmh (vnow w) self tag (Gen.C10.efunResult (timeLeft w (slotOf hd) r.1))) =
        { j with pend := rest } := by
      unfold judgeStep
      simp only [hho, hro, hval, answerOk, beq_self_eq_true, Bool.true_or, if_true]
    rw [hj]
    exact SimJ.remove_pair hw h e1 e2 hro
  | none =>
    simp only []
    have hnw := no_wheel_handle hw (removeFirst_none hr)
    cases hro : removeOne (fun e => e.handle == (hd : Int)) j.pend with
    | none =>
      have hj : judgeStep j (.rmh (vnow w) self tag (-1)) = j := by
        unfold judgeStep
        simp only [hho, hro, beq_self_eq_true, if_true]
      rw [hj]; exact h
    | some er =>
      -- an entry of a destructed owner that the sweep has dropped: -1 is accepted, and it goes if -1 is its time left
      obtain ⟨P, Q, p1, _, p3, _⟩ := removeOne_some (e := er.1) (rest := er.2) hro
      have heh : er.1.handle = (hd : Int) := by simpa using p3
      have hne : ∀ c, InWheel w c → toPend c ≠ er.1 := fun c hc heq =>
        hnw c hc (by rw [← heq] at heh; exact Int.ofNat.inj heh)
      have hans := extra_answerOk hw h (by rw [p1]; simp) hne
      have hj : judgeStep j (.rmh (vnow w) self tag (-1)) =
          if (-1 : Int) == toCInt (er.1.due - vnow w) then { j with pend := er.2 } else j := by
        unfold judgeStep
        simp only [hho, hro, hans, if_true]
      rw [hj]
      split
      · exact SimJ.drop_extra h hro hne
      · exact h

theorem sim_fh {tick : Bool} {w : World} {j : JState} (hw : WheelInv w) (h : SimJ tick w j)
    (self : Nat) (tag : String) :
    SimJ tick w (judgeStep j (.fh (vnow w) self tag (findByHandle w (lookupHandle w self tag)))) := by
  generalize hhd : lookupHandle w self tag = hd
  have hho : handleOf j self tag = (hd : Int) := by rw [handleOf_eq h, hhd]
  unfold findByHandle
  simp only [tie_handleSlot]
  rw [findFirst_eq]
  -- the oracle does not change its state on a `find` line it accepts
  refine h.of_eq ?_
  cases hf : List.find? (fun x => x.2.handle == hd) (cum 0 (w.slots (slotOf hd))) with
  | some x =>
    have hx : x ∈ cum 0 (w.slots (slotOf hd)) := List.mem_of_find?_eq_some hf
    have hxh : x.2.handle = hd := by simpa using List.find?_some hf
    have hxw : InWheel w x.2 := ⟨_, x.1, hx⟩
    have hfo := find?_handle h hxw
    rw [hxh] at hfo
    unfold judgeStep
    simp only [Option.map_some, hho, hfo, efun_pend hw hx, answerOk, beq_self_eq_true, Bool.true_or,
      if_true]
  | none =>
    have hnw := no_wheel_handle hw (fun y hy => by simpa using List.find?_eq_none.1 hf y hy)
    cases hfo : List.find? (fun e => e.handle == (hd : Int)) j.pend with
    | none =>
      unfold judgeStep
      simp only [Option.map_none, hho, hfo, beq_self_eq_true, if_true]
    | some e =>
      have heh : e.handle = (hd : Int) := by simpa using List.find?_some hfo
      have hans := extra_answerOk hw h (List.mem_of_find?_eq_some hfo) (fun c hc heq =>
        hnw c hc (by rw [← heq] at heh; exact Int.ofNat.inj heh))
      unfold judgeStep
      simp only [Option.map_none, hho, hfo, hans, if_true]

theorem no_wheel_match {w : World} (hw : WheelInv w) {P : Call → Bool}
    (hnone : ∀ i, i < N → ∀ y ∈ cum 0 (w.slots i), P y.2 = false) (c : Call) (hc : InWheel w c) : P c = false := by
  obtain ⟨s, D, hm⟩ := hc
  exact hnone s (hw.ent s _ hm).slot _ hm

theorem byName_iff (o f : Nat) (c : Call) : byName o f c = true ↔ (c.fp = false ∧ c.owner = o ∧ c.fn = f) := by
  unfold byName
  simp only [tie_byNameCond, Bool.and_eq_true, Bool.not_eq_true', beq_iff_eq]
  exact and_assoc

theorem pendByName_iff (o f : Nat) (e : Pend) :
    (!e.fp && e.owner == o && e.fn == f) = true ↔ (e.fp = false ∧ e.owner = o ∧ e.fn = f) := by
  simp only [Bool.and_eq_true, Bool.not_eq_true', beq_iff_eq]
  exact and_assoc

theorem pendByName_toPend (o f : Nat) (c : Call) :
    (!(toPend c).fp && (toPend c).owner == o && (toPend c).fn == f) = byName o f c := rfl

/-- the oracle's candidates of that name are the wheel's: none in the wheel, none pending (the object lives, so the
    sweep has dropped none of its entries) -/
theorem cands_empty {tick : Bool} {w : World} {j : JState} (hw : WheelInv w) (h : SimJ tick w j) (self fn : Nat)
    (halive : isDead w self = false)
    (hnone : ∀ i, i < N → ∀ y ∈ cum 0 (w.slots i), byName self fn y.2 = false) :
    (j.pend.filter (fun e => !e.fp && e.owner == self && e.fn == fn)).isEmpty = true := by
  rw [List.isEmpty_iff]
  apply List.filter_eq_nil_iff.2
  intro p hp hq
  have hq' := (pendByName_iff self fn p).1 hq
  obtain ⟨c, hc1, hc2⟩ := pend_alive_inWheel h hp (by rw [hq'.2.1]; exact halive)
  have := no_wheel_match (P := byName self fn) hw hnone c hc1
  rw [← hc2, pendByName_toPend, this] at hq
  cases hq

theorem cands_nonempty {j : JState} {self fn : Nat} {p : Pend} (hp : p ∈ j.pend)
    (hq : (!p.fp && p.owner == self && p.fn == fn) = true) :
    (j.pend.filter (fun e => !e.fp && e.owner == self && e.fn == fn)).isEmpty = false := by
  cases hc : (j.pend.filter (fun e => !e.fp && e.owner == self && e.fn == fn)).isEmpty with
  | false => rfl
  | true =>
    rw [List.isEmpty_iff] at hc
    exact absurd hq (List.filter_eq_nil_iff.1 hc _ hp)

theorem sim_rmn {tick : Bool} {w : World} {j : JState} (hw : WheelInv w) (h : SimJ tick w j)
    (self fn : Nat) (halive : isDead w self = false) :
    SimJ tick (removeByName w self fn).1 (judgeStep j (.rmn (vnow w) self fn (removeByName w self fn).2)) := by
  unfold removeByName
  cases hsc : scanFrom (fun i => removeFirst (byName self fn) (w.slots i) 0) N 0 with
  | none =>
    simp only []
    have hce := cands_empty hw h self fn halive (fun i hi =>
      removeFirst_none (scanFrom_none hsc i (Nat.zero_le _) (by omega)))
    have hj : judgeStep j (.rmn (vnow w) self fn (-1)) = j := by
      unfold judgeStep
      simp only [hce, if_true, beq_self_eq_true]
    rw [hj]; exact h
  | some ir =>
    obtain ⟨i, r⟩ := ir
    simp only []
    obtain ⟨x, A, B, e1, e2, e3, e4, e5⟩ := removeFirst_split (scanFrom_val hsc)
    have hx : x ∈ cum 0 (w.slots i) := by rw [e1]; simp
    have hmem := h.wheelPend _ ⟨_, x.1, hx⟩
    have hval := efun_pend hw hx
    rw [e3] at hval
    have hxP : (!(toPend x.2).fp && (toPend x.2).owner == self && (toPend x.2).fn == fn) = true := e4
    have hxQ : (fun e : Pend => !e.fp && e.owner == self && e.fn == fn &&
        toCInt (e.due - vnow w) == toCInt ((toPend x.2).due - vnow w)) (toPend x.2) = true := by
      simp only [hxP, beq_self_eq_true, Bool.and_self]
    -- the oracle takes the earliest entry of that name with that answer, the newest among equals: that is `x`
    have hmin := minDue_of_first h (q := fun e => !e.fp && e.owner == self && e.fn == fn &&
        toCInt (e.due - vnow w) == toCInt ((toPend x.2).due - vnow w)) ⟨_, x.1, hx⟩ hxQ
      (fun p hp hq => by
        simp only [Bool.and_eq_true, beq_iff_eq] at hq
        have := (pendByName_iff self fn p).1 (by simp only [Bool.and_eq_true, beq_iff_eq]; exact hq.1)
        exact pend_alive_inWheel h hp (by rw [this.2.1]; exact halive))
      (fun c hc1 hq => by
        simp only [Bool.and_eq_true, beq_iff_eq] at hq
        have hcP : byName self fn c = true := by
          rw [← pendByName_toPend]; simp only [Bool.and_eq_true, beq_iff_eq]; exact hq.1
        have hA : ∀ y ∈ A, y.2 ≠ c := fun y hy heq => by
          have := e5 y hy
          rw [heq, hcP] at this; cases this
        -- the same answer as a C int: the same slot
        have hmod : c.due % (N : Int) = x.2.due % (N : Int) :=
          emod_of_sub_emod (k := (T0 : Int)) (emod_of_sub_emod (k := vnow w) (toCInt_eq_mod hq.2))
        exact ⟨first_is_earliest hw e1 hc1 hmod hA, fun hdue => first_has_largest_handle hw e1 hc1 hdue hA⟩)
    obtain ⟨rest, hro⟩ := removeOne_self hmem
    have hj : judgeStep j (.rmn (vnow w) self fn (Gen.C10.efunResult (timeLeft w i r.1))) = { j with pend := rest } := by
      unfold judgeStep
      simp only [cands_nonempty hmem hxP, hval, hmin, hro, Bool.false_eq_true, if_false]
    rw [hj]
    exact SimJ.remove_pair hw h e1 e2 hro

theorem sim_fnm {tick : Bool} {w : World} {j : JState} (hw : WheelInv w) (h : SimJ tick w j)
    (self fn : Nat) (halive : isDead w self = false) :
    SimJ tick w (judgeStep j (.fnm (vnow w) self fn (findByName w self fn))) := by
  unfold findByName
  refine h.of_eq ?_
  cases hsc : scanFrom (fun i => findFirst (byName self fn) (w.slots i) 0) N 0 with
  | none =>
    have hce := cands_empty hw h self fn halive (fun i hi y hy => by
      have := scanFrom_none hsc i (Nat.zero_le _) (by omega)
      simp only [findFirst_eq, Option.map_eq_none_iff] at this
      simpa using List.find?_eq_none.1 this y hy)
    unfold judgeStep
    simp only [hce, if_true, beq_self_eq_true]
  | some ir =>
    obtain ⟨i, d⟩ := ir
    have hff := scanFrom_val hsc
    simp only [findFirst_eq] at hff
    cases hf : List.find? (fun x => byName self fn x.2) (cum 0 (w.slots i)) with
    | none => rw [hf] at hff; cases hff
    | some x =>
      rw [hf] at hff
      simp only [Option.map_some, Option.some.injEq] at hff
      have hx : x ∈ cum 0 (w.slots i) := List.mem_of_find?_eq_some hf
      have hmem := h.wheelPend _ ⟨_, x.1, hx⟩
      have hval := efun_pend hw hx
      rw [hff] at hval
      have hxP : (!(toPend x.2).fp && (toPend x.2).owner == self && (toPend x.2).fn == fn) = true :=
        List.find?_some (p := fun x : Int × Call => byName self fn x.2) hf
      have hany : (j.pend.filter (fun e => !e.fp && e.owner == self && e.fn == fn)).any
          (fun e => answerOk j e (vnow w) (toCInt ((toPend x.2).due - vnow w))) = true :=
        List.any_eq_true.2 ⟨_, List.mem_filter.2 ⟨hmem, hxP⟩, by simp [answerOk]⟩
      unfold judgeStep
      simp only [cands_nonempty hmem hxP, hval, hany, Bool.false_eq_true, if_false, if_true]

theorem sim_rmall {tick : Bool} {w : World} {j : JState} (h : SimJ tick w j) (self : Nat) :
    SimJ tick (removeAll w self) (judgeStep j (.rmall (vnow w) self)) := by
  show SimJ tick (removeAll w self) { j with pend := j.pend.filter (fun e => e.owner != self && !isDeadJ j e.owner) }
  -- the oracle keeps what remove_all_call_out keeps
  have hkeep : ∀ c : Call, ((toPend c).owner != self && !isDeadJ j (toPend c).owner) =
      !(c.owner == self || w.dead.contains c.owner) := by
    intro c
    simp only [isDeadJ, h.dead, toPend, bne, Bool.not_or]
  refine h.shrink List.filter_sublist rfl rfl rfl rfl ?_ ?_
  · intro c hc
    obtain ⟨hc1, hc2⟩ := (inWheel_removeAll self c).1 hc
    exact ⟨hc1, List.mem_filter.2 ⟨h.wheelPend c hc1, by rw [hkeep, hc2]; rfl⟩⟩
  · intro c hc hcr
    have := (List.mem_filter.1 hcr).2
    rw [hkeep] at this
    exact (inWheel_removeAll self c).2 ⟨hc, by simpa using this⟩

theorem sim_reload {tick : Bool} {w : World} {j : JState} (h : SimJ tick w j) (self : Nat) :
    SimJ tick (reloadObj w self) (judgeStep j (.reload (vnow w) self)) := by
  have R := sim_rmall h self
  have hj : judgeStep j (.reload (vnow w) self) =
      { judgeStep j (.rmall (vnow w) self) with handles := j.handles.filter (fun p => p.1.1 != self) } := rfl
  rw [hj]
  refine ⟨R.bad, R.dead, ?_, R.inTick, R.allLt, R.pendLt, R.pendSorted,
    fun c hc => R.wheelPend c (hc.congr rfl), ?_⟩
  · show j.handles.filter (fun p => p.1.1 != self) =
      (w.hmap.filter (fun p => p.1.1 != self)).map (fun p => (p.1, (p.2 : Int)))
    rw [h.handles, List.filter_map]
    rfl
  · intro p hp
    rcases R.pendWheel p hp with ⟨c, hc1, hc2⟩ | hx
    · exact Or.inl ⟨c, hc1.congr rfl, hc2⟩
    · exact Or.inr hx

theorem sim_dest {tick : Bool} {w : World} {j : JState} (h : SimJ tick w j) (self t : Nat) :
    SimJ tick (if isDead w t then w else { w with dead := t :: w.dead }) (judgeStep j (.dest (vnow w) self t)) := by
  have hj : judgeStep j (.dest (vnow w) self t) = if isDeadJ j t then j else { j with dead := t :: j.dead } := rfl
  rw [hj, isDeadJ_eq h]
  split
  · exact h
  · refine ⟨h.bad, by show t :: j.dead = t :: w.dead; rw [h.dead], h.handles, h.inTick, h.allLt, h.pendLt,
      h.pendSorted, fun c hc => h.wheelPend c (hc.congr rfl), ?_⟩
    intro p hp
    rcases h.pendWheel p hp with ⟨c, hc1, hc2⟩ | hx
    · exact Or.inl ⟨c, hc1.congr rfl, hc2⟩
    · right
      refine ⟨?_, hx.2⟩
      show (t :: w.dead).contains p.owner = true
      have := hx.1
      simp only [List.contains_cons, this, Bool.or_true]

/-! ### call_out_info(): the rows reported by the model are a permutation of the oracle's pending set of live
objects with their time left -/

theorem insertSorted_perm (x : Nat × Nat × Int) (l : List (Nat × Nat × Int)) : (insertSorted x l).Perm (x :: l) := by
  induction l with
  | nil => exact List.Perm.refl _
  | cons y ys ih =>
    unfold insertSorted
    split
    · exact ((List.Perm.cons y ih).trans (List.Perm.swap x y ys))
    · exact List.Perm.refl _

/-- the LPC-side sort is a permutation -/
theorem sortRows_perm (l : List (Nat × Nat × Int)) : (sortRows l).Perm l := by
  unfold sortRows
  induction l with
  | nil => exact List.Perm.refl _
  | cons x xs ih =>
    simp only [List.foldr_cons]
    exact (insertSorted_perm x _).trans (List.Perm.cons x ih)

/-- the inner loop of get_all_call_outs, on prefix sums -/
theorem infoRowsList_eq (w : World) (j : Nat) (l : List Entry) (acc : Int) :
    infoRowsList w j l acc =
      ((cum acc l).filter (fun p => !(!p.2.fp && w.dead.contains p.2.owner))).map
        (fun p => (p.2.owner, fnCode p.2.fp p.2.fn, timeLeft w j p.1)) := by
  induction l generalizing acc with
  | nil => rfl
  | cons x xs ih =>
    unfold infoRowsList
    simp only [cum_cons, List.filter_cons, tie_infoTimeLeft, tie_infoSkip]
    by_cases hd : (!x.c.fp && w.dead.contains x.c.owner) = true
    · simp only [hd, if_true, Bool.not_true, Bool.false_eq_true, if_false]
      exact ih _
    · have hd' : (!x.c.fp && w.dead.contains x.c.owner) = false := by simpa using hd
      simp only [hd', Bool.false_eq_true, if_false, Bool.not_false, if_true, List.map_cons, ih]

/-- multiset comparison done by the oracle succeeds on permutations -/
theorem info_check_of_perm {want rows : List (Nat × Nat × Int)} (h : want.Perm rows) :
    ((want.filter (fun x => decide (want.count x > rows.count x))).isEmpty &&
      (rows.filter (fun x => decide (rows.count x > want.count x))).isEmpty) = true := by
  have h1 : want.filter (fun x => decide (want.count x > rows.count x)) = [] := by
    apply List.filter_eq_nil_iff.2
    intro a _
    have := h.count_eq a
    simp only [decide_eq_true_eq]; omega
  have h2 : rows.filter (fun x => decide (rows.count x > want.count x)) = [] := by
    apply List.filter_eq_nil_iff.2
    intro a _
    have := h.count_eq a
    simp only [decide_eq_true_eq]; omega
  rw [h1, h2]; rfl

/-- all calls pending in the wheel, slot by slot -/
def wheelList (w : World) : List Call := (List.range N).flatMap (fun s => (cum 0 (w.slots s)).map (·.2))

theorem mem_wheelList {w : World} (hw : WheelInv w) (c : Call) : c ∈ wheelList w ↔ InWheel w c := by
  unfold wheelList InWheel
  simp only [List.mem_flatMap, List.mem_range, List.mem_map]
  constructor
  · rintro ⟨s, _, p, hp, rfl⟩; exact ⟨s, p.1, hp⟩
  · rintro ⟨s, D, hm⟩; exact ⟨s, (hw.ent s _ hm).slot, (D, c), hm, rfl⟩

/-- the oracle's view tells the calls of the wheel apart -/
theorem wheelList_nodup {w : World} (hw : WheelInv w) : ((wheelList w).map toPend).Nodup := by
  refine List.pairwise_map.2 ?_
  have hne : (wheelList w).Pairwise (fun a b => a ≠ b) := by
    unfold wheelList
    rw [List.pairwise_flatMap]
    constructor
    · intro s _
      rw [List.pairwise_map]
      exact slot_calls_ne hw s
    · refine List.Pairwise.imp ?_ List.pairwise_lt_range
      intro s₁ s₂ hlt x hx y hy heq
      obtain ⟨p, hp, rfl⟩ := List.mem_map.1 hx
      obtain ⟨q, hq, hq2⟩ := List.mem_map.1 hy
      have := (wheel_unique hw (c := p.2) (D₁ := p.1) (D₂ := q.1) hp (by rw [heq, ← hq2]; exact hq)).1
      omega
  refine List.Pairwise.imp_of_mem ?_ hne
  intro a b ha hb hab heq
  exact hab (toPend_inj hw ((mem_wheelList hw a).1 ha) ((mem_wheelList hw b).1 hb) heq)

theorem infoRows_eq {w : World} (hw : WheelInv w) :
    (infoRows w).filter (fun r => !w.dead.contains r.1) =
      (((wheelList w).map toPend).filter (fun e => !w.dead.contains e.owner)).map
        (fun e => (e.owner, fnCode e.fp e.fn, e.due - vnow w)) := by
  unfold infoRows wheelList
  rw [List.filter_flatMap, List.map_flatMap, List.filter_flatMap, List.map_flatMap]
  congr 1
  funext s
  rw [infoRowsList_eq, List.filter_map, List.filter_filter]
  simp only [List.filter_map, List.map_map]
  -- a string call_out of a destructed owner is skipped by the C loop, a function pointer's row by the LPC side
  refine (congrArg _ (List.filter_congr fun p _ => ?_)).trans (List.map_congr_left fun p hp => ?_)
  · simp only [Function.comp, toPend]
    cases w.dead.contains p.2.owner <;> simp
  · simp only [Function.comp]
    rw [timeLeft_pend hw (List.mem_filter.1 hp).1]
    rfl

/-- **call_out_info() reports exactly the pending call_outs of live objects with their time left** -/
theorem info_perm {tick : Bool} {w : World} {j : JState} (hw : WheelInv w) (hs : SimJ tick w j) :
    ((j.pend.filter (fun e => !isDeadJ j e.owner)).map (fun e => (e.owner, fnCode e.fp e.fn, e.due - vnow w))).Perm
      (sortRows ((infoRows w).filter (fun r => !w.dead.contains r.1))) := by
  refine List.Perm.trans ?_ (sortRows_perm _).symm
  rw [infoRows_eq hw]
  apply List.Perm.map
  have hd : (fun e : Pend => !isDeadJ j e.owner) = (fun e : Pend => !w.dead.contains e.owner) := by
    funext e; unfold isDeadJ; rw [hs.dead]
  rw [hd]
  apply (List.perm_ext_iff_of_nodup ?_ ?_).2
  · intro p
    simp only [List.mem_filter, List.mem_map]
    constructor
    · rintro ⟨hp, halive⟩
      rcases hs.pendWheel p hp with ⟨c, hc1, hc2⟩ | hx
      · exact ⟨⟨c, (mem_wheelList hw c).2 hc1, hc2⟩, halive⟩
      · rw [hx.1] at halive; cases halive
    · rintro ⟨⟨c, hc1, rfl⟩, halive⟩
      exact ⟨hs.wheelPend c ((mem_wheelList hw c).1 hc1), halive⟩
  · exact hs.pend_nodup.filter _
  · exact (wheelList_nodup hw).filter _

theorem sim_info {tick : Bool} {w : World} {j : JState} (hw : WheelInv w) (h : SimJ tick w j) :
    SimJ tick w (judgeStep j (.info (vnow w) (sortRows ((infoRows w).filter (fun r => !w.dead.contains r.1))))) := by
  have hp := info_check_of_perm (info_perm hw h)
  have hj : judgeStep j (.info (vnow w) (sortRows ((infoRows w).filter (fun r => !w.dead.contains r.1)))) = j := by
    unfold judgeStep
    simp only []
    rw [if_pos hp]
  rw [hj]; exact h

end NV.C10
