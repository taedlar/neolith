/-
C10 — the control skeleton of the model (`runOps`, the do/while `visit`, the per-second loop `sweepLoop`) as
induction principles: whatever one step keeps, the loop keeps.  Every invariant of the development (the wheel
invariant, the simulation relation, the bookkeeping, the handle bound) goes through the loops by these.
-/
import NV.C10.LemmasTie

namespace NV.C10

/-- A script run.  `P` is what holds while the object executing the script lives, `Q` what survives the
    operation after which the script ends (an error, or the object destructing itself). -/
theorem runOps_ind {P Q : World → Prop} {self : Nat} (hPQ : ∀ w, P w → Q w)
    (step : ∀ w op, P w → Q (stepOp w self op).w ∧ ((stepOp w self op).stop = false → P (stepOp w self op).w)) :
    ∀ (ops : List Op) (w : World), P w → Q (runOps w self ops).1
  | [], w, h => hPQ w h
  | op :: rest, w, h => by
    unfold runOps
    simp only []
    split
    · exact (step w op h).1
    · split
      · exact (step w op h).1
      · rename_i hstop
        exact runOps_ind hPQ step rest _ ((step w op h).2 (by simpa using hstop))

/-- The do/while of call_out().  `D` is what is known of a head's delta when it is popped: the loop itself
    only guarantees `delta = 0` from the second head on, the first is popped untested. -/
theorem visit_ind {P : World → Prop} {D : Int → Prop} (hD : D 0) (sc : Scripts) (tm : Nat)
    (pop : ∀ w cop rest, P w → w.slots tm = cop :: rest → D cop.delta → P (fireOne sc (setSlot w tm rest) cop)) :
    ∀ (fuel : Nat) (w : World), P w → (∀ cop rest, w.slots tm = cop :: rest → D cop.delta) →
      P (visit sc tm fuel w)
  | 0, _, h, _ => h
  | fuel + 1, w, h, hd => by
    unfold visit
    cases hl : w.slots tm with
    | nil => exact h
    | cons cop rest =>
      have h2 := pop w cop rest h hl (hd cop rest hl)
      simp only []
      generalize fireOne sc (setSlot w tm rest) cop = w2 at h2 ⊢
      cases hl2 : w2.slots tm with
      | nil => exact h2
      | cons x xs =>
        simp only [tie_nextDue]
        split
        · rename_i hx
          refine visit_ind hD sc tm pop fuel w2 h2 ?_
          intro y ys hy
          rw [hl2] at hy
          cases hy
          rw [beq_iff_eq.1 hx]; exact hD
        · exact h2

/-- `while (call_out_time < current_time)` -/
theorem sweepLoop_ind {P : World → Prop} (sc : Scripts)
    (step : ∀ w, P w → w.cot < w.now → P (sweepSecond sc w)) :
    ∀ (fuel : Nat) (w : World), P w → P (sweepLoop sc fuel w)
  | 0, _, h => h
  | fuel + 1, w, h => by
    unfold sweepLoop
    rw [tie_sweepCond]
    split
    · rename_i hlt
      exact sweepLoop_ind sc step fuel _ (step w h (by simpa using hlt))
    · exact h

/-! ### `for (i = 0; i < CALLOUT_CYCLE_SIZE; i++)` -/

theorem scanFrom_eq {α} (f : Nat → Option α) (n i : Nat) :
    scanFrom f n i = (List.range' i n).findSome? (fun j => (f j).map (Prod.mk j)) := by
  induction n generalizing i with
  | zero => rfl
  | succ n ih =>
    unfold scanFrom
    rw [List.range'_succ, List.findSome?_cons]
    cases f i with
    | some a => rfl
    | none => exact ih (i + 1)

theorem scanFrom_some {α} {f : Nat → Option α} {n i j : Nat} {a : α} (h : scanFrom f n i = some (j, a)) :
    i ≤ j ∧ j < i + n ∧ f j = some a := by
  rw [scanFrom_eq] at h
  obtain ⟨k, hk, hf⟩ := List.exists_of_findSome?_eq_some h
  obtain ⟨b, hb, he⟩ := Option.map_eq_some_iff.1 hf
  cases he
  have := List.mem_range'_1.1 hk
  exact ⟨this.1, this.2, hb⟩

/-- what the scan returns is what `f` gives at the slot it stopped at -/
theorem scanFrom_val {α} {f : Nat → Option α} {n i j : Nat} {a : α} (h : scanFrom f n i = some (j, a)) : f j = some a :=
  (scanFrom_some h).2.2

theorem scanFrom_none {α} {f : Nat → Option α} {n i : Nat} (h : scanFrom f n i = none) :
    ∀ j, i ≤ j → j < i + n → f j = none := by
  rw [scanFrom_eq, List.findSome?_eq_none_iff] at h
  exact fun j h1 h2 => Option.map_eq_none_iff.1 (h j (List.mem_range'_1.2 ⟨h1, h2⟩))

theorem runCmds_ind {P : World → Prop} (sc : Scripts) (step : ∀ w c, P w → P (stepCmd sc w c)) :
    ∀ (cs : List Cmd) (w : World), P w → P (runCmds sc w cs)
  | [], _, h => h
  | c :: cs, w, h => runCmds_ind sc step cs _ (step w c h)

end NV.C10
