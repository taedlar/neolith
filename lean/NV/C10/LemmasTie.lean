/-
C10 — the tie obligations: the expressions that props/c10_extract.py recovers from lib/efuns/call_out.c
(NV/Gen/C10.lean, regenerated on every check) are the formulas the theorems are about.  If somebody changes a
formula, the statement order of new_call_out()/call_out(), or one of the two copies of time_left in the C source,
the corresponding `tie_*` lemma no longer proves and the check reports a broken obligation.
-/
import NV.C10.LemmasArith

namespace NV.C10

open NV.Gen.C10

/-- `if (delay < 1) delay = 1` -/
theorem tie_clampDelay (d : Int) : clampDelay d = if d < 1 then 1 else d := rfl

/-- `if (!call_out_time) call_out_time = current_time` -/
theorem tie_initCot (cot now : Nat) : (initCot cot now).toNat = if cot = 0 then now else cot := by
  unfold initCot
  by_cases h : cot = 0
  · simp [h]
  · simp [h]

/-- the C conversion to `int` keeps a value that is in range -/
theorem trunc32_id {x : Int} (h0 : -2147483648 ≤ x) (h1 : x < 2147483648) : trunc32 x = x := by
  unfold trunc32
  omega

/-- `x & (CALLOUT_CYCLE_SIZE - 1)` is the model's `slotOf` -/
theorem cAnd_mask (a : Int) : cAnd a ((calloutCycleSize : Int) - 1) = (slotOf a.toNat : Int) := by
  unfold cAnd slotOf
  have : ((calloutCycleSize : Int) - 1).toNat = N - 1 := by decide
  rw [this]

theorem mask_expr (a : Int) : trunc32 (cAnd a ((calloutCycleSize : Int) - 1)) = (slotOf a.toNat : Int) := by
  rw [cAnd_mask]
  have := slotOf_lt a.toNat
  have hN : N ≤ 2147483648 := by decide
  exact trunc32_id (by omega) (by omega)

/-- `tm = (delay + current_time) & (CALLOUT_CYCLE_SIZE - 1)` -/
theorem tie_slotExpr (d : Int) (now : Nat) : (slotExpr d now).toNat = slotOf (d + (now : Int)).toNat := by
  unfold slotExpr
  rw [mask_expr]
  exact Int.toNat_natCast _

/-- `delay = 1 + (delay + current_time - call_out_time - 1) / CALLOUT_CYCLE_SIZE` -/
theorem tie_rotExpr (d : Int) (now cot : Nat) :
    rotExpr d now cot = 1 + Int.tdiv (d + (now : Int) - (cot : Int) - 1) (N : Int) := rfl

/-- `tm += CALLOUT_CYCLE_SIZE * ++unique` -/
theorem tie_handleExpr (tm u : Nat) : (handleExpr tm u).toNat = tm + N * (u + 1) := by
  unfold handleExpr
  wheel_omega

/-- time_left: `current_slot = call_out_time & (CALLOUT_CYCLE_SIZE - 1)` -/
theorem tie_curSlot (cot : Nat) : curSlotExpr cot = (slotOf cot : Int) := by
  unfold curSlotExpr
  rw [mask_expr, Int.toNat_natCast]

/-- both branches of time_left -/
theorem tie_timeLeft (w : World) (slot : Nat) (delay : Int) :
    timeLeft w slot delay =
      if slot > slotOf w.cot then
        (delay - 1) * (N : Int) + ((slot : Int) - (slotOf w.cot : Int)) + (w.cot : Int) - (w.now : Int)
      else delay * (N : Int) + ((slot : Int) - (slotOf w.cot : Int)) + (w.cot : Int) - (w.now : Int) := by
  unfold timeLeft timeLeftCond timeLeftThen timeLeftElse
  simp only [tie_curSlot]
  by_cases h : slot > slotOf w.cot
  · have : ((slot : Int) > (slotOf w.cot : Int)) := by omega
    simp only [h, this, decide_true, if_true]
  · have : ¬ ((slot : Int) > (slotOf w.cot : Int)) := by omega
    simp only [h, this, decide_false, if_false, Bool.false_eq_true]

/-- the copy of time_left inside get_all_call_outs is the same function -/
theorem tie_infoTimeLeft (w : World) (j : Nat) (delay : Int) : infoTimeLeft w j delay = timeLeft w j delay := rfl

/-- call_out(): `call_out_time++` comes before `tm = ...` and before the callbacks of the second (fix C10) -/
theorem tie_sweepOrder : sweepIncBeforeSlot = true ∧ sweepIncBeforeVisit = true := ⟨rfl, rfl⟩

/-- call_out(): `tm = call_out_time & (CALLOUT_CYCLE_SIZE - 1)` -/
theorem tie_sweepSlot (cot : Nat) : (sweepSlotExpr cot).toNat = slotOf cot := by
  unfold sweepSlotExpr
  rw [mask_expr, Int.toNat_natCast, Int.toNat_natCast]

/-- call_out(): `while (call_out_time < current_time)` -/
theorem tie_sweepCond (cot now : Nat) : sweepCond cot now = decide (cot < now) := by
  unfold sweepCond
  by_cases h : cot < now
  · have : (cot : Int) < now := by omega
    simp [h, this]
  · have : ¬ (cot : Int) < now := by omega
    simp [h, this]

/-- new_call_out: the ordered insert stops at the first entry with `(*copp)->delta >= delay` -/
theorem tie_insertBefore (a b : Int) : insertBefore a b = decide (a ≥ b) := rfl

/-- remove/find_call_out_by_handle: `handle & (CALLOUT_CYCLE_SIZE - 1)` -/
theorem tie_handleSlot (h : Nat) : handleSlot h = slotOf h := by
  unfold handleSlot handleSlotExpr
  rw [cAnd_mask, Int.toNat_natCast, Int.toNat_natCast]

/-- the efun helpers return `(int) time_left (...)` -/
theorem tie_efunResult (x : Int) : efunResult x = trunc32 x := rfl

/-- call_out(): `--call_list[tm]->delta == 0` (argument = the value before the decrement) -/
theorem tie_headDue (d : Int) : headDue d = (d - 1 == 0) := by
  unfold headDue
  by_cases h : d - 1 = 0 <;> simp [h]

/-- call_out(): `while (call_list[tm] && call_list[tm]->delta == 0)` -/
theorem tie_nextDue (d : Int) : nextDue d = (d == 0) := by
  unfold nextDue
  by_cases h : d = 0 <;> simp [h]

/-- **time_left is exact**: for the entry at cumulative rotation `D` of slot `s`,
    `time_left(s, D) = dueOf s cot D - now` -/
theorem timeLeft_eq (w : World) (s : Nat) (D : Int) (hs : s < N) :
    timeLeft w s D = dueOf s w.cot D - w.now := by
  rw [tie_timeLeft]
  unfold dueOf
  -- with `cur = cot % N`, `(s - cot - 1) % N` is `s - cur - 1` if `s > cur` and `s - cur - 1 + N` otherwise: the
  -- two branches of time_left
  split <;> wheel_omega

/-- `cop->next->delta += cop->delta` in remove_call_out, remove_call_out_by_handle, remove_all_call_out (the extractor
    checks that the three copies agree) -/
theorem tie_unlinkDelta (a b : Int) : Gen.C10.unlinkDelta a b = a + b := rfl

/-- `(*copp)->delta -= delay` in the insert branch of new_call_out -/
theorem tie_insertSplit (delta delay : Int) : Gen.C10.insertSplit delta delay = delta - delay := rfl

/-- `delay -= (*copp)->delta` when new_call_out walks past an entry -/
theorem tie_insertWalk (delay delta : Int) : Gen.C10.insertWalk delay delta = delay - delta := rfl

/-- `--call_list[tm]->delta` in call_out() -/
theorem tie_headDec (delta : Int) : Gen.C10.headDec delta = delta - 1 := rfl

/-- the head test of call_out() is a test of the decremented value: `headDue d` iff `headDec d = 0` -/
theorem tie_headDue_dec (delta : Int) : Gen.C10.headDue delta = decide (Gen.C10.headDec delta = 0) := rfl

/-- call_out(): `cop->ob && (cop->ob->flags & O_DESTRUCTED)` -/
theorem tie_dropCond (a b : Bool) : Gen.C10.dropCond a b = (a && b) := rfl

/-- get_all_call_outs: `if (cop->ob && (cop->ob->flags & O_DESTRUCTED)) continue;` -/
theorem tie_infoSkip (a b : Bool) : Gen.C10.infoSkip a b = (a && b) := rfl

/-- get_all_call_outs: the counting loop and the row loop agree (the array has exactly one element per row) -/
theorem tie_infoCount (a b : Bool) : Gen.C10.infoCount a b = !Gen.C10.infoSkip a b := by
  cases a <;> cases b <;> rfl

/-- remove_call_out / find_call_out: `cop->ob == ob && strcmp (cop->function.s, fun) == 0` (both copies agree) -/
theorem tie_byNameCond (a b : Bool) : Gen.C10.byNameCond a b = (a && b) := rfl

/-- remove_all_call_out: with `ob` = 0 exactly for function pointers, the nested test is "owner is obj or destructed",
    for string call_outs through `ob`, for function pointers through `function.f->hdr.owner` -/
theorem tie_removeAllCond (fp a d : Bool) :
    Gen.C10.removeAllCond (!fp) (!fp && a) (!fp && d) (fp && a) (fp && d) = (a || d) := by
  cases fp <;> cases a <;> cases d <;> rfl

/-- obligation on the regenerated `CHUNK_SIZE`: a chunk has at least one structure -/
theorem tie_chunkPos : 0 < Gen.C10.chunkSize := by decide

/-! ### the C-shaped functions are the ones the theorems are about -/

theorem fireOne_eq_spec (sc : Scripts) (w : World) (cop : Entry) : fireOne sc w cop = fireOneSpec sc w cop := by
  unfold fireOne fireOneSpec
  rw [tie_dropCond]
  cases cop.c.fp <;> cases isDead w cop.c.owner <;> rfl

theorem removeAll_eq_spec (w : World) (owner : Nat) : removeAll w owner = removeAllSpec w owner := by
  unfold removeAll removeAllSpec
  simp only [tie_removeAllCond]

end NV.C10
