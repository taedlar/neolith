/-
C10 — the simulation relation `SimJ` between the model's world and the state of the specification oracle, used by
the proof of the top theorem `model_satisfies_spec`; which calls are in the wheel (`InWheel`) after each list
surgery; the tie-breaking facts: a call sits at one place only, and the first entry of a slot list satisfying
a predicate is the earliest such entry of its slot and, among those of its second, the one with the largest handle;
how the relation follows changes of the world and of the oracle's pending list; and what the oracle knows of the
world through it (dead objects, handles, which entry `minDue` picks, the answers of find/remove).
-/
import NV.C10.LemmasJudge
import NV.C10.LemmasSweep

namespace NV.C10

/-- the oracle's view of a pending call_out -/
def toPend (c : Call) : Pend :=
  { owner := c.owner, fn := c.fn, tag := c.tag, due := c.due - (T0 : Int), handle := (c.handle : Int), fp := c.fp,
    giver := c.giver }

/-- `c` is pending somewhere in the wheel -/
def InWheel (w : World) (c : Call) : Prop := ∃ s D, (D, c) ∈ cum 0 (w.slots s)

/-- oracle state after the events `out` (newest first) -/
def jstate (out : List Ev) : JState := out.foldr (fun e s => judgeStep s e) {}

@[simp] theorem jstate_cons (e : Ev) (out : List Ev) : jstate (e :: out) = judgeStep (jstate out) e := rfl

theorem judgeCore_events (w : World) : judgeCore (events w) = (jstate w.out).bad.reverse := by
  unfold judgeCore events jstate
  rw [List.foldl_reverse]

/-- the simulation relation: the oracle, having read the events so far, has raised no violation and its
    pending set is the content of the wheel, plus possibly entries of destructed owners that the sweep has
    already dropped (`tick` = inside `call_out()`) -/
structure SimJ (tick : Bool) (w : World) (j : JState) : Prop where
  bad : j.bad = []
  dead : j.dead = w.dead
  handles : j.handles = w.hmap.map (fun p => (p.1, (p.2 : Int)))
  inTick : j.inTick = tick
  allLt : ∀ h ∈ j.allHandles, h < ((N * (w.unique + 1) : Nat) : Int)
  pendLt : ∀ p ∈ j.pend, p.handle < ((N * (w.unique + 1) : Nat) : Int)
  pendSorted : j.pend.Pairwise (fun a b => b.handle < a.handle)
  wheelPend : ∀ c, InWheel w c → toPend c ∈ j.pend
  pendWheel : ∀ p ∈ j.pend, (∃ c, InWheel w c ∧ toPend c = p) ∨
    (w.dead.contains p.owner = true ∧ p.due ≤ (w.cot : Int) - (T0 : Int))

def Sim (tick : Bool) (w : World) : Prop := SimJ tick w (jstate w.out)

theorem InWheel.congr {w w' : World} {c : Call} (h : InWheel w c) (hs : w'.slots = w.slots) : InWheel w' c := by
  obtain ⟨s, D, hm⟩ := h
  exact ⟨s, D, by rw [hs]; exact hm⟩

/-- the slot of an entry is determined by its handle -/
theorem slot_of_handle {w : World} {s : Nat} {p : Int × Call} (e : EntOK w s p) : slotOf p.2.handle = s := by
  rw [slotOf_eq_mod, e.handle, Nat.add_mul_mod_self_left]
  exact Nat.mod_eq_of_lt e.slot

/-- ... and by the residue of its second -/
theorem slot_of_due {w : World} {s s' : Nat} {p q : Int × Call} (ep : EntOK w s p) (eq : EntOK w s' q)
    (h : p.2.due % (N : Int) = q.2.due % (N : Int)) : s = s' := by
  have a := dueOf_mod s w.cot p.1 ep.slot
  have b := dueOf_mod s' w.cot q.1 eq.slot
  rw [← ep.due, h, eq.due, b] at a
  omega

/-- a call sits at one place only -/
theorem wheel_unique {w : World} (hw : WheelInv w) {c : Call} {s₁ s₂ : Nat} {D₁ D₂ : Int}
    (h₁ : (D₁, c) ∈ cum 0 (w.slots s₁)) (h₂ : (D₂, c) ∈ cum 0 (w.slots s₂)) : s₁ = s₂ ∧ D₁ = D₂ := by
  have e₁ := hw.ent s₁ _ h₁
  have e₂ := hw.ent s₂ _ h₂
  have hs : s₁ = s₂ := by rw [← slot_of_handle e₁, ← slot_of_handle e₂]
  subst hs
  exact ⟨rfl, (dueOf_inj s₁ w.cot D₁ D₂).1 (e₁.due.symm.trans e₂.due)⟩

theorem toPend_inj {w : World} (hw : WheelInv w) {c₁ c₂ : Call} (h₁ : InWheel w c₁) (h₂ : InWheel w c₂)
    (h : toPend c₁ = toPend c₂) : c₁ = c₂ := by
  obtain ⟨s₁, D₁, m₁⟩ := h₁
  obtain ⟨s₂, D₂, m₂⟩ := h₂
  have e₁ := hw.ent s₁ _ m₁
  have e₂ := hw.ent s₂ _ m₂
  unfold toPend at h
  simp only [Pend.mk.injEq] at h
  obtain ⟨ho, hf, ht, hd, hh, hfp, hgv⟩ := h
  have hh' : c₁.handle = c₂.handle := by omega
  -- the serial is the one field `toPend` forgets: it is the handle without the slot
  have hs : s₁ = s₂ := by rw [← slot_of_handle e₁, ← slot_of_handle e₂, hh']
  subst hs
  have hser : c₁.serial = c₂.serial := by
    have a := e₁.handle; have b := e₂.handle
    simp only [] at a b
    rw [a, b] at hh'
    exact Nat.eq_of_mul_eq_mul_left N_pos (Nat.add_left_cancel hh')
  have hdue : c₁.due = c₂.due := by omega
  cases c₁; cases c₂
  simp only [Call.mk.injEq] at *
  exact ⟨hser, ho, hf, ht, hh', hdue, hfp, hgv⟩

/-- handles compare like serials inside one slot -/
theorem handle_lt_of_serial_lt {w : World} {s : Nat} {p q : Int × Call} (ep : EntOK w s p) (eq : EntOK w s q)
    (h : p.2.serial < q.2.serial) : p.2.handle < q.2.handle := by
  rw [ep.handle, eq.handle]
  exact Nat.add_lt_add_left (Nat.mul_lt_mul_of_pos_left h N_pos) s

/-- no call occurs twice in a slot list -/
theorem slot_calls_ne {w : World} (hw : WheelInv w) (s : Nat) :
    (cum 0 (w.slots s)).Pairwise (fun a b => a.2 ≠ b.2) := by
  refine List.Pairwise.imp_of_mem ?_ (hw.sorted s)
  intro a b ha hb hab heq
  have := (wheel_unique hw (c := b.2) (D₁ := a.1) (D₂ := b.1) (by rw [← heq]; exact ha) hb).2
  have hab' : a = b := by cases a; cases b; simp only [] at this heq; subst this; subst heq; rfl
  subst hab'
  exact before_irrefl a hab

/-- removing the occurrence `x` of a slot list removes exactly the call `x.2` from the wheel -/
theorem inWheel_remove {w : World} (hw : WheelInv w) {s : Nat} {l' : List Entry} {x : Int × Call}
    {A B : List (Int × Call)} (h1 : cum 0 (w.slots s) = A ++ x :: B) (h2 : cum 0 l' = A ++ B) (c : Call) :
    InWheel (setSlot w s l') c ↔ (InWheel w c ∧ c ≠ x.2) := by
  have hx : x ∈ cum 0 (w.slots s) := by rw [h1]; simp
  have key : ∀ D, (D, c) ∈ cum 0 l' ↔ (D, c) ∈ cum 0 (w.slots s) ∧ c ≠ x.2 := fun D => by
    rw [h2, h1]; exact mem_append_of_split (f := (·.2)) (h1 ▸ slot_calls_ne hw s) (D, c)
  constructor
  · rintro ⟨s', D, hm⟩
    simp only [setSlot_slots] at hm
    split at hm
    · rename_i hs; subst hs
      exact ⟨⟨s', D, ((key D).1 hm).1⟩, ((key D).1 hm).2⟩
    · rename_i hs
      exact ⟨⟨s', D, hm⟩, fun heq => hs (wheel_unique hw (heq ▸ hm) hx).1⟩
  · rintro ⟨⟨s', D, hm⟩, hne⟩
    refine ⟨s', D, ?_⟩
    simp only [setSlot_slots]
    split
    · rename_i hs; subst hs; exact (key D).2 ⟨hm, hne⟩
    · exact hm

/-- if `x` is the first entry of its slot list satisfying a predicate (nothing in `A` does), every other entry `c`
    of the wheel that satisfies it and belongs to the same slot (same second modulo the wheel size) comes behind `x`
    in that list -/
theorem behind_first {w : World} (hw : WheelInv w) {s : Nat} {x : Int × Call} {A B : List (Int × Call)}
    (h1 : cum 0 (w.slots s) = A ++ x :: B) {c : Call} (hc : InWheel w c)
    (hmod : c.due % (N : Int) = x.2.due % (N : Int)) (hA : ∀ y ∈ A, y.2 ≠ c) :
    c = x.2 ∨ ∃ D, (D, c) ∈ cum 0 (w.slots s) ∧ Before x (D, c) := by
  have hx : x ∈ cum 0 (w.slots s) := by rw [h1]; simp
  obtain ⟨s', D, hm⟩ := hc
  have hs : s' = s := slot_of_due (hw.ent s' _ hm) (hw.ent s x hx) hmod
  subst hs
  have hsorted := hw.sorted s'
  have hm' := hm
  rw [h1] at hm' hsorted
  simp only [List.mem_append, List.mem_cons] at hm'
  rcases hm' with hm' | hm' | hm'
  · exact absurd rfl (hA _ hm')
  · left; rw [← hm']
  · exact Or.inr ⟨D, hm, (List.pairwise_cons.1 (List.pairwise_append.1 hsorted).2.1).1 _ hm'⟩

/-- **tie-break**: if `x` is the first entry of its slot list satisfying a predicate (nothing in `A` does), any
    other entry `c` of the wheel satisfying it and meant for the same second has a smaller handle -/
theorem first_has_largest_handle {w : World} (hw : WheelInv w) {s : Nat} {x : Int × Call}
    {A B : List (Int × Call)} (h1 : cum 0 (w.slots s) = A ++ x :: B) {c : Call} (hc : InWheel w c)
    (hdue : c.due = x.2.due) (hA : ∀ y ∈ A, y.2 ≠ c) : c = x.2 ∨ c.handle < x.2.handle := by
  have ex := hw.ent s x (by rw [h1]; simp)
  rcases behind_first hw h1 hc (by rw [hdue]) hA with h | ⟨D, hm, hb⟩
  · exact Or.inl h
  · right
    have ec := hw.ent s _ hm
    -- same second, same slot: same rotation count, so the list order is the order of the serials
    have hD : D = x.1 := (dueOf_inj s w.cot D x.1).1 (ec.due.symm.trans (hdue.trans ex.due))
    unfold Before at hb
    simp only [] at hb
    exact handle_lt_of_serial_lt ec ex (show c.serial < x.2.serial by omega)

/-- if `x` is the first entry of its slot list satisfying a predicate, every other entry `c` of the wheel that
    satisfies it and belongs to the same slot (same second modulo the wheel size) is not earlier than `x` -/
theorem first_is_earliest {w : World} (hw : WheelInv w) {s : Nat} {x : Int × Call}
    {A B : List (Int × Call)} (h1 : cum 0 (w.slots s) = A ++ x :: B) {c : Call} (hc : InWheel w c)
    (hmod : c.due % (N : Int) = x.2.due % (N : Int)) (hA : ∀ y ∈ A, y.2 ≠ c) : x.2.due ≤ c.due := by
  have ex := hw.ent s x (by rw [h1]; simp)
  rcases behind_first hw h1 hc hmod hA with h | ⟨D, hm, hb⟩
  · rw [h]; exact Int.le_refl _
  · have ec := hw.ent s _ hm
    have hnlt : ¬ (dueOf s w.cot D < dueOf s w.cot x.1) := by
      rw [dueOf_lt_iff]; have := before_le hb; simp only [] at this; omega
    rw [ex.due, ec.due]
    show dueOf s w.cot x.1 ≤ dueOf s w.cot D
    omega

theorem inWheel_newCallOut {w : World} (o f : Nat) (tag : String) (delay : Int) (fp : Bool) (c : Call) :
    InWheel (newCallOut w o f tag delay fp).1 c ↔ (c = coCall w o f tag delay fp ∨ InWheel w c) := by
  rw [newCallOut_fst]
  constructor
  · rintro ⟨s, D, hm⟩
    rw [cum_setSlot_insert] at hm
    split at hm
    · rcases mem_insC.1 hm with h | h
      · left; cases h; rfl
      · exact Or.inr ⟨s, D, h⟩
    · exact Or.inr ⟨s, D, hm⟩
  · rintro (rfl | ⟨s, D, hm⟩)
    · refine ⟨coSlot w delay, coRot w delay, ?_⟩
      rw [cum_setSlot_insert, if_pos rfl]
      exact mem_insC.2 (Or.inl rfl)
    · refine ⟨s, D, ?_⟩
      rw [cum_setSlot_insert]
      split
      · exact mem_insC.2 (Or.inr hm)
      · exact hm

theorem inWheel_removeAll {w : World} (o : Nat) (c : Call) :
    InWheel (removeAll w o) c ↔ (InWheel w c ∧ (c.owner == o || w.dead.contains c.owner) = false) := by
  rw [removeAll_eq_spec]
  unfold InWheel removeAllSpec
  simp only [cum_removeAllList, List.mem_filter]
  constructor
  · rintro ⟨s, D, hm, hp⟩
    exact ⟨⟨s, D, hm⟩, by simpa using hp⟩
  · rintro ⟨⟨s, D, hm⟩, hp⟩
    exact ⟨s, D, hm, by simpa using hp⟩

theorem inWheel_decHead {w : World} (c : Call) : InWheel (decHead w) c ↔ InWheel w c := by
  unfold InWheel
  constructor
  · rintro ⟨s, D, hm⟩
    rw [decHead_cum] at hm
    obtain ⟨q, hq, he⟩ := List.mem_map.1 hm
    cases he
    exact ⟨s, q.1, hq⟩
  · rintro ⟨s, D, hm⟩
    exact ⟨s, _, by rw [decHead_cum]; exact List.mem_map.2 ⟨(D, c), hm, rfl⟩⟩

/-- a wheel call sits in the slot of its handle -/
theorem inWheel_handle_slot {w : World} (hw : WheelInv w) {c : Call} (hc : InWheel w c) :
    ∃ D, (D, c) ∈ cum 0 (w.slots (slotOf c.handle)) := by
  obtain ⟨s, D, hm⟩ := hc
  have := slot_of_handle (hw.ent s _ hm)
  simp only [] at this
  exact ⟨D, by rw [this]; exact hm⟩

/-- in a quiet wheel every pending call_out is strictly later than `call_out_time` -/
theorem quiet_due_gt {w : World} (hw : WheelInv w) (hq : Quiet w) {c : Call} (hc : InWheel w c) :
    (w.cot : Int) < c.due := by
  obtain ⟨s, D, hm⟩ := hc
  rw [(hw.ent s _ hm).due]
  exact (dueOf_gt_iff s w.cot D).2 (hq s _ hm)

theorem handleBound_mono {u u' : Nat} (h : u ≤ u') : ((N * (u + 1) : Nat) : Int) ≤ ((N * (u' + 1) : Nat) : Int) :=
  Int.ofNat_le.2 (Nat.mul_le_mul_left _ (Nat.succ_le_succ h))

/-- the relation reads the world only through the set of calls in the wheel, `dead` and `hmap`, and stays true
    when `call_out_time` or `unique` grow -/
theorem SimJ.mono {tick : Bool} {w w' : World} {j : JState} (h : SimJ tick w j)
    (hiw : ∀ c, InWheel w' c ↔ InWheel w c) (hc : w.cot ≤ w'.cot) (hu : w.unique ≤ w'.unique)
    (hd : w'.dead = w.dead) (hm : w'.hmap = w.hmap) : SimJ tick w' j := by
  refine ⟨h.bad, by rw [hd]; exact h.dead, by rw [hm]; exact h.handles, h.inTick,
    fun x hx => Int.lt_of_lt_of_le (h.allLt x hx) (handleBound_mono hu),
    fun p hp => Int.lt_of_lt_of_le (h.pendLt p hp) (handleBound_mono hu), h.pendSorted,
    fun c hc' => h.wheelPend c ((hiw c).1 hc'), ?_⟩
  intro p hp
  rcases h.pendWheel p hp with ⟨c, hc1, hc2⟩ | hx
  · exact Or.inl ⟨c, (hiw c).2 hc1, hc2⟩
  · exact Or.inr ⟨by rw [hd]; exact hx.1, by have := hx.2; omega⟩

theorem SimJ.congr {tick : Bool} {w w' : World} {j : JState} (h : SimJ tick w j) (hs : w'.slots = w.slots)
    (hc : w'.cot = w.cot) (hu : w'.unique = w.unique) (hd : w'.dead = w.dead) (hm : w'.hmap = w.hmap) :
    SimJ tick w' j :=
  h.mono (fun _ => ⟨fun h => h.congr hs.symm, fun h => h.congr hs⟩) (Nat.le_of_eq hc.symm) (Nat.le_of_eq hu.symm) hd hm

/-- `SimJ.mono` / `SimJ.congr` for a world that has printed nothing since: the oracle's state is the same -/
theorem Sim.mono {tick : Bool} {w w' : World} (h : Sim tick w) (hout : w'.out = w.out)
    (hiw : ∀ c, InWheel w' c ↔ InWheel w c) (hc : w.cot ≤ w'.cot) (hu : w.unique ≤ w'.unique)
    (hd : w'.dead = w.dead) (hm : w'.hmap = w.hmap) : Sim tick w' := by
  unfold Sim; rw [hout]; exact SimJ.mono h hiw hc hu hd hm

theorem Sim.congr {tick : Bool} {w w' : World} (h : Sim tick w) (hout : w'.out = w.out) (hs : w'.slots = w.slots)
    (hc : w'.cot = w.cot) (hu : w'.unique = w.unique) (hd : w'.dead = w.dead) (hm : w'.hmap = w.hmap) :
    Sim tick w' := by
  unfold Sim; rw [hout]; exact SimJ.congr h hs hc hu hd hm

theorem SimJ.of_eq {tick : Bool} {w : World} {j j' : JState} (h : SimJ tick w j) (e : j' = j) : SimJ tick w j' :=
  e ▸ h

/-- `call_out()` is entered or left -/
theorem SimJ.setTick {tick : Bool} {w : World} {j : JState} (h : SimJ tick w j) (t : Bool) :
    SimJ t w { j with inTick := t } :=
  ⟨h.bad, h.dead, h.handles, rfl, h.allLt, h.pendLt, h.pendSorted, h.wheelPend, h.pendWheel⟩

/-- the model and the oracle drop pending entries together: `rest` is what the oracle keeps -/
theorem SimJ.shrink {tick : Bool} {w w' : World} {j : JState} {rest : List Pend} (h : SimJ tick w j)
    (hsub : rest.Sublist j.pend) (hc : w'.cot = w.cot) (hu : w'.unique = w.unique) (hd : w'.dead = w.dead)
    (hm : w'.hmap = w.hmap) (hwp : ∀ c, InWheel w' c → InWheel w c ∧ toPend c ∈ rest)
    (hpw : ∀ c, InWheel w c → toPend c ∈ rest → InWheel w' c) : SimJ tick w' { j with pend := rest } := by
  refine ⟨h.bad, by rw [hd]; exact h.dead, by rw [hm]; exact h.handles, h.inTick, by rw [hu]; exact h.allLt,
    fun p hp => by rw [hu]; exact h.pendLt p (hsub.subset hp), h.pendSorted.sublist hsub,
    fun c hc' => (hwp c hc').2, ?_⟩
  intro p hp
  rcases h.pendWheel p (hsub.subset hp) with ⟨c, hc1, hc2⟩ | hx
  · exact Or.inl ⟨c, hpw c hc1 (by rw [hc2]; exact hp), hc2⟩
  · exact Or.inr (by rw [hd, hc]; exact hx)

theorem SimJ.pend_nodup {tick : Bool} {w : World} {j : JState} (h : SimJ tick w j) : j.pend.Nodup :=
  h.pendSorted.imp (fun hab heq => by rw [heq] at hab; omega)

/-- the oracle takes `e` out of its list; the wheel afterwards holds the calls it held, `e`'s apart -/
theorem SimJ.erase {tick : Bool} {w w' : World} {j : JState} (h : SimJ tick w j) {q : Pend → Bool} {e : Pend}
    {rest : List Pend} (hr : removeOne q j.pend = some (e, rest)) (hc : w'.cot = w.cot)
    (hu : w'.unique = w.unique) (hd : w'.dead = w.dead) (hm : w'.hmap = w.hmap)
    (hiw : ∀ c, InWheel w' c ↔ InWheel w c ∧ toPend c ≠ e) : SimJ tick w' { j with pend := rest } := by
  obtain ⟨P, Q, e1, e2, _⟩ := removeOne_some hr
  have hmem := mem_append_of_split (f := id) (e1 ▸ h.pend_nodup)
  refine h.shrink (by rw [e1, e2]; exact sublist_of_split) hc hu hd hm ?_ ?_
  · intro c hc
    obtain ⟨hc1, hc2⟩ := (hiw c).1 hc
    exact ⟨hc1, by rw [e2]; exact (hmem _).2 ⟨e1 ▸ h.wheelPend c hc1, hc2⟩⟩
  · intro c hc hcr
    rw [e2] at hcr
    exact (hiw c).2 ⟨hc, ((hmem _).1 hcr).2⟩

/-- the oracle removes the pending entry of the call the model removed -/
theorem SimJ.remove_pair {tick : Bool} {w : World} {j : JState} (hw : WheelInv w) (h : SimJ tick w j)
    {s : Nat} {l' : List Entry} {x : Int × Call} {A B : List (Int × Call)}
    (h1 : cum 0 (w.slots s) = A ++ x :: B) (h2 : cum 0 l' = A ++ B)
    {q : Pend → Bool} {rest : List Pend} (hr : removeOne q j.pend = some (toPend x.2, rest)) :
    SimJ tick (setSlot w s l') { j with pend := rest } :=
  h.erase hr rfl rfl rfl rfl fun c => (inWheel_remove hw h1 h2 c).trans
    (and_congr_right fun hc => not_congr ⟨congrArg toPend, toPend_inj hw hc ⟨s, x.1, by rw [h1]; simp⟩⟩)

/-- the oracle forgets an entry that the wheel had dropped already -/
theorem SimJ.drop_extra {tick : Bool} {w : World} {j : JState} (h : SimJ tick w j)
    {q : Pend → Bool} {e : Pend} {rest : List Pend} (hr : removeOne q j.pend = some (e, rest))
    (hne : ∀ c, InWheel w c → toPend c ≠ e) : SimJ tick w { j with pend := rest } :=
  h.erase hr rfl rfl rfl rfl fun c => ⟨fun hc => ⟨hc, hne c hc⟩, And.left⟩

theorem isDeadJ_eq {tick : Bool} {w : World} {j : JState} (h : SimJ tick w j) (o : Nat) :
    isDeadJ j o = isDead w o := by
  unfold isDeadJ isDead; rw [h.dead]

theorem handleOf_eq {tick : Bool} {w : World} {j : JState} (h : SimJ tick w j) (o : Nat) (tag : String) :
    handleOf j o tag = (lookupHandle w o tag : Int) := by
  unfold handleOf lookupHandle
  rw [h.handles, List.find?_map]
  have : (fun e : (Nat × String) × Int => e.1 == (o, tag)) ∘ (fun p : (Nat × String) × Nat => (p.1, (p.2 : Int))) =
      fun p => p.1 == (o, tag) := rfl
  rw [this]
  cases List.find? (fun p => p.1 == (o, tag)) w.hmap <;> rfl

/-- the pending entries of a live object are all in the wheel -/
theorem pend_alive_inWheel {tick : Bool} {w : World} {j : JState} (h : SimJ tick w j) {p : Pend} (hp : p ∈ j.pend)
    (halive : isDead w p.owner = false) : ∃ c, InWheel w c ∧ toPend c = p := by
  rcases h.pendWheel p hp with hc | hx
  · exact hc
  · unfold isDead at halive; rw [hx.1] at halive; cases halive

/-- an entry the oracle still lists although the wheel has dropped it: find/remove may answer -1 for it -/
theorem extra_answerOk {tick : Bool} {w : World} {j : JState} (hw : WheelInv w) (h : SimJ tick w j) {p : Pend}
    (hp : p ∈ j.pend) (hne : ∀ c, InWheel w c → toPend c ≠ p) : answerOk j p (vnow w) (-1) = true := by
  rcases h.pendWheel p hp with ⟨c, hc1, hc2⟩ | hx
  · exact absurd hc2 (hne c hc1)
  · have hdead : isDeadJ j p.owner = true := by rw [isDeadJ_eq h]; exact hx.1
    have hle : p.due ≤ vnow w := by have := hw.cot_le; have := hx.2; unfold vnow; omega
    simp only [answerOk, hdead, hle, decide_true, beq_self_eq_true, Bool.and_self, Bool.or_true]

/-- The oracle's `minDue q` takes the wheel call `x` when every pending entry satisfying `q` is in the wheel, none of
    those is earlier than `x`, and those of the same second have smaller handles (what `first_is_earliest` and
    `first_has_largest_handle` give for the first match of a slot list). -/
theorem minDue_of_first {tick : Bool} {w : World} {j : JState} (h : SimJ tick w j) {q : Pend → Bool} {x : Call}
    (hxw : InWheel w x) (hq : q (toPend x) = true)
    (hall : ∀ p ∈ j.pend, q p = true → ∃ c, InWheel w c ∧ toPend c = p)
    (hfirst : ∀ c, InWheel w c → q (toPend c) = true →
      x.due ≤ c.due ∧ (c.due = x.due → c = x ∨ c.handle < x.handle)) :
    minDue q j.pend = some (toPend x) := by
  have hmem := h.wheelPend x hxw
  cases hmin : minDue q j.pend with
  | none => have := minDue_none hmin _ hmem; rw [hq] at this; cases this
  | some e =>
    obtain ⟨m1, m2, m3⟩ := minDue_some hmin h.pendSorted
    obtain ⟨c, hc1, rfl⟩ := hall e m1 m2
    obtain ⟨f1, f2⟩ := hfirst c hc1 m2
    have hdue : c.due = x.due := Int.le_antisymm (Int.le_of_sub_le_sub_right (m3 _ hmem hq).1) f1
    rcases f2 hdue with rfl | hlt
    · rfl
    · have := (m3 _ hmem hq).2 (congrArg (· - (T0 : Int)) hdue.symm)
      exact absurd (Int.ofNat_le.1 this) (Nat.not_le.2 hlt)

/-- answer of find/remove for the call at `x` -/
theorem timeLeft_pend {w : World} (hw : WheelInv w) {s : Nat} {x : Int × Call} (hx : x ∈ cum 0 (w.slots s)) :
    timeLeft w s x.1 = (toPend x.2).due - vnow w := by
  rw [timeLeft_of_inv hw hx]
  unfold toPend vnow
  simp only []
  omega

/-- what the efun returns for the call at `x`: its time left as a C int -/
theorem efun_pend {w : World} (hw : WheelInv w) {s : Nat} {x : Int × Call} (hx : x ∈ cum 0 (w.slots s)) :
    Gen.C10.efunResult (timeLeft w s x.1) = toCInt ((toPend x.2).due - vnow w) := by
  rw [tie_efunResult, timeLeft_pend hw hx]
  rfl

theorem emod_of_sub_emod {a b k n : Int} (h : (a - k) % n = (b - k) % n) : a % n = b % n := by
  have := congrArg (fun z => (z + k) % n) h
  simpa only [Int.emod_add_emod, Int.sub_add_cancel] using this

/-- answers that agree as C ints belong to seconds of the same slot: 2^32 is a multiple of the wheel size -/
theorem toCInt_eq_mod {a b : Int} (h : toCInt a = toCInt b) : a % (N : Int) = b % (N : Int) := by
  unfold toCInt at h
  have h1 : (a + 2147483648) % 4294967296 = (b + 2147483648) % 4294967296 := by omega
  have h2 := congrArg (· % (N : Int)) h1
  have e : (2147483648 : Int) % N = 0 := by decide
  simp only [Int.emod_emod_of_dvd _ (show (N : Int) ∣ 4294967296 by decide)] at h2
  rw [Int.add_emod, e, Int.add_zero, Int.emod_emod, Int.add_emod b, e, Int.add_zero, Int.emod_emod] at h2
  exact h2

end NV.C10
